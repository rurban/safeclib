-- the property theorems (leaves of `Props/`)
import SafeC.Props.C01ExtMem
import SafeC.Props.C01Inplace
import SafeC.Props.C01Time
import SafeC.Props.C01WCase
import SafeC.Props.C02Compare
import SafeC.Props.C02Copy
import SafeC.Props.C02Inplace
import SafeC.Props.C02Os
import SafeC.Props.C02Query2
import SafeC.Props.C03
import SafeC.Props.C03Ext2
import SafeC.Props.C03Os
import SafeC.Props.C04
import SafeC.Props.C04Ext2
import SafeC.Props.C04Os
import SafeC.Props.C05
import SafeC.Props.C05Meaning16
import SafeC.Props.C05MeaningBos
import SafeC.Props.C05MeaningTime
import SafeC.Props.C05MeaningW
import SafeC.Props.C05Mem
import SafeC.Props.C05Os
import SafeC.Props.C05WCase
import SafeC.Props.C06Ext
import SafeC.Props.C06Ext2
import SafeC.Props.C06Mem
import SafeC.Props.C06Time
import SafeC.Props.C06WCase
import SafeC.Props.C07Copy
import SafeC.Props.C07Ext2
import SafeC.Props.C07Mem
import SafeC.Props.C08
import SafeC.Props.C08Ext2
import SafeC.Props.C08Os
import SafeC.Props.C09Engine
import SafeC.Props.C10Bos
import SafeC.Props.C10Class
import SafeC.Props.C10Compare
import SafeC.Props.C10Search
import SafeC.Props.C10Substr
import SafeC.Props.C11Refine
import SafeC.Props.C12Copy
import SafeC.Props.C12Fp
import SafeC.Props.C12N
import SafeC.Props.C12Query
import SafeC.Props.C13Micro
import SafeC.Props.C13Refine
import SafeC.Props.C14Full
import SafeC.Props.C14Seq
import SafeC.Props.C14UntermSeq
import SafeC.Props.C15Chr
import SafeC.Props.C15Codec
import SafeC.Props.C15Libc
import SafeC.Props.C15Str
import SafeC.Props.C16
import SafeC.Props.C17
import SafeC.Props.C17Fold
import SafeC.Props.C18
import SafeC.Props.C19
import SafeC.Props.C20
-- proof modules that no property file imports
import SafeC.Proofs.EM
-- the compiled driver (`Main.lean` imports these too)
import SafeC.DispatchAll
import SafeC.DriverAlloc
import SafeC.DriverConv
import SafeC.DriverHandlers
import SafeC.DriverNorm
import SafeC.DriverPrintf
import SafeC.DriverSort
