import SafeC.Gen.Consts
import SafeC.Gen.Printf
import SafeC.Models.Fmt
/-!
# The printf engine of safeclib (src/str/vsnprintf_s.c) — executable model for C11

`safec_vsnprintf_s` with its three sinks, the integer / character / string conversions complete
(`safec_atoi`, flag loop, `*` width and precision, length modifiers, `safec_ntoa_long[_long]`,
`safec_ntoa_format`, `safec_out_rev`, `%c`, `%lc`, `%s`, `%ls` in the C locale, `%p`, `%%`, the error exits),
and the wrappers `_vsnprintf_s_chk` (= `sprintf_s`, `snprintf_s`, `vsnprintf_s`), `_vsprintf_s_chk`,
`fprintf_s`/`vfprintf_s`, `printf_s`.  The floating conversions are NOT modelled (`Stop.unmodelled`).

The model mirrors the code that exists.  The defects this check found are kept, each behind one switch of
`Fixes` so that the repaired code is modelled too (`current` says which one /repo contains).

Representation.  A C string is a `List Char` of bytes (code < 256) without its terminator.  The digit buffer
`char buf[PRINTF_NTOA_BUFFER_SIZE]` with its fill count `len` is the list `buf[0..len)` (cells at and beyond
`len` are dead: every later store is at index `len`).  `dest` is the list of its `dmax` cells.
-/
namespace SafeC.Printf
open SafeC.Gen

abbrev Str := List Char

/-- `PRINTF_NTOA_BUFFER_SIZE`, regenerated from the tree -/
abbrev NTOA : Nat := PRINTF_NTOA_BUFFER_SIZE

/-- one variadic argument, typed as the caller passed it -/
inductive Arg
  | int (v : Int)                 -- int, unsigned int, and what promotes to them (char, short, wint_t): 32-bit slot
  | long (v : Int)                -- long, long long, size_t, intmax_t, ptrdiff_t and the unsigned twins: 64-bit slot
  | str (s : Option Str)          -- char *; `none` = NULL
  | wstr (s : Option (List Nat))  -- wchar_t *; `none` = NULL
  | dbl (bits : Nat)              -- double
  | ldbl (bits : Nat)             -- long double
  | ptr (v : Nat)                 -- void *
  deriving Repr, DecidableEq

/-- value of the low `bits` bits, unsigned -/
def wrapU (bits : Nat) (v : Int) : Nat := (v % ((2 ^ bits : Nat) : Int)).toNat
/-- value of the low `bits` bits, two's complement -/
def wrapS (bits : Nat) (v : Int) : Int :=
  if wrapU bits v < 2 ^ (bits - 1) then (wrapU bits v : Int) else (wrapU bits v : Int) - ((2 ^ bits : Nat) : Int)

/-- the repairs proposed in fixes/ (false = the code as it was found) -/
structure Fixes where
  minusPrec : Bool    -- fixes/printf-minus-precision.diff : precision zeros are written with the '-' flag too
  hash : Bool         -- fixes/printf-hash-prefix.diff     : only padding zeros make room for the 0x / 0 prefix, no second 0 for %#.No
  negStarPrec : Bool  -- fixes/printf-negative-star-precision.diff : a negative `.*` argument = no precision
  lcMemcpy : Bool     -- fixes/printf-lc-stray-memcpy.diff : %lc no longer copies the character to buffer[0]
  strPrec0 : Bool     -- fixes/printf-s-precision-zero.diff : %.0s measures 0 characters, not the whole string
  sprintfExact : Bool -- fixes/sprintf-exact-fit.diff      : sprintf_s reports a text of exactly dmax characters
  deriving Repr, DecidableEq

def Fixes.none : Fixes := ⟨false, false, false, false, false, false⟩
def Fixes.all : Fixes := ⟨true, true, true, true, true, true⟩
/-- the code /repo contains -/
def current : Fixes := Fixes.all

/-- the `FLAGS_*` bits -/
structure Flags where
  zeropad : Bool := false
  left : Bool := false
  plus : Bool := false
  space : Bool := false
  hash : Bool := false
  upper : Bool := false
  char : Bool := false
  short : Bool := false
  long : Bool := false
  longlong : Bool := false
  precision : Bool := false
  adaptExp : Bool := false
  longDouble : Bool := false
  deriving Repr, DecidableEq

inductive Sink
  | buffer   -- safec_out_buffer
  | char     -- safec_out_char  (putchar; a NUL is dropped)
  | fchar    -- safec_out_fchar (fputc)
  deriving Repr, DecidableEq

/-- why the engine stopped -/
inductive Stop
  | ret (v : Int)     -- `return` of a negative value
  | fault             -- a store outside `dest` (the %lc memcpy)
  | stuck             -- the next argument has the wrong type / is missing (undefined behaviour in C)
  | unmodelled        -- a floating conversion
  deriving Repr, DecidableEq

structure St where
  idx : Nat
  cells : List Char     -- `dest` (buffer sink)
  stream : List Char    -- bytes handed to putchar / fputc
  deriving Repr, DecidableEq

abbrev M := Except Stop

def ESNOSPCi : Int := -(ESNOSPC : Int)

/-- `out(character, buffer, idx++, maxlen)` followed by `if (rc < 0) return rc;` -/
def out (sk : Sink) (maxlen : Nat) (c : Char) (s : St) : M St :=
  match sk with
  | .buffer => if s.idx < maxlen then .ok { s with cells := s.cells.set s.idx c, idx := s.idx + 1 } else .error (.ret ESNOSPCi)
  | .char => .ok { s with stream := if c = '\x00' then s.stream else s.stream ++ [c], idx := s.idx + 1 }
  | .fchar => .ok { s with stream := s.stream ++ [c], idx := s.idx + 1 }

/-- a loop of `out` calls over the characters `cs`, returning at the first failure -/
def emitAll (sk : Sink) (maxlen : Nat) : List Char → St → M St
  | [], s => .ok s
  | c :: cs, s => do
    let s' ← out sk maxlen c s
    emitAll sk maxlen cs s'

/-- a loop that writes the character `c` `n` times (`for (i = len; i < width; i++) out(' ')` and its relatives), returning at
    the first failure; equal to `emitAll (List.replicate n c)` (lemma `emitRep_eq`), but does not build the list -/
def emitRep (sk : Sink) (maxlen : Nat) (c : Char) : Nat → St → M St
  | 0, s => .ok s
  | n + 1, s => do
    let s' ← out sk maxlen c s
    emitRep sk maxlen c n s'

/-- `safec_out_rev`: `buf[0..len)` in reverse, padded to `width` -/
def outRev (sk : Sink) (maxlen : Nat) (buf : Str) (width : Nat) (fl : Flags) (s : St) : M St := do
  let start := s.idx
  -- for (i = len; i < width; i++) out(' ')
  let s ← if !fl.left && !fl.zeropad then emitRep sk maxlen ' ' (width - buf.length) s else pure s
  -- while (len) out(buf[--len])
  let s ← emitAll sk maxlen buf.reverse s
  -- while (idx - start_idx < width) out(' ')
  if fl.left then emitRep sk maxlen ' ' (width - (s.idx - start)) s else pure s

/-- `while ((len < limit) && (len < PRINTF_NTOA_BUFFER_SIZE)) buf[len++] = '0';` -/
def padZeros (limit : Nat) (buf : Str) : Str := buf ++ List.replicate (min limit NTOA - buf.length) '0'

/-- `if (len < PRINTF_NTOA_BUFFER_SIZE) buf[len++] = c;` -/
def push (buf : Str) (c : Char) : Str := if buf.length < NTOA then buf ++ [c] else buf

/-- `safec_ntoa_format` up to its last line: the final contents of `buf[0..len)`, the adjusted `width` and flags -/
def ntoaPrep (fx : Fixes) (buf : Str) (negative : Bool) (base prec width : Nat) (fl : Flags) : Str × Nat × Flags :=
  let unpadded := buf.length
  -- pad leading zeros
  let width1 := if !fl.left && width != 0 && fl.zeropad && (negative || fl.plus || fl.space) then width - 1 else width
  let buf1 := if !fl.left || fx.minusPrec then padZeros prec buf else buf
  -- (repaired code only) zeros written for the precision already give %#o its leading 0
  let fl := if fx.hash && base == 8 && buf1.length > unpadded then { fl with hash := false } else fl
  let buf2 := if !fl.left && fl.zeropad then padZeros width1 buf1 else buf1
  -- handle hash
  let buf3 :=
    if fl.hash then
      let b :=
        if !fl.precision && buf2.length != 0 && (buf2.length == prec || buf2.length == width1) then
          if fx.hash then
            let b1 := if unpadded < buf2.length then buf2.dropLast else buf2
            if b1.length != 0 && base == 16 && unpadded < b1.length then b1.dropLast else b1
          else
            let b1 := buf2.dropLast
            if b1.length != 0 && base == 16 then b1.dropLast else b1
        else buf2
      let b :=
        if base == 16 && !fl.upper && b.length < NTOA then b ++ ['x']
        else if base == 16 && fl.upper && b.length < NTOA then b ++ ['X']
        else if base == 2 && b.length < NTOA then b ++ ['b']
        else b
      push b '0'
    else buf2
  let buf4 :=
    if buf3.length < NTOA then
      if negative then buf3 ++ ['-'] else if fl.plus then buf3 ++ ['+'] else if fl.space then buf3 ++ [' '] else buf3
    else buf3
  (buf4, width1, fl)

/-- `safec_ntoa_format`: `ntoaPrep`, the `width > 2147483614` exit, `return safec_out_rev(…)` -/
def ntoaFormat (fx : Fixes) (sk : Sink) (maxlen : Nat) (buf : Str) (negative : Bool) (base prec width : Nat)
    (fl : Flags) (s : St) : M St :=
  let r := ntoaPrep fx buf negative base prec width fl
  if r.2.1 > 2147483614 then .error (.ret (-(ESLEMAX : Int)))
  else outRev sk maxlen r.1 r.2.1 r.2.2 s

/-- `digit < 10 ? '0' + digit : (flags & FLAGS_UPPERCASE ? 'A' : 'a') + digit - 10` -/
def digitChar (d : Nat) (upper : Bool) : Char :=
  if d < 10 then Char.ofNat (48 + d) else Char.ofNat ((if upper then 65 else 97) + d - 10)

/-- `do { buf[len++] = digit(value % base); value /= base; } while (value && (len < PRINTF_NTOA_BUFFER_SIZE));`
    (fuel: the loop body runs at most PRINTF_NTOA_BUFFER_SIZE times) -/
def ntoaDigits (base : Nat) (upper : Bool) : Nat → Nat → Str → Str
  | 0, _, buf => buf
  | fuel + 1, value, buf =>
    let buf := buf ++ [digitChar (value % base) upper]
    let value := value / base
    if value != 0 && buf.length < NTOA then ntoaDigits base upper fuel value buf else buf

/-- `safec_ntoa_long` / `safec_ntoa_long_long` (identical bodies; `unsigned long` = `unsigned long long` = 64 bits) -/
def ntoaLong (fx : Fixes) (sk : Sink) (maxlen : Nat) (value : Nat) (negative : Bool) (base prec width : Nat)
    (fl : Flags) (s : St) : M St :=
  -- no hash for 0 values (repaired code: %#.0o of 0 keeps it, so that the single 0 the standard asks for is written)
  let fl := if value == 0 && !(fx.hash && base == 8 && fl.precision) then { fl with hash := false } else fl
  let buf := if !fl.precision || value != 0 then ntoaDigits base fl.upper NTOA value [] else []
  ntoaFormat fx sk maxlen buf negative base prec width fl s

/-- `safec_atoi`: `i = i * 10U + (unsigned)(ch - '0')` in `unsigned int` -/
def atoi : Str → Nat → Nat × Str
  | [], i => (i, [])
  | c :: r, i => if c.isDigit then atoi r ((i * 10 + (c.toNat - 48)) % 2 ^ 32) else (i, c :: r)

/-- the flag loop -/
def parseFlags : Str → Flags → Flags × Str
  | [], fl => (fl, [])
  | c :: r, fl =>
    if c = '0' then parseFlags r { fl with zeropad := true }
    else if c = '-' then parseFlags r { fl with left := true }
    else if c = '+' then parseFlags r { fl with plus := true }
    else if c = ' ' then parseFlags r { fl with space := true }
    else if c = '#' then parseFlags r { fl with hash := true }
    else (fl, c :: r)

/-- `va_arg(va, int)` -/
def nextInt : List Arg → M (Int × List Arg)
  | .int v :: as => .ok (wrapS 32 v, as)
  | _ => .error .stuck
/-- `va_arg(va, long)` / `long long` / `unsigned long` … : the 64-bit word -/
def nextLong : List Arg → M (Nat × List Arg)
  | .long v :: as => .ok (wrapU 64 v, as)
  | _ => .error .stuck

/-- width field: digits, or `*` with `if (w < 0) { flags |= FLAGS_LEFT; width = (unsigned)-w; }` -/
def parseWidth (f : Str) (fl : Flags) (args : List Arg) : M (Flags × Nat × Str × List Arg) :=
  match f with
  | [] => .ok (fl, 0, [], args)
  | c :: r =>
    if c.isDigit then let (w, f') := atoi (c :: r) 0; .ok (fl, w, f', args)
    else if c = '*' then do
      let (w, as) ← nextInt args
      if w < 0 then .ok ({ fl with left := true }, wrapU 32 (-w), r, as) else .ok (fl, w.toNat, r, as)
    else .ok (fl, 0, c :: r, args)

/-- precision field -/
def parsePrec (fx : Fixes) (f : Str) (fl : Flags) (args : List Arg) : M (Flags × Nat × Str × List Arg) :=
  match f with
  | [] => .ok (fl, 0, [], args)
  | c :: r =>
    if c = '.' then
      let fl := { fl with precision := true }
      match r with
      | [] => .ok (fl, 0, [], args)
      | c' :: r' =>
        if c'.isDigit then let (p, f') := atoi (c' :: r') 0; .ok (fl, p, f', args)
        else if c' = '*' then do
          let (p, as) ← nextInt args
          if fx.negStarPrec && p < 0 then .ok ({ fl with precision := false }, 0, r', as)
          else .ok (fl, if p > 0 then p.toNat else 0, r', as)
        else .ok (fl, 0, c' :: r', args)
    else .ok (fl, 0, c :: r, args)

/-- length field (`t`, `j`, `z`: `sizeof == sizeof(long)` ⇒ FLAGS_LONG) -/
def parseLength : Str → Flags → Flags × Str
  | [], fl => (fl, [])
  | c :: r, fl =>
    if c = 'l' then
      match r with
      | 'l' :: r' => ({ fl with long := true, longlong := true }, r')
      | _ => ({ fl with long := true }, r)
    else if c = 'L' then ({ fl with longDouble := true }, r)
    else if c = 'h' then
      match r with
      | 'h' :: r' => ({ fl with short := true, char := true }, r')
      | _ => ({ fl with short := true }, r)
    else if c = 't' ∨ c = 'j' ∨ c = 'z' then ({ fl with long := true }, r)
    else (fl, c :: r)

def EINVALr : Stop := .ret (-1)

/-- the integer conversions `d i u x X o b` -/
def convInt (fx : Fixes) (sk : Sink) (maxlen : Nat) (c : Char) (fl : Flags) (width prec : Nat) (args : List Arg) (s : St) :
    M (St × List Arg) :=
  if fl.longDouble then .error EINVALr else
  let base := if c = 'x' ∨ c = 'X' then 16 else if c = 'o' then 8 else if c = 'b' then 2 else 10
  let fl := if base = 10 then { fl with hash := false } else fl
  let fl := if c = 'X' then { fl with upper := true } else fl
  let fl := if c ≠ 'i' ∧ c ≠ 'd' then { fl with plus := false, space := false } else fl
  let fl := if fl.precision then { fl with zeropad := false } else fl
  if c = 'i' ∨ c = 'd' then
    if fl.longlong ∨ fl.long then do
      let (w, as) ← nextLong args
      let v := wrapS 64 (w : Int)
      let s ← ntoaLong fx sk maxlen (wrapU 64 (if v > 0 then v else 0 - v)) (v < 0) base prec width fl s
      pure (s, as)
    else do
      let (a, as) ← nextInt args
      let v := if fl.char then wrapS 8 a else if fl.short then wrapS 16 a else a
      let s ← ntoaLong fx sk maxlen (wrapU 32 (if v > 0 then v else 0 - v)) (v < 0) base prec width fl s
      pure (s, as)
  else
    if fl.longlong ∨ fl.long then do
      let (w, as) ← nextLong args
      let s ← ntoaLong fx sk maxlen w false base prec width fl s
      pure (s, as)
    else do
      let (a, as) ← nextInt args
      let u := wrapU 32 a
      let v := if fl.char then u % 256 else if fl.short then u % 65536 else u
      let s ← ntoaLong fx sk maxlen v false base prec width fl s
      pure (s, as)

/-- `%c` and `%lc` (C locale: `wctomb` succeeds exactly for 0 … 0x7f) -/
def convChar (fx : Fixes) (sk : Sink) (maxlen : Nat) (fl : Flags) (width : Nat) (args : List Arg) (s : St) : M (St × List Arg) := do
  let pad := width - 1      -- l = 1; while (l++ < width) out(' ')
  if fl.long then do
    let (a, as) ← nextInt args
    if a < 0 ∨ a ≥ 128 then .error (.ret (-1)) else do
    let wstr : Str := if a = 0 then [] else [Char.ofNat a.toNat]        -- wstr[len] = 0 with len = 1; a NUL ends it at once
    -- memcpy(buffer, wstr, len + 1): two bytes at buffer[0], whatever idx and bufsize are
    let s ← if fx.lcMemcpy then pure s else
      match sk with
      | .buffer => if s.cells.length < 2 then .error .fault else pure { s with cells := (s.cells.set 0 (Char.ofNat a.toNat)).set 1 '\x00' }
      | .char => .error .fault     -- printf_s passes `char buffer[1]`: the two-byte copy overruns it
      | .fchar => pure s           -- fprintf_s / vfprintf_s pass their 16-byte `out_fct_wrap_type` (its unused `fct` member is overwritten)
    let s ← if !fl.left then emitRep sk maxlen ' ' pad s else pure s
    let s ← emitAll sk maxlen wstr s
    let s ← if fl.left then emitRep sk maxlen ' ' pad s else pure s
    pure (s, as)
  else do
    let s ← if !fl.left then emitRep sk maxlen ' ' pad s else pure s
    let (a, as) ← nextInt args
    let s ← out sk maxlen (Char.ofNat (wrapU 8 a)) s
    let s ← if fl.left then emitRep sk maxlen ' ' pad s else pure s
    pure (s, as)

/-- the common tail of `%s` and `%ls`: `p` is the (multibyte) string -/
def convStrTail (sk : Sink) (maxlen bufsize : Nat) (fl : Flags) (width prec : Nat) (p : Str) (l0 : Nat) (s : St) : M St :=
  if l0 + s.idx > bufsize then .error (.ret ESNOSPCi) else do
  let l := if fl.precision then min l0 prec else l0
  let s ← if !fl.left then emitRep sk maxlen ' ' (width - l) s else pure s
  let s ← emitAll sk maxlen (if fl.precision then p.take prec else p) s
  if fl.left then emitRep sk maxlen ' ' (width - l) s else pure s

/-- `%s` / `%ls` -/
def convStr (fx : Fixes) (sk : Sink) (maxlen bufsize : Nat) (fl : Flags) (width prec : Nat) (args : List Arg) (s : St) : M (St × List Arg) := do
  if fl.long then
    match args with
    | .wstr none :: _ => .error (.ret (-(ESNULLP : Int)))
    | .wstr (some w) :: as =>
      -- l = wcsnlen_s(lp, precision ? precision : RSIZE_MAX_WSTR)   (0 when the bound exceeds RSIZE_MAX_WSTR)
      let lim := if prec != 0 then prec else RSIZE_MAX_WSTR
      let l := if lim > RSIZE_MAX_WSTR then 0 else min w.length lim
      -- wcstombs_s(&len, p, l + 1, lp, l)
      if l + 1 > RSIZE_MAX_WSTR then .error (.ret (-(ESLEMAX : Int)))
      else if (w.take l).any (· ≥ 128) then .error (.ret (-(EILSEQ : Int)))
      else do           -- (an empty conversion is accepted since /repo 73ef752)
        let p : Str := (w.take l).map Char.ofNat
        let s ← convStrTail sk maxlen bufsize fl width prec p l s
        pure (s, as)
    | _ => .error .stuck
  else
    match args with
    | .str none :: _ => .error (.ret (-(ESNULLP : Int)))
    | .str (some p) :: as => do
      -- l = safec_strnlen_s(p, precision ? precision : (size_t)-1)
      let l := if (if fx.strPrec0 then fl.precision else prec != 0) then min p.length prec else p.length
      let s ← convStrTail sk maxlen bufsize fl width prec p l s
      pure (s, as)
    | _ => .error .stuck

/-- one conversion specification, `f` = the format behind the `%` -/
def directive (fx : Fixes) (sk : Sink) (bufsize : Nat) (f : Str) (args : List Arg) (s : St) : M (Str × List Arg × St) := do
  let (fl, f) := parseFlags f {}
  let (fl, width, f, args) ← parseWidth f fl args
  let (fl, prec, f, args) ← parsePrec fx f fl args
  let (fl, f) := parseLength f fl
  match f with
  | [] => .error EINVALr                       -- default: illegal format-specifier (the NUL)
  | c :: r =>
    if c = 'd' ∨ c = 'i' ∨ c = 'u' ∨ c = 'x' ∨ c = 'X' ∨ c = 'o' ∨ c = 'b' then do
      let (s, args) ← convInt fx sk bufsize c fl width prec args s
      pure (r, args, s)
    else if c = 'f' ∨ c = 'F' ∨ c = 'e' ∨ c = 'E' ∨ c = 'g' ∨ c = 'G' ∨ c = 'a' ∨ c = 'A' then .error .unmodelled
    else if c = 'c' then do
      let (s, args) ← convChar fx sk bufsize fl width args s
      pure (r, args, s)
    else if c = 's' then do
      let (s, args) ← convStr fx sk bufsize bufsize fl width prec args s
      pure (r, args, s)
    else if c = 'p' then
      match args with
      | .ptr v :: as => do
        let s ← ntoaLong fx sk bufsize (v % 2 ^ 64) false 16 prec 16 { fl with zeropad := true, upper := true } s
        pure (r, as, s)
      | _ => .error .stuck
    else if c = '%' then do
      let s ← out sk bufsize '%' s
      pure (r, args, s)
    else .error EINVALr                        -- 'n' and every other character: handler, return -1

/-- the `while (*format)` loop; fuel = one unit per iteration (every iteration consumes a character) -/
def engLoop (fx : Fixes) (sk : Sink) (bufsize : Nat) : Nat → Str → List Arg → St → M St
  | 0, _, _, s => .ok s
  | _ + 1, [], _, s => .ok s
  | k + 1, c :: r, args, s =>
    if c ≠ '%' then do
      let s ← out sk bufsize c s
      engLoop fx sk bufsize k r args s
    else do
      let (r', args', s') ← directive fx sk bufsize r args s
      engLoop fx sk bufsize k r' args' s'

/-- `safec_vsnprintf_s`: the loop, then for the buffer sink the terminator at `idx < bufsize ? idx : bufsize - 1`;
    returns `(int)idx` -/
def engine (fx : Fixes) (sk : Sink) (bufsize : Nat) (fmt : Str) (args : List Arg) (s : St) : M St := do
  let s ← engLoop fx sk bufsize fmt.length fmt args s
  match sk with
  | .buffer => pure { s with cells := s.cells.set (if s.idx < bufsize then s.idx else bufsize - 1) '\x00' }
  | _ => pure s

/-- what a call leaves behind -/
structure Result where
  ret : Option Int        -- `none`: the call did not return (fault) or the model does not say (stuck / unmodelled)
  why : String            -- "" | "fault" | "stuck" | "unmodelled"
  cells : List Char       -- dest after the call (buffer variants)
  stream : List Char      -- bytes written to the stream (stream variants)
  deriving Repr

def zeros (n : Nat) : List Char := List.replicate n '\x00'

/-- `_vsnprintf_s_chk` with a non-null `dest` of `init.length = dmax` cells, object size unknown -/
def vsnprintf_s (fx : Fixes) (slack : Bool) (dmax : Nat) (init : List Char) (fmt : Str) (args : List Arg) : Result :=
  if dmax = 0 then ⟨some (-(ESZEROL : Int)), "", init, []⟩
  else if dmax > RSIZE_MAX_STR then ⟨some (-(ESLEMAX : Int)), "", init, []⟩
  -- `handle_error(dest, dmax, "vsnprintf_s: illegal %n", EINVAL)` (fix: commit 334ee1c; before it dest was left as it was)
  else if SafeC.Fmt.prescan fmt then ⟨some (-(EINVAL : Int)), "", if slack then zeros dmax else init.set 0 '\x00', []⟩
  else
    match engine fx .buffer dmax fmt args ⟨0, init, []⟩ with
    | .ok s =>
      let ret : Int := s.idx
      let cells := if slack then (if s.idx > dmax then s.cells.set (dmax - 1) '\x00' else s.cells.take s.idx ++ zeros (dmax - s.idx))
                   else s.cells.set (dmax - 1) '\x00'
      ⟨some ret, "", cells, []⟩
    | .error (.ret v) => ⟨some v, "", if slack then zeros dmax else init.set 0 '\x00', []⟩
    | .error .fault => ⟨none, "fault", init, []⟩
    | .error .stuck => ⟨none, "stuck", init, []⟩
    | .error .unmodelled => ⟨none, "unmodelled", init, []⟩

/-- `_vsprintf_s_chk`: `if (dmax && ret >= (int)dmax) { handle_error(dest, dmax, …, ESNOSPC); return -ESNOSPC; }` -/
def vsprintf_s (fx : Fixes) (slack : Bool) (dmax : Nat) (init : List Char) (fmt : Str) (args : List Arg) : Result :=
  let r := vsnprintf_s fx slack dmax init fmt args
  match r.ret with
  | some v => if dmax ≠ 0 ∧ v ≥ (dmax : Int) then { r with ret := some ESNOSPCi, cells := if slack then zeros dmax else r.cells.set 0 '\x00' } else r
  | none => r

/-- `_sprintf_s_chk` = `_vsnprintf_s_chk` (repaired code: the exact-fit test of `_vsprintf_s_chk`) -/
def sprintf_s (fx : Fixes) (slack : Bool) (dmax : Nat) (init : List Char) (fmt : Str) (args : List Arg) : Result :=
  if fx.sprintfExact then vsprintf_s fx slack dmax init fmt args else vsnprintf_s fx slack dmax init fmt args

/-- `fprintf_s` / `vfprintf_s` (sink `fchar`) and `printf_s` (sink `char`): pre-scan, then the engine with bufsize = SIZE_MAX -/
def streamPrintf (fx : Fixes) (sk : Sink) (fmt : Str) (args : List Arg) : Result :=
  if SafeC.Fmt.prescan fmt then ⟨some (-(EINVAL : Int)), "", [], []⟩
  else
    match engine fx sk (2 ^ 64 - 1) fmt args ⟨0, [], []⟩ with
    | .ok s => ⟨some (s.idx : Int), "", [], s.stream⟩
    | .error (.ret v) => ⟨some v, "", [], []⟩
    | .error .fault => ⟨none, "fault", [], []⟩
    | .error .stuck => ⟨none, "stuck", [], []⟩
    | .error .unmodelled => ⟨none, "unmodelled", [], []⟩

end SafeC.Printf
