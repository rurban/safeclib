import SafeC.Gen.Consts
import SafeC.Gen.UniCanon
import SafeC.Gen.UniCombin
import SafeC.Gen.UniCompos
/-!
# C17 — model of src/extwchar/wcsnorm_s.c (32-bit `wchar_t`, canonical tables only: `HAVE_NORM_COMPAT` is not defined)

Core Lean only (linked into `safec_model`).  Strings are lists of cell values (`Nat`, each `< 2^32`), without the terminator;
the end of the list is the terminating NUL.  Buffers are assumed not to overlap (C07's business) and object sizes unknown.

The generated tables (`SafeC.Gen.Uni*`, written by tools/gen17.py from the CURRENT tree on every run) keep the C shape:
`main[cp >> 16]` → plane → `plane[(cp >> 8) & 0xff]` → row → `row[cp & 0xff]`, every array a packed `Nat` literal
(`cell w data i`).  Reading `main` at an index `≥ mainN`, `UNWIF_canon_tbl` at an index `≥ 4` or a value table behind its
last entry is the C's out-of-bounds read; the model reports it as `oob` (lookups return `none`) instead of inventing a value.

`Fixes` selects the code as it was (`unrepaired`) or as repaired by `fixes/wcsnorm-*.diff` and `fixes/wcsfc-multichar-room-check.diff`;
`current` is what the driver runs.
-/
namespace SafeC.Norm
open SafeC.Gen

/-- which repairs are applied -/
structure Fixes where
  /-- `_composite_cp`: the short (16-bit) composition lists are searched with the full second code point, not `(uint16_t)cp2` -/
  compCast : Bool
  /-- `wcsnorm_reorder_s`, `wcsnorm_compose_s`, `wcsfc_s` reject a cell `> _UNICODE_MAX` (ESLEMAX) before any table lookup -/
  rangeChk : Bool
  /-- `wcsfc_s` (Models/Fold.lean only; the functions of this file ignore it): the `iswfc(cp) > 1` branch tests `dmax < 5`
  (`goto too_small`, ESNOSPC) before it stores its 2..4 cells — `fixes/wcsfc-multichar-room-check.diff` -/
  foldRoom : Bool
deriving DecidableEq, Repr

def unrepaired : Fixes := ⟨false, false, false⟩
def allFixed : Fixes := ⟨true, true, true⟩
/-- the tree with the two wcsnorm fix commits (014b5d7, 1d9cc16) but without the room check of wcsfc_s -/
def normFixed : Fixes := ⟨true, true, false⟩
/-- THE line to flip when a fix lands in or leaves /repo: /repo holds all three repairs (014b5d7, 1d9cc16 and the room
check of wcsfc_s, f0b7db0), so it is `allFixed` -/
def current : Fixes := allFixed

/-- cell `i` of a packed array of `w`-bit cells -/
def cell (w data i : Nat) : Nat := (data >>> (w * i)) % 2 ^ w

/-- `T[cp >> 16][(cp >> 8) & 0xff]`: `none` = the index into the main table is out of bounds; `some 0` = NULL plane or row;
`some (k+1)` = row `k` -/
def rowId (mainN main planes cp : Nat) : Option Nat :=
  if cp / 65536 < mainN then
    let p := cell 8 main (cp / 65536)
    if p = 0 then some 0 else some (cell 16 planes ((p - 1) * 256 + cp / 256 % 256))
  else none

/-- `row[cp & 0xff]` of `UNWIF_canon` (0 when plane or row is NULL) -/
def canonVi (cp : Nat) : Option Nat :=
  match rowId UniCanon.mainN UniCanon.main UniCanon.planes cp with
  | none => none
  | some 0 => some 0
  | some (r + 1) => some (cell 16 UniCanon.rows (r * 256 + cp % 256))

/-- `UNWIF_canon_tbl[l-1]` with its number of entries -/
def canonTbl : Nat → Nat × Nat
  | 1 => (UniCanon.tblN1, UniCanon.tbl1)
  | 2 => (UniCanon.tblN2, UniCanon.tbl2)
  | 3 => (UniCanon.tblN3, UniCanon.tbl3)
  | 4 => (UniCanon.tblN4, UniCanon.tbl4)
  | _ => (0, 0)

/-- the table part of `_decomp_canonical_s`: `none` = an index out of bounds, `some []` = "returns 0", else the cells copied -/
def decompCanon (cp : Nat) : Option (List Nat) :=
  match canonVi cp with
  | none => none
  | some 0 => some []
  | some vi =>
    let l := vi / 4096 + 1
    let i := vi % 4096
    if l ≤ 4 ∧ i < (canonTbl l).1 then some ((List.range l).map fun k => cell 32 (canonTbl l).2 (i * l + k)) else none

def isS (cp : Nat) : Bool := UniCompos.HSBase ≤ cp && cp ≤ UniCompos.HSFinal
def isL (cp : Nat) : Bool := UniCompos.HLBase ≤ cp && cp ≤ UniCompos.HLFinal
def isV (cp : Nat) : Bool := UniCompos.HVBase ≤ cp && cp ≤ UniCompos.HVFinal
def isT (cp : Nat) : Bool := UniCompos.HTBase < cp && cp ≤ UniCompos.HTFinal
def isLV (cp : Nat) : Bool := isS cp && (cp - UniCompos.HSBase) % UniCompos.HTCount == 0

/-- `_decomp_hangul_s` (cells written) -/
def decompHangul (cp : Nat) : List Nat :=
  let s := cp - UniCompos.HSBase
  let l := s / UniCompos.HNCount
  let v := s % UniCompos.HNCount / UniCompos.HTCount
  let t := s % UniCompos.HTCount
  if t ≠ 0 then [UniCompos.HLBase + l, UniCompos.HVBase + v, UniCompos.HTBase + t]
  else [UniCompos.HLBase + l, UniCompos.HVBase + v]

inductive DRes
  | oob                      -- a table index out of bounds
  | err (code : Nat)         -- negative return
  | seq (l : List Nat)       -- `[]`: returned 0
deriving DecidableEq, Repr

/-- `_decomp_s(dest, dmax, cp, false)` -/
def decompS (dmax cp : Nat) : DRes :=
  if isS cp then (if dmax < 4 then .err ESNOSPC else .seq (decompHangul cp))
  else if dmax < 5 then .err ESNOSPC
  else match decompCanon cp with
    | none => .oob
    | some l => .seq l

/-- outcome of one of the three passes -/
inductive Step
  | ok (out : List Nat) (dmaxLeft : Nat)
  | fail (ret : Nat) (len : Nat)
  | oob
  | overrun                  -- unsigned `dmax` arithmetic would wrap: the C writes past `dest + dmax` (C01's matter; excluded from C17 inputs)
deriving DecidableEq, Repr

/-- the loop of `_wcsnorm_decompose_s_chk`; `orig` = `orig_dmax` -/
def decLoop (orig : Nat) : List Nat → Nat → Step
  | [], dmax => if dmax = 0 then .fail ESNOSPC orig else .ok [] dmax
  | cp :: rest, dmax =>
    if dmax = 0 then .fail ESNOSPC orig
    else if UniCompos.unicodeMax < cp then .fail ESLEMAX 0
    else if cp = 0 then .ok [] dmax
    else match decompS dmax cp with
      | .oob => .oob
      | .err e => .fail e 0
      | .seq l =>
        let w := if l.isEmpty then [cp] else l
        match decLoop orig rest (dmax - w.length) with
        | .ok out d => .ok (w ++ out) d
        | r => r

/-- `_combin_class` -/
def combinClass (cp : Nat) : Option Nat :=
  match rowId UniCombin.mainN UniCombin.main UniCombin.planes cp with
  | none => none
  | some 0 => some 0
  | some (r + 1) => some (cell 8 UniCombin.rows (r * 256 + cp % 256))

/-- `UNWIF_cc` -/
structure CC where
  cc : Nat
  cp : Nat
  pos : Nat
deriving DecidableEq, Repr

/-- `_compare_cc(a, b) <= 0` -/
def leCC (a b : CC) : Bool := a.cc < b.cc || (a.cc == b.cc && a.pos ≤ b.pos)

def insertCC (x : CC) : List CC → List CC
  | [] => [x]
  | y :: ys => if leCC x y then x :: y :: ys else y :: insertCC x ys

/-- `qsort(seq, cc_pos, sizeof(UNWIF_cc), _compare_cc)`: the comparator is a strict total order on the records (`pos` is
unique), so every correct sorting routine returns the same array — the records in increasing `(cc, pos)` order.  libc's
`qsort` is trusted to sort; the model computes that order by insertion. -/
def sortCC : List CC → List CC
  | [] => []
  | x :: xs => insertCC x (sortCC xs)

/-- the loop of `_wcsnorm_reorder_s_chk`; `seq` = `seq_ptr[0..cc_pos)` -/
def reorderLoop (fx : Fixes) : List Nat → List CC → Nat → Step
  | [], _, dmax => .ok [] dmax
  | cp :: rest, seq, dmax =>
    if fx.rangeChk && UniCompos.unicodeMax < cp then .fail ESLEMAX 0 else
    match combinClass cp with
    | none => .oob
    | some cc =>
      let seq' := if cc ≠ 0 then seq ++ [⟨cc, cp, seq.length⟩] else seq
      if cc ≠ 0 ∧ !rest.isEmpty then reorderLoop fx rest seq' dmax
      else if !seq'.isEmpty ∧ dmax = seq'.length then .fail ESNOSPC 0
      else
        let emitted := (sortCC seq').map (·.cp) ++ (if cc = 0 then [cp] else [])
        if dmax < emitted.length then .overrun
        else if dmax = emitted.length then .fail ESNOSPC 0
        else match reorderLoop fx rest [] (dmax - emitted.length) with
          | .ok out d => .ok (emitted ++ out) d
          | r => r

/-- `isExclusion` (the predicate as evaluated by the translator: closed ranges) -/
def exclRanges : List (Nat × Nat) :=
  (List.range UniCompos.exclN).map fun k => (cell 32 UniCompos.excl (2 * k), cell 32 UniCompos.excl (2 * k + 1))

def isExcl (cp : Nat) : Bool := exclRanges.any fun r => r.1 ≤ cp && cp ≤ r.2

/-- the sorted-list search of `_composite_cp` (`n` pairs from index `off`) -/
def searchList (key : Nat) : Nat → Nat → Nat
  | _, 0 => 0
  | off, n + 1 =>
    let nx := cell 32 UniCompos.pairs (2 * off)
    if key = nx then cell 32 UniCompos.pairs (2 * off + 1)
    else if key < nx then 0
    else searchList key (off + 1) n

/-- `_composite_cp(cp, cp2)` as a 32-bit value (0 = no composite); the table walk cannot go out of bounds because of the range test -/
def compositeCp (fx : Fixes) (cp cp2 : Nat) : Nat :=
  if cp2 = 0 then 0
  else if UniCompos.unicodeMax < cp ∨ UniCompos.unicodeMax < cp2 then 2 ^ 32 - ESLEMAX
  else if isL cp && isV cp2 then
    UniCompos.HSBase + ((cp - UniCompos.HLBase) * UniCompos.HVCount + (cp2 - UniCompos.HVBase)) * UniCompos.HTCount
  else if isLV cp && isT cp2 then cp + (cp2 - UniCompos.HTBase)
  else match rowId UniCompos.mainN UniCompos.main UniCompos.planes cp with
    | none => 0
    | some 0 => 0
    | some (r + 1) =>
      let c := cell 16 UniCompos.rows (r * 256 + cp % 256)
      if c = 0 then 0 else
      let key := if cp < UniCompos.firstLong ∧ !fx.compCast then cp2 % 65536 else cp2
      searchList key (cell 16 UniCompos.listOff (c - 1)) (cell 8 UniCompos.listLen (c - 1))

/-- the loop of `_wcsnorm_compose_s_chk`: `cpS`, `valid_cpS`, `pre_cc`, `seq_ptr[0..cc_pos)`, `dmax` -/
def composeLoop (fx : Fixes) (contig : Bool) : List Nat → Nat → Bool → Nat → List Nat → Nat → Step
  | [], _, _, _, _, dmax => .ok [] dmax
  | cp :: rest, cpS, valid, pre, seq, dmax =>
    if fx.rangeChk && UniCompos.unicodeMax < cp then .fail ESLEMAX 0 else
    match combinClass cp with
    | none => .oob
    | some cur =>
      let more := !rest.isEmpty
      -- the common tail: "output"
      let output (cpS : Nat) (pre : Nat) (seq : List Nat) : Step :=
        if dmax = 0 then .overrun
        else if dmax = 1 then .fail ESNOSPC 0
        else if dmax - 1 ≤ seq.length then .overrun
        else match composeLoop fx contig rest cp true pre [] (dmax - 1 - seq.length) with
          | .ok out d => .ok (cpS :: seq ++ out) d
          | r => r
      if !valid then
        if cur = 0 then
          if more then composeLoop fx contig rest cp true pre seq dmax
          else output cp pre seq
        else
          if dmax = 0 then .overrun
          else if dmax = 1 then .fail ESNOSPC 0
          else match composeLoop fx contig rest cpS false pre seq (dmax - 1) with
            | .ok out d => .ok (cp :: out) d
            | r => r
      else
        let blocked := (contig && !seq.isEmpty) || (cur != 0 && pre == cur) || (pre > cur)
        let comp := if blocked then 0 else compositeCp fx cpS cp
        if comp ≠ 0 ∧ !isExcl comp then
          if more then composeLoop fx contig rest comp true pre seq dmax
          else output comp pre seq
        else
          let seq' := if cur ≠ 0 ∨ !more then seq ++ [cp] else seq
          if cur ≠ 0 ∧ more then composeLoop fx contig rest cpS true cur seq' dmax
          else output cpS cur seq'

/-- what the caller of `_wcsnorm_s_chk` can observe that C17 speaks about -/
structure Res where
  ret : Int
  len : Nat              -- `*lenp`
  out : List Nat         -- `dest` up to its terminator (`[]` when dest was cleared)
  oob : Bool := false
  overrun : Bool := false
deriving DecidableEq, Repr

def Res.ofStep (orig : Nat) : Step → Res
  | .ok out d => ⟨0, orig - d, out, false, false⟩
  | .fail r l => ⟨r, l, [], false, false⟩
  | .oob => ⟨0, 0, [], true, false⟩
  | .overrun => ⟨0, 0, [], false, true⟩

/-- `_wcsnorm_decompose_s_chk(dest, dmax, src, &len, iscompat, BOS_UNKNOWN)`, dest and src non-null and disjoint -/
def decomposeS (dmax : Nat) (src : List Nat) (iscompat : Bool) : Res :=
  if dmax = 0 then ⟨ESZEROL, 0, [], false, false⟩
  else if dmax < 5 then ⟨ESLEMIN, 0, [], false, false⟩
  else if dmax > RSIZE_MAX_WSTR then ⟨ESLEMAX, 0, [], false, false⟩
  else if iscompat then ⟨-1, 0, [], false, false⟩          -- EOF: not configured with --enable-norm-compat
  else Res.ofStep dmax (decLoop dmax src dmax)

/-- `_wcsnorm_reorder_s_chk(dest, dmax, src, len, BOS_UNKNOWN)` with `src` = exactly `len` cells -/
def reorderS (fx : Fixes) (dmax : Nat) (src : List Nat) : Res :=
  if dmax > RSIZE_MAX_WSTR then ⟨ESLEMAX, 0, [], false, false⟩
  else Res.ofStep dmax (reorderLoop fx src [] dmax)

/-- `_wcsnorm_compose_s_chk(dest, dmax, src, &len, iscontig, BOS_UNKNOWN)` with `src` = exactly `*lenp` cells -/
def composeS (fx : Fixes) (dmax : Nat) (src : List Nat) (contig : Bool) : Res :=
  if dmax > RSIZE_MAX_WSTR then ⟨ESLEMAX, 0, [], false, false⟩
  else Res.ofStep dmax (composeLoop fx contig src 0 false 0 [] dmax)

/-- `_wcsnorm_s_chk(dest, dmax, src, mode, &len, BOS_UNKNOWN)`; modes: 0 NFD, 1 NFC, 2 FCD, 3 FCC, 4 NFKD, 5 NFKC -/
def wcsnormS (fx : Fixes) (mode dmax : Nat) (src : List Nat) : Res :=
  let d := decomposeS dmax src (mode / 4 % 2 == 1)
  if d.oob || d.overrun || d.ret ≠ 0 then d
  else if mode = 2 then d
  else
    let r := reorderS fx (d.len + 2) d.out
    if r.oob || r.overrun then r
    else if r.ret ≠ 0 then { r with len := d.len, out := [] }
    else if mode = 0 ∨ mode = 4 then { r with len := d.len }
    else
      let c := composeS fx dmax r.out (mode == 3)
      if c.oob || c.overrun then c
      else if c.ret ≠ 0 then { c with len := d.len, out := [] }
      else c

/-- NFD / NFC of the model, as plain functions (no sizes): the three passes with room to spare -/
def decompose1 (cp : Nat) : List Nat :=
  if isS cp then decompHangul cp
  else match decompCanon cp with
    | some (x :: l) => x :: l
    | _ => [cp]

end SafeC.Norm
