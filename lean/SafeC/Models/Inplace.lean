import SafeC.Common
/-!
# F4: functions that transform dest in place

`strset_s strnset_s strzero_s strtolowercase_s strtouppercase_s strljustify_s strremovews_s
strnterminate_s` (`src/extstr`) and `wcsset_s wcsnset_s` (`src/extwchar`).

Each model follows its C function statement by statement: same entry checks in the same order,
same loop with the same operand order in its test (`while (dmax && *dest)` tests the counter
first, `while (*dest && dmax)` reads the cell first), same number of reads per cell, including
the reads and writes that leave the `dmax` cells of dest:

* `if (!*dest) memset(...)` of the set/zero functions reads `dest[dmax]` after a full loop;
* the termination scan of `strljustify_s` / `strremovews_s` reads `dest[dmax]` before it looks at
  its counter (and accepts a terminator found there);
* the trailing-whitespace strip of `strremovews_s` walks downwards with no lower bound.

A cell is a `char` (narrow) or a `wchar_t` (wide); `int`/`wchar_t` arguments arrive as the
64-bit register value and are truncated the way the C parameter type does.
-/
namespace SafeC
open Gen

/-- an `int` / `wchar_t` parameter: the low 32 bits of the register -/
def arg32 (v : Nat) : Nat := v % 2^32

/-- `while (k && *dest) { *dest = v; k--; dest++; }` — returns the final `(dest, k)` -/
def setLoop (v : Nat) : Nat → Nat → Prog (Nat × Nat)
  | 0, dest => pure (dest, 0)
  | k+1, dest => do
    let c ← load dest
    if c = 0 then pure (dest, k+1)
    else do
      store dest v
      setLoop v k (dest+1)

/-- `#ifdef SAFECLIB_STR_NULL_SLACK  if (!*dest) memset(dest, 0, n);  #endif` -/
def slackTail (cfg : Cfg) (dest n : Nat) : Prog Unit :=
  if cfg.slack then do
    let c ← load dest
    if c = 0 then memsetP 0 n dest else pure ()
  else pure ()

/-- `_strset_s_chk(dest, dmax, value, destbos)` -/
def strset_s (cfg : Cfg) (dest dmax value : Nat) (destbos : Bos) : Prog Nat :=
  if dest = 0 then failS ESNULLP
  else if dmax = 0 then failS ESZEROL
  else chkDmax dmax destbos RSIZE_MAX_STR <|
    if arg32 value > 255 then failS ESLEMAX     -- (unsigned)value > 255
    else do
      let (d, m) ← setLoop (arg32 value) dmax dest
      slackTail cfg d m
      pure EOK

/-- `_strnset_s_chk(dest, dmax, value, n, destbos)` -/
def strnset_s (cfg : Cfg) (dest dmax value n : Nat) (destbos : Bos) : Prog Nat :=
  if dest = 0 then failS ESNULLP
  else if dmax = 0 then failS ESZEROL
  else chkDmax dmax destbos RSIZE_MAX_STR <|
    if arg32 value > 255 then failS ESLEMAX
    else if n > dmax then failS ESNOSPC
    else do
      let (d, _) ← setLoop (arg32 value) n dest
      slackTail cfg d (dmax - (d - dest))
      pure EOK

/-- `_strzero_s_chk(dest, dmax, destbos)` -/
def strzero_s (cfg : Cfg) (dest dmax : Nat) (destbos : Bos) : Prog Nat :=
  if dest = 0 then failS ESNULLP
  else if dmax = 0 then failS ESZEROL
  else chkDmax dmax destbos RSIZE_MAX_STR <| do
    let (d, m) ← setLoop 0 dmax dest
    slackTail cfg d m
    pure EOK

/-- the loop of `strtolowercase_s` / `strtouppercase_s`:
`while (dmax && *dest) { if ((*dest >= lo) && (*dest <= hi)) *dest = (char)(*dest ± 32); dest++; dmax--; }`
The cell is a plain (signed) `char`: a byte ≥ 0x80 is negative and below `lo`.  `*dest` is read
afresh by every sub-expression. -/
def caseLoop (lo hi : Nat) (f : Nat → Nat) : Nat → Nat → Prog Unit
  | 0, _ => pure ()              -- `while (dmax && *dest)` (after the fix: commit): counter first
  | dmax+1, dest => do
    let c ← load dest
    if c = 0 then pure ()
    else do
      let c1 ← load dest
      if schar c1 ≥ (lo : Int) then do
        let c2 ← load dest
        if schar c2 ≤ (hi : Int) then do
          let c3 ← load dest
          store dest (f c3 % 256)
        else pure ()
      else pure ()
      caseLoop lo hi f dmax (dest+1)

/-- `_strtolowercase_s_chk(dest, dmax, destbos)` -/
def strtolowercase_s (_cfg : Cfg) (dest dmax : Nat) (destbos : Bos) : Prog Nat :=
  if dest = 0 then failS ESNULLP
  else if dmax = 0 then failS ESZEROL
  else chkDmax dmax destbos RSIZE_MAX_STR <| do
    caseLoop 65 90 (fun c => c + 32) dmax dest
    pure EOK

/-- `_strtouppercase_s_chk(dest, dmax, destbos)` -/
def strtouppercase_s (_cfg : Cfg) (dest dmax : Nat) (destbos : Bos) : Prog Nat :=
  if dest = 0 then failS ESNULLP
  else if dmax = 0 then failS ESZEROL
  else chkDmax dmax destbos RSIZE_MAX_STR <| do
    caseLoop 97 122 (fun c => c - 32) dmax dest
    pure EOK

/-- `while (dmax > 1) { if (*dest) { count++; dmax--; dest++; } else break; }`; the fuel is `dmax - 1` -/
def ntermLoop : Nat → Nat → Nat → Prog (Nat × Nat)
  | 0, dest, count => pure (dest, count)
  | k+1, dest, count => do
    let c ← load dest
    if c ≠ 0 then ntermLoop k (dest+1) (count+1) else pure (dest, count)

/-- `_strnterminate_s_chk(dest, dmax, destbos)`: returns the count; 0 after a handler call -/
def strnterminate_s (_cfg : Cfg) (dest dmax : Nat) (destbos : Bos) : Prog Nat :=
  if dest = 0 then do handlerS ESNULLP; pure 0
  else if dmax = 0 then do handlerS ESZEROL; pure 0
  else
    let body : Prog Nat := do
      let (d, count) ← ntermLoop (dmax - 1) dest 0
      store d 0
      pure count
    match destbos with
    | none => if dmax > RSIZE_MAX_STR then do handlerS ESLEMAX; pure 0 else body
    | some bos => if dmax > bos then do handlerS EOVERFLOW; pure 0 else body

/-- the "is it terminated" scan shared by `strljustify_s` and `strremovews_s`:
```
while (*dest) {
    if (unlikely(dmax == 0)) { while (orig_dmax) { *orig_dest++ = '\0'; orig_dmax--; }  handler(ESUNTERM); return ESUNTERM; }
    dmax--; dest++;
}
```
`*dest` is read before `dmax` is looked at, so cell `dest[dmax]` is read, and a NUL found there
ends the loop normally.  `some p` = the loop ended at the NUL at `p`; `none` = the ESUNTERM exit. -/
def termScan (origDest origDmax : Nat) : Nat → Nat → Prog (Option Nat)
  | 0, dest => do
    let c ← load dest
    if c = 0 then pure (some dest)
    else do
      zeroLoop origDmax origDest
      handlerS ESUNTERM
      pure none
  | dmax+1, dest => do
    let c ← load dest
    if c = 0 then pure (some dest) else termScan origDest origDmax dmax (dest+1)

/-- `while ((*dest == ' ') || (*dest == '\t')) dest++;` — no counter in the C; the fuel only makes
the recursion structural (the caller passes the distance to the NUL the scan found, +1). -/
def skipWs : Nat → Nat → Prog Nat
  | 0, dest => pure dest
  | fuel+1, dest => do
    let c ← load dest
    if c = 0x20 then skipWs fuel (dest+1)
    else do
      let c' ← load dest
      if c' = 0x09 then skipWs fuel (dest+1) else pure dest

/-- `while (*dest) { *orig_dest++ = *dest; *dest++ = ' '; }` — returns the final `(orig_dest, dest)` -/
def shiftLoop : Nat → Nat → Nat → Prog (Nat × Nat)
  | 0, od, dest => pure (od, dest)
  | fuel+1, od, dest => do
    let c ← load dest
    if c = 0 then pure (od, dest)
    else do
      let c' ← load dest
      store od c'
      store dest 0x20
      shiftLoop fuel (od+1) (dest+1)

/-- `_strljustify_s_chk(dest, dmax, destbos)` -/
def strljustify_s (_cfg : Cfg) (dest dmax : Nat) (destbos : Bos) : Prog Nat :=
  if dest = 0 then failS ESNULLP
  else if dmax = 0 then failS ESZEROL
  else chkDmax dmax destbos RSIZE_MAX_STR <|
    if dmax ≤ 1 then do store dest 0; pure EOK        -- dmax <= RSIZE_MIN_STR
    else do
      let c ← load dest
      if c = 0 then pure EOK
      else do
        match ← termScan dest dmax dmax dest with
        | none => pure ESUNTERM
        | some e => do
          let d ← skipWs (e - dest + 1) dest
          if dest ≠ d then do
            let (od, _) ← shiftLoop (e - d + 1) dest d
            store od 0
            pure EOK
          else pure EOK

/-- `dest = orig_end; while ((*dest == ' ') || (*dest == '\t')) { *dest = '\0'; dest--; }` — walks
downwards with no lower bound; the fuel is the address itself. -/
def stripTrailing : Nat → Nat → Prog Unit
  | 0, _ => pure ()
  | fuel+1, dest => do
    let c ← load dest
    if c = 0x20 then do store dest 0; stripTrailing fuel (dest-1)
    else do
      let c' ← load dest
      if c' = 0x09 then do store dest 0; stripTrailing fuel (dest-1) else pure ()

/-- `_strremovews_s_chk(dest, dmax, destbos)` -/
def strremovews_s (_cfg : Cfg) (dest dmax : Nat) (destbos : Bos) : Prog Nat :=
  if dest = 0 then failS ESNULLP
  else if dmax = 0 then failS ESZEROL
  else chkDmax dmax destbos RSIZE_MAX_STR <| do
    let c ← load dest                                  -- `*dest == '\0' || dmax <= RSIZE_MIN_STR`
    if c = 0 ∨ dmax ≤ 1 then do store dest 0; pure EOK
    else do
      match ← termScan dest dmax dmax dest with
      | none => pure ESUNTERM
      | some e => do
        let origEnd := e - 1
        let d ← skipWs (e - dest + 1) dest
        let c0 ← load d                                -- `if (*dest == '\0')`: only whitespace (fix: commit)
        if c0 = 0 then do store dest 0; pure EOK
        else do
          if dest ≠ d then do
            let c ← load d                             -- `orig_dest != dest && *dest`
            if c ≠ 0 then do
              let (_, d') ← shiftLoop (e - d + 1) dest d
              store d' 0
            else pure ()
          else pure ()
          stripTrailing (origEnd + 1) origEnd
          pure EOK

/-! ## wide: `wchar_t` is a signed 32-bit `int` here, `value > _UNICODE_MAX` is a signed compare -/

def wvalueTooBig (value : Nat) : Bool :=
  let v := arg32 value
  decide (v < 2^31 ∧ v > 0x10ffff)

/-- `_wcsset_s_chk(dest, dmax, value, destbos)` (destbos in bytes) -/
def wcsset_s (cfg : Cfg) (dest dmax value : Nat) (destbos : Bos) : Prog Nat :=
  if dest = 0 then failS ESNULLP
  else if dmax = 0 then failS ESZEROL
  else if wvalueTooBig value then failS ESLEMAX
  else chkDmaxClearW cfg dest dmax destbos <| do
    let (d, m) ← setLoop (arg32 value) dmax dest
    slackTail cfg d m
    pure EOK

/-- `_wcsnset_s_chk(dest, dmax, value, n, destbos)` (destbos in bytes) -/
def wcsnset_s (cfg : Cfg) (dest dmax value n : Nat) (destbos : Bos) : Prog Nat :=
  if dest = 0 then failS ESNULLP
  else if dmax = 0 then failS ESZEROL
  else if wvalueTooBig value then failS ESLEMAX
  else chkDmaxClearW cfg dest dmax destbos <|
    if n > dmax then do
      handleError cfg dest dmax ESNOSPC               -- handle_werror
      pure ESNOSPC
    else do
      let (d, _) ← setLoop (arg32 value) n dest
      slackTail cfg d (dmax - (d - dest))
      pure EOK

end SafeC
