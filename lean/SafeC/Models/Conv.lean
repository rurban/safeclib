import SafeC.Gen.Consts
/-!
# C15 — multibyte / wide conversions

Pure executable models (core Lean only, no machine): the six wrappers
`mbstowcs_s mbsrtowcs_s wcstombs_s wcsrtombs_s wcrtomb_s wctomb_s` of `src/wchar/*.c` are straight-line code
around ONE libc call; everything interesting is (a) what libc does and (b) how the wrapper classifies the count.

* `Libc.*` — glibc 2.36 as measured in this sandbox (trusted-base items, validated against the real libc by the
  correspondence run): the UTF-8 codec of locale `C.UTF-8` (1..6 byte forms, 31 bits, surrogates and overlong forms
  rejected, restartable with an explicit pending-byte state) and the 7-bit codec of locale `C`; the gconv step
  (`gconvMb`, `gconvWc`), and `mbsrtowcs` (with glibc's "pessimistic window" loop), `wcsrtombs`, `mbstowcs`, `wcstombs`,
  `wcrtomb`, `wctomb` over (source cells, len, dest available?).
* wrappers — mirror the C statement by statement, defects included; `Fixes` selects the code without / with each repair
  of `fixes/wchar-*.diff` (/repo holds all six); `current` is the ONE definition to flip when a fix lands in /repo.

The destination is a list of PHYSICAL cells (`cap = cells.length`, the true object); a store at an index ≥ cap is a
fault (guard page), a store at an index in `[dmax, cap)` is recorded in `hi` (one past the highest index stored).
-/
namespace SafeC.Conv
open SafeC.Gen

inductive Locale | C | UTF8
  deriving DecidableEq, Repr, Inhabited

def SIZE_MAX : Nat := 18446744073709551615
def WORD : Nat := 18446744073709551616

/-! ## libc: codecs -/
namespace Libc

/-- `(b & 0xc0) == 0x80` -/
def isCont (b : Nat) : Bool := b / 64 == 2
def isSurr (c : Nat) : Bool := 0xD800 ≤ c && c ≤ 0xDFFF

/-- internal → UTF-8 (`internal_utf8_loop`): 31-bit values, surrogates rejected -/
def utf8Enc (c : Nat) : Option (List Nat) :=
  if c > 0x7fffffff || isSurr c then none
  else if c < 0x80 then some [c]
  else if c < 0x800 then some [0xC0 + c / 64, 0x80 + c % 64]
  else if c < 0x10000 then some [0xE0 + c / 4096, 0x80 + c / 64 % 64, 0x80 + c % 64]
  else if c < 0x200000 then some [0xF0 + c / 262144, 0x80 + c / 4096 % 64, 0x80 + c / 64 % 64, 0x80 + c % 64]
  else if c < 0x4000000 then
    some [0xF8 + c / 16777216, 0x80 + c / 262144 % 64, 0x80 + c / 4096 % 64, 0x80 + c / 64 % 64, 0x80 + c % 64]
  else
    some [0xFC + c / 1073741824, 0x80 + c / 16777216 % 64, 0x80 + c / 262144 % 64, 0x80 + c / 4096 % 64,
          0x80 + c / 64 % 64, 0x80 + c % 64]

/-- internal → ASCII (`internal_ascii_loop`, locale C) -/
def asciiEnc (c : Nat) : Option (List Nat) := if c < 0x80 then some [c] else none

def enc : Locale → Nat → Option (List Nat)
  | .UTF8, c => utf8Enc c
  | .C, c => asciiEnc c

/-- lead byte → (total length, payload bits); `C0 C1` and `FE FF` and continuation bytes are not lead bytes -/
def lead (b : Nat) : Option (Nat × Nat) :=
  if 0xC2 ≤ b && b < 0xE0 then some (2, b % 32)
  else if b / 16 == 0xE then some (3, b % 16)
  else if b / 8 == 0x1E then some (4, b % 8)
  else if b / 4 == 0x3E then some (5, b % 4)
  else if b / 2 == 0x7E then some (6, b % 2)
  else none

inductive Dec | ok (ch n : Nat) | incomplete | illegal
  deriving DecidableEq, Repr

def accum (hi : Nat) (conts : List Nat) : Nat := conts.foldl (fun a x => a * 64 + x % 64) hi

/-- minimal value of an n-byte form (`(ch >> (5*cnt-4)) == 0` is the overlong test for cnt > 2) -/
def minOf (cnt : Nat) : Nat := 2 ^ (5 * cnt - 4)

/-- the BODY of `utf8_internal_loop` on the bytes available: one character, or incomplete (all available bytes
are acceptable so far — glibc only looks at the continuation bits here), or illegal -/
def utf8Body : List Nat → Dec
  | [] => .incomplete
  | b :: rest =>
    if b < 0x80 then .ok b 1 else
    match lead b with
    | none => .illegal
    | some (cnt, hi) =>
      let conts := rest.take (cnt - 1)
      if !conts.all isCont then .illegal
      else if conts.length < cnt - 1 then .incomplete
      else
        let ch := accum hi conts
        if (cnt > 2 && ch < minOf cnt) || isSurr ch then .illegal else .ok ch cnt

def asciiBody : List Nat → Dec
  | [] => .incomplete
  | b :: _ => if b < 0x80 then .ok b 1 else .illegal

def body : Locale → List Nat → Dec
  | .UTF8, bs => utf8Body bs
  | .C, bs => asciiBody bs

/-- decode a whole byte string (no terminator), `none` on any illegal or incomplete sequence -/
def decodeAll (loc : Locale) : Nat → List Nat → Option (List Nat)
  | 0, bs => if bs.isEmpty then some [] else none
  | fuel + 1, bs =>
    if bs.isEmpty then some [] else
    match body loc bs with
    | .ok ch n => (decodeAll loc fuel (bs.drop n)).map (ch :: ·)
    | _ => none

def encodeAll (loc : Locale) : List Nat → Option (List Nat)
  | [] => some []
  | c :: cs => match enc loc c, encodeAll loc cs with
    | some a, some b => some (a ++ b)
    | _, _ => none

/-! ## libc: the gconv step functions -/

inductive Status | empty | full | incomplete | illegal
  deriving DecidableEq, Repr

/-- result of one gconv call: cells produced, input cells consumed, pending bytes of the state, status -/
structure GR where
  out : List Nat
  used : Nat
  st : List Nat
  status : Status
  deriving Repr

/-- multibyte → wide main loop: output-full is tested before the next character is looked at -/
def mbMain (loc : Locale) : Nat → List Nat → Nat → GR
  | 0, _, _ => ⟨[], 0, [], .empty⟩
  | fuel + 1, inp, space =>
    if inp.isEmpty then ⟨[], 0, [], .empty⟩
    else if space = 0 then ⟨[], 0, [], .full⟩
    else match body loc inp with
      | .ok ch n =>
        let r := mbMain loc fuel (inp.drop n) (space - 1)
        ⟨ch :: r.out, n + r.used, r.st, r.status⟩
      | .incomplete => ⟨[], inp.length, inp, .incomplete⟩
      | .illegal => ⟨[], 0, [], .illegal⟩

/-- one call of the multibyte → wide step with `consume_incomplete`: a pending state is first completed from the
input (`SINGLE(LOOPFCT)`, at most 6 bytes in the staging buffer); on an illegal continuation the state is left as
it was and nothing is consumed -/
def gconvMb (loc : Locale) (pend inp : List Nat) (space : Nat) : GR :=
  if pend.isEmpty then mbMain loc (inp.length + 1) inp space
  else if space = 0 then ⟨[], 0, pend, .full⟩
  else
    let tk := inp.take (6 - pend.length)
    let buf := pend ++ tk
    match body loc buf with
    | .ok ch n =>
      let u := n - pend.length
      let r := mbMain loc (inp.length + 1) (inp.drop u) (space - 1)
      ⟨ch :: r.out, u + r.used, r.st, r.status⟩
    | .incomplete => ⟨[], tk.length, buf, .incomplete⟩
    | .illegal => ⟨[], 0, pend, .illegal⟩

/-- wide → multibyte step: a character that does not fit entirely stops the conversion (`full`) -/
def gconvWc (loc : Locale) : List Nat → Nat → GR
  | [], _ => ⟨[], 0, [], .empty⟩
  | c :: cs, space =>
    if space = 0 then ⟨[], 0, [], .full⟩
    else match enc loc c with
      | none => ⟨[], 0, [], .illegal⟩
      | some bs =>
        if bs.length > space then ⟨[], 0, [], .full⟩
        else
          let r := gconvWc loc cs (space - bs.length)
          ⟨bs ++ r.out, 1 + r.used, [], r.status⟩

/-! ## libc: string functions -/

def strnlen (s : List Nat) (n : Nat) : Nat := ((s.take n).takeWhile (· != 0)).length
def strlen (s : List Nat) : Nat := (s.takeWhile (· != 0)).length

/-- result of a libc string conversion: cells written at dst[0..), return value (`SIZE_MAX` = (size_t)-1),
`*src` afterwards (`none` = NULL, `some k` = source + k cells), pending bytes of `*ps`, errno set to EILSEQ? -/
structure LR where
  out : List Nat
  ret : Nat
  src : Option Nat
  st : List Nat
  eilseq : Bool
  deriving Repr

/-- the loop of glibc's `mbsrtowcs` for dst ≠ NULL: windows of `strnlen(srcp, len) + 1` bytes ("pessimistic guess:
one input byte per output wchar_t"), repeated while the window was used up without reaching the NUL -/
def mbsLoop (loc : Locale) : Nat → List Nat → Nat → Nat → List Nat → List Nat → Status → (List Nat × Nat × List Nat × Status)
  | 0, _, off, _, st, out, status => (out, off, st, status)
  | fuel + 1, rest, off, len, st, out, status =>
    if len = 0 then (out, off, st, status) else
    let w := rest.take (strnlen rest len + 1)
    let r := gconvMb loc st w len
    if (r.status == .empty || r.status == .incomplete) && r.used == w.length && w.getLast? != some 0 then
      mbsLoop loc fuel (rest.drop r.used) (off + r.used) (len - r.out.length) r.st (out ++ r.out) r.status
    else (out ++ r.out, off + r.used, r.st, r.status)

/-- `mbsrtowcs(dst, &src, len, ps)`; `mem` is the source memory from `*src` on (it contains a NUL) -/
def mbsrtowcs (loc : Locale) (dstNull : Bool) (mem : List Nat) (len : Nat) (ps : List Nat) : LR :=
  if dstNull then
    let w := mem.take (strlen mem + 1)
    let r := gconvMb loc ps w (w.length + 1)
    if r.status == .illegal || r.status == .incomplete then
      ⟨[], if r.status == .illegal then SIZE_MAX else r.out.length, some 0, ps, r.status == .illegal⟩
    else ⟨[], r.out.length - 1, some 0, ps, false⟩
  else
    let (out, off, st, status) := mbsLoop loc (mem.length + 1) mem 0 len ps [] .full
    if status == .illegal then ⟨out, SIZE_MAX, some off, st, true⟩
    else if status == .empty && out.getLast? == some 0 then ⟨out, out.length - 1, none, st, false⟩
    else ⟨out, out.length, some off, st, false⟩

/-- `wcsrtombs(dst, &src, len, ps)` (state always initial for these two codecs) -/
def wcsrtombs (loc : Locale) (dstNull : Bool) (mem : List Nat) (len : Nat) : LR :=
  if dstNull then
    let w := mem.take (strlen mem + 1)
    let r := gconvWc loc w (6 * w.length + 1)
    if r.status == .illegal then ⟨[], SIZE_MAX, some 0, [], true⟩
    else ⟨[], r.out.length - 1, some 0, [], false⟩
  else
    let w := mem.take (strnlen mem len + 1)
    let r := gconvWc loc w len
    if r.status == .illegal then ⟨r.out, SIZE_MAX, some r.used, [], true⟩
    else if r.status == .empty && r.out.getLast? == some 0 then ⟨r.out, r.out.length - 1, none, [], false⟩
    else ⟨r.out, r.out.length, some r.used, [], false⟩

/-- `mbstowcs` = `mbsrtowcs` on a local pointer and a zeroed local state -/
def mbstowcs (loc : Locale) (dstNull : Bool) (mem : List Nat) (len : Nat) : LR := mbsrtowcs loc dstNull mem len []
def wcstombs (loc : Locale) (dstNull : Bool) (mem : List Nat) (len : Nat) : LR := wcsrtombs loc dstNull mem len

/-- `wcrtomb(s, wc, ps)`: bytes stored at `s`, return value, errno set? (`s == NULL`: as if `wc == 0` into a private buffer) -/
def wcrtomb (loc : Locale) (sNull : Bool) (wc : Nat) : List Nat × Nat × Bool :=
  if sNull then ([], 1, false)
  else if wc = 0 then ([0], 1, false)
  else match enc loc wc with
    | none => ([], SIZE_MAX, true)
    | some bs => (bs, bs.length, false)

/-- `wctomb(s, wc)`: `s == NULL` asks "stateful encoding?" → 0; return value as C `int` (-1 = `none`) -/
def wctomb (loc : Locale) (sNull : Bool) (wc : Nat) : List Nat × Option Nat × Bool :=
  if sNull then ([], some 0, false)
  else
    let (bs, r, e) := wcrtomb loc false wc
    (bs, if r = SIZE_MAX then none else some r, e)

end Libc

/-! ## the destination object -/

/-- physical destination: `hi` = one past the highest index stored so far, `fault` = a store outside the object -/
structure D where
  cells : List Nat
  hi : Nat := 0
  fault : Bool := false
  deriving Repr

def overlay (old new : List Nat) : List Nat := new.take old.length ++ old.drop new.length

/-- store `vs` at cells `off, off+1, …` -/
def D.write (d : D) (off : Nat) (vs : List Nat) : D :=
  if vs.isEmpty then d else
  { cells := d.cells.take off ++ overlay (d.cells.drop off) vs
    hi := max d.hi (off + vs.length)
    fault := d.fault || off + vs.length > d.cells.length }

def D.zero (d : D) (off n : Nat) : D := d.write off (List.replicate n 0)

/-- `*(char *)dest = 0` on a wide destination: the low byte of cell 0 -/
def D.zeroByte0 (d : D) : D :=
  match d.cells with
  | [] => { d with fault := true, hi := max d.hi 1 }
  | c :: cs => { d with cells := (c - c % 256) :: cs, hi := max d.hi 1 }

/-! ## configuration -/

/-- the repairs `fixes/wchar-*.diff`, each a `fix:` commit of /repo; `false` = the code without that repair -/
structure Fixes where
  /-- the four string converters hand libc `min(len, dmax)` instead of `len` -/
  clamp : Bool
  /-- wcrtomb_s / wctomb_s convert into a local buffer and copy only what fits -/
  stage : Bool
  /-- the result code is taken from the conversion's own result, not from a stale `errno` / a re-scan -/
  rc : Bool
  /-- wcstombs_s / wcsrtombs_s accept a conversion of length 0 -/
  zero : Bool
  /-- mbstowcs_s / mbsrtowcs_s do not clear through a NULL dest when src / srcp is NULL -/
  nullsrc : Bool
  /-- wcsrtombs_s stores the terminator in the build without SAFECLIB_STR_NULL_SLACK too -/
  term : Bool
  deriving DecidableEq, Repr

def unrepaired : Fixes := ⟨false, false, false, false, false, false⟩
def allFixed : Fixes := ⟨true, true, true, true, true, true⟩
/-- the code /repo holds and the driver runs: all six repairs.  The line to flip when a fix lands in or leaves /repo -/
def current : Fixes := allFixed

structure Cfg where
  slack : Bool := true
  loc : Locale := .C
  fx : Fixes := current
  deriving Repr

/-- what a call leaves behind -/
structure Out where
  ret : Nat
  /-- value stored through `retvalp` (`none`: nothing stored) -/
  retval : Option Nat := none
  dest : Option D := none
  /-- write through a NULL destination -/
  nullw : Bool := false
  /-- `*srcp` afterwards: `none` = NULL, `some k` = original + k -/
  src : Option Nat := some 0
  st : List Nat := []
  ev : List Nat := []
  deriving Repr

/-- `handle_werror(dest, n, msg, code)` / `handle_error` on a byte destination: clear, then the handler -/
def clearCells (slack : Bool) (d : D) (n : Nat) : D := if slack then d.zero 0 n else d.zero 0 1

/-- `handle_error((char *)dest, nbytes, …)` on a WIDE destination -/
def clearBytesW (slack : Bool) (d : D) (nbytes : Nat) : D := if slack then d.zero 0 (nbytes / 4) else d.zeroByte0

/-! ## the wrappers -/

/-- arguments common to the string converters -/
structure SArgs where
  retvalNull : Bool := false
  dest : Option (List Nat)
  dmax : Nat
  /-- source memory from `src` / `*srcp` on (`none` = NULL pointer) -/
  src : Option (List Nat)
  /-- `srcp == NULL` (restartable forms only) -/
  srcpNull : Bool := false
  psNull : Bool := false
  /-- `(char *)dest == src` (resp. `== srcp`, `== *srcp`) -/
  alias : Bool := false
  len : Nat
  /-- object size in BYTES when known -/
  bos : Option Nat := none
  ps : List Nat := []
  errno0 : Nat := 0
  deriving Repr

def mkD (a : SArgs) : Option D := a.dest.map fun c => { cells := c }

/-- the length handed to libc -/
def libcLen (cfg : Cfg) (a : SArgs) : Nat :=
  if cfg.fx.clamp && a.dest.isSome && a.len > a.dmax then a.dmax else a.len

/-- entry checks on `dest`/`dmax`/`len` shared by mbstowcs_s and mbsrtowcs_s (wide destination);
`clr` = the BOS-known exits clear through `handle_error` (mbstowcs_s) or only report (mbsrtowcs_s) -/
def entryW (cfg : Cfg) (a : SArgs) (clr : Bool) (d : D) : Option Out :=
  if a.dmax = 0 then some { ret := ESZEROL, retval := some 0, dest := some d, ev := [ESZEROL], st := a.ps } else
  match a.bos with
  | none =>
    if a.dmax > RSIZE_MAX_WSTR || a.len > RSIZE_MAX_WSTR then
      some { ret := ESLEMAX, retval := some 0, dest := some d, ev := [ESLEMAX], st := a.ps }
    else none
  | some bos =>
    if a.dmax * 4 % WORD > bos || a.len * 4 % WORD > bos then
      let code := if a.dmax > RSIZE_MAX_WSTR || a.len > RSIZE_MAX_WSTR then ESLEMAX else EOVERFLOW
      some { ret := code, retval := some 0, dest := some (if clr then clearBytesW cfg.slack d bos else d), ev := [code], st := a.ps }
    else none

/-- the tail shared by mbstowcs_s and mbsrtowcs_s once libc has returned `r`;
`requery` = what the second, NULL-destination libc call returns (count, errno set?) -/
def tailW (cfg : Cfg) (a : SArgs) (r : Libc.LR) (errnoBefore : Nat) (requery : Unit → Nat × Bool) : Out :=
  let dAfter : Option D := (mkD a).map fun d => d.write 0 r.out
  let errno1 := if r.eilseq then EILSEQ else errnoBefore
  if r.ret < a.dmax then
    let d' := dAfter.map fun d => if cfg.slack then d.zero r.ret (a.dmax - r.ret) else d.zero r.ret 1
    { ret := EOK, retval := some r.ret, dest := d', src := r.src, st := r.st }
  else
    match dAfter with
    | some d =>
      let rc :=
        if cfg.fx.rc then (if r.ret = SIZE_MAX then EILSEQ else ESNOSPC)
        else if r.ret > RSIZE_MAX_WSTR then
          let (tmp, e) := requery ()
          if tmp = 0 then ESNOSPC else (if e then EILSEQ else 0)
        else ESNOSPC
      { ret := rc, retval := some r.ret, dest := some (clearCells cfg.slack d a.dmax), src := r.src, st := r.st, ev := [rc] }
    | none =>
      let rc := if cfg.fx.rc then (if r.ret = SIZE_MAX then EILSEQ else EOK) else (if r.ret = 0 then EOK else errno1)
      { ret := rc, retval := some r.ret, dest := none, src := r.src, st := r.st }

def mbstowcs_s (cfg : Cfg) (a : SArgs) : Out :=
  if a.retvalNull then { ret := ESNULLP, dest := mkD a, ev := [ESNULLP] } else
  match a.src with
  | none =>
    match mkD a with
    | none => { ret := ESNULLP, retval := some 0, nullw := !cfg.fx.nullsrc && (!cfg.slack || a.dmax != 0), ev := [ESNULLP] }
    | some d => { ret := ESNULLP, retval := some 0, dest := some (clearCells cfg.slack d a.dmax), ev := [ESNULLP] }
  | some mem =>
    match (match mkD a with | some d => entryW cfg a true d | none => none) with
    | some o => o
    | none =>
      if a.alias then { ret := ESOVRLP, retval := some 0, dest := mkD a } else
      let n := libcLen cfg a
      let r := Libc.mbstowcs cfg.loc a.dest.isNone mem n
      let o := tailW cfg a r 0 (fun _ => let q := Libc.mbstowcs cfg.loc true mem n; (q.ret, q.eilseq))
      { o with src := some 0, st := [] }

/-- mbsrtowcs_s' second libc call `mbsrtowcs(NULL, srcp, len - 1, &orig_ps)`: from the UPDATED `*srcp`, with the saved
entry state (`len - 1` is ignored by libc when dst is NULL) -/
def mbsrRequery (cfg : Cfg) (a : SArgs) (mem : List Nat) (n : Nat) (r : Libc.LR) : Unit → Nat × Bool := fun _ =>
  match r.src with
  | none => (0, false)   -- not reached: r.ret > RSIZE_MAX_WSTR only for (size_t)-1, and then *srcp is not NULL
  | some k => let q := Libc.mbsrtowcs cfg.loc true (mem.drop k) (n - 1) a.ps; (q.ret, q.eilseq)

def mbsrtowcs_s (cfg : Cfg) (a : SArgs) : Out :=
  if a.retvalNull then { ret := ESNULLP, dest := mkD a, ev := [ESNULLP], st := a.ps } else
  if a.psNull then { ret := ESNULLP, retval := some 0, dest := mkD a, ev := [ESNULLP] } else
  if a.srcpNull then
    match mkD a with
    | none => { ret := ESNULLP, retval := some 0, nullw := !cfg.fx.nullsrc && (!cfg.slack || a.dmax != 0), ev := [ESNULLP], st := a.ps }
    | some d => { ret := ESNULLP, retval := some 0, dest := some (clearCells cfg.slack d a.dmax), ev := [ESNULLP], st := a.ps }
  else
  match a.src with
  | none => { ret := ESNULLP, retval := some 0, dest := mkD a, ev := [ESNULLP], st := a.ps, src := none }
  | some mem =>
    match (match mkD a with | some d => entryW cfg a false d | none => none) with
    | some o => o
    | none =>
      if a.alias then { ret := ESOVRLP, retval := some 0, dest := mkD a, st := a.ps } else
      let n := libcLen cfg a
      let r := Libc.mbsrtowcs cfg.loc a.dest.isNone mem n a.ps
      tailW cfg a r a.errno0 (mbsrRequery cfg a mem n r)

/-- entry checks shared by wcstombs_s and wcsrtombs_s (byte destination) -/
def entryB (cfg : Cfg) (a : SArgs) (d : D) : Option Out :=
  if a.dmax = 0 then some { ret := ESZEROL, retval := some 0, dest := some d, ev := [ESZEROL], st := a.ps } else
  match a.bos with
  | none =>
    if a.dmax > RSIZE_MAX_WSTR || a.len > RSIZE_MAX_WSTR then
      some { ret := ESLEMAX, retval := some 0, dest := some d, ev := [ESLEMAX], st := a.ps }
    else none
  | some bos =>
    if a.dmax > bos || a.len > bos then
      let code := if a.dmax > RSIZE_MAX_WSTR || a.len > RSIZE_MAX_WSTR then ESLEMAX else EOVERFLOW
      some { ret := code, retval := some 0, dest := some (clearCells cfg.slack d bos), ev := [code], st := a.ps }
    else none

/-- tail of wcstombs_s (`term = true`: the no-slack build stores `dest[l] = 0`) and wcsrtombs_s (`term = false`) -/
def tailB (cfg : Cfg) (a : SArgs) (r : Libc.LR) (term : Bool) : Out :=
  let dAfter : Option D := (mkD a).map fun d => d.write 0 r.out
  let l := r.ret
  let errno1 := if r.eilseq then EILSEQ else a.errno0
  if (l > 0 || cfg.fx.zero) && l < a.dmax then
    let d' := dAfter.map fun d => if cfg.slack then d.zero l (a.dmax - l) else if term then d.zero l 1 else d
    { ret := EOK, retval := some l, dest := d', src := r.src, st := [] }
  else
    let rc := if cfg.fx.rc then (if l = SIZE_MAX then EILSEQ else ESNOSPC) else (if l ≤ RSIZE_MAX_STR then ESNOSPC else errno1)
    match dAfter with
    | some d => { ret := rc, retval := some l, dest := some (clearCells cfg.slack d a.dmax), src := r.src, ev := [rc] }
    | none => { ret := rc, retval := some l, src := r.src }

def wcstombs_s (cfg : Cfg) (a : SArgs) : Out :=
  if a.retvalNull then { ret := ESNULLP, dest := mkD a, ev := [ESNULLP] } else
  match (match mkD a with | some d => entryB cfg a d | none => none) with
  | some o => o
  | none =>
    match a.src with
    | none => { ret := ESNULLP, retval := some 0, dest := (mkD a).map fun d => clearCells cfg.slack d a.dmax, ev := [ESNULLP] }
    | some mem =>
      if a.alias then { ret := ESOVRLP, retval := some 0, dest := mkD a, ev := [ESOVRLP] } else
      let r := Libc.wcstombs cfg.loc a.dest.isNone mem (libcLen cfg a)
      { tailB cfg a r true with src := some 0 }

def wcsrtombs_s (cfg : Cfg) (a : SArgs) : Out :=
  if a.retvalNull then { ret := ESNULLP, dest := mkD a, ev := [ESNULLP] } else
  if a.psNull then { ret := ESNULLP, retval := some 0, dest := mkD a, ev := [ESNULLP] } else
  match (match mkD a with | some d => entryB cfg a d | none => none) with
  | some o => o
  | none =>
    if a.srcpNull then
      { ret := ESNULLP, retval := some 0, dest := (mkD a).map fun d => clearCells cfg.slack d a.dmax, ev := [ESNULLP] }
    else
    match a.src with
    | none => { ret := ESNULLP, retval := some 0, dest := (mkD a).map fun d => clearCells cfg.slack d a.dmax, ev := [ESNULLP], src := none }
    | some mem =>
      if a.alias then { ret := ESOVRLP, retval := some 0, dest := mkD a, ev := [ESOVRLP] } else
      let r := Libc.wcsrtombs cfg.loc a.dest.isNone mem (libcLen cfg a)
      tailB cfg a r cfg.fx.term

/-- arguments of the single-character converters -/
structure CArgs where
  retvalNull : Bool := false
  dest : Option (List Nat)
  dmax : Nat
  wc : Nat
  psNull : Bool := false
  bos : Option Nat := none
  errno0 : Nat := 0
  deriving Repr

/-- entry checks of wcrtomb_s / wctomb_s -/
def entryC (a : CArgs) : Option Out :=
  let d0 : Option D := a.dest.map fun c => { cells := c }
  match a.dest with
  | some _ =>
    if a.dmax = 0 then some { ret := ESZEROL, dest := d0, ev := [ESZEROL] } else
    match a.bos with
    | none => if a.dmax > RSIZE_MAX_WSTR then some { ret := ESLEMAX, dest := d0, ev := [ESLEMAX] } else none
    | some bos =>
      if a.dmax > bos then
        let code := if a.dmax > RSIZE_MAX_STR then ESLEMAX else EOVERFLOW
        some { ret := code, dest := d0, ev := [code] }
      else none
  | none => if a.dmax != 0 then some { ret := ESNULLP, ev := [ESNULLP] } else none

def wcrtomb_s (cfg : Cfg) (a : CArgs) : Out :=
  if a.retvalNull then { ret := ESNULLP, dest := a.dest.map fun c => { cells := c }, ev := [ESNULLP] } else
  if a.psNull then { ret := ESNULLP, dest := a.dest.map fun c => { cells := c }, ev := [ESNULLP] } else
  match entryC a with
  | some o => o
  | none =>
    let (bs, len, e) := Libc.wcrtomb cfg.loc a.dest.isNone a.wc
    let d0 : Option D := a.dest.map fun c => { cells := c }
    -- as it is: libc stores straight into dest; repaired: into a local buffer, copied only when it fits
    let dAfter := d0.map fun d => if cfg.fx.stage && !(len < a.dmax) then d else d.write 0 bs
    let errno1 := if e then EILSEQ else a.errno0
    if len < a.dmax then
      { ret := EOK, retval := some len,
        dest := dAfter.map fun d => if cfg.slack then d.zero len (a.dmax - len) else d.zero len 1 }
    else
      let rc := if cfg.fx.rc then (if len = SIZE_MAX then EILSEQ else ESNOSPC) else (if len ≤ RSIZE_MAX_STR then ESNOSPC else errno1)
      match dAfter with
      | some d => { ret := rc, retval := some len, dest := some (clearCells cfg.slack d a.dmax), ev := [rc] }
      | none => { ret := rc, retval := some len }

/-- `*retvalp` of wctomb_s is an `int`: reported as `some n` or `none` for -1 via `retval = SIZE_MAX` -/
def wctomb_s (cfg : Cfg) (a : CArgs) : Out :=
  if a.retvalNull then { ret := ESNULLP, dest := a.dest.map fun c => { cells := c }, ev := [ESNULLP] } else
  match entryC a with
  | some o => o
  | none =>
    let (bs, len?, e) := Libc.wctomb cfg.loc a.dest.isNone a.wc
    let d0 : Option D := a.dest.map fun c => { cells := c }
    let fits := match len? with | some l => l > 0 && l < a.dmax | none => false
    let dAfter := d0.map fun d => if cfg.fx.stage && !fits then d else d.write 0 bs
    let errno1 := if e then EILSEQ else a.errno0
    let rv := match len? with | some l => l | none => SIZE_MAX
    if fits then
      { ret := EOK, retval := some rv, dest := dAfter.map fun d => if cfg.slack then d.zero rv (a.dmax - rv) else d }
    else
      let rc :=
        if cfg.fx.rc then (match len? with | none => EILSEQ | some l => if l = 0 && a.dest.isNone then EOK else ESNOSPC)
        else (match len? with | some l => if l > 0 then ESNOSPC else errno1 | none => errno1)
      match dAfter with
      | some d => { ret := rc, retval := some rv, dest := some (clearCells cfg.slack d a.dmax), ev := [rc] }
      | none => { ret := rc, retval := some rv }

end SafeC.Conv
