import SafeC.Gen.Consts
/-!
# C20 — the allocation skeleton machine and the allocation skeletons of every allocating function

`Machine.lean` has no allocator.  This file defines a small machine of its own: programs over
`alloc`, `realloc`, `free`, `deref` (any use of a pointer that came from the allocator), `emit`
(constraint handler called / dest cleared) and `ret`.  The allocator is answered by an oracle
`fails : Nat → Bool` on the running index of the allocation request (malloc, calloc and realloc
share one counter, as in harness/halloc.c).  State = live blocks + counters + event log; using a
failed allocation (`deref none`) is a fault, as is touching or freeing a block that is not live.

The skeletons mirror the C control flow around the allocations 1:1 — which branch allocates, which
exits free, which exits forget, which uses are unchecked — and are parameterised by the input
features that steer that control flow (computed by tools/p20.py from the concrete input, see
there).  `Fixes` selects, per defect site, the code before the repair (`false`) or as repaired by
the `fix:` commits of /repo (`true`); `current` is the tree as it stands.
-/
namespace SafeC.Alloc

abbrev Blk := Nat

inductive Fault
  | nullDeref
  | useAfterFree (b : Blk)
  | badFree (b : Blk)
  | badRealloc (b : Blk)
  deriving DecidableEq, Repr

inductive Ev
  | malloc (i : Nat) (ok : Bool)
  | realloc (i : Nat) (old : Option Blk) (ok : Bool)
  | free (b : Option Blk)
  | handler
  | clear
  deriving DecidableEq, Repr

structure St where
  next : Nat := 0            -- index of the next allocation request
  live : List Blk := []      -- blocks outstanding (a block is named by the request that created it)
  nfail : Nat := 0           -- allocation requests answered NULL so far
  hn : Nat := 0              -- constraint handler calls so far
  cleared : Bool := false    -- dest has been wiped (handle_error / handle_werror / memset / *dest = 0)
  events : List Ev := []     -- newest first
  deriving Repr

inductive Prog (α : Type) : Type
  | ret (x : α)
  | alloc (k : Option Blk → Prog α)
  | realloc (old : Option Blk) (k : Option Blk → Prog α)
  | free (b : Option Blk) (k : Prog α)
  | deref (b : Option Blk) (k : Prog α)
  | emit (e : Ev) (k : Prog α)

namespace Prog
def bind : Prog α → (α → Prog β) → Prog β
  | .ret x, f => f x
  | .alloc k, f => .alloc fun r => (k r).bind f
  | .realloc o k, f => .realloc o fun r => (k r).bind f
  | .free b k, f => .free b (k.bind f)
  | .deref b k, f => .deref b (k.bind f)
  | .emit e k, f => .emit e (k.bind f)
instance : Monad Prog where
  pure := .ret
  bind := bind
end Prog

def malloc : Prog (Option Blk) := .alloc .ret
def realloc (old : Option Blk) : Prog (Option Blk) := .realloc old .ret
def free (b : Option Blk) : Prog Unit := .free b (.ret ())
/-- `if (p) free(p);` -/
def freeIf (b : Option Blk) : Prog Unit := if b.isSome then free b else pure ()
def deref (b : Option Blk) : Prog Unit := .deref b (.ret ())
def handler : Prog Unit := .emit .handler (.ret ())
def clear : Prog Unit := .emit .clear (.ret ())

def St.onEmit (s : St) : Ev → St
  | .handler => { s with hn := s.hn + 1, events := .handler :: s.events }
  | .clear => { s with cleared := true, events := .clear :: s.events }
  | e => { s with events := e :: s.events }

def St.allocFail (s : St) (e : Ev) : St :=
  { s with next := s.next + 1, nfail := s.nfail + 1, events := e :: s.events }
def St.allocOk (s : St) (live : List Blk) (e : Ev) : St :=
  { s with next := s.next + 1, live := s.next :: live, events := e :: s.events }

def exec (fails : Nat → Bool) : Prog α → St → Except Fault (α × St)
  | .ret x, s => .ok (x, s)
  | .alloc k, s =>
    if fails s.next then exec fails (k none) (s.allocFail (.malloc s.next false))
    else exec fails (k (some s.next)) (s.allocOk s.live (.malloc s.next true))
  | .realloc old k, s =>
    match old with
    | some b =>
      if b ∈ s.live then
        if fails s.next then exec fails (k none) (s.allocFail (.realloc s.next old false))
        else exec fails (k (some s.next)) (s.allocOk (s.live.erase b) (.realloc s.next old true))
      else .error (.badRealloc b)
    | none =>
      if fails s.next then exec fails (k none) (s.allocFail (.realloc s.next none false))
      else exec fails (k (some s.next)) (s.allocOk s.live (.realloc s.next none true))
  | .free b k, s =>
    match b with
    | none => exec fails k { s with events := .free none :: s.events }
    | some b => if b ∈ s.live then exec fails k { s with live := s.live.erase b, events := .free (some b) :: s.events }
                else .error (.badFree b)
  | .deref b k, s =>
    match b with
    | none => .error .nullDeref
    | some b => if b ∈ s.live then exec fails k s else .error (.useAfterFree b)
  | .emit e k, s => exec fails k (s.onEmit e)

/-- which repairs (`fix:` commits 96f0289, fb5a86e, 4fa8430 of /repo) the modelled code contains -/
structure Fixes where
  fmtcopy : Bool      -- vsnprintf_s.c: the %L[fFeEgGaA] / %a format-copy mallocs are checked
  lsconv : Bool       -- vsnprintf_s.c: %ls staging buffer freed (and a negative code returned) when wcstombs_s fails
  wprobe : Bool       -- swprintf_s / snwprintf_s / vsnwprintf_s: probe malloc checked
  vswrep : Bool       -- vswprintf_s: failed probe malloc goes through handle_werror
  normtmp : Bool      -- wcsnorm_s: scratch malloc checked
  reorder : Bool      -- wcsnorm_reorder_s: malloc/realloc checked, seq_ext freed on the ESNOSPC exits
  compose : Bool      -- wcsnorm_compose_s: the same
  deriving Repr, DecidableEq

/-- the code before any repair (what the `_partial` / `_witness` theorems are about) -/
def unrepaired : Fixes := ⟨false, false, false, false, false, false, false⟩
def allFixed : Fixes := ⟨true, true, true, true, true, true, true⟩
/-- the tree as it stands (all repairs are in /repo): the ONE line to change with the tree
(`allFixed`, or single fields when only some repairs are present) -/
def current : Fixes := allFixed

/-- what the caller sees -/
structure Out where
  failed : Bool
  /-- an unsigned `dmax -= n` went below zero on the way (destination overrun: a C01 matter; the check does not use such inputs) -/
  wrapped : Bool := false
  deriving Repr, DecidableEq

/-- handler, then `return <failure>` -/
def failH : Prog Out := do handler; pure ⟨true, false⟩
/-- handle_error / handle_werror (wipe dest, call the handler), then `return <failure>` -/
def failCH : Prog Out := do clear; handler; pure ⟨true, false⟩

/-! ## the printf engine `safec_vsnprintf_s` (src/str/vsnprintf_s.c) -/

inductive EngRes | ok | fail | posErr
  deriving DecidableEq, Repr

/-- where a `%ls` directive leaves the engine (`none`: it completes) -/
inductive LsExit | none | argNull | conv | tooLong | prePad | out | postPad
  deriving DecidableEq, Repr
inductive PlainExit | none | handled | silent
  deriving DecidableEq, Repr

/-- one stretch of the format: `plain` = literal text and directives that do not allocate (with the
way they leave the engine, if they do); `fl follows err` = a `%Lf %Le %Lg %La %a` directive, `follows` =
more format text behind it (only then is the directive copied to the heap), `err` = writing its
characters failed; `ls x` = a `%ls` directive -/
inductive Seg
  | plain (x : PlainExit)
  | fl (follows err : Bool)
  | ls (x : LsExit)
  deriving DecidableEq, Repr

def stop (r : EngRes) : Prog (Option EngRes) := pure (some r)
def stopH (r : EngRes) : Prog (Option EngRes) := do handler; pure (some r)

/-- the tail of a float directive, after the format copy has been dealt with -/
def flTail (err : Bool) : Prog (Option EngRes) := if err then stopH .fail else pure none

/-- the part of `%ls` behind the successful malloc -/
def lsBody (fx : Fixes) (p : Option Blk) : LsExit → Prog (Option EngRes)
  | .conv => do
    deref p                                 -- err = wcstombs_s(&len, p, l + 1, lp, l);
    handler; handler                        -- wcstombs_s reports, then the engine reports
    if fx.lsconv then do free p; stop .fail
    else stop .posErr                       -- `return err;` -- a positive code, and p is not freed
  | .tooLong => do deref p; handler; free p; stop .fail
  | .prePad => do deref p; handler; free p; stop .fail
  | .out => do deref p; deref p; handler; free p; stop .fail
  | .postPad => do deref p; deref p; free p; stopH .fail
  | _ => do deref p; deref p; free p; pure none

/-- `none` = the engine goes on with the next piece of the format -/
def segProg (fx : Fixes) : Seg → Prog (Option EngRes)
  | .plain .none => pure none
  | .plain .handled => stopH .fail
  | .plain .silent => stop .fail
  | .fl false err => flTail err
  | .fl true err => do
    let s ← malloc                          -- char *s = (char *)malloc(off + 1);
    if fx.fmtcopy && s.isNone then stopH .fail
    else do
      deref s                               -- memcpy(s, startformat, off); s[off] = '\0';
      deref s                               -- safec_?toa*(..., s): snprintf(buf, 64, s, value)
      free s
      flTail err
  | .ls .argNull => stopH .fail
  | .ls x => do
    let p ← malloc                          -- p = (char *)malloc(l + 1);
    if p.isNone then stopH .fail            -- if (!p) { ...handler...; return -1; }
    else lsBody fx p x

def engine (fx : Fixes) : List Seg → Prog EngRes
  | [] => pure .ok
  | g :: rest => do
    match ← segProg fx g with
    | some r => pure r
    | none => engine fx rest

/-- the callers of the engine: `vsn` = sprintf_s, snprintf_s, vsnprintf_s (all are `_vsnprintf_s_chk`);
`vs full posGe` = vsprintf_s (`full`: the text fills dmax exactly, `posGe`: the positive code returned by a
failed `%ls` conversion is >= dmax); `stream` = printf_s, fprintf_s, vfprintf_s -/
inductive Wrap | vsn | vs (full posGe : Bool) | stream
  deriving DecidableEq, Repr

def wrapTail : Wrap → EngRes → Prog Out
  | .stream, r => pure ⟨r == .fail, false⟩
  | .vsn, r => if r == .fail then do clear; pure ⟨true, false⟩ else pure ⟨false, false⟩
  | .vs full posGe, r =>
    if r == .fail then do clear; pure ⟨true, false⟩
    else if (r == .ok && full) || (r == .posErr && posGe) then failCH
    else pure ⟨false, false⟩

def printfProg (fx : Fixes) (w : Wrap) (entryErr : Bool) (segs : List Seg) : Prog Out :=
  if entryErr then failH
  else do
    let r ← engine fx segs
    wrapTail w r

/-! ## the no-space probe of the wide printf functions (src/wchar/{swprintf_s,vswprintf_s,snwprintf_s,vsnwprintf_s}.c) -/

inductive WFn | sw | vsw | snw | vsnw
  deriving DecidableEq, Repr
/-- result of the probing `vswprintf`: negative, zero, `0 < r < dmax`, `r >= dmax` -/
inductive PR | neg | zero | small | large
  deriving DecidableEq, Repr

structure WFeat where
  entryErr : Bool     -- an entry check fails (no allocation is reached)
  fits : Bool         -- the first vswprintf(dest, dmax, ...) succeeds
  dmax1 : Bool        -- dmax == 1
  big : Bool          -- dmax >= 512: the probe buffer comes from malloc
  probe : PR
  deriving Repr

/-- swprintf_s / vswprintf_s after the probe: `if (ret > 0) goto nospc; ... else if (ret < 0) handle_werror` -/
def swTail : PR → Prog Out
  | .small | .large => failCH
  | .neg => failCH
  | .zero => pure ⟨false, false⟩
/-- snwprintf_s / vsnwprintf_s after the probe: truncate, or handle_werror for a negative result -/
def snwTail : PR → Prog Out
  | .neg => failCH
  | _ => pure ⟨false, false⟩

/-- `tmp = malloc(...); ret = vswprintf(tmp, ...); free(tmp);` with the check the fix adds -/
def probeUnchecked (fixed : Bool) (k : Prog Out) : Prog Out := do
  let tmp ← malloc
  if fixed && tmp.isNone then failCH
  else do
    deref tmp
    free tmp
    k

def wprobeProg (fx : Fixes) (f : WFn) (x : WFeat) : Prog Out :=
  if x.entryErr then failH
  else if x.fits then pure ⟨false, false⟩
  else match f with
  | .sw =>
    if x.dmax1 then failCH
    else if x.big then probeUnchecked fx.wprobe (swTail x.probe)
    else swTail x.probe
  | .vsw =>
    if !x.big then
      if x.dmax1 then failCH else swTail x.probe
    else do
      let tmp ← malloc                       -- malloc(RSIZE_MAX_WSTR * sizeof(wchar_t))
      if tmp.isNone then
        if fx.vswrep then failCH             -- fixed: handle_werror first
        else pure ⟨true, false⟩              -- if (!tmp) return -(ESNOSPC);
      else do
        deref tmp
        free tmp
        swTail x.probe
  | _ =>                                     -- snwprintf_s, vsnwprintf_s
    if !x.big then
      if x.dmax1 then do clear; pure ⟨false, false⟩     -- *dest = L'\0'; return 1;
      else snwTail x.probe
    else probeUnchecked fx.wprobe (snwTail x.probe)

/-! ## the two fold buffers of wcsicmp_s and wcsnatcmp_s (src/extwchar/{wcsicmp_s,wcsnatcmp_s}.c) -/

structure FoldFeat where
  entryErr : Bool
  fold : Bool        -- wcsicmp_s: always; wcsnatcmp_s: the fold_case argument
  fc1err : Bool      -- wcsfc_s(d1, 2*dmax, dest) returns an error (it reports it itself)
  fc2err : Bool
  finalErr : Bool    -- the comparison proper ends in an error exit (wcscmp_s error / ESUNTERM), handler called
  deriving Repr

/-- `wcsfc_s(d, ...)`: a null `d` is caught by its own CHK_DEST_NULL; result = "returned an error" -/
def wcsfc (d : Option Blk) (err : Bool) : Prog Bool :=
  if d.isNone then do handler; pure true
  else do
    deref d
    if err then do handler; pure true else pure false

def foldFinal (x : FoldFeat) : Prog Out :=
  if x.finalErr then failH else pure ⟨false, false⟩

def foldProg (x : FoldFeat) : Prog Out :=
  if x.entryErr then failH
  else if x.fold then do
    let d1 ← malloc
    let e1 ← wcsfc d1 x.fc1err
    if e1 then do free d1; pure ⟨true, false⟩
    else do
      let d2 ← malloc
      let e2 ← wcsfc d2 x.fc2err
      if e2 then do free d1; free d2; pure ⟨true, false⟩
      else do
        deref d1; deref d2
        let o ← foldFinal x
        free d1; free d2
        pure o
  else foldFinal x

/-! ## normalization: wcsnorm_reorder_s, wcsnorm_compose_s, wcsnorm_s (src/extwchar/wcsnorm_s.c) -/

/-- a buffer the function writes through: the caller's, or one that came from malloc -/
inductive Ptr | caller | heap (b : Option Blk)
  deriving DecidableEq, Repr
def touch : Ptr → Prog Unit
  | .caller => pure ()
  | .heap b => deref b

def CC_SEQ_SIZE : Nat := 10
def CC_SEQ_STEP : Nat := 5
def two64 : Nat := 18446744073709551616
/-- `dmax -= n` on a size_t (written so that symbolic evaluation never recurses on the 2^64 literal) -/
@[irreducible] def subw (d n : Nat) : Nat := (two64 + d - n % two64) % two64

structure Seq where
  ccPos : Nat := 0
  seqMax : Nat := CC_SEQ_SIZE
  ext : Option Blk := none     -- seq_ext
  useExt : Bool := false       -- seq_ptr == seq_ext
  dmax : Nat
  wrapped : Bool := false
  deriving Repr

/-- `n` cells written to dest: `dest += n; dmax -= n;` -/
def Seq.wrote (q : Seq) (n : Nat) : Seq :=
  { q with wrapped := q.wrapped || q.dmax < n, dmax := subw q.dmax n }

/-- the growth step shared by reorder and compose; `none` = the (fixed) code bailed out -/
def grow (fixed : Bool) (q : Seq) : Prog (Option Seq) :=
  if q.seqMax < q.ccPos + 1 then
    if q.ccPos == CC_SEQ_SIZE then do
      let e ← malloc                                   -- seq_ext = malloc(seq_max * sizeof ...)
      if fixed && e.isNone then pure none
      else do
        deref e                                        -- memcpy(seq_ext, seq_ary, ...)
        pure (some { q with seqMax := q.ccPos + CC_SEQ_STEP, ext := e, useExt := true })
    else do
      let e ← realloc q.ext                            -- seq_ext = realloc(seq_ext, ...)
      if fixed && e.isNone then do
        freeIf q.ext                                   -- fixed: the old block is released
        pure none
      else pure (some { q with seqMax := q.ccPos + CC_SEQ_STEP, ext := e, useExt := true })
  else pure (some q)

def useSeq (q : Seq) : Prog Unit := if q.useExt then deref q.ext else pure ()

/-- `seq_ptr[cc_pos] = ...; ++cc_pos;` with the growth in front -/
def collect (fixed : Bool) (q : Seq) : Prog (Option Seq) := do
  match ← grow fixed q with
  | none => pure none
  | some q' => do
    useSeq q'
    pure (some { q' with ccPos := q'.ccPos + 1 })

inductive Step | done (o : Out) | next (q : Seq) (valid : Bool)

/-- an ESNOSPC exit of reorder/compose: handle_werror, and (fixed) free(seq_ext) -/
def bail (fixed : Bool) (q : Seq) : Prog Step := do
  clear; handler
  if fixed then freeIf q.ext
  pure (.done ⟨true, q.wrapped⟩)

/-- the exit the fix adds for a failed malloc/realloc -/
def bailNoMem (q : Seq) : Prog Step := do
  clear; handler
  pure (.done ⟨true, q.wrapped⟩)

def checkRoom (fixed : Bool) (q : Seq) (valid : Bool) : Prog Step :=
  if q.dmax == 0 then bail fixed q else pure (.next q valid)

/-- reorder: the output part of one iteration -/
def reorderFlush (fixed : Bool) (dest : Ptr) (m : Bool) (q : Seq) : Prog Step :=
  let starter (q : Seq) : Prog Step :=
    if !m then do touch dest; checkRoom fixed (q.wrote 1) true
    else checkRoom fixed q true
  if q.ccPos != 0 then
    if q.dmax == q.ccPos then bail fixed q             -- if (dmax - cc_pos <= 0): ESNOSPC
    else do
      useSeq q                                         -- qsort, then the copy loop reads seq_ptr
      touch dest
      starter { q.wrote q.ccPos with ccPos := 0 }
  else starter q

/-- `m`: the cell is a combining mark (canonical combining class != 0); `last`: it is the last cell -/
def reorderStep (fixed : Bool) (dest : Ptr) (m last : Bool) (q : Seq) : Prog Step :=
  if m then do
    match ← collect fixed q with
    | none => bailNoMem q
    | some q' => if !last then pure (.next q' true) else reorderFlush fixed dest m q'
  else reorderFlush fixed dest m q

def reorderLoop (fixed : Bool) (dest : Ptr) : List Bool → Seq → Prog Out
  | [], q => do
    freeIf q.ext                                       -- if (seq_ext) free(seq_ext);
    touch dest                                         -- *dest = 0;
    pure ⟨false, q.wrapped⟩
  | m :: rest, q => do
    match ← reorderStep fixed dest m rest.isEmpty q with
    | .done o => pure o
    | .next q' _ => reorderLoop fixed dest rest q'

def reorderProg (fx : Fixes) (dest : Ptr) (dmax : Nat) (cells : List Bool) : Prog Out :=
  if dmax > Gen.RSIZE_MAX_WSTR then failH               -- CHK_DMAX_MAX
  else reorderLoop fx.reorder dest cells { dmax }

/-- compose: per source cell, `mark` = combining class != 0, `comp` = the cell is absorbed into the
current starter by canonical composition -/
structure CCell where
  mark : Bool
  comp : Bool
  deriving Repr, DecidableEq

/-- compose: output of the starter and the pending marks -/
def composeOut (fixed : Bool) (dest : Ptr) (q : Seq) : Prog Step := do
  touch dest                                           -- _ENC_W16(dest, dmax, cpS)
  let q := q.wrote 1
  if q.dmax == 0 then bail fixed q
  else if q.ccPos != 0 then do
    useSeq q
    touch dest
    pure (.next { q.wrote q.ccPos with ccPos := 0 } true)
  else pure (.next q true)

def composeStep (fixed : Bool) (dest src : Ptr) (c : CCell) (last valid : Bool) (q : Seq) : Prog Step := do
  touch src                                            -- cp = _dec_w16(p)
  if !valid then
    if !c.mark then
      if !last then pure (.next q true) else composeOut fixed dest q
    else do
      touch dest
      checkRoom fixed (q.wrote 1) false
  else if c.comp then
    if !last then pure (.next q true) else composeOut fixed dest q
  else if c.mark || last then do
    match ← collect fixed q with
    | none => bailNoMem q
    | some q' => if c.mark && !last then pure (.next q' true) else composeOut fixed dest q'
  else composeOut fixed dest q

def composeLoop (fixed : Bool) (dest src : Ptr) : List CCell → Bool → Seq → Prog Out
  | [], _, q => do
    freeIf q.ext
    touch dest                                         -- memset(dest, 0, ...) / *dest = 0
    pure ⟨false, q.wrapped⟩
  | c :: rest, valid, q => do
    match ← composeStep fixed dest src c rest.isEmpty valid q with
    | .done o => pure o
    | .next q' v => composeLoop fixed dest src rest v q'

def composeProg (fx : Fixes) (dest src : Ptr) (dmax : Nat) (cells : List CCell) : Prog Out :=
  if dmax > Gen.RSIZE_MAX_WSTR then failCH
  else composeLoop fx.compose dest src cells false { dmax }

inductive NormMode | nfd | nfc | fcd | fcc
  deriving DecidableEq, Repr

/-- wcsnorm_s: `decErr` = the decomposition step reports an error (before any allocation);
`len` = decomposed length; `rcells` = mark pattern of the decomposed text (the reorder step only
permutes marks inside runs, so the pattern is also that of the reordered text); `ccells` = the
composition features of the reordered text -/
structure NormFeat where
  decErr : Bool
  mode : NormMode
  dmax : Nat
  len : Nat
  rcells : List Bool
  ccells : List CCell
  deriving Repr

def tmpFree : Ptr → Prog Unit
  | .heap t => freeIf t                                -- if (tmp) free(tmp);
  | .caller => pure ()

/-- wcsnorm_s behind the scratch-buffer decision -/
def normBody (fx : Fixes) (x : NormFeat) (tmp : Ptr) : Prog Out := do
  let r ← reorderProg fx tmp (x.len + 2) x.rcells
  if r.failed then do
    tmpFree tmp
    clear
    pure ⟨true, r.wrapped⟩
  else if x.mode == .nfd then do
    touch tmp                                          -- memcpy(dest, tmp_ptr, ...)
    tmpFree tmp
    pure ⟨false, r.wrapped⟩
  else do
    let c ← composeProg fx .caller tmp x.dmax x.ccells
    tmpFree tmp
    pure ⟨c.failed, r.wrapped || c.wrapped⟩

def normProg (fx : Fixes) (x : NormFeat) : Prog Out :=
  if x.decErr then failCH
  else if x.mode == .fcd then pure ⟨false, false⟩
  else if x.len + 2 < 128 then normBody fx x .caller    -- tmp_stack
  else do
    let t ← malloc                                     -- tmp = malloc((len + 2) * sizeof(wchar_t))
    if fx.normtmp && t.isNone then failCH
    else normBody fx x (.heap t)

end SafeC.Alloc
