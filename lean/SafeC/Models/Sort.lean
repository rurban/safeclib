import SafeC.Gen.Consts
/-!
# Model of `src/misc/qsort_s.c` (musl smoothsort) and `src/misc/bsearch_s.c`

Element-index level: the array is an `Array α` of abstract elements (an element = `size` bytes of the C
array), "pointers" are element indices (`head - width - lp[k]` of the C is `head - 1 - lp[k]` here, with
`lp` the UNSCALED Leonardo numbers).  A pointer below `base` or an element index `≥ nmemb` is a `Fault`
(the harness puts the array between two `PROT_NONE` pages).  The fixed-size locals of the C are modelled
with their capacity: `lp[12*sizeof(size_t)]` = 96 entries, `ar[14*sizeof(size_t)+1]` = 113 entries; running
over them is a `Fault` too.  The two-word bit vector `p` is two `UInt64` with the x86 shift semantics
(count taken modulo 64), so the `p[1] << 64` the source comments on is executed as the hardware does.

The comparator is a parameter that may depend on the number of calls made so far and on the positions of
its arguments (so inconsistent / adversarial comparators are covered); every call is logged.

`cycle` is modelled twice: `cycle` (element rotation, used by the sort) and `cycleBytes` (the byte-level
program with the 256-byte `tmp` chunking); `Proofs/SortCycle.lean` proves the second equal to the first.

`Fixes` selects the code as it stood in the tree (`unrepaired`) or as repaired by `fixes/qsort_s-*.diff`
(one switch per diff); `current` is the ONE definition to flip when a fix is applied to /repo.
-/
namespace SafeC.Sort

structure Fixes where
  /-- `ntz` counts trailing zeros of the whole `size_t` word and is 0 for 0 (repaired);
      `false`: `__builtin_ctz` = the `int` builtin, i.e. the low 32 bits only (`tzcnt`: 32 for 0) -/
  ctz64 : Bool
  /-- known object size: `nmemb > basebos / size` (repaired); `false`: `nmemb * size` computed in `size_t` (wraps) -/
  ovf : Bool
  /-- `pntz` tests `p[1] != 0` itself before it answers `64 + ntz(p[1])` (repaired, `fixes/qsort_s-pntz-gap-64.diff`);
      `false`: it computes `r = 64 + ntz(p[1])` and takes `r == 64` for "no bit set in `p[1]`", which an odd `p[1]` gives too -/
  pntzGap : Bool
deriving DecidableEq, Repr

def unrepaired : Fixes := ⟨false, false, false⟩
/-- the first two repairs (whole-word `ntz`, unwrapped product) without the `pntz` one -/
def ntzOvfFixed : Fixes := ⟨true, true, false⟩
def allFixed : Fixes := ⟨true, true, true⟩
/-- the code of the tree the check runs against (`allFixed` once `fixes/qsort_s-pntz-gap-64.diff` is applied) -/
def current : Fixes := allFixed

inductive Fault
  | idx (i : Nat)     -- element index ≥ nmemb dereferenced
  | neg               -- pointer below `base`
  | lpIdx (i : Nat)   -- `lp[]` used outside the entries written / beyond its 96 entries
  | arIdx             -- `ar[]` (113 entries) overrun
  | wrap              -- scaled Leonardo number does not fit `size_t`
  | fuel              -- bsearch loop bound (never: see `bsearchLoop_any`); `cycleBytes` run with fewer rounds than chunks
deriving DecidableEq, Repr

/-- one comparator call: positions of the first and second argument, context pointer -/
structure Ev where
  i : Nat
  j : Nat
  ctx : Nat
deriving DecidableEq, Repr

structure St (α : Type) where
  a : Array α
  log : List Ev      -- newest first
  ncmp : Nat

structure Env (α : Type) where
  /-- call number, position of 1st argument, position of 2nd argument, the two elements -/
  cmp : Nat → Nat → Nat → α → α → Int
  ctx : Nat
  lp : Array Nat
  fx : Fixes
  trace : Bool

abbrev M := Except Fault

def sub (x y : Nat) : M Nat := if y ≤ x then .ok (x - y) else .error .neg

def lpAt (lp : Array Nat) (i : Nat) : M Nat :=
  match lp[i]? with
  | some v => .ok v
  | none => .error (.lpIdx i)

/-- `(*cmp)(base + i*width, base + j*width, ctx)` -/
def cmpAt (e : Env α) (s : St α) (i j : Nat) : M (Int × St α) :=
  if hi : i < s.a.size then
    if hj : j < s.a.size then
      .ok (e.cmp s.ncmp i j s.a[i] s.a[j],
           { s with log := if e.trace then ⟨i, j, e.ctx⟩ :: s.log else s.log, ncmp := s.ncmp + 1 })
    else .error (.idx j)
  else .error (.idx i)

def getE (a : Array α) (i : Nat) : M α :=
  if h : i < a.size then .ok a[i] else .error (.idx i)

def setE (a : Array α) (i : Nat) (v : α) : M (Array α) :=
  if h : i < a.size then .ok (a.set i v) else .error (.idx i)

/-- the `for (i = 0; i < n; i++) memcpy(ar[i], ar[i+1], l)` of `cycle` on whole elements, `ar[n] = tmp` -/
def cycleGo (a : Array α) (tmp : α) : List Nat → M (Array α)
  | [] => .ok a
  | [x] => setE a x tmp
  | x :: y :: rest => do
    let v ← getE a y
    let a ← setE a x v
    cycleGo a tmp (y :: rest)

/-- `cycle(width, ar, n)`: rotate the elements at positions `ar[0..n)` one step towards `ar[0]` -/
def cycle (s : St α) (ar : List Nat) : M (St α) :=
  match ar with
  | [] => .ok s
  | [_] => .ok s
  | x :: _ :: _ =>
    if ar.length > 112 then .error .arIdx else do     -- ar[n] = tmp
      let tmp ← getE s.a x
      let a ← cycleGo s.a tmp ar
      pure { s with a := a }

/-! ## the bit vector `p[2]` -/

structure PV where
  lo : UInt64
  hi : UInt64
deriving DecidableEq, Repr

def PV.one : PV := ⟨1, 0⟩

/-- `shl(p, n)`; x86: shift counts are taken modulo 64 -/
def shl (p : PV) (n : Nat) : PV :=
  let p1 : PV := if n ≥ 64 then ⟨0, p.lo⟩ else p
  let n1 := if n ≥ 64 then n - 64 else n
  let hi := p1.hi <<< n1.toUInt64
  let hi := hi ||| (p1.lo >>> (64 - n1).toUInt64)
  ⟨p1.lo <<< n1.toUInt64, hi⟩

/-- `shr(p, n)` -/
def shr (p : PV) (n : Nat) : PV :=
  let p1 : PV := if n ≥ 64 then ⟨p.hi, 0⟩ else p
  let n1 := if n ≥ 64 then n - 64 else n
  let lo := p1.lo >>> n1.toUInt64
  let lo := lo ||| (p1.hi <<< (64 - n1).toUInt64)
  ⟨lo, p1.hi >>> n1.toUInt64⟩

/-- trailing zeros of a positive number (`fuel` = word width) -/
def ctzAux : Nat → Nat → Nat
  | 0, _ => 0
  | f + 1, x => if x % 2 = 1 then 0 else 1 + ctzAux f (x / 2)

/-- `__builtin_ctz((unsigned)x)` as gcc -O0 compiles it here (`tzcnt %eax,%eax`): low 32 bits, 32 for 0 -/
def ctz32 (x : UInt64) : Nat :=
  let y := x.toNat % 2 ^ 32
  if y = 0 then 32 else ctzAux 32 y

/-- repaired `ntz`: whole word, 0 for 0 -/
def ctz64 (x : UInt64) : Nat :=
  if x = 0 then 0 else ctzAux 64 x.toNat

def ntz (fx : Fixes) (x : UInt64) : Nat := if fx.ctz64 then ctz64 x else ctz32 x

/-- `pntz(p)` -/
def pntz (fx : Fixes) (p : PV) : Nat :=
  let r := ntz fx (p.lo - 1)
  if r ≠ 0 then r else
  if fx.pntzGap then
    (if p.hi ≠ 0 then 64 + ntz fx p.hi else 0)          -- `if (p[1] != 0) return 8 * sizeof(size_t) + ntz(p[1]); return 0;`
  else
    let r := 64 + ntz fx p.hi
    if r ≠ 64 then r else 0

/-! ## sift / trinkle -/

/-- the `while (pshift > 1)` loop of `sift`; `acc` = `ar[0..i)` newest first, `room` = free entries of `ar` -/
def siftLoop (e : Env α) : (room : Nat) → St α → (ar0 head pshift : Nat) → (acc : List Nat) → M (St α × List Nat)
  | room, s, ar0, head, pshift, acc =>
    if pshift ≤ 1 then .ok (s, acc) else do
      let rt ← sub head 1
      let l ← lpAt e.lp (pshift - 2)
      let lf ← sub rt l
      let (c1, s) ← cmpAt e s ar0 lf
      let (stop, s) ← (if c1 ≥ 0 then do
                          let (c2, s) ← cmpAt e s ar0 rt
                          pure (decide (c2 ≥ 0), s)
                        else pure (false, s) : M (Bool × St α))
      if stop then .ok (s, acc) else do
        let (c3, s) ← cmpAt e s lf rt
        match room with
        | 0 => .error .arIdx
        | room + 1 =>
          if c3 ≥ 0 then siftLoop e room s ar0 lf (pshift - 1) (lf :: acc)
          else siftLoop e room s ar0 rt (pshift - 2) (rt :: acc)

def sift (e : Env α) (s : St α) (head pshift : Nat) : M (St α) := do
  let (s, acc) ← siftLoop e 112 s head head pshift [head]
  cycle s acc.reverse

/-- one round of the `while (p[0] != 1 || p[1] != 0)` loop of `trinkle` up to the decision:
    `some stepson` = go on with the stepson, `none` = `break` -/
def trinkleIter (e : Env α) (s : St α) (ar0 head pshift : Nat) (trusty : Bool) : M (St α × Option Nat) := do
  let l ← lpAt e.lp pshift
  let stepson ← sub head l
  let (c, s) ← cmpAt e s stepson ar0
  if c ≤ 0 then .ok (s, none) else do
    let (brk, s) ← (if !trusty ∧ pshift > 1 then do
                       let rt ← sub head 1
                       let l2 ← lpAt e.lp (pshift - 2)
                       let lf ← sub rt l2
                       let (c1, s) ← cmpAt e s rt stepson
                       if c1 ≥ 0 then pure (true, s) else do
                         let (c2, s) ← cmpAt e s lf stepson
                         pure (decide (c2 ≥ 0), s)
                     else pure (false, s) : M (Bool × St α))
    if brk then .ok (s, none) else .ok (s, some stepson)

/-- the loop of `trinkle`; `room` = free entries of `ar`; returns state, head, pshift, trusty, `ar` (newest first) -/
def trinkleLoop (e : Env α) : (room : Nat) → St α → (ar0 head : Nat) → PV → (pshift : Nat) → (trusty : Bool) →
    (acc : List Nat) → M (St α × Nat × Nat × Bool × List Nat)
  | 0, s, ar0, head, p, pshift, trusty, acc =>
    if p = PV.one then .ok (s, head, pshift, trusty, acc) else do
      let (s, step) ← trinkleIter e s ar0 head pshift trusty
      match step with
      | none => .ok (s, head, pshift, trusty, acc)
      | some _ => .error .arIdx                              -- ar[i++] beyond the array
  | room + 1, s, ar0, head, p, pshift, trusty, acc =>
    if p = PV.one then .ok (s, head, pshift, trusty, acc) else do
      let (s, step) ← trinkleIter e s ar0 head pshift trusty
      match step with
      | none => .ok (s, head, pshift, trusty, acc)
      | some stepson =>
        trinkleLoop e room s ar0 stepson (shr p (pntz e.fx p)) (pshift + pntz e.fx p) false (stepson :: acc)

def trinkle (e : Env α) (s : St α) (head : Nat) (p : PV) (pshift : Nat) (trusty : Bool) : M (St α) := do
  let (s, head, pshift, trusty, acc) ← trinkleLoop e 112 s head head p pshift trusty [head]
  if !trusty then do
    let s ← cycle s acc.reverse
    sift e s head pshift
  else pure s

/-! ## qsort_musl -/

/-- `for (lp[0] = lp[1] = width, i = 2; (lp[i] = lp[i-2] + lp[i-1] + width) < size; i++);`
    `a b` = the unscaled `lp[i-2] lp[i-1]`, `room` = 96 - i -/
def genLp (width size : Nat) : (room : Nat) → (a b : Nat) → Array Nat → M (Array Nat)
  | 0, _, _, _ => .error (.lpIdx 96)
  | room + 1, a, b, acc =>
    let c := a + b + 1
    if c * width ≥ 2 ^ 64 then .error .wrap else
    if c * width < size then genLp width size room b c (acc.push c) else .ok (acc.push c)

def mkLp (width size : Nat) : M (Array Nat) := genLp width size 94 1 1 #[1, 1]

/-- one round of `while (head < high)`, `k + 1 = high - head` (in elements) -/
def mainStep (e : Env α) (k : Nat) (s : St α) (head : Nat) (p : PV) (pshift : Nat) : M (St α × PV × Nat) := do
  let (s, p, pshift) ← (if p.lo &&& 3 = 3 then do
        let s ← sift e s head pshift
        pure (s, shr p 2, pshift + 2)
      else do
        let i ← sub pshift 1 |>.mapError (fun _ => Fault.lpIdx 0)       -- lp[pshift - 1]
        let l ← lpAt e.lp i
        let s ← if l ≥ k + 1 then trinkle e s head p pshift false else sift e s head pshift
        if pshift = 1 then pure (s, shl p 1, 0) else pure (s, shl p (pshift - 1), 1) : M (St α × PV × Nat))
  pure (s, ⟨p.lo ||| 1, p.hi⟩, pshift)

def mainLoop (e : Env α) : (k : Nat) → St α → (head : Nat) → PV → (pshift : Nat) → M (St α × PV × Nat)
  | 0, s, _, p, pshift => .ok (s, p, pshift)
  | k + 1, s, head, p, pshift => do
    let (s, p, pshift) ← mainStep e k s head p pshift
    mainLoop e k s (head + 1) p pshift

/-- body of the final `while (pshift != 1 || p[0] != 1 || p[1] != 0)` without the `head -= width` -/
def dismantleStep (e : Env α) (s : St α) (head : Nat) (p : PV) (pshift : Nat) : M (St α × PV × Nat) :=
  if pshift ≤ 1 then
    let trail := pntz e.fx p
    .ok (s, shr p trail, pshift + trail)
  else do
    let p := shl p 2
    let pshift := pshift - 2
    let p : PV := ⟨p.lo ^^^ 7, p.hi⟩
    let p := shr p 1
    let l ← lpAt e.lp pshift
    let h1 ← sub head l
    let h1 ← sub h1 1
    let s ← trinkle e s h1 p (pshift + 1) true
    let p := shl p 1
    let p : PV := ⟨p.lo ||| 1, p.hi⟩
    let h2 ← sub head 1
    let s ← trinkle e s h2 p pshift true
    pure (s, p, pshift)

def dismantle (e : Env α) : (head : Nat) → St α → PV → (pshift : Nat) → M (St α)
  | head, s, p, pshift =>
    if pshift = 1 ∧ p = PV.one then .ok s else do
      let (s, p, pshift) ← dismantleStep e s head p pshift
      match head with
      | 0 => .error .neg                       -- head -= width below base
      | h + 1 => dismantle e h s p pshift

/-- smoothsort of the first `n` elements, `n ≥ 1`, table `e.lp` already built -/
def smooth (e : Env α) (s : St α) (n : Nat) : M (St α) := do
  let (s, p, pshift) ← mainLoop e (n - 1) s 0 PV.one 1
  let s ← trinkle e s (n - 1) p pshift false
  dismantle e (n - 1) s p pshift

/-- what the comparator is, before the table exists -/
structure Cmp (α : Type) where
  cmp : Nat → Nat → Nat → α → α → Int
  ctx : Nat
  trace : Bool

/-- `qsort_musl(base, nel, width, cmp, ctx)`; `nel`, `width` are `size_t` values -/
def qsortMusl (fx : Fixes) (c : Cmp α) (s : St α) (nel width : Nat) : M (St α) :=
  let size := (width * nel) % 2 ^ 64
  if size = 0 then .ok s else do
    -- `high = head + size - width; while (head < high) head += width`: ⌈size/width⌉ elements, at least one
    let n := (size + width - 1) / width
    let lp ← mkLp width size
    smooth ⟨c.cmp, c.ctx, lp, fx, c.trace⟩ s n

/-! ## entry points -/

inductive HK | str | mem
deriving DecidableEq, Repr

structure Args where
  baseNull : Bool
  cmpNull : Bool
  keyNull : Bool
  nmemb : Nat
  size : Nat
  bos : Option Nat       -- `none` = BOS_UNKNOWN

structure Out (α : Type) (ρ : Type) where
  ret : ρ
  errno : Option Nat     -- bsearch_s only
  events : List (HK × Nat)
  st : St α

open SafeC.Gen in
/-- `_qsort_s_chk` -/
def qsortChk (fx : Fixes) (c : Cmp α) (g : Args) (s : St α) : M (Out α Nat) :=
  let fail (code : Nat) : M (Out α Nat) := .ok ⟨code, none, [(.str, code)], s⟩
  if g.nmemb ≠ 0 ∧ (g.baseNull ∨ g.cmpNull) then fail ESNULLP else
  let run : M (Out α Nat) := do
    let s ← qsortMusl fx c s g.nmemb g.size
    pure ⟨EOK, none, [], s⟩
  match g.bos with
  | none => if g.nmemb > RSIZE_MAX_MEM ∨ g.size > RSIZE_MAX_MEM then fail ESLEMAX else run
  | some b =>
    if fx.ovf then (if g.size ≠ 0 ∧ g.nmemb > b / g.size then fail ESNOSPC else run)
    else (if (g.nmemb * g.size) % 2 ^ 64 > b then fail ESNOSPC else run)

structure BCmp (α : Type) where
  /-- call number, position of the probed element, the element -/
  cmp : Nat → Nat → α → Int
  ctx : Nat
  trace : Bool

/-- `compar(key, base + i*size, context)`; logged with `i` in both position fields -/
def probe (c : BCmp α) (s : St α) (i : Nat) : M (Int × St α) :=
  if h : i < s.a.size then
    .ok (c.cmp s.ncmp i s.a[i],
         { s with log := if c.trace then ⟨i, i, c.ctx⟩ :: s.log else s.log, ncmp := s.ncmp + 1 })
  else .error (.idx i)

/-- the `while (nmemb > 0)` loop of `bsearch_s` -/
def bsearchLoop (c : BCmp α) : (fuel : Nat) → St α → (base nmemb : Nat) → M (Option Nat × St α)
  | 0, s, _, nmemb => if nmemb = 0 then .ok (none, s) else .error .fuel
  | f + 1, s, base, nmemb =>
    if nmemb = 0 then .ok (none, s) else do
      let i := base + nmemb / 2
      let (sign, s) ← probe c s i
      if sign = 0 then .ok (some i, s)
      else if nmemb = 1 then .ok (none, s)
      else if sign < 0 then bsearchLoop c f s base (nmemb / 2)
      else bsearchLoop c f s i (nmemb - nmemb / 2)

open SafeC.Gen in
/-- `_bsearch_s_chk`; result = position of the element returned -/
def bsearchChk (fx : Fixes) (c : BCmp α) (g : Args) (s : St α) : M (Out α (Option Nat)) :=
  let fail (code : Nat) : M (Out α (Option Nat)) := .ok ⟨none, some code, [(.mem, code)], s⟩
  if g.nmemb ≠ 0 ∧ (g.keyNull ∨ g.baseNull ∨ g.cmpNull) then fail ESNULLP else
  let run : M (Out α (Option Nat)) := do
    let (r, s) ← bsearchLoop c g.nmemb s 0 g.nmemb
    pure ⟨r, some 0, [], s⟩
  match g.bos with
  | none => if g.nmemb > RSIZE_MAX_MEM ∨ g.size > RSIZE_MAX_MEM then fail ESLEMAX else run
  | some b =>
    if fx.ovf then (if g.size ≠ 0 ∧ g.nmemb > b / g.size then fail ESNOSPC else run)
    else (if (g.nmemb * g.size) % 2 ^ 64 > b then fail ESNOSPC else run)

/-! ## byte-level `cycle` -/

/-- memory = the array bytes; `tmp` = the 256-byte scratch.  `loadTmp` then `chunkGo`: one round of the `while (width)`
loop: `memcpy(tmp, ar[0], l); for i: memcpy(ar[i], ar[i+1], l)` at byte offset `off` inside each element. -/
def copyBytes (mem : Array UInt8) (dst src l : Nat) : M (Array UInt8) :=
  match l with
  | 0 => .ok mem
  | l + 1 => do
    let mem ← copyBytes mem dst src l
    let v ← getE mem (src + l)
    setE mem (dst + l) v

/-- load `l` bytes at `src` into `tmp[0..l)` (`l ≤ 256` checked) -/
def loadTmp (mem : Array UInt8) (src l : Nat) : M (List UInt8) :=
  if l > 256 then .error (.idx 256) else
    (List.range l).mapM fun k => getE mem (src + k)

def storeTmp (mem : Array UInt8) (dst : Nat) : List UInt8 → M (Array UInt8)
  | [] => .ok mem
  | b :: bs => do
    let mem ← setE mem dst b
    storeTmp mem (dst + 1) bs

/-- the inner `for` of `cycle` for one chunk; `ptrs` = current `ar[0..n)` as byte addresses -/
def chunkGo (mem : Array UInt8) (tmp : List UInt8) (l : Nat) : List Nat → M (Array UInt8)
  | [] => .ok mem
  | [x] => storeTmp mem x tmp
  | x :: y :: rest => do
    let mem ← copyBytes mem x y l
    chunkGo mem tmp l (y :: rest)

/-- `cycle(width, ar, n)` on bytes; `fuel` ≥ number of chunks -/
def cycleBytes : (fuel : Nat) → Array UInt8 → (width : Nat) → (ptrs : List Nat) → M (Array UInt8)
  | 0, mem, width, _ => if width = 0 then .ok mem else .error .fuel
  | f + 1, mem, width, ptrs =>
    if ptrs.length < 2 then .ok mem else
    if width = 0 then .ok mem else do
      let l := if 256 < width then 256 else width
      let tmp ← loadTmp mem ptrs.head! l
      let mem ← chunkGo mem tmp l ptrs
      cycleBytes f mem (width - l) (ptrs.map (· + l))

end SafeC.Sort
