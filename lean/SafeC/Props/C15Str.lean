import SafeC.Props.C15
import SafeC.Proofs.ConvQuery
/-!
# C15 — string level: query-then-convert and the round trip through the wrappers

* **Query then convert.**  The size query `f_s(&n, NULL, 0, src, len)` stores `n` through `retvalp`.  For ANY terminated source
  (valid or not): whenever that `n` is a count (i.e. the converting call below is sane with `n < dmax`, which excludes
  `(size_t)-1`), the source IS valid, `n` is the number of characters (bytes) of its conversion, and the converting form
  with the same source, any `dmax > n` (in particular `n + 1`) and any `len ≥ n` returns EOK with count `n`, dest = the
  `n` converted cells followed by the terminator, nothing stored outside `dest[0..dmax)`.  The hypothesis is weaker than
  "the query returned EOK": `wcstombs_s`/`wcsrtombs_s` answer a successful query with ESNOSPC (`dmax = 0`), the tree's own
  tests expect that, so the code of the query is deliberately not used.
* **Round trip.**  `wcstombs_s` into a buffer that is large enough, then `mbstowcs_s` on that buffer: both EOK, the wide
  string comes back unchanged, for every list of non-zero encodable wide characters, both locales.

Every theorem: every configuration `cfg` (slack build, locale, every combination of repairs — `current = allFixed` included),
every dest content and size, every `len`/`dmax` allowed by the hypotheses, no bound on string lengths.  Where the code
as it was before the repairs fails (empty wide string: `wcstombs-empty-source-rejected`) the hypothesis names the repair.
-/
namespace SafeC.Props.C15
open SafeC.Conv SafeC.Gen SafeC.Conv.Libc

/-- the arguments of a size query: `dest = NULL`, `dmax = 0`, a terminated source -/
structure QueryS (a : SArgs) (mem : List Nat) : Prop where
  rv : a.retvalNull = false
  sp : a.srcpNull = false
  ps : a.psNull = false
  al : a.alias = false
  dest : a.dest = none
  dmax : a.dmax = 0
  src : a.src = some mem
  term : 0 ∈ mem

example : QueryS { dest := none, dmax := 0, src := some [0x61, 0xE2, 0x82, 0xAC, 0], len := 0 } [0x61, 0xE2, 0x82, 0xAC, 0] :=
  ⟨rfl, rfl, rfl, rfl, rfl, rfl, rfl, by decide⟩

theorem Delivered_congr {o : Out} {cells : List Nat} {dmax : Nat} {r r' : LR} {t : Bool} (h : Delivered o cells dmax r t)
    (h1 : r.ret = r'.ret) (h2 : r.out.take r.ret = r'.out.take r'.ret) : Delivered o cells dmax r' t := by
  obtain ⟨a, b, c, d, hd, e1, e2, e3, e4, e5⟩ := h
  exact ⟨a, by rw [b, h1], c, d, hd, e1, e2, e3, by rw [← h1, e4, h2, h1], by rw [← h1]; exact e5⟩

theorem le_libcLen (cfg : Cfg) (a : SArgs) (n : Nat) (hd : n < a.dmax) (hl : n ≤ a.len) : n ≤ libcLen cfg a := by
  unfold libcLen; split <;> omega

private theorem libcLen_query (cfg : Cfg) (a : SArgs) (h : a.dest = none) : libcLen cfg a = a.len := by
  simp [libcLen, h]

/-! ## what the query forms store through `retvalp` -/

theorem mbstowcs_s_query_retval (cfg : Cfg) (a : SArgs) {mem} (hq : QueryS a mem) :
    (mbstowcs_s cfg a).retval = some (Libc.mbstowcs cfg.loc true mem a.len).ret := by
  simp [mbstowcs_s, hq.rv, hq.src, mkD, hq.dest, hq.al, libcLen_query cfg a hq.dest, tailW, hq.dmax]

/-- the query of the restartable form moves neither `*srcp` nor `*ps`, whatever the entry state -/
theorem mbsrtowcs_s_query_retval (cfg : Cfg) (a : SArgs) {mem} (hq : QueryS a mem) :
    (mbsrtowcs_s cfg a).retval = some (Libc.mbsrtowcs cfg.loc true mem a.len a.ps).ret ∧
      (mbsrtowcs_s cfg a).src = some 0 ∧ (mbsrtowcs_s cfg a).st = a.ps := by
  have h1 : (Libc.mbsrtowcs cfg.loc true mem a.len a.ps).src = some 0 ∧ (Libc.mbsrtowcs cfg.loc true mem a.len a.ps).st = a.ps := by
    simp only [Libc.mbsrtowcs, ↓reduceIte]; split <;> exact ⟨rfl, rfl⟩
  simp [mbsrtowcs_s, hq.rv, hq.ps, hq.sp, hq.src, mkD, hq.dest, hq.al, libcLen_query cfg a hq.dest, tailW, hq.dmax, h1.1, h1.2]

theorem wcstombs_s_query_retval (cfg : Cfg) (a : SArgs) {mem} (hq : QueryS a mem) :
    (wcstombs_s cfg a).retval = some (Libc.wcstombs cfg.loc true mem a.len).ret := by
  simp only [wcstombs_s, hq.rv, Bool.false_eq_true, ↓reduceIte, mkD, hq.dest, Option.map_none, hq.src, hq.al,
    libcLen_query cfg a hq.dest, Option.isNone_none, tailB, hq.dmax, Nat.not_lt_zero, decide_false, Bool.and_false]

theorem wcsrtombs_s_query_retval (cfg : Cfg) (a : SArgs) {mem} (hq : QueryS a mem) :
    (wcsrtombs_s cfg a).retval = some (Libc.wcsrtombs cfg.loc true mem a.len).ret ∧ (wcsrtombs_s cfg a).src = some 0 := by
  have h1 : (Libc.wcsrtombs cfg.loc true mem a.len).src = some 0 := by
    simp only [Libc.wcsrtombs, ↓reduceIte]; split <;> rfl
  simp only [wcsrtombs_s, hq.rv, hq.ps, hq.sp, Bool.false_eq_true, ↓reduceIte, mkD, hq.dest, Option.map_none, hq.src, hq.al,
    libcLen_query cfg a hq.dest, Option.isNone_none, tailB, hq.dmax, Nat.not_lt_zero, decide_false, Bool.and_false, h1]
  trivial

private theorem mbs_query_eilseq (loc : Locale) (mem : List Nat) (len : Nat) (ps : List Nat)
    (h : (Libc.mbsrtowcs loc true mem len ps).ret ≠ SIZE_MAX) : (Libc.mbsrtowcs loc true mem len ps).eilseq = false := by
  simp only [Libc.mbsrtowcs, ↓reduceIte] at h ⊢
  generalize gconvMb loc ps (List.take (strlen mem + 1) mem) ((List.take (strlen mem + 1) mem).length + 1) = g at h ⊢
  cases hs : g.status <;> simp [hs] at h ⊢

private theorem wcs_query_eilseq (loc : Locale) (mem : List Nat) (len : Nat)
    (h : (Libc.wcsrtombs loc true mem len).ret ≠ SIZE_MAX) : (Libc.wcsrtombs loc true mem len).eilseq = false := by
  simp only [Libc.wcsrtombs, ↓reduceIte] at h ⊢
  generalize gconvWc loc (List.take (strlen mem + 1) mem) (6 * (List.take (strlen mem + 1) mem).length + 1) = g at h ⊢
  cases hs : g.status <;> simp [hs] at h ⊢

/-! ## a valid source whose conversion fits is delivered whole -/

private theorem wcstombs_s_valid (cfg : Cfg) (ws bs tail : List Nat) (hE : encodeAll cfg.loc ws = some bs) (hz : ∀ c ∈ ws, c ≠ 0)
    (hpos : 0 < bs.length ∨ cfg.fx.zero = true) (a : SArgs) (cells : List Nat) (hs : SaneS a cells (ws ++ 0 :: tail))
    (hd : bs.length < a.dmax) (hl : bs.length ≤ a.len) :
    Delivered (wcstombs_s cfg a) cells a.dmax ⟨bs, bs.length, none, [], false⟩ true := by
  obtain ⟨g1, g2, _⟩ := wcsrtombs_valid_ge cfg.loc ws bs tail hE hz (libcLen cfg a) (le_libcLen cfg a _ hd hl)
  have hdel := wcstombs_s_C15 cfg a hs (by show (Libc.wcsrtombs _ _ _ _).ret < _; rw [g1]; exact hd)
    (by show 0 < (Libc.wcsrtombs _ _ _ _).ret ∨ _; rw [g1]; exact hpos)
  refine Delivered_congr hdel g1 ?_
  show (Libc.wcsrtombs _ _ _ _).out.take (Libc.wcsrtombs _ _ _ _).ret = _
  rw [g1, g2]; simp

private theorem mbstowcs_s_valid (cfg : Cfg) (ws bs tail : List Nat) (hE : encodeAll cfg.loc ws = some bs) (hz : ∀ c ∈ ws, c ≠ 0)
    (a : SArgs) (cells : List Nat) (hs : SaneS a cells (bs ++ 0 :: tail))
    (hd : ws.length < a.dmax) (hl : ws.length ≤ a.len) :
    Delivered (mbstowcs_s cfg a) cells a.dmax ⟨ws, ws.length, none, [], false⟩ true := by
  obtain ⟨g1, g2, _, _⟩ := mbsrtowcs_valid_ge cfg.loc ws bs tail hE hz (libcLen cfg a) (le_libcLen cfg a _ hd hl)
  have hdel := mbstowcs_s_C15 cfg a hs (by show (Libc.mbsrtowcs _ _ _ _ _).ret < _; rw [g1]; exact hd)
  refine Delivered_congr hdel g1 ?_
  show (Libc.mbsrtowcs _ _ _ _ _).out.take (Libc.mbsrtowcs _ _ _ _ _).ret = _
  rw [g1, g2]; simp

/-! ## query, then convert -/

/-- **mbstowcs_s(&n, NULL, 0, src, _) then mbstowcs_s(&m, dest, dmax > n, src, len ≥ n)**: the source is valid, `m = n`,
EOK, dest = the `n` wide characters of the source + terminator -/
theorem mbstowcs_s_query_then_convert (cfg : Cfg) (aq : SArgs) (mem : List Nat) (hq : QueryS aq mem) (n : Nat)
    (hn : (mbstowcs_s cfg aq).retval = some n)
    (a : SArgs) (cells : List Nat) (hs : SaneS a cells mem) (hd : n < a.dmax) (hl : n ≤ a.len) :
    ∃ ws bs tail, mem = bs ++ 0 :: tail ∧ encodeAll cfg.loc ws = some bs ∧ ws.length = n ∧
      Delivered (mbstowcs_s cfg a) cells a.dmax ⟨ws, n, none, [], false⟩ true := by
  rw [mbstowcs_s_query_retval cfg aq hq] at hn
  have hn' : (Libc.mbsrtowcs cfg.loc true mem aq.len []).ret = n := Option.some.inj hn
  have hei := mbs_query_eilseq cfg.loc mem aq.len [] (by rw [hn']; exact C15.lt_dmax_ne_max hs.dmaxle hd)
  obtain ⟨ws, bs, tail, rfl, hE, hz, hr⟩ := mbs_query_valid cfg.loc mem aq.len hq.term hei
  rw [hr] at hn'
  subst hn'
  exact ⟨ws, bs, tail, rfl, hE, rfl, mbstowcs_s_valid cfg ws bs tail hE hz a cells hs hd hl⟩

/-- **mbsrtowcs_s entered with ANY genuine conversion state.**  `*ps` on entry: initial, or the bytes of a character cut by an
earlier call (an incomplete sequence: `body loc ps = .incomplete`; in locale C only the initial state is genuine).  The query
leaves `*srcp` and `*ps` untouched (`mbsrtowcs_s_query_retval`), so the converting call is entered with the same state: the
source behind the state is valid, `m = n`, EOK, dest = the `n` wide characters + terminator, `*ps` initial afterwards; with
`len > n` also `*srcp = NULL` -/
theorem mbsrtowcs_s_query_then_convert_st (cfg : Cfg) (aq : SArgs) (mem : List Nat) (hq : QueryS aq mem)
    (hgen : aq.ps = [] ∨ body cfg.loc aq.ps = .incomplete)
    (n : Nat) (hn : (mbsrtowcs_s cfg aq).retval = some n)
    (a : SArgs) (cells : List Nat) (hs : SaneS a cells mem) (hps' : a.ps = aq.ps) (hd : n < a.dmax) (hl : n ≤ a.len) :
    ∃ ws bs tail, aq.ps ++ mem = bs ++ 0 :: tail ∧ encodeAll cfg.loc ws = some bs ∧ ws.length = n ∧
      Delivered (mbsrtowcs_s cfg a) cells a.dmax ⟨ws, n, none, [], false⟩ true ∧
      (mbsrtowcs_s cfg a).st = [] ∧ (n < libcLen cfg a → (mbsrtowcs_s cfg a).src = none) := by
  rw [(mbsrtowcs_s_query_retval cfg aq hq).1] at hn
  have hn' : (Libc.mbsrtowcs cfg.loc true mem aq.len aq.ps).ret = n := Option.some.inj hn
  have hei := mbs_query_eilseq cfg.loc mem aq.len aq.ps (by rw [hn']; exact C15.lt_dmax_ne_max hs.dmaxle hd)
  obtain ⟨ws, bs, tail, hmem, hE, hz, hpend, hr⟩ := mbs_query_valid_st cfg.loc mem aq.len aq.ps hq.term hgen hei
  rw [hr] at hn'
  subst hn'
  obtain ⟨g1, g2, g3, g4⟩ := mbsrtowcs_valid_ge_st cfg.loc ws bs tail aq.ps mem hE hz hmem hpend (libcLen cfg a)
    (le_libcLen cfg a _ hd hl)
  obtain ⟨hdel, hsrc, hst⟩ := mbsrtowcs_s_C15 cfg a hs (by rw [hps', g1]; exact hd)
  rw [hps'] at hdel hsrc hst
  exact ⟨ws, bs, tail, hmem, hE, rfl, Delivered_congr hdel g1 (by rw [g1, g2]; simp), by rw [hst, g3], fun h => by rw [hsrc, g4 h]⟩

/-- the hypotheses are satisfiable with a pending state: `*ps` holds `E2 82`, the source continues `AC 41 00` -/
example : body .UTF8 [0xE2, 0x82] = .incomplete ∧
    (mbsrtowcs_s { loc := .UTF8 } { dest := none, dmax := 0, src := some [0xAC, 0x41, 0], len := 0, ps := [0xE2, 0x82] }).retval = some 2 := by
  decide

/-- **mbsrtowcs_s**, initial entry state: the same, and `*ps` is initial afterwards; with `len > n` also `*srcp = NULL`
(the query itself moves neither `*srcp` nor `*ps`: `mbsrtowcs_s_query_retval`) -/
theorem mbsrtowcs_s_query_then_convert (cfg : Cfg) (aq : SArgs) (mem : List Nat) (hq : QueryS aq mem) (hps : aq.ps = [])
    (n : Nat) (hn : (mbsrtowcs_s cfg aq).retval = some n)
    (a : SArgs) (cells : List Nat) (hs : SaneS a cells mem) (hps' : a.ps = []) (hd : n < a.dmax) (hl : n ≤ a.len) :
    ∃ ws bs tail, mem = bs ++ 0 :: tail ∧ encodeAll cfg.loc ws = some bs ∧ ws.length = n ∧
      Delivered (mbsrtowcs_s cfg a) cells a.dmax ⟨ws, n, none, [], false⟩ true ∧
      (mbsrtowcs_s cfg a).st = [] ∧ (n < libcLen cfg a → (mbsrtowcs_s cfg a).src = none) := by
  obtain ⟨ws, bs, tail, h1, h2⟩ := mbsrtowcs_s_query_then_convert_st cfg aq mem hq (.inl hps) n hn a cells hs (by rw [hps', hps]) hd hl
  exact ⟨ws, bs, tail, by simpa [hps] using h1, h2⟩

/-- **wcstombs_s(&n, NULL, 0, src, _) then wcstombs_s(&m, dest, dmax > n, src, len ≥ n)**: the source is encodable, `m = n`,
EOK, dest = the `n` bytes + terminator.  `n = 0` (empty wide string) needs the `zero` repair (`wcstombs_s_empty_witness`). -/
theorem wcstombs_s_query_then_convert (cfg : Cfg) (aq : SArgs) (mem : List Nat) (hq : QueryS aq mem) (n : Nat)
    (hn : (wcstombs_s cfg aq).retval = some n)
    (a : SArgs) (cells : List Nat) (hs : SaneS a cells mem) (hd : n < a.dmax) (hl : n ≤ a.len)
    (hpos : 0 < n ∨ cfg.fx.zero = true) :
    ∃ ws bs tail, mem = ws ++ 0 :: tail ∧ encodeAll cfg.loc ws = some bs ∧ bs.length = n ∧
      Delivered (wcstombs_s cfg a) cells a.dmax ⟨bs, n, none, [], false⟩ true := by
  rw [wcstombs_s_query_retval cfg aq hq] at hn
  have hn' : (Libc.wcsrtombs cfg.loc true mem aq.len).ret = n := Option.some.inj hn
  have hei := wcs_query_eilseq cfg.loc mem aq.len (by rw [hn']; exact C15.lt_dmax_ne_max hs.dmaxle hd)
  obtain ⟨ws, bs, tail, rfl, hE, hz, hr⟩ := wcs_query_valid cfg.loc mem aq.len hq.term hei
  rw [hr] at hn'
  subst hn'
  exact ⟨ws, bs, tail, rfl, hE, rfl, wcstombs_s_valid cfg ws bs tail hE hz hpos a cells hs hd hl⟩

/-- **wcsrtombs_s**: the same (terminator: slack build or `term` repair, as in `wcsrtombs_s_C15`); `len > n` ⇒ `*srcp = NULL` -/
theorem wcsrtombs_s_query_then_convert (cfg : Cfg) (aq : SArgs) (mem : List Nat) (hq : QueryS aq mem) (n : Nat)
    (hn : (wcsrtombs_s cfg aq).retval = some n)
    (a : SArgs) (cells : List Nat) (hs : SaneS a cells mem) (hd : n < a.dmax) (hl : n ≤ a.len)
    (hpos : 0 < n ∨ cfg.fx.zero = true) :
    ∃ ws bs tail, mem = ws ++ 0 :: tail ∧ encodeAll cfg.loc ws = some bs ∧ bs.length = n ∧
      Delivered (wcsrtombs_s cfg a) cells a.dmax ⟨bs, n, none, [], false⟩ (cfg.slack || cfg.fx.term) ∧
      (n < libcLen cfg a → (wcsrtombs_s cfg a).src = none) := by
  rw [(wcsrtombs_s_query_retval cfg aq hq).1] at hn
  have hn' : (Libc.wcsrtombs cfg.loc true mem aq.len).ret = n := Option.some.inj hn
  have hei := wcs_query_eilseq cfg.loc mem aq.len (by rw [hn']; exact C15.lt_dmax_ne_max hs.dmaxle hd)
  obtain ⟨ws, bs, tail, rfl, hE, hz, hr⟩ := wcs_query_valid cfg.loc mem aq.len hq.term hei
  rw [hr] at hn'
  subst hn'
  obtain ⟨g1, g2, g3⟩ := wcsrtombs_valid_ge cfg.loc ws bs tail hE hz (libcLen cfg a) (le_libcLen cfg a _ hd hl)
  obtain ⟨hdel, hsrc⟩ := wcsrtombs_s_C15 cfg a hs (by rw [g1]; exact hd) (by rw [g1]; exact hpos)
  refine ⟨ws, bs, tail, rfl, hE, rfl, Delivered_congr hdel g1 (by rw [g1, g2]; simp), ?_⟩
  intro h; rw [hsrc, g3 h]

/-! ## round trip through the wrappers -/

private theorem cells_split (l a : List Nat) (n : Nat) (h1 : l.take n = a) (h3 : l[n]? = some 0) :
    l = a ++ 0 :: l.drop (n + 1) := by
  have hlt : n < l.length := (List.getElem?_eq_some_iff.mp h3).1
  have hget : l[n] = 0 := (List.getElem?_eq_some_iff.mp h3).2
  rw [← h1, ← hget, ← List.drop_eq_getElem_cons hlt, List.take_append_drop]

/-- **wide → multibyte → wide through the wrappers.**  `ws`: any list of non-zero encodable wide characters (bytes `bs`).
First call: `wcstombs_s` on `ws ++ 0 :: _` with `dmax > |bs|`, `len ≥ |bs|`: EOK, count `|bs|`, dest = `bs`, NUL.  Second
call: `mbstowcs_s` whose source IS the first call's destination object, `dmax > |ws|`, `len ≥ |ws|`: EOK, count `|ws|`,
dest = `ws`, NUL.  (`ws = []` needs the `zero` repair for the first call.) -/
theorem wcstombs_s_mbstowcs_s_roundtrip (cfg : Cfg) (ws bs : List Nat) (hE : encodeAll cfg.loc ws = some bs)
    (hz : ∀ c ∈ ws, c ≠ 0) (hne : ws ≠ [] ∨ cfg.fx.zero = true)
    (a1 : SArgs) (cells1 tail1 : List Nat) (hs1 : SaneS a1 cells1 (ws ++ 0 :: tail1))
    (hd1 : bs.length < a1.dmax) (hl1 : bs.length ≤ a1.len) :
    Delivered (wcstombs_s cfg a1) cells1 a1.dmax ⟨bs, bs.length, none, [], false⟩ true ∧
    ∀ d1, (wcstombs_s cfg a1).dest = some d1 →
      ∀ (a2 : SArgs) (cells2 : List Nat), SaneS a2 cells2 d1.cells → ws.length < a2.dmax → ws.length ≤ a2.len →
        Delivered (mbstowcs_s cfg a2) cells2 a2.dmax ⟨ws, ws.length, none, [], false⟩ true := by
  have hpos : 0 < bs.length ∨ cfg.fx.zero = true := by
    rcases hne with h | h
    · left
      have := encodeAll_length_ge cfg.loc ws bs hE
      have := List.length_pos_iff.mpr h
      omega
    · right; exact h
  have hdel1 := wcstombs_s_valid cfg ws bs tail1 hE hz hpos a1 cells1 hs1 hd1 hl1
  refine ⟨hdel1, ?_⟩
  intro d1 hd1eq a2 cells2 hs2 hd2 hl2
  obtain ⟨_, _, _, d, hdd, _, _, _, htake, hterm⟩ := hdel1
  rw [hd1eq] at hdd; cases hdd
  have hcells : d1.cells = bs ++ 0 :: d1.cells.drop (bs.length + 1) :=
    cells_split d1.cells bs bs.length (by simpa using htake) (hterm rfl)
  rw [hcells] at hs2
  exact mbstowcs_s_valid cfg ws bs _ hE hz a2 cells2 hs2 hd2 hl2

/-- the restartable pair: `wcsrtombs_s` then `mbsrtowcs_s` (initial state); the first call's terminator needs the slack
build or the `term` repair (`wcsrtombs_s_terminated_witness`) -/
theorem wcsrtombs_s_mbsrtowcs_s_roundtrip (cfg : Cfg) (ws bs : List Nat) (hE : encodeAll cfg.loc ws = some bs)
    (hz : ∀ c ∈ ws, c ≠ 0) (hne : ws ≠ [] ∨ cfg.fx.zero = true) (hterm : (cfg.slack || cfg.fx.term) = true)
    (a1 : SArgs) (cells1 tail1 : List Nat) (hs1 : SaneS a1 cells1 (ws ++ 0 :: tail1))
    (hd1 : bs.length < a1.dmax) (hl1 : bs.length ≤ a1.len) :
    Delivered (wcsrtombs_s cfg a1) cells1 a1.dmax ⟨bs, bs.length, none, [], false⟩ true ∧
    ∀ d1, (wcsrtombs_s cfg a1).dest = some d1 →
      ∀ (a2 : SArgs) (cells2 : List Nat), SaneS a2 cells2 d1.cells → a2.ps = [] → ws.length < a2.dmax → ws.length ≤ a2.len →
        Delivered (mbsrtowcs_s cfg a2) cells2 a2.dmax ⟨ws, ws.length, none, [], false⟩ true ∧ (mbsrtowcs_s cfg a2).st = [] := by
  obtain ⟨g1, g2, _⟩ := wcsrtombs_valid_ge cfg.loc ws bs tail1 hE hz (libcLen cfg a1) (le_libcLen cfg a1 _ hd1 hl1)
  have hpos : 0 < bs.length ∨ cfg.fx.zero = true := by
    rcases hne with h | h
    · left
      have := encodeAll_length_ge cfg.loc ws bs hE
      have := List.length_pos_iff.mpr h
      omega
    · right; exact h
  obtain ⟨hdel, _⟩ := wcsrtombs_s_C15 cfg a1 hs1 (by rw [g1]; exact hd1) (by rw [g1]; exact hpos)
  rw [hterm] at hdel
  have hdel1 : Delivered (wcsrtombs_s cfg a1) cells1 a1.dmax ⟨bs, bs.length, none, [], false⟩ true :=
    Delivered_congr hdel g1 (by rw [g1, g2]; simp)
  refine ⟨hdel1, ?_⟩
  intro d1 hd1eq a2 cells2 hs2 hps hd2 hl2
  obtain ⟨_, _, _, d, hdd, _, _, _, htake, htm⟩ := hdel1
  rw [hd1eq] at hdd; cases hdd
  have hcells : d1.cells = bs ++ 0 :: d1.cells.drop (bs.length + 1) :=
    cells_split d1.cells bs bs.length (by simpa using htake) (htm rfl)
  obtain ⟨k1, k2, k3, _⟩ := mbsrtowcs_valid_ge cfg.loc ws bs (d1.cells.drop (bs.length + 1)) hE hz (libcLen cfg a2)
    (le_libcLen cfg a2 _ hd2 hl2)
  rw [← hcells] at k1 k2 k3
  obtain ⟨hdel2, _, hst⟩ := mbsrtowcs_s_C15 cfg a2 hs2 (by rw [hps, k1]; exact hd2)
  rw [hps] at hdel2 hst
  exact ⟨Delivered_congr hdel2 k1 (by rw [k1, k2]; simp), by rw [hst, k3]⟩

/-! Illustrations (tests on one input, kernel-evaluated; the theorems above are the general statements) -/
example :
    let o1 := wcstombs_s { slack := false, loc := .UTF8 } { dest := some [9, 9, 9, 9, 9, 9, 9, 9, 9], dmax := 9, src := some [0x61, 0x20AC, 0x1F600, 0], len := 9 }
    o1.ret = EOK ∧ o1.retval = some 8 ∧ o1.dest.map (·.cells) = some [0x61, 0xE2, 0x82, 0xAC, 0xF0, 0x9F, 0x98, 0x80, 0] ∧
    let o2 := mbstowcs_s { slack := false, loc := .UTF8 } { dest := some [9, 9, 9, 9], dmax := 4, src := o1.dest.map (·.cells), len := 4 }
    o2.ret = EOK ∧ o2.retval = some 3 ∧ o2.dest.map (·.cells) = some [0x61, 0x20AC, 0x1F600, 0] := by decide
example : (mbstowcs_s { loc := .UTF8 } { dest := none, dmax := 0, src := some [0x61, 0xE2, 0x82, 0xAC, 0], len := 0 }).retval = some 2 := by decide

end SafeC.Props.C15
