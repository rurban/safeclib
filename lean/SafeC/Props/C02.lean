import SafeC.Proofs.Footprint
/-!
# C02 — no read outside what the caller declared readable: the vocabulary of the statements and the generic theorem

The statements per function family are in `Props/C02<Family>.lean`; almost all are `runs_of_AccS` / `runs_of_Acc` / `runs_of_AccD` applied to
the family's footprint walks (the `Proofs/Acc*.lean` files; their names follow the walks, not the `C02<Family>` files).  The others:
`asctime_s_C02` / `ctime_s_C02` go through `runs_of_within2` and the `C12Time` footprints; the valid-argument `strcpy_s_C02`, `wcscpy_s_C02`,
`strncpy_s_C02`, `strcat_s_C02` read the exact run (`strcpyG_disjoint` and siblings); `wcase_s_C02_partial` calls `.sound` itself (it keeps the
frame conjunct), and its walks `Acc_wcaseLoop` / `Acc_wcase_s` stand in `C02WCase.lean`, as do the walks of `wcsnlen_s`, `memchr_s`, `memcmpG` in
`C02Query.lean`.

`Runs`, `Rd`/`Wr`, `Term`, `StrWr`, the bridges from the three footprint judgements (`Acc`, `AccD`, `AccS`) to a run on a
state in which only the footprint is mapped, and the window states used by witnesses and non-vacuity examples.
-/
namespace SafeC.Props.C02
open SafeC

/-- the run recorded no access outside what the caller declared (`St.strays` is the log of such accesses) -/
def NoStray (st st' : St) : Prop := st'.strays = st.strays

/-- the call returns and records no stray access -/
def Runs {α} (p : Prog α) (st : St) : Prop := ∃ r st', exec p st = .ok (r, st') ∧ NoStray st st'

/-- mapped and declared readable -/
def Rd (st : St) (a : Nat) : Prop := st.mapped a = true ∧ st.rd a = true

/-- mapped and declared writable -/
def Wr (st : St) (a : Nat) : Prop := st.mapped a = true ∧ st.wr a = true

theorem runs_of_AccS {α} {p : Prog α} {Q : α → (Nat → Nat) → Prop} {st : St} (h : AccS (Rd st) (Wr st) st.data p Q) :
    Runs p st := by
  obtain ⟨r, st', he, _, hs⟩ := h.sound st rfl (fun _ h => h) (fun _ h => h)
  exact ⟨r, st', he, hs⟩

theorem runs_of_Acc {α} {p : Prog α} {Q : α → Prop} {st : St} (h : Acc (Rd st) (Wr st) p Q) : Runs p st :=
  runs_of_AccS (AccS.of_Acc h st.data)

theorem runs_of_AccD {α} {p : Prog α} {Q : α → Prop} {st : St} (h : AccD st.data (Rd st) p Q) : Runs p st :=
  runs_of_AccS (AccS.of_AccD (W := Wr st) h)

/-- a terminator among the first `n` cells at `p` -/
def Term (st : St) (p n : Nat) : Prop := ∃ i, i < n ∧ st.data (p+i) = 0

/-- the fault a run ended with, if any -/
def faultOf {α} : Except Fault α → Option Fault
  | .error f => some f
  | .ok _ => none

theorem faultOf_ok {α} {x : Except Fault α} {f : Fault} (h : faultOf x = some f) : x = .error f := by
  cases x with
  | error g => simp only [faultOf, Option.some.injEq] at h; rw [h]
  | ok _ => simp [faultOf] at h

/-- cells `lo₁ ≤ a < hi₁` and `lo₂ ≤ a < hi₂` mapped and readable, nothing else -/
def win (f : Nat → Nat) (lo₁ hi₁ lo₂ hi₂ : Nat) : St :=
  { data := f
    mapped := fun a => decide ((lo₁ ≤ a ∧ a < hi₁) ∨ (lo₂ ≤ a ∧ a < hi₂))
    rd := fun a => decide ((lo₁ ≤ a ∧ a < hi₁) ∨ (lo₂ ≤ a ∧ a < hi₂))
    wr := fun _ => false }

theorem Rd_of_RD {st : St} {p n : Nat} (h : RD st p n) : ∀ a, Cells p n a → Rd st a := 
  fun _ ha => let ⟨i, hi, e⟩ := ha.idx; e ▸ h i hi

theorem RD_of_RW {st : St} {p n : Nat} (h : RW st p n) : RD st p n := fun i hi => ⟨(h i hi).1, (h i hi).2.2⟩

theorem Rd_of_RW {st : St} {p n : Nat} (h : RW st p n) : ∀ a, Cells p n a → Rd st a :=
  Rd_of_RD (RD_of_RW h)

theorem Wr_of_RW {st : St} {p n : Nat} (h : RW st p n) : ∀ a, Cells p n a → Wr st a :=
  fun _ ha => let ⟨i, hi, e⟩ := ha.idx; e ▸ ⟨(h i hi).1, (h i hi).2.1⟩


/-! The same bridges in the form both sides have: the statements' hypotheses (`hd : dest ≠ 0 → RW st dest dmax`) and those of the
footprint theorems (`dest ≠ 0 → ∀ a, Cells dest dmax a → W a`) are guarded by the pointer being non-null. -/

theorem Rd_of_RD.guard {st : St} {p n : Nat} (h : p ≠ 0 → RD st p n) (hp : p ≠ 0) : ∀ a, Cells p n a → Rd st a := Rd_of_RD (h hp)

theorem Rd_of_RW.guard {st : St} {p n : Nat} (h : p ≠ 0 → RW st p n) (hp : p ≠ 0) : ∀ a, Cells p n a → Rd st a := Rd_of_RW (h hp)

theorem Wr_of_RW.guard {st : St} {p n : Nat} (h : p ≠ 0 → RW st p n) (hp : p ≠ 0) : ∀ a, Cells p n a → Wr st a := Wr_of_RW (h hp)

/-- the cells of the string at `p` (cut at `n`) are mapped and writable -/
def StrWr (st : St) (p n : Nat) : Prop := ∀ a, Str st.data p n a → Wr st a

theorem StrWr.of_RW_term {st : St} {p n : Nat} (h : RW st p n) (ht : Term st p n) (m : Nat) : StrWr st p m := by
  intro a hs
  obtain ⟨i, hi, h0⟩ := ht
  obtain ⟨h1, h2⟩ := hs.of_term h0
  exact Wr_of_RW h a ⟨h1, by omega⟩

/-- as `win`, the mapped cells also writable -/
def winW (f : Nat → Nat) (lo₁ hi₁ lo₂ hi₂ : Nat) : St :=
  { win f lo₁ hi₁ lo₂ hi₂ with wr := fun a => decide ((lo₁ ≤ a ∧ a < hi₁) ∨ (lo₂ ≤ a ∧ a < hi₂)) }

section
variable {f : Nat → Nat} {lo₁ hi₁ lo₂ hi₂ p n : Nat} (h : (lo₁ ≤ p ∧ p + n ≤ hi₁) ∨ (lo₂ ≤ p ∧ p + n ≤ hi₂))
include h

theorem winW_RW : RW (winW f lo₁ hi₁ lo₂ hi₂) p n := fun i hi =>
  have : (lo₁ ≤ p + i ∧ p + i < hi₁) ∨ (lo₂ ≤ p + i ∧ p + i < hi₂) := by omega
  ⟨decide_eq_true this, decide_eq_true this, decide_eq_true this⟩

theorem winW_RD : RD (winW f lo₁ hi₁ lo₂ hi₂) p n := RD_of_RW (winW_RW h)

theorem win_RD : RD (win f lo₁ hi₁ lo₂ hi₂) p n := winW_RD (f := f) h

end
end SafeC.Props.C02
