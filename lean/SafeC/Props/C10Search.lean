import SafeC.Props.C10
import SafeC.Proofs.QueryNested
/-!
# C10: character and index searches

`strchr_s strrchr_s strfirstchar_s strlastchar_s strfirstdiff_s strfirstsame_s strlastdiff_s
strlastsame_s strprefix_s`.

Setting as in `C10.lean`: all of memory readable (`AllRd`) with ARBITRARY contents, operands valid
(non-null, `0 < dmax ≤ RSIZE_MAX_STR`, object sizes unknown).  Conclusion: the value returned is the
spec function of `SafeC/Spec/Query.lean` / `SafeC/Proofs/Query.lean` applied to the memory contents restricted to the first
`dmax` cells, and the final state IS the initial state (no handler, nothing modified).

The loops here are of the shape `while (*dest && dmax)` (`strchr_s` and `strrchr_s` have none of their own: they
call `strchr`, resp. `strnlen_s` and `memrchr_s`): with no terminator among the first
`dmax` cells the cell `dest[dmax]` is READ (known finding `read-before-bound`, property C02).  The
theorems are stated on a memory where that cell is readable; for `strfirstchar_s strlastchar_s
strfirst/lastdiff/same_s` its content has NO influence on the answer (the theorems hold for every
content); for `strchr_s` and `strprefix_s` it has (witnesses below).
-/
namespace SafeC.Props.C10
open SafeC Gen

/-! ## strchr_s

FULL statement (false of the code): *the first of the characters of `dest` — its terminator
included, at most `dmax` of them — equal to `(char)ch`, ESNOTFND if there is none.*  The code calls
the unbounded `strchr` and rejects a hit only when its offset is `> dmax`: with no terminator among
the first `dmax` cells a hit AT offset `dmax` is accepted.  -/

/-- what `strchr_s` answers when the first cell of `dest` equal to the character or to NUL is the
character, at an offset `k ≤ dmax`: EOK and `dest + k` — ALSO for `k = dmax`, one past the extent -/
theorem strchr_s_hit_eq (dest dmax : Nat) (ch : Int) (st : St) (hall : AllRd st)
    (hd : dest ≠ 0) (hpos : 0 < dmax) (hle : dmax ≤ RSIZE_MAX_STR) (hch : ch ≤ 255) (k : Nat) (hk : k ≤ dmax)
    (hbefore : ∀ j, j < k → st.data (dest+j) ≠ chCell ch ∧ st.data (dest+j) ≠ 0)
    (hat : st.data (dest+k) = chCell ch) :
    exec (strchr_s dest dmax ch none) st = .ok ((EOK, dest + k), st) := by
  have hf : k < scanFuel := by
    have : RSIZE_MAX_STR < scanFuel := by decide
    omega
  have h5 : ¬ dmax < k := by omega
  rw [strchr_s_of_scan hd hpos hle hch (strchrP_stop hall (chCell ch) scanFuel dest k hf hbefore (.inl hat))]
  simp [hd, h5, hat]

/-- **what `strchr_s` computes on ANY memory**: exactly the right function for a bound of
`dmax + 1` characters — the first occurrence among the characters of the string including its
terminator, at most `dmax + 1` of them.  (The off-by-one of `> dmax` is the ONLY deviation.) -/
theorem strchr_s_eq (dest dmax : Nat) (ch : Int) (st : St) (hall : AllRd st)
    (hd : dest ≠ 0) (hpos : 0 < dmax) (hle : dmax ≤ RSIZE_MAX_STR) (hch : ch ≤ 255) :
    exec (strchr_s dest dmax ch none) st =
      .ok ((match firstIdx st.data (chCell ch) dest (min (scanLen st.data dest (dmax+1) + 1) (dmax+1)) with
            | some i => (EOK, dest + i) | none => (ESNOTFND, 0)), st) := by
  have hfu : RSIZE_MAX_STR + 1 < scanFuel := by decide
  have hnz := scanLen_nonzero st.data dest (dmax+1)
  cases hfi : firstIdx st.data (chCell ch) dest (min (scanLen st.data dest (dmax+1) + 1) (dmax+1)) with
  | some k =>
    -- a hit in front of the terminator (or AT it, or at offset `dmax`)
    obtain ⟨hk, hat, hbef⟩ := (firstIdx_spec _ _ _ _).1 _ hfi
    exact strchr_s_hit_eq dest dmax ch st hall hd hpos hle hch k (by omega)
      (fun j hj => ⟨hbef j hj, hnz j (by omega)⟩) hat
  | none =>
    have hno := (firstIdx_spec _ _ _ _).2 hfi
    by_cases hz : scanLen st.data dest (dmax+1) < dmax + 1
    · -- the scan ends at the terminator, which is not the character
      have h0 := scanLen_zero st.data dest (dmax+1) hz
      rw [strchr_s_of_scan hd hpos hle hch (strchrP_stop hall (chCell ch) scanFuel dest _ (by omega)
        (fun j hj => ⟨hno j (by omega), hnz j hj⟩) (.inr h0)), if_neg (hno _ (by omega))]
      simp
    · -- neither the character nor a terminator among the first `dmax + 1` cells: a hit, if any, is too far
      obtain ⟨r, hr, hge⟩ := strchrP_far hall (chCell ch) scanFuel dest (dmax+1)
        (fun j hj => ⟨hno j (by omega), hnz j (by omega)⟩)
      rw [strchr_s_of_scan hd hpos hle hch hr]
      rcases hge with rfl | hge
      · simp
      · have h4 : ¬ r = 0 := by omega
        have h5 : r - dest > dmax := by omega
        simp [h4, h5]

/-- **strchr_s, partial** (a terminator among the first `dmax` cells): the first occurrence of the
character among the characters of the string including its terminator; ESNOTFND otherwise -/
theorem strchr_s_C10_partial (dest dmax : Nat) (ch : Int) (st : St) (hall : AllRd st)
    (hd : dest ≠ 0) (hpos : 0 < dmax) (hle : dmax ≤ RSIZE_MAX_STR) (hch : ch ≤ 255)
    (hz : scanLen st.data dest dmax < dmax) :
    exec (strchr_s dest dmax ch none) st =
      .ok ((match firstIdx st.data (chCell ch) dest (scanLen st.data dest dmax + 1) with
            | some i => (EOK, dest + i) | none => (ESNOTFND, 0)), st) := by
  rw [strchr_s_eq dest dmax ch st hall hd hpos hle hch, scanLen_stable _ _ dmax (dmax+1) (by omega) hz,
    Nat.min_eq_left (by omega)]

/-- `dest = "ab…"`, `dmax = 1`, searching `'b'`: there is no `'b'` among the first `dmax` characters,
yet EOK and `dest + 1` are returned.  Known finding `strchr-off-by-one`. -/
theorem strchr_s_offbyone_witness :
    exec (strchr_s 100 1 98 none) (wMem fun a => if a = 100 then 97 else if a = 101 then 98 else 0) =
      .ok ((EOK, 101), wMem fun a => if a = 100 then 97 else if a = 101 then 98 else 0) ∧
    firstIdx (fun a => if a = 100 then 97 else if a = 101 then 98 else 0) (chCell 98) 100 1 = none := by
  constructor
  · refine strchr_s_hit_eq 100 1 98 _ (wMem_all _) (by decide) (by decide) (by decide) (by decide) 1 (by decide) ?_ ?_
    · intro j hj
      have : j = 0 := by omega
      subst this; simp [wMem, chCell]
    · simp [wMem, chCell]
  · decide

example : ∃ st : St, AllRd st ∧ scanLen st.data 100 4 < 4 ∧ firstIdx st.data (chCell 98) 100 (scanLen st.data 100 4 + 1) = some 1 :=
  ⟨wMem fun a => if a = 100 then 97 else if a = 101 then 98 else 0, wMem_all _, by decide, by decide⟩

/-! ## strrchr_s

FULL statement (false of the code): *the last of the characters of `dest` — terminator included, at
most `dmax` — equal to `(char)ch`.*  The code returns ESZEROL for the empty string (documented), so
the terminator of an empty string is never found. -/

/-- **strrchr_s, partial** (`dest` not empty): the LAST occurrence of the character among the
characters of the string including its terminator, or among the first `dmax` cells if there is no
terminator among them -/
theorem strrchr_s_C10_partial (dest dmax : Nat) (ch : Int) (st : St) (hall : AllRd st)
    (hd : dest ≠ 0) (hpos : 0 < dmax) (hle : dmax ≤ RSIZE_MAX_STR) (hch : ch ≤ 255)
    (hne : st.data dest ≠ 0) :
    exec (strrchr_s dest dmax ch none) st =
      .ok ((match lastIdx st.data (chCell ch) dest (min (scanLen st.data dest dmax + 1) dmax) with
            | some i => (EOK, dest + i) | none => (ESNOTFND, 0)), st) := by
  unfold strrchr_s
  have h3 : ¬ ch > 255 := by omega
  have hlen := Nat.ne_of_gt (scanLen_pos st.data dest dmax hpos hne)
  have hl := scanLen_le st.data dest dmax
  have hmm : RSIZE_MAX_STR ≤ RSIZE_MAX_MEM := by decide
  simp only [qChkS_ok hd (Option.some_ne_none 0).symm hpos hle, Nat.not_lt.mpr hle, h3, if_false, exec_bind, exec_pure,
    strnlen_s_C10 dest dmax st hall hd hpos hle]
  simp only [ne_eq, hlen, not_false_eq_true, if_true]
  have e : (if dmax = scanLen st.data dest dmax then dmax else scanLen st.data dest dmax + 1) =
      min (scanLen st.data dest dmax + 1) dmax := by split <;> omega
  rw [e]
  exact memrchr_s_C10 dest _ ch st hall hd (by omega) (by omega) hch

/-- the empty string: ESZEROL (documented), no handler call, nothing found — also when the character
sought is the terminator itself, which `strrchr("", 0)` finds at offset 0.  Known finding `strrchr-empty`. -/
theorem strrchr_s_empty_witness (dest dmax : Nat) (ch : Int) (st : St) (hall : AllRd st)
    (hd : dest ≠ 0) (hpos : 0 < dmax) (hle : dmax ≤ RSIZE_MAX_STR) (hch : ch ≤ 255)
    (h0 : st.data dest = 0) :
    exec (strrchr_s dest dmax ch none) st = .ok ((ESZEROL, 0), st) := by
  unfold strrchr_s
  have h3 : ¬ ch > 255 := by omega
  simp only [qChkS_ok hd (Option.some_ne_none 0).symm hpos hle, Nat.not_lt.mpr hle, h3, if_false, exec_bind, exec_pure,
    strnlen_s_C10 dest dmax st hall hd hpos hle]
  simp [scanLen_of_stop _ _ dmax (.inl h0)]

example : ∃ st : St, AllRd st ∧ st.data 100 ≠ 0 ∧
    lastIdx st.data (chCell 97) 100 (min (scanLen st.data 100 4 + 1) 4) = some 2 :=
  ⟨wMem fun a => if a = 100 then 97 else if a = 101 then 98 else if a = 102 then 97 else 0, wMem_all _, by decide, by decide⟩

/-- **strfirstchar_s**: the first of the characters of the string (before its terminator, at most
`dmax`) equal to `c`; ESNOTFND if none (always for `c = 0`) -/
theorem strfirstchar_s_C10 (dest dmax c : Nat) (st : St) (hall : AllRd st)
    (hd : dest ≠ 0) (hpos : 0 < dmax) (hle : dmax ≤ RSIZE_MAX_STR) :
    exec (strfirstchar_s dest dmax c none) st =
      .ok ((match firstIdx st.data (c % 256) dest (scanLen st.data dest dmax) with
            | some i => (EOK, dest + i) | none => (ESNOTFND, 0)), st) := by
  unfold strfirstchar_s
  simp only [chkDmaxQ_ok _ _ hle, Nat.ne_of_gt hpos, hd, if_false]
  exact firstcharLoop_eq hall _ _ _

/-- **strlastchar_s**: the last such character -/
theorem strlastchar_s_C10 (dest dmax c : Nat) (st : St) (hall : AllRd st)
    (hd : dest ≠ 0) (hpos : 0 < dmax) (hle : dmax ≤ RSIZE_MAX_STR) :
    exec (strlastchar_s dest dmax c none) st =
      .ok ((match lastIdx st.data (c % 256) dest (scanLen st.data dest dmax) with
            | some i => (EOK, dest + i) | none => (ESNOTFND, 0)), st) := by
  unfold strlastchar_s
  simp only [chkDmaxQ_ok _ _ hle, Nat.ne_of_gt hpos, hd, if_false, exec_bind, lastcharLoop_eq hall]
  cases lastIdx st.data (c % 256) dest (scanLen st.data dest dmax) with
  | none => simp
  | some i => simp [hd]

example : ∃ st : St, AllRd st ∧ firstIdx st.data (97 % 256) 100 (scanLen st.data 100 4) = some 0 ∧
    lastIdx st.data (97 % 256) 100 (scanLen st.data 100 4) = some 2 :=
  ⟨wMem fun a => if a = 100 then 97 else if a = 101 then 98 else if a = 102 then 97 else 0, wMem_all _, by decide, by decide⟩

/-- **strfirstdiff_s**: the first index, before either string ends and below `dmax`, at which the two
strings differ; ESNODIFF if there is none -/
theorem strfirstdiff_s_C10 (dest dmax src : Nat) (st : St) (hall : AllRd st)
    (hd : dest ≠ 0) (hs : src ≠ 0) (hpos : 0 < dmax) (hle : dmax ≤ RSIZE_MAX_STR) :
    exec (strfirstdiff_s dest dmax src none) st =
      .ok ((match pairFirst false st.data dest src dmax with
            | some i => (EOK, i) | none => (ESNODIFF, 0)), st) :=
  pairFn_eq hall false true ESNODIFF dest dmax src hd hs hpos hle

/-- **strfirstsame_s**: the first index at which the two strings have the same character -/
theorem strfirstsame_s_C10 (dest dmax src : Nat) (st : St) (hall : AllRd st)
    (hd : dest ≠ 0) (hs : src ≠ 0) (hpos : 0 < dmax) (hle : dmax ≤ RSIZE_MAX_STR) :
    exec (strfirstsame_s dest dmax src none) st =
      .ok ((match pairFirst true st.data dest src dmax with
            | some i => (EOK, i) | none => (ESNOTFND, 0)), st) :=
  pairFn_eq hall true true ESNOTFND dest dmax src hd hs hpos hle

/-- **strlastdiff_s**: the last index, before either string ends and below `dmax`, at which they differ -/
theorem strlastdiff_s_C10 (dest dmax src : Nat) (st : St) (hall : AllRd st)
    (hd : dest ≠ 0) (hs : src ≠ 0) (hpos : 0 < dmax) (hle : dmax ≤ RSIZE_MAX_STR) :
    exec (strlastdiff_s dest dmax src none) st =
      .ok ((match pairLast false st.data dest src dmax with
            | some i => (EOK, i) | none => (ESNODIFF, 0)), st) :=
  pairFn_eq hall false false ESNODIFF dest dmax src hd hs hpos hle

/-- **strlastsame_s**: the last index at which they have the same character -/
theorem strlastsame_s_C10 (dest dmax src : Nat) (st : St) (hall : AllRd st)
    (hd : dest ≠ 0) (hs : src ≠ 0) (hpos : 0 < dmax) (hle : dmax ≤ RSIZE_MAX_STR) :
    exec (strlastsame_s dest dmax src none) st =
      .ok ((match pairLast true st.data dest src dmax with
            | some i => (EOK, i) | none => (ESNOTFND, 0)), st) :=
  pairFn_eq hall true false ESNOTFND dest dmax src hd hs hpos hle

/-- what `pairFirst` / `pairLast` mean, in terms of `pairLen` (the common length below `dmax`) -/
theorem pairFirst_spec (same : Bool) (d : Nat → Nat) (p q n : Nat) :
    (∀ i, pairFirst same d p q n = some i →
      i < pairLen d p q n ∧ (d (p+i) == d (q+i)) = same ∧ ∀ k, k < i → (d (p+k) == d (q+k)) = !same) ∧
    (pairFirst same d p q n = none → ∀ k, k < pairLen d p q n → (d (p+k) == d (q+k)) = !same) := by
  have e : ∀ b : Bool, (b == same) = false ↔ b = !same := by cases same <;> intro b <;> cases b <;> simp
  rw [pairFirst_eq_leastO]
  exact ⟨fun i h => by simpa only [beq_iff_eq, e] using leastO_some h, fun h => by simpa only [e] using leastO_none h⟩

theorem pairLast_spec (same : Bool) (d : Nat → Nat) (p q n : Nat) :
    (∀ i, pairLast same d p q n = some i →
      i < pairLen d p q n ∧ (d (p+i) == d (q+i)) = same ∧
      ∀ k, i < k → k < pairLen d p q n → (d (p+k) == d (q+k)) = !same) ∧
    (pairLast same d p q n = none → ∀ k, k < pairLen d p q n → (d (p+k) == d (q+k)) = !same) :=
  ⟨fun i => pairLast_some same d p q n i, pairLast_none same d p q n⟩

example : ∃ st : St, AllRd st ∧ pairFirst false st.data 100 200 4 = some 1 ∧ pairLast true st.data 100 200 4 = some 2 :=
  ⟨wMem fun a => if a = 100 then 97 else if a = 101 then 98 else if a = 102 then 97 else
      if a = 200 then 97 else if a = 201 then 99 else if a = 202 then 97 else 0, wMem_all _, by decide, by decide⟩

/-! ## strprefix_s

FULL statement (false of the code): *EOK iff the string `src` is a prefix of the first `dmax`
characters of `dest`, ESNOTFND otherwise.*  The code answers ESNOTFND for the empty prefix and EOK
when `dmax` runs out before `src` does. -/

/-- what `strprefix_s` computes on ANY memory -/
theorem strprefix_s_eq (dest dmax src : Nat) (st : St) (hall : AllRd st)
    (hd : dest ≠ 0) (hs : src ≠ 0) (hpos : 0 < dmax) (hle : dmax ≤ RSIZE_MAX_STR) :
    exec (strprefix_s dest dmax src none) st =
      .ok ((if st.data src = 0 then ESNOTFND
            else if subAt id st.data dest src (scanLen st.data src dmax) = true then EOK else ESNOTFND), st) := by
  unfold strprefix_s
  simp only [qChkS_ok hd (mt Option.some.inj hs) hpos hle, exec_bind, exec_pure, exec_load_all hall]
  by_cases h0 : st.data src = 0
  · simp [h0]
  · simp only [h0, if_false]; exact strprefixLoop_eq hall _ _ _

/-- **strprefix_s, partial** (`src` not empty and terminated within `dmax` characters): EOK iff every
character of `src` equals the character of `dest` at the same index -/
theorem strprefix_s_C10_partial (dest dmax src : Nat) (st : St) (hall : AllRd st)
    (hd : dest ≠ 0) (hs : src ≠ 0) (hpos : 0 < dmax) (hle : dmax ≤ RSIZE_MAX_STR)
    (hne : st.data src ≠ 0) (_hz : scanLen st.data src dmax < dmax) :
    exec (strprefix_s dest dmax src none) st =
      .ok ((if subAt id st.data dest src (scanLen st.data src dmax) = true then EOK else ESNOTFND), st) := by
  rw [strprefix_s_eq dest dmax src st hall hd hs hpos hle]
  simp [hne]

/-- the empty prefix is reported as NOT found.  Known finding `strprefix-empty`. -/
theorem strprefix_s_empty_witness :
    exec (strprefix_s 100 2 200 none) (wMem fun a => if a = 100 then 97 else 0) =
      .ok (ESNOTFND, wMem fun a => if a = 100 then 97 else 0) := by
  rw [strprefix_s_eq _ _ _ _ (wMem_all _) (by decide) (by decide) (by decide) (by decide)]
  simp [wMem]

/-- `dest = "a…"` with `dmax = 1`, `src = "ab"`: the prefix is longer than the `dmax` characters of
`dest`, EOK is returned.  Known finding `strprefix-truncated-match`. -/
theorem strprefix_s_truncated_witness :
    exec (strprefix_s 100 1 200 none)
        (wMem fun a => if a = 100 then 97 else if a = 200 then 97 else if a = 201 then 98 else 0) =
      .ok (EOK, wMem fun a => if a = 100 then 97 else if a = 200 then 97 else if a = 201 then 98 else 0) := by
  rw [strprefix_s_eq _ _ _ _ (wMem_all _) (by decide) (by decide) (by decide) (by decide)]
  simp [wMem, scanLen, subAt]

example : ∃ st : St, AllRd st ∧ st.data 200 ≠ 0 ∧ scanLen st.data 200 4 < 4 ∧
    subAt id st.data 100 200 (scanLen st.data 200 4) = true :=
  ⟨wMem fun a => if a = 100 then 97 else if a = 101 then 98 else if a = 200 then 97 else 0, wMem_all _,
   by decide, by decide, by decide⟩

end SafeC.Props.C10
