import SafeC.Proofs.EV
import SafeC.Models.WCase
import SafeC.Props.C05Ev
import SafeC.Props.C05Docs
import SafeC.Props.C05MeaningIs
/-!
# C05 for the wide case mappers `wcslwr_s`, `wcsupr_s`, through the `EV` event judgement

For ALL arguments (null, zero, above RSIZE_MAX_WSTR, above 2^62, object size known or not — any number of bytes),
ALL memory contents and placements and EVERY cell mapping `f`:

* `wcase_s_ev`: a call that returns has appended no event and returned EOK, or exactly one str-handler event carrying
  precisely the code it returned (the consistency half, as for the rest of the in-place family in `C05Ev.lean`);
* `wcase_s_code`: and WHICH of the two it is, is the function `wcaseCode` of the arguments alone — the list of the doc
  comment read top to bottom: `slen = 0` → EOK (even for a null `src`: "EOK on successful operation or slen = 0");
  `src` null → ESNULLP; `slen > RSIZE_MAX_WSTR` → ESLEMAX (known object size or not: no EOVERFLOW in its place);
  object size known and `slen * sizeof(wchar_t)` greater → EOVERFLOW; otherwise EOK, whatever the cells hold
  (an unterminated array is no violation: "stops at the first null or after slen characters").  So a violation named
  by the doc comment is reported (once, with its code), and nothing else is (`wcaseCode_eok_iff`);
* `…_documented`: every code handed back is on the `@retval` list of the CURRENT doc comment (`Gen/Docs.lean`).

The statements need no hypothesis on the state: the judgement quantifies over every value a load can return.
-/
namespace SafeC.Props.C05Ev
open SafeC Gen SafeC.Props.C05Meaning

theorem wcaseLoop_silent (rb : Bool) (f : Nat → Nat) (n d : Nat) : Quiet (wcaseLoop rb f n d) := by
  induction n generalizing d with
  | zero => unfold wcaseLoop; quiet
  | succ n ih => unfold wcaseLoop; quiet using ih

/-- the code the doc comment assigns to the arguments (memory plays no part) -/
def wcaseCode (src slen : Nat) (srcbos : Bos) : Nat :=
  if slen = 0 then EOK
  else if src = 0 then ESNULLP
  else if slen > RSIZE_MAX_WSTR then ESLEMAX
  else match srcbos with
    | none => EOK
    | some bos => if slen * SIZEOF_WCHAR_T > bos then EOVERFLOW else EOK

/-- EOK exactly when no documented runtime-constraint is violated -/
theorem wcaseCode_eok_iff (src slen : Nat) (srcbos : Bos) :
    wcaseCode src slen srcbos = EOK ↔
      slen = 0 ∨ (src ≠ 0 ∧ slen ≤ RSIZE_MAX_WSTR ∧ ∀ bos, srcbos = some bos → slen * SIZEOF_WCHAR_T ≤ bos) := by
  unfold wcaseCode
  rw [ite_EOK_eq_EOK, ite_fail_eq_EOK ne_ESNULLP, ite_fail_eq_EOK ne_ESLEMAX]
  cases srcbos with
  | none => simp
  | some bos => simp only [ite_fail_eq_EOK ne_EOVERFLOW, Option.some.injEq, forall_eq', and_true, ne_eq, Nat.not_lt, gt_iff_lt]

/-- the code returned is `wcaseCode` of the arguments, and the events are what the discipline asks for that code -/
theorem wcase_s_code (rb : Bool) (f : Nat → Nat) (src slen : Nat) (srcbos : Bos) :
    EV (wcase_s rb f src slen srcbos) (fun r es => r = wcaseCode src slen srcbos ∧ Once .str r es) := by
  have body : EV (do wcaseLoop rb f slen src; pure EOK : Prog Nat) (Is .str EOK) := is_work_eok (wcaseLoop_silent ..)
  unfold wcase_s wcaseCode
  refine is_ite is_eok (is_ite (is_failS _ ne_ESNULLP) (is_ite (is_failS _ ne_ESLEMAX) ?_))
  cases srcbos with
  | none => exact body
  | some bos => exact is_ite (is_failS _ ne_EOVERFLOW) body

theorem wcase_s_ev (rb : Bool) (f : Nat → Nat) (src slen : Nat) (srcbos : Bos) : EV (wcase_s rb f src slen srcbos) (Once .str) :=
  (wcase_s_code rb f src slen srcbos).conseq (fun _ _ h => h.2)

theorem wcslwr_s_ev (cfg : Cfg) (src slen : Nat) (srcbos : Bos) : EV (wcslwr_s cfg src slen srcbos) (Once .str) :=
  wcase_s_ev _ _ src slen srcbos

theorem wcsupr_s_ev (cfg : Cfg) (src slen : Nat) (srcbos : Bos) : EV (wcsupr_s cfg src slen srcbos) (Once .str) :=
  wcase_s_ev _ _ src slen srcbos

/-- wcslwr_s: all arguments, all memory — EOK and no event, or code ≠ EOK and exactly that one str-handler event -/
theorem wcslwr_s_C05 (cfg : Cfg) (src slen : Nat) (srcbos : Bos) :
    Discipline .str (wcslwr_s cfg src slen srcbos) := .of_EV (wcslwr_s_ev ..)
theorem wcsupr_s_C05 (cfg : Cfg) (src slen : Nat) (srcbos : Bos) :
    Discipline .str (wcsupr_s cfg src slen srcbos) := .of_EV (wcsupr_s_ev ..)

/-- what `wcase_s_code` means for runs: every returning call hands back the code the doc comment assigns to its
arguments — a documented violation is reported exactly once with its code, a call without one reports nothing -/
theorem wcase_s_reports (rb : Bool) (f : Nat → Nat) (src slen : Nat) (srcbos : Bos) (st : St) (r : Nat) (st' : St)
    (he : exec (wcase_s rb f src slen srcbos) st = .ok (r, st')) :
    r = wcaseCode src slen srcbos ∧
      ((r = EOK ∧ st'.events = st.events) ∨ (r ≠ EOK ∧ st'.events = st.events ++ [.handler .str r])) :=
  Is.sound (wcase_s_code rb f src slen srcbos) st r st' he

/-- wcslwr_s: the code is the one the doc comment assigns -/
theorem wcslwr_s_reports (cfg : Cfg) (src slen : Nat) (srcbos : Bos) (st : St) (r : Nat) (st' : St)
    (he : exec (wcslwr_s cfg src slen srcbos) st = .ok (r, st')) :
    r = wcaseCode src slen srcbos ∧
      ((r = EOK ∧ st'.events = st.events) ∨ (r ≠ EOK ∧ st'.events = st.events ++ [.handler .str r])) :=
  wcase_s_reports _ _ src slen srcbos st r st' he

/-- wcsupr_s: the code is the one the doc comment assigns -/
theorem wcsupr_s_reports (cfg : Cfg) (src slen : Nat) (srcbos : Bos) (st : St) (r : Nat) (st' : St)
    (he : exec (wcsupr_s cfg src slen srcbos) st = .ok (r, st')) :
    r = wcaseCode src slen srcbos ∧
      ((r = EOK ∧ st'.events = st.events) ∨ (r ≠ EOK ∧ st'.events = st.events ++ [.handler .str r])) :=
  wcase_s_reports _ _ src slen srcbos st r st' he

theorem ite_leaf {S : List Nat} {c : Prop} [Decidable c] {a b : Nat} (ha : a = EOK ∨ a ∈ S) (hb : b = EOK ∨ b ∈ S) :
    (if c then a else b) = EOK ∨ (if c then a else b) ∈ S := by
  split <;> assumption

/-- the values of the cascade are its leaves -/
theorem wcaseCode_mem (src slen : Nat) (srcbos : Bos) :
    wcaseCode src slen srcbos = EOK ∨ wcaseCode src slen srcbos ∈ [ESNULLP, ESLEMAX, EOVERFLOW] := by
  unfold wcaseCode
  refine ite_leaf (.inl rfl) (ite_leaf (.inr (by decide)) (ite_leaf (.inr (by decide)) ?_))
  cases srcbos with
  | none => exact .inl rfl
  | some b => exact ite_leaf (.inr (by decide)) (.inl rfl)

theorem wcase_s_in (rb : Bool) (f : Nat → Nat) (src slen : Nat) (srcbos : Bos) :
    EV (wcase_s rb f src slen srcbos) (OnceIn [ESNULLP, ESLEMAX, EOVERFLOW] .str) :=
  (wcase_s_code rb f src slen srcbos).conseq fun _ _ ⟨h, ho⟩ => ho.imp id fun ho => ⟨((h ▸ wcaseCode_mem ..).resolve_left ho.1), ho⟩

open SafeC.Props.C05Docs in
theorem wcslwr_s_documented (cfg : Cfg) (src slen : Nat) (srcbos : Bos) :
    ReturnsDocumented "wcslwr_s" [] (wcslwr_s cfg src slen srcbos) id :=
  of_In (wcase_s_in ..) (docRow 100 (by decide +kernel))

open SafeC.Props.C05Docs in
theorem wcsupr_s_documented (cfg : Cfg) (src slen : Nat) (srcbos : Bos) :
    ReturnsDocumented "wcsupr_s" [] (wcsupr_s cfg src slen srcbos) id :=
  of_In (wcase_s_in ..) (docRow 111 (by decide +kernel))

/-- non-vacuity: a run that reports (object of 7 bytes, two cells asked for), a run that succeeds on an unterminated
array, and the `slen = 0` shortcut with a null pointer -/
example : (exec (wcsupr_s {} 100 2 (some 7)) { data := fun _ => 0x61, mapped := fun _ => true, rd := fun _ => true, wr := fun _ => true }
    |>.toOption.map (fun x => (x.1, x.2.events))) = some (EOVERFLOW, [.handler .str EOVERFLOW]) := by decide
example : (exec (wcslwr_s {} 100 2 none) { data := fun _ => 0x41, mapped := fun _ => true, rd := fun _ => true, wr := fun _ => true }
    |>.toOption.map (fun x => (x.1, x.2.events, x.2.data 100, x.2.data 101, x.2.data 102))) = some (EOK, [], 0x61, 0x61, 0x41) := by decide
example : (exec (wcslwr_s {} 0 0 none) { data := fun _ => 0x41, mapped := fun _ => false, rd := fun _ => false, wr := fun _ => false }
    |>.toOption.map (fun x => (x.1, x.2.events))) = some (EOK, []) := by decide

end SafeC.Props.C05Ev
