import SafeC.Proofs.FoldDecompose
/-!
# C17 — `wcsfc_s` (string case folding), C locale (neither tr/az nor lt: what `SafeC.Fold.wcsfcS` models)

Property text: "... the number of characters towfc_s/wcsfc_s emit for a character equals what iswfc announces, so that a
destination sized from the announced lengths always suffices."  For `towfc_s` this is `C17.fold_count`.  For `wcsfc_s` it is
FALSE in general, because `wcsfc_s` is not the concatenation of `towfc_s` over the cells: per cell `cp` followed by `nx` it emits
(`SafeC.Fold.fcCell cp nx`, Proofs/FoldStr.lean)
* `iswfc cp > 1`: the `iswfc cp` cells of `towfc_s`, each replaced by its canonical decomposition when U+1F80 ≤ cp ≤ U+1FF4;
* cp one of U+1CBB, U+1CBC, U+1057B, U+1058B, U+10593 (`fcSpecial`): `cp` itself;
* cp = U+03A3: U+03C2 when `nx` is a space (final sigma; `nx = 0` behind the end is not one), else U+03C3;
* otherwise (5 free cells demanded): `t = _towfc_single(cp)`, canonically decomposed when `t ≥ 0xC0` (U+00C9 ⇒ `e` U+0301: two
  cells although `iswfc` announces one).

Two versions of the code are spoken about (`Fixes.foldRoom`, Models/Norm.lean): **without the room check** (`normFixed`: the
`iswfc cp > 1` branch copies its cells without looking at `dmax`) and **with the room check** of
`fixes/wcsfc-multichar-room-check.diff` (`allFixed`: the branch starts with `if (dmax < 5) goto too_small;`, the idiom of the
single-character branch), which is what /repo holds (`current = allFixed`).  The statements about `fx` with `fx.rangeChk = true` cover both.

Statements:
* `wcsfc_model` (full, without and with the room check): every string, every `dmax`: no table index out of bounds; EOK ⇒ dest = `fcPure src`,
  `*lenp` its length, `< dmax`, every cell a code point; no write behind `dest + dmax` whenever the result fits at all, and with
  the room check never.  `wcsfc_overrun_witness`: without the room check it does write behind the buffer (`ßß` into 3 cells).
* `wcsfc_multichar_cells` (full) / `wcsfc_multichar_cells_witness`: one iteration of the multi-character branch stores 1..4 cells
  (every cell value, decomposing Greek sub-branch included; any iteration on a code point: ≤ 4): 5 free cells are enough; U+1F82
  stores 4.
* `wcsfc_no_overrun_fixed` (full — the repair): with the room check, EVERY cell list (embedded terminators allowed) and EVERY
  `dmax`: no store behind `dest + dmax`, no table index out of bounds.  `wcsfc_model_fixed`: the functional statement for that code.
* `wcsfc_return_codes` (full, both): EOK, ESZEROL, ESLEMAX or ESNOSPC, never the documented negative code of `towfc_s`.
* `wcsfc_succeeds_partial` (both): 4 cells more than the result ⇒ EOK ("the result and its terminator fit ⇒ EOK" is false; the
  margin is sharp: `wcsfc_exact_fit_witness`; with the room check the multi-character foldings need it too:
  `wcsfc_exact_fit_fixed_witness` — `ß` into 3 or 4 cells, accepted without the room check, is refused then).
* `wcsfc_fold_then_decompose_partial`: per cell, `wcsfc_s` = `towfc_s` followed by the canonical decomposition of each cell, except
  the five code points above and the final sigma (`wcsfc_fold_then_decompose_string_partial`: whole strings);
  `wcsfc_fold_then_decompose_witness`: each of those really differs.
* `wcsfc_announced_partial`: text of `plain` cells (nothing decomposes, no sigma, none of the five): dest = concatenation of
  `towfc_s`, length = Σ max 1 (iswfc c), EOK with Σ + 4 ≤ dmax; `wcsfc_plain_tight`: `plain` is exactly the per-cell condition;
  witnesses for the unrestricted claims: `wcsfc_announced_witness_decomposes`, `_sigma`, `_sum`.
-/
namespace SafeC.Props.C17Fold
open SafeC.Norm SafeC.Gen SafeC.Fold

/-- `wcsfc_s(dest, dmax, src, &len)` with the range check — the code without and the code with the room check (`fx.foldRoom`), hence
`current` in particular —, EVERY string (no embedded terminator) and EVERY `dmax`:
no table is indexed out of bounds; whenever it returns EOK (and has not written behind `dest + dmax`: the model reports that
case with `ret = 0, overrun = true`), dest holds `fcPure src`, `*lenp` is its length, one cell is left for the terminator,
and every cell of `src` was a code point; it does not write behind `dest + dmax` whenever `fcPure src` fits into `dmax` cells;
and with the room check it never does.
(The unconditional "`overrun = false`" is false of the code without the room check: `wcsfc_overrun_witness`.) -/
theorem wcsfc_model (fx : Fixes) (hfx : fx.rangeChk = true) (dmax : Nat) (src : List Nat) (h0 : ∀ c ∈ src, c ≠ 0) :
    (wcsfcS fx dmax src).oob = false ∧
    ((wcsfcS fx dmax src).ret = 0 → (wcsfcS fx dmax src).overrun = false →
      (wcsfcS fx dmax src).out = fcPure src ∧ (wcsfcS fx dmax src).len = (fcPure src).length ∧
      (fcPure src).length < dmax ∧ dmax ≤ RSIZE_MAX_WSTR ∧ ∀ c ∈ src, c ≤ 0x10FFFF) ∧
    ((fcPure src).length ≤ dmax → (wcsfcS fx dmax src).overrun = false) ∧
    (fx.foldRoom = true → (wcsfcS fx dmax src).overrun = false) := by
  have nz : (ESZEROL : Int) ≠ 0 ∧ (ESLEMAX : Int) ≠ 0 ∧ (ESNOSPC : Int) ≠ 0 := by decide
  have h := wcsfcS_call fx hfx dmax src h0
  generalize wcsfcS fx dmax src = r at h
  cases h with
  | zero => exact ⟨rfl, fun h => absurd h nz.1, fun _ => rfl, fun _ => rfl⟩
  | big => exact ⟨rfl, fun h => absurd h nz.2.1, fun _ => rfl, fun _ => rfl⟩
  | nospc => exact ⟨rfl, fun h => absurd h nz.2.2, fun _ => rfl, fun _ => rfl⟩
  | ok h1 h2 h3 => exact ⟨rfl, fun _ _ => ⟨rfl, rfl, h1, h2, h3⟩, fun _ => rfl, fun _ => rfl⟩
  | overrun h1 h2 => exact ⟨rfl, fun _ h => absurd h (by decide), fun h => by omega, fun h => by rw [h2] at h; cases h⟩

example : current.rangeChk = true ∧ normFixed.rangeChk = true ∧ allFixed.rangeChk = true ∧ allFixed.foldRoom = true ∧
    (∀ c ∈ [0x41, 0xdf, 0x1f80, 0xC9, 0x3a3, 0x20, 0x1cbb], c ≠ 0) ∧
    wcsfcS current 32 [0x41, 0xdf, 0x1f80, 0xC9, 0x3a3, 0x20, 0x1cbb] =
      ⟨0, 11, [0x61, 0x73, 0x73, 0x3b1, 0x313, 0x3b9, 0x65, 0x301, 0x3c2, 0x20, 0x1cbb], false, false⟩ ∧
    wcsfcS allFixed 32 [0x41, 0xdf, 0x1f80, 0xC9, 0x3a3, 0x20, 0x1cbb] =
      ⟨0, 11, [0x61, 0x73, 0x73, 0x3b1, 0x313, 0x3b9, 0x65, 0x301, 0x3c2, 0x20, 0x1cbb], false, false⟩ ∧
    fcPure [0x41, 0xdf, 0x1f80, 0xC9, 0x3a3, 0x20, 0x1cbb] = [0x61, 0x73, 0x73, 0x3b1, 0x313, 0x3b9, 0x65, 0x301, 0x3c2, 0x20, 0x1cbb] := by
  decide +kernel

/-- the code without the room check (`normFixed`: range check in, room check not): a multi-cell folding is copied without looking at `dmax`:
`ßß` into a destination of 3 cells writes 4 (and `dmax`, unsigned, wraps); with 1 cell already the first `ß` does; and
U+1F82 (4 cells) into 2 -/
theorem wcsfc_overrun_witness :
    (wcsfcS normFixed 3 [0xdf, 0xdf]).overrun = true ∧ (wcsfcS normFixed 1 [0xdf]).overrun = true ∧
    (wcsfcS normFixed 2 [0x1f82]).overrun = true ∧
    (fcPure [0xdf, 0xdf]).length = 4 ∧ (∀ c ∈ [0xdf, 0xdf], c ≠ 0) ∧ normFixed.foldRoom = false := by
  decide +kernel

/-- what one iteration of the loop stores: a multi-character folding (`iswfc cp > 1`; ANY cell value `cp`, the Greek sub-branch
that decomposes the cells of `towfc_s` further included) is 1 to 4 cells; any code point, whichever branch takes it, 1 to 4.
Hence `if (dmax < 5) goto too_small;` at the top of the multi-character branch leaves room for everything the branch stores
in that iteration, and one cell more (the terminator's) — 5 is enough. -/
theorem wcsfc_multichar_cells (cp nx : Nat) :
    (1 < iswfc cp → 0 < (fcCell cp nx).length ∧ (fcCell cp nx).length ≤ 4) ∧
    (cp ≤ 0x10FFFF → 0 < (fcCell cp nx).length ∧ (fcCell cp nx).length ≤ 4) :=
  ⟨fun h => fcCell_multi_len h nx, fun h => fcCell_len nx h⟩

/-- the bound is attained: U+1F82 folds to U+1F02 U+03B9, and U+1F02 decomposes to three cells; with the room check 5 cells are
exactly what it takes (4 cells + terminator), 4 are refused without a store -/
theorem wcsfc_multichar_cells_witness :
    iswfc 0x1f82 = 2 ∧ fcCell 0x1f82 0 = [0x3b1, 0x313, 0x300, 0x3b9] ∧
    wcsfcS allFixed 5 [0x1f82] = ⟨0, 4, [0x3b1, 0x313, 0x300, 0x3b9], false, false⟩ ∧
    wcsfcS allFixed 4 [0x1f82] = ⟨ESNOSPC, 0, [], false, false⟩ := by
  decide +kernel

/-- **the repair** (`fixes/wcsfc-multichar-room-check.diff`, model `allFixed`): EVERY cell list (cells behind an embedded terminator
are not read: no hypothesis on `src`) and EVERY `dmax`: `wcsfc_s` stores nothing behind `dest + dmax` (the unsigned `dmax` never
wraps) and indexes no table out of bounds -/
theorem wcsfc_no_overrun_fixed (dmax : Nat) (src : List Nat) :
    (wcsfcS allFixed dmax src).overrun = false ∧ (wcsfcS allFixed dmax src).oob = false :=
  wcsfcS_room allFixed rfl rfl dmax src

example : wcsfcS allFixed 3 [0xdf, 0xdf] = ⟨ESNOSPC, 0, [], false, false⟩ ∧ wcsfcS allFixed 1 [0xdf] = ⟨ESNOSPC, 0, [], false, false⟩ ∧
    wcsfcS allFixed 6 [0xdf, 0xdf] = ⟨ESNOSPC, 0, [], false, false⟩ ∧ wcsfcS allFixed 7 [0xdf, 0xdf] = ⟨0, 4, [0x73, 0x73, 0x73, 0x73], false, false⟩ ∧
    wcsfcS allFixed 7 [0xdf, 0, 0xdf, 0x110000] = ⟨0, 2, [0x73, 0x73], false, false⟩ := by
  decide +kernel

/-- the code with the room check, every string and every `dmax`: never out of bounds (tables, destination); EOK ⇒ dest =
`fcPure src`, `*lenp` its length, a cell left for the terminator, `dmax` within the limit, every source cell a code point -/
theorem wcsfc_model_fixed (dmax : Nat) (src : List Nat) (h0 : ∀ c ∈ src, c ≠ 0) :
    (wcsfcS allFixed dmax src).oob = false ∧ (wcsfcS allFixed dmax src).overrun = false ∧
    ((wcsfcS allFixed dmax src).ret = 0 →
      (wcsfcS allFixed dmax src).out = fcPure src ∧ (wcsfcS allFixed dmax src).len = (fcPure src).length ∧
      (fcPure src).length < dmax ∧ dmax ≤ RSIZE_MAX_WSTR ∧ ∀ c ∈ src, c ≤ 0x10FFFF) := by
  obtain ⟨h1, h2, _, h4⟩ := wcsfc_model allFixed rfl dmax src h0
  exact ⟨h1, h4 rfl, fun hr => h2 hr (h4 rfl)⟩

example : (∀ c ∈ [0x1f82, 0xdf, 0xfb03], c ≠ 0) ∧
    wcsfcS allFixed 14 [0x1f82, 0xdf, 0xfb03] = ⟨0, 9, [0x3b1, 0x313, 0x300, 0x3b9, 0x73, 0x73, 0x66, 0x66, 0x69], false, false⟩ := by
  decide +kernel

/-- the return values, every input, without and with the room check: EOK, ESZEROL, ESLEMAX or ESNOSPC — never the negative code of
`towfc_s` (−ESNOTFND "when the internal implementations of iswfc() and towfc_s() are mismatched" in the documentation): where `iswfc`
announces more than one cell, `towfc_s` finds the code point in `tbl2` / `tbl3` -/
theorem wcsfc_return_codes (fx : Fixes) (hfx : fx.rangeChk = true) (dmax : Nat) (src : List Nat) (h0 : ∀ c ∈ src, c ≠ 0) :
    (wcsfcS fx dmax src).ret = 0 ∨ (wcsfcS fx dmax src).ret = ESZEROL ∨ (wcsfcS fx dmax src).ret = ESLEMAX ∨
    (wcsfcS fx dmax src).ret = ESNOSPC := by
  have h := wcsfcS_call fx hfx dmax src h0
  generalize wcsfcS fx dmax src = r at h
  cases h with
  | zero => exact .inr (.inl rfl)
  | big => exact .inr (.inr (.inl rfl))
  | nospc => exact .inr (.inr (.inr rfl))
  | ok | overrun => exact .inl rfl

example : (wcsfcS current 0 [0x41]).ret = ESZEROL ∧ (wcsfcS current 2000 [0x41]).ret = ESLEMAX ∧
    (wcsfcS current 16 [0x41, 0x110000]).ret = ESLEMAX ∧ (wcsfcS current 4 [0xdf, 0xdf]).ret = ESNOSPC ∧
    (wcsfcS current 16 [0xdf, 0xdf]).ret = 0 ∧ (wcsfcS allFixed 4 [0xdf, 0xdf]).ret = ESNOSPC ∧ (wcsfcS allFixed 16 [0xdf, 0xdf]).ret = 0 := by
  decide +kernel

/-- 4 cells more than the result (3 besides the terminator) and `wcsfc_s` succeeds, with exactly `fcPure src` — without and with the
room check (the margin stays 4: the room check asks for the 5 free cells the single-character branch asks for anyway).  The full
statement (one cell more, for the terminator) is false: `wcsfc_exact_fit_witness`, `wcsfc_exact_fit_fixed_witness` -/
theorem wcsfc_succeeds_partial (fx : Fixes) (hfx : fx.rangeChk = true) (dmax : Nat) (src : List Nat)
    (hs : ∀ c ∈ src, c ≠ 0 ∧ c ≤ 0x10FFFF) (hmax : dmax ≤ RSIZE_MAX_WSTR)
    (hroom : (fcPure src).length + 4 ≤ dmax) :
    wcsfcS fx dmax src = ⟨0, (fcPure src).length, fcPure src, false, false⟩ := by
  have h := wcsfcS_call fx hfx dmax src (fun c hc => (hs c hc).1)
  generalize wcsfcS fx dmax src = r at h
  cases h with
  | zero h => omega
  | big h =>
    rcases h with h | ⟨c, hc, h⟩
    · omega
    · have := (hs c hc).2; omega
  | nospc _ h => omega
  | ok => rfl
  | overrun h => omega

example : (∀ c ∈ [0x48, 0xC9, 0xdf], c ≠ 0 ∧ c ≤ 0x10FFFF) ∧ 9 ≤ RSIZE_MAX_WSTR ∧ (fcPure [0x48, 0xC9, 0xdf]).length + 4 ≤ 9 ∧
    fcPure [0x48, 0xC9, 0xdf] = [0x68, 0x65, 0x301, 0x73, 0x73] ∧ current.rangeChk = true ∧ allFixed.rangeChk = true := by
  decide +kernel

/-- the margin is sharp: `A` needs 1 cell + terminator, is announced as 1 cell, and is refused (ESNOSPC, `*lenp = 0`) below `dmax = 5` -/
theorem wcsfc_exact_fit_witness :
    (fcPure [0x41]).length = 1 ∧ iswfc 0x41 = 1 ∧
    (wcsfcS current 2 [0x41]).ret = ESNOSPC ∧ (wcsfcS current 3 [0x41]).ret = ESNOSPC ∧
    wcsfcS current 4 [0x41] = ⟨ESNOSPC, 0, [], false, false⟩ ∧ wcsfcS current 5 [0x41] = ⟨0, 1, [0x61], false, false⟩ := by
  decide +kernel

/-- the same for the code with the room check, where the multi-character foldings are held to the margin too: `ß` (2 cells +
terminator, announced as 2) fits into 3 cells and is accepted there by the code without the room check, but refused below `dmax = 5` (ESNOSPC,
`*lenp = 0`, nothing stored) with the room check — the price of using the sibling branch's idiom; `ßß` needs 7 -/
theorem wcsfc_exact_fit_fixed_witness :
    (fcPure [0xdf]).length = 2 ∧ iswfc 0xdf = 2 ∧
    wcsfcS normFixed 3 [0xdf] = ⟨0, 2, [0x73, 0x73], false, false⟩ ∧
    wcsfcS allFixed 3 [0xdf] = ⟨ESNOSPC, 0, [], false, false⟩ ∧ wcsfcS allFixed 4 [0xdf] = ⟨ESNOSPC, 0, [], false, false⟩ ∧
    wcsfcS allFixed 5 [0xdf] = ⟨0, 2, [0x73, 0x73], false, false⟩ ∧
    wcsfcS allFixed 4 [0x41] = ⟨ESNOSPC, 0, [], false, false⟩ ∧ wcsfcS allFixed 5 [0x41] = ⟨0, 1, [0x61], false, false⟩ ∧
    (wcsfcS allFixed 6 [0xdf, 0xdf]).ret = ESNOSPC ∧ (wcsfcS allFixed 7 [0xdf, 0xdf]).ret = 0 := by
  decide +kernel

/-- per cell, `wcsfc_s` emits the cells of `towfc_s`, each canonically decomposed — EVERY cell value `cp` and follower `nx`, except the
five code points copied unchanged and the capital sigma in front of a space.  (Full claim, without the two hypotheses: false,
`wcsfc_fold_then_decompose_witness`.) -/
theorem wcsfc_fold_then_decompose_partial (cp nx : Nat) (hs : fcSpecial cp = false) (h3 : ¬(cp = 0x3a3 ∧ iswspace nx = true)) :
    fcCell cp nx = (towfcCore cp).2.flatMap decompose1 :=
  fcCell_fold_decompose cp nx hs h3

example : fcSpecial 0x1f82 = false ∧ ¬(0x1f82 = 0x3a3 ∧ iswspace 0 = true) ∧
    fcCell 0x1f82 0 = [0x3b1, 0x313, 0x300, 0x3b9] ∧ (towfcCore 0x1f82).2 = [0x1f02, 0x3b9] ∧
    fcSpecial 0x3a3 = false ∧ ¬(0x3a3 = 0x3a3 ∧ iswspace 0x41 = true) ∧ fcCell 0x3a3 0x41 = [0x3c3] := by
  decide +kernel

/-- the same for a whole string without the five code points and without a capital sigma directly in front of a space: dest =
the decomposition pass of wcsnorm_s (`flatMap decompose1`, `C17.nfd_model`) over the concatenated `towfc_s` results -/
theorem wcsfc_fold_then_decompose_string_partial (src : List Nat) (hs : ∀ c ∈ src, fcSpecial c = false)
    (h3 : sigmaFinal src = false) : fcPure src = (src.flatMap fun c => (towfcCore c).2).flatMap decompose1 := by
  induction src with
  | nil => rfl
  | cons cp rest ih =>
    simp only [sigmaFinal, Bool.or_eq_false_iff, Bool.and_eq_false_iff, beq_eq_false_iff_ne, ne_eq] at h3
    rw [fcPure, fcCell_fold_decompose cp _ (hs cp (by simp)) (by intro hh; rcases h3.1 with h | h <;> simp_all),
      ih (fun c hc => hs c (by simp [hc])) h3.2, List.flatMap_cons, List.flatMap_append]

example : (∀ c ∈ [0x3a3, 0x41, 0x1f82, 0xC9, 0x3a3], fcSpecial c = false) ∧ sigmaFinal [0x3a3, 0x41, 0x1f82, 0xC9, 0x3a3] = false ∧
    sigmaFinal [0x41, 0x3a3, 0x20] = true ∧
    fcPure [0x3a3, 0x41, 0x1f82, 0xC9, 0x3a3] = [0x3c3, 0x61, 0x3b1, 0x313, 0x300, 0x3b9, 0x65, 0x301, 0x3c3] := by
  decide +kernel

/-- the exception list is tight: each of the five code points, whatever follows, and the sigma in front of ANY space differ -/
theorem wcsfc_fold_then_decompose_witness :
    (∀ cp nx, fcSpecial cp = true → fcCell cp nx = [cp] ∧ (towfcCore cp).2.flatMap decompose1 ≠ [cp]) ∧
    (∀ nx, iswspace nx = true → fcCell 0x3a3 nx = [0x3c2] ∧ (towfcCore 0x3a3).2.flatMap decompose1 = [0x3c3]) ∧
    (wcsfcS current 16 [0x3a3, 0x20]).out = [0x3c2, 0x20] ∧ (wcsfcS current 16 [0x1cbb]).out = [0x1cbb] ∧
    (towfcCore 0x1cbb).2 = [0x10fb] :=
  ⟨fun cp nx h => ⟨(fcCell_special h nx).1, (fcCell_special h nx).2.1⟩,
   fun _ h => ⟨(fcCell_final_sigma h).1, (fcCell_final_sigma h).2.1⟩, by decide +kernel⟩

/-- `plain cp`: whatever follows, `wcsfc_s` emits for `cp` exactly the cells `towfc_s` writes -/
theorem wcsfc_plain_cell {cp : Nat} (h : plain cp = true) (nx : Nat) : fcCell cp nx = (towfcCore cp).2 := fcCell_plain h nx

/-- for a cell value that is not `plain`, some follower makes `wcsfc_s` emit something else than the cells of `towfc_s` -/
theorem wcsfc_plain_tight {cp : Nat} (h : plain cp = false) : ∃ nx, fcCell cp nx ≠ (towfcCore cp).2 := by
  by_cases hs : fcSpecial cp = true
  · refine ⟨0, ?_⟩
    obtain ⟨e1, _, e3⟩ := fcCell_special hs 0
    rw [e1]; exact fun hh => e3 hh.symm
  · by_cases h3 : cp = 0x3a3
    · subst h3
      refine ⟨0x20, ?_⟩
      obtain ⟨e1, _, e3⟩ := fcCell_final_sigma (nx := 0x20) (by decide +kernel)
      rw [e1, e3]; decide
    · refine ⟨0, ?_⟩
      have hs' : fcSpecial cp = false := by simpa using hs
      rw [fcCell_fold_decompose cp 0 hs' (fun hh => h3 hh.1)]
      intro heq
      have hall := flatMap_fixed_conv decompose1_ne_nil heq
      have : plain cp = true := by
        simp only [plain, hs', Bool.not_false, Bool.true_and]
        simpa [h3] using hall
      rw [h] at this
      cases this

example : plain 0x41 = true ∧ plain 0x7a = true ∧ plain 0xdf = true ∧ plain 0x1e9e = true ∧ plain 0xfb03 = true ∧
    plain 0x416 = true ∧ plain 0x391 = true ∧ plain 0x130 = true ∧ plain 0x4e2d = true ∧
    plain 0xC9 = false ∧ plain 0x3a3 = false ∧ plain 0x1f80 = false ∧ plain 0x1cbb = false := by
  decide +kernel

/-- text of `plain` cells: dest = the concatenation of what `towfc_s` writes per cell, its length = the sum of the announced
lengths (0 announced: one cell), and a destination of that sum + 4 cells suffices.  (For arbitrary text all three fail:
`wcsfc_announced_witness_decomposes`, `wcsfc_announced_witness_sigma`, `wcsfc_announced_witness_sum`; "+ 1" instead of "+ 4":
`wcsfc_exact_fit_witness`.) -/
theorem wcsfc_announced_partial (src : List Nat) (hs : ∀ c ∈ src, c ≠ 0 ∧ c ≤ 0x10FFFF ∧ plain c = true) :
    fcPure src = src.flatMap (fun c => (towfcCore c).2) ∧
    (fcPure src).length = (src.map fun c => max 1 (iswfc c)).sum ∧
    ∀ dmax, dmax ≤ RSIZE_MAX_WSTR → (src.map fun c => max 1 (iswfc c)).sum + 4 ≤ dmax →
      wcsfcS current dmax src =
        ⟨0, (src.map fun c => max 1 (iswfc c)).sum, src.flatMap (fun c => (towfcCore c).2), false, false⟩ := by
  have e1 := fcPure_plain (src := src) (fun c hc => (hs c hc).2.2)
  have e2 : (fcPure src).length = (src.map fun c => max 1 (iswfc c)).sum := by rw [e1]; exact announced_length src
  refine ⟨e1, e2, ?_⟩
  intro dmax hmax hroom
  rw [← e2, ← e1]
  exact wcsfc_succeeds_partial current rfl dmax src (fun c hc => ⟨(hs c hc).1, (hs c hc).2.1⟩) hmax (by omega)

example : (∀ c ∈ [0x48, 0xdf, 0xfb03, 0x416, 0x1e9e], c ≠ 0 ∧ c ≤ 0x10FFFF ∧ plain c = true) ∧
    ([0x48, 0xdf, 0xfb03, 0x416, 0x1e9e].map fun c => max 1 (iswfc c)).sum = 9 ∧
    wcsfcS current 13 [0x48, 0xdf, 0xfb03, 0x416, 0x1e9e] = ⟨0, 9, [0x68, 0x73, 0x73, 0x66, 0x66, 0x69, 0x436, 0x73, 0x73], false, false⟩ := by
  decide +kernel

/-- `É`: announced 1, `towfc_s` writes `é`, `wcsfc_s` writes `e` U+0301 -/
theorem wcsfc_announced_witness_decomposes :
    wcsfcS current 16 [0xC9] = ⟨0, 2, [0x65, 0x301], false, false⟩ ∧ iswfc 0xC9 = 1 ∧ (towfcCore 0xC9).2 = [0xE9] := by
  decide +kernel

/-- final sigma: `towfc_s` gives U+03C3, `wcsfc_s` in front of a space U+03C2 -/
theorem wcsfc_announced_witness_sigma :
    wcsfcS current 16 [0x3a3, 0x20] = ⟨0, 2, [0x3c2, 0x20], false, false⟩ ∧ (towfcCore 0x3a3).2 = [0x3c3] ∧ (towfcCore 0x20).2 = [0x20] := by
  decide +kernel

/-- five `É`: announced 5 cells; a destination of 5 + 1 is refused, and the text `wcsfc_s` writes has 10 -/
theorem wcsfc_announced_witness_sum :
    ([0xC9, 0xC9, 0xC9, 0xC9, 0xC9].map fun c => max 1 (iswfc c)).sum = 5 ∧
    (wcsfcS current 6 [0xC9, 0xC9, 0xC9, 0xC9, 0xC9]).ret = ESNOSPC ∧
    (wcsfcS current 16 [0xC9, 0xC9, 0xC9, 0xC9, 0xC9]).ret = 0 ∧ (wcsfcS current 16 [0xC9, 0xC9, 0xC9, 0xC9, 0xC9]).len = 10 := by
  decide +kernel

#print axioms wcsfc_model
#print axioms wcsfc_overrun_witness
#print axioms wcsfc_multichar_cells
#print axioms wcsfc_multichar_cells_witness
#print axioms wcsfc_no_overrun_fixed
#print axioms wcsfc_model_fixed
#print axioms wcsfc_return_codes
#print axioms wcsfc_succeeds_partial
#print axioms wcsfc_exact_fit_witness
#print axioms wcsfc_exact_fit_fixed_witness
#print axioms wcsfc_fold_then_decompose_partial
#print axioms wcsfc_fold_then_decompose_string_partial
#print axioms wcsfc_fold_then_decompose_witness
#print axioms wcsfc_plain_cell
#print axioms wcsfc_plain_tight
#print axioms wcsfc_announced_partial
#print axioms wcsfc_announced_witness_decomposes
#print axioms wcsfc_announced_witness_sigma
#print axioms wcsfc_announced_witness_sum

end SafeC.Props.C17Fold
