import SafeC.Proofs.AccQueryEntry
import SafeC.Props.C02
/-!
# C02 for the queries of `Models/Query2.lean`

`strfirstchar_s strlastchar_s strfirstdiff_s strfirstsame_s strlastdiff_s strlastsame_s`, the eight `stris*_s`
predicates, `wcscmp_s wcsncmp_s wcsstr_s`.  Same setting and same three kinds of statement as `C02Compare.lean`:
every one of these loops is written `while (*dest && dmax)` (read before bound) — and three predicates
(`strisdigit_s strisuppercase_s strismixedcase_s`) never look at `dmax` at all.
-/
namespace SafeC.Props.C02
open SafeC Gen

/-- **strfirstchar_s**: the string at dest, at most `dmax + 1` cells -/
theorem strfirstchar_s_C02_tight_partial (dest dmax c : Nat) (db : Bos) (st : St)
    (hd : dest ≠ 0 → StrRd st dest (dmax+1)) :
    Runs (strfirstchar_s dest dmax c db) st :=
  runs_of_AccD (strfirstchar_s_acc dest dmax c db hd)

/-- **strfirstchar_s**, C02 for a dest terminated inside `dmax` -/
theorem strfirstchar_s_C02_partial (dest dmax c : Nat) (db : Bos) (st : St)
    (hd : dest ≠ 0 → RD st dest dmax) (ht : dest ≠ 0 → Term st dest dmax) :
    Runs (strfirstchar_s dest dmax c db) st :=
  strfirstchar_s_C02_tight_partial dest dmax c db st (StrRd.of_RD_term.guard hd ht)

/-- **strlastchar_s**: the string at dest, at most `dmax + 1` cells -/
theorem strlastchar_s_C02_tight_partial (dest dmax c : Nat) (db : Bos) (st : St)
    (hd : dest ≠ 0 → StrRd st dest (dmax+1)) :
    Runs (strlastchar_s dest dmax c db) st :=
  runs_of_AccD (strlastchar_s_acc dest dmax c db hd)

/-- **strlastchar_s**, C02 for a dest terminated inside `dmax` -/
theorem strlastchar_s_C02_partial (dest dmax c : Nat) (db : Bos) (st : St)
    (hd : dest ≠ 0 → RD st dest dmax) (ht : dest ≠ 0 → Term st dest dmax) :
    Runs (strlastchar_s dest dmax c db) st :=
  strlastchar_s_C02_tight_partial dest dmax c db st (StrRd.of_RD_term.guard hd ht)

/-- **strfirstdiff_s**: both strings up to their terminators, at most `dmax + 1` cells of each -/
theorem strfirstdiff_s_C02_tight_partial (dest dmax src : Nat) (db : Bos) (st : St)
    (hd : dest ≠ 0 → StrRd st dest (dmax+1)) (hs : src ≠ 0 → StrRd st src (dmax+1)) :
    Runs (strfirstdiff_s dest dmax src db) st :=
  runs_of_AccD (pairFn_acc false true ESNODIFF dest dmax src db hd hs)

/-- **strfirstdiff_s**, C02 for a dest terminated inside `dmax` (`src`: a string, declared to its terminator) -/
theorem strfirstdiff_s_C02_partial (dest dmax src : Nat) (db : Bos) (st : St)
    (hd : dest ≠ 0 → RD st dest dmax) (ht : dest ≠ 0 → Term st dest dmax) (hs : src ≠ 0 → ∀ n, StrRd st src n) :
    Runs (strfirstdiff_s dest dmax src db) st :=
  strfirstdiff_s_C02_tight_partial dest dmax src db st (StrRd.of_RD_term.guard hd ht) (fun h => hs h _)

/-- **strfirstsame_s**: both strings up to their terminators, at most `dmax + 1` cells of each -/
theorem strfirstsame_s_C02_tight_partial (dest dmax src : Nat) (db : Bos) (st : St)
    (hd : dest ≠ 0 → StrRd st dest (dmax+1)) (hs : src ≠ 0 → StrRd st src (dmax+1)) :
    Runs (strfirstsame_s dest dmax src db) st :=
  runs_of_AccD (pairFn_acc true true ESNOTFND dest dmax src db hd hs)

/-- **strfirstsame_s**, C02 for a dest terminated inside `dmax` (`src`: a string, declared to its terminator) -/
theorem strfirstsame_s_C02_partial (dest dmax src : Nat) (db : Bos) (st : St)
    (hd : dest ≠ 0 → RD st dest dmax) (ht : dest ≠ 0 → Term st dest dmax) (hs : src ≠ 0 → ∀ n, StrRd st src n) :
    Runs (strfirstsame_s dest dmax src db) st :=
  strfirstsame_s_C02_tight_partial dest dmax src db st (StrRd.of_RD_term.guard hd ht) (fun h => hs h _)

/-- **strlastdiff_s**: both strings up to their terminators, at most `dmax + 1` cells of each -/
theorem strlastdiff_s_C02_tight_partial (dest dmax src : Nat) (db : Bos) (st : St)
    (hd : dest ≠ 0 → StrRd st dest (dmax+1)) (hs : src ≠ 0 → StrRd st src (dmax+1)) :
    Runs (strlastdiff_s dest dmax src db) st :=
  runs_of_AccD (pairFn_acc false false ESNODIFF dest dmax src db hd hs)

/-- **strlastdiff_s**, C02 for a dest terminated inside `dmax` (`src`: a string, declared to its terminator) -/
theorem strlastdiff_s_C02_partial (dest dmax src : Nat) (db : Bos) (st : St)
    (hd : dest ≠ 0 → RD st dest dmax) (ht : dest ≠ 0 → Term st dest dmax) (hs : src ≠ 0 → ∀ n, StrRd st src n) :
    Runs (strlastdiff_s dest dmax src db) st :=
  strlastdiff_s_C02_tight_partial dest dmax src db st (StrRd.of_RD_term.guard hd ht) (fun h => hs h _)

/-- **strlastsame_s**: both strings up to their terminators, at most `dmax + 1` cells of each -/
theorem strlastsame_s_C02_tight_partial (dest dmax src : Nat) (db : Bos) (st : St)
    (hd : dest ≠ 0 → StrRd st dest (dmax+1)) (hs : src ≠ 0 → StrRd st src (dmax+1)) :
    Runs (strlastsame_s dest dmax src db) st :=
  runs_of_AccD (pairFn_acc true false ESNOTFND dest dmax src db hd hs)

/-- **strlastsame_s**, C02 for a dest terminated inside `dmax` (`src`: a string, declared to its terminator) -/
theorem strlastsame_s_C02_partial (dest dmax src : Nat) (db : Bos) (st : St)
    (hd : dest ≠ 0 → RD st dest dmax) (ht : dest ≠ 0 → Term st dest dmax) (hs : src ≠ 0 → ∀ n, StrRd st src n) :
    Runs (strlastsame_s dest dmax src db) st :=
  strlastsame_s_C02_tight_partial dest dmax src db st (StrRd.of_RD_term.guard hd ht) (fun h => hs h _)

/-- **strisalphanumeric_s**: the string at dest, at most `dmax + 1` cells -/
theorem strisalphanumeric_s_C02_tight_partial (dest dmax : Nat) (db : Bos) (st : St)
    (hd : dest ≠ 0 → StrRd st dest (dmax+1)) :
    Runs (strisalphanumeric_s dest dmax db) st :=
  runs_of_AccD (predFn_bounded_acc isAlnumC dest dmax db hd)

/-- **strisalphanumeric_s**, C02 for a dest terminated inside `dmax` -/
theorem strisalphanumeric_s_C02_partial (dest dmax : Nat) (db : Bos) (st : St)
    (hd : dest ≠ 0 → RD st dest dmax) (ht : dest ≠ 0 → Term st dest dmax) :
    Runs (strisalphanumeric_s dest dmax db) st :=
  strisalphanumeric_s_C02_tight_partial dest dmax db st (StrRd.of_RD_term.guard hd ht)

/-- **strishex_s**: the string at dest, at most `dmax + 1` cells -/
theorem strishex_s_C02_tight_partial (dest dmax : Nat) (db : Bos) (st : St)
    (hd : dest ≠ 0 → StrRd st dest (dmax+1)) :
    Runs (strishex_s dest dmax db) st :=
  runs_of_AccD (predFn_bounded_acc isHexC dest dmax db hd)

/-- **strishex_s**, C02 for a dest terminated inside `dmax` -/
theorem strishex_s_C02_partial (dest dmax : Nat) (db : Bos) (st : St)
    (hd : dest ≠ 0 → RD st dest dmax) (ht : dest ≠ 0 → Term st dest dmax) :
    Runs (strishex_s dest dmax db) st :=
  strishex_s_C02_tight_partial dest dmax db st (StrRd.of_RD_term.guard hd ht)

/-- **strislowercase_s**: the string at dest, at most `dmax + 1` cells -/
theorem strislowercase_s_C02_tight_partial (dest dmax : Nat) (db : Bos) (st : St)
    (hd : dest ≠ 0 → StrRd st dest (dmax+1)) :
    Runs (strislowercase_s dest dmax db) st :=
  runs_of_AccD (predFn_bounded_acc isLowerC dest dmax db hd)

/-- **strislowercase_s**, C02 for a dest terminated inside `dmax` -/
theorem strislowercase_s_C02_partial (dest dmax : Nat) (db : Bos) (st : St)
    (hd : dest ≠ 0 → RD st dest dmax) (ht : dest ≠ 0 → Term st dest dmax) :
    Runs (strislowercase_s dest dmax db) st :=
  strislowercase_s_C02_tight_partial dest dmax db st (StrRd.of_RD_term.guard hd ht)

/-- **strisdigit_s**: `while (*dest)` — the string at dest to its terminator, `dmax` is decremented but never tested -/
theorem strisdigit_s_C02_tight_partial (dest dmax : Nat) (db : Bos) (st : St)
    (hd : dest ≠ 0 → StrRd st dest scanFuel2) :
    Runs (strisdigit_s dest dmax db) st :=
  runs_of_AccD (predFn_unbounded_acc isDigitC dest dmax db hd)

/-- **strisdigit_s**, C02 for a dest terminated inside `dmax` -/
theorem strisdigit_s_C02_partial (dest dmax : Nat) (db : Bos) (st : St)
    (hd : dest ≠ 0 → RD st dest dmax) (ht : dest ≠ 0 → Term st dest dmax) :
    Runs (strisdigit_s dest dmax db) st :=
  strisdigit_s_C02_tight_partial dest dmax db st (StrRd.of_RD_term.guard hd ht)

/-- **strismixedcase_s**: `while (*dest)` — the string at dest to its terminator, `dmax` is decremented but never tested -/
theorem strismixedcase_s_C02_tight_partial (dest dmax : Nat) (db : Bos) (st : St)
    (hd : dest ≠ 0 → StrRd st dest scanFuel2) :
    Runs (strismixedcase_s dest dmax db) st :=
  runs_of_AccD (predFn_unbounded_acc isAlphaC dest dmax db hd)

/-- **strismixedcase_s**, C02 for a dest terminated inside `dmax` -/
theorem strismixedcase_s_C02_partial (dest dmax : Nat) (db : Bos) (st : St)
    (hd : dest ≠ 0 → RD st dest dmax) (ht : dest ≠ 0 → Term st dest dmax) :
    Runs (strismixedcase_s dest dmax db) st :=
  strismixedcase_s_C02_tight_partial dest dmax db st (StrRd.of_RD_term.guard hd ht)

/-- **strisuppercase_s**: `while (*dest)` — the string at dest to its terminator, `dmax` is decremented but never tested -/
theorem strisuppercase_s_C02_tight_partial (dest dmax : Nat) (db : Bos) (st : St)
    (hd : dest ≠ 0 → StrRd st dest scanFuel2) :
    Runs (strisuppercase_s dest dmax db) st :=
  runs_of_AccD (predFn_unbounded_acc isUpperC dest dmax db hd)

/-- **strisuppercase_s**, C02 for a dest terminated inside `dmax` -/
theorem strisuppercase_s_C02_partial (dest dmax : Nat) (db : Bos) (st : St)
    (hd : dest ≠ 0 → RD st dest dmax) (ht : dest ≠ 0 → Term st dest dmax) :
    Runs (strisuppercase_s dest dmax db) st :=
  strisuppercase_s_C02_tight_partial dest dmax db st (StrRd.of_RD_term.guard hd ht)

/-- **strisascii_s**: the string at dest, at most `dmax + 1` cells -/
theorem strisascii_s_C02_tight_partial (dest dmax : Nat) (db : Bos) (st : St)
    (hd : dest ≠ 0 → StrRd st dest (dmax+1)) :
    Runs (strisascii_s dest dmax db) st :=
  runs_of_AccD (strisascii_s_acc dest dmax db hd)

/-- **strisascii_s**, C02 for a dest terminated inside `dmax` -/
theorem strisascii_s_C02_partial (dest dmax : Nat) (db : Bos) (st : St)
    (hd : dest ≠ 0 → RD st dest dmax) (ht : dest ≠ 0 → Term st dest dmax) :
    Runs (strisascii_s dest dmax db) st :=
  strisascii_s_C02_tight_partial dest dmax db st (StrRd.of_RD_term.guard hd ht)

/-- **strispassword_s**: `while (*dest) { if (dmax == 0) …` — the string at dest, at most `dmax + 1` cells -/
theorem strispassword_s_C02_tight_partial (dest dmax : Nat) (db : Bos) (st : St)
    (hd : dest ≠ 0 → StrRd st dest (dmax+1)) :
    Runs (strispassword_s dest dmax db) st :=
  runs_of_AccD (strispassword_s_acc dest dmax db hd)

/-- **strispassword_s**, C02 for a dest terminated inside `dmax` -/
theorem strispassword_s_C02_partial (dest dmax : Nat) (db : Bos) (st : St)
    (hd : dest ≠ 0 → RD st dest dmax) (ht : dest ≠ 0 → Term st dest dmax) :
    Runs (strispassword_s dest dmax db) st :=
  strispassword_s_C02_tight_partial dest dmax db st (StrRd.of_RD_term.guard hd ht)

/-- **wcscmp_s**: each string up to its terminator, at most `dmax + 1` cells of dest and `smax + 1` of src
(the loop header reads both before it looks at either counter, `*resultp = *dest - *src` reads them again) -/
theorem wcscmp_s_C02_tight_partial (dest dmax src smax : Nat) (db sb : Bos) (st : St)
    (hd : dest ≠ 0 → StrRd st dest (dmax+1)) (hs : src ≠ 0 → StrRd st src (smax+1)) :
    Runs (wcscmp_s dest dmax src smax db sb) st :=
  runs_of_AccD (wcscmpG_acc false dest dmax src smax 0 db sb hd hs)

theorem wcscmp_s_C02_partial (dest dmax src smax : Nat) (db sb : Bos) (st : St)
    (hd : dest ≠ 0 → RD st dest dmax) (ht : dest ≠ 0 → Term st dest dmax)
    (hs : src ≠ 0 → StrRd st src smax) (hts : src ≠ 0 → Term st src smax) :
    Runs (wcscmp_s dest dmax src smax db sb) st :=
  wcscmp_s_C02_tight_partial dest dmax src smax db sb st (StrRd.of_RD_term.guard hd ht)
    (fun h => StrRd.of_term (hs h) (hts h) _)

/-- **wcsncmp_s** -/
theorem wcsncmp_s_C02_tight_partial (dest dmax src smax count : Nat) (db sb : Bos) (st : St)
    (hd : dest ≠ 0 → StrRd st dest (dmax+1)) (hs : src ≠ 0 → StrRd st src (smax+1)) :
    Runs (wcsncmp_s dest dmax src smax count db sb) st :=
  runs_of_AccD (wcscmpG_acc true dest dmax src smax count db sb hd hs)

theorem wcsncmp_s_C02_partial (dest dmax src smax count : Nat) (db sb : Bos) (st : St)
    (hd : dest ≠ 0 → RD st dest dmax) (ht : dest ≠ 0 → Term st dest dmax)
    (hs : src ≠ 0 → StrRd st src smax) (hts : src ≠ 0 → Term st src smax) :
    Runs (wcsncmp_s dest dmax src smax count db sb) st :=
  wcsncmp_s_C02_tight_partial dest dmax src smax count db sb st (StrRd.of_RD_term.guard hd ht)
    (fun h => StrRd.of_term (hs h) (hts h) _)

/-- **wcsstr_s**: dest within `dmax + 1` cells, the needle within `slen + 1` (`src[i]` is read before `!len`) -/
theorem wcsstr_s_C02_tight_partial (dest dmax src slen : Nat) (db sb : Bos) (st : St)
    (hd : dest ≠ 0 → StrRd st dest (dmax+1)) (hs : src ≠ 0 → StrRd st src (slen+1)) :
    Runs (wcsstr_s dest dmax src slen db sb) st :=
  runs_of_AccD (wcsstr_s_acc dest dmax src slen db sb hd hs)

theorem wcsstr_s_C02_partial (dest dmax src slen : Nat) (db sb : Bos) (st : St)
    (hd : dest ≠ 0 → RD st dest dmax) (ht : dest ≠ 0 → Term st dest dmax)
    (hs : src ≠ 0 → StrRd st src slen) (hts : src ≠ 0 → Term st src slen) :
    Runs (wcsstr_s dest dmax src slen db sb) st :=
  wcsstr_s_C02_tight_partial dest dmax src slen db sb st (StrRd.of_RD_term.guard hd ht)
    (fun h => StrRd.of_term (hs h) (hts h) _)

/-- class `dmax-ignored` (`while (*dest)` of strisdigit_s): `dmax = 1`, the three mapped cells hold digits and no
terminator: the scan leaves the declared cell, walks over the other two and faults on the fourth -/
theorem dmax_ignored_witness :
    exec (strisdigit_s 100 1 none) (win (fun a => if 100 ≤ a ∧ a < 103 then 49 else 0) 100 103 0 0) =
      .error (.read 103) := faultOf_ok (by decide)

/-- the same array with `strisascii_s` (bounded loop): only `dest[dmax]`, the one cell behind, is touched -/
theorem read_before_bound_pred_witness :
    exec (strisascii_s 100 1 none) (win (fun a => if 100 ≤ a ∧ a < 103 then 49 else 0) 100 101 0 0) =
      .error (.read 101) := faultOf_ok (by decide)

/-- non-vacuity: "12\0" at 100 with `dmax = 5` declared cells, nothing else mapped -/
example : ∃ st : St, RD st 100 5 ∧ Term st 100 5 ∧ StrRd st 100 scanFuel2 ∧ st.mapped 105 = false := by
  refine ⟨win (fun a => if a = 100 then 49 else if a = 101 then 50 else 0) 100 105 0 0, ?_, ?_, ?_, by decide⟩
  · exact win_RD (by omega)
  · exact ⟨2, by omega, by simp [win]⟩
  · exact StrRd.of_RD_term (n := 5) (win_RD (by omega)) ⟨2, by omega, by simp [win]⟩ _
end SafeC.Props.C02

