import SafeC.Proofs.AccMem
import SafeC.Props.C02
/-!
Write-only extents (`WO`) and the bridge for programs that load nothing, for the memory family below.
-/
namespace SafeC.Props.C02
open SafeC Gen Mem

/-- cells `[d, d+k)` are mapped and declared writable (nothing said about reading) -/
def WO (st : St) (d k : Nat) : Prop := ∀ i, i < k → st.mapped (d+i) = true ∧ st.wr (d+i) = true

theorem Wr_of_WO {st : St} {p n : Nat} (h : WO st p n) : ∀ a, Cells p n a → Wr st a := 
  fun _ ha => let ⟨i, hi, e⟩ := ha.idx; e ▸ h i hi

theorem Wr_of_WO.guard {st : St} {p n : Nat} (h : p ≠ 0 → WO st p n) (hp : p ≠ 0) : ∀ a, Cells p n a → Wr st a := Wr_of_WO (h hp)

theorem WO.of_RW {st : St} {p n : Nat} (h : RW st p n) : WO st p n := fun i hi => ⟨(h i hi).1, (h i hi).2.1⟩

/-- a program with an empty read footprint runs where only its write footprint is mapped and writable -/
theorem runs_of_Acc_noload {α} {p : Prog α} {Q : α → Prop} {st : St} (h : Acc (fun _ => False) (Wr st) p Q) :
    Runs p st := runs_of_Acc (h.mono (fun _ hf => hf.elim) (fun _ hw => hw))

/-!
# C02 for the memory family of `Models/Mem.lean`

`memcpy_s memmove_s memset_s memzero_s memzero16_s memzero32_s memset16_s memset32_s memcpy16_s memcpy32_s memmove16_s
memmove32_s memccpy_s wmemcpy_s wmemmove_s`.

Setting as in `C02Query.lean`: ONLY what the hypotheses name is mapped; `Runs p st`: the call returns (nothing unmapped was
touched) and records no stray access — for all arguments (every size, null pointers, object sizes known or unknown),
every content of memory, every alignment and every relative placement of the operands.  The footprints come from the
value-independent judgement `Acc` (`Proofs/AccMem.lean`), phase by phase through the primitives (alignment prologue,
64-bit word loop, 16-way unrolled blocks, tails, both copy directions).

Units are those of the C parameters: `dmax`/`destbos` of the 16/32-bit functions are BYTES, `slen`/`n`/`len` ELEMENTS;
model memory is addressed in cells of the element width.

* The setters (`memset_s memzero_s memzero16_s memzero32_s memset16_s memset32_s`) perform NO load: their theorems
  ask for dest to be mapped and WRITABLE only (`WO`), and `…_noload` states the footprint with the empty readable set.
* `memset_s memset16_s memset32_s memcpy16_s memcpy32_s memmove16_s memmove32_s` do `dmax = destbos` when the object
  size is known: what they may clear or fill is `destbos.getD dmax` bytes — that is the declared extent of dest.
* `memcpy16_s memcpy32_s memmove16_s memmove32_s` clear dest BYTE-wise on their error paths (`handle_mem_error`,
  `mem_prim_set`): when the byte size is not a multiple of the element size the last element is partially covered and
  is read-modify-written; dest is `⌈bytes / w⌉` cells, readable and writable.
* `memcpy_s`, `memmove_s`: `_partial`, see there (a `uint32_t` truncation in `mem_prim_move`).
-/

/-
The FULL statement
```
theorem memcpy_s_C02 (hd : dest ≠ 0 → RW st dest dmax) (hs : src ≠ 0 → slen ≤ dmax → RD st src slen) :
    Runs (memcpy_s dest dmax src slen db sb) st
```
is false of the model (and of the C code): `mem_prim_move` takes its length as `uint32_t`.  Without a known object size
`dmax ≤ RSIZE_MAX_MEM < 2^32` keeps `slen` below `2^32`; with a known one `CHK_DEST_MEM_OVR` only compares `dmax` with
`destbos`, so `slen` may be a nonzero multiple of `2^32`: `mem_prim_move` is entered with `len = 0`, and with unaligned
pointers its `do … while (--tsp)` prologue starts at `tsp = 0` and runs `2^64` times (`doWhileCount 0 = U64`).
-/
/-- **memcpy_s** (`_partial`: `hU`, vacuous when the object size is unknown): loads inside the `slen` source bytes (and
only when `slen ≤ dmax`), stores inside the `dmax` bytes of dest — which need NOT be readable -/
theorem memcpy_s_C02_partial (dest dmax src slen : Nat) (db sb : Bos) (st : St)
    (hU : db = none ∨ slen % U32 ≠ 0)
    (hd : dest ≠ 0 → WO st dest dmax) (hs : src ≠ 0 → slen ≤ dmax → RD st src slen) :
    Runs (memcpy_s dest dmax src slen db sb) st :=
  runs_of_Acc (Acc_memcpy_s dest dmax src slen db sb (hU.imp_right fun h _ _ => h) (fun h hle => Rd_of_RD (hs h hle)) (Wr_of_WO.guard hd))

/-- **memmove_s** (`_partial`, same reason as `memcpy_s`) -/
theorem memmove_s_C02_partial (dest dmax src slen : Nat) (db sb : Bos) (st : St)
    (hU : db = none ∨ slen % U32 ≠ 0)
    (hd : dest ≠ 0 → WO st dest dmax) (hs : src ≠ 0 → slen ≤ dmax → RD st src slen) :
    Runs (memmove_s dest dmax src slen db sb) st :=
  runs_of_Acc (Acc_memmove_s dest dmax src slen db sb (hU.imp_right fun h _ _ => h) (fun h hle => Rd_of_RD (hs h hle)) (Wr_of_WO.guard hd))

/-- the FULL statement for callers without object-size information (`memcpy_s` proper, not `_memcpy_s_chk` with a
known `destbos`) -/
theorem memcpy_s_C02 (dest dmax src slen : Nat) (sb : Bos) (st : St)
    (hd : dest ≠ 0 → WO st dest dmax) (hs : src ≠ 0 → slen ≤ dmax → RD st src slen) :
    Runs (memcpy_s dest dmax src slen none sb) st :=
  memcpy_s_C02_partial dest dmax src slen none sb st (Or.inl rfl) hd hs

theorem memmove_s_C02 (dest dmax src slen : Nat) (sb : Bos) (st : St)
    (hd : dest ≠ 0 → WO st dest dmax) (hs : src ≠ 0 → slen ≤ dmax → RD st src slen) :
    Runs (memmove_s dest dmax src slen none sb) st :=
  memmove_s_C02_partial dest dmax src slen none sb st (Or.inl rfl) hd hs

/-- **memset_s** (FULL): no load; stores inside the `destbos.getD dmax` bytes of dest -/
theorem memset_s_noload (dest dmax value n : Nat) (db : Bos) (st : St) (hd : dest ≠ 0 → WO st dest (db.getD dmax)) :
    Acc (fun _ => False) (Wr st) (memset_s dest dmax value n db) (fun _ => True) :=
  Acc_memset_s dest dmax value n db (Wr_of_WO.guard hd)

theorem memset_s_C02 (dest dmax value n : Nat) (db : Bos) (st : St) (hd : dest ≠ 0 → WO st dest (db.getD dmax)) :
    Runs (memset_s dest dmax value n db) st := runs_of_Acc_noload (memset_s_noload dest dmax value n db st hd)

/-- **memzero_s** (FULL): no load; stores inside the `len` bytes of dest -/
theorem memzero_s_noload (dest len : Nat) (db : Bos) (st : St) (hd : dest ≠ 0 → WO st dest len) :
    Acc (fun _ => False) (Wr st) (memzero_s dest len db) (fun _ => True) :=
  Acc_memzero_s dest len db (Wr_of_WO.guard hd)

theorem memzero_s_C02 (dest len : Nat) (db : Bos) (st : St) (hd : dest ≠ 0 → WO st dest len) :
    Runs (memzero_s dest len db) st := runs_of_Acc_noload (memzero_s_noload dest len db st hd)

/-- **memccpy_s** (FULL): loads inside the `n` source bytes (only when `n ≤ dmax`) and inside dest (every byte stored is
read back for the comparison with `c`), stores inside the `dmax` bytes of dest -/
theorem memccpy_s_C02 (cfg : Cfg) (dest dmax src c n : Nat) (db sb : Bos) (st : St)
    (hd : dest ≠ 0 → RW st dest dmax) (hs : src ≠ 0 → n ≤ dmax → RD st src n) :
    Runs (memccpy_s cfg dest dmax src c n db sb) st :=
  runs_of_Acc (Acc_memccpy_s cfg dest dmax src c n db sb (fun h hle => Rd_of_RD (hs h hle))
    (Rd_of_RW.guard hd) (Wr_of_RW.guard hd))

/-- **memzero16_s** (FULL): no load; stores inside the `len` elements of dest -/
theorem memzero16_s_noload (dest len : Nat) (db : Bos) (st : St) (hd : dest ≠ 0 → WO st dest len) :
    Acc (fun _ => False) (Wr st) (memzero16_s dest len db) (fun _ => True) :=
  Acc_memzero16_s dest len db (Wr_of_WO.guard hd)
theorem memzero16_s_C02 (dest len : Nat) (db : Bos) (st : St) (hd : dest ≠ 0 → WO st dest len) :
    Runs (memzero16_s dest len db) st := runs_of_Acc_noload (memzero16_s_noload dest len db st hd)

/-- **memzero32_s** (FULL) -/
theorem memzero32_s_noload (dest len : Nat) (db : Bos) (st : St) (hd : dest ≠ 0 → WO st dest len) :
    Acc (fun _ => False) (Wr st) (memzero32_s dest len db) (fun _ => True) :=
  Acc_memzero32_s dest len db (Wr_of_WO.guard hd)
theorem memzero32_s_C02 (dest len : Nat) (db : Bos) (st : St) (hd : dest ≠ 0 → WO st dest len) :
    Runs (memzero32_s dest len db) st := runs_of_Acc_noload (memzero32_s_noload dest len db st hd)

/-- **memset16_s** (FULL): no load; stores inside the `⌊destbos.getD dmax / 2⌋` elements of dest -/
theorem memset16_s_noload (dest dmax value n : Nat) (db : Bos) (st : St)
    (hd : dest ≠ 0 → WO st dest (db.getD dmax / 2)) :
    Acc (fun _ => False) (Wr st) (memset16_s dest dmax value n db) (fun _ => True) :=
  Acc_memset16_s dest dmax value n db (Wr_of_WO.guard hd)
theorem memset16_s_C02 (dest dmax value n : Nat) (db : Bos) (st : St)
    (hd : dest ≠ 0 → WO st dest (db.getD dmax / 2)) :
    Runs (memset16_s dest dmax value n db) st := runs_of_Acc_noload (memset16_s_noload dest dmax value n db st hd)

/-- **memset32_s** (FULL) -/
theorem memset32_s_noload (dest dmax value n : Nat) (db : Bos) (st : St)
    (hd : dest ≠ 0 → WO st dest (db.getD dmax / 4)) :
    Acc (fun _ => False) (Wr st) (memset32_s dest dmax value n db) (fun _ => True) :=
  Acc_memset32_s dest dmax value n db (Wr_of_WO.guard hd)
theorem memset32_s_C02 (dest dmax value n : Nat) (db : Bos) (st : St)
    (hd : dest ≠ 0 → WO st dest (db.getD dmax / 4)) :
    Runs (memset32_s dest dmax value n db) st := runs_of_Acc_noload (memset32_s_noload dest dmax value n db st hd)

/-- **memcpy16_s** (FULL): loads inside the `slen` source elements and (read-modify-write of a partially covered last
element on the clearing paths) inside dest; stores inside the `⌈destbos.getD dmax / 2⌉` elements of dest -/
theorem memcpy16_s_C02 (dest dmax src slen : Nat) (db sb : Bos) (st : St)
    (hd : dest ≠ 0 → RW st dest ((db.getD dmax + 1) / 2)) (hs : src ≠ 0 → RD st src slen) :
    Runs (memcpy16_s dest dmax src slen db sb) st :=
  runs_of_Acc (Acc_memcpy16_s dest dmax src slen db sb (Rd_of_RD.guard hs)
    (Rd_of_RW.guard hd) (Wr_of_RW.guard hd))

/-- **memcpy32_s** (FULL) -/
theorem memcpy32_s_C02 (dest dmax src slen : Nat) (db sb : Bos) (st : St)
    (hd : dest ≠ 0 → RW st dest ((db.getD dmax + 3) / 4)) (hs : src ≠ 0 → RD st src slen) :
    Runs (memcpy32_s dest dmax src slen db sb) st :=
  runs_of_Acc (Acc_memcpy32_s dest dmax src slen db sb (Rd_of_RD.guard hs)
    (Rd_of_RW.guard hd) (Wr_of_RW.guard hd))

/-- **memmove16_s** (FULL) -/
theorem memmove16_s_C02 (dest dmax src slen : Nat) (db sb : Bos) (st : St)
    (hd : dest ≠ 0 → RW st dest ((db.getD dmax + 1) / 2)) (hs : src ≠ 0 → RD st src slen) :
    Runs (memmove16_s dest dmax src slen db sb) st :=
  runs_of_Acc (Acc_memmove16_s dest dmax src slen db sb (Rd_of_RD.guard hs)
    (Rd_of_RW.guard hd) (Wr_of_RW.guard hd))

/-- **memmove32_s** (FULL) -/
theorem memmove32_s_C02 (dest dmax src slen : Nat) (db sb : Bos) (st : St)
    (hd : dest ≠ 0 → RW st dest ((db.getD dmax + 3) / 4)) (hs : src ≠ 0 → RD st src slen) :
    Runs (memmove32_s dest dmax src slen db sb) st :=
  runs_of_Acc (Acc_memmove32_s dest dmax src slen db sb (Rd_of_RD.guard hs)
    (Rd_of_RW.guard hd) (Wr_of_RW.guard hd))

/-- **wmemcpy_s** (FULL): loads inside the `count` source elements, stores inside the `dlen` elements of dest (which need
not be readable: `dlen * 4` bytes never leave a partial element) -/
theorem wmemcpy_s_C02 (dest dlen src count : Nat) (db sb : Bos) (st : St)
    (hd : dest ≠ 0 → WO st dest dlen) (hs : src ≠ 0 → RD st src count) :
    Runs (wmemcpy_s dest dlen src count db sb) st :=
  runs_of_Acc (Acc_wmemcpy_s dest dlen src count db sb (Rd_of_RD.guard hs) (Wr_of_WO.guard hd))

/-- **wmemmove_s** (FULL) -/
theorem wmemmove_s_C02 (dest dlen src count : Nat) (db sb : Bos) (st : St)
    (hd : dest ≠ 0 → WO st dest dlen) (hs : src ≠ 0 → RD st src count) :
    Runs (wmemmove_s dest dlen src count db sb) st :=
  runs_of_Acc (Acc_wmemmove_s dest dlen src count db sb (Rd_of_RD.guard hs) (Wr_of_WO.guard hd))

/-- `[lo₁, hi₁)` mapped, readable and writable; `[lo₂, hi₂)` mapped and readable; nothing else mapped -/
def win2 (f : Nat → Nat) (lo₁ hi₁ lo₂ hi₂ : Nat) : St :=
  { data := f
    mapped := fun a => decide ((lo₁ ≤ a ∧ a < hi₁) ∨ (lo₂ ≤ a ∧ a < hi₂))
    rd := fun a => decide ((lo₁ ≤ a ∧ a < hi₁) ∨ (lo₂ ≤ a ∧ a < hi₂))
    wr := fun a => decide (lo₁ ≤ a ∧ a < hi₁) }

/-! ## witness: the full statement of `memcpy_s` is false with a known object size of `2^32` bytes or more -/

/-- **memcpy_s**, object size known: `dest` (2^32 bytes at 1, writable) and `src` (2^32 bytes at 2^33, readable) declared
exactly, disjoint, `dmax = slen = destbos = 2^32`: every check passes, `mem_prim_move` truncates the length to 0 and its
unaligned prologue copies until it leaves the source object — the call does not return normally -/
theorem memcpy_s_C02_bos_witness :
    RW (win2 (fun _ => 0) 1 4294967297 8589934592 12884901888) 1 4294967296 ∧
    RD (win2 (fun _ => 0) 1 4294967297 8589934592 12884901888) 8589934592 4294967296 ∧
    ¬ Runs (memcpy_s 1 4294967296 8589934592 4294967296 (some 4294967296) none)
        (win2 (fun _ => 0) 1 4294967297 8589934592 12884901888) := by
  refine ⟨fun i hi => by simp [win2]; omega, fun i hi => by simp [win2]; omega, ?_⟩
  rintro ⟨r, st', he, _⟩
  have e1 : memcpy_s 1 4294967296 8589934592 4294967296 (some 4294967296) none =
      (do mem_prim_move 1 8589934592 4294967296; pure EOK) := by
    simp [memcpy_s, chkDmaxMemB, exceeds, ovrlpButSame, U64]
  rw [e1] at he
  obtain ⟨_, s1, h1⟩ := exec_bind_ok he
  simp [mem_prim_move, U32] at h1
  obtain ⟨_, s2, h2⟩ := exec_bind_ok h1
  simp [moveFwdAlign, doWhileCount, U64] at h2
  obtain ⟨_, s3, h3⟩ := exec_bind_ok h2
  have := copyFwd_ok_mapped _ _ _ _ h3 4294967296 (by omega)
  simp [win2] at this

/-- **memmove_s**: the same call, the same run -/
theorem memmove_s_C02_bos_witness :
    ¬ Runs (memmove_s 1 4294967296 8589934592 4294967296 (some 4294967296) none)
        (win2 (fun _ => 0) 1 4294967297 8589934592 12884901888) := by
  have e : memmove_s 1 4294967296 8589934592 4294967296 (some 4294967296) none =
      memcpy_s 1 4294967296 8589934592 4294967296 (some 4294967296) none := by
    simp [memmove_s, memcpy_s, chkDmaxMemB, exceeds, ovrlpButSame, U64]
  rw [e]; exact memcpy_s_C02_bos_witness.2.2

/-- non-vacuity: a 5-byte dest and a 5-byte source (odd sizes, unaligned), both flush against unmapped memory; the
copy of all 5 bytes runs -/
example : ∃ st : St, RW st 99 5 ∧ RD st 203 5 ∧ st.mapped 104 = false ∧ st.mapped 208 = false ∧
    st.mapped 98 = false ∧ st.mapped 202 = false ∧
    Runs (memcpy_s 99 5 203 5 none none) st ∧ Runs (memccpy_s {} 99 5 203 0 5 none none) st := by
  have hw : RW (win2 (fun _ => 7) 99 104 203 208) 99 5 := fun i hi => by simp [win2]; omega
  have hr : RD (win2 (fun _ => 7) 99 104 203 208) 203 5 := fun i hi => by simp [win2]; omega
  exact ⟨_, hw, hr, by decide, by decide, by decide, by decide,
    memcpy_s_C02 99 5 203 5 none _ (fun _ => WO.of_RW hw) (fun _ _ => hr),
    memccpy_s_C02 {} 99 5 203 0 5 none none _ (fun _ => hw) (fun _ _ => hr)⟩
end SafeC.Props.C02

