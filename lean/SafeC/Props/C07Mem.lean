import SafeC.Proofs.MemCopyEntry
/-!
# C07 for the memory family — `memmove` is exact for every overlap; `memcpy_s` detects every overlap

`Moved st st' dest src n` (SafeC/Proofs/MemMove.lean): every one of the `n` destination cells holds
what the corresponding source cell held BEFORE the call (the result of copying through a temporary
array — the definition of C `memmove`), every other cell is unchanged, no stray access, no handler.

The statements hold for all lengths, all relative placements of the two operands (disjoint, forward
overlap, backward overlap, identical) and all alignments (the alignment prologue, the 8-byte word loop
and the byte tail of `mem_prim_move`, the 16-way unrolled loops of `mem_prim_move16/32`).
-/
namespace SafeC.Props.C07Mem
open SafeC Gen Mem

/-- `mem_prim_move(dest, src, len)` (bytes; 64-bit word variant): for every `dest`, `src`, `len` with
`n = len mod 2^32 ≠ 0`, the `n` destination cells writable and the `n` source cells readable, the
call returns and has `memmove` semantics — whatever the overlap and alignment. -/
theorem mem_prim_move_C07 (dest src len : Nat) (st : St) (hpos : 0 < len % U32)
    (hw : RW st dest (len % U32)) (hr : RD st src (len % U32)) :
    ∃ st', exec (mem_prim_move dest src len) st = .ok ((), st') ∧ Moved st st' dest src (len % U32) :=
  mem_prim_move_ok dest src len st hpos hw hr

/-- `mem_prim_move8/16/32(dest, src, len)` (elements; the three are the same code on different element
types): `memmove` semantics for every length (`len mod 2^32` elements), overlap and placement. -/
theorem mem_prim_move_elems_C07 (dest src len : Nat) (st : St)
    (hw : RW st dest (len % U32)) (hr : RD st src (len % U32)) :
    ∃ st', exec (mem_prim_move16 dest src len) st = .ok ((), st') ∧ Moved st st' dest src (len % U32) :=
  primMoveElems_ok dest src len st hw hr

/-- **memmove_s, valid arguments, ANY overlap:** EOK, and dest holds exactly the bytes a copy through a
temporary would have put there; nothing else changed. -/
theorem memmove_s_C07 (dest dmax src slen : Nat) (st : St)
    (hd : dest ≠ 0) (hs : src ≠ 0) (hpos : 0 < slen) (hle : slen ≤ dmax) (hmax : dmax ≤ RSIZE_MAX_MEM)
    (hw : RW st dest dmax) (hr : RD st src slen) :
    ∃ st', exec (memmove_s dest dmax src slen none none) st = .ok (EOK, st') ∧
      Moved st st' dest src slen :=
  memmove_s_ok dest dmax src slen st hd hs hpos hle hmax hw hr

/-- **memmove_s with object sizes known to the library** (`destbos`, `srcbos` arbitrary): when `dmax` is within the
limit and the known dest object and `slen` within the known source object, the same exact `memmove`. -/
theorem memmove_s_C07_bos (dest dmax src slen : Nat) (destbos srcbos : Bos) (st : St)
    (hd : dest ≠ 0) (hs : src ≠ 0) (hpos : 0 < slen) (hle : slen ≤ dmax) (hmax : dmax ≤ RSIZE_MAX_MEM)
    (hdb : memDmaxOk dmax destbos) (hsb : exceeds slen srcbos = false)
    (hw : RW st dest dmax) (hr : RD st src slen) :
    ∃ st', exec (memmove_s dest dmax src slen destbos srcbos) st = .ok (EOK, st') ∧
      Moved st st' dest src slen :=
  memmove_s_ok_bos dest dmax src slen destbos srcbos st hd hs hpos hle hmax hdb hsb hw hr

/-- **memmove16_s** (`dmax` in bytes, `slen` in 16-bit elements), valid arguments, any overlap. -/
theorem memmove16_s_C07 (dest dmax src slen : Nat) (st : St)
    (hd : dest ≠ 0) (hs : src ≠ 0) (hpos : 0 < slen) (hle : slen * 2 ≤ dmax) (hmax : dmax ≤ RSIZE_MAX_MEM)
    (hw : RW st dest slen) (hr : RD st src slen) :
    ∃ st', exec (memmove16_s dest dmax src slen none none) st = .ok (EOK, st') ∧
      Moved st st' dest src slen := by
  obtain ⟨hn, hd0, h64, _⟩ := size_facts hpos (by decide) hle hmax RSIZE_MAX_MEM_lt_U32
  refine moveEntry_ok (mv := mem_prim_move16 dest src slen) ?_ (primMoveElems_lt hn hw hr)
  unfold memmove16_s
  rw [destChecks_pass _ _ _ _ hpos hd hd0]
  dsimp only
  rw [chkDmaxMemB_none _ hmax]
  dsimp only [Option.getD_none]
  rw [Nat.mod_eq_of_lt h64]
  exact srcChecks_pass _ _ _ _ hs hle rfl

/-- **memmove32_s** (`dmax` in bytes, `slen` in 32-bit elements), valid arguments, any overlap. -/
theorem memmove32_s_C07 (dest dmax src slen : Nat) (st : St)
    (hd : dest ≠ 0) (hs : src ≠ 0) (hpos : 0 < slen) (hle : slen * 4 ≤ dmax) (hmax : dmax ≤ RSIZE_MAX_MEM)
    (hw : RW st dest slen) (hr : RD st src slen) :
    ∃ st', exec (memmove32_s dest dmax src slen none none) st = .ok (EOK, st') ∧
      Moved st st' dest src slen := by
  obtain ⟨hn, hd0, h64, _⟩ := size_facts hpos (by decide) hle hmax RSIZE_MAX_MEM_lt_U32
  refine moveEntry_ok (mv := mem_prim_move32 dest src slen) ?_ (primMoveElems_lt hn hw hr)
  unfold memmove32_s
  rw [destChecks_pass _ _ _ _ hpos hd hd0]
  dsimp only
  rw [chkDmaxMemB_none _ hmax]
  dsimp only [Option.getD_none]
  rw [Nat.mod_eq_of_lt h64]
  exact srcChecks_pass _ _ _ _ hs hle rfl

/-- **memcpy_s rejects every overlap:** whenever the `slen` source bytes and the `dmax` destination
bytes share a byte and `dest ≠ src` (addresses below 2^64), the call returns ESOVRLP, has zeroed the
`dmax` bytes of dest, changed nothing else, and invoked the mem handler exactly once. -/
theorem memcpy_s_C07_overlap (dest dmax src slen : Nat) (st : St)
    (hd : dest ≠ 0) (hs : src ≠ 0) (hpos : 0 < slen) (hle : slen ≤ dmax) (hmax : dmax ≤ RSIZE_MAX_MEM)
    (hw : RW st dest dmax) (ha1 : src + slen < U64) (ha2 : dest + dmax < U64)
    (hov : (src < dest ∧ dest < src + slen) ∨ (dest < src ∧ src < dest + dmax)) :
    ∃ st', exec (memcpy_s dest dmax src slen none none) st = .ok (ESOVRLP, st') ∧
      st'.events = st.events ++ [.handler .mem ESOVRLP] ∧ st'.strays = st.strays ∧
      (∀ a, st'.data a = if dest ≤ a ∧ a < dest + dmax then 0 else st.data a) := by
  have hn : dmax % U32 = dmax := Nat.mod_eq_of_lt (Nat.lt_of_le_of_lt hmax RSIZE_MAX_MEM_lt_U32)
  obtain ⟨s1, he, hf⟩ := mem_prim_set_ok dest dmax 0 st (by rw [hn]; exact hw)
  rw [hn] at hf
  refine ⟨{ s1 with events := s1.events ++ [.handler .mem ESOVRLP] }, ?_, ?_, hf.same.strays, hf.data⟩
  · unfold memcpy_s
    rw [destChecks_pass _ _ _ _ hpos hd (Nat.ne_of_gt (Nat.lt_of_lt_of_le hpos hle)),
      chkDmaxMemB_none _ hmax, srcChecks_pass (sb := none) _ _ _ _ hs hle rfl, if_pos ((ovrlpButSame_one dest dmax src slen ha1 ha2).2 hov),
      exec_bind, he]
    rfl
  · show s1.events ++ _ = _
    rw [hf.same.events]

/-- **wmemmove_s** (`dlen`, `count` in `wchar_t` elements), valid arguments, any overlap: EOK and exact
`memmove` semantics.  The hypothesis is `dlen * 4 ≤ RSIZE_MAX_WMEM`, not `dlen ≤ RSIZE_MAX_WMEM`: the code
compares the BYTE size of dest with the ELEMENT limit (`CHK_DMAX_MEM_MAX("wmemmove_s", RSIZE_MAX_WMEM)`). -/
theorem wmemmove_s_C07 (dest dlen src count : Nat) (st : St)
    (hd : dest ≠ 0) (hs : src ≠ 0) (hpos : 0 < count) (hle : count ≤ dlen) (hmax : dlen * 4 ≤ RSIZE_MAX_WMEM)
    (hw : RW st dest count) (hr : RD st src count) :
    ∃ st', exec (wmemmove_s dest dlen src count none none) st = .ok (EOK, st') ∧
      Moved st st' dest src count := by
  have hle4 : count * 4 ≤ dlen * 4 := Nat.mul_le_mul_right 4 hle
  obtain ⟨hn, hd0, hs64, hd64⟩ := size_facts hpos (by decide) hle4 hmax (show RSIZE_MAX_WMEM < U32 by decide)
  refine moveEntry_ok (mv := mem_prim_move32 dest src count) ?_ (primMoveElems_lt hn hw hr)
  unfold wmemmove_s
  dsimp only
  rw [SIZEOF_WCHAR_T_eq, Nat.mod_eq_of_lt hd64, Nat.mod_eq_of_lt hs64, destChecks_pass _ _ _ _ hpos hd hd0,
    chkDmaxMemB_none _ hmax]
  exact srcChecks_pass _ _ _ _ hs hle4 rfl

/-- everything mapped, readable and writable; cell `a` holds `a % 251` -/
def exSt : St := { data := fun a => a % 251, mapped := fun _ => true, rd := fun _ => true, wr := fun _ => true }

/-- non-vacuity: a backward-overlapping move of 100 bytes by 3 -/
example : (1003 : Nat) ≠ 0 ∧ (1000 : Nat) ≠ 0 ∧ 0 < 100 ∧ 100 ≤ 120 ∧ 120 ≤ RSIZE_MAX_MEM ∧
    RW exSt 1003 120 ∧ RD exSt 1000 100 :=
  ⟨by decide, by decide, by decide, by decide, by decide, fun _ _ => ⟨rfl, rfl, rfl⟩, fun _ _ => ⟨rfl, rfl⟩⟩

end SafeC.Props.C07Mem
