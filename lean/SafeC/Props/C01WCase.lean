import SafeC.Props.C01
import SafeC.Proofs.SW
import SafeC.Props.C02WCase
import SafeC.Models.WCase
/-!
# C01 for the wide case mappers `wcslwr_s`, `wcsupr_s`

Setting and conclusion of `Props/C01.lean` (`Setting`, `Holds`): every cell mapped and readable with ARBITRARY
contents, `src[0..slen)` writable.  Then for ALL arguments — any `src` (null too), any `slen` (0, above
RSIZE_MAX_WSTR, above 2^62 where `slen * sizeof(wchar_t)` wraps), object size unknown or known (whatever number of
bytes it is), the string terminated inside `slen` cells or not at all — the call returns, records no stray write
and leaves every cell outside `src[0..slen)` bit-identical.  In particular the cell `src[slen]` that the loop of the tree
before 7997192 / c770409, `while (*src && slen)` (switch `rb`), READS when no NUL comes first (C02's business) is never written.

Proved once for the shared text `wcase_s rb f`, for EVERY cell mapping `f` (the theorem does not look at the tables of
`_towupper` or at what libc's `towlower` does), from the footprint theorem `C02.Acc_wcase_s`: every store address lies in
`[src, src+slen)` whatever values the loads return (`WW_wcase_s` states the same in the `WW` judgement).
-/
namespace SafeC.Props.C01
open SafeC

/-- the shared text, for every mapping `f`: within any window that contains `src[0..slen)` -/
theorem WW_wcase_s (rb : Bool) (f : Nat → Nat) (src slen : Nat) (b : Bos) (lo hi : Nat)
    (h : src ≠ 0 → lo ≤ src ∧ src + slen ≤ hi) :
    WW lo hi (wcase_s rb f src slen b) (fun _ => True) :=
  WW.of_Acc (C02.Acc_wcase_s rb f src slen b (fun _ _ _ => trivial) fun hd _ ha => Win.of_cells ha (h hd).1 (h hd).2)

theorem WW_wcslwr_s (cfg : Cfg) (src slen : Nat) (b : Bos) (lo hi : Nat) (h : src ≠ 0 → lo ≤ src ∧ src + slen ≤ hi) :
    WW lo hi (wcslwr_s cfg src slen b) (fun _ => True) := WW_wcase_s _ _ src slen b lo hi h

theorem WW_wcsupr_s (cfg : Cfg) (src slen : Nat) (b : Bos) (lo hi : Nat) (h : src ≠ 0 → lo ≤ src ∧ src + slen ≤ hi) :
    WW lo hi (wcsupr_s cfg src slen b) (fun _ => True) := WW_wcase_s _ _ src slen b lo hi h

/-- the shared text with ANY cell mapping: all arguments, any object-size knowledge, any contents -/
theorem wcase_s_C01 (rb : Bool) (f : Nat → Nat) (src slen : Nat) (b : Bos) (st : St) (hs : Setting st)
    (hrw : src ≠ 0 → RW st src slen) :
    ∃ code st', exec (wcase_s rb f src slen b) st = .ok (code, st') ∧ Holds st st' :=
  holds_of_Acc hs (C02.Acc_wcase_s rb f src slen b (fun _ _ _ => trivial) (C02.Wr_of_RW.guard hrw))

theorem wcslwr_s_C01 (cfg : Cfg) (src slen : Nat) (b : Bos) (st : St) (hs : Setting st)
    (hrw : src ≠ 0 → RW st src slen) :
    ∃ code st', exec (wcslwr_s cfg src slen b) st = .ok (code, st') ∧ Holds st st' :=
  wcase_s_C01 _ _ src slen b st hs hrw

theorem wcsupr_s_C01 (cfg : Cfg) (src slen : Nat) (b : Bos) (st : St) (hs : Setting st)
    (hrw : src ≠ 0 → RW st src slen) :
    ∃ code st', exec (wcsupr_s cfg src slen b) st = .ok (code, st') ∧ Holds st st' :=
  wcase_s_C01 _ _ src slen b st hs hrw

/-- the hypotheses are satisfiable by an unterminated array: five cells 'G', only they writable -/
example : ∃ st : St, Setting st ∧ ((100 : Nat) ≠ 0 → RW st 100 5) :=
  ⟨{ data := fun _ => 0x47, mapped := fun _ => true, rd := fun _ => true, wr := fun a => decide (100 ≤ a ∧ a < 105) },
   ⟨fun _ => ⟨rfl, rfl⟩, rfl⟩, fun _ i hi => ⟨rfl, by simp; omega, rfl⟩⟩

end SafeC.Props.C01
