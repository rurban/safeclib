import SafeC.Proofs.ConvWcs
import SafeC.Proofs.ConvMbsLoop
/-!
# C15 — glibc's string converters (models) on valid strings = character-by-character coding

`Libc.mbsrtowcs` models glibc's input-window loop (`srcend = srcp + strnlen(srcp, len) + 1`, repeated, with bytes of a
character cut by the window kept in the conversion state).  Here it is proved equal to plain decoding: for EVERY list `ws`
of non-zero encodable wide characters (C.UTF-8: 31-bit non-surrogates; C: 7-bit), every memory `bs ++ 0 :: tail` behind the
bytes `bs = encodeAll ws`, every limit `len`, both locales — no bound on lengths.

Reading of the limit, as in C: `len` counts the cells that may be stored INCLUDING the terminator.  So `|ws| < len` stores
all of `ws` and the NUL, returns `|ws|` and sets `*src = NULL`; `len ≤ |ws|` (in particular `len = |ws|`: the characters
fit, the NUL does not) stores exactly the first `len` characters, returns `len`, and `*src` points behind their bytes.
-/
namespace SafeC.Props.C15
open SafeC.Conv SafeC.Conv.Libc

/-- "encodable" in locale C: exactly the 7-bit values, and the encoding is the identity -/
theorem encodeAll_C (ws : List Nat) (h : ∀ c ∈ ws, c < 0x80) : encodeAll .C ws = some ws := by
  induction ws with
  | nil => rfl
  | cons c cs ih =>
    have hc : c < 0x80 := h c (by simp)
    have := encodeAll_cons .C c cs [c] cs (by simp [enc, asciiEnc, hc]) (ih (fun d hd => h d (by simp [hd])))
    simpa using this

/-- "encodable" in locale C.UTF-8: exactly the 31-bit values that are not surrogates -/
theorem encodeAll_UTF8 (ws : List Nat) (h : ∀ c ∈ ws, c ≤ 0x7fffffff ∧ isSurr c = false) :
    ∃ bs, encodeAll .UTF8 ws = some bs := by
  induction ws with
  | nil => exact ⟨[], rfl⟩
  | cons c cs ih =>
    obtain ⟨b, hb⟩ := ih (fun d hd => h d (by simp [hd]))
    obtain ⟨h1, h2⟩ := h c (by simp)
    obtain ⟨a, ha⟩ : ∃ a, enc .UTF8 c = some a := Option.isSome_iff_exists.1 (utf8Enc_isSome h1 h2)
    exact ⟨a ++ b, encodeAll_cons .UTF8 c cs a b ha hb⟩

/-- **mbsrtowcs = decoding, initial state.**  Room for everything: `ws` and the NUL stored, count `|ws|`, `*src = NULL`,
state initial.  Otherwise the first `len` characters, count `len`, `*src` = source + the bytes of those characters. -/
theorem mbsrtowcs_valid_string (loc : Locale) (ws bs tail : List Nat) (h : encodeAll loc ws = some bs)
    (hz : ∀ c ∈ ws, c ≠ 0) (len : Nat) :
    (ws.length < len → Libc.mbsrtowcs loc false (bs ++ 0 :: tail) len [] = ⟨ws ++ [0], ws.length, none, [], false⟩) ∧
    (len ≤ ws.length → ∃ p, encodeAll loc (ws.take len) = some p ∧
        Libc.mbsrtowcs loc false (bs ++ 0 :: tail) len [] = ⟨ws.take len, len, some p.length, [], false⟩) :=
  mbsrtowcs_valid loc ws bs tail h hz len

/-- the same for `mbstowcs` (which is `mbsrtowcs` on a private pointer and state) -/
theorem mbstowcs_valid_string (loc : Locale) (ws bs tail : List Nat) (h : encodeAll loc ws = some bs)
    (hz : ∀ c ∈ ws, c ≠ 0) (len : Nat) :
    (ws.length < len → Libc.mbstowcs loc false (bs ++ 0 :: tail) len = ⟨ws ++ [0], ws.length, none, [], false⟩) ∧
    (len ≤ ws.length → ∃ p, encodeAll loc (ws.take len) = some p ∧
        Libc.mbstowcs loc false (bs ++ 0 :: tail) len = ⟨ws.take len, len, some p.length, [], false⟩) :=
  mbsrtowcs_valid loc ws bs tail h hz len

/-- **restart:** entered with the state `ps` that an earlier call left behind (bytes of the character the earlier window
cut: a proper prefix of the encoding of the first character still to come), on the rest of the same string -/
theorem mbsrtowcs_valid_string_restart (loc : Locale) (ws bs tail ps mem : List Nat) (h : encodeAll loc ws = some bs)
    (hz : ∀ c ∈ ws, c ≠ 0) (hmem : ps ++ mem = bs ++ 0 :: tail) (hps : PendOK loc ps ws) (len : Nat) (hlen : 0 < len) :
    (ws.length < len → Libc.mbsrtowcs loc false mem len ps = ⟨ws ++ [0], ws.length, none, [], false⟩) ∧
    (len ≤ ws.length → ∃ p, encodeAll loc (ws.take len) = some p ∧
        Libc.mbsrtowcs loc false mem len ps = ⟨ws.take len, len, some (p.length - ps.length), [], false⟩) :=
  mbsrtowcs_valid_st loc ws bs tail ps mem h hz hmem hps len hlen

/-- **wcsrtombs = encoding, limited to whole characters.**  Everything and the NUL fit (`|bs| < len`): `bs` and the NUL
stored, count `|bs|`, `*src = NULL`.  Otherwise: the bytes `p` of the longest prefix `ws.take m` of whole characters with
`|p| ≤ len` (the next character would not fit), count `|p|`, `*src` = source + `m` characters. -/
theorem wcsrtombs_valid_string (loc : Locale) (ws bs tail : List Nat) (h : encodeAll loc ws = some bs)
    (hz : ∀ c ∈ ws, c ≠ 0) (len : Nat) :
    (bs.length < len → Libc.wcsrtombs loc false (ws ++ 0 :: tail) len = ⟨bs ++ [0], bs.length, none, [], false⟩) ∧
    (len ≤ bs.length → ∃ m p, m ≤ ws.length ∧ encodeAll loc (ws.take m) = some p ∧ p.length ≤ len ∧
        (m < ws.length → ∀ p', encodeAll loc (ws.take (m + 1)) = some p' → len < p'.length) ∧
        Libc.wcsrtombs loc false (ws ++ 0 :: tail) len = ⟨p, p.length, some m, [], false⟩) :=
  wcsrtombs_valid loc ws bs tail h hz len

theorem wcstombs_valid_string (loc : Locale) (ws bs tail : List Nat) (h : encodeAll loc ws = some bs)
    (hz : ∀ c ∈ ws, c ≠ 0) (len : Nat) :
    (bs.length < len → Libc.wcstombs loc false (ws ++ 0 :: tail) len = ⟨bs ++ [0], bs.length, none, [], false⟩) ∧
    (len ≤ bs.length → ∃ m p, m ≤ ws.length ∧ encodeAll loc (ws.take m) = some p ∧ p.length ≤ len ∧
        (m < ws.length → ∀ p', encodeAll loc (ws.take (m + 1)) = some p' → len < p'.length) ∧
        Libc.wcstombs loc false (ws ++ 0 :: tail) len = ⟨p, p.length, some m, [], false⟩) :=
  wcsrtombs_valid loc ws bs tail h hz len

/-! Illustrations (tests, not theorems): "a€😀" = 61 | E2 82 AC | F0 9F 98 80.  With `len = 2` glibc's first window is 3
bytes (`61 E2 82`), cuts the euro sign, the second window completes it from the state. -/
private def tup (r : LR) := (r.out, r.ret, r.src, r.st, r.eilseq)
example : tup (Libc.mbsrtowcs .UTF8 false [0x61, 0xE2, 0x82, 0xAC, 0xF0, 0x9F, 0x98, 0x80, 0, 7, 7] 2 []) =
    ([0x61, 0x20AC], 2, some 4, [], false) := by decide
example : tup (Libc.mbsrtowcs .UTF8 false [0x61, 0xE2, 0x82, 0xAC, 0xF0, 0x9F, 0x98, 0x80, 0, 7, 7] 4 []) =
    ([0x61, 0x20AC, 0x1F600, 0], 3, none, [], false) := by decide
example : tup (Libc.wcsrtombs .UTF8 false [0x61, 0x20AC, 0x1F600, 0, 7] 6) = ([0x61, 0xE2, 0x82, 0xAC], 4, some 2, [], false) := by decide
example : PendOK .UTF8 [0xE2, 0x82] [0x20AC, 0x1F600] := Or.inr ⟨0x20AC, [0x1F600], [0xAC], rfl, by decide, by decide, by decide⟩

end SafeC.Props.C15
