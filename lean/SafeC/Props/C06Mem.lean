import SafeC.Proofs.MemCopyEntry
/-!
# C06 for the memory family — success means the exact, complete copy

For valid arguments and operands that do not overlap, `memcpy_s` returns EOK and dest holds exactly the
`slen` source bytes (`Moved`), nothing else changed: no truncation, no extra byte, for every length and
alignment (prologue / word loop / tail of `mem_prim_move`).  With `slen > dmax` it never reports
success: the result code as a function of the arguments is `memcpy_s_code` / `memcpy_s_meaning` of
`Props/C05Meaning.lean`, not repeated here.
-/
namespace SafeC.Props.C06Mem
open SafeC Gen Mem

/-- **memcpy_s, valid arguments, non-overlapping (or identical) operands:** EOK and
`dest[0..slen) = old src[0..slen)`; every other cell unchanged; no stray access; no handler. -/
theorem memcpy_s_C06 (dest dmax src slen : Nat) (st : St)
    (hd : dest ≠ 0) (hs : src ≠ 0) (hpos : 0 < slen) (hle : slen ≤ dmax) (hmax : dmax ≤ RSIZE_MAX_MEM)
    (hw : RW st dest dmax) (hr : RD st src slen)
    (ha1 : src + slen < U64) (ha2 : dest + dmax < U64)
    (hno : ¬ ((src < dest ∧ dest < src + slen) ∨ (dest < src ∧ src < dest + dmax))) :
    ∃ st', exec (memcpy_s dest dmax src slen none none) st = .ok (EOK, st') ∧
      (∀ i, i < slen → st'.data (dest + i) = st.data (src + i)) ∧
      (∀ a, ¬ (dest ≤ a ∧ a < dest + slen) → st'.data a = st.data a) ∧
      st'.strays = st.strays ∧ st'.events = st.events := by
  obtain ⟨st', he, hm⟩ := memcpy_s_ok dest dmax src slen st hd hs hpos hle hmax hw hr ha1 ha2 hno
  exact ⟨st', he, hm.inside, hm.outside, hm.same.strays, hm.same.events⟩

/-- **memmove_s, valid arguments:** the same exactness with no condition on the placement. -/
theorem memmove_s_C06 (dest dmax src slen : Nat) (st : St)
    (hd : dest ≠ 0) (hs : src ≠ 0) (hpos : 0 < slen) (hle : slen ≤ dmax) (hmax : dmax ≤ RSIZE_MAX_MEM)
    (hw : RW st dest dmax) (hr : RD st src slen) :
    ∃ st', exec (memmove_s dest dmax src slen none none) st = .ok (EOK, st') ∧
      (∀ i, i < slen → st'.data (dest + i) = st.data (src + i)) ∧
      (∀ a, ¬ (dest ≤ a ∧ a < dest + slen) → st'.data a = st.data a) ∧
      st'.strays = st.strays ∧ st'.events = st.events := by
  obtain ⟨st', he, hm⟩ := memmove_s_ok dest dmax src slen st hd hs hpos hle hmax hw hr
  exact ⟨st', he, hm.inside, hm.outside, hm.same.strays, hm.same.events⟩

/-- **memcpy16_s** (`dmax` in bytes, `slen` in 16-bit elements), valid arguments, non-overlapping element
ranges: EOK and the exact copy of `slen` elements. -/
theorem memcpy16_s_C06 (dest dmax src slen : Nat) (st : St)
    (hd : dest ≠ 0) (hs : src ≠ 0) (hpos : 0 < slen) (hle : slen * 2 ≤ dmax) (hmax : dmax ≤ RSIZE_MAX_MEM)
    (hw : RW st dest slen) (hr : RD st src slen)
    (ha1 : src * 2 + slen * 2 < U64) (ha2 : dest * 2 + dmax / 2 * 2 < U64)
    (hno : ¬ ((src < dest ∧ dest < src + slen) ∨ (dest < src ∧ src < dest + dmax / 2))) :
    ∃ st', exec (memcpy16_s dest dmax src slen none none) st = .ok (EOK, st') ∧
      Moved st st' dest src slen := by
  obtain ⟨hn, hd0, h64, _⟩ := size_facts hpos (by decide) hle hmax RSIZE_MAX_MEM_lt_U32
  refine moveEntry_ok (mv := mem_prim_move16 dest src slen) ?_ (primMoveElems_lt hn hw hr)
  unfold memcpy16_s
  rw [destChecks_pass _ _ _ _ hpos hd hd0]
  dsimp only
  rw [chkDmaxMemB_none _ hmax]
  dsimp only [Option.getD_none]
  rw [Nat.mod_eq_of_lt h64, srcChecks_pass (sb := none) _ _ _ _ hs hle rfl]
  exact if_neg (mt (ovrlpButSame_iff dest (dmax / 2) src slen (by decide) ha1 ha2).1 hno)

/-- **memcpy32_s** (`dmax` in bytes, `slen` in 32-bit elements), valid arguments, non-overlapping. -/
theorem memcpy32_s_C06 (dest dmax src slen : Nat) (st : St)
    (hd : dest ≠ 0) (hs : src ≠ 0) (hpos : 0 < slen) (hle : slen * 4 ≤ dmax) (hmax : dmax ≤ RSIZE_MAX_MEM)
    (hw : RW st dest slen) (hr : RD st src slen)
    (ha1 : src * 4 + slen * 4 < U64) (ha2 : dest * 4 + dmax / 4 * 4 < U64)
    (hno : ¬ ((src < dest ∧ dest < src + slen) ∨ (dest < src ∧ src < dest + dmax / 4))) :
    ∃ st', exec (memcpy32_s dest dmax src slen none none) st = .ok (EOK, st') ∧
      Moved st st' dest src slen := by
  obtain ⟨hn, hd0, h64, _⟩ := size_facts hpos (by decide) hle hmax RSIZE_MAX_MEM_lt_U32
  refine moveEntry_ok (mv := mem_prim_move32 dest src slen) ?_ (primMoveElems_lt hn hw hr)
  unfold memcpy32_s
  rw [destChecks_pass _ _ _ _ hpos hd hd0]
  dsimp only
  rw [chkDmaxMemB_none _ hmax]
  dsimp only [Option.getD_none]
  rw [Nat.mod_eq_of_lt h64, srcChecks_pass (sb := none) _ _ _ _ hs hle rfl]
  exact if_neg (mt (ovrlpButSame_iff dest (dmax / 4) src slen (by decide) ha1 ha2).1 hno)

/-- **wmemcpy_s** (`dlen`, `count` in `wchar_t` elements), valid arguments, non-overlapping. -/
theorem wmemcpy_s_C06 (dest dlen src count : Nat) (st : St)
    (hd : dest ≠ 0) (hs : src ≠ 0) (hpos : 0 < count) (hle : count ≤ dlen) (hmax : dlen * 4 ≤ RSIZE_MAX_MEM)
    (hw : RW st dest count) (hr : RD st src count)
    (ha1 : src * 4 + count * 4 < U64) (ha2 : dest * 4 + dlen * 4 < U64)
    (hno : ¬ ((src < dest ∧ dest < src + count) ∨ (dest < src ∧ src < dest + dlen))) :
    ∃ st', exec (wmemcpy_s dest dlen src count none none) st = .ok (EOK, st') ∧
      Moved st st' dest src count := by
  have hle4 : count * 4 ≤ dlen * 4 := Nat.mul_le_mul_right 4 hle
  obtain ⟨hn, hd0, hs64, hd64⟩ := size_facts hpos (by decide) hle4 hmax RSIZE_MAX_MEM_lt_U32
  refine moveEntry_ok (mv := mem_prim_move32 dest src count) ?_ (primMoveElems_lt hn hw hr)
  unfold wmemcpy_s
  dsimp only
  rw [SIZEOF_WCHAR_T_eq, Nat.mod_eq_of_lt hd64, Nat.mod_eq_of_lt hs64, destChecks_pass _ _ _ _ hpos hd hd0,
    chkDmaxMemB_none _ hmax]
  rw [srcChecks_pass (sb := none) _ _ _ _ hs hle4 rfl]
  exact if_neg (mt (ovrlpButSame_iff dest dlen src count (by decide) ha1 ha2).1 hno)

/-- everything mapped, readable and writable; cell `a` holds `a % 251` -/
def exSt : St := { data := fun a => a % 251, mapped := fun _ => true, rd := fun _ => true, wr := fun _ => true }

/-- non-vacuity: 100 bytes from 2000 to 1001 (unaligned dest, aligned src), dmax 120 -/
example : (1001 : Nat) ≠ 0 ∧ (2000 : Nat) ≠ 0 ∧ 0 < 100 ∧ 100 ≤ 120 ∧ 120 ≤ RSIZE_MAX_MEM ∧
    RW exSt 1001 120 ∧ RD exSt 2000 100 ∧ 2000 + 100 < U64 ∧ 1001 + 120 < U64 ∧
    ¬ (((2000 : Nat) < 1001 ∧ 1001 < 2000 + 100) ∨ ((1001 : Nat) < 2000 ∧ 2000 < 1001 + 120)) :=
  ⟨by decide, by decide, by decide, by decide, by decide, fun _ _ => ⟨rfl, rfl, rfl⟩, fun _ _ => ⟨rfl, rfl⟩,
   by decide, by decide, by decide⟩

end SafeC.Props.C06Mem
