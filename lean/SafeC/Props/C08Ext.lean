import SafeC.Props.C01
import SafeC.Proofs.ExSt
import SafeC.Proofs.ExtNarrow
import SafeC.Proofs.CopyDisjoint
import SafeC.Proofs.ExtExact
import SafeC.Proofs.FldSteps
import SafeC.Proofs.ExtOs
/-! # C08 (extension): generic string families — after success nothing stale remains behind the terminator

One section per family, each with its own module comment:
* `PartCopy` — wide twins and stp pair
* `PartFld` — field copies
* `PartOs` — getenv_s / strerror_s
-/
namespace SafeC.Props.C08Ext

section PartCopy
open SafeC Gen SafeC.Props.C01
/-!
## C08 (extension) — after success nothing stale remains behind the terminator: the wide twins and the stp pair

Two kinds of statement.

**Every placement, every content, both builds** (`*_C08`): when the call returns EOK on a usable dest there
is an index `t < dmax` with `dest[0..t)` non-zero, `dest[t] = 0` — so `t` IS the terminator of the result —
and, in the null-slack build, every cell from `t` up to `dmax` zero, whatever dest held before and wherever
the source lies (the theorems have no hypothesis on the contents or on overlap).  In the no-slack build
this is "the terminator is present".  For the stp pair the returned pointer is `dest + t` (C06: the
returned pointer is the address of the terminator).

**Valid non-overlapping operands** (`*_C08_exact`): `t` is the length of the result and the cells in front
of the terminator are exactly the result (both builds): wcsncpy_s, wcscat_s, wcsncat_s with the object
sizes unknown; stpcpy_s, stpncpy_s with the object sizes unknown or known (the returned pointer is
`dest + length`).  These are stated with ONLY the declared extents mapped/readable/writable, so
`st'.strays = st.strays` also says that nothing else was touched.

FALSE of the code and therefore partial: `wcsncpy_s` with `slen == 0` stores one NUL and returns EOK
without nulling the rest (recorded finding `strncpy-slen0-shortcut`): `wcsncpy_s_C08_partial` has
`slen ≠ 0`, `wcsncpy_s_C08_witness` is the excluded point.
-/

/- FULL statement (FALSE of the code for slen = 0, see `wcsncpy_s_C08_witness`): the same without `hslen`. -/
/-- wcsncpy_s, `slen ≠ 0`, every src/placement/content, object sizes known or unknown, both builds -/
theorem wcsncpy_s_C08_partial (cfg : Cfg) (dest dmax src slen : Nat) (destbos srcbos : Bos) (st : St) (hs : Setting st)
    (hrw : RW st dest dmax) (hd : dest ≠ 0) (hpos : 0 < dmax) (hle : dmax ≤ RSIZE_MAX_WSTR)
    (hb : ∀ b, destbos = some b → dmax * SIZEOF_WCHAR_T ≤ b) (hslen : slen ≠ 0) :
    ∃ code st', exec (wcsncpy_s cfg dest dmax src slen destbos srcbos) st = .ok (code, st') ∧
      (code = EOK → Clean cfg dest dmax st') := by
  obtain ⟨code, st', he, _, hq⟩ := wcsncpy_s_ext cfg dest dmax src slen destbos srcbos st hs.all (fun _ => hrw)
  exact ⟨code, st', he, fun hc => (hq ⟨hd, hpos, hle, hb⟩).2 hslen hc⟩

/-- dest = "ab" (2 writable cells at 100, the NUL behind them at 102) -/
def wW : St :=
  { data := fun a => if a = 100 then 97 else if a = 101 then 98 else 0
    mapped := fun _ => true, rd := fun _ => true
    wr := fun a => decide (100 ≤ a ∧ a < 102) }

/-- the excluded point: `wcsncpy_s(d, 2, src, 0)` on d = "ab", null-slack build: EOK, `d[0] = 0` and the
stale 'b' remains behind the terminator -/
theorem wcsncpy_s_C08_witness :
    ∃ st', exec (wcsncpy_s { slack := true } 100 2 200 0 none none) wW = .ok (EOK, st') ∧
      st'.data 100 = 0 ∧ st'.data 101 = 98 := by
  refine ⟨_, rfl, ?_⟩
  simp [wW, St.upd, St.noteWr]

/-- wcscat_s, every src/placement/content, object size known or unknown, both builds -/
theorem wcscat_s_C08 (cfg : Cfg) (dest dmax src : Nat) (destbos : Bos) (st : St) (hs : Setting st)
    (hrw : RW st dest dmax) (hd : dest ≠ 0) (hpos : 0 < dmax) (hle : dmax ≤ RSIZE_MAX_WSTR)
    (hb : ∀ b, destbos = some b → dmax * SIZEOF_WCHAR_T ≤ b) :
    ∃ code st', exec (wcscat_s cfg dest dmax src destbos) st = .ok (code, st') ∧
      (code = EOK → Clean cfg dest dmax st') := by
  obtain ⟨code, st', he, _, hq⟩ := wcscat_s_ext cfg dest dmax src destbos st hs.all (fun _ => hrw)
  exact ⟨code, st', he, fun hc => (hq ⟨hd, hpos, hle, hb⟩).2 trivial hc⟩

/-- wcsncat_s, every src/slen (slen = 0 included: EOK means dest was cleared)/placement/content -/
theorem wcsncat_s_C08 (cfg : Cfg) (dest dmax src slen : Nat) (destbos srcbos : Bos) (st : St) (hs : Setting st)
    (hrw : RW st dest dmax) (hd : dest ≠ 0) (hpos : 0 < dmax) (hle : dmax ≤ RSIZE_MAX_WSTR)
    (hb : ∀ b, destbos = some b → dmax * SIZEOF_WCHAR_T ≤ b) :
    ∃ code st', exec (wcsncat_s cfg dest dmax src slen destbos srcbos) st = .ok (code, st') ∧
      (code = EOK → Clean cfg dest dmax st') := by
  obtain ⟨code, st', he, _, hq⟩ := wcsncat_s_ext cfg dest dmax src slen destbos srcbos st hs.all (fun _ => hrw)
  exact ⟨code, st', he, fun hc => (hq ⟨hd, hpos, hle, hb⟩).2 trivial hc⟩

/-! ## the stp pair: the returned pointer is the terminator (C06) and nothing stale lies behind it -/

/-- the C08 + C06-pointer conclusion for `r = (pointer, EOK)` -/
def CleanAt (cfg : Cfg) (dest dmax p : Nat) (st' : St) : Prop :=
  dest ≤ p ∧ p < dest + dmax ∧ (∀ a, dest ≤ a → a < p → st'.data a ≠ 0) ∧ st'.data p = 0 ∧
    (cfg.slack = true → ∀ a, p ≤ a → a < dest + dmax → st'.data a = 0)

/-- stpcpy_s, any knowledge of object sizes (dmax inside dest's), every src incl. `src == dest`, every
placement/content, both builds: on EOK the returned pointer is the address of the terminator inside dest,
the cells in front of it are non-zero, and with null-slack everything from it to dmax is zero -/
theorem stpcpy_s_C08 (cfg : Cfg) (dest dmax src : Nat) (destbos srcbos : Bos) (st : St) (hs : Setting st)
    (hrw : RW st dest dmax) (hd : dest ≠ 0) (hpos : 0 < dmax) (hle : dmax ≤ RSIZE_MAX_STR)
    (hb : ∀ b, destbos = some b → dmax ≤ b) :
    ∃ r st', exec (stpcpy_s cfg dest dmax src destbos srcbos) st = .ok (r, st') ∧
      (r.2 = EOK → CleanAt cfg dest dmax r.1 st') := by
  obtain ⟨r, st', he, _, hq⟩ := stpcpy_s_ext cfg dest dmax src destbos srcbos st hs.all (fun _ => hrw)
  refine ⟨r, st', he, fun hc => ?_⟩
  obtain ⟨h1, h2, _, h4, h5, h6⟩ := (hq ⟨hd, hpos, hle, hb⟩).1.ok hc
  exact ⟨h1, h2, h4, h5, h6⟩

/-- stpncpy_s (slen inside a known source object), every src/slen/placement/content, both builds -/
theorem stpncpy_s_C08 (cfg : Cfg) (dest dmax src slen : Nat) (destbos srcbos : Bos) (st : St) (hs : Setting st)
    (hrw : RW st dest dmax) (hd : dest ≠ 0) (hpos : 0 < dmax) (hle : dmax ≤ RSIZE_MAX_STR)
    (hb : ∀ b, destbos = some b → dmax ≤ b) (hsb : ∀ sb, srcbos = some sb → slen ≤ sb) :
    ∃ r st', exec (stpncpy_s cfg dest dmax src slen destbos srcbos) st = .ok (r, st') ∧
      (r.2 = EOK → CleanAt cfg dest dmax r.1 st') := by
  obtain ⟨r, st', he, _, hq⟩ := stpncpy_s_ext cfg dest dmax src slen destbos srcbos st hs.all (fun _ => hrw) hsb
  refine ⟨r, st', he, fun hc => ?_⟩
  obtain ⟨h1, h2, _, h4, h5, h6⟩ := (hq ⟨hd, hpos, hle, hb⟩).1.ok hc
  exact ⟨h1, h2, h4, h5, h6⟩

/-! ## valid, non-overlapping operands: the cells in front of the terminator are exactly the result -/

/-- wcsncpy_s on valid non-overlapping operands, `m` = characters copied (the source string is shorter
than slen and `m` its length, or `m = slen`): when the result fits, EOK, `dest[0..m) = src[0..m)`,
`dest[m] = 0` (both builds) and with null-slack `dest[m..dmax) = 0`; only declared cells are touched -/
theorem wcsncpy_s_C08_exact (cfg : Cfg) (dest dmax src slen m : Nat) (st : St)
    (hd : dest ≠ 0) (hs : src ≠ 0) (hpos : 0 < dmax) (hle : dmax ≤ RSIZE_MAX_WSTR)
    (hslen : 0 < slen) (hslenle : slen ≤ RSIZE_MAX_WSTR)
    (hrw : RW st dest dmax)
    (hnz : ∀ j, j < m → st.data (src+j) ≠ 0)
    (hrd : ∀ j, j < m → st.mapped (src+j) = true ∧ st.rd (src+j) = true)
    (hfin : (m < slen ∧ st.data (src+m) = 0 ∧ st.mapped (src+m) = true ∧ st.rd (src+m) = true) ∨ slen = m)
    (hdisj : dest + dmax ≤ src ∨ src + m < dest) (hfit : m < dmax) :
    ∃ st', exec (wcsncpy_s cfg dest dmax src slen none none) st = .ok (EOK, st') ∧
      st'.strays = st.strays ∧
      (∀ i, i < m → st'.data (dest+i) = st.data (src+i)) ∧ st'.data (dest+m) = 0 ∧
      (cfg.slack = true → ∀ i, m ≤ i → i < dmax → st'.data (dest+i) = 0) := by
  rw [wcsncpy_s_eq cfg dest dmax src slen hslenle]
  obtain ⟨code, st', he, _, _, _, hstr, _, hok, _⟩ :=
    strncpyG_disjoint RSIZE_MAX_WSTR cfg dest dmax src slen m st hd hs hpos hle hslen hslenle hrw hnz hrd hfin hdisj
  obtain ⟨hc, _, h3, h4, h5⟩ := hok hfit
  subst hc
  exact ⟨st', he, hstr, h3, h4, h5⟩

/-- wcscat_s on valid non-overlapping operands (dest holds a string of length dl, src one of length n,
`dl + n < dmax`): EOK, `dest = old dest ++ src`, terminator at `dl + n` (both builds), null-slack: zeros behind -/
theorem wcscat_s_C08_exact (cfg : Cfg) (dest dmax src dl n : Nat) (st : St)
    (hd : dest ≠ 0) (hs : src ≠ 0) (hpos : 0 < dmax) (hle : dmax ≤ RSIZE_MAX_WSTR)
    (hrw : RW st dest dmax) (hsrc : SrcStr st src n) (hdisj : Disjoint dest dmax src n)
    (hdl : dl < dmax) (hdnz : ∀ j, j < dl → st.data (dest+j) ≠ 0) (hdnul : st.data (dest+dl) = 0)
    (hfit : dl + n < dmax) :
    ∃ st', exec (wcscat_s cfg dest dmax src none) st = .ok (EOK, st') ∧
      st'.strays = st.strays ∧
      (∀ i, i < dl → st'.data (dest+i) = st.data (dest+i)) ∧
      (∀ i, i < n → st'.data (dest+dl+i) = st.data (src+i)) ∧ st'.data (dest+dl+n) = 0 ∧
      (cfg.slack = true → ∀ i, dl + n ≤ i → i < dmax → st'.data (dest+i) = 0) := by
  rw [wcscat_s_eq]
  obtain ⟨code, st', he, _, _, _, hstr, _, hok, _⟩ :=
    strcatG_disjoint RSIZE_MAX_WSTR cfg dest dmax src dl n st hd hs hpos hle hrw hsrc hdisj hdl hdnz hdnul
  obtain ⟨hc, _, h3, h4, h5, h6⟩ := hok hfit
  subst hc
  exact ⟨st', he, hstr, h3, h4, h5, h6⟩

/-- wcsncat_s on valid non-overlapping operands (dest holds a string of length dl; `m` source characters
are appended: the source string is shorter than slen and `m` its length, or `m = slen`; `dl + m < dmax`):
EOK, `dest = old dest ++ src[0..m)`, terminator at `dl + m` (both builds), null-slack: zeros behind -/
theorem wcsncat_s_C08_exact (cfg : Cfg) (dest dmax src slen dl m : Nat) (st : St)
    (hd : dest ≠ 0) (hs : src ≠ 0) (hpos : 0 < dmax) (hle : dmax ≤ RSIZE_MAX_WSTR)
    (hslen : 0 < slen) (hslenle : slen ≤ RSIZE_MAX_WSTR)
    (hrw : RW st dest dmax)
    (hnz : ∀ j, j < m → st.data (src+j) ≠ 0)
    (hrd : ∀ j, j < m → st.mapped (src+j) = true ∧ st.rd (src+j) = true)
    (hfin : (m < slen ∧ st.data (src+m) = 0 ∧ st.mapped (src+m) = true ∧ st.rd (src+m) = true) ∨ slen = m)
    (hdisj : dest + dmax ≤ src ∨ src + m < dest)
    (hdl : dl < dmax) (hdnz : ∀ j, j < dl → st.data (dest+j) ≠ 0) (hdnul : st.data (dest+dl) = 0)
    (hfit : dl + m < dmax) :
    ∃ st', exec (wcsncat_s cfg dest dmax src slen none none) st = .ok (EOK, st') ∧
      st'.strays = st.strays ∧
      (∀ i, i < dl → st'.data (dest+i) = st.data (dest+i)) ∧
      (∀ i, i < m → st'.data (dest+dl+i) = st.data (src+i)) ∧ st'.data (dest+dl+m) = 0 ∧
      (cfg.slack = true → ∀ i, dl + m ≤ i → i < dmax → st'.data (dest+i) = 0) := by
  obtain ⟨code, st', he, _, _, _, hstr, _, hok, _⟩ :=
    wcsncat_s_disjoint cfg dest dmax src slen dl m st hd hs hpos hle hslen hslenle hrw hnz hrd hfin hdisj hdl hdnz hdnul
  obtain ⟨hc, _, h3, h4, h5, h6⟩ := hok hfit
  subst hc
  exact ⟨st', he, hstr, h3, h4, h5, h6⟩

/-- stpcpy_s on valid non-overlapping operands, source string of length `n < dmax` (object sizes unknown,
or known with dmax inside dest's and the string inside the source's): `*errp = EOK`, the returned pointer is
`dest + n`, `dest[0..n) = src[0..n)`, `dest[n] = 0` (both builds), null-slack: `dest[n..dmax) = 0`;
no handler call, nothing outside the declared extents touched -/
theorem stpcpy_s_C08_exact (cfg : Cfg) (dest dmax src n : Nat) (destbos srcbos : Bos) (st : St)
    (hd : dest ≠ 0) (hs : src ≠ 0) (hpos : 0 < dmax) (hle : dmax ≤ RSIZE_MAX_STR)
    (hb : ∀ b, destbos = some b → dmax ≤ b) (hsb : ∀ sb, srcbos = some sb → n < sb)
    (hrw : RW st dest dmax) (hsrc : SrcStr st src n) (hdisj : Disjoint dest dmax src n) (hfit : n < dmax) :
    ∃ st', exec (stpcpy_s cfg dest dmax src destbos srcbos) st = .ok ((dest + n, EOK), st') ∧
      st'.strays = st.strays ∧ st'.events = st.events ∧
      (∀ i, i < n → st'.data (dest+i) = st.data (src+i)) ∧ st'.data (dest+n) = 0 ∧
      (cfg.slack = true → ∀ i, n ≤ i → i < dmax → st'.data (dest+i) = 0) := by
  obtain ⟨⟨p, c⟩, st', he, ⟨_, _, _, hstr, _, hok, _⟩, hp⟩ :=
    stpcpy_s_disjoint cfg dest dmax src n destbos srcbos st hd hs hpos hle hb hsb hrw hsrc hdisj
  obtain ⟨rfl, h2, h3, h4, h5⟩ := hok hfit
  obtain rfl := hp.trans (if_pos rfl)
  exact ⟨st', he, hstr, h2, h3, h4, h5⟩

/-- stpncpy_s on valid non-overlapping operands, `m < dmax` characters copied (the source string is shorter
than slen and `m` its length, or `m = slen`; slen inside a known source object): `*errp = EOK`, the returned
pointer is `dest + m`, `dest[0..m) = src[0..m)`, `dest[m] = 0` (both builds), null-slack: zeros behind -/
theorem stpncpy_s_C08_exact (cfg : Cfg) (dest dmax src slen m : Nat) (destbos srcbos : Bos) (st : St)
    (hd : dest ≠ 0) (hs : src ≠ 0) (hpos : 0 < dmax) (hle : dmax ≤ RSIZE_MAX_STR)
    (hslenle : slen ≤ RSIZE_MAX_STR)
    (hb : ∀ b, destbos = some b → dmax ≤ b) (hsb : ∀ sb, srcbos = some sb → slen ≤ sb)
    (hrw : RW st dest dmax)
    (hnz : ∀ j, j < m → st.data (src+j) ≠ 0)
    (hrd : ∀ j, j < m → st.mapped (src+j) = true ∧ st.rd (src+j) = true)
    (hfin : (m < slen ∧ st.data (src+m) = 0 ∧ st.mapped (src+m) = true ∧ st.rd (src+m) = true) ∨ slen = m)
    (hdisj : dest + dmax ≤ src ∨ src + m < dest) (hfit : m < dmax) :
    ∃ st', exec (stpncpy_s cfg dest dmax src slen destbos srcbos) st = .ok ((dest + m, EOK), st') ∧
      st'.strays = st.strays ∧ st'.events = st.events ∧
      (∀ i, i < m → st'.data (dest+i) = st.data (src+i)) ∧ st'.data (dest+m) = 0 ∧
      (cfg.slack = true → ∀ i, m ≤ i → i < dmax → st'.data (dest+i) = 0) := by
  obtain ⟨⟨p, c⟩, st', he, ⟨_, _, _, hstr, _, hok, _⟩, hp⟩ :=
    stpncpy_s_disjoint cfg dest dmax src slen m destbos srcbos st hd hs hpos hle hslenle hb hsb hrw hnz hrd hfin hdisj
  obtain ⟨rfl, h2, h3, h4, h5⟩ := hok hfit
  obtain rfl := hp.trans (if_pos rfl)
  exact ⟨st', he, hstr, h2, h3, h4, h5⟩

/-- non-vacuity of the general theorems: dest = 5 writable cells at 100 in a 20-byte (wide) / 5-byte object -/
example : Setting exSt ∧ RW exSt 100 5 ∧ (100 : Nat) ≠ 0 ∧ 0 < 5 ∧ 5 ≤ RSIZE_MAX_WSTR ∧ 5 ≤ RSIZE_MAX_STR ∧
    (∀ b, (some 20 : Bos) = some b → 5 * SIZEOF_WCHAR_T ≤ b) ∧ (∀ b, (some 5 : Bos) = some b → 5 ≤ b) ∧ (2 : Nat) ≠ 0 := by
  refine ⟨⟨fun _ => ⟨rfl, rfl⟩, rfl⟩, exSt_rw, by decide, by decide, by decide, by decide, ?_, ?_, by decide⟩
  · intro b h; injection h with h; subst h; decide
  · intro b h; injection h with h; subst h; decide

/-- non-vacuity of the exact theorems: `exSt` has src = "ab" at 200 (length 2), dest = 5 cells at 100 holding "" -/
example : RW exSt 100 5 ∧ SrcStr exSt 200 2 ∧ Disjoint 100 5 200 2 ∧ exSt.data (100 + 0) = 0 ∧
    ((2 < 3 ∧ exSt.data (200+2) = 0 ∧ exSt.mapped (200+2) = true ∧ exSt.rd (200+2) = true) ∨ 3 = 2) := by
  refine ⟨exSt_rw, ⟨?_, by simp [exSt], fun _ _ => ⟨rfl, rfl⟩⟩, Or.inl (by decide), by simp [exSt], Or.inl ⟨by decide, by simp [exSt], rfl, rfl⟩⟩
  · intro j hj
    have : j = 0 ∨ j = 1 := by omega
    rcases this with h | h <;> subst h <;> simp [exSt]

end PartCopy

section PartFld
open SafeC Gen
/-!
## C08 (+ exact result) for the field copies `strcpyfld_s`, `strcpyfldin_s`, `strcpyfldout_s`

Setting: every cell mapped and readable with ARBITRARY contents, the `dmax` cells of dest writable,
`dest ≠ 0`, `0 < dmax ≤ RSIZE_MAX_STR`, `slen ≠ 0`, object size unknown (`destbos = none`) or known and at
least `dmax` (`destbos = some b`, `dmax ≤ b`: same path, `fldG_entry`).

On operands the loop does not run into the bumper with, the call returns EOK, invokes no handler, records no
stray access, changes nothing outside `dest[0..dmax)` and leaves EXACTLY `dest[0..n) = src[0..n)` (values of
the original state) and `dest[n..dmax) = 0` — the trailing fill is unconditional, so this holds in BOTH slack
configurations (`cfg` is universally quantified).  `n` is `slen` (fld), the length of the source string
capped by `slen` (fldin), `min slen (dmax-1)` (fldout).

The EXACT no-overlap-exit condition is `dest + n ≤ src ∨ src + n ≤ dest` on the `n` cells actually copied
(not on `dmax`): weaker than disjointness of the operands.  A source inside `dest[n..dmax)` is accepted and
then zeroed by the trailing fill (`strcpyfld_s_C08_srctail_witness`; class `slack-fill-destroys-source` of
known_findings.jsonl, here in both configurations).
-/

/-- the conclusion shared by the three success statements -/
def FldCopied (dest dmax src n : Nat) (st st' : St) : Prop :=
  st'.events = st.events ∧ st'.strays = st.strays ∧
  (∀ i, i < n → st'.data (dest + i) = st.data (src + i)) ∧
  (∀ i, n ≤ i → i < dmax → st'.data (dest + i) = 0) ∧
  (∀ a, ¬ (dest ≤ a ∧ a < dest + dmax) → st'.data a = st.data a)

private theorem fldCopied_of {dest dmax src n : Nat} {st st' : St} (h : FldOk dest dmax src n st st') (hn : n ≤ dmax) :
    FldCopied dest dmax src n st st' :=
  ⟨h.1.events, h.1.strays, h.copied, h.filled, h.frame hn⟩

/-- strcpyfld_s, success (C08 + exact result), both slack configurations, object size unknown or ≥ dmax:
when the two slen-cell fields do not meet (dest + slen ≤ src ∨ src + slen ≤ dest) the call returns EOK with
no handler event and no stray access, dest[0..slen) = src[0..slen) (NULs included), dest[slen..dmax) = 0,
nothing outside dest[0..dmax) changes. -/
theorem strcpyfld_s_C08 (cfg : Cfg) (dest dmax src slen : Nat) (destbos : Bos) (st : St)
    (hall : ∀ a, st.mapped a = true ∧ st.rd a = true) (hrw : RW st dest dmax)
    (hd : dest ≠ 0) (hpos : 0 < dmax) (hle : dmax ≤ RSIZE_MAX_STR) (hbos : ∀ b, destbos = some b → dmax ≤ b)
    (hsl : slen ≠ 0) (hs : src ≠ 0) (hfit : slen ≤ dmax)
    (hdisj : dest + slen ≤ src ∨ src + slen ≤ dest) :
    ∃ st', exec (strcpyfld_s cfg dest dmax src slen destbos) st = .ok (EOK, st') ∧
      FldCopied dest dmax src slen st st' := by
  unfold strcpyfld_s
  rw [fldG_entry _ cfg dest dmax src slen destbos hsl hd hpos hle hbos]
  obtain ⟨code, st', he, _, h1, _, h3⟩ := fldBody_fld_all cfg dest dmax src slen st hall hrw hd hpos hle hs
  obtain rfl := h1.2 ⟨hfit, hdisj⟩
  exact ⟨st', he, fldCopied_of (h3 rfl) hfit⟩

/-- strcpyfldin_s, success (C08 + exact result), both slack configurations: src holds n non-NUL characters
followed by a NUL (read outside the cells already written: n = 0 or src + n ≠ dest), or n = slen of them are
requested; the n cells read and written do not meet.  Then EOK, no handler event, dest[0..n) = src[0..n),
dest[n..dmax) = 0, nothing outside dest changes. -/
theorem strcpyfldin_s_C08 (cfg : Cfg) (dest dmax src slen n : Nat) (destbos : Bos) (st : St)
    (hall : ∀ a, st.mapped a = true ∧ st.rd a = true) (hrw : RW st dest dmax)
    (hd : dest ≠ 0) (hpos : 0 < dmax) (hle : dmax ≤ RSIZE_MAX_STR) (hbos : ∀ b, destbos = some b → dmax ≤ b)
    (hsl : slen ≠ 0) (hs : src ≠ 0) (hfit : slen ≤ dmax) (hn : n ≤ slen)
    (hnz : ∀ j, j < n → st.data (src + j) ≠ 0)
    (hend : n = slen ∨ (st.data (src + n) = 0 ∧ (n = 0 ∨ src + n ≠ dest)))
    (hdisj : dest + n ≤ src ∨ src + n ≤ dest) :
    ∃ st', exec (strcpyfldin_s cfg dest dmax src slen destbos) st = .ok (EOK, st') ∧
      FldCopied dest dmax src n st st' := by
  have hD : dest + n ≤ src ∨ src + n < dest ∨ (src + n = dest ∧ n = slen) := by omega
  unfold strcpyfldin_s
  rw [fldG_entry _ cfg dest dmax src slen destbos hsl hd hpos hle hbos]
  obtain ⟨code, st', he, _, h1, _, h3⟩ :=
    fldBody_fldin_all cfg dest dmax src slen n st hall hrw hd hpos hle hs hn hnz (hend.imp id And.left)
  obtain rfl := h1.2 ⟨hfit, hD⟩
  exact ⟨st', he, fldCopied_of (h3 rfl) (Nat.le_trans hn hfit)⟩

/-- strcpyfldout_s, success (C08 + exact result), both slack configurations: with n = min slen (dmax-1) and
the n cells read and written not meeting, EOK, no handler event, dest[0..n) = src[0..n), dest[n..dmax) = 0 —
so a NUL sits at dest[n], n < dmax — and nothing outside dest changes.  (slen = dmax gives n = dmax-1: the
last character is dropped, known finding strcpyfldout-slen-eq-dmax.) -/
theorem strcpyfldout_s_C08 (cfg : Cfg) (dest dmax src slen : Nat) (destbos : Bos) (st : St)
    (hall : ∀ a, st.mapped a = true ∧ st.rd a = true) (hrw : RW st dest dmax)
    (hd : dest ≠ 0) (hpos : 0 < dmax) (hle : dmax ≤ RSIZE_MAX_STR) (hbos : ∀ b, destbos = some b → dmax ≤ b)
    (hsl : slen ≠ 0) (hs : src ≠ 0) (hfit : slen ≤ dmax)
    (hdisj : dest + min slen (dmax - 1) ≤ src ∨ src + min slen (dmax - 1) ≤ dest) :
    ∃ st', exec (strcpyfldout_s cfg dest dmax src slen destbos) st = .ok (EOK, st') ∧
      FldCopied dest dmax src (min slen (dmax - 1)) st st' ∧
      min slen (dmax - 1) < dmax ∧ st'.data (dest + min slen (dmax - 1)) = 0 := by
  unfold strcpyfldout_s
  rw [fldG_entry _ cfg dest dmax src slen destbos hsl hd hpos hle hbos]
  have hn : min slen (dmax - 1) < dmax := by omega
  obtain ⟨code, st', he, _, h1, _, h3⟩ := fldBody_fldout_all cfg dest dmax src slen st hall hrw hd hpos hle hs
  obtain rfl := h1.2 ⟨hfit, hdisj⟩
  have hok := h3 rfl
  exact ⟨st', he, fldCopied_of hok (Nat.le_of_lt hn), hn, hok.filled _ (Nat.le_refl _) hn⟩

/-- strcpyfld_s / strcpyfldin_s / strcpyfldout_s with slen = 0: the documented no-op — EOK, the state
(memory, events, strays) is untouched, whatever dest, dmax, src and the object size are. -/
theorem strcpyfld_s_C08_slen0 (cfg : Cfg) (dest dmax src : Nat) (destbos : Bos) (st : St) :
    exec (strcpyfld_s cfg dest dmax src 0 destbos) st = .ok (EOK, st) ∧
    exec (strcpyfldin_s cfg dest dmax src 0 destbos) st = .ok (EOK, st) ∧
    exec (strcpyfldout_s cfg dest dmax src 0 destbos) st = .ok (EOK, st) :=
  ⟨fldG_slen0 _ cfg dest dmax src destbos st, fldG_slen0 _ cfg dest dmax src destbos st,
   fldG_slen0 _ cfg dest dmax src destbos st⟩

/-- dest = 100 (5 cells writable), src = 200 holding "ab\0": hypotheses of the three success statements -/
example : (∀ a, SafeC.Props.C01.exSt.mapped a = true ∧ SafeC.Props.C01.exSt.rd a = true) ∧
    RW SafeC.Props.C01.exSt 100 5 ∧ (100 : Nat) ≠ 0 ∧ 0 < 5 ∧ 5 ≤ RSIZE_MAX_STR ∧
    (∀ b, (none : Bos) = some b → 5 ≤ b) ∧ (3 : Nat) ≠ 0 ∧ (200 : Nat) ≠ 0 ∧ 3 ≤ 5 ∧
    (100 + 3 ≤ 200 ∨ 200 + 3 ≤ 100) ∧
    (∀ j, j < 2 → SafeC.Props.C01.exSt.data (200 + j) ≠ 0) ∧
    ((2 : Nat) = 3 ∨ (SafeC.Props.C01.exSt.data (200 + 2) = 0 ∧ ((2 : Nat) = 0 ∨ 200 + 2 ≠ 100))) := by
  refine ⟨fun _ => ⟨rfl, rfl⟩, exSt_rw, by decide, by decide, by decide,
    (fun b h => by cases h), by decide, by decide, by decide, by decide, ?_, Or.inr ⟨by decide, by decide⟩⟩
  · intro j hj
    have : j = 0 ∨ j = 1 := by omega
    rcases this with h | h <;> subst h <;> decide

/-- dest = 100 (4 writable cells, all zero), the source "a" at 102 — inside the tail of the field: the state of
`strcpyfld_s(d=100, dmax=4, src=102, slen=1)` -/
def fldTailSt : St :=
  { data := fun a => if a = 102 then 97 else 0, mapped := fun _ => true, rd := fun _ => true
    wr := fun a => decide (100 ≤ a ∧ a < 104) }

/-- strcpyfld_s does not see a source that lies in dest[slen..dmax): the overlap exit looks only at the slen
cells copied.  strcpyfld_s(d, 4, d+2, 1) on d+2 = "a" returns EOK in the NO-slack build too, dest[0] = 'a',
and the source cell d+2 has been zeroed by the unconditional trailing fill (class slack-fill-destroys-source,
for this family in both configurations). -/
theorem strcpyfld_s_C08_srctail_witness :
    ∃ st', exec (strcpyfld_s { slack := false } 100 4 102 1 none) fldTailSt = .ok (EOK, st') ∧
      st'.data 100 = 97 ∧ fldTailSt.data 102 = 97 ∧ st'.data 102 = 0 := by
  exact ⟨_, rfl, rfl, rfl, rfl⟩

end PartFld

section PartOs
open SafeC Gen
/-!
## C08 for `getenv_s` and `strerror_s`: after success nothing stale remains behind the terminator

Same setting as section `PartOs` of `Props/C03Ext.lean` (declared extents only, ARBITRARY prior dest content).  Default (null-slack) build:
after a successful `getenv_s` / a `strerror_s` whose message fits, every cell of dest from the terminator up to `dmax` is
zero.  After a truncating `strerror_s` EVERY cell of dest is determined in BOTH builds (prefix, `...`, NUL in the last
cell), so nothing stale can remain — although the inner `strncpy_s(dest, dmax, msg, 0)` of the `dmax = 4` case takes the
`slen == 0` shortcut that does not null the slack (known finding `strncpy-slen0-shortcut`): the following `strcat_s`
overwrites all four cells.
-/

/-- getenv_s success, null-slack build: readable name, variable set to a string of length n < dmax not overlapping dest,
arbitrary prior dest content. Returns EOK (*len = n), dest[0..n) = the value, and EVERY cell dest[n..dmax) is zero. -/
theorem getenv_s_C08 (hasLen : Bool) (dest dmax name : Nat) (destbos : Bos) (value k n : Nat) (st : St)
    (hd : dest ≠ 0) (hpos : 0 < dmax) (hle : dmax ≤ RSIZE_MAX_STR) (hbos : ∀ b, destbos = some b → dmax ≤ b)
    (hrw : RW st dest dmax) (hname : name ≠ 0) (hnm : SrcStr st name k)
    (hv : value ≠ 0) (hval : SrcStr st value n) (hn : n < dmax) (hdisj : Disjoint dest dmax value n) :
    ∃ st', exec (getenv_s { slack := true } hasLen dest dmax name destbos value) st
        = .ok ((EOK, if hasLen then some n else none), st') ∧
      (∀ i, i < n → st'.data (dest+i) = st.data (value+i)) ∧
      (∀ i, n ≤ i → i < dmax → st'.data (dest+i) = 0) := by
  obtain ⟨r, s, he, _, h⟩ := getenv_s_runs { slack := true } hasLen dest dmax name destbos value k n st hd hpos hle hbos hrw
    (fun _ => hnm) (fun _ _ => ⟨hval, fun _ => hdisj⟩)
  rcases h with ⟨h, _⟩ | ⟨_, h, _⟩ | ⟨_, _, h, _⟩ | ⟨_, _, _, rfl, _, c3, _, c5⟩
  · exact absurd h hname
  · exact absurd h hv
  · omega
  · exact ⟨s, he, c3, c5 rfl⟩

/-- strerror_s, the message fits, null-slack build: msg holds the message (length n < dmax, not overlapping dest),
strerrorlen_s answers n (hlen: table agrees with the text for own codes; strlen otherwise, see strerror_s_C08_libc).
Returns EOK with no handler event, dest[0..n) = the message, and EVERY cell dest[n..dmax) is zero; nothing outside
dest[0..dmax) changes and there is no stray access. -/
theorem strerror_s_C08 (dest dmax errnum : Nat) (destbos : Bos) (msg dots n : Nat) (st : St)
    (hd : dest ≠ 0) (hpos : 0 < dmax) (hle : dmax ≤ RSIZE_MAX_STR) (hbos : ∀ b, destbos = some b → dmax ≤ b)
    (hrw : RW st dest dmax) (hlen : exec (strerrorlen_s errnum msg) st = .ok (n, st))
    (hm : msg ≠ 0) (hsrc : SrcStr st msg n) (hn : n < dmax) (hdisj : Disjoint dest dmax msg n) :
    ∃ st', exec (strerror_s { slack := true } dest dmax errnum destbos msg dots) st = .ok (EOK, st') ∧
      st'.events = st.events ∧ st'.strays = st.strays ∧
      (∀ i, i < n → st'.data (dest+i) = st.data (msg+i)) ∧
      (∀ i, n ≤ i → i < dmax → st'.data (dest+i) = 0) ∧
      (∀ a, ¬ (dest ≤ a ∧ a < dest + dmax) → st'.data a = st.data a) := by
  obtain ⟨r, s, he, hf, h⟩ := strerror_s_runs { slack := true } dest dmax errnum destbos msg dots n st hd hpos hle hbos hrw hlen
    (fun _ => hm) (fun _ => ⟨hsrc, hdisj⟩) (fun h => by omega)
  rcases h with ⟨_, rfl, pe, c3, _, c5⟩ | ⟨h, _⟩ | ⟨h, _⟩
  · exact ⟨s, he, pe, hf.strays, c3, c5 rfl, hf.frame⟩
  · omega
  · omega

/-- strerror_s, message fits, errnum outside the library's own range (strerrorlen_s = libc strlen): as strerror_s_C08
with no hypothesis on strerrorlen_s. -/
theorem strerror_s_C08_libc (dest dmax errnum : Nat) (destbos : Bos) (msg dots n : Nat) (st : St)
    (hd : dest ≠ 0) (hpos : 0 < dmax) (hle : dmax ≤ RSIZE_MAX_STR) (hbos : ∀ b, destbos = some b → dmax ≤ b)
    (hrw : RW st dest dmax) (hown : isSafeclibErr errnum = false)
    (hm : msg ≠ 0) (hsrc : SrcStr st msg n) (hn : n < dmax) (hdisj : Disjoint dest dmax msg n) :
    ∃ st', exec (strerror_s { slack := true } dest dmax errnum destbos msg dots) st = .ok (EOK, st') ∧
      st'.events = st.events ∧ st'.strays = st.strays ∧
      (∀ i, i < n → st'.data (dest+i) = st.data (msg+i)) ∧
      (∀ i, n ≤ i → i < dmax → st'.data (dest+i) = 0) ∧
      (∀ a, ¬ (dest ≤ a ∧ a < dest + dmax) → st'.data a = st.data a) :=
  strerror_s_C08 dest dmax errnum destbos msg dots n st hd hpos hle hbos hrw
    (strerrorlen_s_libc_eq errnum msg n st hown hsrc (by have := RSIZE_lt_scanFuel; omega)) hm hsrc hn hdisj

/-- strerror_s, truncation, BOTH builds: strerrorlen_s answers len ≥ dmax, dmax > 3 (dmax = 4 included), the first
dmax-4 characters of msg are non-NUL, readable and away from dest (msg + (dmax-4) < dest strictly, or dest + dmax ≤ msg),
dots is the literal "...". Returns EOK, no handler event, and dest is completely determined: the first dmax-4 characters
of the message, then 46 46 46, then NUL in the last cell dest[dmax-1]; frame. -/
theorem strerror_s_C08_trunc (cfg : Cfg) (dest dmax errnum : Nat) (destbos : Bos) (msg dots len : Nat) (st : St)
    (hd : dest ≠ 0) (h3 : 3 < dmax) (hle : dmax ≤ RSIZE_MAX_STR) (hbos : ∀ b, destbos = some b → dmax ≤ b)
    (hrw : RW st dest dmax) (hlen : exec (strerrorlen_s errnum msg) st = .ok (len, st)) (hge : dmax ≤ len)
    (hm : msg ≠ 0)
    (hnz : ∀ j, j < dmax - 4 → st.data (msg+j) ≠ 0)
    (hrd : ∀ j, j < dmax - 4 → st.mapped (msg+j) = true ∧ st.rd (msg+j) = true)
    (hdisj : dest + dmax ≤ msg ∨ msg + (dmax - 4) < dest)
    (hdots : dots ≠ 0) (hds : SrcStr st dots 3) (hdd : Disjoint dest dmax dots 3)
    (h46 : st.data dots = 46 ∧ st.data (dots+1) = 46 ∧ st.data (dots+2) = 46) :
    ∃ st', exec (strerror_s cfg dest dmax errnum destbos msg dots) st = .ok (EOK, st') ∧
      st'.events = st.events ∧ st'.strays = st.strays ∧
      (∀ i, i < dmax - 4 → st'.data (dest+i) = st.data (msg+i)) ∧
      st'.data (dest + (dmax-4)) = 46 ∧ st'.data (dest + (dmax-3)) = 46 ∧ st'.data (dest + (dmax-2)) = 46 ∧
      st'.data (dest + (dmax-1)) = 0 ∧
      (∀ a, ¬ (dest ≤ a ∧ a < dest + dmax) → st'.data a = st.data a) := by
  obtain ⟨r, s, he, hf, h⟩ := strerror_s_runs cfg dest dmax errnum destbos msg dots len st hd (by omega) hle hbos hrw hlen
    (fun _ => hm) (fun h => by omega) (fun _ _ => ⟨hnz, hrd, hdisj, hdots, hds, hdd, h46⟩)
  rcases h with ⟨h, _⟩ | ⟨_, _, rfl, pe, c3, c4, c5, c6, c7⟩ | ⟨_, h, _⟩
  · omega
  · exact ⟨s, he, pe, hf.strays, c3, c4, c5, c6, c7, hf.frame⟩
  · omega

/-- strerror_s truncation for an errnum outside the library's own range: msg is a readable string of length n ≥ dmax
(any n) not overlapping dest, dmax > 3. Same conclusion as strerror_s_C08_trunc, no hypothesis on strerrorlen_s. -/
theorem strerror_s_C08_trunc_libc (cfg : Cfg) (dest dmax errnum : Nat) (destbos : Bos) (msg dots n : Nat) (st : St)
    (hd : dest ≠ 0) (h3 : 3 < dmax) (hle : dmax ≤ RSIZE_MAX_STR) (hbos : ∀ b, destbos = some b → dmax ≤ b)
    (hrw : RW st dest dmax) (hown : isSafeclibErr errnum = false)
    (hm : msg ≠ 0) (hsrc : SrcStr st msg n) (hge : dmax ≤ n) (hdisj : Disjoint dest dmax msg n)
    (hdots : dots ≠ 0) (hds : SrcStr st dots 3) (hdd : Disjoint dest dmax dots 3)
    (h46 : st.data dots = 46 ∧ st.data (dots+1) = 46 ∧ st.data (dots+2) = 46) :
    ∃ st', exec (strerror_s cfg dest dmax errnum destbos msg dots) st = .ok (EOK, st') ∧
      st'.events = st.events ∧ st'.strays = st.strays ∧
      (∀ i, i < dmax - 4 → st'.data (dest+i) = st.data (msg+i)) ∧
      st'.data (dest + (dmax-4)) = 46 ∧ st'.data (dest + (dmax-3)) = 46 ∧ st'.data (dest + (dmax-2)) = 46 ∧
      st'.data (dest + (dmax-1)) = 0 ∧
      (∀ a, ¬ (dest ≤ a ∧ a < dest + dmax) → st'.data a = st.data a) := by
  obtain ⟨len, hlen, hag⟩ := strerrorlen_s_libc errnum msg n st hown hsrc
  have hge' : dmax ≤ len := by
    have := RSIZE_lt_scanFuel
    rcases hag with h | h <;> omega
  exact strerror_s_C08_trunc cfg dest dmax errnum destbos msg dots len st hd h3 hle hbos hrw hlen hge' hm
    (fun j hj => hsrc.nz j (by omega)) (fun j hj => hsrc.rd j (by omega))
    (by unfold Disjoint at hdisj; omega) hdots hds hdd h46

/-- non-vacuity: dest = 100 (8 cells holding 7), name "A" at 300, value "aa" at 200 (fits), message of 11 characters at
400 with errnum 5 (not an own code; 11 ≥ 8 > 3: truncation to "dddd..."), "..." at 500 -/
example : (100 : Nat) ≠ 0 ∧ 3 < 8 ∧ 8 ≤ RSIZE_MAX_STR ∧ RW osExSt 100 8 ∧
    (300 : Nat) ≠ 0 ∧ SrcStr osExSt 300 1 ∧ (200 : Nat) ≠ 0 ∧ SrcStr osExSt 200 2 ∧ 2 < 8 ∧ Disjoint 100 8 200 2 ∧
    isSafeclibErr 5 = false ∧ (400 : Nat) ≠ 0 ∧ SrcStr osExSt 400 11 ∧ 8 ≤ 11 ∧ Disjoint 100 8 400 11 ∧
    (500 : Nat) ≠ 0 ∧ SrcStr osExSt 500 3 ∧ Disjoint 100 8 500 3 ∧
    (osExSt.data 500 = 46 ∧ osExSt.data (500+1) = 46 ∧ osExSt.data (500+2) = 46) :=
  ⟨by decide, by decide, by decide, osExSt_rw, by decide, osExSt_str _ _ (by omega), by decide,
   osExSt_str _ _ (by omega), by decide, Or.inl (by decide), by decide, by decide, osExSt_str _ _ (by omega),
   by decide, Or.inl (by decide), by decide, osExSt_str _ _ (by omega), Or.inl (by decide), osExSt_dots⟩

end PartOs

end SafeC.Props.C08Ext
