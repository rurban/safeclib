import SafeC.Proofs.Footprint
import SafeC.Proofs.AccQueryEntry
/-!
# C12 — the string queries are read-only and read only their strings

One `_fp` per `_acc` theorem of `Proofs/AccQueryEntry.lean` (same hypotheses, with
the contents `d` instantiated by the memory at the call): for every set `R` that contains the cells the
hypotheses name — the strings up to their terminators, cut at the bounds the function applies — the total run
from `s` loads from `R` only and stores NOWHERE (`Within2 R (fun _ => False)`).  With
`C12N.reentrant_n`: a query never disturbs any concurrent call, and is disturbed only by a call that stores
into one of its strings.  `pairFn` = strfirstdiff_s / strfirstsame_s / strlastdiff_s / strlastsame_s,
`predFn` = the strisalpha… family, `wcscmpG` = wcscmp_s / wcsncmp_s.
-/
namespace SafeC.Props.C12Query
open SafeC Gen

theorem strcmp_s_fp (dest dmax src : Nat) (db sb : Bos) (s : St) {R : Nat → Prop}
    (hd : dest ≠ 0 → ∀ a, Str s.data dest (dmax+1) a → R a)
    (hs : src ≠ 0 → ∀ a, Str s.data src (dmax+1) a → R a) :
    Within2 R (fun _ => False) (strcmp_s dest dmax src db sb) s :=
  AccD.within2 (Q := fun _ => True) (strcmp_s_acc (d := s.data) dest dmax src db sb hd hs) s rfl

theorem strcasecmp_s_fp (dest dmax src : Nat) (db : Bos) (s : St) {R : Nat → Prop}
    (hd : dest ≠ 0 → ∀ a, Str s.data dest (dmax+1) a → R a)
    (hs : src ≠ 0 → ∀ a, Str s.data src (dmax+1) a → R a) :
    Within2 R (fun _ => False) (strcasecmp_s dest dmax src db) s :=
  AccD.within2 (Q := fun _ => True) (strcasecmp_s_acc (d := s.data) dest dmax src db hd hs) s rfl

theorem strcmpfld_s_fp (dest dmax src : Nat) (db : Bos) (s : St) {R : Nat → Prop}
    (h : dest ≠ 0 → src ≠ 0 → ∀ i, i ≤ dmax → (∀ j, j < i → s.data (dest+j) = s.data (src+j)) → R (dest+i) ∧ R (src+i)) :
    Within2 R (fun _ => False) (strcmpfld_s dest dmax src db) s :=
  AccD.within2 (Q := fun _ => True) (strcmpfld_s_acc (d := s.data) dest dmax src db h) s rfl

theorem strstr_s_fp (dest dmax src slen : Nat) (db sb : Bos) (s : St) {R : Nat → Prop}
    (hd : dest ≠ 0 → ∀ a, Str s.data dest (dmax+1) a → R a)
    (hs : src ≠ 0 → ∀ a, Str s.data src (slen+1) a → R a)
    (hlong : dest ≠ 0 → src ≠ 0 → slen > dmax →
      (∀ a, Str s.data dest scanFuel a → R a) ∧ (∀ a, Str s.data src scanFuel a → R a)) :
    Within2 R (fun _ => False) (strstr_s dest dmax src slen db sb) s :=
  AccD.within2 (Q := fun _ => True) (strstr_s_acc (d := s.data) dest dmax src slen db sb hd hs hlong) s rfl

theorem strcasestr_s_fp (dest dmax src slen : Nat) (db sb : Bos) (s : St) {R : Nat → Prop}
    (hd : dest ≠ 0 → ∀ a, Str s.data dest (dmax+1) a → R a)
    (hs : src ≠ 0 → ∀ a, Str s.data src (slen+1) a → R a) :
    Within2 R (fun _ => False) (strcasestr_s dest dmax src slen db sb) s :=
  AccD.within2 (Q := fun _ => True) (strcasestr_s_acc (d := s.data) dest dmax src slen db sb hd hs) s rfl

theorem strchr_s_fp (dest dmax : Nat) (ch : Int) (db : Bos) (s : St) {R : Nat → Prop}
    (hd : dest ≠ 0 → ∀ a, Str s.data dest scanFuel a → R a) :
    Within2 R (fun _ => False) (strchr_s dest dmax ch db) s :=
  AccD.within2 (Q := fun _ => True) (strchr_s_acc (d := s.data) dest dmax ch db hd) s rfl

theorem strpbrk_s_fp (cfg : Cfg) (dest dmax src slen : Nat) (db sb : Bos) (s : St) {R : Nat → Prop}
    (hsb : ∀ b, sb = some b → slen ≤ b)
    (hd : dest ≠ 0 → ∀ a, Str s.data dest (dmax+1) a → R a)
    (hs : src ≠ 0 → ∀ a, Str s.data src (slen+1) a → R a) :
    Within2 R (fun _ => False) (strpbrk_s cfg dest dmax src slen db sb) s :=
  AccD.within2 (Q := fun _ => True) (strpbrk_s_acc (d := s.data) cfg dest dmax src slen db sb hsb hd hs) s rfl

theorem strspn_s_fp (dest dmax src slen : Nat) (db sb : Bos) (s : St) {R : Nat → Prop}
    (hd : dest ≠ 0 → ∀ a, Str s.data dest (dmax+1) a → R a)
    (hs : src ≠ 0 → ∀ a, Str s.data src (slen+1) a → R a) :
    Within2 R (fun _ => False) (strspn_s dest dmax src slen db sb) s :=
  AccD.within2 (Q := fun _ => True) (strspn_s_acc (d := s.data) dest dmax src slen db sb hd hs) s rfl

theorem strcspn_s_fp (dest dmax src slen : Nat) (db sb : Bos) (s : St) {R : Nat → Prop}
    (hd : dest ≠ 0 → ∀ a, Str s.data dest (dmax+1) a → R a)
    (hs : src ≠ 0 → ∀ a, Str s.data src (slen+1) a → R a) :
    Within2 R (fun _ => False) (strcspn_s dest dmax src slen db sb) s :=
  AccD.within2 (Q := fun _ => True) (strcspn_s_acc (d := s.data) dest dmax src slen db sb hd hs) s rfl

theorem strprefix_s_fp (dest dmax src : Nat) (db : Bos) (s : St) {R : Nat → Prop}
    (hd : dest ≠ 0 → ∀ a, Str s.data dest dmax a → R a)
    (hs : src ≠ 0 → ∀ a, Str s.data src (dmax+1) a → R a) :
    Within2 R (fun _ => False) (strprefix_s dest dmax src db) s :=
  AccD.within2 (Q := fun _ => True) (strprefix_s_acc (d := s.data) dest dmax src db hd hs) s rfl

theorem strfirstchar_s_fp (dest dmax c : Nat) (db : Bos) (s : St) {R : Nat → Prop}
    (hd : dest ≠ 0 → ∀ a, Str s.data dest (dmax+1) a → R a) :
    Within2 R (fun _ => False) (strfirstchar_s dest dmax c db) s :=
  AccD.within2 (Q := fun _ => True) (strfirstchar_s_acc (d := s.data) dest dmax c db hd) s rfl

theorem strlastchar_s_fp (dest dmax c : Nat) (db : Bos) (s : St) {R : Nat → Prop}
    (hd : dest ≠ 0 → ∀ a, Str s.data dest (dmax+1) a → R a) :
    Within2 R (fun _ => False) (strlastchar_s dest dmax c db) s :=
  AccD.within2 (Q := fun _ => True) (strlastchar_s_acc (d := s.data) dest dmax c db hd) s rfl

theorem pairFn_fp (same first : Bool) (nohit dest dmax src : Nat) (db : Bos) (s : St) {R : Nat → Prop}
    (hd : dest ≠ 0 → ∀ a, Str s.data dest (dmax+1) a → R a)
    (hs : src ≠ 0 → ∀ a, Str s.data src (dmax+1) a → R a) :
    Within2 R (fun _ => False) (pairFn same first nohit dest dmax src db) s :=
  AccD.within2 (Q := fun _ => True) (pairFn_acc (d := s.data) same first nohit dest dmax src db hd hs) s rfl

theorem predFn_bounded_fp (ok : Nat → Bool) (dest dmax : Nat) (db : Bos) (s : St) {R : Nat → Prop}
    (hd : dest ≠ 0 → ∀ a, Str s.data dest (dmax+1) a → R a) :
    Within2 R (fun _ => False) (predFn ok true dest dmax db) s :=
  AccD.within2 (Q := fun _ => True) (predFn_bounded_acc (d := s.data) ok dest dmax db hd) s rfl

theorem predFn_unbounded_fp (ok : Nat → Bool) (dest dmax : Nat) (db : Bos) (s : St) {R : Nat → Prop}
    (hd : dest ≠ 0 → ∀ a, Str s.data dest scanFuel2 a → R a) :
    Within2 R (fun _ => False) (predFn ok false dest dmax db) s :=
  AccD.within2 (Q := fun _ => True) (predFn_unbounded_acc (d := s.data) ok dest dmax db hd) s rfl

theorem strisascii_s_fp (dest dmax : Nat) (db : Bos) (s : St) {R : Nat → Prop}
    (hd : dest ≠ 0 → ∀ a, Str s.data dest (dmax+1) a → R a) :
    Within2 R (fun _ => False) (strisascii_s dest dmax db) s :=
  AccD.within2 (Q := fun _ => True) (strisascii_s_acc (d := s.data) dest dmax db hd) s rfl

theorem strispassword_s_fp (dest dmax : Nat) (db : Bos) (s : St) {R : Nat → Prop}
    (hd : dest ≠ 0 → ∀ a, Str s.data dest (dmax+1) a → R a) :
    Within2 R (fun _ => False) (strispassword_s dest dmax db) s :=
  AccD.within2 (Q := fun _ => True) (strispassword_s_acc (d := s.data) dest dmax db hd) s rfl

theorem wcscmpG_fp (useCount : Bool) (dest dmax src smax count : Nat) (db sb : Bos) (s : St) {R : Nat → Prop}
    (hd : dest ≠ 0 → ∀ a, Str s.data dest (dmax+1) a → R a)
    (hs : src ≠ 0 → ∀ a, Str s.data src (smax+1) a → R a) :
    Within2 R (fun _ => False) (wcscmpG useCount dest dmax src smax count db sb) s :=
  AccD.within2 (Q := fun _ => True) (wcscmpG_acc (d := s.data) useCount dest dmax src smax count db sb hd hs) s rfl

theorem wcsstr_s_fp (dest dmax src slen : Nat) (db sb : Bos) (s : St) {R : Nat → Prop}
    (hd : dest ≠ 0 → ∀ a, Str s.data dest (dmax+1) a → R a)
    (hs : src ≠ 0 → ∀ a, Str s.data src (slen+1) a → R a) :
    Within2 R (fun _ => False) (wcsstr_s dest dmax src slen db sb) s :=
  AccD.within2 (Q := fun _ => True) (wcsstr_s_acc (d := s.data) dest dmax src slen db sb hd hs) s rfl

end SafeC.Props.C12Query
