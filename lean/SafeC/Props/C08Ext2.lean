import SafeC.Props.C08Ext
import SafeC.Proofs.ExtNarrow
import SafeC.Proofs.ExtInplace
/-! # C08 (extension 2): the narrow copy family with the object sizes known or unknown

`strcpy_s strncpy_s strcat_s strncat_s`, the first kind of statement of `Props/C08Ext.lean` (`*_C08`): EVERY placement of src, EVERY content,
`cfg` arbitrary, `destbos` / `srcbos` unknown or known: on EOK there is `t < dmax` with `dest[0..t)` non-zero,
`dest[t] = 0` (so `t` IS the terminator) and, with null-slack, `dest[t..dmax) = 0` (`Clean`).

* `strcat_s_C08`, `strncat_s_C08` (incl. `slen = 0`: EOK there means dest was cleared): FULL.
* `strcpy_s`: FALSE of the code for `dest == src` (recorded `same-pointer-shortcut`: EOK, nothing nulled):
  `strcpy_s_C08_partial` has `dest ≠ src`, `strcpy_s_C08_witness` the excluded point.
* `strncpy_s`: FALSE of the code for `slen = 0` (recorded `strncpy-slen0-shortcut`: EOK, only `dest[0]` zeroed):
  `strncpy_s_C08_partial` has `slen ≠ 0`, `strncpy_s_C08_witness` the excluded point.
-/
namespace SafeC.Props.C08Ext2
open SafeC Gen SafeC.Props.C01 SafeC.Props.C08Ext

/- FULL statement (FALSE of the code for dest = src, see `strcpy_s_C08_witness`): the same without `hne`. -/
theorem strcpy_s_C08_partial (cfg : Cfg) (dest dmax src : Nat) (destbos : Bos) (st : St) (hs : Setting st)
    (hrw : RW st dest dmax) (hd : dest ≠ 0) (hpos : 0 < dmax) (hle : dmax ≤ RSIZE_MAX_STR)
    (hb : ∀ b, destbos = some b → dmax ≤ b) (hne : dest ≠ src) :
    ∃ code st', exec (strcpy_s cfg dest dmax src destbos) st = .ok (code, st') ∧
      (code = EOK → Clean cfg dest dmax st') := by
  obtain ⟨code, st', he, _, hq⟩ := strcpyG_ext _ cfg dest dmax src destbos st hs.all (fun _ => hrw) (fun _ => Nat.le_refl _)
  exact ⟨code, st', he, fun hc => ((hq ⟨hd, hpos, hle, hb⟩).1 hne).1.2 trivial hc⟩

/-- dest = "a\0b" (3 cells at 100) -/
def wS : St :=
  { data := fun a => if a = 100 then 97 else if a = 102 then 98 else 0
    mapped := fun _ => true, rd := fun _ => true
    wr := fun a => decide (100 ≤ a ∧ a < 103) }

/-- the excluded point: `strcpy_s(d, 3, d)` on d = "a\0b", null-slack build: EOK, untouched — the stale 'b' remains
behind the terminator -/
theorem strcpy_s_C08_witness :
    exec (strcpy_s { slack := true } 100 3 100 none) wS = .ok (EOK, wS) ∧
      wS.data 101 = 0 ∧ wS.data 102 = 98 ∧ ¬ Clean { slack := true } 100 3 wS := by
  refine ⟨rfl, by simp [wS], by simp [wS], ?_⟩
  intro ⟨t, ht, hnz, hz, hsl⟩
  have h2 := hsl rfl 2
  have : t = 0 ∨ t = 1 ∨ t = 2 := by omega
  rcases this with rfl | rfl | rfl
  · simp [wS] at hz
  · have := h2 (by omega) (by omega); simp [wS] at this
  · simp [wS] at hz

/- FULL statement (FALSE of the code for slen = 0, see `strncpy_s_C08_witness`): the same without `hslen`. -/
theorem strncpy_s_C08_partial (cfg : Cfg) (dest dmax src slen : Nat) (destbos srcbos : Bos) (st : St) (hs : Setting st)
    (hrw : RW st dest dmax) (hd : dest ≠ 0) (hpos : 0 < dmax) (hle : dmax ≤ RSIZE_MAX_STR)
    (hb : ∀ b, destbos = some b → dmax ≤ b) (hsb : ∀ sb, srcbos = some sb → slen ≤ sb) (hslen : slen ≠ 0) :
    ∃ code st', exec (strncpy_s cfg dest dmax src slen destbos srcbos) st = .ok (code, st') ∧
      (code = EOK → Clean cfg dest dmax st') := by
  obtain ⟨code, st', he, _, hq⟩ := strncpy_s_ext cfg dest dmax src slen destbos srcbos st hs.all (fun _ => hrw) hsb
  exact ⟨code, st', he, fun hc => (hq ⟨hd, hpos, hle, hb⟩).2 hslen hc⟩

/-- dest = "ab" (2 cells at 100) -/
def wN : St :=
  { data := fun a => if a = 100 then 97 else if a = 101 then 98 else 0
    mapped := fun _ => true, rd := fun _ => true
    wr := fun a => decide (100 ≤ a ∧ a < 102) }

/-- the excluded point: `strncpy_s(d, 2, src, 0)` on d = "ab", null-slack build: EOK, `d[0] = 0` and the stale 'b'
remains behind the terminator -/
theorem strncpy_s_C08_witness :
    ∃ st', exec (strncpy_s { slack := true } 100 2 200 0 none none) wN = .ok (EOK, st') ∧
      st'.data 100 = 0 ∧ st'.data 101 = 98 := by
  refine ⟨_, rfl, ?_⟩
  simp [wN, St.upd, St.noteWr]

/-- strcat_s, every src/placement/content, object size known or unknown, both builds -/
theorem strcat_s_C08 (cfg : Cfg) (dest dmax src : Nat) (destbos : Bos) (st : St) (hs : Setting st)
    (hrw : RW st dest dmax) (hd : dest ≠ 0) (hpos : 0 < dmax) (hle : dmax ≤ RSIZE_MAX_STR)
    (hb : ∀ b, destbos = some b → dmax ≤ b) :
    ∃ code st', exec (strcat_s cfg dest dmax src destbos) st = .ok (code, st') ∧
      (code = EOK → Clean cfg dest dmax st') := by
  obtain ⟨code, st', he, _, hq⟩ := strcat_s_ext cfg dest dmax src destbos st hs.all (fun _ => hrw)
  exact ⟨code, st', he, fun hc => (hq ⟨hd, hpos, hle, hb⟩).2 trivial hc⟩

/-- strncat_s, every src/slen (slen = 0 included: EOK means dest was cleared)/placement/content -/
theorem strncat_s_C08 (cfg : Cfg) (dest dmax src slen : Nat) (destbos srcbos : Bos) (st : St) (hs : Setting st)
    (hrw : RW st dest dmax) (hd : dest ≠ 0) (hpos : 0 < dmax) (hle : dmax ≤ RSIZE_MAX_STR)
    (hb : ∀ b, destbos = some b → dmax ≤ b) (hsb : ∀ sb, srcbos = some sb → slen ≤ sb) :
    ∃ code st', exec (strncat_s cfg dest dmax src slen destbos srcbos) st = .ok (code, st') ∧
      (code = EOK → Clean cfg dest dmax st') := by
  obtain ⟨code, st', he, _, hq⟩ := strncat_s_ext cfg dest dmax src slen destbos srcbos st hs.all (fun _ => hrw) hsb
  exact ⟨code, st', he, fun hc => (hq ⟨hd, hpos, hle, hb⟩).2 trivial hc⟩

/-- the hypotheses are satisfiable: dest = 5 writable cells at 100 inside an object of 8, src = "ab" at 200 inside an
object of 3, slen = 2 -/
example : Setting exSt ∧ RW exSt 100 5 ∧ (100 : Nat) ≠ 0 ∧ 0 < 5 ∧ 5 ≤ RSIZE_MAX_STR ∧
    (∀ b, (some 8 : Bos) = some b → 5 ≤ b) ∧ (∀ sb, (some 3 : Bos) = some sb → 2 ≤ sb) ∧ (2 : Nat) ≠ 0 ∧
    (100 : Nat) ≠ 200 := by
  refine ⟨⟨fun _ => ⟨rfl, rfl⟩, rfl⟩, exSt_rw, by decide, by decide, by decide, ?_, ?_, by decide,
    by decide⟩
  · intro b h; cases h; decide
  · intro b h; cases h; decide

/-! ## strzero_s

`strzero_s` walks to the first NUL (at most `dmax` cells) storing zeros, then — null-slack build, if the cell it stopped
at holds a NUL — nulls the rest.  `strzero_s_C08_exact` is the whole outcome for EVERY content keyed on `m` = index of
the first NUL within `dmax` (`m = dmax`: none); `strzero_s_C08` the C08 clause (`Clean` with the terminator at index 0);
`strzero_s_C08_noterm` the case "no NUL is met": all `dmax` cells are zero in BOTH builds. -/

/-- strzero_s, usable dest, every content, both builds: EOK; exactly the cells `dest[0..dmax)` (null-slack) resp.
`dest[0..m)` (no slack; `m` = first NUL of the old dest, `dmax` if none) are zeroed, every other cell is unchanged -/
theorem strzero_s_C08_exact (cfg : Cfg) (dest dmax m : Nat) (destbos : Bos) (st : St) (hs : Setting st)
    (hrw : RW st dest dmax) (hd : dest ≠ 0) (hpos : 0 < dmax) (hle : dmax ≤ RSIZE_MAX_STR)
    (hb : ∀ b, destbos = some b → dmax ≤ b) (hm : m ≤ dmax)
    (hnz : ∀ j, j < m → st.data (dest + j) ≠ 0) (hz : m < dmax → st.data (dest + m) = 0) :
    ∃ st', exec (strzero_s cfg dest dmax destbos) st = .ok (EOK, st') ∧ SameMeta st' st ∧
      ∀ a, st'.data a = if dest ≤ a ∧ a < dest + (if cfg.slack then dmax else m) then 0 else st.data a := by
  obtain ⟨code, st', he, hok, _, hiff⟩ := strzero_s_spec cfg dest dmax m destbos st hrw hm hnz
    (by
      by_cases h : m < dmax
      · exact Or.inl ⟨h, hz h⟩
      · exact Or.inr ⟨by omega, fun _ => hs.all _⟩)
  have hc : code = EOK := hiff.2 ⟨hd, by omega, strDmaxOk_of dmax destbos hle hb⟩
  subst hc
  exact ⟨st', he, (hok rfl).same, (hok rfl).data⟩

/-- strzero_s, usable dest, EVERY content (a NUL within dmax or not), both builds: EOK and the result is the empty
string with nothing stale behind its terminator in the null-slack build -/
theorem strzero_s_C08 (cfg : Cfg) (dest dmax : Nat) (destbos : Bos) (st : St) (hs : Setting st)
    (hrw : RW st dest dmax) (hd : dest ≠ 0) (hpos : 0 < dmax) (hle : dmax ≤ RSIZE_MAX_STR)
    (hb : ∀ b, destbos = some b → dmax ≤ b) :
    ∃ st', exec (strzero_s cfg dest dmax destbos) st = .ok (EOK, st') ∧ Clean cfg dest dmax st' := by
  obtain ⟨st', he, h0, hall, _, _⟩ := strzero_s_ok cfg dest dmax destbos st hs.all hrw hd hpos hle hb
  exact ⟨st', he, 0, hpos, fun i hi => by omega, by simpa using h0, fun hsl i _ hi => hall hsl i hi⟩

/-- strzero_s when NO NUL is met in `dest[0..dmax)`: EOK and all `dmax` cells are zero in BOTH builds, nothing else
changed (the set loop itself stores the `dmax` zeros; the slack block then reads `dest[dmax]` and clears 0 cells) -/
theorem strzero_s_C08_noterm (cfg : Cfg) (dest dmax : Nat) (destbos : Bos) (st : St) (hs : Setting st)
    (hrw : RW st dest dmax) (hd : dest ≠ 0) (hpos : 0 < dmax) (hle : dmax ≤ RSIZE_MAX_STR)
    (hb : ∀ b, destbos = some b → dmax ≤ b) (hnz : ∀ j, j < dmax → st.data (dest + j) ≠ 0) :
    ∃ st', exec (strzero_s cfg dest dmax destbos) st = .ok (EOK, st') ∧
      (∀ i, i < dmax → st'.data (dest + i) = 0) ∧
      (∀ a, ¬ (dest ≤ a ∧ a < dest + dmax) → st'.data a = st.data a) := by
  obtain ⟨st', he, _, hdat⟩ := strzero_s_C08_exact cfg dest dmax dmax destbos st hs hrw hd hpos hle hb
    (Nat.le_refl _) hnz (fun h => absurd h (Nat.lt_irrefl _))
  rw [ite_self] at hdat
  refine ⟨st', he, fun i hi => ?_, fun a ha => ?_⟩
  · rw [hdat (dest + i), if_pos ⟨by omega, by omega⟩]
  · rw [hdat a, if_neg ha]

/-- dest = "wxyz" without terminator (4 writable cells at 100) -/
def zSt : St :=
  { data := fun a => if 100 ≤ a ∧ a < 104 then 119 else 0
    mapped := fun _ => true, rd := fun _ => true
    wr := fun a => decide (100 ≤ a ∧ a < 104) }

/-- the hypotheses of `strzero_s_C08_noterm` are satisfiable -/
example : Setting zSt ∧ RW zSt 100 4 ∧ (∀ j, j < 4 → zSt.data (100 + j) ≠ 0) := by
  refine ⟨⟨fun _ => ⟨rfl, rfl⟩, rfl⟩, fun i hi => ⟨rfl, ?_, rfl⟩, fun j hj => ?_⟩
  · simp [zSt]; omega
  · have : 100 ≤ 100 + j ∧ 100 + j < 104 := by omega
    simp [zSt, this]

end SafeC.Props.C08Ext2
