import SafeC.Lemmas
import SafeC.Models.WCase
/-!
# C06 for the wide case mappers `wcslwr_s`, `wcsupr_s`: success means the exact, complete result

"Scans the string converting … characters …, leaving all other characters unchanged.  The scanning stops at the
first null or after slen characters."

For valid arguments (`src` non-null, `0 < slen ≤ RSIZE_MAX_WSTR`, `slen * sizeof(wchar_t)` within the object size when it
is known), ANY contents and ANY length `k` of the run of non-NUL cells at `src` (`k < slen`: terminated inside the
`slen` cells; `k = slen`: no NUL in them at all), with those `k` cells declared and the ONE cell behind them readable —
the NUL, or for `k = slen` the cell `src[slen]`: with the switch `fixWcaseOrder` off the loop is `while (*src && slen)` and
reads it before it looks at its counter (the read-before-bound of C02; without that cell mapped that call faults and the
model with it); with the switch on it is `while (slen && *src)`, the cell is not read and the hypothesis is idle — the call

* returns EOK without an event and without a stray access,
* leaves in each of the `k` cells the mapping `f` of what it held (as a 32-bit pattern), and
* changes nothing else: not the NUL, not a cell behind it, not a cell below `src`.

Proved for the shared text `wcase_s rb f` and EVERY mapping `f`, then instantiated: `towlowerLibc` (what glibc's "C"-locale
`towlower` was measured to do) and `towupperLib` (the model of the library's `_towupper`).
-/
namespace SafeC.Props.C06WCase
open SafeC Gen

/-- the loop, by induction on its counter -/
theorem wcaseLoop_spec (rb : Bool) (f : Nat → Nat) (slen : Nat) : ∀ (src k : Nat) (st : St), k ≤ slen →
    (∀ i, i < k → st.data (src+i) ≠ 0) → (k < slen → st.data (src+k) = 0) →
    RW st src k → st.mapped (src+k) = true → st.rd (src+k) = true →
    ∃ st', exec (wcaseLoop rb f slen src) st = .ok ((), st') ∧
      (∀ i, i < k → st'.data (src+i) = f (st.data (src+i)) % 2^32) ∧
      (∀ a, ¬ (src ≤ a ∧ a < src + k) → st'.data a = st.data a) ∧
      st'.events = st.events ∧ st'.strays = st.strays ∧ st'.mapped = st.mapped ∧ st'.rd = st.rd ∧ st'.wr = st.wr := by
  induction slen with
  | zero =>
    intro src k st hk _ _ _ hm hr
    obtain rfl : k = 0 := Nat.le_zero.1 hk
    refine ⟨st, ?_, fun i hi => absurd hi (Nat.not_lt_zero i), fun _ _ => rfl, rfl, rfl, rfl, rfl, rfl⟩
    unfold wcaseLoop
    split
    · rw [exec_bind, exec_load_ok src st hm hr]
      rfl
    · rfl
  | succ n ih =>
    intro src k st hk hnz hend hrw hm hr
    cases k with
    | zero =>
      have h0 : st.data src = 0 := hend (Nat.succ_pos n)
      refine ⟨st, ?_, fun i hi => absurd hi (Nat.not_lt_zero i), fun _ _ => rfl, rfl, rfl, rfl, rfl, rfl⟩
      unfold wcaseLoop
      rw [exec_bind, exec_load_ok src st hm hr]
      simp only [h0, if_true]
      rfl
    | succ k' =>
      -- cell `i` of the rest of the string is cell `i+1` of the string, and is not the cell just written
      have e : ∀ i, src + 1 + i = src + (i+1) := fun i => by rw [Nat.add_assoc, Nat.add_comm 1 i]
      have hne : ∀ i, src + 1 + i ≠ src := fun i =>
        Nat.ne_of_gt (Nat.lt_of_lt_of_le (Nat.lt_succ_self src) (Nat.le_add_right _ i))
      have hc : st.data src ≠ 0 := hnz 0 (Nat.succ_pos k')
      obtain ⟨m0, w0, r0⟩ := hrw.head
      obtain ⟨st', he, h1, h2, h3, h4, h5, h6, h7⟩ :=
        ih (src+1) k' (st.upd src (f (st.data src) % 2^32)) (Nat.le_of_succ_le_succ hk)
        (fun i hi => by rw [St.upd_data_ne _ _ _ _ (hne i), e]; exact hnz (i+1) (Nat.succ_lt_succ hi))
        (fun h => by rw [St.upd_data_ne _ _ _ _ (hne k'), e]; exact hend (Nat.succ_lt_succ h))
        (RW.of_sameMeta (SameMeta.upd _ _ _) hrw.tail)
        (by rw [e]; exact hm) (by rw [e]; exact hr)
      refine ⟨st', ?_, ?_, ?_, h3, h4, h5, h6, h7⟩
      · unfold wcaseLoop
        rw [exec_bind, exec_load_ok _ _ m0 r0]
        simp only [hc, if_false]
        rw [exec_bind, exec_load_ok _ _ m0 r0]
        simp only []
        rw [exec_bind, exec_store_ok _ _ _ m0 w0]
        exact he
      · intro i hi
        cases i with
        | zero =>
          rw [Nat.add_zero, h2 src (fun h => Nat.not_succ_le_self src h.1)]
          exact St.upd_data_same _ _ _
        | succ j =>
          have := h1 j (Nat.lt_of_succ_lt_succ hi)
          rwa [St.upd_data_ne _ _ _ _ (hne j), e] at this
      · intro a ha
        rw [h2 a (fun c => ha ⟨Nat.le_of_succ_le c.1, e k' ▸ c.2⟩)]
        exact St.upd_data_ne _ _ _ _ (fun h => ha ⟨Nat.le_of_eq h.symm, h ▸ Nat.lt_add_of_pos_right (Nat.succ_pos k')⟩)

/-- the shared text, every mapping `f` -/
theorem wcase_s_C06 (rb : Bool) (f : Nat → Nat) (src slen k : Nat) (b : Bos) (st : St)
    (hs : src ≠ 0) (h0 : 0 < slen) (hmax : slen ≤ RSIZE_MAX_WSTR)
    (hb : ∀ bos, b = some bos → slen * SIZEOF_WCHAR_T ≤ bos)
    (hk : k ≤ slen) (hnz : ∀ i, i < k → st.data (src+i) ≠ 0) (hend : k < slen → st.data (src+k) = 0)
    (hrw : RW st src k) (hm : st.mapped (src+k) = true) (hr : st.rd (src+k) = true) :
    ∃ st', exec (wcase_s rb f src slen b) st = .ok (EOK, st') ∧
      (∀ i, i < k → st'.data (src+i) = f (st.data (src+i)) % 2^32) ∧
      (∀ a, ¬ (src ≤ a ∧ a < src + k) → st'.data a = st.data a) ∧
      st'.events = st.events ∧ st'.strays = st.strays := by
  obtain ⟨st', he, h1, h2, h3, h4, _⟩ := wcaseLoop_spec rb f slen src k st hk hnz hend hrw hm hr
  refine ⟨st', ?_, h1, h2, h3, h4⟩
  have body : exec (do wcaseLoop rb f slen src; pure EOK : Prog Nat) st = .ok (EOK, st') := by
    rw [exec_bind, he]; rfl
  have hz : ¬ slen = 0 := Nat.ne_of_gt h0
  have hx : ¬ slen > RSIZE_MAX_WSTR := Nat.not_lt.2 hmax
  cases b with
  | none => simp only [wcase_s, hz, hs, hx, if_false]; exact body
  | some bos =>
    have hbb : ¬ slen * SIZEOF_WCHAR_T > bos := Nat.not_lt.2 (hb bos rfl)
    simp only [wcase_s, hz, hs, hx, hbb, if_false]; exact body

/-- **wcslwr_s**: each cell of the string (or of the first `slen` cells) holds glibc's "C"-locale `towlower` of what it
held, nothing else changes -/
theorem wcslwr_s_C06 (cfg : Cfg) (src slen k : Nat) (b : Bos) (st : St)
    (hs : src ≠ 0) (h0 : 0 < slen) (hmax : slen ≤ RSIZE_MAX_WSTR)
    (hb : ∀ bos, b = some bos → slen * SIZEOF_WCHAR_T ≤ bos)
    (hk : k ≤ slen) (hnz : ∀ i, i < k → st.data (src+i) ≠ 0) (hend : k < slen → st.data (src+k) = 0)
    (hrw : RW st src k) (hm : st.mapped (src+k) = true) (hr : st.rd (src+k) = true) :
    ∃ st', exec (wcslwr_s cfg src slen b) st = .ok (EOK, st') ∧
      (∀ i, i < k → st'.data (src+i) = towlowerLibc (st.data (src+i)) % 2^32) ∧
      (∀ a, ¬ (src ≤ a ∧ a < src + k) → st'.data a = st.data a) ∧
      st'.events = st.events ∧ st'.strays = st.strays :=
  wcase_s_C06 _ _ src slen k b st hs h0 hmax hb hk hnz hend hrw hm hr

/-- **wcsupr_s**: the same with the library's `_towupper` -/
theorem wcsupr_s_C06 (cfg : Cfg) (src slen k : Nat) (b : Bos) (st : St)
    (hs : src ≠ 0) (h0 : 0 < slen) (hmax : slen ≤ RSIZE_MAX_WSTR)
    (hb : ∀ bos, b = some bos → slen * SIZEOF_WCHAR_T ≤ bos)
    (hk : k ≤ slen) (hnz : ∀ i, i < k → st.data (src+i) ≠ 0) (hend : k < slen → st.data (src+k) = 0)
    (hrw : RW st src k) (hm : st.mapped (src+k) = true) (hr : st.rd (src+k) = true) :
    ∃ st', exec (wcsupr_s cfg src slen b) st = .ok (EOK, st') ∧
      (∀ i, i < k → st'.data (src+i) = towupperLib (st.data (src+i)) % 2^32) ∧
      (∀ a, ¬ (src ≤ a ∧ a < src + k) → st'.data a = st.data a) ∧
      st'.events = st.events ∧ st'.strays = st.strays :=
  wcase_s_C06 _ _ src slen k b st hs h0 hmax hb hk hnz hend hrw hm hr

/-- glibc's "C"-locale `towlower`, as measured, in closed form: the 26 ASCII capitals and nothing else — for every cell value -/
theorem towlowerLibc_eq (c : Nat) : towlowerLibc c = if 0x41 ≤ c ∧ c ≤ 0x5A then c + 32 else c := by
  -- the table, entry by entry: the keys are the capitals, in order, each with its small letter
  have keys : ∀ q ∈ WCase.towlowerDiff, 0x41 ≤ q.1 ∧ q.1 ≤ 0x5A := by decide
  have vals : ∀ i, i < 26 → WCase.towlowerDiff.lookup (0x41 + i) = some (0x41 + i + 32) := by decide
  unfold towlowerLibc
  by_cases h : 0x41 ≤ c ∧ c ≤ 0x5A
  · obtain ⟨i, rfl⟩ : ∃ i, c = 0x41 + i := ⟨c - 0x41, (Nat.add_sub_of_le h.1).symm⟩
    rw [if_pos h, vals i (by omega)]
  · have hl : WCase.towlowerDiff.lookup c = none :=
      List.lookup_eq_none_iff.2 fun p hp => bne_iff_ne.2 fun e => h (e ▸ keys p hp)
    rw [if_neg h, hl]

/-- non-vacuity and the special cells, decided by the kernel on the regenerated tables: "aZ" + ä ß ǆ ς, a Cherokee
capital, a cell above 0x10FFFF, a negative `wchar_t`, unterminated in `slen = 9` cells (`k = slen`) -/
example :
    let cells : List Nat := [0x61, 0x5A, 0xE4, 0xDF, 0x1C6, 0x3C2, 0x13A0, 0x110061, 0x80000061]
    let st : St := { data := fun a => cells.getD (a - 100) 7, mapped := fun _ => true, rd := fun _ => true, wr := fun _ => true }
    (exec (wcsupr_s {} 100 9 none) st |>.toOption.map (fun x => (x.1, (List.range 10).map (fun i => x.2.data (100 + i))))) =
      some (EOK, [0x41, 0x5A, 0xC4, 0x1E9E, 0x1C4, 0x3A3, 0xAB70, 0x110061, 0x80000061, 7]) := by decide +kernel

end SafeC.Props.C06WCase
