import SafeC.Proofs.OsGets
import SafeC.Proofs.OsTime
/-!
# C03 for the os family beyond getenv_s / strerror_s (those: `Props/C03Ext.lean`): `gets_s`, `asctime_s`, `ctime_s`

Setting of `Proofs/ExtOs.lean`: dest is usable (`dest ≠ 0`, `0 < dmax` within the limit and inside the object when its
size is known, `RW st dest dmax`: `dmax` writable cells of ARBITRARY prior content), what the C reads (the stream region, the
`struct tm`, `*timer`, libc's text) is readable and does not overlap dest; nothing else is assumed about the memory.  Both slack
configurations, no bound on any size.

* `gets_s_C03`: EVERY stream (any bytes, any length, with or without newline, embedded NULs, empty, the read-error stream).
* `asctime_s_C03_partial` / `ctime_s_C03_partial`: every exit except "libc's text has `dmax` or more characters" — `timeTail` then reports
  ESNOSPC WITHOUT touching dest, and with `dmax ≥ 120` libc has already written the unterminated-within-`dmax` text into dest.
  With glibc's 25 characters and `26 ≤ dmax` that exit is unreachable; the FULL statement is false of the model there
  (`asctime_s_C03_witness`, `ctime_s_C03_witness`).
-/
namespace SafeC.Props.C03Os
open SafeC Gen

/-- gets_s, EVERY exit on a usable dest, EVERY stream `inp[0..len)` (any bytes and length: newline or not, embedded NULs,
empty, `inp = 0` = the stream whose read fails; object size known or not; both slack configurations; arbitrary prior dest
content): the call returns and a NUL exists in dest[0..dmax). -/
theorem gets_s_C03 (cfg : Cfg) (dest dmax : Nat) (destbos : Bos) (inp len : Nat) (st : St)
    (hd : dest ≠ 0) (hpos : 0 < dmax) (hnone : destbos = none → dmax ≤ RSIZE_MAX_STR)
    (hbos : ∀ b, destbos = some b → dmax ≤ b) (hrw : RW st dest dmax)
    (hrd : ∀ j, j < len → st.mapped (inp+j) = true ∧ st.rd (inp+j) = true)
    (hdisj : dest + dmax ≤ inp ∨ inp + len ≤ dest) :
    ∃ r st', exec (gets_s cfg dest dmax destbos inp len) st = .ok (r, st') ∧
      ∃ i, i < dmax ∧ st'.data (dest + i) = 0 := by
  obtain ⟨h1, h2, h3, _⟩ := lineStr_spec st inp len
  obtain ⟨r, st', he, _, hp⟩ := gets_s_runs cfg dest dmax destbos inp len _ st hd hpos hnone hbos hrw hrd hdisj h1 h2 h3
  refine ⟨r, st', he, ?_⟩
  rcases hp with ⟨_, _, _, hz, _⟩ | ⟨_, _, hf, _, _, _, hz, _⟩ | ⟨_, _, _, _, _, hz, _⟩
  · exact ⟨0, hpos, by simpa using hz⟩
  · exact ⟨_, by rcases hf with h | ⟨h, _⟩ <;> omega, hz⟩
  · exact ⟨0, hpos, by simpa using hz⟩

/-- non-vacuity: dest = 100 (8 cells holding 7, no NUL), the stream "ab\ncd" at 200 -/
example : (100 : Nat) ≠ 0 ∧ 0 < 8 ∧ 8 ≤ RSIZE_MAX_STR ∧ RW getsExSt 100 8 ∧
    (∀ j, j < 5 → getsExSt.mapped (200+j) = true ∧ getsExSt.rd (200+j) = true) ∧ (100 + 8 ≤ 200 ∨ 200 + 5 ≤ 100) :=
  ⟨by decide, by decide, by decide, getsExSt_rw, getsExSt_rd, Or.inl (by decide)⟩

/-- a NUL within `dmax` from the exit-by-exit result -/
private theorem nul_of_TimePost {cfg : Cfg} {dest dmax text n : Nat} {lf : Bool} {st : St} {r : Nat} {s : St} (hpos : 0 < dmax)
    (hfit : text ≠ 0 → lf = false → n < dmax) (h : TimePost cfg dest dmax text n lf st r s) :
    ∃ i, i < dmax ∧ s.data (dest + i) = 0 := by
  rcases h.2 with ⟨_, _, hz, _⟩ | ⟨_, _, _, hz, _⟩ | ⟨_, _, hn, _, _, _, hz, _⟩ | ⟨ht, hl, hn, _⟩
  · exact ⟨0, hpos, by simpa using hz⟩
  · exact ⟨0, hpos, by simpa using hz⟩
  · exact ⟨n, hn, hz⟩
  · have := hfit ht hl; omega

/- FULL C03 statement for asctime_s (FALSE of the model, see `asctime_s_C03_witness`): as below without `hfit`, i.e. for a text
   of any length.  The exit taken when libc's text has `dmax` or more characters (`timeTail`: `strlen(tmp) >= dmax`) reports
   ESNOSPC and returns WITHOUT touching dest.  Unreachable in the C with glibc: the text has 25 characters and `dmax >= 26`. -/
/-- asctime_s, every exit on a usable dest (`tm` null or 12 readable cells of ANY content — every combination of violated
member ranges; libc's text absent (`text = 0`: libc failed) or a readable string of `n < dmax` characters away from dest;
`dmax < 26` included; object size known or not; both slack configurations; arbitrary prior dest content): the call returns
and a NUL exists in dest[0..dmax). -/
theorem asctime_s_C03_partial (cfg : Cfg) (dest dmax tm : Nat) (db : Bos) (text n : Nat) (st : St)
    (hd : dest ≠ 0) (hpos : 0 < dmax) (hb : ∀ b, db = some b → dmax ≤ b) (hnone : db = none → dmax ≤ RSIZE_MAX_STR)
    (hrw : RW st dest dmax) (htm : tm ≠ 0 → ∀ i, i < 12 → st.mapped (tm + i) = true ∧ st.rd (tm + i) = true)
    (htext : TextOk st dest dmax text n) (hfit : text ≠ 0 → n < dmax) :
    ∃ r st', exec (asctime_s cfg dest dmax tm db text) st = .ok (r, st') ∧ ∃ i, i < dmax ∧ st'.data (dest + i) = 0 := by
  obtain ⟨r, st', he, hp⟩ := asctime_s_runs cfg dest dmax tm db text n st hd hpos hb hnone hrw htm htext
  exact ⟨r, st', he, nul_of_TimePost hpos (fun h _ => hfit h) hp⟩

/-- the excluded point: a valid `struct tm`, `dmax = 26`, a "libc text" of 26 characters; every other hypothesis of
`asctime_s_C03_partial` holds; ESNOSPC is reported, dest is exactly what it was: no NUL in dest[0..26) -/
theorem asctime_s_C03_witness :
    RW timeWSt 100 26 ∧ TextOk timeWSt 100 26 200 26 ∧
    ∃ st', exec (asctime_s {} 100 26 300 none 200) timeWSt = .ok (ESNOSPC, st') ∧
      ¬ ∃ i, i < 26 ∧ st'.data (100 + i) = 0 := by
  obtain ⟨st', he, _, hdata⟩ := asctime_s_nospc_point
  exact ⟨timeWSt_rw, timeWSt_text, st', he, by rw [hdata]; exact timeWSt_no_nul⟩

/- FULL C03 statement for ctime_s: FALSE of the model in the same way (`ctime_s_C03_witness`). -/
/-- ctime_s, every exit on a usable dest (`timer` null or a readable cell of ANY value: negative, the year 10000 and later, in
range; libc gave up (`text = 0` or `lf`, with the 25 characters it had formatted left at `text`) or produced a readable
string of `n < dmax` characters away from dest; `dmax < 26` included): the call returns and a NUL exists in dest[0..dmax). -/
theorem ctime_s_C03_partial (cfg : Cfg) (dest dmax timer : Nat) (db : Bos) (text n : Nat) (lf : Bool) (st : St)
    (hd : dest ≠ 0) (hpos : 0 < dmax) (hb : ∀ b, db = some b → dmax ≤ b) (hnone : db = none → dmax ≤ RSIZE_MAX_STR)
    (hrw : RW st dest dmax) (htm : timer ≠ 0 → st.mapped timer = true ∧ st.rd timer = true)
    (htext : TextOk st dest dmax text n) (hfit : text ≠ 0 → lf = false → n < dmax) :
    ∃ r st', exec (ctime_s cfg dest dmax timer db text lf) st = .ok (r, st') ∧ ∃ i, i < dmax ∧ st'.data (dest + i) = 0 := by
  obtain ⟨r, st', he, hp⟩ := ctime_s_runs cfg dest dmax timer db text n lf st hd hpos hb hnone hrw htm htext
  exact ⟨r, st', he, nul_of_TimePost hpos hfit hp⟩

theorem ctime_s_C03_witness :
    RW timeWSt 100 26 ∧ TextOk timeWSt 100 26 200 26 ∧
    ∃ st', exec (ctime_s {} 100 26 400 none 200) timeWSt = .ok (ESNOSPC, st') ∧
      ¬ ∃ i, i < 26 ∧ st'.data (100 + i) = 0 := by
  obtain ⟨st', he, _, hdata⟩ := ctime_s_nospc_point
  exact ⟨timeWSt_rw, timeWSt_text, st', he, by rw [hdata]; exact timeWSt_no_nul⟩

/-- asctime_s / ctime_s, the successful exit: whenever EOK is returned with libc's text a readable string of `n` characters
away from dest, nothing was reported, `n < dmax`, dest holds the text and its terminator; behind the terminator: with
`dmax < 120` (copy out of the C's `tmp[120]` through strcpy_s) zeros up to `dmax` under null-slack, with `dmax ≥ 120` (libc
wrote into dest itself — `copyText` — and the closing `strcpy_s(dest, dmax, dest)` is the same-pointer shortcut) the PRIOR
content of dest, untouched. -/
theorem asctime_s_C03_success (cfg : Cfg) (dest dmax tm : Nat) (db : Bos) (text n : Nat) (st : St)
    (hd : dest ≠ 0) (hpos : 0 < dmax) (hb : ∀ b, db = some b → dmax ≤ b) (hnone : db = none → dmax ≤ RSIZE_MAX_STR)
    (hrw : RW st dest dmax) (htm : tm ≠ 0 → ∀ i, i < 12 → st.mapped (tm + i) = true ∧ st.rd (tm + i) = true)
    (htext : TextOk st dest dmax text n) :
    ∃ r st', exec (asctime_s cfg dest dmax tm db text) st = .ok (r, st') ∧
      (r = EOK → n < dmax ∧ st'.events = st.events ∧
        (∀ i, i < n → st'.data (dest+i) = st.data (text+i)) ∧ st'.data (dest+n) = 0 ∧
        (dmax < 120 → cfg.slack = true → ∀ i, n ≤ i → i < dmax → st'.data (dest+i) = 0) ∧
        (120 ≤ dmax → ∀ i, n < i → i < dmax → st'.data (dest+i) = st.data (dest+i))) := by
  obtain ⟨r, st', he, hp⟩ := asctime_s_runs cfg dest dmax tm db text n st hd hpos hb hnone hrw htm htext
  refine ⟨r, st', he, fun hr => ?_⟩
  subst hr
  rcases hp.2 with ⟨hc, _⟩ | ⟨_, hc, _⟩ | ⟨_, _, h⟩ | ⟨_, _, _, hc, _⟩
  · rcases hc with h | h | h <;> exact absurd h (by decide)
  · exact absurd hc (by decide)
  · exact ⟨h.1, h.2.2⟩
  · exact absurd hc (by decide)

theorem ctime_s_C03_success (cfg : Cfg) (dest dmax timer : Nat) (db : Bos) (text n : Nat) (lf : Bool) (st : St)
    (hd : dest ≠ 0) (hpos : 0 < dmax) (hb : ∀ b, db = some b → dmax ≤ b) (hnone : db = none → dmax ≤ RSIZE_MAX_STR)
    (hrw : RW st dest dmax) (htm : timer ≠ 0 → st.mapped timer = true ∧ st.rd timer = true)
    (htext : TextOk st dest dmax text n) :
    ∃ r st', exec (ctime_s cfg dest dmax timer db text lf) st = .ok (r, st') ∧
      (r = EOK → n < dmax ∧ st'.events = st.events ∧
        (∀ i, i < n → st'.data (dest+i) = st.data (text+i)) ∧ st'.data (dest+n) = 0 ∧
        (dmax < 120 → cfg.slack = true → ∀ i, n ≤ i → i < dmax → st'.data (dest+i) = 0) ∧
        (120 ≤ dmax → ∀ i, n < i → i < dmax → st'.data (dest+i) = st.data (dest+i))) := by
  obtain ⟨r, st', he, hp⟩ := ctime_s_runs cfg dest dmax timer db text n lf st hd hpos hb hnone hrw htm htext
  refine ⟨r, st', he, fun hr => ?_⟩
  subst hr
  rcases hp.2 with ⟨hc, _⟩ | ⟨_, hc, _⟩ | ⟨_, _, h⟩ | ⟨_, _, _, hc, _⟩
  · rcases hc with h | h | h <;> exact absurd h (by decide)
  · exact absurd hc (by decide)
  · exact ⟨h.1, h.2.2⟩
  · exact absurd hc (by decide)

/-- non-vacuity: dest = 100 (26 cells holding 7), text "AAA" at 200, a `struct tm` at 300, `*timer` at 400 -/
example : (100 : Nat) ≠ 0 ∧ 0 < 26 ∧ 26 ≤ RSIZE_MAX_STR ∧ RW osTimeExSt 100 26 ∧
    (∀ i, i < 12 → osTimeExSt.mapped (300 + i) = true ∧ osTimeExSt.rd (300 + i) = true) ∧
    (osTimeExSt.mapped 400 = true ∧ osTimeExSt.rd 400 = true) ∧ TextOk osTimeExSt 100 26 200 3 ∧ 3 < 26 :=
  ⟨by decide, by decide, by decide, osTimeExSt_rw, osTimeExSt_tm, osTimeExSt_timer, osTimeExSt_text, by decide⟩

end SafeC.Props.C03Os
