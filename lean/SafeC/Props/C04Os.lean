import SafeC.Proofs.OsGets
import SafeC.Proofs.OsTime
/-!
# C04 for the os family beyond getenv_s / strerror_s (those: `Props/C04Ext.lean`): `gets_s`, `asctime_s`, `ctime_s`

Setting of `Props/C03Os.lean`.  A failed call on a usable dest leaves it empty (`dest[0] = 0`), with null-slack all `dmax`
cells zero when the failure is met after copying began; nothing outside dest — in particular the stream region, the
`struct tm`, `*timer`, libc's text — is modified.
-/
namespace SafeC.Props.C04Os
open SafeC Gen

/-- gets_s, EVERY stream: whenever the result is not EOK — the ESNOSPC violation (the line does not fit: met after `fgets` has
stored `dmax - 1` bytes), end of file (-1) or the failed read (21), the two non-violations — `dest[0] = 0`; on the ESNOSPC
exit exactly one report carries that code and with null-slack ALL `dmax` cells are zero, and that exit is taken exactly when the
stream is non-empty and its line does not fit (`GetsFits`); nothing outside dest is modified (the stream is not a memory
operand of the C, but the model's region is part of the frame), no stray access. -/
theorem gets_s_C04 (cfg : Cfg) (dest dmax : Nat) (destbos : Bos) (inp len : Nat) (st : St)
    (hd : dest ≠ 0) (hpos : 0 < dmax) (hnone : destbos = none → dmax ≤ RSIZE_MAX_STR)
    (hbos : ∀ b, destbos = some b → dmax ≤ b) (hrw : RW st dest dmax)
    (hrd : ∀ j, j < len → st.mapped (inp+j) = true ∧ st.rd (inp+j) = true)
    (hdisj : dest + dmax ≤ inp ∨ inp + len ≤ dest) :
    ∃ r st', exec (gets_s cfg dest dmax destbos inp len) st = .ok (r, st') ∧
      (∀ a, ¬ (dest ≤ a ∧ a < dest + dmax) → st'.data a = st.data a) ∧ st'.strays = st.strays ∧
      (r ≠ EOK → st'.data dest = 0) ∧
      (r = ESNOSPC → st'.events = st.events ++ [.handler .str ESNOSPC] ∧
        (cfg.slack = true → ∀ i, i < dmax → st'.data (dest+i) = 0)) ∧
      (r = ESNOSPC ↔ (len ≠ 0 ∧ ¬ (inp = 0 ∧ dmax ≠ 1) ∧
        ¬ GetsFits dmax len (lineStr (streamOf st inp len)).length (st.data (inp + (lineStr (streamOf st inp len)).length)))) := by
  obtain ⟨h1, h2, h3, _⟩ := lineStr_spec st inp len
  obtain ⟨r, st', he, hfr, hp⟩ := gets_s_runs cfg dest dmax destbos inp len _ st hd hpos hnone hbos hrw hrd hdisj h1 h2 h3
  refine ⟨r, st', he, hfr.frame, hfr.strays, ?_⟩
  rcases hp with ⟨hc, hr, _, hz, _⟩ | ⟨hl, hi, hf, hr, _⟩ | ⟨hl, hi, hnf, hr, hev, hz, hsl⟩
  · have hne : r ≠ ESNOSPC := by rw [hr]; split <;> decide
    refine ⟨fun _ => hz, fun h => absurd h hne, fun h => absurd h hne, fun ⟨a, b, _⟩ => ?_⟩
    rcases hc with hc | hc
    · exact absurd hc a
    · exact absurd hc b
  · have hne : r ≠ ESNOSPC := by rw [hr]; decide
    exact ⟨fun h => absurd hr h, fun h => absurd h hne, fun h => absurd h hne, fun ⟨_, _, c⟩ => absurd hf c⟩
  · exact ⟨fun _ => hz, fun _ => ⟨hev, hsl⟩, fun _ => ⟨hl, hi, hnf⟩, fun _ => hr⟩

/-- non-vacuity: dest = 100 (8 cells holding 7), the stream "ab\ncd" at 200 -/
example : (100 : Nat) ≠ 0 ∧ 0 < 8 ∧ 8 ≤ RSIZE_MAX_STR ∧ RW getsExSt 100 8 ∧
    (∀ j, j < 5 → getsExSt.mapped (200+j) = true ∧ getsExSt.rd (200+j) = true) ∧ (100 + 8 ≤ 200 ∨ 200 + 5 ≤ 100) :=
  ⟨by decide, by decide, by decide, getsExSt_rw, getsExSt_rd, Or.inl (by decide)⟩

/-- … and the ESNOSPC exit is reachable: the same stream with `dmax = 2` (line "ab" of 2 bytes, `GetsFits` fails) -/
example : ¬ GetsFits 2 5 (lineStr (streamOf getsExSt 200 5)).length
    (getsExSt.data (200 + (lineStr (streamOf getsExSt 200 5)).length)) := by
  have : lineStr (streamOf getsExSt 200 5) = [97, 98] := by decide
  rw [this]
  unfold GetsFits
  decide

/-- the C04 conclusion for asctime_s / ctime_s: after any result other than EOK `dest[0] = 0`; a reported violation carries
exactly one report with the returned code, the libc failure (-1) none; with an acceptable `dmax` (`26 ≤ dmax`) and null-slack
all `dmax` cells are zero; nothing outside dest — the `struct tm`, `*timer`, libc's text — is modified -/
def TimeCleared (cfg : Cfg) (dest dmax : Nat) (st st' : St) (r : Nat) : Prop :=
  (∀ a, ¬ (dest ≤ a ∧ a < dest + dmax) → st'.data a = st.data a) ∧ st'.strays = st.strays ∧
  (r ≠ EOK → st'.data dest = 0 ∧
    (26 ≤ dmax → cfg.slack = true → ∀ i, i < dmax → st'.data (dest + i) = 0) ∧
    (r = NEG1 ∧ st'.events = st.events ∨
     (r = ESNULLP ∨ r = ESLEMIN ∨ r = ESLEMAX) ∧ st'.events = st.events ++ [.handler .str r]))

private theorem cleared_of_TimePost {cfg : Cfg} {dest dmax text n : Nat} {lf : Bool} {st : St} {r : Nat} {s : St}
    (hfit : text ≠ 0 → lf = false → n < dmax) (h : TimePost cfg dest dmax text n lf st r s) :
    TimeCleared cfg dest dmax st s r := by
  refine ⟨h.1.frame, h.1.strays, fun hr => ?_⟩
  rcases h.2 with ⟨hc, he, hz, hs⟩ | ⟨_, hc, he, hz, hs⟩ | ⟨_, _, _, hc, _⟩ | ⟨ht, hl, hn, _⟩
  · exact ⟨hz, hs, Or.inr ⟨hc, he⟩⟩
  · exact ⟨hz, fun _ => hs, Or.inl ⟨hc, he⟩⟩
  · exact absurd hc hr
  · have := hfit ht hl; omega

/- FULL C04 statement for asctime_s (FALSE of the model, see `asctime_s_C04_witness`): as below without `hfit`.  The ESNOSPC
   exit of the common tail (libc's text has `dmax` or more characters) reports and returns without clearing dest; unreachable
   in the C with glibc's 25 characters and `dmax >= 26`. -/
/-- asctime_s, every failing exit on a usable dest: `tm` null, a member / `tm_gmtoff` out of range (any content of the 12
cells), `dmax < 26`, libc failed (`text = 0`) — hypotheses of `C03Os.asctime_s_C03_partial`. -/
theorem asctime_s_C04_partial (cfg : Cfg) (dest dmax tm : Nat) (db : Bos) (text n : Nat) (st : St)
    (hd : dest ≠ 0) (hpos : 0 < dmax) (hb : ∀ b, db = some b → dmax ≤ b) (hnone : db = none → dmax ≤ RSIZE_MAX_STR)
    (hrw : RW st dest dmax) (htm : tm ≠ 0 → ∀ i, i < 12 → st.mapped (tm + i) = true ∧ st.rd (tm + i) = true)
    (htext : TextOk st dest dmax text n) (hfit : text ≠ 0 → n < dmax) :
    ∃ r st', exec (asctime_s cfg dest dmax tm db text) st = .ok (r, st') ∧ TimeCleared cfg dest dmax st st' r := by
  obtain ⟨r, st', he, hp⟩ := asctime_s_runs cfg dest dmax tm db text n st hd hpos hb hnone hrw htm htext
  exact ⟨r, st', he, cleared_of_TimePost (fun h _ => hfit h) hp⟩

/-- the excluded point (state of `C03Os.asctime_s_C03_witness`): ESNOSPC is reported once and returned, dest[0] is still 7 -/
theorem asctime_s_C04_witness :
    RW timeWSt 100 26 ∧ TextOk timeWSt 100 26 200 26 ∧
    ∃ st', exec (asctime_s {} 100 26 300 none 200) timeWSt = .ok (ESNOSPC, st') ∧
      st'.events = [.handler .str ESNOSPC] ∧ st'.data 100 = 7 := by
  obtain ⟨st', he, hev, hdata⟩ := asctime_s_nospc_point
  exact ⟨timeWSt_rw, timeWSt_text, st', he, hev, by rw [hdata]; rfl⟩

/- FULL C04 statement for ctime_s: FALSE of the model in the same way (`ctime_s_C04_witness`). -/
/-- ctime_s, every failing exit on a usable dest: `timer` null, `*timer` negative or in the year 10000 and later, `dmax < 26`,
libc failed (`text = 0`, or `lf` with its 25 characters at `text` — with `dmax ≥ 120` they were written into dest, and a
build WITHOUT null-slack leaves them behind `dest[0] = 0`: recorded class `noslack-partial`). -/
theorem ctime_s_C04_partial (cfg : Cfg) (dest dmax timer : Nat) (db : Bos) (text n : Nat) (lf : Bool) (st : St)
    (hd : dest ≠ 0) (hpos : 0 < dmax) (hb : ∀ b, db = some b → dmax ≤ b) (hnone : db = none → dmax ≤ RSIZE_MAX_STR)
    (hrw : RW st dest dmax) (htm : timer ≠ 0 → st.mapped timer = true ∧ st.rd timer = true)
    (htext : TextOk st dest dmax text n) (hfit : text ≠ 0 → lf = false → n < dmax) :
    ∃ r st', exec (ctime_s cfg dest dmax timer db text lf) st = .ok (r, st') ∧ TimeCleared cfg dest dmax st st' r := by
  obtain ⟨r, st', he, hp⟩ := ctime_s_runs cfg dest dmax timer db text n lf st hd hpos hb hnone hrw htm htext
  exact ⟨r, st', he, cleared_of_TimePost hfit hp⟩

theorem ctime_s_C04_witness :
    RW timeWSt 100 26 ∧ TextOk timeWSt 100 26 200 26 ∧
    ∃ st', exec (ctime_s {} 100 26 400 none 200) timeWSt = .ok (ESNOSPC, st') ∧
      st'.events = [.handler .str ESNOSPC] ∧ st'.data 100 = 7 := by
  obtain ⟨st', he, hev, hdata⟩ := ctime_s_nospc_point
  exact ⟨timeWSt_rw, timeWSt_text, st', he, hev, by rw [hdata]; rfl⟩

/-- non-vacuity: dest = 100 (26 cells holding 7), text "AAA" at 200, a `struct tm` at 300, `*timer` at 400 -/
example : (100 : Nat) ≠ 0 ∧ 0 < 26 ∧ 26 ≤ RSIZE_MAX_STR ∧ RW osTimeExSt 100 26 ∧
    (∀ i, i < 12 → osTimeExSt.mapped (300 + i) = true ∧ osTimeExSt.rd (300 + i) = true) ∧
    (osTimeExSt.mapped 400 = true ∧ osTimeExSt.rd 400 = true) ∧ TextOk osTimeExSt 100 26 200 3 ∧ 3 < 26 :=
  ⟨by decide, by decide, by decide, osTimeExSt_rw, osTimeExSt_tm, osTimeExSt_timer, osTimeExSt_text, by decide⟩

end SafeC.Props.C04Os
