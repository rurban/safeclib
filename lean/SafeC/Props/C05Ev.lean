import SafeC.Proofs.EVInplace
/-!
# C05 for the in-place family, through the `EV` event judgement

"Every constraint violation is reported exactly once, with the code returned", the *consistency*
half: for ALL arguments (null, zero, huge, object size known or not), ALL memory contents and
placements, every call that returns has appended either no event and returned EOK, or exactly one
str-handler event carrying precisely the code it returned — never two events, never a different
code, never a silent failure, never a report followed by EOK.  The statements need no hypothesis
on the state: the judgement quantifies over every value a load can return.

(The other half — *which* arguments count as violations — is decided per function by the oracle of
the correspondence run from the doc comments; in Lean it is stated, for the functions whose code depends on the
arguments alone, in `Props/C05Meaning*.lean`.)
-/
namespace SafeC.Props.C05Ev
open SafeC Gen

/-- what a proved `EV … (Once k)` means for runs: the full statement used by every theorem below -/
def Discipline (k : Kind) (p : Prog Nat) : Prop :=
  ∀ (st : St) (r : Nat) (st' : St), exec p st = .ok (r, st') →
    (r = EOK ∧ st'.events = st.events) ∨ (r ≠ EOK ∧ st'.events = st.events ++ [.handler k r])

theorem Discipline.of_EV {k : Kind} {p : Prog Nat} (h : EV p (Once k)) : Discipline k p := by
  intro st r st' he
  obtain ⟨es, h1, h2⟩ := h.sound st he
  rcases h2 with ⟨hr, hes⟩ | ⟨hr, hes⟩
  · left; subst hes; exact ⟨hr, by simpa using h1⟩
  · right; subst hes; exact ⟨hr, h1⟩

theorem Discipline.of_In {S : List Nat} {k : Kind} {p : Prog Nat} (h : EV p (OnceIn S k)) : Discipline k p :=
  .of_EV (h.conseq fun _ _ => OnceIn.once)



/-- strset_s: all arguments, all memory — EOK and no event, or code ≠ EOK and exactly that one str-handler event -/
theorem strset_s_C05 (cfg : Cfg) (dest dmax value : Nat) (destbos : Bos) :
    Discipline .str (strset_s cfg dest dmax value destbos) := .of_In (strset_s_ev ..)
theorem strnset_s_C05 (cfg : Cfg) (dest dmax value n : Nat) (destbos : Bos) :
    Discipline .str (strnset_s cfg dest dmax value n destbos) := .of_In (strnset_s_ev ..)
theorem strzero_s_C05 (cfg : Cfg) (dest dmax : Nat) (destbos : Bos) :
    Discipline .str (strzero_s cfg dest dmax destbos) := .of_In (strzero_s_ev ..)
theorem strtolowercase_s_C05 (cfg : Cfg) (dest dmax : Nat) (destbos : Bos) :
    Discipline .str (strtolowercase_s cfg dest dmax destbos) := .of_In (strtolowercase_s_ev ..)
theorem strtouppercase_s_C05 (cfg : Cfg) (dest dmax : Nat) (destbos : Bos) :
    Discipline .str (strtouppercase_s cfg dest dmax destbos) := .of_In (strtouppercase_s_ev ..)
/-- strljustify_s: same, including the ESUNTERM exit found only after scanning dest -/
theorem strljustify_s_C05 (cfg : Cfg) (dest dmax : Nat) (destbos : Bos) :
    Discipline .str (strljustify_s cfg dest dmax destbos) := .of_In (strljustify_s_ev ..)
theorem strremovews_s_C05 (cfg : Cfg) (dest dmax : Nat) (destbos : Bos) :
    Discipline .str (strremovews_s cfg dest dmax destbos) := .of_In (strremovews_s_ev ..)
/-- wcsset_s: same (known object size: the clearing EOVERFLOW/ESLEMAX exits report once too) -/
theorem wcsset_s_C05 (cfg : Cfg) (dest dmax value : Nat) (destbos : Bos) :
    Discipline .str (wcsset_s cfg dest dmax value destbos) := .of_In (wcsset_s_ev ..)
theorem wcsnset_s_C05 (cfg : Cfg) (dest dmax value n : Nat) (destbos : Bos) :
    Discipline .str (wcsnset_s cfg dest dmax value n destbos) := .of_In (wcsnset_s_ev ..)

/-- non-vacuity: a run that reports (dmax = 0) and a run that succeeds -/
example : (exec (strzero_s {} 100 0 none) { data := fun _ => 7, mapped := fun _ => true, rd := fun _ => true, wr := fun _ => true }
    |>.toOption.map (fun x => (x.1, x.2.events))) = some (ESZEROL, [.handler .str ESZEROL]) := by decide
example : (exec (strzero_s {} 100 2 none) { data := fun a => if a = 101 then 0 else 7, mapped := fun _ => true, rd := fun _ => true, wr := fun _ => true }
    |>.toOption.map (fun x => (x.1, x.2.events))) = some (EOK, []) := by decide

end SafeC.Props.C05Ev
