import SafeC.Spec.Query
/-!
# C10: the spec functions ARE the standard list functions

The specs of C10 (`scanLen`, `firstIdx`, `inSet`, `spanLen` of `Proofs/Query.lean`; `allCells`,
`countCells`, `subAt`, `firstIn` of `Spec/Query.lean`) are recursive functions over the memory
contents.  Here each is shown equal to the textbook function on the LIST of cells of the declared
extent (`cells d p n`) or on the C string in it (`cstr d p n` = the cells before the first NUL):
`strnlen` = length of `takeWhile (≠ 0)`, `memchr` = `findIdx?`, the class predicates = `List.all`,
`strpbrk` = `findIdx?` of membership in the set string, `strspn`/`strcspn` = length of a `takeWhile`, …
For all contents and all extents.
-/
namespace SafeC.Props.C10

theorem cstr_eq_cells (d : Nat → Nat) (p n : Nat) : cstr d p n = cells d p (scanLen d p n) := by
  induction n generalizing p with
  | zero => rfl
  | succ n ih =>
    simp only [scanLen, cstr, cells, List.takeWhile_cons]
    by_cases h0 : d p = 0
    · simp [h0, cells]
    · have : (d p != 0) = true := by simpa using h0
      simp only [h0, if_false, this, if_true]
      rw [Nat.add_comm 1, cells]
      congr 1
      exact ih (p+1)

theorem scanLen_eq_list (d : Nat → Nat) (p n : Nat) : scanLen d p n = (cstr d p n).length := by
  rw [cstr_eq_cells, cells_length]

theorem allCells_eq_list (ok : Nat → Bool) (d : Nat → Nat) (p n : Nat) :
    allCells ok d p n = (cells d p n).all ok := by
  induction n generalizing p with
  | zero => rfl
  | succ n ih => simp [allCells, cells, ih]

theorem countCells_eq_list (ok : Nat → Bool) (d : Nat → Nat) (p n : Nat) :
    countCells ok d p n = (cells d p n).countP ok := by
  induction n generalizing p with
  | zero => rfl
  | succ n ih =>
    simp only [countCells, cells, List.countP_cons, ih]
    omega

theorem subAt_eq_list (f : Nat → Nat) (d : Nat → Nat) (p q m : Nat) :
    subAt f d p q m = ((cells d p m).map f == (cells d q m).map f) := by
  induction m generalizing p q with
  | zero => rfl
  | succ m ih =>
    simp only [subAt, cells, List.map_cons, ih]
    simp

theorem firstIdx_eq_list (d : Nat → Nat) (c p n : Nat) :
    firstIdx d c p n = (cells d p n).findIdx? (· == c) := by
  induction n generalizing p with
  | zero => rfl
  | succ n ih =>
    simp only [firstIdx, cells, List.findIdx?_cons, ih]
    simp

theorem inSet_eq_list (d : Nat → Nat) (c p n : Nat) : inSet d c p n = (cstr d p n).contains c := by
  induction n generalizing p with
  | zero => rfl
  | succ n ih =>
    simp only [inSet, cstr, cells, List.takeWhile_cons]
    by_cases h0 : d p = 0
    · simp [h0]
    · have : (d p != 0) = true := by simpa using h0
      simp only [h0, if_false, this, if_true, List.contains_cons]
      by_cases hc : c = d p
      · simp [hc]
      · have hb : (c == d p) = false := by simpa using hc
        simp only [hc, if_false, hb, Bool.false_or]
        exact ih (p+1)

theorem firstIn_eq_list_aux (d : Nat → Nat) (src slen : Nat) (g : Nat → Bool)
    (hg : ∀ c, inSet d c src slen = g c) (p n : Nat) :
    firstIn d src slen p n = (cstr d p n).findIdx? g := by
  induction n generalizing p with
  | zero => rfl
  | succ n ih =>
    simp only [firstIn, cstr, cells, List.takeWhile_cons, hg]
    by_cases h0 : d p = 0
    · simp [h0]
    · have : (d p != 0) = true := by simpa using h0
      simp only [h0, if_false, this, if_true, List.findIdx?_cons]
      cases hin : g (d p)
      · simp only [Bool.false_eq_true, if_false]
        rw [ih (p+1)]; rfl
      · simp

/-- `strpbrk` on lists: index of the first character of the string that is a member of the set string -/
theorem firstIn_eq_list (d : Nat → Nat) (src slen p n : Nat) :
    firstIn d src slen p n = (cstr d p n).findIdx? (fun x => (cstr d src slen).contains x) :=
  firstIn_eq_list_aux d src slen _ (fun c => inSet_eq_list d c src slen) p n

theorem spanLen_eq_list_aux (d : Nat → Nat) (want : Bool) (src slen : Nat) (g : Nat → Bool)
    (hg : ∀ c, inSet d c src slen = g c) (p n : Nat) :
    spanLen d want src slen p n = ((cstr d p n).takeWhile (fun x => g x == want)).length := by
  induction n generalizing p with
  | zero => rfl
  | succ n ih =>
    simp only [spanLen, cstr, cells, List.takeWhile_cons, hg]
    by_cases h0 : d p = 0
    · simp [h0]
    · have : (d p != 0) = true := by simpa using h0
      simp only [h0, if_false, this, if_true, List.takeWhile_cons]
      by_cases hw : g (d p) = want
      · simp only [hw, if_true]
        rw [ih (p+1)]; simp [cstr, Nat.add_comm]
      · simp [hw]

/-- `strspn` (`want = true`) / `strcspn` (`want = false`) on lists -/
theorem spanLen_eq_list (d : Nat → Nat) (want : Bool) (src slen p n : Nat) :
    spanLen d want src slen p n =
      ((cstr d p n).takeWhile (fun x => (cstr d src slen).contains x == want)).length :=
  spanLen_eq_list_aux d want src slen _ (fun c => inSet_eq_list d c src slen) p n


example : cstr (fun a => if a = 100 then 97 else if a = 101 then 98 else 0) 100 5 = [97, 98] := by decide

end SafeC.Props.C10
