import SafeC.Proofs.AccStp
import SafeC.Proofs.AccFld
import SafeC.Proofs.CopyDisjoint
import SafeC.Props.C02
/-!
# C02 for the whole bumper-loop copy family, every argument combination

`strcpy_s strncpy_s strcat_s strncat_s wcscpy_s wcsncpy_s wcscat_s wcsncat_s stpcpy_s stpncpy_s`: ONLY dest's `dmax`
cells (readable and writable) and the string at `src` — up to and including its terminator, cut at `dmax` cells
(unbounded functions) / at `min dmax slen` cells (bounded ones) — are mapped.  Then every call returns without a
stray access: NULL pointers, zero and oversized `dmax` / `slen`, object sizes known or unknown (`destbos`, `srcbos`
arbitrary), both slack configurations, ANY placement of the two operands (disjoint, overlapping either way, equal),
dest terminated or not.  These loops test `dmax`, the overlap bumper and `slen` before they dereference `src`, and
`while (*dest != '\0')` of the concatenations counts `dmax` down before it advances: no read-before-bound here, the
statements are full ones.

ONE exit leaves the declared extent: `strncpy_s strncat_s stpncpy_s` with `slen > srcbos` and a known `destbos` call
`handle_str_bos_overflow(dest, destbos)`, which measures (`strnlen_s(dest, destbos)`) and clears dest up to the
OBJECT size instead of `dmax` — `bos_probe_reads_to_destbos_witness`; the three theorems are `_partial` with
`hov : destbos ≤ dmax on that exit` (the write side is the known finding `slen-exceeds-srcbos-clears-destbos`).
-/
namespace SafeC.Props.C02
open SafeC Gen

/-- **strcpy_s**, all arguments -/
theorem strcpy_s_C02_all (cfg : Cfg) (dest dmax src : Nat) (db : Bos) (st : St)
    (hd : dest ≠ 0 → RW st dest dmax) (hs : src ≠ 0 → StrRd st src dmax) :
    Runs (strcpy_s cfg dest dmax src db) st :=
  runs_of_AccS (strcpyG_accs _ cfg dest dmax src db hs (Rd_of_RW.guard hd) (Wr_of_RW.guard hd))

/-- **strcat_s**, all arguments (known object sizes, NULL pointers, any placement, dest unterminated) -/
theorem strcat_s_C02_all (cfg : Cfg) (dest dmax src : Nat) (db : Bos) (st : St)
    (hd : dest ≠ 0 → RW st dest dmax) (hs : src ≠ 0 → StrRd st src dmax) :
    Runs (strcat_s cfg dest dmax src db) st :=
  runs_of_AccS (strcatG_accs _ cfg dest dmax src db hs (Rd_of_RW.guard hd) (Wr_of_RW.guard hd))

/-- **wcscpy_s**, all arguments -/
theorem wcscpy_s_C02_all (cfg : Cfg) (dest dmax src : Nat) (db : Bos) (st : St)
    (hd : dest ≠ 0 → RW st dest dmax) (hs : src ≠ 0 → StrRd st src dmax) :
    Runs (wcscpy_s cfg dest dmax src db) st :=
  runs_of_AccS (wcscpy_s_accs cfg dest dmax src db hs (Wr_of_RW.guard hd))

/-- **wcscat_s** (FULL) -/
theorem wcscat_s_C02 (cfg : Cfg) (dest dmax src : Nat) (db : Bos) (st : St)
    (hd : dest ≠ 0 → RW st dest dmax) (hs : src ≠ 0 → StrRd st src dmax) :
    Runs (wcscat_s cfg dest dmax src db) st :=
  runs_of_AccS (wcscat_s_accs cfg dest dmax src db hs (Rd_of_RW.guard hd) (Wr_of_RW.guard hd))

/-- **wcsncpy_s** (FULL): at most `min dmax slen` cells of `src`, and not behind its terminator -/
theorem wcsncpy_s_C02 (cfg : Cfg) (dest dmax src slen : Nat) (db sb : Bos) (st : St)
    (hd : dest ≠ 0 → RW st dest dmax) (hs : src ≠ 0 → StrRd st src (min dmax slen)) :
    Runs (wcsncpy_s cfg dest dmax src slen db sb) st :=
  runs_of_AccS (wcsncpy_s_accs cfg dest dmax src slen db sb hs (Rd_of_RW.guard hd) (Wr_of_RW.guard hd))

/-- **wcsncat_s** (FULL) -/
theorem wcsncat_s_C02 (cfg : Cfg) (dest dmax src slen : Nat) (db sb : Bos) (st : St)
    (hd : dest ≠ 0 → RW st dest dmax) (hs : src ≠ 0 → StrRd st src (min dmax slen)) :
    Runs (wcsncat_s cfg dest dmax src slen db sb) st :=
  runs_of_AccS (wcsncat_s_accs cfg dest dmax src slen db sb hs (Rd_of_RW.guard hd) (Wr_of_RW.guard hd))

/-- **stpcpy_s** (FULL; `srcbos` arbitrary: the countdown `slen >= srcbos` only ends the loop earlier) -/
theorem stpcpy_s_C02 (cfg : Cfg) (dest dmax src : Nat) (db sb : Bos) (st : St)
    (hd : dest ≠ 0 → RW st dest dmax) (hs : src ≠ 0 → StrRd st src dmax) :
    Runs (stpcpy_s cfg dest dmax src db sb) st :=
  runs_of_AccS (stpcpy_s_accs cfg dest dmax src db sb hs (Rd_of_RW.guard hd) (Wr_of_RW.guard hd))

/- The full statements of the three bounded narrow functions are FALSE of the model (and of the C):
   `strncpy_s_C02_all : (dest ≠ 0 → RW st dest dmax) → (src ≠ 0 → StrRd st src (min dmax slen)) → Runs (strncpy_s …) st`
   fails for `destbos = some 4 > dmax = 2`, `srcbos = some 1 < slen = 2` — see `bos_probe_reads_to_destbos_witness`. -/

/-- **strncpy_s**, all arguments except: on the `slen > srcbos` exit a known `destbos` does not exceed `dmax` -/
theorem strncpy_s_C02_all_partial (cfg : Cfg) (dest dmax src slen : Nat) (db sb : Bos) (st : St)
    (hov : ∀ b s, db = some b → sb = some s → s < slen → b ≤ dmax)
    (hd : dest ≠ 0 → RW st dest dmax) (hs : src ≠ 0 → StrRd st src (min dmax slen)) :
    Runs (strncpy_s cfg dest dmax src slen db sb) st :=
  runs_of_AccS (strncpyG_accs _ cfg dest dmax src slen db sb (fun h => hob_of_hov hov (Rd_of_RW (hd h)) (Wr_of_RW (hd h))) hs
    (Rd_of_RW.guard hd) (Wr_of_RW.guard hd))

/-- **strncat_s**, same exception -/
theorem strncat_s_C02_partial (cfg : Cfg) (dest dmax src slen : Nat) (db sb : Bos) (st : St)
    (hov : ∀ b s, db = some b → sb = some s → s < slen → b ≤ dmax)
    (hd : dest ≠ 0 → RW st dest dmax) (hs : src ≠ 0 → StrRd st src (min dmax slen)) :
    Runs (strncat_s cfg dest dmax src slen db sb) st :=
  runs_of_AccS (strncatG_accs _ cfg dest dmax src slen db sb (fun h => hob_of_hov hov (Rd_of_RW (hd h)) (Wr_of_RW (hd h))) hs
    (Rd_of_RW.guard hd) (Wr_of_RW.guard hd))

/-- **stpncpy_s**, same exception -/
theorem stpncpy_s_C02_partial (cfg : Cfg) (dest dmax src slen : Nat) (db sb : Bos) (st : St)
    (hov : ∀ b s, db = some b → sb = some s → s < slen → b ≤ dmax)
    (hd : dest ≠ 0 → RW st dest dmax) (hs : src ≠ 0 → StrRd st src (min dmax slen)) :
    Runs (stpncpy_s cfg dest dmax src slen db sb) st :=
  runs_of_AccS (stpncpy_s_accs cfg dest dmax src slen db sb (fun h => hob_of_hov hov (Rd_of_RW (hd h)) (Wr_of_RW (hd h))) hs
    (Rd_of_RW.guard hd) (Wr_of_RW.guard hd))

/-- strncat_s and stpncpy_s with the object sizes as the property's "unknown to the library" case: FULL -/
theorem strncat_s_C02_nobos (cfg : Cfg) (dest dmax src slen : Nat) (st : St)
    (hd : dest ≠ 0 → RW st dest dmax) (hs : src ≠ 0 → StrRd st src (min dmax slen)) :
    Runs (strncat_s cfg dest dmax src slen none none) st :=
  strncat_s_C02_partial cfg dest dmax src slen none none st (fun _ _ h => by cases h) hd hs

theorem stpncpy_s_C02_nobos (cfg : Cfg) (dest dmax src slen : Nat) (st : St)
    (hd : dest ≠ 0 → RW st dest dmax) (hs : src ≠ 0 → StrRd st src (min dmax slen)) :
    Runs (stpncpy_s cfg dest dmax src slen none none) st :=
  stpncpy_s_C02_partial cfg dest dmax src slen none none st (fun _ _ h => by cases h) hd hs

/-! ## the same three, FULL, with the whole OBJECT declared on the `slen > srcbos` exit

`hobj`: when `slen` exceeds a known `srcbos` and `destbos` is known, the `destbos` cells of the object dest points into are
readable and writable (they exist — that is what `__builtin_object_size` says — but lie outside what the CALL declared). -/

/-- **strncpy_s** (FULL w.r.t. the object): never leaves `max dmax destbos` cells of dest -/
theorem strncpy_s_C02_object (cfg : Cfg) (dest dmax src slen : Nat) (db sb : Bos) (st : St)
    (hobj : dest ≠ 0 → ∀ b s, db = some b → sb = some s → s < slen → RW st dest b)
    (hd : dest ≠ 0 → RW st dest dmax) (hs : src ≠ 0 → StrRd st src (min dmax slen)) :
    Runs (strncpy_s cfg dest dmax src slen db sb) st :=
  runs_of_AccS (strncpyG_accs _ cfg dest dmax src slen db sb
    (fun h b s h1 h2 h3 => ⟨Rd_of_RW (hobj h b s h1 h2 h3), Wr_of_RW (hobj h b s h1 h2 h3)⟩) hs
    (Rd_of_RW.guard hd) (Wr_of_RW.guard hd))

/-- **strncat_s** (FULL w.r.t. the object) -/
theorem strncat_s_C02_object (cfg : Cfg) (dest dmax src slen : Nat) (db sb : Bos) (st : St)
    (hobj : dest ≠ 0 → ∀ b s, db = some b → sb = some s → s < slen → RW st dest b)
    (hd : dest ≠ 0 → RW st dest dmax) (hs : src ≠ 0 → StrRd st src (min dmax slen)) :
    Runs (strncat_s cfg dest dmax src slen db sb) st :=
  runs_of_AccS (strncatG_accs _ cfg dest dmax src slen db sb
    (fun h b s h1 h2 h3 => ⟨Rd_of_RW (hobj h b s h1 h2 h3), Wr_of_RW (hobj h b s h1 h2 h3)⟩) hs
    (Rd_of_RW.guard hd) (Wr_of_RW.guard hd))

/-- **stpncpy_s** (FULL w.r.t. the object) -/
theorem stpncpy_s_C02_object (cfg : Cfg) (dest dmax src slen : Nat) (db sb : Bos) (st : St)
    (hobj : dest ≠ 0 → ∀ b s, db = some b → sb = some s → s < slen → RW st dest b)
    (hd : dest ≠ 0 → RW st dest dmax) (hs : src ≠ 0 → StrRd st src (min dmax slen)) :
    Runs (stpncpy_s cfg dest dmax src slen db sb) st :=
  runs_of_AccS (stpncpy_s_accs cfg dest dmax src slen db sb
    (fun h b s h1 h2 h3 => ⟨Rd_of_RW (hobj h b s h1 h2 h3), Wr_of_RW (hobj h b s h1 h2 h3)⟩) hs
    (Rd_of_RW.guard hd) (Wr_of_RW.guard hd))

/-- class `bos-probe-reads-to-destbos`: `strncpy_s(dest, 2, src, 2)` with `destbos = 4`, `srcbos = 1`: the
`slen > srcbos` exit runs `strnlen_s(dest, destbos)` over the unterminated `{'a','b'}` and reads `dest[2]`, outside the
two declared cells -/
theorem bos_probe_reads_to_destbos_witness :
    exec (strncpy_s {} 100 2 200 2 (some 4) (some 1))
      (winW (fun a => if a = 100 then 97 else if a = 101 then 98 else if a = 200 then 120 else if a = 201 then 121 else 0)
        100 102 200 202) = .error (.read 102) := faultOf_ok (by decide)

/-- non-vacuity: unterminated 5-cell dest and unterminated 3-cell source, each flush against unmapped memory
(`StrRd … 3`: exactly the three cells) -/
example : ∃ st : St, RW st 100 5 ∧ StrRd st 200 (min 5 3) ∧ ¬ Term st 100 5 ∧ ¬ Term st 200 3 ∧
    st.mapped 105 = false ∧ st.mapped 203 = false :=
  ⟨winW (fun _ => 7) 100 105 200 203, winW_RW (by omega),
   StrRd.of_RD (n := 3) (winW_RD (by omega)) (by omega),
   fun ⟨i, _, h⟩ => by simp [winW, win] at h, fun ⟨i, _, h⟩ => by simp [winW, win] at h, by decide, by decide⟩

/-- non-vacuity, overlapping placement: `src = dest + 2` inside the same 6 mapped cells -/
example : ∃ st : St, RW st 100 6 ∧ StrRd st 102 6 ∧ st.mapped 106 = false :=
  ⟨winW (fun a => if a = 105 then 0 else 7) 100 106 0 0, winW_RW (by omega),
   StrRd.of_RD_term (n := 4) (winW_RD (by omega)) ⟨3, by omega, by simp [winW, win]⟩ 6, by decide⟩

/-!
# C02, full statements: the field copies `strcpyfld_s strcpyfldin_s strcpyfldout_s`

ONLY dest's `dmax` cells (read by the `strnlen_s` of the error exits, written otherwise) and the first `slen` cells
of `src` are mapped: every argument combination returns without a stray access — the loops test `slen` / `dmax`
before they dereference (for `strcpyfldin_s` since the repair `while (dmax > 0 && slen > 0 && *src)`).
-/

/-- **strcpyfld_s** (FULL) -/
theorem strcpyfld_s_C02 (cfg : Cfg) (dest dmax src slen : Nat) (db : Bos) (st : St)
    (hd : dest ≠ 0 → RW st dest dmax) (hs : src ≠ 0 → RD st src slen) :
    Runs (strcpyfld_s cfg dest dmax src slen db) st :=
  runs_of_AccS (fldG_accs .fld cfg dest dmax src slen db (Rd_of_RD.guard hs) (Rd_of_RW.guard hd)
    (Wr_of_RW.guard hd))

/-- **strcpyfldin_s** (FULL) -/
theorem strcpyfldin_s_C02 (cfg : Cfg) (dest dmax src slen : Nat) (db : Bos) (st : St)
    (hd : dest ≠ 0 → RW st dest dmax) (hs : src ≠ 0 → RD st src slen) :
    Runs (strcpyfldin_s cfg dest dmax src slen db) st :=
  runs_of_AccS (fldG_accs .fldin cfg dest dmax src slen db (Rd_of_RD.guard hs) (Rd_of_RW.guard hd)
    (Wr_of_RW.guard hd))

/-- **strcpyfldout_s** (FULL) -/
theorem strcpyfldout_s_C02 (cfg : Cfg) (dest dmax src slen : Nat) (db : Bos) (st : St)
    (hd : dest ≠ 0 → RW st dest dmax) (hs : src ≠ 0 → RD st src slen) :
    Runs (strcpyfldout_s cfg dest dmax src slen db) st :=
  runs_of_AccS (fldG_accs .fldout cfg dest dmax src slen db (Rd_of_RD.guard hs) (Rd_of_RW.guard hd)
    (Wr_of_RW.guard hd))

/-- non-vacuity: a 5-cell writable dest and an unterminated 3-cell field, both flush against unmapped memory -/
example : ∃ st : St, RW st 100 5 ∧ RD st 200 3 ∧ st.mapped 105 = false ∧ st.mapped 203 = false :=
  ⟨{ data := fun _ => 7, mapped := fun a => decide ((100 ≤ a ∧ a < 105) ∨ (200 ≤ a ∧ a < 203)),
     rd := fun a => decide ((100 ≤ a ∧ a < 105) ∨ (200 ≤ a ∧ a < 203)), wr := fun a => decide (100 ≤ a ∧ a < 105) },
   fun i hi => by simp; omega, fun i hi => by simp; omega, by decide, by decide⟩

/-!
# C02 for valid arguments, unknown object size and disjoint operands, read off the exact runs of `Proofs/CopyDisjoint.lean`

Setting: ONLY the declared extents are mapped and readable — dest's `dmax` cells and, for a source,
its string up to and including the terminator (or its first `slen` cells, whichever comes first).
`exec … = .ok` therefore means no fault (nothing unmapped was touched) and `strays` unchanged means
not a single access outside the declared extents — for every dmax, every source length (shorter than,
equal to, longer than dmax), every prior dest content, both slack configurations, either order of the
two objects in memory.  The overlapping placements are in the `_all` theorems at the head of this file.
-/


theorem strcpy_s_C02 (cfg : Cfg) (dest dmax src n : Nat) (st : St)
    (hd : dest ≠ 0) (hs : src ≠ 0) (hpos : 0 < dmax) (hle : dmax ≤ RSIZE_MAX_STR)
    (hrw : RW st dest dmax) (hsrc : SrcStr st src n) (hdisj : Disjoint dest dmax src n) :
    ∃ code st', exec (strcpy_s cfg dest dmax src none) st = .ok (code, st') ∧ NoStray st st' := by
  obtain ⟨code, st', he, _, _, _, hs', _⟩ := strcpyG_disjoint _ cfg dest dmax src n st hd hs hpos hle hrw hsrc hdisj
  exact ⟨code, st', he, hs'⟩

theorem wcscpy_s_C02 (cfg : Cfg) (dest dmax src n : Nat) (st : St)
    (hd : dest ≠ 0) (hs : src ≠ 0) (hpos : 0 < dmax) (hle : dmax ≤ RSIZE_MAX_WSTR)
    (hrw : RW st dest dmax) (hsrc : SrcStr st src n) (hdisj : Disjoint dest dmax src n) :
    ∃ code st', exec (wcscpy_s cfg dest dmax src none) st = .ok (code, st') ∧ NoStray st st' := by
  rw [wcscpy_eq]
  obtain ⟨code, st', he, _, _, _, hs', _⟩ := strcpyG_disjoint _ cfg dest dmax src n st hd hs hpos hle hrw hsrc hdisj
  exact ⟨code, st', he, hs'⟩

/-- strncpy_s: at most `slen` source cells are declared; the cell `src+slen` may be unmapped -/
theorem strncpy_s_C02 (cfg : Cfg) (dest dmax src slen m : Nat) (st : St)
    (hd : dest ≠ 0) (hs : src ≠ 0) (hpos : 0 < dmax) (hle : dmax ≤ RSIZE_MAX_STR)
    (hslen : 0 < slen) (hslenle : slen ≤ RSIZE_MAX_STR)
    (hrw : RW st dest dmax)
    (hnz : ∀ j, j < m → st.data (src+j) ≠ 0)
    (hrd : ∀ j, j < m → st.mapped (src+j) = true ∧ st.rd (src+j) = true)
    (hfin : (m < slen ∧ st.data (src+m) = 0 ∧ st.mapped (src+m) = true ∧ st.rd (src+m) = true) ∨ slen = m)
    (hdisj : dest + dmax ≤ src ∨ src + m < dest) :
    ∃ code st', exec (strncpy_s cfg dest dmax src slen none none) st = .ok (code, st') ∧ NoStray st st' := by
  obtain ⟨code, st', he, _, _, _, hs', _⟩ :=
    strncpyG_disjoint _ cfg dest dmax src slen m st hd hs hpos hle hslen hslenle hrw hnz hrd hfin hdisj
  exact ⟨code, st', he, hs'⟩

theorem strcat_s_C02 (cfg : Cfg) (dest dmax src dl n : Nat) (st : St)
    (hd : dest ≠ 0) (hs : src ≠ 0) (hpos : 0 < dmax) (hle : dmax ≤ RSIZE_MAX_STR)
    (hrw : RW st dest dmax) (hsrc : SrcStr st src n) (hdisj : Disjoint dest dmax src n)
    (hdl : dl < dmax) (hdnz : ∀ j, j < dl → st.data (dest+j) ≠ 0) (hdnul : st.data (dest+dl) = 0) :
    ∃ code st', exec (strcat_s cfg dest dmax src none) st = .ok (code, st') ∧ NoStray st st' := by
  obtain ⟨code, st', he, _, _, _, hs', _⟩ :=
    strcatG_disjoint _ cfg dest dmax src dl n st hd hs hpos hle hrw hsrc hdisj hdl hdnz hdnul
  exact ⟨code, st', he, hs'⟩

/-- non-vacuity: dest = 100 (5 cells), src = "ab" at 200, nothing else mapped -/
def exSt : St :=
  { data := fun a => if a = 200 then 97 else if a = 201 then 98 else 0
    mapped := fun a => decide ((100 ≤ a ∧ a < 105) ∨ (200 ≤ a ∧ a < 203))
    rd := fun a => decide ((100 ≤ a ∧ a < 105) ∨ (200 ≤ a ∧ a < 203))
    wr := fun a => decide (100 ≤ a ∧ a < 105) }

example : RW exSt 100 5 ∧ SrcStr exSt 200 2 ∧ Disjoint 100 5 200 2 := by
  refine ⟨fun i hi => ?_, ⟨fun j hj => ?_, by simp [exSt], fun j hj => ?_⟩, Or.inl (by decide)⟩
  · simp [exSt]; omega
  · have : j = 0 ∨ j = 1 := by omega
    rcases this with rfl | rfl <;> simp [exSt]
  · simp [exSt]; omega
end SafeC.Props.C02

