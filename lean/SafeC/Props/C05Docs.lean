import SafeC.Proofs.EVFld
import SafeC.Props.C05Query
import SafeC.Gen.Docs
/-!
# C05, "returns the documented failure indication": the codes a function can return ⊆ the `@retval` list of its doc comment

`Gen/Docs.lean` is regenerated from the doc comments of `/repo/src` on every run.  For every function below, for ALL arguments and
memory contents, the code a returning call hands back is one of the codes its CURRENT doc comment lists.  Proof per function: its
event walk (`X_ev` / `X_in`, in `Proofs/EVInplace.lean`, `EVMem`, `EVRQuery*`, `EVTok`, `EVCopy`, `EVFld`; for the os, time and wide-case functions in their `Props/C05*.lean`) has a post that names the codes — `OnceIn S k` (EOK and silent, or one report
of the returned code, a code of `S`) or `QIn bn S k code` (silent with a result code of `bn`, or …) — so the returned code is in
`EOK :: S` resp. `bn ++ S` (asctime_s, ctime_s, getenv_s, strerror_s have posts of their own, read by `of_codes`); that this list ⊆ `docCodes fn ++ extra` is evaluated by the kernel inside `X_documented` itself, against
the row of the regenerated table that belongs to `X` (`docRow i`, `i` the row's index).
What breaks when something changes: a doc comment that no longer lists a code `X` returns breaks `X_documented`, by name, and
nothing else; a model that reports or returns a new code breaks the walk `X_ev` of that function (a `c ∈ S` side goal), and a
walk whose list was changed breaks `X_documented` if the new list is not documented; a function inserted into, removed from or
renamed in the table (its shape changed) breaks `docKeys_ok` if the names are no longer increasing, else the theorems whose
row index moved (their row is now another function's).

Where the code returns something its doc comment does not list, the theorem is stated with the extra codes spelled out
(`…_documented_partial (extra := [...])`, with a `…_documented_witness` run that returns the extra code) — each is a documentation
finding.  The other `_partial` theorems (`extra = []`) carry the object-size hypotheses `SmallBos` / `SrcOk` of the `EV` theorem
they rest on (`Proofs/EVCopy.lean`).
-/
namespace SafeC.Props.C05Docs
open SafeC Gen SafeC.Props.C05Ev SafeC.Props.C05Mem SafeC.Props.C05Query

def codeOfName : String → Option Nat
  | "EOK" => some EOK | "ESNULLP" => some ESNULLP | "ESZEROL" => some ESZEROL | "ESLEMIN" => some ESLEMIN
  | "ESLEMAX" => some ESLEMAX | "ESOVRLP" => some ESOVRLP | "ESEMPTY" => some ESEMPTY | "ESNOSPC" => some ESNOSPC
  | "ESUNTERM" => some ESUNTERM | "ESNODIFF" => some ESNODIFF | "ESNOTFND" => some ESNOTFND | "ESLEWRNG" => some ESLEWRNG
  | "EOVERFLOW" => some EOVERFLOW | "EINVAL" => some EINVAL | "EILSEQ" => some EILSEQ | "0" => some 0
  | "-1" => some (2^32 - 1)     -- an `int` / `errno_t` of -1 as the models hand it back (`NEG1`)
  | _ => none

/-- the codes the CURRENT doc comment of `fn` lists (`@retval` lines, regenerated from /repo/src on every run) -/
def docCodes (fn : String) : List Nat := ((retvalDocs.lookup fn).getD []).filterMap codeOfName

/-- every returning run of `p` hands back a code that `fn`'s doc comment lists, or one of `extra` -/
def ReturnsDocumented {α} (fn : String) (extra : List Nat) (p : Prog α) (code : α → Nat) : Prop :=
  ∀ (st : St) (r : α) (st' : St), exec p st = .ok (r, st') → code r ∈ docCodes fn ++ extra

/-! The posts read against the doc comment: the returned code is in `EOK :: S` resp. `bn ++ S`, and `hsub` compares that list
with the one the doc comment gives. -/

/-- the returned code is one of `codes`, for every run: all that `_documented` needs of a walk -/
theorem of_codes {α} {fn : String} {extra codes : List Nat} {code : α → Nat} {p : Prog α} {Q : α → List Event → Prop}
    (hev : EV p Q) (hQ : ∀ y es, Q y es → code y ∈ codes) (hsub : ∀ c ∈ codes, c ∈ docCodes fn ++ extra) :
    ReturnsDocumented fn extra p code := by
  intro st r st' he
  obtain ⟨es, _, h⟩ := hev.sound st he
  exact hsub _ (hQ _ _ h)

theorem of_In {fn : String} {extra S : List Nat} {k : Kind} {p : Prog Nat} (hev : EV p (OnceIn S k))
    (hsub : ∀ c ∈ EOK :: S, c ∈ docCodes fn ++ extra) : ReturnsDocumented fn extra p id :=
  of_codes hev (fun _ _ h => h.elim (fun h => h.1 ▸ List.mem_cons_self ..) fun h => List.mem_cons_of_mem _ h.1) hsub

theorem of_QInAny {α} {fn : String} {extra bn S : List Nat} {code : α → Nat} {p : Prog α} (hev : EV p (QInAny bn S code))
    (hsub : ∀ c ∈ bn ++ S, c ∈ docCodes fn ++ extra) : ReturnsDocumented fn extra p code :=
  of_codes hev (fun _ _ h => List.mem_append.2 (h.imp And.right And.left)) hsub

theorem of_QIn {α} {fn : String} {extra bn S : List Nat} {k : Kind} {code : α → Nat} {p : Prog α}
    (hev : EVR p (QIn bn S k code)) (hsub : ∀ c ∈ bn ++ S, c ∈ docCodes fn ++ extra) : ReturnsDocumented fn extra p code :=
  of_QInAny (hev.ev.conseq fun _ _ => QIn.any) hsub

/-! The comparison `codes ⊆ docCodes fn ++ extra` is a look-up in the regenerated table, by string comparison down the table: dear in
the kernel.  The part that depends on the KEYS of the table only is done once: the function names are strictly increasing under
a numeric key (`docKeys_ok`), so the row found at index `i` is the row `lookup` finds.  Each function's theorem then reads ITS row by
index and has the kernel compare its own `@retval` list with the codes of its walk (`docRow i`). -/

/-- the first 31 bytes as a number: increasing along the (sorted) table -/
def skey (s : String) : Nat :=
  (s.toByteArray.data.toList.foldl (fun (p : Nat × Nat) b => (p.1 / 256, p.2 + b.toNat * p.1)) (256 ^ 31, 0)).2

def incB (lo : Nat) : List (String × List String) → Bool
  | [] => true
  | (k, _) :: t => decide (lo < skey k) && incB (skey k) t

theorem lookup_of_mem : ∀ (t : List (String × List String)) (lo : Nat), incB lo t = true → ∀ k v, (k, v) ∈ t →
    lo < skey k ∧ t.lookup k = some v
  | [], _, _, _, _, h => nomatch h
  | (a, w) :: t, lo, hs, k, v, h => by
    simp only [incB, Bool.and_eq_true, decide_eq_true_eq] at hs
    rcases List.mem_cons.mp h with e | h
    · cases e; exact ⟨hs.1, by rw [List.lookup, show (a == a) = true from decide_eq_true (p := a = a) rfl]⟩
    · have ih := lookup_of_mem t _ hs.2 k v h
      -- an earlier row has a smaller key, so it is not `k`
      have hne : (k == a) = false := beq_eq_false_iff_ne.mpr fun e => Nat.lt_irrefl _ (e ▸ ih.1)
      simp only [List.lookup, hne]; exact ⟨Nat.lt_trans hs.1 ih.1, ih.2⟩

theorem docKeys_ok : incB 0 retvalDocs = true := by decide +kernel

theorem lookup_of_get {i : Nat} {fn : String} {cs : List String} (h : retvalDocs[i]? = some (fn, cs)) :
    retvalDocs.lookup fn = some cs :=
  (lookup_of_mem _ _ docKeys_ok _ _ (List.mem_of_getElem? h)).2

theorem docCodes_row {i : Nat} {fn : String} {cs : List String} (h : retvalDocs[i]? = some (fn, cs)) :
    docCodes fn = cs.filterMap codeOfName := by
  simp [docCodes, lookup_of_get h]

/-- row `i` of the table is `fn`'s, and every code of `codes` is in its `@retval` list or in `extra` -/
def rowOk (i : Nat) (fn : String) (codes extra : List Nat) : Bool :=
  match retvalDocs[i]? with
  | some (k, cs) => k == fn && codes.all ((cs.filterMap codeOfName ++ extra).contains ·)
  | none => false

theorem docRow (i : Nat) {fn : String} {codes extra : List Nat} (h : rowOk i fn codes extra = true) :
    ∀ c ∈ codes, c ∈ docCodes fn ++ extra := by
  unfold rowOk at h
  split at h
  · next k cs e =>
    simp only [Bool.and_eq_true, beq_iff_eq] at h
    intro c hc
    simpa [docCodes_row (h.1 ▸ e)] using List.all_eq_true.mp h.2 c hc
  · cases h

theorem strset_s_documented (cfg : Cfg) (dest dmax value : Nat) (db : Bos) :
    ReturnsDocumented "strset_s" [] (strset_s cfg dest dmax value db) id :=
  of_In (strset_s_ev ..) (docRow 66 (by decide +kernel))
theorem strnset_s_documented (cfg : Cfg) (dest dmax value n : Nat) (db : Bos) :
    ReturnsDocumented "strnset_s" [] (strnset_s cfg dest dmax value n db) id := of_In (strnset_s_ev ..) (docRow 61 (by decide +kernel))
theorem strzero_s_documented (cfg : Cfg) (dest dmax : Nat) (db : Bos) :
    ReturnsDocumented "strzero_s" [] (strzero_s cfg dest dmax db) id := of_In (strzero_s_ev ..) (docRow 71 (by decide +kernel))
theorem strtolowercase_s_documented (cfg : Cfg) (dest dmax : Nat) (db : Bos) :
    ReturnsDocumented "strtolowercase_s" [] (strtolowercase_s cfg dest dmax db) id := of_In (strtolowercase_s_ev ..) (docRow 69 (by decide +kernel))
theorem strtouppercase_s_documented (cfg : Cfg) (dest dmax : Nat) (db : Bos) :
    ReturnsDocumented "strtouppercase_s" [] (strtouppercase_s cfg dest dmax db) id := of_In (strtouppercase_s_ev ..) (docRow 70 (by decide +kernel))
theorem strljustify_s_documented (cfg : Cfg) (dest dmax : Nat) (db : Bos) :
    ReturnsDocumented "strljustify_s" [] (strljustify_s cfg dest dmax db) id := of_In (strljustify_s_ev ..) (docRow 57 (by decide +kernel))
theorem strremovews_s_documented (cfg : Cfg) (dest dmax : Nat) (db : Bos) :
    ReturnsDocumented "strremovews_s" [] (strremovews_s cfg dest dmax db) id := of_In (strremovews_s_ev ..) (docRow 65 (by decide +kernel))

theorem memcpy_s_documented (d m s l : Nat) (db sb : Bos) : ReturnsDocumented "memcpy_s" [] (memcpy_s d m s l db sb) id :=
  of_In (memcpy_s_ev ..) (docRow 20 (by decide +kernel))
theorem memmove_s_documented (d m s l : Nat) (db sb : Bos) : ReturnsDocumented "memmove_s" [] (memmove_s d m s l db sb) id :=
  of_In (memmove_s_ev ..) (docRow 23 (by decide +kernel))
theorem memset_s_documented (d m v n : Nat) (db : Bos) : ReturnsDocumented "memset_s" [] (memset_s d m v n db) id :=
  of_In (memset_s_ev ..) (docRow 27 (by decide +kernel))
theorem memzero_s_documented (d l : Nat) (db : Bos) : ReturnsDocumented "memzero_s" [] (memzero_s d l db) id :=
  of_In (memzero_s_ev ..) (docRow 30 (by decide +kernel))
theorem memzero16_s_documented (d l : Nat) (db : Bos) : ReturnsDocumented "memzero16_s" [] (memzero16_s d l db) id :=
  of_In (memzero16_s_ev ..) (docRow 28 (by decide +kernel))
theorem memzero32_s_documented (d l : Nat) (db : Bos) : ReturnsDocumented "memzero32_s" [] (memzero32_s d l db) id :=
  of_In (memzero32_s_ev ..) (docRow 29 (by decide +kernel))
theorem memset16_s_documented (d m v n : Nat) (db : Bos) : ReturnsDocumented "memset16_s" [] (memset16_s d m v n db) id :=
  of_In (memset16_s_ev ..) (docRow 25 (by decide +kernel))
theorem memset32_s_documented (d m v n : Nat) (db : Bos) : ReturnsDocumented "memset32_s" [] (memset32_s d m v n db) id :=
  of_In (memset32_s_ev ..) (docRow 26 (by decide +kernel))
theorem memcpy16_s_documented (d m s l : Nat) (db sb : Bos) : ReturnsDocumented "memcpy16_s" [] (memcpy16_s d m s l db sb) id :=
  of_In (memcpy16_s_ev ..) (docRow 18 (by decide +kernel))
theorem memcpy32_s_documented (d m s l : Nat) (db sb : Bos) : ReturnsDocumented "memcpy32_s" [] (memcpy32_s d m s l db sb) id :=
  of_In (memcpy32_s_ev ..) (docRow 19 (by decide +kernel))
theorem memmove16_s_documented (d m s l : Nat) (db sb : Bos) : ReturnsDocumented "memmove16_s" [] (memmove16_s d m s l db sb) id :=
  of_In (memmove16_s_ev ..) (docRow 21 (by decide +kernel))
theorem memmove32_s_documented (d m s l : Nat) (db sb : Bos) : ReturnsDocumented "memmove32_s" [] (memmove32_s d m s l db sb) id :=
  of_In (memmove32_s_ev ..) (docRow 22 (by decide +kernel))
theorem wmemcpy_s_documented (d m s l : Nat) (db sb : Bos) : ReturnsDocumented "wmemcpy_s" [] (wmemcpy_s d m s l db sb) id :=
  of_In (wmemcpy_s_ev ..) (docRow 114 (by decide +kernel))
theorem wmemmove_s_documented (d m s l : Nat) (db sb : Bos) : ReturnsDocumented "wmemmove_s" [] (wmemmove_s d m s l db sb) id :=
  of_In (wmemmove_s_ev ..) (docRow 115 (by decide +kernel))

theorem strcmp_s_documented (d m s : Nat) (db sb : Bos) : ReturnsDocumented "strcmp_s" [] (strcmp_s d m s db sb) (·.1) :=
  of_QIn (strcmp_s_ev ..) (docRow 42 (by decide +kernel))

theorem q_strpbrkOuter (src slen n d : Nat) : Quiet (strpbrkOuter src slen n d) :=
  (strpbrkOuter_ev (S := []) ..).ev.conseq fun _ _ h => h.elim (fun h => ⟨h.1, trivial⟩) fun h => nomatch h.1
theorem strcasecmp_s_documented (d m s : Nat) (db : Bos) : ReturnsDocumented "strcasecmp_s" [] (strcasecmp_s d m s db) (·.1) :=
  of_QIn (strcasecmp_s_ev ..) (docRow 38 (by decide +kernel))
theorem strcmpfld_s_documented (d m s : Nat) (db : Bos) : ReturnsDocumented "strcmpfld_s" [] (strcmpfld_s d m s db) (·.1) :=
  of_QIn (strcmpfld_s_ev ..) (docRow 43 (by decide +kernel))
theorem strstr_s_documented (d m s l : Nat) (db sb : Bos) : ReturnsDocumented "strstr_s" [] (strstr_s d m s l db sb) (·.1) :=
  of_QIn (strstr_s_ev ..) (docRow 68 (by decide +kernel))
theorem strcasestr_s_documented (d m s l : Nat) (db sb : Bos) : ReturnsDocumented "strcasestr_s" [] (strcasestr_s d m s l db sb) (·.1) :=
  of_QIn (strcasestr_s_ev ..) (docRow 39 (by decide +kernel))
theorem strchr_s_documented (d m : Nat) (ch : Int) (db : Bos) : ReturnsDocumented "strchr_s" [] (strchr_s d m ch db) (·.1) :=
  of_QIn (strchr_s_ev ..) (docRow 41 (by decide +kernel))
theorem strspn_s_documented (d m s l : Nat) (db sb : Bos) : ReturnsDocumented "strspn_s" [] (strspn_s d m s l db sb) (·.1) :=
  of_QIn (strspn_s_ev ..) (docRow 67 (by decide +kernel))
theorem strcspn_s_documented (d m s l : Nat) (db sb : Bos) : ReturnsDocumented "strcspn_s" [] (strcspn_s d m s l db sb) (·.1) :=
  of_QInAny (strcspn_s_ev ..).ev (docRow 49 (by decide +kernel))
theorem strprefix_s_documented (d m s : Nat) (db : Bos) : ReturnsDocumented "strprefix_s" [] (strprefix_s d m s db) id :=
  of_QIn (strprefix_s_ev ..) (docRow 63 (by decide +kernel))

theorem memrchr_s_documented (d m : Nat) (ch : Int) (db : Bos) : ReturnsDocumented "memrchr_s" [] (memrchr_s d m ch db) (·.1) :=
  of_QInAny (memrchr_s_ev ..).ev (docRow 24 (by decide +kernel))
/-- memchr_s, FULL statement false against the current doc comment: EOVERFLOW (dmax above a known object size) is returned but the
`@retval` list only says "ESLEMAX when dmax > RSIZE_MAX_MEM or > sizeof(dest)" (documentation finding `memchr-doc-eoverflow`) -/
theorem memchr_s_documented_partial (d m : Nat) (ch : Int) (db : Bos) : ReturnsDocumented "memchr_s" [EOVERFLOW] (memchr_s d m ch db) (·.1) :=
  of_QInAny (memchr_s_ev ..).ev (docRow 14 (by decide +kernel))
/-- the undocumented code is really returned: dmax 9 for a known object of 8 bytes -/
theorem memchr_s_documented_witness :
    ((exec (memchr_s 100 9 97 (some 8)) { data := fun _ => 7, mapped := fun _ => true, rd := fun _ => true, wr := fun _ => false }).toOption.map
      (fun x => x.1.1)) = some EOVERFLOW ∧ EOVERFLOW ∉ docCodes "memchr_s" := by
  rw [docCodes_row (i := 14) rfl]; decide +kernel

/-- strrchr_s: every returned code is documented (ESZEROL is its documented answer for an empty string) -/
theorem strrchr_s_documented (d m : Nat) (ch : Int) (db : Bos) : ReturnsDocumented "strrchr_s" [] (strrchr_s d m ch db) (·.1) :=
  of_QInAny (strrchr_s_ev ..).ev (docRow 64 (by decide +kernel))

theorem memcmp_s_documented (d m s l : Nat) (db sb : Bos) : ReturnsDocumented "memcmp_s" [] (memcmp_s d m s l db sb) (·.1) :=
  of_QIn (memcmp_s_ev ..) (docRow 17 (by decide +kernel))
theorem memcmp16_s_documented (d m s l : Nat) (db sb : Bos) : ReturnsDocumented "memcmp16_s" [] (memcmp16_s d m s l db sb) (·.1) :=
  of_QIn (memcmp16_s_ev ..) (docRow 15 (by decide +kernel))
theorem memcmp32_s_documented (d m s l : Nat) (db sb : Bos) : ReturnsDocumented "memcmp32_s" [] (memcmp32_s d m s l db sb) (·.1) :=
  of_QIn (memcmp32_s_ev ..) (docRow 16 (by decide +kernel))

theorem strfirstchar_s_documented (d m c : Nat) (db : Bos) : ReturnsDocumented "strfirstchar_s" [] (strfirstchar_s d m c db) (·.1) :=
  of_QIn (strfirstchar_s_ev ..) (docRow 51 (by decide +kernel))
theorem strlastchar_s_documented (d m c : Nat) (db : Bos) : ReturnsDocumented "strlastchar_s" [] (strlastchar_s d m c db) (·.1) :=
  of_QIn (strlastchar_s_ev ..) (docRow 54 (by decide +kernel))
theorem strfirstdiff_s_documented (d m s : Nat) (db : Bos) : ReturnsDocumented "strfirstdiff_s" [] (strfirstdiff_s d m s db) (·.1) :=
  of_QIn (strfirstdiff_s_ev ..) (docRow 52 (by decide +kernel))
theorem strfirstsame_s_documented (d m s : Nat) (db : Bos) : ReturnsDocumented "strfirstsame_s" [] (strfirstsame_s d m s db) (·.1) :=
  of_QIn (strfirstsame_s_ev ..) (docRow 53 (by decide +kernel))
theorem strlastdiff_s_documented (d m s : Nat) (db : Bos) : ReturnsDocumented "strlastdiff_s" [] (strlastdiff_s d m s db) (·.1) :=
  of_QIn (strlastdiff_s_ev ..) (docRow 55 (by decide +kernel))
theorem strlastsame_s_documented (d m s : Nat) (db : Bos) : ReturnsDocumented "strlastsame_s" [] (strlastsame_s d m s db) (·.1) :=
  of_QIn (strlastsame_s_ev ..) (docRow 56 (by decide +kernel))

theorem wcscmp_s_documented (d m s sm : Nat) (db sb : Bos) : ReturnsDocumented "wcscmp_s" [] (wcscmp_s d m s sm db sb) (·.1) :=
  of_QIn (wcscmp_s_ev ..) (docRow 95 (by decide +kernel))
theorem wcsncmp_s_documented (d m s sm c : Nat) (db sb : Bos) : ReturnsDocumented "wcsncmp_s" [] (wcsncmp_s d m s sm c db sb) (·.1) :=
  of_QIn (wcsncmp_s_ev ..) (docRow 103 (by decide +kernel))
theorem wcsstr_s_documented (d m s l : Nat) (db sb : Bos) : ReturnsDocumented "wcsstr_s" [] (wcsstr_s d m s l db sb) (·.1) :=
  of_QIn (wcsstr_s_ev ..) (docRow 109 (by decide +kernel))
theorem wmemcmp_s_documented (d m s l : Nat) (db sb : Bos) : ReturnsDocumented "wmemcmp_s" [] (wmemcmp_s d m s l db sb) (·.1) :=
  of_QIn (wmemcmp_s_ev ..) (docRow 113 (by decide +kernel))

theorem wcsset_s_documented (cfg : Cfg) (d m v : Nat) (db : Bos) : ReturnsDocumented "wcsset_s" [] (wcsset_s cfg d m v db) id :=
  of_In (wcsset_s_ev ..) (docRow 108 (by decide +kernel))
theorem wcsnset_s_documented (cfg : Cfg) (d m v n : Nat) (db : Bos) : ReturnsDocumented "wcsnset_s" [] (wcsnset_s cfg d m v n db) id :=
  of_In (wcsnset_s_ev ..) (docRow 106 (by decide +kernel))

/-! ## the copy family and the field copies (object sizes as in `SmallBos` / `SrcOk`, see `Proofs/EVCopy.lean`) -/

theorem strcpy_s_documented_partial (cfg : Cfg) (d m s : Nat) (db : Bos) (hb : SmallBos db) :
    ReturnsDocumented "strcpy_s" [] (strcpy_s cfg d m s db) id :=
  of_In (strcpyG_ev_partial _ cfg d m s db (hb.ok _)) (docRow 45 (by decide +kernel))
/-- strcat_s, against the current doc comment: ESNOSPC ("not enough space", the code of the copy loop's exit) is returned but not
listed among the `@retval` lines (documentation finding `strcat-doc-esnospc`) -/
theorem strcat_s_documented_partial (cfg : Cfg) (d m s : Nat) (db : Bos) (hb : SmallBos db) :
    ReturnsDocumented "strcat_s" [ESNOSPC] (strcat_s cfg d m s db) id :=
  of_In (strcat_s_ev_partial cfg d m s db (hb.ok _)) (docRow 40 (by decide +kernel))
/-- the undocumented code is really returned: "ab" appended to "x" in 3 cells -/
theorem strcat_s_documented_witness :
    ((exec (strcat_s {} 100 3 200 none)
      { data := fun a => if a = 100 then 120 else if a = 200 then 97 else if a = 201 then 98 else 0, mapped := fun _ => true, rd := fun _ => true, wr := fun _ => true }).toOption.map
      (fun x => x.1)) = some ESNOSPC ∧ ESNOSPC ∉ docCodes "strcat_s" := by
  rw [docCodes_row (i := 40) rfl]; decide +kernel
/-- wcscat_s: same gap in its doc comment -/
theorem wcscat_s_documented_partial (cfg : Cfg) (d m s : Nat) (db : Bos) :
    ReturnsDocumented "wcscat_s" [ESNOSPC] (wcscat_s cfg d m s db) id :=
  of_In (wcscat_s_ev ..) (docRow 94 (by decide +kernel))

theorem strncpy_s_documented_partial (cfg : Cfg) (d m s l : Nat) (db sb : Bos) (hb : SmallBos db) (hs : SrcOk sb l) :
    ReturnsDocumented "strncpy_s" [] (strncpy_s cfg d m s l db sb) id :=
  of_In (strncpy_s_ev_partial cfg d m s l db sb hb hs) (docRow 60 (by decide +kernel))

/-- strcpyfld_s, against the current doc comment: EOVERFLOW (dmax above a known object size) is returned but not listed
(documentation finding `strcpyfld-doc-eoverflow`; the two sibling functions list it) -/
theorem strcpyfld_s_documented_partial (cfg : Cfg) (d m s l : Nat) (db : Bos) (hb : SmallBos db) :
    ReturnsDocumented "strcpyfld_s" [EOVERFLOW] (strcpyfld_s cfg d m s l db) id :=
  of_In (fldG_ev_partial .fld cfg d m s l db hb) (docRow 46 (by decide +kernel))
theorem strcpyfldin_s_documented_partial (cfg : Cfg) (d m s l : Nat) (db : Bos) (hb : SmallBos db) :
    ReturnsDocumented "strcpyfldin_s" [] (strcpyfldin_s cfg d m s l db) id :=
  of_In (fldG_ev_partial .fldin cfg d m s l db hb) (docRow 47 (by decide +kernel))
theorem strcpyfldout_s_documented_partial (cfg : Cfg) (d m s l : Nat) (db : Bos) (hb : SmallBos db) :
    ReturnsDocumented "strcpyfldout_s" [] (strcpyfldout_s cfg d m s l db) id :=
  of_In (fldG_ev_partial .fldout cfg d m s l db hb) (docRow 48 (by decide +kernel))

/-- non-vacuity: a code outside every list would be rejected by the kernel (`decide` evaluates the regenerated doc list) -/
example : ESUNTERM ∉ docCodes "strcpy_s" ∧ ESUNTERM ∈ docCodes "strcat_s" := by
  rw [docCodes_row (i := 45) rfl, docCodes_row (i := 40) rfl]; decide +kernel

end SafeC.Props.C05Docs
