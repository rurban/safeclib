import SafeC.Proofs.AccTok
import SafeC.Proofs.AccJustify
import SafeC.Proofs.AccRemovews
import SafeC.Props.C02
/-!
# C02 for functions that write as they scan: `strset_s strnset_s strzero_s wcsset_s wcsnset_s strljustify_s strtok_s wcstok_s`, and (second part of the file) `strremovews_s`

Through `AccS` (value-aware, stores tracked): reads lie in the STRING at dest cut at `dmax + 1` cells — the one
cell behind the declared ones only when no terminator precedes it —, writes inside the `dmax` declared cells
(the set family) or in the same `Str` extent (the tokenizers: their ESUNTERM exit stores `'\0'` where the scan stopped,
which for an unterminated buffer is `dest[dmax]` — the write side of this is C01's finding `tok-unterm-exit-writes-dest-dmax`).

* set family: the loop is `while (dmax && *dest)` (counter first), but `if (!*dest) memset(dest, 0, dmax)` after it
  dereferences the final pointer: `dest[dmax]` after `dmax` full rounds (slack configuration only).
* tokenizers: `while (*dest != '\0') { if (dlen == 0) … }` reads before the bound.
-/
namespace SafeC.Props.C02
open SafeC Gen

/-- **strset_s**: reads inside the string at dest cut at `dmax + 1`, writes inside the `dmax` cells -/
theorem strset_s_C02_tight_partial (cfg : Cfg) (dest dmax value : Nat) (db : Bos) (st : St)
    (hr : dest ≠ 0 → StrRd st dest (dmax+1)) (hw : dest ≠ 0 → RW st dest dmax) :
    Runs (strset_s cfg dest dmax value db) st :=
  runs_of_AccS (strset_s_accs cfg dest dmax value db hr (Wr_of_RW.guard hw))

/-- **strset_s**, C02 for a dest terminated inside `dmax` -/
theorem strset_s_C02_partial (cfg : Cfg) (dest dmax value : Nat) (db : Bos) (st : St)
    (hw : dest ≠ 0 → RW st dest dmax) (ht : dest ≠ 0 → Term st dest dmax) :
    Runs (strset_s cfg dest dmax value db) st :=
  strset_s_C02_tight_partial cfg dest dmax value db st (fun h => StrRd.of_RD_term (RD_of_RW (hw h)) (ht h) _) hw

/-- **strzero_s** -/
theorem strzero_s_C02_tight_partial (cfg : Cfg) (dest dmax : Nat) (db : Bos) (st : St)
    (hr : dest ≠ 0 → StrRd st dest (dmax+1)) (hw : dest ≠ 0 → RW st dest dmax) :
    Runs (strzero_s cfg dest dmax db) st :=
  runs_of_AccS (strzero_s_accs cfg dest dmax db hr (Wr_of_RW.guard hw))

theorem strzero_s_C02_partial (cfg : Cfg) (dest dmax : Nat) (db : Bos) (st : St)
    (hw : dest ≠ 0 → RW st dest dmax) (ht : dest ≠ 0 → Term st dest dmax) :
    Runs (strzero_s cfg dest dmax db) st :=
  strzero_s_C02_tight_partial cfg dest dmax db st (fun h => StrRd.of_RD_term (RD_of_RW (hw h)) (ht h) _) hw

/-- **wcsset_s** (the `dmax * 4 > destbos` exits clear `destbos / 4 < dmax` cells) -/
theorem wcsset_s_C02_tight_partial (cfg : Cfg) (dest dmax value : Nat) (db : Bos) (st : St)
    (hr : dest ≠ 0 → StrRd st dest (dmax+1)) (hw : dest ≠ 0 → RW st dest dmax) :
    Runs (wcsset_s cfg dest dmax value db) st :=
  runs_of_AccS (wcsset_s_accs cfg dest dmax value db hr (Wr_of_RW.guard hw))

theorem wcsset_s_C02_partial (cfg : Cfg) (dest dmax value : Nat) (db : Bos) (st : St)
    (hw : dest ≠ 0 → RW st dest dmax) (ht : dest ≠ 0 → Term st dest dmax) :
    Runs (wcsset_s cfg dest dmax value db) st :=
  wcsset_s_C02_tight_partial cfg dest dmax value db st (fun h => StrRd.of_RD_term (RD_of_RW (hw h)) (ht h) _) hw

/-- **strnset_s**: at most `n ≤ dmax` characters are set: the tail read is `dest[n]` at most -/
theorem strnset_s_C02_tight_partial (cfg : Cfg) (dest dmax value n : Nat) (db : Bos) (st : St)
    (hr : dest ≠ 0 → n ≤ dmax → StrRd st dest (n+1)) (hw : dest ≠ 0 → RW st dest dmax) :
    Runs (strnset_s cfg dest dmax value n db) st :=
  runs_of_AccS (strnset_s_accs cfg dest dmax value n db hr (Wr_of_RW.guard hw))

/-- **strnset_s**, C02: for `n < dmax` as it stands; for `n = dmax` when dest is terminated inside `dmax` -/
theorem strnset_s_C02_partial (cfg : Cfg) (dest dmax value n : Nat) (db : Bos) (st : St)
    (hw : dest ≠ 0 → RW st dest dmax) (ht : dest ≠ 0 → n = dmax → Term st dest dmax) :
    Runs (strnset_s cfg dest dmax value n db) st := by
  refine strnset_s_C02_tight_partial cfg dest dmax value n db st (fun h hn => ?_) hw
  by_cases e : n = dmax
  · exact StrRd.of_RD_term (RD_of_RW (hw h)) (ht h e) _
  · exact StrRd.of_RD (RD_of_RW (hw h)) (by omega)

/-- **wcsnset_s** -/
theorem wcsnset_s_C02_tight_partial (cfg : Cfg) (dest dmax value n : Nat) (db : Bos) (st : St)
    (hr : dest ≠ 0 → n ≤ dmax → StrRd st dest (n+1)) (hw : dest ≠ 0 → RW st dest dmax) :
    Runs (wcsnset_s cfg dest dmax value n db) st :=
  runs_of_AccS (wcsnset_s_accs cfg dest dmax value n db hr (Wr_of_RW.guard hw))

theorem wcsnset_s_C02_partial (cfg : Cfg) (dest dmax value n : Nat) (db : Bos) (st : St)
    (hw : dest ≠ 0 → RW st dest dmax) (ht : dest ≠ 0 → n = dmax → Term st dest dmax) :
    Runs (wcsnset_s cfg dest dmax value n db) st := by
  refine wcsnset_s_C02_tight_partial cfg dest dmax value n db st (fun h hn => ?_) hw
  by_cases e : n = dmax
  · exact StrRd.of_RD_term (RD_of_RW (hw h)) (ht h e) _
  · exact StrRd.of_RD (RD_of_RW (hw h)) (by omega)

/-- **strljustify_s**: the termination scan `while (*dest) { if (dmax == 0) … }` reads at most `dest[dmax]` (and accepts a
terminator found there); the whitespace skip and the shift loop stay below that terminator; every store inside `dmax` -/
theorem strljustify_s_C02_tight_partial (cfg : Cfg) (dest dmax : Nat) (db : Bos) (st : St)
    (hr : dest ≠ 0 → StrRd st dest (dmax+1)) (hw : dest ≠ 0 → RW st dest dmax) :
    Runs (strljustify_s cfg dest dmax db) st :=
  runs_of_AccS (strljustify_s_accs cfg dest dmax db hr (Wr_of_RW.guard hw))

/-- **strljustify_s**, C02 for a dest terminated inside `dmax` -/
theorem strljustify_s_C02_partial (cfg : Cfg) (dest dmax : Nat) (db : Bos) (st : St)
    (hw : dest ≠ 0 → RW st dest dmax) (ht : dest ≠ 0 → Term st dest dmax) :
    Runs (strljustify_s cfg dest dmax db) st :=
  strljustify_s_C02_tight_partial cfg dest dmax db st (fun h => StrRd.of_RD_term (RD_of_RW (hw h)) (ht h) _) hw

/-! ## the tokenizers (`tokBuf dest pv`: the buffer scanned — `dest`, or the saved `*ptr` when `dest` is NULL) -/

/-- **strtok_s**: reads AND writes inside the string at the buffer cut at `*dmaxp + 1` cells; the delimiter string
up to its terminator within `STRTOK_DELIM_MAX_LEN + 1` cells.  Null `dmaxp` / `ptr` / `delim` included. -/
theorem strtok_s_C02_tight_partial (dest : Nat) (dmaxp : Option Nat) (delim : Nat) (ptr : Option Nat) (db : Bos) (st : St)
    (hr : ∀ dmax pv, dmaxp = some dmax → ptr = some pv → tokBuf dest pv ≠ 0 → StrRd st (tokBuf dest pv) (dmax+1))
    (hw : ∀ dmax pv, dmaxp = some dmax → ptr = some pv → tokBuf dest pv ≠ 0 → StrWr st (tokBuf dest pv) (dmax+1))
    (hdl : delim ≠ 0 → StrRd st delim (STRTOK_DELIM_MAX_LEN+1)) :
    Runs (strtok_s dest dmaxp delim ptr db) st :=
  runs_of_AccS (strtok_s_accs dest dmaxp delim ptr db hr hw hdl)

/-- **strtok_s**, C02 for a buffer terminated inside `*dmaxp` (`delim`: a string, declared to its terminator) -/
theorem strtok_s_C02_partial (dest : Nat) (dmaxp : Option Nat) (delim : Nat) (ptr : Option Nat) (db : Bos) (st : St)
    (hrw : ∀ dmax pv, dmaxp = some dmax → ptr = some pv → tokBuf dest pv ≠ 0 →
      RW st (tokBuf dest pv) dmax ∧ Term st (tokBuf dest pv) dmax)
    (hdl : delim ≠ 0 → ∀ n, StrRd st delim n) :
    Runs (strtok_s dest dmaxp delim ptr db) st :=
  strtok_s_C02_tight_partial dest dmaxp delim ptr db st
    (fun dmax pv h1 h2 h3 => StrRd.of_RD_term (RD_of_RW (hrw dmax pv h1 h2 h3).1) (hrw dmax pv h1 h2 h3).2 _)
    (fun dmax pv h1 h2 h3 => StrWr.of_RW_term (hrw dmax pv h1 h2 h3).1 (hrw dmax pv h1 h2 h3).2 _)
    (fun h => hdl h _)

/-- **wcstok_s** -/
theorem wcstok_s_C02_tight_partial (dest : Nat) (dmaxp : Option Nat) (delim : Nat) (ptr : Option Nat) (db : Bos) (st : St)
    (hr : ∀ dmax pv, dmaxp = some dmax → ptr = some pv → tokBuf dest pv ≠ 0 → StrRd st (tokBuf dest pv) (dmax+1))
    (hw : ∀ dmax pv, dmaxp = some dmax → ptr = some pv → tokBuf dest pv ≠ 0 → StrWr st (tokBuf dest pv) (dmax+1))
    (hdl : delim ≠ 0 → StrRd st delim (STRTOK_DELIM_MAX_LEN+1)) :
    Runs (wcstok_s dest dmaxp delim ptr db) st :=
  runs_of_AccS (wcstok_s_accs dest dmaxp delim ptr db hr hw hdl)

theorem wcstok_s_C02_partial (dest : Nat) (dmaxp : Option Nat) (delim : Nat) (ptr : Option Nat) (db : Bos) (st : St)
    (hrw : ∀ dmax pv, dmaxp = some dmax → ptr = some pv → tokBuf dest pv ≠ 0 →
      RW st (tokBuf dest pv) dmax ∧ Term st (tokBuf dest pv) dmax)
    (hdl : delim ≠ 0 → ∀ n, StrRd st delim n) :
    Runs (wcstok_s dest dmaxp delim ptr db) st :=
  wcstok_s_C02_tight_partial dest dmaxp delim ptr db st
    (fun dmax pv h1 h2 h3 => StrRd.of_RD_term (RD_of_RW (hrw dmax pv h1 h2 h3).1) (hrw dmax pv h1 h2 h3).2 _)
    (fun dmax pv h1 h2 h3 => StrWr.of_RW_term (hrw dmax pv h1 h2 h3).1 (hrw dmax pv h1 h2 h3).2 _)
    (fun h => hdl h _)

/-- class `tail-read-after-full-loop` (`if (!*dest) memset(…)` of the set family, slack configuration): after `dmax`
rounds over the unterminated array {'a','b'} the final pointer is `dest + 2` -/
theorem set_tail_read_witness :
    exec (strset_s { slack := true } 100 2 120 none) (winW (fun a => if a = 100 then 97 else if a = 101 then 98 else 0) 100 102 0 0) =
      .error (.read 102) := faultOf_ok (by decide)

/-- class `read-before-bound`, tokenizer form: buffer {'a','b'} exactly fills `*dmaxp = 2`, delimiters ","; the second
scan evaluates `dest[2]` before it sees `dlen == 0` -/
theorem tok_read_before_bound_witness :
    exec (strtok_s 100 (some 2) 200 (some 0) none)
      (winW (fun a => if a = 100 then 97 else if a = 101 then 98 else if a = 200 then 44 else 0) 100 102 200 202) =
      .error (.read 102) := faultOf_ok (by decide)

/-- non-vacuity: "ab\0" in a writable 5-cell buffer, delimiters ",\0"; nothing else mapped -/
example : ∃ st : St, RW st 100 5 ∧ Term st 100 5 ∧ (∀ n, StrRd st 200 n) ∧ st.mapped 105 = false ∧ st.mapped 202 = false := by
  refine ⟨winW (fun a => if a = 100 then 97 else if a = 101 then 98 else if a = 200 then 44 else 0) 100 105 200 202,
    winW_RW (by omega), ⟨2, by omega, by simp [winW, win]⟩, fun n => ?_, by decide, by decide⟩
  exact StrRd.of_RD_term (n := 2) (winW_RD (by omega)) ⟨1, by omega, by simp [winW, win]⟩ n

/-!
## C02 for `strremovews_s`

The termination scan `while (*dest) { if (dmax == 0) … }` reads before its bound (class `read-before-bound`, witnessed in
`C02Compare`/`C02Query2`): at most `dest[dmax]`, and a terminator found there is accepted.  Everything after it — the whitespace
skip, the shift, the rewritten terminator, and the backwards strip `while (*dest == ' ' …) dest--` that has no bound of its
own — stays between `dest` and that terminator: the strip is stopped by the first non-blank character, which the shift has
put at `dest[0]` (functional postconditions of `skipWs` / `shiftLoop`: `AccD_skipWs_stop`, `AccS_shiftLoop_first` in `Proofs/AccJustify.lean`).  No read below the start
of the buffer, for every content (all-whitespace included: that exit is taken before the strip).
-/

/-- **strremovews_s**: reads inside the string at dest cut at `dmax + 1` cells; stores inside the `dmax` declared cells and on
the terminator the scan stopped at (rewritten after the shift: `dest[dmax]` for an exact-fit array followed by a NUL) -/
theorem strremovews_s_C02_tight_partial (cfg : Cfg) (dest dmax : Nat) (db : Bos) (st : St)
    (hr : dest ≠ 0 → StrRd st dest (dmax+1)) (hw : dest ≠ 0 → RW st dest dmax) (hwe : dest ≠ 0 → StrWr st dest (dmax+1)) :
    Runs (strremovews_s cfg dest dmax db) st :=
  runs_of_AccS (strremovews_s_accs cfg dest dmax db hr (Wr_of_RW.guard hw) hwe)

/-- **strremovews_s**, C02 for a dest terminated inside `dmax`: only the `dmax` declared cells are mapped -/
theorem strremovews_s_C02_partial (cfg : Cfg) (dest dmax : Nat) (db : Bos) (st : St)
    (hw : dest ≠ 0 → RW st dest dmax) (ht : dest ≠ 0 → Term st dest dmax) :
    Runs (strremovews_s cfg dest dmax db) st :=
  strremovews_s_C02_tight_partial cfg dest dmax db st (fun h => StrRd.of_RD_term (RD_of_RW (hw h)) (ht h) _) hw
    (fun h => StrWr.of_RW_term (hw h) (ht h) _)

/-- non-vacuity: `"  a \0"` in a 5-cell buffer with unmapped memory directly before and after it (the backwards strip starts
at `dest[3]`, the all-blank prefix lies flush against the unmapped cell 99) -/
example : ∃ st : St, RW st 100 5 ∧ Term st 100 5 ∧ st.mapped 99 = false ∧ st.mapped 105 = false :=
  ⟨winW (fun a => if a = 102 then 97 else if a = 104 then 0 else 32) 100 105 0 0,
   winW_RW (by omega), ⟨4, by omega, by simp [winW, win]⟩, by decide, by decide⟩

/-- the same input runs (a test of the model, `decide`): EOK -/
example : (exec (strremovews_s {} 100 5 none)
    (winW (fun a => if a = 102 then 97 else if a = 104 then 0 else 32) 100 105 0 0)).toOption.map (·.1) = some EOK := by decide
end SafeC.Props.C02

