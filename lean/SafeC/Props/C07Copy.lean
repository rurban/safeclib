import SafeC.Props.C06Copy
import SafeC.Props.C07Ext
/-!
# C07 — `strcpy_s strncpy_s strcat_s strncat_s` and the wide twins: ESOVRLP exactly when the cells copied meet

Setting of `Props/C06Copy.lean` (every cell mapped and readable, ARBITRARY contents, dest writable, usable sizes, `cfg`
arbitrary, the source at ANY address).  `m` = number of characters the call would copy.

* `*_C07_exact` — ESOVRLP is returned EXACTLY when the `c = min(m + 1, dmax)` cells starting at the two pointers — the
  cells the copy reads and writes, terminator included, capped by `dmax` — meet; then one handler call, dest cleared,
  nothing outside dest touched (`OvrlpPost`).  In particular a source that lies INSIDE the `dmax` cells of dest but
  behind the cells copied (`m < g < dmax`) is accepted; with null-slack it is then zeroed by the fill (`CpyC06`: zeros up
  to `dmax`) — the listed `slack-fill-destroys-source` (`strcpy_s_C07_witness` in `Props/C07.lean`).
* `strncpy_s_C07_disjoint_*` / `wcsncpy_s_C07_disjoint_*` — when `slen = m` runs out, the last of these source cells,
  `src + m`, is NOT read; operands that are disjoint as objects (the `dmax` cells of dest / the source cells read) are
  rejected EXACTLY when `slen = m`, `src + m = dest` and `m < dmax` (`*_iff`): the listed deviation
  `bounded-copy-src-ends-at-dest`, as `_partial` + `_witness`.
* the concatenations (second half): dest holds a string of length `dl`; ESOVRLP EXACTLY when `src` lies inside the dest
  string (terminator included: met by the scan, `findEnd_hits`, or at the first test of the copy loop) or the
  `c = min(m + 1, dmax - dl)` cells appended and the `c` source cells meet (`CatC07`); the same `_iff` / `_partial` /
  `_witness` for the bounded ones; `*_C07_unterm`: dest without a NUL in `dmax` cells — ESOVRLP exactly when the scan runs
  into `src` (`dest < src < dest + dmax`), else ESUNTERM, dest cleared either way.
* `*_C07_noterm` — the unbounded functions on a source WITHOUT a terminator in the cells the loop gets to read: ESOVRLP
  when the copy reaches the other operand inside dest, else ESNOSPC.  Together with `_exact` / `_all` this covers every
  content of the source.
-/
namespace SafeC.Props.C07
open SafeC Gen

/-- the conclusion shared by the four copies -/
def CpyC07 (cfg : Cfg) (dest dmax src m : Nat) (st st' : St) (code : Nat) : Prop :=
  (code = ESOVRLP ↔ ¬ (dest + min (m+1) dmax ≤ src ∨ src + min (m+1) dmax ≤ dest)) ∧
  (code = ESOVRLP → OvrlpPost cfg dest dmax st st')

private theorem cpyC07_of_C06 {cfg : Cfg} {dest dmax src m : Nat} {st st' : St} {code : Nat}
    (h : C06.CpyC06 cfg dest dmax src m st st' code) : CpyC07 cfg dest dmax src m st st' code := by
  obtain ⟨hok, hno, hcases, _, hfail⟩ := h
  have hrest : code = ESOVRLP ↔ ¬ code = EOK ∧ ¬ code = ESNOSPC := by rcases hcases with rfl | rfl | rfl <;> decide
  refine ⟨by rw [hrest, hok, hno]; omega, fun hc => ?_⟩
  obtain ⟨h1, h2, h3, h4, h5⟩ := hfail (hc ▸ by decide)
  exact ⟨h4, hc ▸ h3, h1, h2, h5⟩

/-- **disjoint operands are never rejected** — corollary of the exact characterisation for every call that reads the
source terminator (`strcpy_s`, `wcscpy_s`, and the bounded copies when `m < slen`): the `dmax` cells of dest lie below
`src`, or the `m + 1` source cells lie below dest -/
theorem cpyC07_disjoint_not_rejected {cfg : Cfg} {dest dmax src m : Nat} {st st' : St} {code : Nat}
    (h : CpyC07 cfg dest dmax src m st st' code) (hdisj : dest + dmax ≤ src ∨ src + m + 1 ≤ dest) :
    code ≠ ESOVRLP := by
  intro hc
  have := h.1.1 hc
  omega

/-- **strcpy_s: ESOVRLP exactly when the cells copied meet** — source string of length `n` at any address ≠ dest -/
theorem strcpy_s_C07_exact (cfg : Cfg) (dest dmax src n : Nat) (destbos : Bos) (st : St)
    (hall : ∀ a, st.mapped a = true ∧ st.rd a = true)
    (hd : dest ≠ 0) (hs : src ≠ 0) (hne : dest ≠ src) (hpos : 0 < dmax) (hle : dmax ≤ RSIZE_MAX_STR)
    (hb : ∀ b, destbos = some b → dmax ≤ b)
    (hrw : RW st dest dmax)
    (hnz : ∀ j, j < n → st.data (src + j) ≠ 0) (hnul : st.data (src + n) = 0) :
    ∃ code st', exec (strcpy_s cfg dest dmax src destbos) st = .ok (code, st') ∧
      CpyC07 cfg dest dmax src n st st' code := by
  obtain ⟨code, st', he, hp⟩ := C06.strcpy_s_C06_all cfg dest dmax src n destbos st hall hd hs hne hpos hle hb hrw hnz hnul
  exact ⟨code, st', he, cpyC07_of_C06 hp⟩

/-- the wide twin of `strcpy_s_C07_exact` (cells are `wchar_t`, limit `RSIZE_MAX_WSTR`, known object sizes in bytes) -/
theorem wcscpy_s_C07_exact (cfg : Cfg) (dest dmax src n : Nat) (destbos : Bos) (st : St)
    (hall : ∀ a, st.mapped a = true ∧ st.rd a = true)
    (hd : dest ≠ 0) (hs : src ≠ 0) (hne : dest ≠ src) (hpos : 0 < dmax) (hle : dmax ≤ RSIZE_MAX_WSTR)
    (hb : ∀ b, destbos = some b → dmax * SIZEOF_WCHAR_T ≤ b)
    (hrw : RW st dest dmax)
    (hnz : ∀ j, j < n → st.data (src + j) ≠ 0) (hnul : st.data (src + n) = 0) :
    ∃ code st', exec (wcscpy_s cfg dest dmax src destbos) st = .ok (code, st') ∧
      CpyC07 cfg dest dmax src n st st' code := by
  obtain ⟨code, st', he, hp⟩ := C06.wcscpy_s_C06_all cfg dest dmax src n destbos st hall hd hs hne hpos hle hb hrw hnz hnul
  exact ⟨code, st', he, cpyC07_of_C06 hp⟩

private theorem ncpyC07_disjoint {cfg : Cfg} {dest dmax src slen m : Nat} {st st' : St} {code : Nat}
    (h : CpyC07 cfg dest dmax src m st st' code)
    (hdisj : dest + dmax ≤ src ∨ (m < slen ∧ src + m + 1 ≤ dest) ∨ (slen = m ∧ src + m ≤ dest)) :
    code = ESOVRLP ↔ slen = m ∧ src + m = dest ∧ m < dmax := by
  -- on operands disjoint as objects the cells meet only when `slen = m` counts the cell `src + m = dest`
  have hmeet : ¬ (dest + min (m+1) dmax ≤ src ∨ src + min (m+1) dmax ≤ dest) ↔
      slen = m ∧ src + m = dest ∧ m < dmax := by omega
  exact h.1.trans hmeet

/-- **strncpy_s: ESOVRLP exactly when the `min (m+1) dmax` cells starting at the two pointers meet** (identical
pointers included: always), `m = min(slen, strlen src)`, `0 < slen` -/
theorem strncpy_s_C07_exact (cfg : Cfg) (dest dmax src slen m : Nat) (destbos srcbos : Bos) (st : St)
    (hall : ∀ a, st.mapped a = true ∧ st.rd a = true)
    (hd : dest ≠ 0) (hs : src ≠ 0) (hpos : 0 < dmax) (hle : dmax ≤ RSIZE_MAX_STR)
    (hslen : 0 < slen) (hslenle : slen ≤ RSIZE_MAX_STR)
    (hb : ∀ b, destbos = some b → dmax ≤ b) (hsb : ∀ sb, srcbos = some sb → slen ≤ sb)
    (hrw : RW st dest dmax)
    (hnz : ∀ j, j < m → st.data (src + j) ≠ 0)
    (hfin : (m < slen ∧ st.data (src + m) = 0) ∨ slen = m) :
    ∃ code st', exec (strncpy_s cfg dest dmax src slen destbos srcbos) st = .ok (code, st') ∧
      CpyC07 cfg dest dmax src m st st' code := by
  obtain ⟨code, st', he, hp⟩ := C06.strncpy_s_C06_all cfg dest dmax src slen m destbos srcbos st hall hd hs hpos hle hslen hslenle hb hsb hrw hnz hfin
  exact ⟨code, st', he, cpyC07_of_C06 hp⟩

/-- the wide twin of `strncpy_s_C07_exact` (cells are `wchar_t`, limit `RSIZE_MAX_WSTR`, known object sizes in bytes) -/
theorem wcsncpy_s_C07_exact (cfg : Cfg) (dest dmax src slen m : Nat) (destbos srcbos : Bos) (st : St)
    (hall : ∀ a, st.mapped a = true ∧ st.rd a = true)
    (hd : dest ≠ 0) (hs : src ≠ 0) (hpos : 0 < dmax) (hle : dmax ≤ RSIZE_MAX_WSTR)
    (hslen : 0 < slen) (hslenle : slen ≤ RSIZE_MAX_WSTR)
    (hb : ∀ b, destbos = some b → dmax * SIZEOF_WCHAR_T ≤ b)
    (hsb : ∀ sb, srcbos = some sb → slen * SIZEOF_WCHAR_T ≤ sb)
    (hrw : RW st dest dmax)
    (hnz : ∀ j, j < m → st.data (src + j) ≠ 0)
    (hfin : (m < slen ∧ st.data (src + m) = 0) ∨ slen = m) :
    ∃ code st', exec (wcsncpy_s cfg dest dmax src slen destbos srcbos) st = .ok (code, st') ∧
      CpyC07 cfg dest dmax src m st st' code := by
  obtain ⟨code, st', he, hp⟩ := C06.wcsncpy_s_C06_all cfg dest dmax src slen m destbos srcbos st hall hd hs hpos hle hslen hslenle hb hsb hrw hnz hfin
  exact ⟨code, st', he, cpyC07_of_C06 hp⟩

/-- **strncpy_s on operands that are disjoint as objects** (the `dmax` cells of dest; the source cells READ: `m + 1`
when the terminator is read, `m` when `slen = m` runs out): they are rejected exactly when `slen = m`, the `slen`
source characters end exactly at dest and the loop gets that far (`m < dmax`) -/
theorem strncpy_s_C07_disjoint_iff (cfg : Cfg) (dest dmax src slen m : Nat) (destbos srcbos : Bos) (st : St)
    (hall : ∀ a, st.mapped a = true ∧ st.rd a = true)
    (hd : dest ≠ 0) (hs : src ≠ 0) (hpos : 0 < dmax) (hle : dmax ≤ RSIZE_MAX_STR)
    (hslen : 0 < slen) (hslenle : slen ≤ RSIZE_MAX_STR)
    (hb : ∀ b, destbos = some b → dmax ≤ b) (hsb : ∀ sb, srcbos = some sb → slen ≤ sb)
    (hrw : RW st dest dmax)
    (hnz : ∀ j, j < m → st.data (src + j) ≠ 0)
    (hfin : (m < slen ∧ st.data (src + m) = 0) ∨ slen = m)
    (hdisj : dest + dmax ≤ src ∨ (m < slen ∧ src + m + 1 ≤ dest) ∨ (slen = m ∧ src + m ≤ dest)) :
    ∃ code st', exec (strncpy_s cfg dest dmax src slen destbos srcbos) st = .ok (code, st') ∧
      (code = ESOVRLP ↔ slen = m ∧ src + m = dest ∧ m < dmax) := by
  obtain ⟨code, st', he, hp⟩ := strncpy_s_C07_exact cfg dest dmax src slen m destbos srcbos st hall hd hs hpos hle hslen
    hslenle hb hsb hrw hnz hfin
  exact ⟨code, st', he, ncpyC07_disjoint hp hdisj⟩

/-- the wide twin of `strncpy_s_C07_disjoint_iff` (cells are `wchar_t`, limit `RSIZE_MAX_WSTR`, known object sizes in bytes) -/
theorem wcsncpy_s_C07_disjoint_iff (cfg : Cfg) (dest dmax src slen m : Nat) (destbos srcbos : Bos) (st : St)
    (hall : ∀ a, st.mapped a = true ∧ st.rd a = true)
    (hd : dest ≠ 0) (hs : src ≠ 0) (hpos : 0 < dmax) (hle : dmax ≤ RSIZE_MAX_WSTR)
    (hslen : 0 < slen) (hslenle : slen ≤ RSIZE_MAX_WSTR)
    (hb : ∀ b, destbos = some b → dmax * SIZEOF_WCHAR_T ≤ b)
    (hsb : ∀ sb, srcbos = some sb → slen * SIZEOF_WCHAR_T ≤ sb)
    (hrw : RW st dest dmax)
    (hnz : ∀ j, j < m → st.data (src + j) ≠ 0)
    (hfin : (m < slen ∧ st.data (src + m) = 0) ∨ slen = m)
    (hdisj : dest + dmax ≤ src ∨ (m < slen ∧ src + m + 1 ≤ dest) ∨ (slen = m ∧ src + m ≤ dest)) :
    ∃ code st', exec (wcsncpy_s cfg dest dmax src slen destbos srcbos) st = .ok (code, st') ∧
      (code = ESOVRLP ↔ slen = m ∧ src + m = dest ∧ m < dmax) := by
  obtain ⟨code, st', he, hp⟩ := wcsncpy_s_C07_exact cfg dest dmax src slen m destbos srcbos st hall hd hs hpos hle hslen
    hslenle hb hsb hrw hnz hfin
  exact ⟨code, st', he, ncpyC07_disjoint hp hdisj⟩

/- FULL statement (false of the model, not stated as a theorem): the hypotheses of `strncpy_s_C07_disjoint_iff`
(operands disjoint as objects) ⇒ `code ≠ ESOVRLP`.  By `strncpy_s_C07_disjoint_iff` it fails exactly at
`slen = m ∧ src + m = dest ∧ m < dmax`; the same for `wcsncpy_s`. -/

/-- **strncpy_s never rejects operands that are disjoint as objects**, except for a source whose `slen` characters end
exactly at dest (hypothesis `hex`: exactly the point `strncpy_s_C07_disjoint_iff` names) -/
theorem strncpy_s_C07_disjoint_partial (cfg : Cfg) (dest dmax src slen m : Nat) (destbos srcbos : Bos) (st : St)
    (hall : ∀ a, st.mapped a = true ∧ st.rd a = true)
    (hd : dest ≠ 0) (hs : src ≠ 0) (hpos : 0 < dmax) (hle : dmax ≤ RSIZE_MAX_STR)
    (hslen : 0 < slen) (hslenle : slen ≤ RSIZE_MAX_STR)
    (hb : ∀ b, destbos = some b → dmax ≤ b) (hsb : ∀ sb, srcbos = some sb → slen ≤ sb)
    (hrw : RW st dest dmax)
    (hnz : ∀ j, j < m → st.data (src + j) ≠ 0)
    (hfin : (m < slen ∧ st.data (src + m) = 0) ∨ slen = m)
    (hdisj : dest + dmax ≤ src ∨ (m < slen ∧ src + m + 1 ≤ dest) ∨ (slen = m ∧ src + m ≤ dest))
    (hex : ¬ (slen = m ∧ src + m = dest ∧ m < dmax)) :
    ∃ code st', exec (strncpy_s cfg dest dmax src slen destbos srcbos) st = .ok (code, st') ∧ code ≠ ESOVRLP := by
  obtain ⟨code, st', he, hp⟩ := strncpy_s_C07_exact cfg dest dmax src slen m destbos srcbos st hall hd hs hpos hle hslen
    hslenle hb hsb hrw hnz hfin
  exact ⟨code, st', he, fun hc => hex ((ncpyC07_disjoint hp hdisj).1 hc)⟩

/-- the wide twin of `strncpy_s_C07_disjoint_partial` (cells are `wchar_t`, limit `RSIZE_MAX_WSTR`, known object sizes in bytes) -/
theorem wcsncpy_s_C07_disjoint_partial (cfg : Cfg) (dest dmax src slen m : Nat) (destbos srcbos : Bos) (st : St)
    (hall : ∀ a, st.mapped a = true ∧ st.rd a = true)
    (hd : dest ≠ 0) (hs : src ≠ 0) (hpos : 0 < dmax) (hle : dmax ≤ RSIZE_MAX_WSTR)
    (hslen : 0 < slen) (hslenle : slen ≤ RSIZE_MAX_WSTR)
    (hb : ∀ b, destbos = some b → dmax * SIZEOF_WCHAR_T ≤ b)
    (hsb : ∀ sb, srcbos = some sb → slen * SIZEOF_WCHAR_T ≤ sb)
    (hrw : RW st dest dmax)
    (hnz : ∀ j, j < m → st.data (src + j) ≠ 0)
    (hfin : (m < slen ∧ st.data (src + m) = 0) ∨ slen = m)
    (hdisj : dest + dmax ≤ src ∨ (m < slen ∧ src + m + 1 ≤ dest) ∨ (slen = m ∧ src + m ≤ dest))
    (hex : ¬ (slen = m ∧ src + m = dest ∧ m < dmax)) :
    ∃ code st', exec (wcsncpy_s cfg dest dmax src slen destbos srcbos) st = .ok (code, st') ∧ code ≠ ESOVRLP := by
  obtain ⟨code, st', he, hp⟩ := wcsncpy_s_C07_exact cfg dest dmax src slen m destbos srcbos st hall hd hs hpos hle hslen
    hslenle hb hsb hrw hnz hfin
  exact ⟨code, st', he, fun hc => hex ((ncpyC07_disjoint hp hdisj).1 hc)⟩

/-- the excluded point (`endSt`: `a[4] = 'x'` at 104, dest = `a + 5`, 2 cells): `strncpy_s(a+5, 2, a+4, 1)` —
`slen = m = 1`, `src + m = dest`, `m < dmax`: the hypotheses of `strncpy_s_C07_disjoint_iff` hold, ESOVRLP — **listed**:
`bounded-copy-src-ends-at-dest` -/
theorem strncpy_s_C07_disjoint_witness :
    ((1 : Nat) = 1 ∧ (104 : Nat) + 1 ≤ 105) ∧ endSt.data (104 + 0) ≠ 0 ∧
      retCode (exec (strncpy_s {} 105 2 104 1 none none) endSt) = some ESOVRLP := by
  decide

/-- the wide twin of `strncpy_s_C07_disjoint_witness` -/
theorem wcsncpy_s_C07_disjoint_witness :
    ((1 : Nat) = 1 ∧ (104 : Nat) + 1 ≤ 105) ∧ endSt.data (104 + 0) ≠ 0 ∧
      retCode (exec (wcsncpy_s {} 105 2 104 1 none none) endSt) = some ESOVRLP := by
  decide

/-- non-vacuity of the `_partial` theorems: `endSt`, the same source copied to a dest one cell further (`a + 6`):
`slen = m = 1`, `src + m < dest` -/
example : (∀ a, endSt.mapped a = true ∧ endSt.rd a = true) ∧ RW endSt 106 1 ∧
    (∀ j, j < 1 → endSt.data (104 + j) ≠ 0) ∧ ((1 : Nat) = 1 ∧ (104 : Nat) + 1 ≤ 106) ∧
    ¬ ((1 : Nat) = 1 ∧ (104 : Nat) + 1 = 106 ∧ 1 < 1) := by
  refine ⟨fun _ => ⟨rfl, rfl⟩, fun i hi => ⟨rfl, ?_, rfl⟩, ?_, by decide, by decide⟩
  · simp [endSt]; omega
  · intro j hj
    have : j = 0 := by omega
    subst this; decide

/-- non-vacuity of the `_exact` theorems: source "x" at 104, dest = the 2 cells at 105 (the terminator read is dest[0]) — ESOVRLP -/
example : retCode (exec (strcpy_s {} 105 2 104 none) endSt) = some ESOVRLP := by decide

/-- the conclusion shared by the four concatenations: `dl` = old length of dest, `m` characters appended -/
def CatC07 (cfg : Cfg) (dest dmax dl src m : Nat) (st st' : St) (code : Nat) : Prop :=
  (code = ESOVRLP ↔ ¬ (dest + dl + min (m+1) (dmax - dl) ≤ src ∨ src + min (m+1) (dmax - dl) ≤ dest)) ∧
  (code = ESOVRLP → OvrlpPost cfg dest dmax st st')

private theorem catC07_of_C06 {cfg : Cfg} {dest dmax dl src m : Nat} {st st' : St} {code : Nat}
    (hdl : dl < dmax) (h : C06.CatC06 cfg dest dmax dl src m st st' code) : CatC07 cfg dest dmax dl src m st st' code := by
  obtain ⟨hok, hno, hcases, _, hfail⟩ := h
  have hrest : code = ESOVRLP ↔ ¬ code = EOK ∧ ¬ code = ESNOSPC := by rcases hcases with rfl | rfl | rfl <;> decide
  refine ⟨by rw [hrest, hok, hno]; omega, fun hc => ?_⟩
  obtain ⟨h1, h2, h3, h4, h5⟩ := hfail (hc ▸ by decide)
  exact ⟨h4, hc ▸ h3, h1, h2, h5⟩

private theorem ncatC07_disjoint {cfg : Cfg} {dest dmax dl src slen m : Nat} {st st' : St} {code : Nat}
    (hdl : dl < dmax) (h : CatC07 cfg dest dmax dl src m st st' code)
    (hdisj : dest + dmax ≤ src ∨ (m < slen ∧ src + m + 1 ≤ dest) ∨ (slen = m ∧ src + m ≤ dest)) :
    code = ESOVRLP ↔ slen = m ∧ src + m = dest ∧ dl + m < dmax := by
  have hmeet : ¬ (dest + dl + min (m+1) (dmax - dl) ≤ src ∨ src + min (m+1) (dmax - dl) ≤ dest) ↔
      slen = m ∧ src + m = dest ∧ dl + m < dmax := by omega
  exact h.1.trans hmeet

/-- **disjoint operands are never rejected by the concatenations** when the source terminator is read (`strcat_s`,
`wcscat_s`, the bounded ones when `m < slen`) -/
theorem catC07_disjoint_not_rejected {cfg : Cfg} {dest dmax dl src m : Nat} {st st' : St} {code : Nat}
    (hdl : dl < dmax) (h : CatC07 cfg dest dmax dl src m st st' code)
    (hdisj : dest + dmax ≤ src ∨ src + m + 1 ≤ dest) : code ≠ ESOVRLP := by
  intro hc
  have := h.1.1 hc
  omega

/-- **strcat_s: ESOVRLP exactly when `src` lies inside the dest string or the cells appended meet the source cells** —
dest string of length `dl < dmax`, source string of length `n` at any address (identical pointers included) -/
theorem strcat_s_C07_exact (cfg : Cfg) (dest dmax src dl n : Nat) (destbos : Bos) (st : St)
    (hall : ∀ a, st.mapped a = true ∧ st.rd a = true)
    (hd : dest ≠ 0) (hs : src ≠ 0) (hpos : 0 < dmax) (hle : dmax ≤ RSIZE_MAX_STR)
    (hb : ∀ b, destbos = some b → dmax ≤ b)
    (hrw : RW st dest dmax)
    (hdl : dl < dmax) (hdnz : ∀ j, j < dl → st.data (dest + j) ≠ 0) (hdnul : st.data (dest + dl) = 0)
    (hnz : ∀ j, j < n → st.data (src + j) ≠ 0) (hnul : st.data (src + n) = 0) :
    ∃ code st', exec (strcat_s cfg dest dmax src destbos) st = .ok (code, st') ∧
      CatC07 cfg dest dmax dl src n st st' code := by
  obtain ⟨code, st', he, hp⟩ := C06.strcat_s_C06_all cfg dest dmax src dl n destbos st hall hd hs hpos hle hb hrw hdl hdnz hdnul hnz hnul
  exact ⟨code, st', he, catC07_of_C06 hdl hp⟩

/-- the wide twin of `strcat_s_C07_exact` (cells are `wchar_t`, limit `RSIZE_MAX_WSTR`, known object sizes in bytes) -/
theorem wcscat_s_C07_exact (cfg : Cfg) (dest dmax src dl n : Nat) (destbos : Bos) (st : St)
    (hall : ∀ a, st.mapped a = true ∧ st.rd a = true)
    (hd : dest ≠ 0) (hs : src ≠ 0) (hpos : 0 < dmax) (hle : dmax ≤ RSIZE_MAX_WSTR)
    (hb : ∀ b, destbos = some b → dmax * SIZEOF_WCHAR_T ≤ b)
    (hrw : RW st dest dmax)
    (hdl : dl < dmax) (hdnz : ∀ j, j < dl → st.data (dest + j) ≠ 0) (hdnul : st.data (dest + dl) = 0)
    (hnz : ∀ j, j < n → st.data (src + j) ≠ 0) (hnul : st.data (src + n) = 0) :
    ∃ code st', exec (wcscat_s cfg dest dmax src destbos) st = .ok (code, st') ∧
      CatC07 cfg dest dmax dl src n st st' code := by
  obtain ⟨code, st', he, hp⟩ := C06.wcscat_s_C06_all cfg dest dmax src dl n destbos st hall hd hs hpos hle hb hrw hdl hdnz hdnul hnz hnul
  exact ⟨code, st', he, catC07_of_C06 hdl hp⟩

/-- **strncat_s: ESOVRLP exactly when `src` lies inside the dest string or the `min (m+1) (dmax-dl)` cells appended and
read meet**, `m = min(slen, strlen src)`, `0 < slen` -/
theorem strncat_s_C07_exact (cfg : Cfg) (dest dmax src slen dl m : Nat) (destbos srcbos : Bos) (st : St)
    (hall : ∀ a, st.mapped a = true ∧ st.rd a = true)
    (hd : dest ≠ 0) (hs : src ≠ 0) (hpos : 0 < dmax) (hle : dmax ≤ RSIZE_MAX_STR)
    (hslen : 0 < slen) (hslenle : slen ≤ RSIZE_MAX_STR)
    (hb : ∀ b, destbos = some b → dmax ≤ b) (hsb : ∀ sb, srcbos = some sb → slen ≤ sb)
    (hrw : RW st dest dmax)
    (hdl : dl < dmax) (hdnz : ∀ j, j < dl → st.data (dest + j) ≠ 0) (hdnul : st.data (dest + dl) = 0)
    (hnz : ∀ j, j < m → st.data (src + j) ≠ 0)
    (hfin : (m < slen ∧ st.data (src + m) = 0) ∨ slen = m) :
    ∃ code st', exec (strncat_s cfg dest dmax src slen destbos srcbos) st = .ok (code, st') ∧
      CatC07 cfg dest dmax dl src m st st' code := by
  obtain ⟨code, st', he, hp⟩ := C06.strncat_s_C06_all cfg dest dmax src slen dl m destbos srcbos st hall hd hs hpos hle hslen hslenle hb hsb hrw hdl hdnz hdnul hnz hfin
  exact ⟨code, st', he, catC07_of_C06 hdl hp⟩

/-- the wide twin of `strncat_s_C07_exact` (cells are `wchar_t`, limit `RSIZE_MAX_WSTR`, known object sizes in bytes) -/
theorem wcsncat_s_C07_exact (cfg : Cfg) (dest dmax src slen dl m : Nat) (destbos srcbos : Bos) (st : St)
    (hall : ∀ a, st.mapped a = true ∧ st.rd a = true)
    (hd : dest ≠ 0) (hs : src ≠ 0) (hpos : 0 < dmax) (hle : dmax ≤ RSIZE_MAX_WSTR)
    (hslen : 0 < slen) (hslenle : slen ≤ RSIZE_MAX_WSTR)
    (hb : ∀ b, destbos = some b → dmax * SIZEOF_WCHAR_T ≤ b)
    (hsb : ∀ sb, srcbos = some sb → slen * SIZEOF_WCHAR_T ≤ sb)
    (hrw : RW st dest dmax)
    (hdl : dl < dmax) (hdnz : ∀ j, j < dl → st.data (dest + j) ≠ 0) (hdnul : st.data (dest + dl) = 0)
    (hnz : ∀ j, j < m → st.data (src + j) ≠ 0)
    (hfin : (m < slen ∧ st.data (src + m) = 0) ∨ slen = m) :
    ∃ code st', exec (wcsncat_s cfg dest dmax src slen destbos srcbos) st = .ok (code, st') ∧
      CatC07 cfg dest dmax dl src m st st' code := by
  obtain ⟨code, st', he, hp⟩ := C06.wcsncat_s_C06_all cfg dest dmax src slen dl m destbos srcbos st hall hd hs hpos hle hslen hslenle hb hsb hrw hdl hdnz hdnul hnz hfin
  exact ⟨code, st', he, catC07_of_C06 hdl hp⟩

/-- **strncat_s on operands that are disjoint as objects**: rejected exactly when `slen = m`, the `slen` source
characters end exactly at dest and the loop gets that far (`dl + m < dmax`) -/
theorem strncat_s_C07_disjoint_iff (cfg : Cfg) (dest dmax src slen dl m : Nat) (destbos srcbos : Bos) (st : St)
    (hall : ∀ a, st.mapped a = true ∧ st.rd a = true)
    (hd : dest ≠ 0) (hs : src ≠ 0) (hpos : 0 < dmax) (hle : dmax ≤ RSIZE_MAX_STR)
    (hslen : 0 < slen) (hslenle : slen ≤ RSIZE_MAX_STR)
    (hb : ∀ b, destbos = some b → dmax ≤ b) (hsb : ∀ sb, srcbos = some sb → slen ≤ sb)
    (hrw : RW st dest dmax)
    (hdl : dl < dmax) (hdnz : ∀ j, j < dl → st.data (dest + j) ≠ 0) (hdnul : st.data (dest + dl) = 0)
    (hnz : ∀ j, j < m → st.data (src + j) ≠ 0)
    (hfin : (m < slen ∧ st.data (src + m) = 0) ∨ slen = m)
    (hdisj : dest + dmax ≤ src ∨ (m < slen ∧ src + m + 1 ≤ dest) ∨ (slen = m ∧ src + m ≤ dest)) :
    ∃ code st', exec (strncat_s cfg dest dmax src slen destbos srcbos) st = .ok (code, st') ∧
      (code = ESOVRLP ↔ slen = m ∧ src + m = dest ∧ dl + m < dmax) := by
  obtain ⟨code, st', he, hp⟩ := strncat_s_C07_exact cfg dest dmax src slen dl m destbos srcbos st hall hd hs hpos hle hslen
    hslenle hb hsb hrw hdl hdnz hdnul hnz hfin
  exact ⟨code, st', he, ncatC07_disjoint hdl hp hdisj⟩

/-- the wide twin of `strncat_s_C07_disjoint_iff` (cells are `wchar_t`, limit `RSIZE_MAX_WSTR`, known object sizes in bytes) -/
theorem wcsncat_s_C07_disjoint_iff (cfg : Cfg) (dest dmax src slen dl m : Nat) (destbos srcbos : Bos) (st : St)
    (hall : ∀ a, st.mapped a = true ∧ st.rd a = true)
    (hd : dest ≠ 0) (hs : src ≠ 0) (hpos : 0 < dmax) (hle : dmax ≤ RSIZE_MAX_WSTR)
    (hslen : 0 < slen) (hslenle : slen ≤ RSIZE_MAX_WSTR)
    (hb : ∀ b, destbos = some b → dmax * SIZEOF_WCHAR_T ≤ b)
    (hsb : ∀ sb, srcbos = some sb → slen * SIZEOF_WCHAR_T ≤ sb)
    (hrw : RW st dest dmax)
    (hdl : dl < dmax) (hdnz : ∀ j, j < dl → st.data (dest + j) ≠ 0) (hdnul : st.data (dest + dl) = 0)
    (hnz : ∀ j, j < m → st.data (src + j) ≠ 0)
    (hfin : (m < slen ∧ st.data (src + m) = 0) ∨ slen = m)
    (hdisj : dest + dmax ≤ src ∨ (m < slen ∧ src + m + 1 ≤ dest) ∨ (slen = m ∧ src + m ≤ dest)) :
    ∃ code st', exec (wcsncat_s cfg dest dmax src slen destbos srcbos) st = .ok (code, st') ∧
      (code = ESOVRLP ↔ slen = m ∧ src + m = dest ∧ dl + m < dmax) := by
  obtain ⟨code, st', he, hp⟩ := wcsncat_s_C07_exact cfg dest dmax src slen dl m destbos srcbos st hall hd hs hpos hle hslen
    hslenle hb hsb hrw hdl hdnz hdnul hnz hfin
  exact ⟨code, st', he, ncatC07_disjoint hdl hp hdisj⟩

/- FULL statement (false of the model, not stated as a theorem): the hypotheses of `strncat_s_C07_disjoint_iff` ⇒
`code ≠ ESOVRLP`; fails exactly at `slen = m ∧ src + m = dest ∧ dl + m < dmax`; the same for `wcsncat_s`. -/

/-- **strncat_s never rejects operands that are disjoint as objects**, except for a source whose `slen` characters end
exactly at dest (hypothesis `hex`: exactly the point `strncat_s_C07_disjoint_iff` names) -/
theorem strncat_s_C07_disjoint_partial (cfg : Cfg) (dest dmax src slen dl m : Nat) (destbos srcbos : Bos) (st : St)
    (hall : ∀ a, st.mapped a = true ∧ st.rd a = true)
    (hd : dest ≠ 0) (hs : src ≠ 0) (hpos : 0 < dmax) (hle : dmax ≤ RSIZE_MAX_STR)
    (hslen : 0 < slen) (hslenle : slen ≤ RSIZE_MAX_STR)
    (hb : ∀ b, destbos = some b → dmax ≤ b) (hsb : ∀ sb, srcbos = some sb → slen ≤ sb)
    (hrw : RW st dest dmax)
    (hdl : dl < dmax) (hdnz : ∀ j, j < dl → st.data (dest + j) ≠ 0) (hdnul : st.data (dest + dl) = 0)
    (hnz : ∀ j, j < m → st.data (src + j) ≠ 0)
    (hfin : (m < slen ∧ st.data (src + m) = 0) ∨ slen = m)
    (hdisj : dest + dmax ≤ src ∨ (m < slen ∧ src + m + 1 ≤ dest) ∨ (slen = m ∧ src + m ≤ dest))
    (hex : ¬ (slen = m ∧ src + m = dest ∧ dl + m < dmax)) :
    ∃ code st', exec (strncat_s cfg dest dmax src slen destbos srcbos) st = .ok (code, st') ∧ code ≠ ESOVRLP := by
  obtain ⟨code, st', he, hp⟩ := strncat_s_C07_exact cfg dest dmax src slen dl m destbos srcbos st hall hd hs hpos hle hslen
    hslenle hb hsb hrw hdl hdnz hdnul hnz hfin
  exact ⟨code, st', he, fun hc => hex ((ncatC07_disjoint hdl hp hdisj).1 hc)⟩

/-- the wide twin of `strncat_s_C07_disjoint_partial` (cells are `wchar_t`, limit `RSIZE_MAX_WSTR`, known object sizes in bytes) -/
theorem wcsncat_s_C07_disjoint_partial (cfg : Cfg) (dest dmax src slen dl m : Nat) (destbos srcbos : Bos) (st : St)
    (hall : ∀ a, st.mapped a = true ∧ st.rd a = true)
    (hd : dest ≠ 0) (hs : src ≠ 0) (hpos : 0 < dmax) (hle : dmax ≤ RSIZE_MAX_WSTR)
    (hslen : 0 < slen) (hslenle : slen ≤ RSIZE_MAX_WSTR)
    (hb : ∀ b, destbos = some b → dmax * SIZEOF_WCHAR_T ≤ b)
    (hsb : ∀ sb, srcbos = some sb → slen * SIZEOF_WCHAR_T ≤ sb)
    (hrw : RW st dest dmax)
    (hdl : dl < dmax) (hdnz : ∀ j, j < dl → st.data (dest + j) ≠ 0) (hdnul : st.data (dest + dl) = 0)
    (hnz : ∀ j, j < m → st.data (src + j) ≠ 0)
    (hfin : (m < slen ∧ st.data (src + m) = 0) ∨ slen = m)
    (hdisj : dest + dmax ≤ src ∨ (m < slen ∧ src + m + 1 ≤ dest) ∨ (slen = m ∧ src + m ≤ dest))
    (hex : ¬ (slen = m ∧ src + m = dest ∧ dl + m < dmax)) :
    ∃ code st', exec (wcsncat_s cfg dest dmax src slen destbos srcbos) st = .ok (code, st') ∧ code ≠ ESOVRLP := by
  obtain ⟨code, st', he, hp⟩ := wcsncat_s_C07_exact cfg dest dmax src slen dl m destbos srcbos st hall hd hs hpos hle hslen
    hslenle hb hsb hrw hdl hdnz hdnul hnz hfin
  exact ⟨code, st', he, fun hc => hex ((ncatC07_disjoint hdl hp hdisj).1 hc)⟩

/-- the excluded point on `endSt`: `strncat_s(a+5, 2, a+4, 1)` with `a+5 = ""` (`dl = 0`), `slen = m = 1`,
`src + m = dest`, `dl + m < dmax`: ESOVRLP — **listed**: `bounded-copy-src-ends-at-dest` -/
theorem strncat_s_C07_disjoint_witness :
    ((1 : Nat) = 1 ∧ (104 : Nat) + 1 ≤ 105) ∧ endSt.data (104 + 0) ≠ 0 ∧ endSt.data (105 + 0) = 0 ∧
      retCode (exec (strncat_s {} 105 2 104 1 none none) endSt) = some ESOVRLP := by
  decide

/-- the wide twin of `strncat_s_C07_disjoint_witness` -/
theorem wcsncat_s_C07_disjoint_witness :
    ((1 : Nat) = 1 ∧ (104 : Nat) + 1 ≤ 105) ∧ endSt.data (104 + 0) ≠ 0 ∧ endSt.data (105 + 0) = 0 ∧
      retCode (exec (wcsncat_s {} 105 2 104 1 none none) endSt) = some ESOVRLP := by
  decide

/-- what the four concatenations do when dest holds no NUL in its `dmax` cells -/
def CatUnterm (cfg : Cfg) (dest dmax src : Nat) (st st' : St) (code : Nat) : Prop :=
  (code = if dest < src ∧ src < dest + dmax then ESOVRLP else ESUNTERM) ∧
  st'.data dest = 0 ∧ (cfg.slack = true → ∀ i, i < dmax → st'.data (dest + i) = 0) ∧
  st'.events = st.events ++ [.handler .str code] ∧ st'.strays = st.strays ∧
  (∀ a, ¬ (dest ≤ a ∧ a < dest + dmax) → st'.data a = st.data a)

private theorem catUnterm_of {cfg : Cfg} {bounded : Bool} {dest dmax src slen : Nat} {st : St}
    (hpos : 0 < dmax) (hrw : RW st dest dmax) (hdnz : ∀ j, j < dmax → st.data (dest + j) ≠ 0) :
    ∃ code st', exec (catBody cfg bounded dest dmax src slen) st = .ok (code, st') ∧
      CatUnterm cfg dest dmax src st st' code := by
  obtain ⟨code, st', he, hc, hp⟩ := catBody_unterm cfg bounded dest dmax src slen st hpos hrw hdnz
  exact ⟨code, st', he, hc, hp.first, hp.slack, hp.events, hp.strays, hp.frame⟩

/-- **strcat_s, dest not terminated within `dmax`** (any non-null src, any contents elsewhere; only dest needs to be mapped):
ESOVRLP exactly when the scan runs into `src`, else ESUNTERM; one handler call, dest cleared -/
theorem strcat_s_C07_unterm (cfg : Cfg) (dest dmax src : Nat) (destbos : Bos) (st : St)
    (hd : dest ≠ 0) (hs : src ≠ 0) (hpos : 0 < dmax) (hle : dmax ≤ RSIZE_MAX_STR)
    (hb : ∀ b, destbos = some b → dmax ≤ b)
    (hrw : RW st dest dmax) (hdnz : ∀ j, j < dmax → st.data (dest + j) ≠ 0) :
    ∃ code st', exec (strcat_s cfg dest dmax src destbos) st = .ok (code, st') ∧
      CatUnterm cfg dest dmax src st st' code := by
  unfold strcat_s
  rw [strcatG_eq_body _ cfg dest dmax src destbos hd hs hpos hle hb]
  exact catUnterm_of hpos hrw hdnz

/-- the wide twin of `strcat_s_C07_unterm` (cells are `wchar_t`, limit `RSIZE_MAX_WSTR`, known object sizes in bytes) -/
theorem wcscat_s_C07_unterm (cfg : Cfg) (dest dmax src : Nat) (destbos : Bos) (st : St)
    (hd : dest ≠ 0) (hs : src ≠ 0) (hpos : 0 < dmax) (hle : dmax ≤ RSIZE_MAX_WSTR)
    (hb : ∀ b, destbos = some b → dmax * SIZEOF_WCHAR_T ≤ b)
    (hrw : RW st dest dmax) (hdnz : ∀ j, j < dmax → st.data (dest + j) ≠ 0) :
    ∃ code st', exec (wcscat_s cfg dest dmax src destbos) st = .ok (code, st') ∧
      CatUnterm cfg dest dmax src st st' code := by
  rw [wcscat_s_eq_body cfg dest dmax src destbos hd hs hpos hle hb]
  exact catUnterm_of hpos hrw hdnz

/-- **strncat_s (`0 < slen`), dest not terminated within `dmax`**: as `strcat_s_C07_unterm` -/
theorem strncat_s_C07_unterm (cfg : Cfg) (dest dmax src slen : Nat) (destbos srcbos : Bos) (st : St)
    (hd : dest ≠ 0) (hs : src ≠ 0) (hpos : 0 < dmax) (hle : dmax ≤ RSIZE_MAX_STR)
    (hslen : 0 < slen) (hslenle : slen ≤ RSIZE_MAX_STR)
    (hb : ∀ b, destbos = some b → dmax ≤ b) (hsb : ∀ sb, srcbos = some sb → slen ≤ sb)
    (hrw : RW st dest dmax) (hdnz : ∀ j, j < dmax → st.data (dest + j) ≠ 0) :
    ∃ code st', exec (strncat_s cfg dest dmax src slen destbos srcbos) st = .ok (code, st') ∧
      CatUnterm cfg dest dmax src st st' code := by
  unfold strncat_s
  rw [strncatG_eq_body _ cfg dest dmax src slen destbos srcbos hd hs hpos hle hslen hslenle hb hsb]
  exact catUnterm_of hpos hrw hdnz

/-- the wide twin of `strncat_s_C07_unterm` (cells are `wchar_t`, limit `RSIZE_MAX_WSTR`, known object sizes in bytes) -/
theorem wcsncat_s_C07_unterm (cfg : Cfg) (dest dmax src slen : Nat) (destbos srcbos : Bos) (st : St)
    (hd : dest ≠ 0) (hs : src ≠ 0) (hpos : 0 < dmax) (hle : dmax ≤ RSIZE_MAX_WSTR)
    (hslen : 0 < slen) (hslenle : slen ≤ RSIZE_MAX_WSTR)
    (hb : ∀ b, destbos = some b → dmax * SIZEOF_WCHAR_T ≤ b)
    (hsb : ∀ sb, srcbos = some sb → slen * SIZEOF_WCHAR_T ≤ sb)
    (hrw : RW st dest dmax) (hdnz : ∀ j, j < dmax → st.data (dest + j) ≠ 0) :
    ∃ code st', exec (wcsncat_s cfg dest dmax src slen destbos srcbos) st = .ok (code, st') ∧
      CatUnterm cfg dest dmax src st st' code := by
  rw [wcsncat_s_eq_body cfg dest dmax src slen destbos srcbos hd hs hpos hle hslen hslenle hb hsb]
  exact catUnterm_of hpos hrw hdnz

/-- dest = "xy" (no NUL) in the 2 writable cells at 100, src = "a" at 101 / at 200 -/
def untSt : St :=
  { data := fun a => if a = 100 then 120 else if a = 101 then 121 else if a = 200 then 97 else 0
    mapped := fun _ => true, rd := fun _ => true
    wr := fun a => decide (100 ≤ a ∧ a < 102) }

/-- non-vacuity of the `_unterm` theorems, and both outcomes as test instances -/
example : RW untSt 100 2 ∧ (∀ j, j < 2 → untSt.data (100 + j) ≠ 0) ∧
    retCode (exec (strcat_s {} 100 2 101 none) untSt) = some ESOVRLP ∧
    retCode (exec (strcat_s {} 100 2 200 none) untSt) = some ESUNTERM := by
  refine ⟨fun i hi => ⟨rfl, ?_, rfl⟩, ?_, by decide, by decide⟩
  · simp [untSt]; omega
  · intro j hj
    have : j = 0 ∨ j = 1 := by omega
    rcases this with h | h <;> subst h <;> decide

/-- non-vacuity of the concatenation `_exact` / `_partial` theorems: `endSt` with dest = `a + 6` (empty string, 1 cell),
src = `a + 4` = "x", `slen = m = 1`, `src + m < dest` -/
example : (∀ a, endSt.mapped a = true ∧ endSt.rd a = true) ∧ RW endSt 106 1 ∧ endSt.data (106 + 0) = 0 ∧
    (∀ j, j < 1 → endSt.data (104 + j) ≠ 0) ∧ ((1 : Nat) = 1 ∧ (104 : Nat) + 1 ≤ 106) ∧
    ¬ ((1 : Nat) = 1 ∧ (104 : Nat) + 1 = 106 ∧ 0 + 1 < 1) := by
  refine ⟨fun _ => ⟨rfl, rfl⟩, fun i hi => ⟨rfl, ?_, rfl⟩, by decide, ?_, by decide, by decide⟩
  · simp [endSt]; omega
  · intro j hj
    have : j = 0 := by omega
    subst this; decide

/-! ## a source WITHOUT a terminator (the unbounded functions; the bounded ones are covered by `slen = m` above) -/

/-- a failing exit with the code `if g < k then ESOVRLP else ESNOSPC` -/
def NotermPost (cfg : Cfg) (dest dmax g k : Nat) (st st' : St) (code : Nat) : Prop :=
  code = (if g < k then ESOVRLP else ESNOSPC) ∧
  st'.data dest = 0 ∧ (cfg.slack = true → ∀ i, i < dmax → st'.data (dest + i) = 0) ∧
  st'.events = st.events ++ [.handler .str code] ∧ st'.strays = st.strays ∧
  (∀ a, ¬ (dest ≤ a ∧ a < dest + dmax) → st'.data a = st.data a)

private theorem noterm_of {cfg : Cfg} {dest dmax g k : Nat} {st st' : St} {code : Nat}
    (hc : code = (if g < k then ESOVRLP else ESNOSPC)) (hp : ClearedPost cfg dest dmax code st st') :
    NotermPost cfg dest dmax g k st st' code :=
  ⟨hc, hp.first, hp.slack, hp.events, hp.strays, hp.frame⟩

/-- **strcpy_s on a source that holds no NUL in the cells the loop gets to read** (`g` = pointer distance; the first
`min g dmax` source cells non-NUL, anything behind): ESOVRLP when the copy reaches the other operand inside dest
(`g < dmax`), else ESNOSPC; dest cleared, one handler event — never EOK, never a read or write past the bumper -/
theorem strcpy_s_C07_noterm (cfg : Cfg) (dest dmax src g : Nat) (destbos : Bos) (st : St)
    (hall : ∀ a, st.mapped a = true ∧ st.rd a = true)
    (hd : dest ≠ 0) (hs : src ≠ 0) (hpos : 0 < dmax) (hle : dmax ≤ RSIZE_MAX_STR)
    (hb : ∀ b, destbos = some b → dmax ≤ b)
    (hrw : RW st dest dmax)
    (hg : 0 < g ∧ ((dest < src ∧ src = dest + g) ∨ (src ≤ dest ∧ dest = src + g)))
    (hnz : ∀ j, j < g → j < dmax → st.data (src + j) ≠ 0) :
    ∃ code st', exec (strcpy_s cfg dest dmax src destbos) st = .ok (code, st') ∧
      NotermPost cfg dest dmax g dmax st st' code := by
  unfold strcpy_s
  rw [strcpyG_eq_body _ cfg dest dmax src destbos hd hs (by omega) hpos hle hb]
  obtain ⟨code, st', he, hc, hp⟩ := cpyBody_noterm cfg false dest dmax hpos dmax dest src g 0 st hall hrw ⟨Nat.le_refl _, rfl⟩ hg.2 hnz
    (fun h => nomatch h)
  exact ⟨code, st', he, noterm_of hc hp⟩

/-- the wide twin of `strcpy_s_C07_noterm` -/
theorem wcscpy_s_C07_noterm (cfg : Cfg) (dest dmax src g : Nat) (destbos : Bos) (st : St)
    (hall : ∀ a, st.mapped a = true ∧ st.rd a = true)
    (hd : dest ≠ 0) (hs : src ≠ 0) (hpos : 0 < dmax) (hle : dmax ≤ RSIZE_MAX_WSTR)
    (hb : ∀ b, destbos = some b → dmax * SIZEOF_WCHAR_T ≤ b)
    (hrw : RW st dest dmax)
    (hg : 0 < g ∧ ((dest < src ∧ src = dest + g) ∨ (src ≤ dest ∧ dest = src + g)))
    (hnz : ∀ j, j < g → j < dmax → st.data (src + j) ≠ 0) :
    ∃ code st', exec (wcscpy_s cfg dest dmax src destbos) st = .ok (code, st') ∧
      NotermPost cfg dest dmax g dmax st st' code := by
  rw [wcscpy_s_eq_body cfg dest dmax src destbos hd hs (by omega) hpos hle hb]
  obtain ⟨code, st', he, hc, hp⟩ := cpyBody_noterm cfg false dest dmax hpos dmax dest src g 0 st hall hrw ⟨Nat.le_refl _, rfl⟩ hg.2 hnz
    (fun h => nomatch h)
  exact ⟨code, st', he, noterm_of hc hp⟩

/-- **strcat_s on a source that holds no NUL in the cells the loop gets to read**: dest string of length `dl`, `src`
behind the dest string (`g` = distance from its terminator) or at/below dest (`g` = pointer distance; `src` INSIDE the
dest string is ESOVRLP whatever the source holds: `strcat_s_overlap`, `Props/C07Ext2.lean`); the first `min g (dmax - dl)` source cells
non-NUL: ESOVRLP when `g < dmax - dl`, else ESNOSPC; dest cleared -/
theorem strcat_s_C07_noterm (cfg : Cfg) (dest dmax src dl g : Nat) (destbos : Bos) (st : St)
    (hall : ∀ a, st.mapped a = true ∧ st.rd a = true)
    (hd : dest ≠ 0) (hs : src ≠ 0) (hpos : 0 < dmax) (hle : dmax ≤ RSIZE_MAX_STR)
    (hb : ∀ b, destbos = some b → dmax ≤ b)
    (hrw : RW st dest dmax)
    (hdl : dl < dmax) (hdnz : ∀ j, j < dl → st.data (dest + j) ≠ 0) (hdnul : st.data (dest + dl) = 0)
    (hg : (dest < src ∧ src = dest + dl + g) ∨ (src ≤ dest ∧ dest = src + g))
    (hnz : ∀ j, j < g → j < dmax - dl → st.data (src + j) ≠ 0) :
    ∃ code st', exec (strcat_s cfg dest dmax src destbos) st = .ok (code, st') ∧
      NotermPost cfg dest dmax g (dmax - dl) st st' code := by
  unfold strcat_s
  rw [strcatG_eq_body _ cfg dest dmax src destbos hd hs hpos hle hb]
  obtain ⟨code, st', he, hc, hp⟩ := catBody_noterm cfg dest dmax src dl g st hall hrw hdl hdnz hdnul hg hnz
  exact ⟨code, st', he, noterm_of hc hp⟩

/-- the wide twin of `strcat_s_C07_noterm` -/
theorem wcscat_s_C07_noterm (cfg : Cfg) (dest dmax src dl g : Nat) (destbos : Bos) (st : St)
    (hall : ∀ a, st.mapped a = true ∧ st.rd a = true)
    (hd : dest ≠ 0) (hs : src ≠ 0) (hpos : 0 < dmax) (hle : dmax ≤ RSIZE_MAX_WSTR)
    (hb : ∀ b, destbos = some b → dmax * SIZEOF_WCHAR_T ≤ b)
    (hrw : RW st dest dmax)
    (hdl : dl < dmax) (hdnz : ∀ j, j < dl → st.data (dest + j) ≠ 0) (hdnul : st.data (dest + dl) = 0)
    (hg : (dest < src ∧ src = dest + dl + g) ∨ (src ≤ dest ∧ dest = src + g))
    (hnz : ∀ j, j < g → j < dmax - dl → st.data (src + j) ≠ 0) :
    ∃ code st', exec (wcscat_s cfg dest dmax src destbos) st = .ok (code, st') ∧
      NotermPost cfg dest dmax g (dmax - dl) st st' code := by
  rw [wcscat_s_eq_body cfg dest dmax src destbos hd hs hpos hle hb]
  obtain ⟨code, st', he, hc, hp⟩ := catBody_noterm cfg dest dmax src dl g st hall hrw hdl hdnz hdnul hg hnz
  exact ⟨code, st', he, noterm_of hc hp⟩

/-- memory full of 'x' except the two cells 100, 101 (`dest`, writable) which hold "" and a NUL -/
def fullSt : St :=
  { data := fun a => if a = 100 ∨ a = 101 then 0 else 120
    mapped := fun _ => true, rd := fun _ => true
    wr := fun a => decide (100 ≤ a ∧ a < 102) }

/-- non-vacuity of the `_noterm` theorems (`fullSt`, src = 300, `g = 200 ≥ dmax = 2`), and both outcomes as test
instances: unterminated source far away → ESNOSPC; unterminated source one cell below dest → ESOVRLP -/
example : (∀ a, fullSt.mapped a = true ∧ fullSt.rd a = true) ∧ RW fullSt 100 2 ∧ fullSt.data (100 + 0) = 0 ∧
    (∀ j, j < 200 → j < 2 → fullSt.data (300 + j) ≠ 0) ∧
    retCode (exec (strcpy_s {} 100 2 300 none) fullSt) = some ESNOSPC ∧
    retCode (exec (strcat_s {} 100 2 300 none) fullSt) = some ESNOSPC ∧
    retCode (exec (strcpy_s {} 100 2 99 none) fullSt) = some ESOVRLP := by
  refine ⟨fun _ => ⟨rfl, rfl⟩, fun i hi => ⟨rfl, ?_, rfl⟩, by decide, ?_, by decide, by decide, by decide⟩
  · simp [fullSt]; omega
  · intro j _ hj
    have : j = 0 ∨ j = 1 := by omega
    rcases this with h | h <;> subst h <;> decide

end SafeC.Props.C07
