import SafeC.Props.C01
import SafeC.Proofs.ExSt
import SafeC.Proofs.ExtNarrow
import SafeC.Proofs.FldSteps
import SafeC.Proofs.ExtInplace
import SafeC.Proofs.ExtOs
import SafeC.Props.C06Os
/-! # C03 (extension): generic string families — string-producing calls never leave dest unterminated

One section per family, each with its own module comment:
* `PartCopy` — wide twins and stp pair
* `PartFld` — field copies
* `PartInplace` — in-place producers
* `PartOs` — getenv_s / strerror_s

Where the full statement depends on the repair switch `fixStpUnterm` of `Cfg` it is stated with the switch on (`…_fixed`),
and the excluded point with the switch off is exhibited on a concrete state (`…_witness`); for `fixInnerBos` (getenv_s)
there is the witness with the switch off only.
-/
namespace SafeC.Props.C03Ext

section PartCopy
open SafeC Gen SafeC.Props.C01
/-!
## C03 (extension) — string-producing calls never leave dest unterminated: the wide twins and the stp pair

Setting as in `Props/C03.lean`: every cell mapped and readable with ARBITRARY contents (no hypothesis on
`st.data`: dest may be garbage without a NUL, the source unterminated, the operands overlapping), dest's
`dmax` cells writable, dest usable (non-null, `0 < dmax ≤` the limit, and `dmax` elements inside the
object when its size is known — `destbos` is in BYTES for the wide functions).  Both slack configurations
(`cfg` arbitrary).  Conclusion: the call returns and a NUL exists in `dest[0..dmax)`.

* `wcsncpy_s`, `wcscat_s`, `wcsncat_s`: FULL, object and source sizes unknown or known.  (Unlike
  `wcscpy_s` there is no `dest == src` shortcut in them.)
* `stpncpy_s`: FULL for a source size that is unknown or contains `slen` (the `slen > srcbos` exit is the
  recorded finding `slen-exceeds-srcbos`).
* `stpcpy_s`: FULL when the source's object size is unknown.  With a KNOWN source size and the switch `fixStpUnterm` off the
  statement is FALSE of the model (with the switch on: `stpcpy_s_C03_fixed`): the `src unterminated` exit (`slen >= srcbos`) reports ESUNTERM and returns NULL
  leaving the characters copied so far, unterminated, in dest — `stpcpy_s_C03_partial` excludes exactly
  that return code and `stpcpy_s_C03_witness` exhibits the excluded point.
-/

/-- wcsncpy_s, every src/slen/placement/content, object sizes known or unknown, both builds: a NUL within dmax -/
theorem wcsncpy_s_C03 (cfg : Cfg) (dest dmax src slen : Nat) (destbos srcbos : Bos) (st : St) (hs : Setting st)
    (hrw : RW st dest dmax) (hd : dest ≠ 0) (hpos : 0 < dmax) (hle : dmax ≤ RSIZE_MAX_WSTR)
    (hb : ∀ b, destbos = some b → dmax * SIZEOF_WCHAR_T ≤ b) :
    ∃ code st', exec (wcsncpy_s cfg dest dmax src slen destbos srcbos) st = .ok (code, st') ∧
      ∃ i, i < dmax ∧ st'.data (dest + i) = 0 := by
  obtain ⟨code, st', he, _, hq⟩ := wcsncpy_s_ext cfg dest dmax src slen destbos srcbos st hs.all (fun _ => hrw)
  exact ⟨code, st', he, (hq ⟨hd, hpos, hle, hb⟩).1.term⟩

/-- wcscat_s, every src/placement/content (dest terminated or not), object size known or unknown: a NUL within dmax -/
theorem wcscat_s_C03 (cfg : Cfg) (dest dmax src : Nat) (destbos : Bos) (st : St) (hs : Setting st)
    (hrw : RW st dest dmax) (hd : dest ≠ 0) (hpos : 0 < dmax) (hle : dmax ≤ RSIZE_MAX_WSTR)
    (hb : ∀ b, destbos = some b → dmax * SIZEOF_WCHAR_T ≤ b) :
    ∃ code st', exec (wcscat_s cfg dest dmax src destbos) st = .ok (code, st') ∧
      ∃ i, i < dmax ∧ st'.data (dest + i) = 0 := by
  obtain ⟨code, st', he, _, hq⟩ := wcscat_s_ext cfg dest dmax src destbos st hs.all (fun _ => hrw)
  exact ⟨code, st', he, (hq ⟨hd, hpos, hle, hb⟩).1.term⟩

/-- wcsncat_s, every src/slen (incl. slen = 0)/placement/content, object sizes known or unknown: a NUL within dmax -/
theorem wcsncat_s_C03 (cfg : Cfg) (dest dmax src slen : Nat) (destbos srcbos : Bos) (st : St) (hs : Setting st)
    (hrw : RW st dest dmax) (hd : dest ≠ 0) (hpos : 0 < dmax) (hle : dmax ≤ RSIZE_MAX_WSTR)
    (hb : ∀ b, destbos = some b → dmax * SIZEOF_WCHAR_T ≤ b) :
    ∃ code st', exec (wcsncat_s cfg dest dmax src slen destbos srcbos) st = .ok (code, st') ∧
      ∃ i, i < dmax ∧ st'.data (dest + i) = 0 := by
  obtain ⟨code, st', he, _, hq⟩ := wcsncat_s_ext cfg dest dmax src slen destbos srcbos st hs.all (fun _ => hrw)
  exact ⟨code, st', he, (hq ⟨hd, hpos, hle, hb⟩).1.term⟩

/-- stpcpy_s with the source's object size unknown (dest's known or not), every src incl. `src == dest`,
every placement and content: a NUL within dmax -/
theorem stpcpy_s_C03 (cfg : Cfg) (dest dmax src : Nat) (destbos : Bos) (st : St) (hs : Setting st)
    (hrw : RW st dest dmax) (hd : dest ≠ 0) (hpos : 0 < dmax) (hle : dmax ≤ RSIZE_MAX_STR)
    (hb : ∀ b, destbos = some b → dmax ≤ b) :
    ∃ r st', exec (stpcpy_s cfg dest dmax src destbos none) st = .ok (r, st') ∧
      ∃ i, i < dmax ∧ st'.data (dest + i) = 0 := by
  obtain ⟨r, st', he, _, hq⟩ := stpcpy_s_ext cfg dest dmax src destbos none st hs.all (fun _ => hrw)
  obtain ⟨h1, h2⟩ := hq ⟨hd, hpos, hle, hb⟩
  exact ⟨r, st', he, (h1.post (Or.inl (fun h => h2 h rfl))).term⟩

/- FULL statement for a known source size (FALSE of the code, see `stpcpy_s_C03_witness`):
   ∃ r st', exec (stpcpy_s cfg dest dmax src destbos srcbos) st = .ok (r, st') ∧ ∃ i, i < dmax ∧ st'.data (dest+i) = 0 -/
/-- stpcpy_s, any knowledge of the source's object size: a NUL within dmax unless the call took the
`src unterminated` exit (`*errp = ESUNTERM`), which is only possible when srcbos is known -/
theorem stpcpy_s_C03_partial (cfg : Cfg) (dest dmax src : Nat) (destbos srcbos : Bos) (st : St) (hs : Setting st)
    (hrw : RW st dest dmax) (hd : dest ≠ 0) (hpos : 0 < dmax) (hle : dmax ≤ RSIZE_MAX_STR)
    (hb : ∀ b, destbos = some b → dmax ≤ b) :
    ∃ r st', exec (stpcpy_s cfg dest dmax src destbos srcbos) st = .ok (r, st') ∧
      (r.2 = ESUNTERM → srcbos ≠ none) ∧
      (r.2 ≠ ESUNTERM → ∃ i, i < dmax ∧ st'.data (dest + i) = 0) := by
  obtain ⟨r, st', he, _, hq⟩ := stpcpy_s_ext cfg dest dmax src destbos srcbos st hs.all (fun _ => hrw)
  obtain ⟨h1, h2⟩ := hq ⟨hd, hpos, hle, hb⟩
  exact ⟨r, st', he, h2, fun h => (h1.post (Or.inl h)).term⟩

/-- The FULL statement, with the switch `fixStpUnterm` on (the `src unterminated` exit clears dest like the other exits reached
after copying began): stpcpy_s with ANY knowledge of the two object sizes leaves a NUL within dmax -/
theorem stpcpy_s_C03_fixed (cfg : Cfg) (hfx : cfg.fixStpUnterm = true) (dest dmax src : Nat) (destbos srcbos : Bos) (st : St)
    (hs : Setting st) (hrw : RW st dest dmax) (hd : dest ≠ 0) (hpos : 0 < dmax) (hle : dmax ≤ RSIZE_MAX_STR)
    (hb : ∀ b, destbos = some b → dmax ≤ b) :
    ∃ r st', exec (stpcpy_s cfg dest dmax src destbos srcbos) st = .ok (r, st') ∧
      ∃ i, i < dmax ∧ st'.data (dest + i) = 0 := by
  obtain ⟨r, st', he, _, hq⟩ := stpcpy_s_ext cfg dest dmax src destbos srcbos st hs.all (fun _ => hrw)
  obtain ⟨h1, _⟩ := hq ⟨hd, hpos, hle, hb⟩
  exact ⟨r, st', he, (h1.post (Or.inr hfx)).term⟩

/-- the same for stpncpy_s: any `slen` (inside the source object when its size is known), dest's size known or not -/
theorem stpncpy_s_C03_fixed (cfg : Cfg) (hfx : cfg.fixStpUnterm = true) (dest dmax src slen : Nat) (destbos srcbos : Bos) (st : St)
    (hs : Setting st) (hrw : RW st dest dmax) (hd : dest ≠ 0) (hpos : 0 < dmax) (hle : dmax ≤ RSIZE_MAX_STR)
    (hb : ∀ b, destbos = some b → dmax ≤ b) (hsb : ∀ sb, srcbos = some sb → slen ≤ sb) :
    ∃ r st', exec (stpncpy_s cfg dest dmax src slen destbos srcbos) st = .ok (r, st') ∧
      ∃ i, i < dmax ∧ st'.data (dest + i) = 0 := by
  obtain ⟨r, st', he, _, hq⟩ := stpncpy_s_ext cfg dest dmax src slen destbos srcbos st hs.all (fun _ => hrw) hsb
  obtain ⟨h1, _⟩ := hq ⟨hd, hpos, hle, hb⟩
  exact ⟨r, st', he, (h1.post (Or.inr hfx)).term⟩

/-- dest = 3 cells of non-zero garbage at 100, src = "ab" at 200 -/
def wStp : St :=
  { data := fun a => if a = 200 then 97 else if a = 201 then 98 else if 100 ≤ a ∧ a < 103 then 1 else 0
    mapped := fun _ => true, rd := fun _ => true
    wr := fun a => decide (100 ≤ a ∧ a < 103) }

/-- the excluded point, switch `fixStpUnterm` off: `stpcpy_s(d, 3, "ab")` compiled with `BOS(src) = 1` copies 'a', reports
ESUNTERM, returns NULL — and dest[0..3) = 'a', garbage, garbage holds no NUL -/
theorem stpcpy_s_C03_witness :
    ∃ st', exec (stpcpy_s { fixStpUnterm := false } 100 3 200 none (some 1)) wStp = .ok ((0, ESUNTERM), st') ∧
      ¬ ∃ i, i < 3 ∧ st'.data (100 + i) = 0 := by
  refine ⟨_, rfl, ?_⟩
  intro ⟨i, hi, h⟩
  have : i = 0 ∨ i = 1 ∨ i = 2 := by omega
  rcases this with h' | h' | h' <;> subst h' <;> simp [wStp, St.upd, St.noteWr, St.noteRd] at h

/-- stpncpy_s, source size unknown or containing slen, every src/slen/placement/content: a NUL within dmax -/
theorem stpncpy_s_C03 (cfg : Cfg) (dest dmax src slen : Nat) (destbos srcbos : Bos) (st : St) (hs : Setting st)
    (hrw : RW st dest dmax) (hd : dest ≠ 0) (hpos : 0 < dmax) (hle : dmax ≤ RSIZE_MAX_STR)
    (hb : ∀ b, destbos = some b → dmax ≤ b) (hsb : ∀ sb, srcbos = some sb → slen ≤ sb) :
    ∃ r st', exec (stpncpy_s cfg dest dmax src slen destbos srcbos) st = .ok (r, st') ∧
      ∃ i, i < dmax ∧ st'.data (dest + i) = 0 := by
  obtain ⟨r, st', he, _, hq⟩ := stpncpy_s_ext cfg dest dmax src slen destbos srcbos st hs.all (fun _ => hrw) hsb
  obtain ⟨h1, h2⟩ := hq ⟨hd, hpos, hle, hb⟩
  exact ⟨r, st', he, (h1.post (Or.inl h2)).term⟩

/-- non-vacuity: dest = 5 writable cells at 100 inside a known object of 20 bytes (wide) / 5 bytes (narrow) -/
example : Setting exSt ∧ RW exSt 100 5 ∧ (100 : Nat) ≠ 0 ∧ 0 < 5 ∧ 5 ≤ RSIZE_MAX_WSTR ∧ 5 ≤ RSIZE_MAX_STR ∧
    (∀ b, (some 20 : Bos) = some b → 5 * SIZEOF_WCHAR_T ≤ b) ∧ (∀ b, (some 5 : Bos) = some b → 5 ≤ b) := by
  refine ⟨⟨fun _ => ⟨rfl, rfl⟩, rfl⟩, exSt_rw, by decide, by decide, by decide, by decide, ?_, ?_⟩
  · intro b h; injection h with h; subst h; decide
  · intro b h; injection h with h; subst h; decide

end PartCopy

section PartFld
open SafeC Gen
/-!
## C03 for the field copies: is there a NUL in `dest[0..dmax)` after the call?

Setting: every cell mapped and readable with ARBITRARY contents, the `dmax` cells of dest writable,
`dest ≠ 0`, `0 < dmax ≤ RSIZE_MAX_STR`, `slen ≠ 0` (`slen = 0` is the documented no-op), object size unknown
or known and at least `dmax`; ANY `src` (null, overlapping, unterminated), both slack configurations.

* `strcpyfldout_s` (field → string): FULL.  Every exit is a `handle_error` that zeroes `dest[0]`, or the
  trailing fill of `m ≥ 1` cells (`while (dmax > 1 && slen)` keeps one cell).
* `strcpyfld_s`, `strcpyfldin_s` (… → FIELD): the FULL statement
  `∃ i < dmax, st'.data (dest+i) = 0` after every return is FALSE of the code: with `slen = dmax` all `dmax`
  cells receive source characters and nothing is left for the fill (`_witness`).  A field is not a string, so
  this is the documented behaviour rather than a defect; `_partial` proves the statement under exactly
  `slen < dmax ∨ code ≠ EOK`.
-/

/-- strcpyfldout_s, C03 at full strength: any src (null, overlapping, unterminated), any memory contents,
both slack configurations, slen ≠ 0, object size unknown or ≥ dmax.  The call returns, records no stray access,
changes nothing outside dest[0..dmax), and whatever the exit (EOK, ESNULLP, ESOVRLP, ESNOSPC, ESLEMAX) a NUL
exists in dest[0..dmax). -/
theorem strcpyfldout_s_C03 (cfg : Cfg) (dest dmax src slen : Nat) (destbos : Bos) (st : St)
    (hall : ∀ a, st.mapped a = true ∧ st.rd a = true) (hrw : RW st dest dmax)
    (hd : dest ≠ 0) (hpos : 0 < dmax) (hle : dmax ≤ RSIZE_MAX_STR) (hbos : ∀ b, destbos = some b → dmax ≤ b)
    (hsl : slen ≠ 0) :
    ∃ code st', exec (strcpyfldout_s cfg dest dmax src slen destbos) st = .ok (code, st') ∧
      st'.strays = st.strays ∧
      (∀ a, ¬ (dest ≤ a ∧ a < dest + dmax) → st'.data a = st.data a) ∧
      ∃ i, i < dmax ∧ st'.data (dest + i) = 0 := by
  unfold strcpyfldout_s
  rw [fldG_entry _ cfg dest dmax src slen destbos hsl hd hpos hle hbos]
  obtain ⟨code, st', he, hp⟩ := fldBody_safe .fldout cfg dest dmax src slen st hall hrw hd hpos hle
  exact ⟨code, st', he, hp.safe.strays, hp.safe.frame, hp.term (Or.inl rfl)⟩

/- FALSE of the code (see `strcpyfld_s_C03_witness`):
   strcpyfld_s_C03 : … → ∃ code st', exec (strcpyfld_s cfg dest dmax src slen destbos) st = .ok (code, st') ∧
      ∃ i, i < dmax ∧ st'.data (dest + i) = 0 -/

/-- strcpyfld_s, C03 for a field that is not full (the tight hypothesis, see the witness): any src, any contents, both slack configurations;
a NUL exists in dest[0..dmax) whenever the call fails (dest[0] = 0) or slen < dmax (the trailing fill has at
least one cell).  With slen = dmax and EOK the field is full: see the witness. -/
theorem strcpyfld_s_C03_partial (cfg : Cfg) (dest dmax src slen : Nat) (destbos : Bos) (st : St)
    (hall : ∀ a, st.mapped a = true ∧ st.rd a = true) (hrw : RW st dest dmax)
    (hd : dest ≠ 0) (hpos : 0 < dmax) (hle : dmax ≤ RSIZE_MAX_STR) (hbos : ∀ b, destbos = some b → dmax ≤ b)
    (hsl : slen ≠ 0) :
    ∃ code st', exec (strcpyfld_s cfg dest dmax src slen destbos) st = .ok (code, st') ∧
      st'.strays = st.strays ∧
      (∀ a, ¬ (dest ≤ a ∧ a < dest + dmax) → st'.data a = st.data a) ∧
      (slen < dmax ∨ code ≠ EOK → ∃ i, i < dmax ∧ st'.data (dest + i) = 0) := by
  unfold strcpyfld_s
  rw [fldG_entry _ cfg dest dmax src slen destbos hsl hd hpos hle hbos]
  obtain ⟨code, st', he, hp⟩ := fldBody_safe .fld cfg dest dmax src slen st hall hrw hd hpos hle
  exact ⟨code, st', he, hp.safe.strays, hp.safe.frame, fun h => hp.term (Or.inr h)⟩

/-- strcpyfldin_s, C03 for a field that is not full (the tight hypothesis, see the witness): any src, any contents, both slack
configurations; a NUL exists in dest[0..dmax) whenever the call fails or slen < dmax.  With slen = dmax, EOK and
a source string of dmax or more characters the field is full: see the witness. -/
theorem strcpyfldin_s_C03_partial (cfg : Cfg) (dest dmax src slen : Nat) (destbos : Bos) (st : St)
    (hall : ∀ a, st.mapped a = true ∧ st.rd a = true) (hrw : RW st dest dmax)
    (hd : dest ≠ 0) (hpos : 0 < dmax) (hle : dmax ≤ RSIZE_MAX_STR) (hbos : ∀ b, destbos = some b → dmax ≤ b)
    (hsl : slen ≠ 0) :
    ∃ code st', exec (strcpyfldin_s cfg dest dmax src slen destbos) st = .ok (code, st') ∧
      st'.strays = st.strays ∧
      (∀ a, ¬ (dest ≤ a ∧ a < dest + dmax) → st'.data a = st.data a) ∧
      (slen < dmax ∨ code ≠ EOK → ∃ i, i < dmax ∧ st'.data (dest + i) = 0) := by
  unfold strcpyfldin_s
  rw [fldG_entry _ cfg dest dmax src slen destbos hsl hd hpos hle hbos]
  obtain ⟨code, st', he, hp⟩ := fldBody_safe .fldin cfg dest dmax src slen st hall hrw hd hpos hle
  exact ⟨code, st', he, hp.safe.strays, hp.safe.frame, fun h => hp.term (Or.inr h)⟩

/-- dest = 100 (one writable cell), src = 200 holding 'a' -/
def fldWSt : St :=
  { data := fun a => if a = 200 then 97 else 0, mapped := fun _ => true, rd := fun _ => true
    wr := fun a => decide (a = 100) }

/-- the excluded point of strcpyfld_s_C03_partial: strcpyfld_s(d, 1, "a", 1) returns EOK and dest[0..1) = "a" holds
no NUL (slen = dmax fills the whole field; a field is not a string). -/
theorem strcpyfld_s_C03_witness :
    ∃ st', exec (strcpyfld_s {} 100 1 200 1 none) fldWSt = .ok (EOK, st') ∧
      ¬ ∃ i, i < 1 ∧ st'.data (100 + i) = 0 := by
  refine ⟨_, rfl, fun ⟨i, hi, h⟩ => ?_⟩
  obtain rfl : i = 0 := by omega
  exact absurd h (by decide)

/-- the excluded point of strcpyfldin_s_C03_partial: strcpyfldin_s(d, 1, "a…", 1) returns EOK and dest[0..1) = "a"
holds no NUL. -/
theorem strcpyfldin_s_C03_witness :
    ∃ st', exec (strcpyfldin_s {} 100 1 200 1 none) fldWSt = .ok (EOK, st') ∧
      ¬ ∃ i, i < 1 ∧ st'.data (100 + i) = 0 := by
  refine ⟨_, rfl, fun ⟨i, hi, h⟩ => ?_⟩
  obtain rfl : i = 0 := by omega
  exact absurd h (by decide)

/-- the hypotheses are satisfiable: dest = 100 with 5 writable cells in `exSt`, slen = 7, object size 5 -/
example : (∀ a, SafeC.Props.C01.exSt.mapped a = true ∧ SafeC.Props.C01.exSt.rd a = true) ∧
    RW SafeC.Props.C01.exSt 100 5 ∧ (100 : Nat) ≠ 0 ∧ 0 < 5 ∧ 5 ≤ RSIZE_MAX_STR ∧
    (∀ b, (some 5 : Bos) = some b → 5 ≤ b) ∧ (7 : Nat) ≠ 0 := by
  refine ⟨fun _ => ⟨rfl, rfl⟩, exSt_rw, by decide, by decide, by decide,
    (fun b h => by cases h; exact Nat.le_refl _), by decide⟩

end PartFld

section PartInplace
open SafeC Gen
/-!
## C03 — string-producing calls never leave dest unterminated: the in-place producers of `src/extstr`

`strnterminate_s`, `strzero_s`, `strljustify_s`, `strremovews_s` (models in `Models/Inplace.lean`).

Setting as in `Props/C03.lean`: every cell mapped and readable with ARBITRARY contents (no hypothesis
on what dest holds unless stated), `dest[0..dmax)` writable, `dest ≠ 0`, `0 < dmax ≤ RSIZE_MAX_STR`,
the object size unknown or known and not below `dmax`.  Conclusion: the call returns and a NUL exists in
`dest[0..dmax)` afterwards — whatever the exit (EOK, ESUNTERM), both `SAFECLIB_STR_NULL_SLACK` settings.

* `strnterminate_s`, `strzero_s`: FULL.
* `strljustify_s`, `strremovews_s`: the FULL statement

      ∃ r st', exec (strljustify_s cfg dest dmax destbos) st = .ok (r, st') ∧
        ∃ i, i < dmax ∧ st'.data (dest + i) = 0          -- no hypothesis on the contents of dest

  is FALSE of the code: the termination scan reads `dest[dmax]` before it looks at its counter and
  accepts a NUL found AT `dest[dmax]` (`justify-accepts-nul-at-dmax` in known_findings.jsonl), the
  call then returns EOK with `dest[0..dmax)` unterminated.  Proved instead under the hypothesis that
  excludes exactly that class — dest holds a NUL within `dmax`, or `dest[dmax]` is not NUL — and the
  `_witness` theorems exhibit the excluded point.
-/

/-- strnterminate_s, FULL: for every prior content of dest (terminated or not), usable dest
(`dest ≠ 0`, `0 < dmax ≤ RSIZE_MAX_STR`, `dmax` within a known object size), the call returns and a
NUL exists in `dest[0..dmax)` afterwards: the scan stops after at most `dmax-1` cells and `*dest = 0`
lands at index ≤ `dmax-1`. -/
theorem strnterminate_s_C03 (cfg : Cfg) (dest dmax : Nat) (destbos : Bos) (st : St)
    (hall : ∀ a, st.mapped a = true ∧ st.rd a = true) (hrw : RW st dest dmax)
    (hd : dest ≠ 0) (hpos : 0 < dmax) (hle : dmax ≤ RSIZE_MAX_STR)
    (hb : ∀ b, destbos = some b → dmax ≤ b) :
    ∃ r st', exec (strnterminate_s cfg dest dmax destbos) st = .ok (r, st') ∧
      ∃ i, i < dmax ∧ st'.data (dest + i) = 0 := by
  obtain ⟨n, he, hn, _, _⟩ := strnterminate_s_ok cfg dest dmax destbos st hall hrw hd hpos hle hb
  exact ⟨n, _, he, n, hn, St.upd_data_same _ _ _⟩

/-- strnterminate_s, exact outcome in the same setting: the returned count `n` is below `dmax`,
`dest[n]` is NUL afterwards, the `n` cells before it are unchanged and non-NUL (`n` is the length of
the resulting string), no other cell changed, `dest[n]` was already NUL unless `n = dmax-1` (truncation),
permissions, events (no handler call) and stray list are as before. -/
theorem strnterminate_s_C03_exact (cfg : Cfg) (dest dmax : Nat) (destbos : Bos) (st : St)
    (hall : ∀ a, st.mapped a = true ∧ st.rd a = true) (hrw : RW st dest dmax)
    (hd : dest ≠ 0) (hpos : 0 < dmax) (hle : dmax ≤ RSIZE_MAX_STR)
    (hb : ∀ b, destbos = some b → dmax ≤ b) :
    ∃ n st', exec (strnterminate_s cfg dest dmax destbos) st = .ok (n, st') ∧
      n < dmax ∧ st'.data (dest + n) = 0 ∧
      (∀ j, j < n → st'.data (dest + j) = st.data (dest + j) ∧ st.data (dest + j) ≠ 0) ∧
      (∀ a, a ≠ dest + n → st'.data a = st.data a) ∧
      (n + 1 < dmax → st.data (dest + n) = 0) ∧
      SameMeta st' st := by
  obtain ⟨n, he, hn, hnz, hz⟩ := strnterminate_s_ok cfg dest dmax destbos st hall hrw hd hpos hle hb
  refine ⟨n, _, he, hn, St.upd_data_same _ _ _, fun j hj => ⟨?_, hnz j hj⟩, fun a ha => ?_, hz,
    SameMeta.upd _ _ _⟩
  · exact St.upd_data_ne _ _ _ _ (by omega)
  · exact St.upd_data_ne _ _ _ _ ha

/-- strzero_s, FULL: for every prior content of dest (terminated or not), usable dest, both slack
settings, the call returns EOK and `dest[0]` is NUL afterwards (the loop stores 0 there unless it
already is), so a NUL exists in `dest[0..dmax)`. -/
theorem strzero_s_C03 (cfg : Cfg) (dest dmax : Nat) (destbos : Bos) (st : St)
    (hall : ∀ a, st.mapped a = true ∧ st.rd a = true) (hrw : RW st dest dmax)
    (hd : dest ≠ 0) (hpos : 0 < dmax) (hle : dmax ≤ RSIZE_MAX_STR)
    (hb : ∀ b, destbos = some b → dmax ≤ b) :
    ∃ r st', exec (strzero_s cfg dest dmax destbos) st = .ok (r, st') ∧
      ∃ i, i < dmax ∧ st'.data (dest + i) = 0 := by
  obtain ⟨st', he, h0, _⟩ := strzero_s_ok cfg dest dmax destbos st hall hrw hd hpos hle hb
  exact ⟨EOK, st', he, 0, hpos, by simpa using h0⟩

/-- strzero_s, more of the outcome in the same setting: EOK, `dest[0] = 0`, with null-slack every one
of the `dmax` cells is zero (also when dest held no NUL at all), no cell outside `dest[0..dmax)`
changed, permissions/events/strays as before (the read of `dest[dmax]` by the slack block is harmless). -/
theorem strzero_s_C03_exact (cfg : Cfg) (dest dmax : Nat) (destbos : Bos) (st : St)
    (hall : ∀ a, st.mapped a = true ∧ st.rd a = true) (hrw : RW st dest dmax)
    (hd : dest ≠ 0) (hpos : 0 < dmax) (hle : dmax ≤ RSIZE_MAX_STR)
    (hb : ∀ b, destbos = some b → dmax ≤ b) :
    ∃ st', exec (strzero_s cfg dest dmax destbos) st = .ok (EOK, st') ∧ st'.data dest = 0 ∧
      (cfg.slack = true → ∀ i, i < dmax → st'.data (dest + i) = 0) ∧
      (∀ a, ¬ (dest ≤ a ∧ a < dest + dmax) → st'.data a = st.data a) ∧ SameMeta st' st :=
  strzero_s_ok cfg dest dmax destbos st hall hrw hd hpos hle hb

/-- strljustify_s, PARTIAL (the full statement is false, see the witness): usable dest that holds a
NUL within `dmax` or whose cell `dest[dmax]` is not NUL, otherwise arbitrary contents.  The call returns
(EOK or ESUNTERM) and a NUL exists in `dest[0..dmax)` afterwards: the shift loop writes below the NUL
only, the ESUNTERM exit clears all of dest.  Holds wherever the stores land (`_hrw` is not needed). -/
theorem strljustify_s_C03_partial (cfg : Cfg) (dest dmax : Nat) (destbos : Bos) (st : St)
    (hall : ∀ a, st.mapped a = true ∧ st.rd a = true) (_hrw : RW st dest dmax)
    (hd : dest ≠ 0) (hpos : 0 < dmax) (hle : dmax ≤ RSIZE_MAX_STR)
    (hb : ∀ b, destbos = some b → dmax ≤ b)
    (hterm : (∃ i, i < dmax ∧ st.data (dest + i) = 0) ∨ st.data (dest + dmax) ≠ 0) :
    ∃ r st', exec (strljustify_s cfg dest dmax destbos) st = .ok (r, st') ∧
      ∃ i, i < dmax ∧ st'.data (dest + i) = 0 := by
  obtain ⟨r, st', he, _, _, h⟩ := strljustify_s_nul cfg dest dmax destbos st hall hd hpos hle hb hterm
  exact ⟨r, st', he, h⟩

/-- strremovews_s, PARTIAL (the full statement is false, see the witness): same hypothesis as for
strljustify_s — a NUL within `dmax`, or `dest[dmax]` not NUL.  The call returns (EOK or ESUNTERM) and
a NUL exists in `dest[0..dmax)` afterwards: the shift writes below the NUL only, the downward
trailing-whitespace strip (no lower bound) stores zeros only, the ESUNTERM exit clears all of dest. -/
theorem strremovews_s_C03_partial (cfg : Cfg) (dest dmax : Nat) (destbos : Bos) (st : St)
    (hall : ∀ a, st.mapped a = true ∧ st.rd a = true) (_hrw : RW st dest dmax)
    (hd : dest ≠ 0) (hpos : 0 < dmax) (hle : dmax ≤ RSIZE_MAX_STR)
    (hb : ∀ b, destbos = some b → dmax ≤ b)
    (hterm : (∃ i, i < dmax ∧ st.data (dest + i) = 0) ∨ st.data (dest + dmax) ≠ 0) :
    ∃ r st', exec (strremovews_s cfg dest dmax destbos) st = .ok (r, st') ∧
      ∃ i, i < dmax ∧ st'.data (dest + i) = 0 := by
  obtain ⟨r, st', he, _, _, h⟩ := strremovews_s_nul cfg dest dmax destbos st hall hd hpos hle hb hterm
  exact ⟨r, st', he, h⟩

/-- strljustify_s / strremovews_s, the exits in the same setting and under the same hypothesis: the
return value is EOK or ESUNTERM, and after ESUNTERM every one of the `dmax` cells of dest is zero (the
hand-written clearing loop of the ESUNTERM exit, both slack settings). -/
theorem justify_removews_C03_exits (cfg : Cfg) (dest dmax : Nat) (destbos : Bos) (st : St)
    (hall : ∀ a, st.mapped a = true ∧ st.rd a = true)
    (hd : dest ≠ 0) (hpos : 0 < dmax) (hle : dmax ≤ RSIZE_MAX_STR)
    (hb : ∀ b, destbos = some b → dmax ≤ b)
    (hterm : (∃ i, i < dmax ∧ st.data (dest + i) = 0) ∨ st.data (dest + dmax) ≠ 0) :
    (∃ r st', exec (strljustify_s cfg dest dmax destbos) st = .ok (r, st') ∧ (r = EOK ∨ r = ESUNTERM) ∧
      (r = ESUNTERM → ∀ i, i < dmax → st'.data (dest + i) = 0)) ∧
    (∃ r st', exec (strremovews_s cfg dest dmax destbos) st = .ok (r, st') ∧ (r = EOK ∨ r = ESUNTERM) ∧
      (r = ESUNTERM → ∀ i, i < dmax → st'.data (dest + i) = 0)) := by
  obtain ⟨r, st', he, h1, h2, _⟩ := strljustify_s_nul cfg dest dmax destbos st hall hd hpos hle hb hterm
  obtain ⟨r2, st2, he2, h3, h4, _⟩ := strremovews_s_nul cfg dest dmax destbos st hall hd hpos hle hb hterm
  exact ⟨⟨r, st', he, h1, h2⟩, ⟨r2, st2, he2, h3, h4⟩⟩

/-- the excluded point: `dest = 100`, `dmax = 2`, the two cells hold "ab" and the cell behind them,
`dest[2]`, holds 0 -/
def wJust : St :=
  { data := fun a => if a = 100 then 97 else if a = 101 then 98 else 0
    mapped := fun _ => true, rd := fun _ => true
    wr := fun a => decide (100 ≤ a ∧ a < 102) }

/-- witness that the full C03 statement is false of strljustify_s: on `wJust` (dest = "ab" in 2 cells,
`dest[2] = 0`) `strljustify_s(dest, 2)` returns EOK, the state is untouched and `dest[0..2)` holds no NUL.
All hypotheses of the partial statement but `hterm` hold of `wJust`. -/
theorem strljustify_s_C03_witness :
    ((∀ a, wJust.mapped a = true ∧ wJust.rd a = true) ∧ RW wJust 100 2 ∧ (2 : Nat) ≤ RSIZE_MAX_STR) ∧
    ∃ st', exec (strljustify_s {} 100 2 (some 2)) wJust = .ok (EOK, st') ∧
      ¬ ∃ i, i < 2 ∧ st'.data (100 + i) = 0 := by
  have hnz : ∀ j, j < 2 → wJust.data (100 + j) ≠ 0 := fun j hj => by
    obtain rfl | rfl : j = 0 ∨ j = 1 := by omega
    all_goals decide
  refine ⟨⟨fun _ => ⟨rfl, rfl⟩, fun i hi => ⟨rfl, ?_, rfl⟩, by decide⟩, wJust, ?_, fun ⟨i, hi, h⟩ => hnz i hi h⟩
  · simp [wJust]; omega
  · exact strljustify_s_unterminated {} 100 2 (some 2) wJust (fun _ => ⟨rfl, rfl⟩) (by decide) (by decide) (by decide)
      (fun b h => by cases h; exact Nat.le_refl _) hnz rfl ⟨by decide, by decide⟩

/-- witness that the full C03 statement is false of strremovews_s: on `wJust` (dest = "ab" in 2 cells,
`dest[2] = 0`) `strremovews_s(dest, 2)` returns EOK, the state is untouched and `dest[0..2)` holds no NUL.
All hypotheses of the partial statement but `hterm` hold of `wJust`. -/
theorem strremovews_s_C03_witness :
    ((∀ a, wJust.mapped a = true ∧ wJust.rd a = true) ∧ RW wJust 100 2 ∧ (2 : Nat) ≤ RSIZE_MAX_STR) ∧
    ∃ st', exec (strremovews_s {} 100 2 (some 2)) wJust = .ok (EOK, st') ∧
      ¬ ∃ i, i < 2 ∧ st'.data (100 + i) = 0 := by
  have hnz : ∀ j, j < 2 → wJust.data (100 + j) ≠ 0 := fun j hj => by
    obtain rfl | rfl : j = 0 ∨ j = 1 := by omega
    all_goals decide
  refine ⟨⟨fun _ => ⟨rfl, rfl⟩, fun i hi => ⟨rfl, ?_, rfl⟩, by decide⟩, wJust, ?_, fun ⟨i, hi, h⟩ => hnz i hi h⟩
  · simp [wJust]; omega
  · exact strremovews_s_unterminated {} 100 2 (some 2) wJust (fun _ => ⟨rfl, rfl⟩) (by decide) (by decide) (by decide)
      (fun b h => by cases h; exact Nat.le_refl _) hnz rfl ⟨by decide, by decide⟩ ⟨by decide, by decide⟩

/-- the whole excluded class, strljustify_s: whenever `dest[0..dmax)` (`dmax ≥ 2`) holds no NUL, the
cell behind it `dest[dmax]` is NUL and `dest[0]` is neither blank nor tab, the call returns EOK, leaves
the state untouched and dest has no NUL within `dmax` — the hypothesis of the partial statement cannot
be weakened on this class (generalises the witness). -/
theorem strljustify_s_C03_excluded (cfg : Cfg) (dest dmax : Nat) (destbos : Bos) (st : St)
    (hall : ∀ a, st.mapped a = true ∧ st.rd a = true)
    (hd : dest ≠ 0) (h2 : 2 ≤ dmax) (hle : dmax ≤ RSIZE_MAX_STR)
    (hb : ∀ b, destbos = some b → dmax ≤ b)
    (hnz : ∀ j, j < dmax → st.data (dest + j) ≠ 0) (hz : st.data (dest + dmax) = 0)
    (hfirst : st.data dest ≠ 0x20 ∧ st.data dest ≠ 0x09) :
    exec (strljustify_s cfg dest dmax destbos) st = .ok (EOK, st) ∧
      ¬ ∃ i, i < dmax ∧ st.data (dest + i) = 0 :=
  ⟨strljustify_s_unterminated cfg dest dmax destbos st hall hd h2 hle hb hnz hz hfirst,
   fun ⟨i, hi, h⟩ => hnz i hi h⟩

/-- the whole excluded class, strremovews_s: whenever `dest[0..dmax)` (`dmax ≥ 2`) holds no NUL, the
cell behind it `dest[dmax]` is NUL and neither `dest[0]` nor `dest[dmax-1]` is blank or tab, the call
returns EOK, leaves the state untouched and dest has no NUL within `dmax` (generalises the witness). -/
theorem strremovews_s_C03_excluded (cfg : Cfg) (dest dmax : Nat) (destbos : Bos) (st : St)
    (hall : ∀ a, st.mapped a = true ∧ st.rd a = true)
    (hd : dest ≠ 0) (h2 : 2 ≤ dmax) (hle : dmax ≤ RSIZE_MAX_STR)
    (hb : ∀ b, destbos = some b → dmax ≤ b)
    (hnz : ∀ j, j < dmax → st.data (dest + j) ≠ 0) (hz : st.data (dest + dmax) = 0)
    (hfirst : st.data dest ≠ 0x20 ∧ st.data dest ≠ 0x09)
    (hlast : st.data (dest + (dmax - 1)) ≠ 0x20 ∧ st.data (dest + (dmax - 1)) ≠ 0x09) :
    exec (strremovews_s cfg dest dmax destbos) st = .ok (EOK, st) ∧
      ¬ ∃ i, i < dmax ∧ st.data (dest + i) = 0 :=
  ⟨strremovews_s_unterminated cfg dest dmax destbos st hall hd h2 hle hb hnz hz hfirst hlast,
   fun ⟨i, hi, h⟩ => hnz i hi h⟩

/-- a second point of the excluded class, with a leading blank: `dest = 100`, `dmax = 2`, the two cells
hold " a" and `dest[2]` holds 0 -/
def wJust2 : St :=
  { data := fun a => if a = 100 then 32 else if a = 101 then 97 else 0
    mapped := fun _ => true, rd := fun _ => true
    wr := fun a => decide (100 ≤ a ∧ a < 102) }

/-- side observation (C01 flavour, same root cause as `justify-accepts-nul-at-dmax`): with a leading
blank and the NUL accepted AT `dest[dmax]`, strremovews_s shifts the text and then executes `*dest = 0`
on the cell `dest[dmax]`, one past the `dmax` cells: on `wJust2` it returns EOK, dest becomes "a" NUL and
the only stray access recorded is the WRITE to cell 102 = dest + dmax (it stores 0 over a 0). -/
theorem strremovews_s_write_at_dmax_witness :
    ∃ st', exec (strremovews_s {} 100 2 (some 2)) wJust2 = .ok (EOK, st') ∧
      st'.strays = [Access.wr (100 + 2)] ∧ st'.data 100 = 97 ∧ st'.data 101 = 0 := by
  exact ⟨_, rfl, rfl, rfl, rfl⟩

/-- non-vacuity: dest = 100, dmax = 5 holding "  ab" and its NUL, object size 5 -/
def exJust : St :=
  { data := fun a => if a = 100 then 32 else if a = 101 then 32 else if a = 102 then 97
      else if a = 103 then 98 else 0
    mapped := fun _ => true, rd := fun _ => true
    wr := fun a => decide (100 ≤ a ∧ a < 105) }

example : (∀ a, exJust.mapped a = true ∧ exJust.rd a = true) ∧ RW exJust 100 5 ∧ (100 : Nat) ≠ 0 ∧ 0 < 5 ∧
    5 ≤ RSIZE_MAX_STR ∧ (∀ b, (some 5 : Bos) = some b → 5 ≤ b) ∧
    ((∃ i, i < 5 ∧ exJust.data (100 + i) = 0) ∨ exJust.data (100 + 5) ≠ 0) := by
  refine ⟨fun _ => ⟨rfl, rfl⟩, fun i hi => ⟨rfl, ?_, rfl⟩, by decide, by decide, by decide, ?_, Or.inl ⟨4, by decide, rfl⟩⟩
  · simp [exJust]; omega
  · intro b h; cases h; exact Nat.le_refl _

/-- non-vacuity of the other disjunct (the ESUNTERM exit): no NUL anywhere -/
example : (∀ a, ({ exJust with data := fun _ => 120 } : St).mapped a = true ∧
      ({ exJust with data := fun _ => 120 } : St).rd a = true) ∧
    RW { exJust with data := fun _ => 120 } 100 5 ∧
    ((∃ i, i < 5 ∧ ({ exJust with data := fun _ => 120 } : St).data (100 + i) = 0) ∨
      ({ exJust with data := fun _ => 120 } : St).data (100 + 5) ≠ 0) := by
  refine ⟨fun _ => ⟨rfl, rfl⟩, fun i hi => ⟨rfl, ?_, rfl⟩, Or.inr (by decide)⟩
  simp [exJust]; omega

end PartInplace

section PartOs
open SafeC Gen
/-!
## C03 for `getenv_s` and `strerror_s`: after every exit on a usable dest a NUL exists within `dmax`

Setting of `Proofs/CopyDisjoint.lean` (only the declared extents are mapped / readable / writable): dest is a
usable buffer (`dest ≠ 0`, `0 < dmax ≤ RSIZE_MAX_STR`, `dmax ≤` the object size when that is known, `dmax` writable
cells with ARBITRARY prior content); the strings the C reads (`name`, the environment value, libc's message, the
literal `"..."`) are readable, terminated and do not overlap dest.  Both slack configurations.

`dmax ≤ RSIZE_MAX_STR` is asked of `getenv_s` also when the object size is KNOWN: the function then compares `dmax` with
the object size only, and with the switch `fixInnerBos` off the inner `strcpy_s` (told nothing about the object size)
rejects `dmax` silently: `getenv_s_C03_witness`.
-/

/-- getenv_s, EVERY exit with a usable dest (name null or a readable string; variable unset or set to a string of any
length n that does not overlap dest; len null or not; object size known or not; both slack configurations; arbitrary
prior dest content): the call returns and a NUL exists in dest[0..dmax). -/
theorem getenv_s_C03 (cfg : Cfg) (hasLen : Bool) (dest dmax name : Nat) (destbos : Bos) (value k n : Nat) (st : St)
    (hd : dest ≠ 0) (hpos : 0 < dmax) (hle : dmax ≤ RSIZE_MAX_STR) (hbos : ∀ b, destbos = some b → dmax ≤ b)
    (hrw : RW st dest dmax) (hname : name ≠ 0 → SrcStr st name k)
    (hval : value ≠ 0 → SrcStr st value n ∧ Disjoint dest dmax value n) :
    ∃ r st', exec (getenv_s cfg hasLen dest dmax name destbos value) st = .ok (r, st') ∧
      ∃ i, i < dmax ∧ st'.data (dest + i) = 0 := by
  refine (getenv_s_runs cfg hasLen dest dmax name destbos value k n st hd hpos hle hbos hrw hname
    (fun _ h => ⟨(hval h).1, fun _ => (hval h).2⟩)).conseq fun r s ⟨_, h⟩ => ?_
  rcases h with ⟨_, _, _, hc⟩ | ⟨_, _, _, _, hc⟩ | ⟨_, _, _, _, _, hc⟩ | ⟨_, _, hn, _, _, _, hz, _⟩
  · exact ⟨0, hpos, hc.1⟩
  · exact ⟨0, hpos, hc.1⟩
  · exact ⟨0, hpos, hc.1⟩
  · exact ⟨n, hn, hz⟩

/-- getenv_s success, exact result: readable name, the variable is set to a string of length n < dmax not overlapping
dest. Returns EOK with *len = n (when len is non-null), NO handler event, dest[0..n) = the value, dest[n] = 0, nothing
outside dest[0..dmax) changes and no access outside the declared extents happens. -/
theorem getenv_s_C03_success (cfg : Cfg) (hasLen : Bool) (dest dmax name : Nat) (destbos : Bos) (value k n : Nat)
    (st : St) (hd : dest ≠ 0) (hpos : 0 < dmax) (hle : dmax ≤ RSIZE_MAX_STR)
    (hbos : ∀ b, destbos = some b → dmax ≤ b) (hrw : RW st dest dmax)
    (hname : name ≠ 0) (hnm : SrcStr st name k)
    (hv : value ≠ 0) (hval : SrcStr st value n) (hn : n < dmax) (hdisj : Disjoint dest dmax value n) :
    ∃ st', exec (getenv_s cfg hasLen dest dmax name destbos value) st
        = .ok ((EOK, if hasLen then some n else none), st') ∧
      st'.events = st.events ∧ st'.strays = st.strays ∧
      (∀ i, i < n → st'.data (dest+i) = st.data (value+i)) ∧ st'.data (dest+n) = 0 ∧
      (∀ a, ¬ (dest ≤ a ∧ a < dest + dmax) → st'.data a = st.data a) := by
  obtain ⟨r, s, he, hf, h⟩ := getenv_s_runs cfg hasLen dest dmax name destbos value k n st hd hpos hle hbos hrw
    (fun _ => hnm) (fun _ _ => ⟨hval, fun _ => hdisj⟩)
  rcases h with ⟨h, _⟩ | ⟨_, h, _⟩ | ⟨_, _, h, _⟩ | ⟨_, _, _, rfl, pe, c3, c4, _⟩
  · exact absurd h hname
  · exact absurd h hv
  · omega
  · exact ⟨s, he, pe, hf.strays, c3, c4, hf.frame⟩

/-- state of the witness: dest = 1000 with 4097 writable cells all holding 7 (no NUL), value "aa" at 200, name "A" at
300; everything mapped and readable -/
def wEnv : St :=
  { data := fun a => if 1000 ≤ a then 7 else if a = 200 ∨ a = 201 ∨ a = 300 then 97 else 0
    mapped := fun _ => true, rd := fun _ => true
    wr := fun a => decide (1000 ≤ a ∧ a < 1000 + 4097) }

/-- the excluded point of getenv_s_C03, switch `fixInnerBos` off: object size KNOWN (destbos = dmax = 4097 > RSIZE_MAX_STR = 4096),
variable set to "aa": getenv_s returns EOK and *len = 2 although the constraint handler was invoked with ESLEMAX by
the inner strcpy_s, and dest is untouched: no NUL in dest[0..dmax). getenv_s(&len, dest, 4097, "A") with
char dest[4097], A=aa. -/
theorem getenv_s_C03_witness :
    RW wEnv 1000 4097 ∧
    ∃ st', exec (getenv_s { fixInnerBos := false } true 1000 4097 300 (some 4097) 200) wEnv = .ok ((EOK, some 2), st') ∧
      st'.events = [.handler .str ESLEMAX] ∧ st'.data = wEnv.data ∧
      ¬ ∃ i, i < 4097 ∧ st'.data (1000 + i) = 0 := by
  refine ⟨?_, _, getenv_s_bos_lemax { fixInnerBos := false } rfl true 1000 4097 300 4097 200 1 2 wEnv (by decide) (by decide) (by decide)
    (by decide) ?_ (by decide) ?_ (by decide) (by decide), rfl, rfl, ?_⟩
  · intro i hi
    refine ⟨rfl, ?_, rfl⟩
    simp only [wEnv, decide_eq_true_eq]
    omega
  · refine ⟨?_, by simp [wEnv], fun _ _ => ⟨rfl, rfl⟩⟩
    intro j hj
    have : j = 0 := by omega
    subst this; simp [wEnv]
  · refine ⟨?_, by simp [wEnv], fun _ _ => ⟨rfl, rfl⟩⟩
    intro j hj
    have : j = 0 ∨ j = 1 := by omega
    rcases this with rfl | rfl <;> simp [wEnv]
  · intro ⟨i, _, h⟩
    have : 1000 ≤ 1000 + i := by omega
    simp [wEnv, this] at h

/-- strerror_s, EVERY exit with a usable dest: msg holds the message text (length n, any n), strerrorlen_s answers n
(hlen; for the library's own codes this says the length table agrees with the text, cf. C06Os.strerrorlen_s_own; for
other codes see strerror_s_C03_libc), message and the literal "..." do not overlap dest. The call returns and a NUL
exists in dest[0..dmax): at n when the message fits, at dmax-1 after truncation, at 0 on ESLEMIN. -/
theorem strerror_s_C03 (cfg : Cfg) (dest dmax errnum : Nat) (destbos : Bos) (msg dots n : Nat) (st : St)
    (hd : dest ≠ 0) (hpos : 0 < dmax) (hle : dmax ≤ RSIZE_MAX_STR) (hbos : ∀ b, destbos = some b → dmax ≤ b)
    (hrw : RW st dest dmax) (hlen : exec (strerrorlen_s errnum msg) st = .ok (n, st))
    (hm : msg ≠ 0) (hsrc : SrcStr st msg n) (hdisj : Disjoint dest dmax msg n)
    (hdots : dots ≠ 0) (hds : SrcStr st dots 3) (hdd : Disjoint dest dmax dots 3)
    (h46 : st.data dots = 46 ∧ st.data (dots+1) = 46 ∧ st.data (dots+2) = 46) :
    ∃ code st', exec (strerror_s cfg dest dmax errnum destbos msg dots) st = .ok (code, st') ∧
      ∃ i, i < dmax ∧ st'.data (dest + i) = 0 := by
  exact strerror_s_nul cfg dest dmax errnum destbos msg dots n n st hd hpos hle hbos hrw hlen (Or.inl rfl) hm hsrc hdisj
    hdots hds hdd h46

/-- strerror_s for an errnum outside the library's own range (strerrorlen_s = libc strlen of the message): the same
with NO hypothesis on strerrorlen_s and no bound on the message length. -/
theorem strerror_s_C03_libc (cfg : Cfg) (dest dmax errnum : Nat) (destbos : Bos) (msg dots n : Nat) (st : St)
    (hd : dest ≠ 0) (hpos : 0 < dmax) (hle : dmax ≤ RSIZE_MAX_STR) (hbos : ∀ b, destbos = some b → dmax ≤ b)
    (hrw : RW st dest dmax) (hown : isSafeclibErr errnum = false)
    (hm : msg ≠ 0) (hsrc : SrcStr st msg n) (hdisj : Disjoint dest dmax msg n)
    (hdots : dots ≠ 0) (hds : SrcStr st dots 3) (hdd : Disjoint dest dmax dots 3)
    (h46 : st.data dots = 46 ∧ st.data (dots+1) = 46 ∧ st.data (dots+2) = 46) :
    ∃ code st', exec (strerror_s cfg dest dmax errnum destbos msg dots) st = .ok (code, st') ∧
      ∃ i, i < dmax ∧ st'.data (dest + i) = 0 := by
  obtain ⟨len, hlen, hag⟩ := strerrorlen_s_libc errnum msg n st hown hsrc
  have hag' : len = n ∨ (dmax ≤ len ∧ dmax ≤ n) := by
    have := RSIZE_lt_scanFuel
    rcases hag with h | h
    · exact Or.inl h
    · exact Or.inr (by omega)
  exact strerror_s_nul cfg dest dmax errnum destbos msg dots n len st hd hpos hle hbos hrw hlen hag' hm hsrc hdisj
    hdots hds hdd h46

/-- strerror_s for one of the library's OWN codes (ESNULLP..ESLAST; strerrorlen_s answers from the length table, which
C06Os.strerrorlen_s_own proves equal to the byte length of the message text): msg holds a string of exactly that
length. Every exit leaves a NUL in dest[0..dmax), no hypothesis on strerrorlen_s. -/
theorem strerror_s_C03_own (cfg : Cfg) (dest dmax errnum : Nat) (destbos : Bos) (msg dots : Nat) (st : St)
    (hd : dest ≠ 0) (hpos : 0 < dmax) (hle : dmax ≤ RSIZE_MAX_STR) (hbos : ∀ b, destbos = some b → dmax ≤ b)
    (hrw : RW st dest dmax) (hown : isSafeclibErr errnum = true)
    (hm : msg ≠ 0) (hsrc : SrcStr st msg (errmsgs.getD (errnum % 2^32 - ESNULLP) "").utf8ByteSize)
    (hdisj : Disjoint dest dmax msg (errmsgs.getD (errnum % 2^32 - ESNULLP) "").utf8ByteSize)
    (hdots : dots ≠ 0) (hds : SrcStr st dots 3) (hdd : Disjoint dest dmax dots 3)
    (h46 : st.data dots = 46 ∧ st.data (dots+1) = 46 ∧ st.data (dots+2) = 46) :
    ∃ code st', exec (strerror_s cfg dest dmax errnum destbos msg dots) st = .ok (code, st') ∧
      ∃ i, i < dmax ∧ st'.data (dest + i) = 0 :=
  strerror_s_C03 cfg dest dmax errnum destbos msg dots _ st hd hpos hle hbos hrw
    (SafeC.Props.C06Os.strerrorlen_s_own errnum msg st hown) hm hsrc hdisj hdots hds hdd h46

/-- non-vacuity: dest = 100 (8 cells), name "A" at 300, value "aa" at 200, message of 11 characters at 400 (does not
fit: truncation), "..." at 500; errnum 5 is not one of the library's own codes -/
example : (100 : Nat) ≠ 0 ∧ 0 < 8 ∧ 8 ≤ RSIZE_MAX_STR ∧ RW osExSt 100 8 ∧
    SrcStr osExSt 300 1 ∧ SrcStr osExSt 200 2 ∧ Disjoint 100 8 200 2 ∧
    isSafeclibErr 5 = false ∧ SrcStr osExSt 400 11 ∧ Disjoint 100 8 400 11 ∧
    SrcStr osExSt 500 3 ∧ Disjoint 100 8 500 3 ∧
    (osExSt.data 500 = 46 ∧ osExSt.data (500+1) = 46 ∧ osExSt.data (500+2) = 46) :=
  ⟨by decide, by decide, by decide, osExSt_rw, osExSt_str _ _ (by omega), osExSt_str _ _ (by omega),
   Or.inl (by decide), by decide, osExSt_str _ _ (by omega), Or.inl (by decide), osExSt_str _ _ (by omega),
   Or.inl (by decide), osExSt_dots⟩

end PartOs

end SafeC.Props.C03Ext
