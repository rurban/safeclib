import SafeC.Props.C05Time
/-!
# C05 "meaning" for `gmtime_s` / `localtime_s` (`tmConv`): the result depends on the arguments and on ONE cell, `*timer`

`tmCode dest timer t res` (with `t` the value of the cell `timer` in the entry state) = (value left in `errno` — EOK when
dest is returned —, the code handed to the str handler if any), transcribed from the doc comment of src/os/gmtime_s.c:
"May set errno to EOVERFLOW when *timer > 313360441200L, the year 10000, … or < 0, or to ESNULLP when dest or timer is a
NULL pointer."  The handler codes ESLEMIN / ESLEMAX are the code's (known finding `tmconv-handler-code-differs-from-errno`).
The code rejects `*timer >= MAX_TIME_T_STR`, the doc comment says `>`: `_partial` away from that one value, + witness.
-/
namespace SafeC.Props.C05Meaning
open SafeC Gen SafeC.Props.C05Time

def tmCode (dest timer t res : Nat) : Nat × Option Nat :=
  if dest = 0 then (ESNULLP, some ESNULLP)
  else if timer = 0 then (ESNULLP, some ESNULLP)
  else if cellI64 t < 0 then (EOVERFLOW, some ESLEMIN)
  else if cellI64 t > MAX_TIME_T_STR then (EOVERFLOW, some ESLEMAX)
  else if res = 0 then (NEG1, none)       -- libc could not convert
  else (EOK, none)

/-- `handler(c); return x;` -/
theorem report_ret (c x : Nat) (st : St) (r : Nat) (st' : St)
    (he : exec (do handlerS c; pure x : Prog Nat) st = .ok (r, st')) :
    r = x ∧ st'.events = st.events ++ [.handler .str c] := by
  have h : EV (do handlerS c; pure x : Prog Nat) (fun r es => r = x ∧ es = [Event.handler .str c]) :=
    EV.bind (EV.handlerS c) (fun _ es he => by subst he; exact EV.pure _ ⟨rfl, by simp⟩)
  obtain ⟨es, h1, h2, h3⟩ := h.sound st he
  subst h3; exact ⟨h2, h1⟩

/- FULL statement (no hypothesis on `*timer`), false of the code: `tmConv_meaning_witness` -/
/-- gmtime_s / localtime_s: for all arguments and all memory whose `*timer` is not exactly MAX_TIME_T_STR, the value left
in errno and the report are `tmCode` of the arguments and of that one cell -/
theorem tmConv_meaning_partial (timer dest res : Nat) (st : St) (r : Nat) (st' : St)
    (ht : cellI64 (st.data timer) ≠ MAX_TIME_T_STR)
    (he : exec (tmConv timer dest res) st = .ok (r, st')) :
    r = (tmCode dest timer (st.data timer) res).1 ∧
      st'.events = st.events ++ ((tmCode dest timer (st.data timer) res).2).toList.map (Event.handler .str) := by
  by_cases h1 : dest = 0
  · simp only [tmConv, tmCode, h1, if_true] at he ⊢
    simpa using report_ret _ _ _ _ _ he
  by_cases h2 : timer = 0
  · simp only [tmConv, tmCode, h1, h2, if_true, if_false] at he ⊢
    simpa using report_ret _ _ _ _ _ he
  simp only [tmConv, h1, h2, if_false] at he
  rw [exec_bind, exec_load] at he
  by_cases hm : st.mapped timer = true
  · simp only [hm, if_true] at he
    by_cases h3 : cellI64 (st.data timer) < 0
    · simp only [h3, if_true] at he
      have := report_ret _ _ _ _ _ he
      simp only [tmCode, h1, h2, h3, if_true, if_false, St.noteRd_events] at this ⊢
      simpa using this
    simp only [h3, if_false] at he
    rw [exec_bind, exec_load] at he
    simp only [St.noteRd_mapped, St.noteRd_data, hm, if_true] at he
    by_cases h4 : cellI64 (st.data timer) ≥ MAX_TIME_T_STR
    · have h4' : cellI64 (st.data timer) > MAX_TIME_T_STR := by omega
      simp only [h4, if_true] at he
      have := report_ret _ _ _ _ _ he
      simp only [tmCode, h1, h2, h3, h4', if_true, if_false, St.noteRd_events] at this ⊢
      simpa using this
    have h4' : ¬ cellI64 (st.data timer) > MAX_TIME_T_STR := by omega
    simp only [h4, if_false] at he
    by_cases h5 : res = 0
    · simp only [h5, if_true, exec_pure] at he
      injection he with he; injection he with hr hs
      subst hr; subst hs
      simp only [tmCode, h1, h2, h3, h4', h5, if_true, if_false, St.noteRd_events]
      simp
    · simp only [h5, if_false] at he
      have hq : EV (do copyTm 14 0 res dest; pure EOK : Prog Nat) (fun r es => r = EOK ∧ es = []) :=
        Quiet.then_ (q_copyTm _ _ _ _) (fun _ => EV.pure _ ⟨rfl, rfl⟩)
      obtain ⟨es, e1, e2, e3⟩ := hq.sound _ he
      subst e3
      simp only [tmCode, h1, h2, h3, h4', h5, if_false, St.noteRd_events] at e1 ⊢
      exact ⟨e2, by simpa using e1⟩
  · simp only [hm] at he
    cases he

/-- the excluded point: `*timer == 313360441200` is rejected (`>=` in the code) although the doc comment names only
`*timer > 313360441200L` -/
theorem tmConv_meaning_witness :
    ((exec (gmtime_s 8 100 200)
      { data := fun a => if a = 8 then 313360441200 else 0, mapped := fun _ => true, rd := fun _ => true, wr := fun _ => true }).toOption.map
        (fun x => (x.1, x.2.events)))
      = some (EOVERFLOW, [.handler .str ESLEMAX]) ∧ tmCode 100 8 313360441200 200 = (EOK, none) := by
  decide

/-- no report and EOK / "libc failed" exactly when no documented condition holds -/
theorem tmCode_ok_iff (dest timer t res : Nat) :
    (tmCode dest timer t res).2 = none ↔ dest ≠ 0 ∧ timer ≠ 0 ∧ 0 ≤ cellI64 t ∧ cellI64 t ≤ MAX_TIME_T_STR := by
  have s : ∀ c : Nat, some c ≠ (none : Option Nat) := fun _ => nofun
  simp only [tmCode, apply_ite Prod.snd, ite_self]
  rw [ite_ne_eq_iff (s _), ite_ne_eq_iff (s _), ite_ne_eq_iff (s _), ite_ne_eq_iff (s _)]
  simp only [Int.not_lt, gt_iff_lt, and_true, ne_eq]

/-- non-vacuity: a reporting run within the hypothesis (`*timer = -1`) -/
example : cellI64 (2^64 - 1) ≠ MAX_TIME_T_STR ∧ tmCode 100 8 (2^64 - 1) 200 = (EOVERFLOW, some ESLEMIN) := by decide

/-- gmtime_s: `tmConv_meaning_partial` under its own name -/
theorem gmtime_s_meaning_partial (timer dest res : Nat) (st : St) (r : Nat) (st' : St)
    (ht : cellI64 (st.data timer) ≠ MAX_TIME_T_STR) (he : exec (gmtime_s timer dest res) st = .ok (r, st')) :
    r = (tmCode dest timer (st.data timer) res).1 ∧
      st'.events = st.events ++ ((tmCode dest timer (st.data timer) res).2).toList.map (Event.handler .str) :=
  tmConv_meaning_partial timer dest res st r st' ht he

/-- localtime_s: the same code around `localtime_r` -/
theorem localtime_s_meaning_partial (timer dest res : Nat) (st : St) (r : Nat) (st' : St)
    (ht : cellI64 (st.data timer) ≠ MAX_TIME_T_STR) (he : exec (localtime_s timer dest res) st = .ok (r, st')) :
    r = (tmCode dest timer (st.data timer) res).1 ∧
      st'.events = st.events ++ ((tmCode dest timer (st.data timer) res).2).toList.map (Event.handler .str) :=
  tmConv_meaning_partial timer dest res st r st' ht he

end SafeC.Props.C05Meaning
