import SafeC.Models.Os
/-!
# C06 for the message table behind `strerror_s` / `strerrorlen_s` (regenerated facts)

`Gen/Errmsgs.lean` is rewritten from `src/str/strerror_s.h` on every run.  `strerrorlen_s` answers from the
hand-maintained table `len_errmsgs_s` and `strerror_s` copies from `errmsgs_s`: if the two tables ever disagree
(a message edited without its length), `strerror_s` truncates a message that fits or copies with the wrong bound.
The theorems below are re-checked against the CURRENT header by `lake build`.
-/
namespace SafeC.Props.C06Os
open SafeC Gen

/-- every entry of `len_errmsgs_s` is the size of the corresponding message including its terminator -/
theorem errmsgs_len_table : lenErrmsgs = errmsgs.map (fun s => s.utf8ByteSize + 1) := by decide +kernel

/-- the two tables cover exactly the codes ESNULLP … ESLAST -/
theorem errmsgs_cover : errmsgs.length = ESLAST - ESNULLP + 1 ∧ lenErrmsgs.length = errmsgs.length := by decide

/-- strerrorlen_s on one of the library's own codes: no memory access, no event, and the answer is the byte length of
the message `strerror_s` copies (all 11 codes; `msg` is irrelevant) -/
theorem strerrorlen_s_own (e msg : Nat) (st : St) (h : isSafeclibErr e = true) :
    exec (strerrorlen_s e msg) st = .ok ((errmsgs.getD (e % 2^32 - ESNULLP) "").utf8ByteSize, st) := by
  have hr : e % 2^32 - ESNULLP < 11 := by
    unfold isSafeclibErr errnumInt at h
    have h' := of_decide_eq_true h
    simp only [ESNULLP, ESLAST] at h' ⊢
    by_cases hlt : e % 2^32 < 2^31
    · rw [if_pos hlt] at h'
      omega
    · rw [if_neg hlt] at h'
      omega
  unfold strerrorlen_s
  simp only [h, if_true, exec_pure]
  -- the entry of the length table is the size of the entry of the message table, plus one
  have hlen : e % 2^32 - ESNULLP < errmsgs.length := Nat.lt_of_lt_of_eq hr errmsgs_cover.1.symm
  rw [errmsgs_len_table, List.getD_eq_getElem?_getD, List.getD_eq_getElem?_getD, List.getElem?_map,
    List.getElem?_eq_getElem hlen]
  exact congrArg (fun n => Except.ok (n, st)) (Nat.add_sub_cancel ..)

example : isSafeclibErr 403 = true := by decide

end SafeC.Props.C06Os
