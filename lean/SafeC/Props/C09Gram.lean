import SafeC.Proofs.FmtScan
/-!
# C09 — the `%n` pre-scan against the format grammar of the C standard

Specification: `SafeC/Proofs/FmtGram.lean` — `PParse fmt b` / `SParse okSet fmt b`: "`fmt` is a printf / scanf format of
the grammar `literal* ( %% | % flags* width? (.prec)? length? conv )*` and `b` tells whether it has an `n` conversion
(scanf: one that stores)".  The quantifier of the property is exactly this language.  The scanner is `prescan`
(`strstr(fmt, "%n")` + one character of look-behind), shared by all 28 entry points; for the 21 libc-delegating ones
(scanf_s family, wide printf family, `vprintf_s`) it is the only defence.

|                         | printf grammar                                  | scanf grammar                                         |
|-------------------------|-------------------------------------------------|-------------------------------------------------------|
| soundness (rejects ⇒ n) | `prescan_sound_printf` FULL                     | false (`%[%n]`): `_partial` (no `%` in scan sets) + `_witness` |
| completeness (n ⇒ rejects) | false: `_partial` (a bare `%n`, no `%%n`) + `_witness`; exact set `prescan_printf_exact` | false: `_partial` + `_witness` |
-/
namespace SafeC.Props.C09
open SafeC.Fmt SafeC.Fmt.Gram

/-! ## printf grammar: soundness (FULL) -/

/-- the scanner lets every format of the printf grammar without `n` conversion through: any length, any flags, width,
    precision, length modifiers, `%%`, text before and after -/
theorem prescan_sound_printf (fmt : Str) (h : PParse fmt false) : prescan fmt = false := by
  cases hp : prescan fmt with
  | false => rfl
  | true =>
    rw [prescan_eq_look fmt (p := 'x') (by decide)] at hp
    exact absurd (look_sound h 'x' hp) (by decide)

/-- the same, read the other way: a format of the grammar that the scanner rejects has an `n` conversion -/
theorem prescan_rejects_has_n (fmt : Str) (hwf : PWf fmt) (h : prescan fmt = true) : PHasN fmt := by
  obtain ⟨b, hb⟩ := hwf
  cases b with
  | true => exact hb
  | false => rw [prescan_sound_printf fmt hb] at h; cases h

example : prescan "100%% of %-08.3lld, %s%%".toList = false :=
  prescan_sound_printf _ (pparse_of_check (by decide +kernel))

/-- outside the grammar the scanner is conservative: `%5%n` is rejected although neither glibc's grammar nor the
    standard's finds an `n` conversion in it (`%5%` is not a conversion specification of the standard) -/
theorem prescan_outside_grammar_witness :
    prescan ['%', '5', '%', 'n'] = true ∧ libcPrintfStoresN ['%', '5', '%', 'n'] = false := by decide

/-! ## printf grammar: completeness -/

/- FULL STATEMENT (false):
   theorem prescan_complete_printf (fmt : Str) (h : PHasN fmt) : prescan fmt = true -/

theorem hasN_single (d : Decor) (hd : d.ok = true) : PHasN ('%' :: (d.text ++ ['n'])) := by
  simpa using pparse_n_anywhere (pre := []) (post := []) d hd PParse.nil PParse.nil

/-- formats of the grammar with an `n` conversion that the scanner lets through: a length modifier, a width, a flag,
    `*`, a precision, an escaped percent sign in front, an earlier `%%n` -/
theorem prescan_complete_printf_witness :
    (PHasN ['%', 'l', 'n'] ∧ prescan ['%', 'l', 'n'] = false) ∧
    (PHasN ['%', 'h', 'h', 'n'] ∧ prescan ['%', 'h', 'h', 'n'] = false) ∧
    (PHasN ['%', '5', 'n'] ∧ prescan ['%', '5', 'n'] = false) ∧
    (PHasN ['%', '-', 'n'] ∧ prescan ['%', '-', 'n'] = false) ∧
    (PHasN ['%', '*', 'n'] ∧ prescan ['%', '*', 'n'] = false) ∧
    (PHasN ['%', '.', '3', 'n'] ∧ prescan ['%', '.', '3', 'n'] = false) ∧
    (PHasN ['%', '%', '%', 'n'] ∧ prescan ['%', '%', '%', 'n'] = false) ∧
    (PHasN ['%', '%', 'n', '%', 'n'] ∧ prescan ['%', '%', 'n', '%', 'n'] = false) :=
  ⟨⟨hasN_single ⟨[], [], [], ['l']⟩ (by decide), by decide⟩,
   ⟨hasN_single ⟨[], [], [], ['h', 'h']⟩ (by decide), by decide⟩,
   ⟨hasN_single ⟨[], ['5'], [], []⟩ (by decide), by decide⟩,
   ⟨hasN_single ⟨['-'], [], [], []⟩ (by decide), by decide⟩,
   ⟨hasN_single ⟨[], ['*'], [], []⟩ (by decide), by decide⟩,
   ⟨hasN_single ⟨[], [], ['.', '3'], []⟩ (by decide), by decide⟩,
   ⟨PParse.esc (hasN_single Decor.none (by decide)), by decide⟩,
   ⟨PParse.esc (PParse.lit (by decide) (hasN_single Decor.none (by decide))), by decide⟩⟩

/-- what the proof needs: some conversion specification is written exactly `%n`, and nowhere do the three characters
    `%%n` occur.  (The first hypothesis alone gives the occurrence of `%n` — `PHasBareN.infix`; the scanner only looks at
    the FIRST occurrence, hence the second.) -/
theorem prescan_complete_printf_partial (fmt : Str) (h : PHasBareN fmt) (hesc : ¬ ['%', '%', 'n'] <:+: fmt) :
    prescan fmt = true :=
  prescan_of_infix h.infix hesc

example : prescan "a%5d%%b%n%s".toList = true :=
  prescan_complete_printf_partial _
    ⟨"a%5d%%b".toList, "%s".toList, false, false, pparse_of_check (by decide +kernel), pparse_of_check (by decide +kernel),
      by decide⟩
    (noPctPctN_sound (by decide))

/-- **the exact set of formats of the grammar that the scanner rejects**: `PRej` — a bare `%n` that comes before every
    `%%n` and does not itself stand directly behind a `%%` -/
theorem prescan_printf_exact (fmt : Str) (hwf : PWf fmt) : prescan fmt = true ↔ PRej fmt := by
  obtain ⟨b, hb⟩ := hwf
  rw [prescan_eq_look fmt (p := 'x') (by decide)]
  exact ⟨PRej_of_look hb 'x', fun hr => look_of_PRej hr 'x' (by decide)⟩

/-- every rejected format of the grammar has an `n` conversion (soundness once more, from the exact set) -/
theorem prescan_rejected_set_has_n (fmt : Str) (h : PRej fmt) : PHasN fmt := h.hasN

/-! ## scanf grammar -/

/- FULL STATEMENT (false):
   theorem prescan_sound_scanf (fmt : Str) (h : SParseAll fmt false) : prescan fmt = false -/

/-- the scan set `%[%n]` has the members `%` and `n`; it stores through no `n` conversion, the scanner rejects it -/
theorem prescan_sound_scanf_witness :
    SParseAll ['%', '[', '%', 'n', ']'] false ∧ prescan ['%', '[', '%', 'n', ']'] = true :=
  ⟨SParse.set (d := ⟨false, [], []⟩) (s := ⟨false, '%', ['n']⟩) (by decide) (by decide) trivial SParse.nil, by decide⟩

/-- scanf formats of the grammar in which no scan set has `%` as a member: the scanner lets every one without a storing
    `n` conversion through (`%*n`, which stores nothing, included) -/
theorem prescan_sound_scanf_partial (fmt : Str) (h : SParseNoPct fmt false) : prescan fmt = false := by
  cases hp : prescan fmt with
  | false => rfl
  | true =>
    rw [prescan_eq_look fmt (p := 'x') (by decide)] at hp
    exact absurd (slook_sound h 'x' hp) (by decide)

example : prescan "%d %*n%5s%[^]a-z]%%".toList = false :=
  prescan_sound_scanf_partial _ <|
    SParse.conv (d := ⟨false, [], []⟩) (c := 'd') (by decide) (by decide) <| SParse.lit (by decide) <|
    SParse.conv (d := ⟨true, [], []⟩) (c := 'n') (by decide) (by decide) <|
    SParse.conv (d := ⟨false, ['5'], []⟩) (c := 's') (by decide) (by decide) <|
    SParse.set (d := ⟨false, [], []⟩) (s := ⟨true, ']', ['a', '-', 'z']⟩) (by decide) (by decide) (by decide) <|
    SParse.esc SParse.nil

/- FULL STATEMENT (false):
   theorem prescan_complete_scanf (fmt : Str) (h : SParseAll fmt true) : prescan fmt = true -/

theorem shasN_single (d : SDecor) (hd : d.ok = true) (hs : d.sup = false) : SParseAll ('%' :: (d.text ++ ['n'])) true := by
  have := SParse.conv (okSet := fun _ => True) (d := d) (c := 'n') hd (by decide) SParse.nil
  simpa [hs] using this

theorem prescan_complete_scanf_witness :
    (SParseAll ['%', 'l', 'n'] true ∧ prescan ['%', 'l', 'n'] = false) ∧
    (SParseAll ['%', 'h', 'h', 'n'] true ∧ prescan ['%', 'h', 'h', 'n'] = false) ∧
    (SParseAll ['%', '5', 'n'] true ∧ prescan ['%', '5', 'n'] = false) ∧
    (SParseAll ['%', '%', '%', 'n'] true ∧ prescan ['%', '%', '%', 'n'] = false) ∧
    (SParseAll ['%', '%', 'n', '%', 'n'] true ∧ prescan ['%', '%', 'n', '%', 'n'] = false) :=
  ⟨⟨shasN_single ⟨false, [], ['l']⟩ (by decide) rfl, by decide⟩,
   ⟨shasN_single ⟨false, [], ['h', 'h']⟩ (by decide) rfl, by decide⟩,
   ⟨shasN_single ⟨false, ['5'], []⟩ (by decide) rfl, by decide⟩,
   ⟨SParse.esc (shasN_single ⟨false, [], []⟩ (by decide) rfl), by decide⟩,
   ⟨SParse.esc (SParse.lit (by decide) (shasN_single ⟨false, [], []⟩ (by decide) rfl)), by decide⟩⟩

theorem prescan_complete_scanf_partial (fmt : Str) (h : SHasBareN fmt) (hesc : ¬ ['%', '%', 'n'] <:+: fmt) :
    prescan fmt = true :=
  prescan_of_infix h.infix hesc

example : prescan "%d %n".toList = true :=
  prescan_complete_scanf_partial _
    ⟨"%d ".toList, [], false, false,
      SParse.conv (d := ⟨false, [], []⟩) (c := 'd') (by decide) (by decide) (SParse.lit (by decide) SParse.nil),
      SParse.nil, by decide⟩
    (noPctPctN_sound (by decide))

/-! ## the libc-delegating entry points (21 of the 28): scanner, then libc

Their models (`Models/Fmt.lean`): the call is rejected with EINVAL iff `prescan`; otherwise libc interprets the format,
`delegatingPrintfStores` / `delegatingScanfStores` = "not rejected and libc stores through an argument for an `n`". -/

/- FULL STATEMENT (false):
   theorem delegating_gram_C09 (fmt : Str) (h : PHasN fmt) : prescan fmt = true ∧ delegatingPrintfStores fmt = false -/

/-- wide printf family and `vprintf_s`: grammatical formats with an `n` conversion that are not rejected and through
    which libc stores -/
theorem delegating_gram_C09_witness :
    (PHasN ['%', 'l', 'n'] ∧ prescan ['%', 'l', 'n'] = false ∧ delegatingPrintfStores ['%', 'l', 'n'] = true) ∧
    (PHasN ['%', '%', '%', 'n'] ∧ prescan ['%', '%', '%', 'n'] = false ∧ delegatingPrintfStores ['%', '%', '%', 'n'] = true) :=
  ⟨⟨hasN_single ⟨[], [], [], ['l']⟩ (by decide), by decide, by decide⟩,
   ⟨PParse.esc (hasN_single Decor.none (by decide)), by decide, by decide⟩⟩

/-- with a bare `%n` and no `%%n`: rejected, and nothing is stored through an argument -/
theorem delegating_gram_C09_partial (fmt : Str) (h : PHasBareN fmt) (hesc : ¬ ['%', '%', 'n'] <:+: fmt) :
    prescan fmt = true ∧ delegatingPrintfStores fmt = false := by
  have hp := prescan_complete_printf_partial fmt h hesc
  exact ⟨hp, by simp [delegatingPrintfStores, hp]⟩

/- FULL STATEMENT (false):
   theorem delegating_scanf_gram_C09 (fmt : Str) (h : SParseAll fmt true) : prescan fmt = true ∧ delegatingScanfStores fmt = false -/

theorem delegating_scanf_gram_C09_witness :
    (SParseAll ['%', 'l', 'n'] true ∧ prescan ['%', 'l', 'n'] = false ∧ delegatingScanfStores ['%', 'l', 'n'] = true) ∧
    (SParseAll ['%', '%', '%', 'n'] true ∧ prescan ['%', '%', '%', 'n'] = false ∧ delegatingScanfStores ['%', '%', '%', 'n'] = true) :=
  ⟨⟨shasN_single ⟨false, [], ['l']⟩ (by decide) rfl, by decide, by decide⟩,
   ⟨SParse.esc (shasN_single ⟨false, [], []⟩ (by decide) rfl), by decide, by decide⟩⟩

theorem delegating_scanf_gram_C09_partial (fmt : Str) (h : SHasBareN fmt) (hesc : ¬ ['%', '%', 'n'] <:+: fmt) :
    prescan fmt = true ∧ delegatingScanfStores fmt = false := by
  have hp := prescan_complete_scanf_partial fmt h hesc
  exact ⟨hp, by simp [delegatingScanfStores, hp]⟩

/-- a rejected call stores nothing, whatever libc would have done with the format (both families, every format) -/
theorem delegating_rejected_stores_nothing (fmt : Str) (h : prescan fmt = true) :
    delegatingPrintfStores fmt = false ∧ delegatingScanfStores fmt = false := by
  simp [delegatingPrintfStores, delegatingScanfStores, h]

end SafeC.Props.C09
