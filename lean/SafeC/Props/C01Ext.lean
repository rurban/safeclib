import SafeC.Props.C01
import SafeC.Proofs.AccOs
import SafeC.Proofs.AccFld
import SafeC.Proofs.AccStp
import SafeC.Proofs.AccTok
/-!
# C01 (extension) — tokenizers, field copies, wide / stp copies, `getenv_s`, `strerror_s`

Same setting and conclusion as `Props/C01.lean` (`Setting`, `Holds`): every cell mapped and readable with ARBITRARY
contents, only the declared destination writable; then for ALL arguments (NULL, zero, huge, overlapping, terminated
or not, object sizes known or unknown) the call returns, records no stray write and leaves every cell that was not
declared writable bit-identical.  Each is the footprint theorem of the function (`Proofs/Acc*.lean`: loads in any `R`, stores in
any `W` that hold the cells named) with loads allowed anywhere and stores allowed in what the state declares writable
(`holds_of_AccS`, `holds_of_Acc` of `Props/C01.lean`).

Where the code really uses a larger extent than the caller declared, the theorem is stated (`_partial`) with the extent /
hypothesis the proof forces, and a kernel-checked `_witness` shows the stray write of the full statement.
-/
namespace SafeC.Props.C01
open SafeC

/-- **strtok_s**, all arguments (`dmaxp` / `ptr` NULL or not, `dest` NULL = continue at `*ptr`, any delimiter string, any
object-size knowledge): every store lands in `[D, D + dmax]`, `D` the buffer scanned — ONE cell more than declared.
The full statement, with `RW st D dmax`, is false of the model (`tok-unterm-exit-writes-dest-dmax`): the "unterminated"
exits execute `*dest = 0` at the scan position, which is `D + dmax` when no NUL was found inside the declared extent. -/
theorem strtok_s_C01_partial (dest : Nat) (dmaxp : Option Nat) (delim : Nat) (ptr : Option Nat) (b : Bos) (st : St)
    (hs : Setting st)
    (hrw : ∀ dmax pv, dmaxp = some dmax → ptr = some pv → (if dest = 0 then pv else dest) ≠ 0 →
      RW st (if dest = 0 then pv else dest) (dmax + 1)) :
    ∃ o st', exec (strtok_s dest dmaxp delim ptr b) st = .ok (o, st') ∧ Holds st st' :=
  holds_of_AccS hs (strtok_s_accs dest dmaxp delim ptr b (fun _ _ _ _ _ _ _ => trivial)
    (fun dmax pv h1 h2 h3 a ha => C02.Wr_of_RW (hrw dmax pv h1 h2 h3) a ha.cells) (fun _ _ _ => trivial))

/-- **wcstok_s**: the same statement on `wchar_t` cells (here also the first scan stores on its unterminated exit) -/
theorem wcstok_s_C01_partial (dest : Nat) (dmaxp : Option Nat) (delim : Nat) (ptr : Option Nat) (b : Bos) (st : St)
    (hs : Setting st)
    (hrw : ∀ dmax pv, dmaxp = some dmax → ptr = some pv → (if dest = 0 then pv else dest) ≠ 0 →
      RW st (if dest = 0 then pv else dest) (dmax + 1)) :
    ∃ o st', exec (wcstok_s dest dmaxp delim ptr b) st = .ok (o, st') ∧ Holds st st' :=
  holds_of_AccS hs (wcstok_s_accs dest dmaxp delim ptr b (fun _ _ _ _ _ _ _ => trivial)
    (fun dmax pv h1 h2 h3 a ha => C02.Wr_of_RW (hrw dmax pv h1 h2 h3) a ha.cells) (fun _ _ _ => trivial))

/-- dest = 100 holds `ab` followed by a non-NUL cell, dmax = 2 (cells 100, 101 writable), delimiters `,` at 200 -/
def tokSt : St :=
  { data := fun a => if a = 100 then 97 else if a = 101 then 98 else if a = 102 then 99 else if a = 200 then 44 else 0
    mapped := fun _ => true, rd := fun _ => true
    wr := fun a => decide (100 ≤ a ∧ a < 102) }

/-- the excluded point: `strtok_s(d, &dmax = 2, ",", &p)` on an unterminated `d`: a stray write at `d[2]` -/
theorem strtok_s_C01_witness :
    strayWrites (exec (strtok_s 100 (some 2) 200 (some 0) none) tokSt) = some [.wr 102] := by decide

theorem wcstok_s_C01_witness :
    strayWrites (exec (wcstok_s 100 (some 2) 200 (some 0) none) tokSt) = some [.wr 102] := by decide

example : Setting tokSt ∧ RW tokSt 100 2 := ⟨⟨fun _ => ⟨rfl, rfl⟩, rfl⟩, fun i hi => ⟨rfl, by simp [tokSt]; omega, rfl⟩⟩

/-- **strcpyfld_s**: all arguments, any object-size knowledge -/
theorem strcpyfld_s_C01 (cfg : Cfg) (dest dmax src slen : Nat) (b : Bos) (st : St) (hs : Setting st)
    (hrw : dest ≠ 0 → RW st dest dmax) :
    ∃ code st', exec (strcpyfld_s cfg dest dmax src slen b) st = .ok (code, st') ∧ Holds st st' :=
  holds_of_AccS hs (fldG_accs .fld cfg dest dmax src slen b (fun _ _ _ => trivial) (fun _ _ _ => trivial) (C02.Wr_of_RW.guard hrw))

theorem strcpyfldin_s_C01 (cfg : Cfg) (dest dmax src slen : Nat) (b : Bos) (st : St) (hs : Setting st)
    (hrw : dest ≠ 0 → RW st dest dmax) :
    ∃ code st', exec (strcpyfldin_s cfg dest dmax src slen b) st = .ok (code, st') ∧ Holds st st' :=
  holds_of_AccS hs (fldG_accs .fldin cfg dest dmax src slen b (fun _ _ _ => trivial) (fun _ _ _ => trivial) (C02.Wr_of_RW.guard hrw))

theorem strcpyfldout_s_C01 (cfg : Cfg) (dest dmax src slen : Nat) (b : Bos) (st : St) (hs : Setting st)
    (hrw : dest ≠ 0 → RW st dest dmax) :
    ∃ code st', exec (strcpyfldout_s cfg dest dmax src slen b) st = .ok (code, st') ∧ Holds st st' :=
  holds_of_AccS hs (fldG_accs .fldout cfg dest dmax src slen b (fun _ _ _ => trivial) (fun _ _ _ => trivial) (C02.Wr_of_RW.guard hrw))

/-- **strcpy_s**, object size known or unknown -/
theorem strcpy_s_C01_bos (cfg : Cfg) (dest dmax src : Nat) (b : Bos) (st : St) (hs : Setting st)
    (hrw : dest ≠ 0 → RW st dest dmax) :
    ∃ code st', exec (strcpy_s cfg dest dmax src b) st = .ok (code, st') ∧ Holds st st' :=
  holds_of_AccS hs (strcpyG_accs _ cfg dest dmax src b (fun _ _ _ => trivial) (fun _ _ _ => trivial) (C02.Wr_of_RW.guard hrw))

/-- **strcat_s**, object size known or unknown -/
theorem strcat_s_C01_bos (cfg : Cfg) (dest dmax src : Nat) (b : Bos) (st : St) (hs : Setting st)
    (hrw : dest ≠ 0 → RW st dest dmax) :
    ∃ code st', exec (strcat_s cfg dest dmax src b) st = .ok (code, st') ∧ Holds st st' :=
  holds_of_AccS hs (strcatG_accs _ cfg dest dmax src b (fun _ _ _ => trivial) (fun _ _ _ => trivial) (C02.Wr_of_RW.guard hrw))

/-- **wcscpy_s**, object size (bytes) known or unknown -/
theorem wcscpy_s_C01_bos (cfg : Cfg) (dest dmax src : Nat) (b : Bos) (st : St) (hs : Setting st)
    (hrw : dest ≠ 0 → RW st dest dmax) :
    ∃ code st', exec (wcscpy_s cfg dest dmax src b) st = .ok (code, st') ∧ Holds st st' :=
  holds_of_AccS hs (wcscpy_s_accs cfg dest dmax src b (fun _ _ _ => trivial) (C02.Wr_of_RW.guard hrw))

/-- **wcscat_s**, object size known or unknown -/
theorem wcscat_s_C01_bos (cfg : Cfg) (dest dmax src : Nat) (b : Bos) (st : St) (hs : Setting st)
    (hrw : dest ≠ 0 → RW st dest dmax) :
    ∃ code st', exec (wcscat_s cfg dest dmax src b) st = .ok (code, st') ∧ Holds st st' :=
  holds_of_AccS hs (wcscat_s_accs cfg dest dmax src b (fun _ _ _ => trivial) (fun _ _ _ => trivial) (C02.Wr_of_RW.guard hrw))

/-- **wcsncpy_s**: all `dest dmax src slen`, both object sizes known or unknown (the `slen > srcbos` exit clears
`wcsnlen_s(dest, dmax)` cells: inside dest, unlike the narrow twin) -/
theorem wcsncpy_s_C01 (cfg : Cfg) (dest dmax src slen : Nat) (db sb : Bos) (st : St) (hs : Setting st)
    (hrw : dest ≠ 0 → RW st dest dmax) :
    ∃ code st', exec (wcsncpy_s cfg dest dmax src slen db sb) st = .ok (code, st') ∧ Holds st st' :=
  holds_of_AccS hs (wcsncpy_s_accs cfg dest dmax src slen db sb (fun _ _ _ => trivial) (fun _ _ _ => trivial) (C02.Wr_of_RW.guard hrw))

/-- **wcsncat_s**: all arguments (also `slen = 0`), both object sizes known or unknown -/
theorem wcsncat_s_C01 (cfg : Cfg) (dest dmax src slen : Nat) (db sb : Bos) (st : St) (hs : Setting st)
    (hrw : dest ≠ 0 → RW st dest dmax) :
    ∃ code st', exec (wcsncat_s cfg dest dmax src slen db sb) st = .ok (code, st') ∧ Holds st st' :=
  holds_of_AccS hs (wcsncat_s_accs cfg dest dmax src slen db sb (fun _ _ _ => trivial) (fun _ _ _ => trivial) (C02.Wr_of_RW.guard hrw))

/-- **strncat_s with `slen = 0` included** (the path `Props/C01.lean` leaves out), object sizes unknown -/
theorem strncat_s_C01_all (cfg : Cfg) (dest dmax src slen : Nat) (st : St) (hs : Setting st)
    (hrw : dest ≠ 0 → RW st dest dmax) :
    ∃ code st', exec (strncat_s cfg dest dmax src slen none none) st = .ok (code, st') ∧ Holds st st' :=
  holds_of_AccS hs (strncatG_accs _ cfg dest dmax src slen none none (fun _ _ _ h => nomatch h) (fun _ _ _ => trivial) (fun _ _ _ => trivial) (C02.Wr_of_RW.guard hrw))

/-- **strncpy_s, object sizes known**: all arguments, provided a known dest object is not larger than `dmax` when the
source object size is known too (`bosTight`).  Without `hb` the statement is false of the model
(`slen-exceeds-srcbos-clears-destbos`): with BOTH object sizes known the `slen > srcbos` exit calls
`handle_str_bos_overflow(dest, destbos)`, which clears `strnlen_s(dest, destbos)` cells — up to the object size, not `dmax`. -/
theorem strncpy_s_C01_bos_partial (cfg : Cfg) (dest dmax src slen : Nat) (db sb : Bos) (st : St) (hs : Setting st)
    (hb : bosTight dmax db sb) (hrw : dest ≠ 0 → RW st dest dmax) :
    ∃ code st', exec (strncpy_s cfg dest dmax src slen db sb) st = .ok (code, st') ∧ Holds st st' :=
  holds_of_AccS hs (strncpyG_accs _ cfg dest dmax src slen db sb (fun h => hob_of_hov hb.hov (fun _ _ => trivial) (C02.Wr_of_RW (hrw h)))
    (fun _ _ _ => trivial) (fun _ _ _ => trivial) (C02.Wr_of_RW.guard hrw))

/-- **strncat_s, object sizes known** -/
theorem strncat_s_C01_bos_partial (cfg : Cfg) (dest dmax src slen : Nat) (db sb : Bos) (st : St) (hs : Setting st)
    (hb : bosTight dmax db sb) (hrw : dest ≠ 0 → RW st dest dmax) :
    ∃ code st', exec (strncat_s cfg dest dmax src slen db sb) st = .ok (code, st') ∧ Holds st st' :=
  holds_of_AccS hs (strncatG_accs _ cfg dest dmax src slen db sb (fun h => hob_of_hov hb.hov (fun _ _ => trivial) (C02.Wr_of_RW (hrw h)))
    (fun _ _ _ => trivial) (fun _ _ _ => trivial) (C02.Wr_of_RW.guard hrw))

/-- dest = 100 holds `abc` (no NUL in the 3-cell object), 2 cells declared -/
def bosSt : St :=
  { data := fun a => if a = 100 then 97 else if a = 101 then 98 else if a = 102 then 99 else if a = 200 then 120 else 0
    mapped := fun _ => true, rd := fun _ => true
    wr := fun a => decide (100 ≤ a ∧ a < 102) }

/-- the excluded point: `strncpy_s(d, 2, s, 2)` with destbos 3, srcbos 1 zeroes `d[2]` -/
theorem strncpy_s_C01_bos_witness :
    strayWrites (exec (strncpy_s { slack := true } 100 2 200 2 (some 3) (some 1)) bosSt) = some [.wr 102] := by decide

theorem strncat_s_C01_bos_witness :
    strayWrites (exec (strncat_s { slack := true } 100 2 200 2 (some 3) (some 1)) bosSt) = some [.wr 102] := by decide

/-- **stpcpy_s**: all arguments, both object sizes known or unknown -/
theorem stpcpy_s_C01 (cfg : Cfg) (dest dmax src : Nat) (db sb : Bos) (st : St) (hs : Setting st)
    (hrw : dest ≠ 0 → RW st dest dmax) :
    ∃ r st', exec (stpcpy_s cfg dest dmax src db sb) st = .ok (r, st') ∧ Holds st st' :=
  holds_of_AccS hs (stpcpy_s_accs cfg dest dmax src db sb (fun _ _ _ => trivial) (fun _ _ _ => trivial) (C02.Wr_of_RW.guard hrw))

/-- **stpncpy_s**, object sizes unknown: all arguments (only one of them known: `stpncpy_s_C01_bos_partial`, whose `bosTight` is then `True`) -/
theorem stpncpy_s_C01 (cfg : Cfg) (dest dmax src slen : Nat) (st : St) (hs : Setting st)
    (hrw : dest ≠ 0 → RW st dest dmax) :
    ∃ r st', exec (stpncpy_s cfg dest dmax src slen none none) st = .ok (r, st') ∧ Holds st st' :=
  holds_of_AccS hs (stpncpy_s_accs cfg dest dmax src slen none none (fun _ _ _ h => nomatch h) (fun _ _ _ => trivial) (fun _ _ _ => trivial) (C02.Wr_of_RW.guard hrw))

/-- **stpncpy_s, object sizes known** (same `handle_str_bos_overflow(dest, destbos)` exit as strncpy_s) -/
theorem stpncpy_s_C01_bos_partial (cfg : Cfg) (dest dmax src slen : Nat) (db sb : Bos) (st : St) (hs : Setting st)
    (hb : bosTight dmax db sb) (hrw : dest ≠ 0 → RW st dest dmax) :
    ∃ r st', exec (stpncpy_s cfg dest dmax src slen db sb) st = .ok (r, st') ∧ Holds st st' :=
  holds_of_AccS hs (stpncpy_s_accs cfg dest dmax src slen db sb (fun hd => hob_of_hov hb.hov (fun _ _ => trivial) (C02.Wr_of_RW (hrw hd))) (fun _ _ _ => trivial) (fun _ _ _ => trivial) (C02.Wr_of_RW.guard hrw))

theorem stpncpy_s_C01_bos_witness :
    strayWrites (exec (stpncpy_s { slack := true } 100 2 200 2 (some 3) (some 1)) bosSt) = some [.wr 102] := by decide

example : Setting bosSt ∧ RW bosSt 100 2 ∧ bosTight 2 (some 2) (some 1) :=
  ⟨⟨fun _ => ⟨rfl, rfl⟩, rfl⟩, fun i hi => ⟨rfl, by simp [bosSt]; omega, rfl⟩, Nat.le_refl _⟩

/-- **getenv_s**: all arguments; `value` = the environment string (0 = not set), any contents -/
theorem getenv_s_C01 (cfg : Cfg) (hasLen : Bool) (dest dmax name : Nat) (b : Bos) (value : Nat) (st : St) (hs : Setting st)
    (hrw : dest ≠ 0 → RW st dest dmax) :
    ∃ r st', exec (getenv_s cfg hasLen dest dmax name b value) st = .ok (r, st') ∧ Holds st st' :=
  holds_of_AccS hs (getenv_s_accs cfg hasLen dest dmax name b value (fun _ _ _ => trivial) (fun _ _ _ _ => trivial) (fun _ _ _ => trivial) (C02.Wr_of_RW.guard hrw))

/-- **strerror_s**: all arguments; `msg` = libc's message, `dots` = the literal `"..."`, any contents -/
theorem strerror_s_C01 (cfg : Cfg) (dest dmax errnum : Nat) (b : Bos) (msg dots : Nat) (st : St) (hs : Setting st)
    (hrw : dest ≠ 0 → RW st dest dmax) :
    ∃ code st', exec (strerror_s cfg dest dmax errnum b msg dots) st = .ok (code, st') ∧ Holds st st' :=
  holds_of_AccS hs (strerror_s_accs cfg dest dmax errnum b msg dots (fun _ _ _ _ => trivial) (fun _ _ _ _ _ _ _ => trivial) (fun _ _ _ => trivial) (C02.Wr_of_RW.guard hrw))

end SafeC.Props.C01
