import SafeC.Proofs.AccOs
import SafeC.Props.C12Time
import SafeC.Proofs.AccGets
import SafeC.Proofs.FootprintTime
import SafeC.Props.C02Mem
import SafeC.Props.C02
/-!
From a `Within2` footprint to a run with only the footprint mapped (asctime_s / ctime_s below).
-/
namespace SafeC.Props.C02
open SafeC

theorem runs_of_within2 {α} {R W : Nat → Prop} {p : Prog α} {st : St} (h : Within2 R W p st)
    (hr : ∀ a, R a → Rd st a) (hw : ∀ a, W a → Wr st a) : Runs p st :=
  within2_sound p st h hr hw

/-!
# C02 for the os family: `getenv_s strerror_s strerrorlen_s asctime_s ctime_s gmtime_s localtime_s gets_s`

The process state these functions consult is an ARGUMENT of their models — a region of memory the library only reads
(the environment value, libc's message, the literal `"..."`, libc's rendering of the time, libc's `struct tm`, the bytes
left in the stream).  ONLY those regions, the caller's objects (`name`, `*tm`, `*timer`) and dest's declared cells are
mapped; every call returns without a stray access: all arguments, NULL pointers, object sizes known or unknown, both
slack configurations.  A libc string is "readable at every cut" (`∀ n, StrRd st p n`: the cells up to and including its
terminator); where the library writes dest and then reads a libc text again (`strerror_s`: `strncpy_s` then
`strcat_s(dest, dmax, "...")`; `asctime_s` / `ctime_s`: `Staged`) the text lies apart from dest.
-/

/-- **getenv_s** (FULL): `name` to its terminator (`getenv`; `scanFuel` cut of the model), the value to its terminator,
dest's `dmax` cells; `len` null or not, the variable set (`value ≠ 0`) or not -/
theorem getenv_s_C02 (cfg : Cfg) (hasLen : Bool) (dest dmax name : Nat) (db : Bos) (value : Nat) (st : St)
    (hn : name ≠ 0 → StrRd st name scanFuel) (hv : value ≠ 0 → ∀ n, StrRd st value n)
    (hd : dest ≠ 0 → RW st dest dmax) :
    Runs (getenv_s cfg hasLen dest dmax name db value) st :=
  runs_of_AccS (getenv_s_accs cfg hasLen dest dmax name db value hn hv (Rd_of_RW.guard hd) (Wr_of_RW.guard hd))

/-- **strerrorlen_s** (FULL): no access for the library's own codes (table), `strlen` of libc's message otherwise -/
theorem strerrorlen_s_C02 (errnum msg : Nat) (st : St) (hm : isSafeclibErr errnum = false → StrRd st msg scanFuel) :
    Runs (strerrorlen_s errnum msg) st :=
  runs_of_AccS (strerrorlen_s_accs (W := Wr st) errnum msg hm)

/-- **strerror_s** (FULL): the message to its terminator; on the truncating path (`dmax > 3`, message too long) the dots
within `dmax` cells, apart from dest; dest's `dmax` cells -/
theorem strerror_s_C02 (cfg : Cfg) (dest dmax errnum : Nat) (db : Bos) (msg dots : Nat) (st : St)
    (hm : dest ≠ 0 → ∀ n, StrRd st msg n)
    (hdots : dest ≠ 0 → 3 < dmax → dots ≠ 0 → StrRd st dots dmax)
    (hapart : dest ≠ 0 → 3 < dmax → dots ≠ 0 → ∀ a, Str st.data dots dmax a → ¬ Cells dest dmax a)
    (hd : dest ≠ 0 → RW st dest dmax) :
    Runs (strerror_s cfg dest dmax errnum db msg dots) st :=
  runs_of_AccS (strerror_s_accs cfg dest dmax errnum db msg dots hm
    (fun h1 h2 h3 _ hfr a hs => hdots h1 h2 h3 a (Str.of_agree (fun b hb => hfr b (hapart h1 h2 h3 b hb)) hs)) (Rd_of_RW.guard hd) (Wr_of_RW.guard hd))

/-- **asctime_s** (FULL): the twelve cells of `*tm`, libc's text (`n` characters and the terminator, `Staged`: `n < 120`,
apart from dest; `text = 0`: libc returned NULL), dest's `dmax` cells -/
theorem asctime_s_C02 (cfg : Cfg) (dest dmax tm : Nat) (db : Bos) (text n : Nat) (st : St)
    (htext : text ≠ 0 → C12Time.Staged st dest dmax text n)
    (hd : dest ≠ 0 → RW st dest dmax) (htm : tm ≠ 0 → RD st tm 12) (ht : text ≠ 0 → RD st text (n+1)) :
    Runs (asctime_s cfg dest dmax tm db text) st := by
  refine runs_of_within2 (C12Time.asctime_s_fp cfg dest dmax tm db text n st htext) (fun a ha => ?_) (fun a ha => ?_)
  · rcases ha with ⟨h0, hc⟩ | ⟨h0, hc⟩ | ⟨h0, h1, h2⟩
    · exact Rd_of_RW (hd h0) a hc
    · exact Rd_of_RD (htm h0) a hc
    · exact Rd_of_RD (ht h0) a ⟨h1, by omega⟩
  · exact Wr_of_RW (hd ha.1) a ha.2

/-- **ctime_s** (FULL): the one cell of `*timer` (read twice), libc's text, dest -/
theorem ctime_s_C02 (cfg : Cfg) (dest dmax timer : Nat) (db : Bos) (text n : Nat) (st : St)
    (htext : text ≠ 0 → C12Time.Staged st dest dmax text n)
    (hd : dest ≠ 0 → RW st dest dmax) (htm : timer ≠ 0 → RD st timer 1) (ht : text ≠ 0 → RD st text (n+1)) :
    Runs (ctime_s cfg dest dmax timer db text) st := by
  refine runs_of_within2 (C12Time.ctime_s_fp cfg dest dmax timer db text n st htext) (fun a ha => ?_) (fun a ha => ?_)
  · rcases ha with ⟨h0, hc⟩ | ⟨h0, hc⟩ | ⟨h0, h1, h2⟩
    · exact Rd_of_RW (hd h0) a hc
    · exact Rd_of_RD (htm h0) a hc
    · exact Rd_of_RD (ht h0) a ⟨h1, by omega⟩
  · exact Wr_of_RW (hd ha.1) a ha.2

/-- **gmtime_s** (FULL): `*timer` (one cell, read twice), the 14 cells of libc's result; dest is only written -/
theorem gmtime_s_C02 (timer dest res : Nat) (st : St)
    (ht : timer ≠ 0 → RD st timer 1) (hr : res ≠ 0 → RD st res 14) (hd : dest ≠ 0 → WO st dest 14) :
    Runs (gmtime_s timer dest res) st :=
  runs_of_Acc (Acc_tmConv timer dest res (fun h => Rd_of_RD (ht h) _ ⟨Nat.le_refl _, by omega⟩)
    (Rd_of_RD.guard hr) (Wr_of_WO.guard hd))

/-- **localtime_s** (FULL) -/
theorem localtime_s_C02 (timer dest res : Nat) (st : St)
    (ht : timer ≠ 0 → RD st timer 1) (hr : res ≠ 0 → RD st res 14) (hd : dest ≠ 0 → WO st dest 14) :
    Runs (localtime_s timer dest res) st :=
  gmtime_s_C02 timer dest res st ht hr hd

/-- **gets_s** (FULL): of the `len` bytes the stream holds at most `min dmax len` are looked at — `fgets` consumes at most
`dmax - 1`, `getc` peeks at one more when dest is full, neither goes behind the end of the stream; dest is read back
(`strnlen`, the last character) inside `dmax` -/
theorem gets_s_C02 (cfg : Cfg) (dest dmax : Nat) (db : Bos) (inp len : Nat) (st : St)
    (hi : RD st inp (min dmax len)) (hd : dest ≠ 0 → RW st dest dmax) :
    Runs (gets_s cfg dest dmax db inp len) st :=
  runs_of_Acc (Acc_gets_s cfg dest dmax db inp len (Rd_of_RD hi) (Rd_of_RW.guard hd) (Wr_of_RW.guard hd))

/-- an unterminated 4-cell dest, a stream of 9 bytes without newline of which only the first `min 4 9` are mapped -/
example : ∃ st : St, RW st 100 4 ∧ RD st 200 (min 4 9) ∧ ¬ Term st 100 4 ∧ st.mapped 104 = false ∧ st.mapped 204 = false :=
  ⟨winW (fun _ => 7) 100 104 200 204, winW_RW (by omega), winW_RD (by omega),
   fun ⟨i, _, h⟩ => by simp [winW, win] at h, by decide, by decide⟩

/-- `name = "A"` at 300, `value = "xy"` at 200, a 2-cell dest (too small: the ESNOSPC exit), each flush against unmapped memory -/
example : ∃ st : St, RW st 100 2 ∧ (∀ n, StrRd st 200 n) ∧ st.mapped 102 = false ∧ st.mapped 203 = false :=
  ⟨winW (fun a => if a = 200 then 120 else if a = 201 then 121 else 0) 100 102 200 203,
   winW_RW (by omega),
   fun n => StrRd.of_RD_term (n := 3) (winW_RD (by omega)) ⟨2, by omega, by simp [winW, win]⟩ n,
   by decide, by decide⟩

/-- libc's 25 characters at 200 (no NUL among them, terminator at 225) apart from a 26-cell dest -/
example : ∃ st : St, C12Time.Staged st 100 26 200 25 ∧ RW st 100 26 ∧ RD st 200 26 ∧ st.mapped 126 = false ∧ st.mapped 226 = false :=
  ⟨winW (fun a => if 200 ≤ a ∧ a < 225 then 65 else 0) 100 126 200 226,
   ⟨fun j hj => by simp [winW, win]; omega, by simp [winW, win], by omega, Or.inl (by omega)⟩,
   winW_RW (by omega), winW_RD (by omega), by decide, by decide⟩

/-- the cells of the first line of the stream (cut at `n`) are mapped and readable -/
def LineRd (st : St) (p n : Nat) : Prop := ∀ a, Line st.data p n a → Rd st a

theorem LineRd.of_RD {st : St} {p n : Nat} (h : RD st p n) : LineRd st p n :=
  fun a ha => Rd_of_RD h a ⟨ha.1, ha.2.1⟩

/-- **gets_s**, exact stream footprint: the bytes of the first line (newline included) among the first `min dmax len` of the
stream — `fgets` stops behind the newline, and `getc` peeks at `inp[dmax-1]` only when the `dmax - 1` bytes before it hold no
newline.  The stream (not memory in the C) lies apart from dest. -/
theorem gets_s_C02_tight (cfg : Cfg) (dest dmax : Nat) (db : Bos) (inp len : Nat) (st : St)
    (hdis : dest ≠ 0 → dest + dmax ≤ inp ∨ inp + min dmax len ≤ dest)
    (hi : LineRd st inp (min dmax len)) (hd : dest ≠ 0 → RW st dest dmax) :
    Runs (gets_s cfg dest dmax db inp len) st :=
  runs_of_AccS (gets_s_accs cfg dest dmax db inp len hdis hi (Rd_of_RW.guard hd) (Wr_of_RW.guard hd))

/-- **ctime_s** with `libcFails` (FULL): `*timer`, the characters libc had formatted (read on the direct path `dmax ≥ 120`
only), dest -/
theorem ctime_s_C02_fails (cfg : Cfg) (dest dmax timer : Nat) (db : Bos) (text n : Nat) (st : St)
    (htext : text ≠ 0 → C12Time.Staged st dest dmax text n)
    (hd : dest ≠ 0 → RW st dest dmax) (htm : timer ≠ 0 → RD st timer 1) (ht : text ≠ 0 → RD st text (n+1)) :
    Runs (ctime_s cfg dest dmax timer db text true) st := by
  refine runs_of_AccS (AccS.mono (W := C12Time.Obj dest dmax) (Q := fun _ _ => True) ?_ (fun _ h => h)
    (fun a ha => Wr_of_RW (hd ha.1) a ha.2))
  refine ctime_s_accs cfg dest dmax timer db text true (fun h a ha => ⟨h, ha⟩)
    (fun h => Rd_of_RD (htm h) _ ⟨Nat.le_refl _, by omega⟩) (fun hdz h26 _ d' hd' => ?_)
  refine timeTail_fails_accs cfg dest dmax db text n (by omega) (fun htx h120 => ?_)
    (fun htx _ j hj => Rd_of_RD (ht htx) _ ⟨by omega, by omega⟩) (fun a ha => ⟨hdz, ha⟩)
  obtain ⟨h1, h2, h3, h4⟩ := (htext htx).tail hd'
  exact ⟨h1, h2, h3, h4 h120⟩

/-- a stream "ab\n…" of 9 bytes of which only the first line is mapped, `dmax = 8`: `min 8 9 = 8` cells are NOT needed -/
example : ∃ st : St, LineRd st 200 (min 8 9) ∧ RW st 100 8 ∧ st.mapped 203 = false ∧ st.mapped 108 = false := by
  refine ⟨winW (fun a => if a = 202 then 10 else 7) 100 108 200 203, fun a ⟨h1, h2, h3⟩ => ?_,
    winW_RW (by omega), by decide, by decide⟩
  have : a < 203 := by
    apply Classical.byContradiction
    intro h
    exact h3 202 (by omega) (by omega) (by simp [winW, win])
  simp [Rd, winW, win]; omega
end SafeC.Props.C02

