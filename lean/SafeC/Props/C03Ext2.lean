import SafeC.Props.C03Ext
import SafeC.Proofs.ExtNarrow
import SafeC.Proofs.ExtBos
/-! # C03 (extension 2): the narrow copy family with the object sizes known or unknown

`strcpy_s strncpy_s strcat_s strncat_s`, one statement each for `destbos` / `srcbos` unknown or known.
Setting as in `Props/C03.lean`: every cell mapped and readable with ARBITRARY contents (dest may be garbage
without a NUL, the source unterminated, the operands overlapping), dest's `dmax` cells writable, dest usable
(non-null, `0 < dmax ≤ RSIZE_MAX_STR`, `dmax` inside the object when its size is known), `cfg` arbitrary (both
slack configurations).  Conclusion: the call returns and a NUL exists in `dest[0..dmax)`.

* `strcpy_s`: the FULL statement is FALSE of the code (`dest == src` returns EOK untouched, recorded finding
  `same-pointer-shortcut`): `strcpy_s_C03_partial` has `dest ≠ src`, `strcpy_s_C03_witness` is the excluded point
  (here with a KNOWN object size; `Props/C03.lean` has it for the unknown one).
* `strcat_s`: FULL.  `strncat_s`: FULL incl. `slen = 0` (`Props/C03.lean` states it with `slen ≠ 0`), for a source size that is
  unknown or contains `slen`.
* `strncpy_s`: FULL incl. `slen = 0`, for a source size that is unknown or contains `slen`; the `slen > srcbos`
  exit with dest's size unknown is the recorded finding `slen-exceeds-srcbos` (`strncpy_s_C03_srcbos_witness`).
-/
namespace SafeC.Props.C03Ext2
open SafeC Gen SafeC.Props.C01

/- FULL statement (FALSE of the code, see `strcpy_s_C03_witness`): the same without `hne`. -/
/-- strcpy_s, `dest ≠ src`, every src/placement/content, object size known or unknown, both builds -/
theorem strcpy_s_C03_partial (cfg : Cfg) (dest dmax src : Nat) (destbos : Bos) (st : St) (hs : Setting st)
    (hrw : RW st dest dmax) (hd : dest ≠ 0) (hpos : 0 < dmax) (hle : dmax ≤ RSIZE_MAX_STR)
    (hb : ∀ b, destbos = some b → dmax ≤ b) (hne : dest ≠ src) :
    ∃ code st', exec (strcpy_s cfg dest dmax src destbos) st = .ok (code, st') ∧
      ∃ i, i < dmax ∧ st'.data (dest + i) = 0 := by
  obtain ⟨code, st', he, _, hq⟩ := strcpyG_ext _ cfg dest dmax src destbos st hs.all (fun _ => hrw) (fun _ => Nat.le_refl _)
  exact ⟨code, st', he, ((hq ⟨hd, hpos, hle, hb⟩).1 hne).1.1.term⟩

/-- dest = "a" without terminator (1 cell at 100) -/
def wSt : St :=
  { data := fun a => if a = 100 then 97 else 0, mapped := fun _ => true, rd := fun _ => true
    wr := fun a => decide (a = 100) }

/-- the excluded point with a KNOWN object size: `strcpy_s(d, 1, d)`, `BOS(d) = 1`, `d[0] = 'a'`: EOK, nothing
reported, dest untouched — no NUL in `dest[0..1)` (recorded: `same-pointer-shortcut`) -/
theorem strcpy_s_C03_witness :
    exec (strcpy_s {} 100 1 100 (some 1)) wSt = .ok (EOK, wSt) ∧ ¬ ∃ i, i < 1 ∧ wSt.data (100 + i) = 0 := by
  refine ⟨rfl, ?_⟩
  intro ⟨i, hi, h⟩
  have : i = 0 := by omega
  subst this
  simp [wSt] at h

/-- the shortcut in general: `dest == src` on a usable dest returns EOK and changes NOTHING, whatever dest holds -/
theorem strcpy_s_same_pointer (cfg : Cfg) (dest dmax : Nat) (destbos : Bos) (st : St) (hs : Setting st)
    (hrw : RW st dest dmax) (hd : dest ≠ 0) (hpos : 0 < dmax) (hle : dmax ≤ RSIZE_MAX_STR)
    (hb : ∀ b, destbos = some b → dmax ≤ b) :
    exec (strcpy_s cfg dest dmax dest destbos) st = .ok (EOK, st) := by
  obtain ⟨code, st', he, _, hq⟩ := strcpyG_ext _ cfg dest dmax dest destbos st hs.all (fun _ => hrw) (fun _ => Nat.le_refl _)
  obtain ⟨h1, h2⟩ := (hq ⟨hd, hpos, hle, hb⟩).2 rfl
  rw [h1, h2] at he
  exact he

/-- strncpy_s, every src/slen (incl. 0)/placement/content, object sizes known or unknown (`slen` inside a known
source object), both builds -/
theorem strncpy_s_C03 (cfg : Cfg) (dest dmax src slen : Nat) (destbos srcbos : Bos) (st : St) (hs : Setting st)
    (hrw : RW st dest dmax) (hd : dest ≠ 0) (hpos : 0 < dmax) (hle : dmax ≤ RSIZE_MAX_STR)
    (hb : ∀ b, destbos = some b → dmax ≤ b) (hsb : ∀ sb, srcbos = some sb → slen ≤ sb) :
    ∃ code st', exec (strncpy_s cfg dest dmax src slen destbos srcbos) st = .ok (code, st') ∧
      ∃ i, i < dmax ∧ st'.data (dest + i) = 0 := by
  obtain ⟨code, st', he, _, hq⟩ := strncpy_s_ext cfg dest dmax src slen destbos srcbos st hs.all (fun _ => hrw) hsb
  exact ⟨code, st', he, (hq ⟨hd, hpos, hle, hb⟩).1.term⟩

/-- dest = "wxyz" without terminator (4 cells at 100), src = "ab" (3 cells at 200) -/
def bSt : St :=
  { data := fun a => if 100 ≤ a ∧ a < 104 then 119 else if a = 200 then 97 else if a = 201 then 98 else 0
    mapped := fun _ => true, rd := fun _ => true
    wr := fun a => decide (100 ≤ a ∧ a < 104) }

/-- the point excluded by `hsb` (recorded: `slen-exceeds-srcbos`): `strncpy_s(d, 4, "ab", 5)` with `BOS(src) = 3`,
dest's size unknown, null-slack build: EOVERFLOW is returned and dest keeps its four non-NUL characters -/
theorem strncpy_s_C03_srcbos_witness :
    ∃ st', exec (strncpy_s { slack := true } 100 4 200 5 none (some 3)) bSt = .ok (EOVERFLOW, st') ∧
      ¬ ∃ i, i < 4 ∧ st'.data (100 + i) = 0 := by
  refine ⟨_, rfl, ?_⟩
  intro ⟨i, hi, h⟩
  have : i = 0 ∨ i = 1 ∨ i = 2 ∨ i = 3 := by omega
  rcases this with rfl | rfl | rfl | rfl <;> simp [bSt] at h

/-- strcat_s, every src/placement/content (dest terminated or not), object size known or unknown, both builds -/
theorem strcat_s_C03 (cfg : Cfg) (dest dmax src : Nat) (destbos : Bos) (st : St) (hs : Setting st)
    (hrw : RW st dest dmax) (hd : dest ≠ 0) (hpos : 0 < dmax) (hle : dmax ≤ RSIZE_MAX_STR)
    (hb : ∀ b, destbos = some b → dmax ≤ b) :
    ∃ code st', exec (strcat_s cfg dest dmax src destbos) st = .ok (code, st') ∧
      ∃ i, i < dmax ∧ st'.data (dest + i) = 0 := by
  obtain ⟨code, st', he, _, hq⟩ := strcat_s_ext cfg dest dmax src destbos st hs.all (fun _ => hrw)
  exact ⟨code, st', he, (hq ⟨hd, hpos, hle, hb⟩).1.term⟩

/-- strncat_s, every src/slen (incl. 0)/placement/content, object sizes known or unknown (`slen` inside a known
source object), both builds -/
theorem strncat_s_C03 (cfg : Cfg) (dest dmax src slen : Nat) (destbos srcbos : Bos) (st : St) (hs : Setting st)
    (hrw : RW st dest dmax) (hd : dest ≠ 0) (hpos : 0 < dmax) (hle : dmax ≤ RSIZE_MAX_STR)
    (hb : ∀ b, destbos = some b → dmax ≤ b) (hsb : ∀ sb, srcbos = some sb → slen ≤ sb) :
    ∃ code st', exec (strncat_s cfg dest dmax src slen destbos srcbos) st = .ok (code, st') ∧
      ∃ i, i < dmax ∧ st'.data (dest + i) = 0 := by
  obtain ⟨code, st', he, _, hq⟩ := strncat_s_ext cfg dest dmax src slen destbos srcbos st hs.all (fun _ => hrw) hsb
  exact ⟨code, st', he, (hq ⟨hd, hpos, hle, hb⟩).1.term⟩

/-- the hypotheses are satisfiable: dest = 5 writable cells at 100 inside an object of 8, src = "ab" at 200 inside an
object of 3, slen = 2 -/
example : Setting exSt ∧ RW exSt 100 5 ∧ (100 : Nat) ≠ 0 ∧ 0 < 5 ∧ 5 ≤ RSIZE_MAX_STR ∧
    (∀ b, (some 8 : Bos) = some b → 5 ≤ b) ∧ (∀ sb, (some 3 : Bos) = some sb → 2 ≤ sb) ∧ (100 : Nat) ≠ 200 := by
  refine ⟨⟨fun _ => ⟨rfl, rfl⟩, rfl⟩, exSt_rw, by decide, by decide, by decide, ?_, ?_, by decide⟩
  · intro b h; cases h; decide
  · intro b h; cases h; decide

/-! ## `dmax` beyond a KNOWN object size

Outside C03's quantifier (dest is not usable), stated for completeness: the functions whose entry check is
`CHK_DEST_OVR_CLEAR` (the four copies, stpcpy_s, stpncpy_s, strcpyfld_s — `Props/C04Ext2.lean`, `*_C04_bos`, gives
`BosOver` for each) leave a NUL inside the OBJECT, at `dest[0]`, in both builds.  The functions that go through
`CHK_DEST_OVR` (strcpyfldin_s, strcpyfldout_s, strzero_s, strljustify_s, strremovews_s, strnterminate_s) touch nothing
there (`Props/C04Ext2.lean`), so an unterminated dest stays unterminated. -/

theorem bos_C03 {cfg : Cfg} {dest dmax b code : Nat} {st st' : St} (h : BosOver cfg dest dmax b st st' code)
    (hb0 : 0 < b) : ∃ i, i < b ∧ st'.data (dest + i) = 0 :=
  ⟨0, hb0, by simpa using (h.facts hb0).1⟩

/-- `strcpy_s(d, 8, src)` with `BOS(d) = 3`, d = "www" without terminator, null-slack build: EOVERFLOW and a NUL in the
object afterwards (all three cells: `strnlen_s(d, 3) = 3`) -/
example : ∃ st', exec (strcpy_s { slack := true } 100 8 200 (some 3))
      { data := fun a => if 100 ≤ a ∧ a < 103 then 119 else 0, mapped := fun _ => true, rd := fun _ => true,
        wr := fun a => decide (100 ≤ a ∧ a < 103) } = .ok (EOVERFLOW, st') ∧
    st'.data 100 = 0 ∧ st'.data 101 = 0 ∧ st'.data 102 = 0 := by
  refine ⟨_, rfl, ?_⟩
  simp [St.upd, St.noteWr, St.noteRd]

end SafeC.Props.C03Ext2
