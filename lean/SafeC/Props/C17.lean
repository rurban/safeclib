import SafeC.Proofs.NormSpec
import SafeC.Proofs.NormRange
import SafeC.Proofs.NormCompose
import SafeC.Proofs.NormNFC
import SafeC.Proofs.NormIdemTables
import SafeC.Proofs.FoldCount
/-!
# C17 — "Unicode normalization and case folding follow the Unicode standard"

*For every wide string of assigned Unicode scalar values, wcsnorm_s in NFD and NFC mode produces the normalization form defined by
UAX #15 (and reports its length), normalizing twice gives the same result as once, and the number of characters towfc_s/wcsfc_s
emit for a character equals what iswfc announces, so that a destination sized from the announced lengths always suffices.  Code
points above U+10FFFF are rejected rather than used as table indices.*

Models: `SafeC.Norm` (Models/Norm.lean: `wcsnormS`, `reorderS`, `composeS`, tables regenerated from the tree on every run),
`SafeC.Fold` (Models/Fold.lean).  Reference: the data `SafeC.UCD` (Proofs/UnicodeSpec.lean) over `SafeC.Gen.UCD14` (Python unicodedata
14.0.0; the tree's tables are Unicode 15.0.0, hence the hypothesis `UCD.assigned` of the statements), the forms `UAX15.nfd` / `UAX15.nfc`
(Proofs/NormNFC.lean).  The statements of the property; proofs in `SafeC/Proofs/Norm*.lean`, `FoldCount.lean`, a few short ones here.

What is false of the code as it stands — or, where a line says "repaired", as it stood before that repair (`unrepaired`) — and therefore
`_partial` + `_witness` (each witness is replayed on the real C by the check):
* U+037E is never decomposed (`TBL(1)|0` reads as "none")                 → `tables_match_ucd_partial`, `nfd_is_uax15_partial`
* a destination of exactly the result's size is rejected (5-cell margin)   → `nfd_exact_fit_witness`
* NFC composes `a + U+10300` to `à` (`(uint16_t)cp2`)                      → `nfc_cast_witness`, repaired: `nfc_cast_fixed`
* wcsnorm_reorder_s / wcsnorm_compose_s index tables with cells > 0x10FFFF → `reorder_range_witness`, `compose_range_witness`,
  repaired: `reorder_range_fixed`, `compose_range_fixed`
* iswfc announces 0/1 where towfc_s does / does not fold (748 code points) → `fold_announce_partial`, witnesses in FoldCount.lean
* wcsfc_s decomposes what it folds (U+00C9 ⇒ `e` U+0301), has a final-sigma rule and a 5-cell margin: it does NOT emit what iswfc
  announces, and announced sum + 1 cells do not suffice   → Props/C17Fold.lean (`wcsfc_model`, `wcsfc_announced_partial`, witnesses)
NFC: `nfc_model` (every input, unrepaired and repaired: EOK ⇒ dest = D117 on the NFD), `nfc_uax15_partial` (the code as it is —
`current`, with both wcsnorm repairs — = UAX #15 NFC over UCD 14.0, all strings of assigned code points ≠ U+037E; wrapper level:
`nfc_call_uax15_partial`), `nfc_is_uax15_partial` (the code before the repair, when the NFD lies in the BMP).
**Normalizing twice = once**: `nfc_idempotent`, `nfd_of_nfc`, `nfc_twice` (model and wrapper level, EVERY string of code points,
assigned or not), `uax15_nfc_idempotent` (the reference itself, every list) — from `nfc_composite_decomposition` (table fact: the
full decomposition of a primary composite = that of its first constituent ++ that of the second) and `nfc_step_undone` /
`nfc_pass_undone` (one composition step / the whole pass is undone by decomposition + canonical reordering).
-/
namespace SafeC.Props.C17
open SafeC.Norm SafeC.Gen

/-- table closure: every cell the decomposition pass writes for any `c` is itself left alone by the pass (so the stored
decompositions are full decompositions; Hangul included) -/
theorem tables_closed {c d : Nat} (hd : d ∈ decompose1 c) : decompose1 d = [d] := decompose1_fixed hd

/-- the tree's decomposition and combining-class tables = UCD 14.0 (mappings expanded recursively, D68) on every assigned code
point; full statement (without `c ≠ 0x37E`) is false: `tables_match_ucd_witness` -/
theorem tables_match_ucd_partial {c : Nat} (h : UCD.assigned c = true) (h37e : c ≠ 0x37E) :
    decompose1 c = UCD.fullDecomp 4 c ∧ combinClass c = some (UCD.ccc c) :=
  ⟨decomp_matches_ucd_partial h h37e, ccc_matches_ucd h⟩

theorem tables_match_ucd_witness : UCD.assigned 0x37E = true ∧ decompose1 0x37E = [0x37E] ∧ UCD.fullDecomp 4 0x37E = [0x3B] := by decide +kernel

example : UCD.assigned 0x1E69 = true ∧ (0x1E69 : Nat) ≠ 0x37E ∧ UCD.fullDecomp 4 0x1E69 = [0x73, 0x323, 0x307] := by decide +kernel

/-- the reference expansion really is a full decomposition: nothing in it has a mapping or is a Hangul syllable (4 levels suffice) -/
theorem ucd_fullDecomp_is_full {c d : Nat} (hc : c < 0x110000) (hs : UCD.isHangulS c = false) (hd : d ∈ UCD.fullDecomp 4 c) :
    UCD.dm d = none ∧ UCD.isHangulS d = false :=
  let h := fullDecomp_fixed hc hd (by rw [isS_iff]; exact hs); ⟨h.1, h.2.1⟩

/-- `wcsnorm_reorder_s` computes the Canonical Ordering (D108/D109) of its input: reachable by exchanging reorderable pairs, no
reorderable pair left, a permutation, same length — for every list, any class function the table realises -/
theorem reorder_canonical (fx : Fixes) (k : Nat → Nat) (xs : List Nat) (dmax : Nat)
    (hk : ∀ c ∈ xs, combinClass c = some (k c)) (hr : fx.rangeChk = true → ∀ c ∈ xs, c ≤ UniCompos.unicodeMax)
    (hd : xs.length < dmax) :
    ∃ ys, reorderLoop fx xs [] dmax = .ok ys (dmax - xs.length) ∧ IsCanonicalOrdering k xs ys ∧ ys.Perm xs ∧ ys.length = xs.length :=
  reorderLoop_canonical fx k xs dmax hk hr hd

example : (∀ c ∈ [0x61, 0x301, 0x323, 0x62], combinClass c = some (kcc c)) ∧ kcc 0x301 = 230 ∧ kcc 0x323 = 220 ∧
    reorderLoop current [0x61, 0x301, 0x323, 0x62] [] 8 = .ok [0x61, 0x323, 0x301, 0x62] 4 := by decide +kernel

/-- the canonical ordering of a string is unique (so "a" canonical ordering is "the" canonical ordering) -/
theorem canonical_ordering_unique {k : Nat → Nat} {xs ys zs : List Nat}
    (h1 : IsCanonicalOrdering k xs ys) (h2 : IsCanonicalOrdering k xs zs) : ys = zs := canonicalOrdering_unique h1 h2

/-- starters stay where they are and characters of equal class keep their order (stability) -/
theorem reorder_stable (k : Nat → Nat) (n : Nat) (xs : List Nat) :
    (reorderPure k xs).map (fun c => if k c = 0 then some c else none) = xs.map (fun c => if k c = 0 then some c else none) ∧
    (reorderPure k xs).filter (fun c => k c = n) = xs.filter (fun c => k c = n) :=
  ⟨reorderPure_starters_fixed k xs, reorderPure_filter_class k n xs⟩

example : reorderPure (· / 10) [31, 12, 5, 25, 21, 11, 22, 7, 7, 30, 10] = [12, 31, 5, 11, 25, 21, 22, 7, 7, 10, 30] := by decide

/-- `wcsnorm_s(dest, dmax, src, WCSNORM_NFD, &len)`, every input: whenever it returns EOK, dest = NFD of the source by the tree's
tables and `*lenp` = its length (and fits: `< dmax`); it returns EOK only if all cells were code points; it never indexes a table
out of bounds -/
theorem nfd_model (fx : Fixes) (dmax : Nat) (src : List Nat) (h0 : ∀ c ∈ src, c ≠ 0) :
    (wcsnormS fx 0 dmax src).oob = false ∧ (wcsnormS fx 0 dmax src).overrun = false ∧
    ((wcsnormS fx 0 dmax src).ret = 0 →
      (wcsnormS fx 0 dmax src).out = nfdPure src ∧ (wcsnormS fx 0 dmax src).len = (nfdPure src).length ∧
      (nfdPure src).length < dmax ∧ ∀ c ∈ src, c ≤ UniCompos.unicodeMax) := by
  have h := wcsnormS_nfd_call fx dmax src h0
  refine ⟨h.safe.1, h.safe.2, fun hret => ?_⟩
  obtain ⟨e, h1, _, h3⟩ := h.of_ret hret
  rw [e]
  exact ⟨rfl, rfl, h1, h3⟩

/-- NFD of the model is NFD of UAX #15 over UCD 14.0 for every string of assigned code points (any length); with `nfd_model`:
a successful `wcsnorm_s` NFD call on such a string leaves exactly the standard's NFD in dest.  U+037E excluded (finding). -/
theorem nfd_is_uax15_partial (xs : List Nat) (h : ∀ c ∈ xs, UCD.assigned c = true ∧ c ≠ 0x37E) :
    nfdPure xs = reorderPure UCD.ccc (UCD.decompose xs) ∧ IsCanonicalOrdering UCD.ccc (UCD.decompose xs) (nfdPure xs) :=
  nfdPure_is_uax15 xs h

/-- U+037E: dest keeps U+037E where the standard says U+003B -/
theorem nfd_slot0_witness : (wcsnormS current 0 16 [0x37E]).ret = 0 ∧ (wcsnormS current 0 16 [0x37E]).out = [0x37E] ∧
    reorderPure UCD.ccc (UCD.decompose [0x37E]) = [0x3B] := by decide +kernel

example : (wcsnormS current 0 16 [0x1E69, 0xAC01]).ret = 0 ∧
    (wcsnormS current 0 16 [0x1E69, 0xAC01]).out = [0x73, 0x323, 0x307, 0x1100, 0x1161, 0x11A8] ∧
    UCD.assigned 0x1E69 = true ∧ UCD.assigned 0xAC01 = true := by decide +kernel

/-- NFD is idempotent, every string -/
theorem nfd_idempotent (xs : List Nat) : nfdPure (nfdPure xs) = nfdPure xs := nfdPure_idem xs

/-- two successful calls: the second changes nothing -/
theorem nfd_twice (fx : Fixes) (dmax dmax' : Nat) (src : List Nat) (h0 : ∀ c ∈ src, c ≠ 0)
    (h1 : (wcsnormS fx 0 dmax src).ret = 0) (h2 : (wcsnormS fx 0 dmax' (wcsnormS fx 0 dmax src).out).ret = 0) :
    (wcsnormS fx 0 dmax' (wcsnormS fx 0 dmax src).out).out = (wcsnormS fx 0 dmax src).out := by
  have s1 := (nfd_model fx dmax src h0).2.2 h1
  have hz : ∀ c ∈ (wcsnormS fx 0 dmax src).out, c ≠ 0 := by
    rw [s1.1]
    intro c hc
    unfold nfdPure at hc
    exact (flatMap_decompose1_le (xs := src) (fun c hc => ⟨s1.2.2.2 c hc, h0 c hc⟩) c (reorderPure_mem.mp hc)).2
  have s2 := (nfd_model fx dmax' _ hz).2.2 h2
  rw [s2.1, s1.1, nfdPure_idem]

/-- sufficient room: `dmax ≤ RSIZE_MAX_WSTR` and five cells more than the NFD text ⇒ EOK (then `nfd_model` gives dest and `*lenp`).
The full statement "the result and its terminator fit ⇒ EOK" is false: `nfd_exact_fit_witness` -/
theorem nfd_succeeds_partial (fx : Fixes) (dmax : Nat) (src : List Nat) (hs : ∀ c ∈ src, c ≠ 0 ∧ c ≤ UniCompos.unicodeMax)
    (hmax : dmax ≤ RSIZE_MAX_WSTR) (hroom : (nfdPure src).length + 5 ≤ dmax) : (wcsnormS fx 0 dmax src).ret = 0 := by
  rw [(wcsnormS_nfd_call fx dmax src fun c hc => (hs c hc).1).of_room (fun c hc => (hs c hc).2) hmax hroom]

example : (nfdPure [0x1E69]).length + 5 ≤ 8 ∧ (wcsnormS current 0 8 [0x1E69]).ret = 0 := by decide +kernel

/-- a destination of exactly the size of the result (3 cells + terminator, and two more) is refused: ESNOSPC -/
theorem nfd_exact_fit_witness : (wcsnormS current 0 6 [0x41, 0x42, 0x43]).ret = ESNOSPC ∧
    (wcsnormS current 0 7 [0x41, 0x42, 0x43]).ret = 0 ∧ (nfdPure [0x41, 0x42, 0x43]).length = 3 := by decide +kernel

/-- `wcsnorm_s`, every mode, every input (any cells, any dmax), unrepaired and repaired: no table index out of bounds, no unsigned
wrap of dmax -/
theorem range_no_oob (fx : Fixes) (mode dmax : Nat) (src : List Nat) :
    (wcsnormS fx mode dmax src).oob = false ∧ (wcsnormS fx mode dmax src).overrun = false := by
  rw [wcsnormS_cstr]
  generalize hs : src.takeWhile (· ≠ 0) = s
  have h0 : ∀ c ∈ s, c ≠ 0 := by rw [← hs]; exact takeWhile_ne_zero src
  cases hmode : (mode / 4 % 2 == 1) with
  | true =>
    obtain ⟨c1, c2, c3⟩ := decomposeS_compat dmax s
    rw [wcsnormS_of_failed fx mode dmax s (by rw [hmode]; exact c1), hmode]
    exact ⟨c2, c3⟩
  | false =>
    rcases decomposeS_call dmax s h0 [] with ⟨hret, h⟩ | ⟨hdec, h1, h2, h3⟩
    · rw [wcsnormS_of_failed fx mode dmax s (by rw [hmode]; exact hret), hmode]; exact h.safe
    · rw [wcsnormS_of_decomposed fx mode dmax s h0 hmode h3 hdec]
      have hno := composeLoop_no_oob fx (mode == 3) (nfdPure s) 0 false 0 [] dmax (Or.inr (nfdPure_le h3))
      have hnv := composeLoop_no_overrun fx (mode == 3) (nfdPure s) 0 false 0 [] dmax (by
        right; simp only [Bool.false_eq_true, ↓reduceIte, List.length_nil]; omega)
      have hc : (composeS fx dmax (nfdPure s) (mode == 3)).oob = false ∧
          (composeS fx dmax (nfdPure s) (mode == 3)).overrun = false := by
        rw [composeS, if_neg (by omega)]
        exact ⟨ofStep_oob hno, ofStep_overrun hnv⟩
      by_cases hm2 : mode = 2
      · rw [if_pos hm2]; exact ⟨rfl, rfl⟩
      rw [if_neg hm2]
      by_cases hbig : (nfdPure s).length + 2 > RSIZE_MAX_WSTR
      · rw [if_pos hbig]; exact ⟨rfl, rfl⟩
      rw [if_neg hbig]
      by_cases hm0 : mode = 0 ∨ mode = 4
      · rw [if_pos hm0]; exact ⟨rfl, rfl⟩
      rw [if_neg hm0]
      dsimp only
      rw [hc.1, hc.2, if_neg (by decide)]
      split
      · exact ⟨rfl, rfl⟩
      · exact hc

/-- a cell above U+10FFFF makes `wcsnorm_s` fail -/
theorem range_rejected (fx : Fixes) (dmax : Nat) (src : List Nat) (h0 : ∀ c ∈ src, c ≠ 0)
    (hbad : ∃ c ∈ src, UniCompos.unicodeMax < c) : (wcsnormS fx 0 dmax src).ret ≠ 0 := by
  intro h
  obtain ⟨c, hc, hlt⟩ := hbad
  have := (nfd_model fx dmax src h0).2.2 h
  have := this.2.2.2 c hc
  omega

example : (wcsnormS current 0 16 [0x41, 0x110000]).ret = ESLEMAX := by decide +kernel

/-- the table lookups themselves: in bounds exactly for code points -/
theorem range_lookups (cp : Nat) :
    (cp ≤ UniCompos.unicodeMax → decompCanon cp ≠ none ∧ combinClass cp ≠ none) ∧
    (UniCompos.unicodeMax < cp → decompCanon cp = none ∧ combinClass cp = none) :=
  ⟨fun h => ⟨decompCanon_ne_none h, combinClass_ne_none h⟩, fun h => ⟨decompCanon_oob h, combinClass_oob h⟩⟩

/-- `wcsnorm_reorder_s` called directly with a cell > 0x10FFFF: `UNWIF_combin[cp >> 16]` is read out of bounds -/
theorem reorder_range_witness : (reorderS unrepaired 64 [0x41, 0x7fffffff]).oob = true := by decide +kernel
/-- `wcsnorm_compose_s` called directly with a cell > 0x10FFFF reads out of bounds in the same way -/
theorem compose_range_witness : (composeS unrepaired 64 [0x41, 0x110000] false).oob = true := by decide +kernel

/-- repaired (`fixes/wcsnorm-wcsfc-range-checks.diff`): no out-of-bounds index for any input (that such a cell is rejected, ESLEMAX:
the `example` below) -/
theorem reorder_range_fixed (dmax : Nat) (src : List Nat) : (reorderS allFixed dmax src).oob = false := by
  unfold reorderS
  split
  · rfl
  · exact ofStep_oob (reorderLoop_no_oob allFixed src [] dmax (Or.inl rfl))

/-- repaired: `wcsnorm_compose_s`, contiguous or not, has no out-of-bounds index for any input -/
theorem compose_range_fixed (dmax : Nat) (src : List Nat) (contig : Bool) : (composeS allFixed dmax src contig).oob = false := by
  unfold composeS
  split
  · rfl
  · exact ofStep_oob (composeLoop_no_oob allFixed contig src 0 false 0 [] dmax (Or.inl rfl))

example : (reorderS allFixed 64 [0x41, 0x7fffffff]).ret = ESLEMAX ∧ (composeS allFixed 64 [0x41, 0x110000] false).ret = ESLEMAX := by
  decide +kernel

/-- `wcsfc_s` hands a cell > 0x10FFFF to `_decomp_s` (single-character branch): out-of-bounds index; repaired: ESLEMAX -/
theorem wcsfc_range_witness : (SafeC.Fold.wcsfcS unrepaired 64 [0x41, 0x110000]).oob = true ∧
    (SafeC.Fold.wcsfcS allFixed 64 [0x41, 0x110000]).ret = ESLEMAX ∧ (SafeC.Fold.wcsfcS allFixed 64 [0x41, 0x110000]).oob = false := by
  decide +kernel

/-! `UAX15.nfd xs` = D68 + D109 over UCD 14.0, `UAX15.nfc xs` = D117 (last starter, not blocked per D115, primary composite per D114 incl.
the Hangul rules of ch. 3.12) applied to it (Proofs/NormNFC.lean, NormComposeSpec.lean: `d117`, UnicodeSpec.lean: `primaryComposite`).
`current` (Models/Norm.lean) = `allFixed`, /repo containing both wcsnorm fix commits: the theorems for `current` are the ones about the
code as it is. -/

/-- `wcsnorm_s(dest, dmax, src, WCSNORM_NFC, &len)`, every input (any cells, any dmax), unrepaired and repaired: whenever it returns
EOK, dest = the Canonical Composition (D117) of the model's NFD with the tree's classes and pair map, `*lenp` = its length `< dmax` -/
theorem nfc_model (fx : Fixes) (dmax : Nat) (src : List Nat) (h0 : ∀ c ∈ src, c ≠ 0) (hret : (wcsnormS fx 1 dmax src).ret = 0) :
    (wcsnormS fx 1 dmax src).out = nfcPure fx src ∧ (wcsnormS fx 1 dmax src).len = (nfcPure fx src).length ∧
    (nfcPure fx src).length < dmax ∧ ∀ c ∈ src, c ≤ UniCompos.unicodeMax := wcsnormS_nfc_spec fx dmax src h0 hret

/-- repaired code (`fixes/wcsnorm-composite-full-width.diff`, applied in /repo: `current = allFixed`): NFC of the model = UAX #15 NFC over UCD 14.0, every string (any
length) of code points assigned in Unicode 14.0 other than U+037E.  (Rests on: classes equal, every composite a starter, and the
pair map `_composite_cp`+`isExclusion` = D114 as functions on code points: `pcOf_eq_ucd`.) -/
theorem nfc_is_uax15_fixed_partial (xs : List Nat) (h : ∀ c ∈ xs, UCD.assigned c = true ∧ c ≠ 0x37E) :
    nfcPure allFixed xs = UAX15.nfc xs := by
  rw [nfcPure_is_uax15 allFixed xs h]
  unfold UAX15.nfc UAX15.nfd
  have hmax : ∀ {a}, UCD.assigned a = true → a ≤ UniCompos.unicodeMax := fun ha => by
    have := assigned_lt ha; rw [unicodeMax_eq]; omega
  apply d117_congr_pc (S := fun c => UCD.assigned c = true)
  · exact fun d hd => uaxNfd_assigned h hd
  · intro a b c ha hb hp
    exact (pcOf_to_ucd (hmax ha) (hmax hb) hp).2
  · intro a b ha hb
    exact pcOf_eq_ucd (hmax ha) (hmax hb)

example : (∀ c ∈ [0x1EAD, 0x10300, 0xAC01], UCD.assigned c = true ∧ c ≠ 0x37E) ∧
    UAX15.nfc [0x1EAD, 0x10300, 0xAC01] = [0x1EAD, 0x10300, 0xAC01] ∧ UAX15.nfc [0x61, 0x10300] = [0x61, 0x10300] := by decide +kernel

/-- **the headline: NFC of the code as it is (`current`) = UAX #15 NFC over UCD 14.0**, every string
(any length) of code points assigned in Unicode 14.0 other than U+037E; the full statement is false: `nfc_slot0_witness` -/
theorem nfc_uax15_partial (xs : List Nat) (h : ∀ c ∈ xs, UCD.assigned c = true ∧ c ≠ 0x37E) :
    nfcPure current xs = UAX15.nfc xs := nfc_is_uax15_fixed_partial xs h

/-- the headline at the level of the call: a successful `wcsnorm_s(dest, dmax, src, WCSNORM_NFC, &len)` on such a string leaves exactly the
Standard's NFC in dest and its length in `*lenp` -/
theorem nfc_call_uax15_partial (dmax : Nat) (src : List Nat) (h0 : ∀ c ∈ src, c ≠ 0)
    (h : ∀ c ∈ src, UCD.assigned c = true ∧ c ≠ 0x37E) (hret : (wcsnormS current 1 dmax src).ret = 0) :
    (wcsnormS current 1 dmax src).out = UAX15.nfc src ∧ (wcsnormS current 1 dmax src).len = (UAX15.nfc src).length := by
  obtain ⟨e1, e2, _, _⟩ := nfc_model current dmax src h0 hret
  rw [e1, e2, nfc_uax15_partial src h]
  exact ⟨rfl, rfl⟩

/-- U+037E GREEK QUESTION MARK (singleton decomposition to U+003B, lost by the tree's slot-0 encoding): kept by NFC too -/
theorem nfc_slot0_witness : (wcsnormS current 1 16 [0x37E]).ret = 0 ∧ (wcsnormS current 1 16 [0x37E]).out = [0x37E] ∧
    UCD.assigned 0x37E = true ∧ UAX15.nfc [0x37E] = [0x3B] := by decide +kernel

example : (∀ c ∈ [0x61, 0x323, 0x10300, 0x1100, 0x1161, 0x11A8], UCD.assigned c = true ∧ c ≠ 0x37E) ∧
    (wcsnormS current 1 16 [0x61, 0x323, 0x10300, 0x1100, 0x1161, 0x11A8]).ret = 0 ∧
    UAX15.nfc [0x61, 0x323, 0x10300, 0x1100, 0x1161, 0x11A8] = [0x1EA1, 0x10300, 0xAC01] := by decide +kernel

/-- the table fact behind idempotence, tree and reference: the full canonical decomposition of the primary composite of `<a, b>`
(D114, incl. Hangul LV and LVT) is the full decomposition of `a` followed by that of `b` — in the tree's tables (`decompose1`)
and in UCD 14.0 (`fullDecomp`): all 941 table composites kernel-checked, the 11 172 syllables by arithmetic -/
theorem nfc_composite_decomposition {a b c : Nat} (h : UCD.primaryComposite a b = some c) :
    decompose1 c = decompose1 a ++ decompose1 b ∧ UCD.fullDecomp 4 c = UCD.fullDecomp 4 a ++ UCD.fullDecomp 4 b :=
  ⟨primaryComposite_decompose1 h, primaryComposite_fullDecomp h⟩

example : UCD.primaryComposite 0x1E63 0x307 = some 0x1E69 ∧ decompose1 0x1E69 = [0x73, 0x323, 0x307] ∧
    decompose1 0x1E63 = [0x73, 0x323] ∧ decompose1 0x307 = [0x307] := by decide +kernel

/-- one composition step is undone by decomposition + canonical reordering: `s` the last starter, `pend` the uncomposed marks
since `s` (classes non-zero, at most `pre`), `c` not blocked from `s` (D115, the C's test), `p` their composite with
`dec p = dec s ++ [c]`: replacing `s` by `p` and deleting `c` changes nothing after decomposing and reordering (any class
function, any decomposition function, any text behind) -/
theorem nfc_step_undone {k : Nat → Nat} {dec : Nat → List Nat} {s c p pre : Nat} {pend : List Nat} (rest : List Nat)
    (hpend : ∀ b ∈ pend, k b ≠ 0 ∧ k b ≤ pre) (hnb : ¬ ((k c ≠ 0 ∧ pre = k c) ∨ pre > k c)) (hdec : dec p = dec s ++ [c]) :
    reorderPure k (dec p ++ pend ++ rest) = reorderPure k (dec s ++ pend ++ c :: rest) :=
  composeStep_undone rest hpend hnb hdec

example : reorderPure kcc (decompose1 0x1EAD ++ [] ++ [0x62]) = reorderPure kcc (decompose1 0x1EA1 ++ [] ++ 0x302 :: [0x62]) ∧
    reorderPure kcc (decompose1 0x1EAD ++ [] ++ [0x62]) = [0x61, 0x323, 0x302, 0x62] := by decide +kernel

/-- the whole pass: for every canonically ordered string `ys` of fully decomposed characters, decomposing and reordering the
output of the Canonical Composition Algorithm gives `ys` back — any class function `k`, pair map `pc`, decomposition `dec` with
`dec (pc a b) = dec a ++ dec b` on a set `S` closed under `pc` -/
theorem nfc_pass_undone {k : Nat → Nat} {pc : Nat → Nat → Option Nat} {dec : Nat → List Nat} {S : Nat → Prop}
    (hpc : ∀ a b c, S a → S b → pc a b = some c → S c ∧ dec c = dec a ++ dec b)
    {ys : List Nat} (hys : ∀ c ∈ ys, S c ∧ dec c = [c]) (hord : CanonOrdered k ys) :
    reorderPure k ((composePure k pc ys).flatMap dec) = ys := composePure_roundtrip hpc hys hord

/-- **NFD (NFC x) = NFD x**, the code as it is, every string of code points (assigned or not, any length) -/
theorem nfd_of_nfc (xs : List Nat) (h : ∀ c ∈ xs, c ≤ UniCompos.unicodeMax) : nfdPure (nfcPure current xs) = nfdPure xs :=
  nfdPure_nfcPure xs h

/-- NFC (NFD x) = NFC x, every string, unrepaired and repaired (the other UAX #15 invariant; immediate from `nfd_idempotent`) -/
theorem nfc_of_nfd (fx : Fixes) (xs : List Nat) : nfcPure fx (nfdPure xs) = nfcPure fx xs := by
  unfold nfcPure; rw [nfdPure_idem]

/-- **NFC (NFC x) = NFC x**, the code as it is, every string of code points (assigned or not, U+037E included, any length) -/
theorem nfc_idempotent (xs : List Nat) (h : ∀ c ∈ xs, c ≤ UniCompos.unicodeMax) :
    nfcPure current (nfcPure current xs) = nfcPure current xs := nfcPure_idem xs h

example : (∀ c ∈ [0x37E, 0x1E69, 0x1100, 0x1161, 0x11A8, 0x323, 0x10FFFF], c ≤ UniCompos.unicodeMax) ∧
    nfcPure current [0x37E, 0x73, 0x307, 0x323, 0x1100, 0x1161, 0x11A8, 0x323, 0x10FFFF] = [0x37E, 0x1E69, 0xAC01, 0x323, 0x10FFFF] := by
  decide +kernel

/-- **two successful `wcsnorm_s` NFC calls: the second leaves the result of the first unchanged** — every source string, any
two destination sizes -/
theorem nfc_twice (dmax dmax' : Nat) (src : List Nat) (h0 : ∀ c ∈ src, c ≠ 0)
    (h1 : (wcsnormS current 1 dmax src).ret = 0) (h2 : (wcsnormS current 1 dmax' (wcsnormS current 1 dmax src).out).ret = 0) :
    (wcsnormS current 1 dmax' (wcsnormS current 1 dmax src).out).out = (wcsnormS current 1 dmax src).out :=
  wcsnormS_nfc_twice current rfl dmax dmax' src h0 h1 h2

example : (wcsnormS current 1 16 [0x73, 0x307, 0x323, 0x1100, 0x1161]).ret = 0 ∧
    (wcsnormS current 1 16 [0x73, 0x307, 0x323, 0x1100, 0x1161]).out = [0x1E69, 0xAC00] ∧
    (wcsnormS current 1 8 [0x1E69, 0xAC00]).ret = 0 := by decide +kernel

/-- sufficient room for NFC: `dmax ≤ RSIZE_MAX_WSTR` and five cells more than the NFD text ⇒ EOK (then `nfc_model` gives dest and
`*lenp`).  "The result and its terminator fit ⇒ EOK" is false: `nfc_exact_fit_witness` -/
theorem nfc_succeeds_partial (fx : Fixes) (dmax : Nat) (src : List Nat) (hs : ∀ c ∈ src, c ≠ 0 ∧ c ≤ UniCompos.unicodeMax)
    (hmax : dmax ≤ RSIZE_MAX_WSTR) (hroom : (nfdPure src).length + 5 ≤ dmax) : (wcsnormS fx 1 dmax src).ret = 0 :=
  wcsnormS_nfc_succeeds fx dmax src hs hmax hroom

theorem nfc_exact_fit_witness : (wcsnormS current 1 6 [0x41, 0x42, 0x43]).ret = ESNOSPC ∧
    (wcsnormS current 1 7 [0x41, 0x42, 0x43]).ret = 0 ∧ nfcPure current [0x41, 0x42, 0x43] = [0x41, 0x42, 0x43] := by decide +kernel

/-- with that room both calls succeed, and the second changes nothing: the hypotheses of `nfc_twice` are met by every string of
non-zero code points and every pair of destinations with five cells more than the NFD text (the second call needs no more room
than the first: NFD (NFC x) = NFD x) -/
theorem nfc_twice_succeeds_partial (dmax dmax' : Nat) (src : List Nat) (hs : ∀ c ∈ src, c ≠ 0 ∧ c ≤ UniCompos.unicodeMax)
    (hmax : dmax ≤ RSIZE_MAX_WSTR) (hroom : (nfdPure src).length + 5 ≤ dmax)
    (hmax' : dmax' ≤ RSIZE_MAX_WSTR) (hroom' : (nfdPure src).length + 5 ≤ dmax') :
    (wcsnormS current 1 dmax src).ret = 0 ∧ (wcsnormS current 1 dmax' (wcsnormS current 1 dmax src).out).ret = 0 ∧
    (wcsnormS current 1 dmax' (wcsnormS current 1 dmax src).out).out = (wcsnormS current 1 dmax src).out :=
  wcsnormS_nfc_twice_ok current rfl dmax dmax' src hs hmax hroom hmax' hroom'

example : (nfdPure [0x1E69, 0xAC01]).length + 5 ≤ 11 ∧ (wcsnormS current 1 11 [0x1E69, 0xAC01]).out = [0x1E69, 0xAC01] := by decide +kernel

/-- the reference itself: UAX #15 NFC over UCD 14.0 is idempotent and NFD (NFC x) = NFD x, every list of cells -/
theorem uax15_nfc_idempotent (xs : List Nat) : UAX15.nfc (UAX15.nfc xs) = UAX15.nfc xs ∧ UAX15.nfd (UAX15.nfc xs) = UAX15.nfd xs :=
  ⟨UAX15.nfc_idem xs, UAX15.nfd_nfc xs⟩

/-- the code BEFORE the repair (`unrepaired`): the same, when the NFD of the string lies in the BMP; the full statement is false:
`nfc_cast_witness` -/
theorem nfc_is_uax15_partial (xs : List Nat) (h : ∀ c ∈ xs, UCD.assigned c = true ∧ c ≠ 0x37E)
    (hbmp : ∀ d ∈ UAX15.nfd xs, d < 0x10000) : nfcPure unrepaired xs = UAX15.nfc xs := by
  rw [← nfc_is_uax15_fixed_partial xs h, nfcPure_is_uax15 unrepaired xs h, nfcPure_is_uax15 allFixed xs h]
  apply d117_congr_pc (S := fun c => UCD.assigned c = true ∧ c < 0x10000)
  · intro d hd
    exact ⟨uaxNfd_assigned h hd, hbmp d hd⟩
  · intro a b c ha hb hp
    rw [pcOf_unrepaired_bmp hb.2] at hp
    have ha' : a ≤ UniCompos.unicodeMax := by rw [unicodeMax_eq]; omega
    have hb' : b ≤ UniCompos.unicodeMax := by rw [unicodeMax_eq]; omega
    have := pcOf_to_ucd ha' hb' hp
    exact ⟨this.2, primaryComposite_bmp ha.2 this.1⟩
  · intro a b _ hb
    exact pcOf_unrepaired_bmp hb.2

example : UAX15.nfc [0x61, 0x323, 0x302] = [0x1EAD] ∧ UAX15.nfd [0x1EAD] = [0x61, 0x323, 0x302] ∧
    (wcsnormS current 1 16 [0x61, 0x302, 0x323]).out = [0x1EAD] := by decide +kernel

/-- the composition lists = UCD 14.0's primary composites: every primary composite is returned for its canonical pair and is
not excluded (code unrepaired and repaired); every stored pair whose composite is assigned and not excluded is a primary
composite with exactly that pair -/
theorem nfc_pairs_table :
    (∀ i < UCD14.compN, compositeCp unrepaired (ucdComp i).1 (ucdComp i).2.1 = (ucdComp i).2.2 ∧ isExcl (ucdComp i).2.2 = false ∧
                        compositeCp allFixed (ucdComp i).1 (ucdComp i).2.1 = (ucdComp i).2.2) ∧
    (∀ i < UniCompos.listsN, compBwdOk i = true) :=
  ⟨fun _ hi => ⟨(comp_fwd hi).1, (comp_fwd hi).2.1, (comp_fwd hi).2.2.1⟩, comp_bwd_check⟩

/-- Hangul: L+V and LV+T compose to the syllable whose (standard) decomposition is exactly L V (T), all L, V, T -/
theorem nfc_hangul (fx : Fixes) (l v t : Nat) (hl : l < 19) (hv : v < 21) (ht0 : 0 < t) (ht : t < 28) :
    compositeCp fx (0x1100 + l) (0x1161 + v) = 0xAC00 + (l * 21 + v) * 28 ∧
    compositeCp fx (0xAC00 + (l * 21 + v) * 28) (0x11A7 + t) = 0xAC00 + (l * 21 + v) * 28 + t ∧
    UCD.hangulDecomp (0xAC00 + (l * 21 + v) * 28 + t) = [0x1100 + l, 0x1161 + v, 0x11A7 + t] :=
  ⟨(hangul_LV fx l v hl hv).1, (hangul_LVT fx l v t hl hv ht0 ht).1, (hangul_LVT fx l v t hl hv ht0 ht).2⟩

/-- `a` + U+10300 OLD ITALIC LETTER A composes to U+00E0 (`(uint16_t)0x10300 = 0x0300`) -/
theorem nfc_cast_witness : (wcsnormS unrepaired 1 16 [0x61, 0x10300]).ret = 0 ∧ (wcsnormS unrepaired 1 16 [0x61, 0x10300]).out = [0xE0] ∧
    UCD.assigned 0x10300 = true ∧ UCD.ccc 0x10300 = 0 ∧ UCD.dm 0x10300 = none := by decide +kernel

/-- repaired (`fixes/wcsnorm-composite-full-width.diff`) -/
theorem nfc_cast_fixed : (wcsnormS allFixed 1 16 [0x61, 0x10300]).out = [0x61, 0x10300] ∧
    (wcsnormS allFixed 1 16 [0x61, 0x300]).out = [0xE0] ∧ (wcsnormS allFixed 1 16 [0x1100, 0x1161, 0x11A8]).out = [0xAC01] := by
  decide +kernel

open SafeC.Fold

/-- the number of cells `towfc_s` writes = what `iswfc` announces (0 announced = the character itself: one cell), EVERY value of c:
a destination sized from the announced lengths always suffices -/
theorem fold_count (c : Nat) : (towfcCore c).2.length = max 1 (iswfc c) := fold_cells c

example : (towfcCore 0xfb03).2 = [0x66, 0x66, 0x69] ∧ iswfc 0xfb03 = 3 := by decide +kernel

/-- `iswfc c = 0` exactly when `towfc_s` leaves the character unchanged — outside the 748 listed code points, where the full
statement fails (`fold_announce_witness_b5`, `fold_announce_witness_3d2`, `fold_announce_exceptions`: the lists are tight) -/
theorem fold_announce_partial (c : Nat) (hz : inRanges announcesZeroButFolds c = false)
    (ho : inRanges announcesOneButUnchanged c = false) : iswfc c = 0 ↔ (towfcCore c).2 = [c] := fold_announce_all c hz ho

theorem fold_announce_witness : (iswfc 0xb5 = 0 ∧ (towfcCore 0xb5).2 = [0x3bc]) ∧ (iswfc 0x3d2 = 1 ∧ (towfcCore 0x3d2).2 = [0x3d2]) :=
  ⟨fold_announce_witness_b5, fold_announce_witness_3d2⟩

end SafeC.Props.C17
