import SafeC.Proofs.TokCaller
import SafeC.Props.C14
/-!
# C14 at full strength: a C caller's tokenizing loop against the list-level specification

Setting (`Inv st dls dest dmax`, `Proofs/TokSeq.lean`): every cell readable, the declared extent `[dest, dest+dmax)`
writable and holding a NUL (a TERMINATED string, of any length), every delimiter string that will be used has
1..`STRTOK_DELIM_MAX_LEN` characters and lies outside the extent; `dmax` within the limit of the function and within
the object size when that is known.  No bound on the length of the string, on `dmax`, or on the number of calls.

`callerLoop wide db dls dest dmax pv0 bos` is the C caller: first call `tok(dest, &dmax, dls[0], &ptr)`, every later
call `tok(NULL, &dmax, dls[i], &ptr)` with `ptr` / `dmax` as the previous call left them (`wide = false`: `strtok_s`,
`true`: `wcstok_s`; both are the same loop `tokBody`, so every theorem is stated once for both).

* `caller_eq_ref`      — the outputs of ALL calls (returned pointer, `*ptr`, `*dmaxp`) and the final memory are exactly
  what the pure reference `TokSpec.refSeq` computes from the string and the delimiter sets as LISTS; no call faults.
  One delimiter set per call (they may change between calls).
* `caller_reads_tokens` — what the caller reads through the returned pointers AFTER the whole sequence is exactly the
  tokens of the reference (NULL where it has none);
* `caller_token_inside` — each returned token is NUL-terminated strictly inside the original extent;
* `caller_frame`        — a cell of the final memory holds its original value, or it holds NUL, lies inside the string
  and held a delimiter of one of the delimiter sets of the sequence;
* `caller_ptr_rem`      — every call hands back `*ptr + *dmaxp = dest + dmax` with `dest ≤ *ptr` and `*dmaxp > 0`: the
  remaining length never permits access past the original `dmax`;
* `strtok_s_C14` / `wcstok_s_C14` — one delimiter string throughout: the `k` calls return exactly
  `TokSpec.tokens` (the maximal delimiter-free substrings of the original string), in order, each once, then NULL
  forever — with the three clauses above.
-/
namespace SafeC.Props.C14
open SafeC Gen SafeC.TokSpec

/-- the reference for a call sequence on the memory `m`: the string at `dest` and the delimiter strings as lists -/
def refOf (m : Nat → Nat) (dls : List Nat) (dest dmax : Nat) : List RefCall :=
  refSeq (dls.map (fun dl => isDelim m dl)) 0 (cstr m dest dmax)

/-- **all calls = the reference** (any number of calls, one delimiter string per call): outputs and final memory -/
theorem caller_eq_ref (wide : Bool) (db bos : Bos) (dls : List Nat) (dest dmax pv0 : Nat) (st : St)
    (hI : Inv st dls dest dmax) (hdl0 : ∀ dl ∈ dls, dl ≠ 0) (hle : dmax ≤ tokLimit wide)
    (hbos : ∀ b, bos = some b → dmax * cellSize wide ≤ b) :
    ∃ st', exec (callerLoop wide db dls dest dmax pv0 bos) st =
        .ok ((refOf st.data dls dest dmax).map (outOf dest (dest + dmax)), st') ∧
      st'.data = cutsMem dest (refOf st.data dls dest dmax) st.data ∧
      st'.mapped = st.mapped ∧ st'.rd = st.rd ∧ st'.wr = st.wr := by
  have hterm := hI.term
  have hmain := nextCalls_eq_ref wide db dls dest (dest + dmax) 0 st
    (by show Inv st dls dest (dest + dmax - dest); rw [Nat.add_sub_cancel_left]; exact hI) hdl0 (by omega)
  simp only [Nat.add_zero, Nat.add_sub_cancel_left] at hmain
  obtain ⟨st', he, hrest⟩ := hmain
  refine ⟨st', ?_, hrest⟩
  show _ = Except.ok (List.map (outOf dest (dest + dmax))
    (refSeq (List.map (fun dl => isDelim st.data dl) dls) 0 (cstr st.data dest dmax)), st')
  rw [← he]
  -- the first call through the entry point is the same `tokBody` as a continuation call at `dest`
  cases dls with
  | nil => rfl
  | cons dl rest =>
    obtain ⟨st1, he1, _, _⟩ := hI.step wide
    have hf := tokFn_first wide dest dmax dl pv0 bos hI.pne (hdl0 dl (by simp)) (by omega) hle hbos
    have hn := tokFn_next wide dmax dl dest db hI.pne (hdl0 dl (by simp)) (by omega) hle
    simp only [callerLoop, nextCalls, exec_bind, hf, hn, he1, Option.getD_some]

/-- **the remaining length shrinks exactly as the pointer advances**: every call stores a pointer inside the extent
and a positive remaining length with `*ptr + *dmaxp = dest + dmax`. -/
theorem caller_ptr_rem (m : Nat → Nat) (dls : List Nat) (dest dmax : Nat) (hz : scanLen m dest dmax < dmax) :
    ∀ o ∈ (refOf m dls dest dmax).map (outOf dest (dest + dmax)),
      ∃ pv rem, o.ptrv = some pv ∧ o.dmaxv = some rem ∧ dest ≤ pv ∧ 0 < rem ∧ pv + rem = dest + dmax := by
  intro o ho
  obtain ⟨r, hr, rfl⟩ := List.mem_map.mp ho
  obtain ⟨h2, _, _⟩ := refSeq_bounds _ _ _ r hr
  rw [cstr_length] at h2
  refine ⟨dest + r.next, dest + dmax - (dest + r.next), rfl, rfl, by omega, by omega, by omega⟩

/-- **frame**: a cell of the final memory holds its original value, or it holds NUL, lies inside the string (in front
of the terminator) and held a delimiter of one of the delimiter strings -/
theorem caller_frame (m : Nat → Nat) (dls : List Nat) (dest dmax : Nat) (x : Nat) :
    cutsMem dest (refOf m dls dest dmax) m x = m x ∨
    (cutsMem dest (refOf m dls dest dmax) m x = 0 ∧ dest ≤ x ∧ x < dest + scanLen m dest dmax ∧
      ∃ dl ∈ dls, isDelim m dl (m x) = true) := by
  rw [cutsMem_apply]
  by_cases h : ∃ r ∈ refOf m dls dest dmax, ∃ c, r.cut = some c ∧ x = dest + c
  · right
    rw [if_pos h]
    obtain ⟨r, hr, c, hc, hx⟩ := h
    obtain ⟨_, g2, d, hd, g3⟩ := refSeq_cut_delim _ _ _ r hr c hc
    obtain ⟨dl, hdl, rfl⟩ := List.mem_map.mp hd
    simp only [Nat.sub_zero] at g2 g3
    rw [List.getD_eq_getElem?_getD, List.getElem?_eq_getElem g2, Option.getD_some, cstr_getElem, ← hx] at g3
    rw [cstr_length] at g2
    exact ⟨rfl, by omega, by omega, dl, hdl, g3⟩
  · left; rw [if_neg h]

/-- a string is determined by its cells up to the terminator -/
theorem cstr_of_cells (m : Nat → Nat) (t : List Nat) (a n : Nat) (hn : t.length < n)
    (hcells : ∀ j (hj : j < t.length), m (a + j) = t[j]) (hnz : ∀ c ∈ t, c ≠ 0) (hend : m (a + t.length) = 0) :
    cstr m a n = t := by
  have hl : scanLen m a n = t.length := by
    rw [scanLen_eq_least]
    exact least_unique (Nat.le_of_lt hn) (fun j hj => by simpa [hcells j hj] using hnz _ (List.getElem_mem hj))
      fun _ => by simpa using hend
  apply List.ext_getElem (by rw [cstr_length, hl])
  intro i h1 h2
  rw [cstr_getElem, hcells i h2]

/-- **each returned token is NUL-terminated inside the original buffer**: for every call of the reference that
returns a token `t` at offset `o`, the string read at `dest + o` in the FINAL memory (after all calls) is `t`, and
its terminator lies strictly inside the declared extent. -/
theorem caller_token_inside (m : Nat → Nat) (dls : List Nat) (dest dmax : Nat) (hz : scanLen m dest dmax < dmax) :
    ∀ r ∈ refOf m dls dest dmax, ∀ o t, r.tok = some (o, t) →
      cstr (cutsMem dest (refOf m dls dest dmax) m) (dest + o) (dest + dmax - (dest + o)) = t ∧
      dest + o + t.length < dest + dmax := by
  intro r hr o t htok
  obtain ⟨_, i2, i3, i4⟩ := refSeq_tok_isolated _ _ _ r hr o t htok
  have b5 := (refSeq_bounds _ _ _ r hr).2.2 o t htok
  simp only [Nat.sub_zero] at i2
  have hlen := cstr_length m dest dmax
  -- the cells of the token in the original memory
  have htj : ∀ j (hj : j < t.length), t[j] = m (dest + o + j) := by
    intro j hj
    have hlt : o + j < (cstr m dest dmax).length := by rw [hlen]; omega
    have : t[j]? = (cstr m dest dmax)[o + j]? := by
      conv => lhs; rw [← i2]
      rw [List.getElem?_take_of_lt hj, List.getElem?_drop]
    rw [List.getElem?_eq_getElem hj, List.getElem?_eq_getElem hlt, Option.some.injEq] at this
    rw [this, cstr_getElem]; congr 1; omega
  refine ⟨?_, by omega⟩
  apply cstr_of_cells _ t (dest + o) _ (by omega)
  · intro j hj
    rw [cutsMem_apply, if_neg, htj j hj]
    rintro ⟨r', hr', c, hc, hx⟩
    rcases i3 r' hr' c hc with h | h <;> omega
  · intro c hc
    have : c ∈ cstr m dest dmax := by
      rw [← i2] at hc
      exact List.mem_of_mem_drop (List.mem_of_mem_take hc)
    exact cstr_nonzero m dest dmax c this
  · rw [cutsMem_apply]
    split
    · rfl
    · rcases i4 with h | ⟨r', hr', hc⟩
      · have := scanLen_zero m dest dmax hz
        rw [← this]; congr 1; omega
      · rename_i hne
        exact absurd ⟨r', hr', o + t.length, hc, by omega⟩ hne

/-- what the caller reads through a returned pointer (`lim` = end of the declared extent): nothing for NULL -/
def readTok (m : Nat → Nat) (lim : Nat) (o : TokOut) : Option (List Nat) :=
  if o.ret = 0 then none else some (cstr m o.ret (lim - o.ret))

/-- **what the caller reads through the returned pointers after the whole sequence = the reference tokens** -/
theorem caller_reads_tokens (m : Nat → Nat) (dls : List Nat) (dest dmax : Nat) (hd : dest ≠ 0)
    (hz : scanLen m dest dmax < dmax) :
    ((refOf m dls dest dmax).map (outOf dest (dest + dmax))).map
        (readTok (cutsMem dest (refOf m dls dest dmax) m) (dest + dmax))
      = toksOf (refOf m dls dest dmax) := by
  rw [List.map_map, toksOf]
  apply List.map_congr_left
  intro r hr
  simp only [Function.comp, readTok, outOf, refCallSpec]
  have hcases : r.tok = none ∨ ∃ o t, r.tok = some (o, t) := by
    cases r.tok with
    | none => exact Or.inl rfl
    | some ot => exact Or.inr ⟨ot.1, ot.2, rfl⟩
  rcases hcases with htok | ⟨o, t, htok⟩
  · simp [htok]
  · have := (caller_token_inside m dls dest dmax hz r hr o t htok).1
    have hne : ¬ dest + o = 0 := by omega
    simp only [htok, hne, if_false, Option.map_some, this]

/-- the four clauses of C14 for `k` calls with the delimiter string `dl` -/
theorem tok_C14 (wide : Bool) (k dl dest dmax pv0 : Nat) (db bos : Bos) (st : St)
    (hI : Inv st (List.replicate k dl) dest dmax) (hdl : dl ≠ 0) (hle : dmax ≤ tokLimit wide)
    (hbos : ∀ b, bos = some b → dmax * cellSize wide ≤ b) :
    ∃ outs st', exec (callerLoop wide db (List.replicate k dl) dest dmax pv0 bos) st = .ok (outs, st') ∧
      -- exactly the maximal delimiter-free substrings, in order, each once, then NULL forever
      outs.map (readTok st'.data (dest + dmax)) =
        ((tokens (delimsAt st.data dl) (cstr st.data dest dmax)).map some ++ List.replicate k none).take k ∧
      -- each returned token is NUL-terminated inside the original buffer
      (∀ o ∈ outs, o.ret ≠ 0 →
        dest ≤ o.ret ∧ o.ret + (cstr st'.data o.ret (dest + dmax - o.ret)).length < dest + dmax ∧
        st'.data (o.ret + (cstr st'.data o.ret (dest + dmax - o.ret)).length) = 0) ∧
      -- only delimiter positions are overwritten
      (∀ x, st'.data x = st.data x ∨
        (st'.data x = 0 ∧ dest ≤ x ∧ x < dest + scanLen st.data dest dmax ∧ isDelim st.data dl (st.data x) = true)) ∧
      -- the remaining length never permits access past the original dmax
      (∀ o ∈ outs, ∃ pv rem, o.ptrv = some pv ∧ o.dmaxv = some rem ∧ dest ≤ pv ∧ 0 < rem ∧ pv + rem = dest + dmax) ∧
      st'.mapped = st.mapped ∧ st'.rd = st.rd ∧ st'.wr = st.wr := by
  have hz := hI.term
  have hdl0 : ∀ d ∈ List.replicate k dl, d ≠ 0 := by
    intro d hd; rw [(List.mem_replicate.mp hd).2]; exact hdl
  obtain ⟨st', he, hdata, hperm⟩ := caller_eq_ref wide db bos _ dest dmax pv0 st hI hdl0 hle hbos
  refine ⟨_, st', he, ?_, ?_, ?_, caller_ptr_rem st.data _ dest dmax hz, hperm⟩
  · rw [hdata, caller_reads_tokens st.data _ dest dmax hI.pne hz]
    unfold refOf
    rw [List.map_replicate, refSeq_replicate, isDelim_eq]
    rfl
  · intro o ho hret
    obtain ⟨r, hr, rfl⟩ := List.mem_map.mp ho
    simp only [outOf, refCallSpec] at hret ⊢
    cases htok : r.tok with
    | none => simp [htok] at hret
    | some ot =>
      obtain ⟨o, t⟩ := ot
      obtain ⟨h1, h2⟩ := caller_token_inside st.data _ dest dmax hz r hr o t htok
      simp only [hdata, h1]
      refine ⟨by omega, h2, ?_⟩
      -- the cell behind the token: the string read there ends there
      have hs := cstr_length (cutsMem dest (refOf st.data (List.replicate k dl) dest dmax) st.data)
        (dest + o) (dest + dmax - (dest + o))
      rw [h1] at hs
      rw [hs]
      exact scanLen_zero _ _ _ (by omega)
  · intro x
    rw [hdata]
    rcases caller_frame st.data (List.replicate k dl) dest dmax x with h | ⟨h1, h2, h3, d, hd, h4⟩
    · exact Or.inl h
    · rw [(List.mem_replicate.mp hd).2] at h4
      exact Or.inr ⟨h1, h2, h3, h4⟩

/-- **C14 for `strtok_s`**, every terminated string, every `dmax`, every delimiter string of 1..16 characters, any
number `k` of calls. -/
theorem strtok_s_C14 (k dl dest dmax pv0 : Nat) (db bos : Bos) (st : St)
    (hI : Inv st (List.replicate k dl) dest dmax) (hdl : dl ≠ 0) (hle : dmax ≤ RSIZE_MAX_STR)
    (hbos : ∀ b, bos = some b → dmax ≤ b) :
    ∃ outs st', exec (callerLoop false db (List.replicate k dl) dest dmax pv0 bos) st = .ok (outs, st') ∧
      outs.map (readTok st'.data (dest + dmax)) =
        ((tokens (delimsAt st.data dl) (cstr st.data dest dmax)).map some ++ List.replicate k none).take k ∧
      (∀ o ∈ outs, o.ret ≠ 0 →
        dest ≤ o.ret ∧ o.ret + (cstr st'.data o.ret (dest + dmax - o.ret)).length < dest + dmax ∧
        st'.data (o.ret + (cstr st'.data o.ret (dest + dmax - o.ret)).length) = 0) ∧
      (∀ x, st'.data x = st.data x ∨
        (st'.data x = 0 ∧ dest ≤ x ∧ x < dest + scanLen st.data dest dmax ∧ isDelim st.data dl (st.data x) = true)) ∧
      (∀ o ∈ outs, ∃ pv rem, o.ptrv = some pv ∧ o.dmaxv = some rem ∧ dest ≤ pv ∧ 0 < rem ∧ pv + rem = dest + dmax) ∧
      st'.mapped = st.mapped ∧ st'.rd = st.rd ∧ st'.wr = st.wr :=
  tok_C14 false k dl dest dmax pv0 db bos st hI hdl hle (fun b hb => by simpa [cellSize] using hbos b hb)

/-- **C14 for `wcstok_s`** (`bos` in bytes) -/
theorem wcstok_s_C14 (k dl dest dmax pv0 : Nat) (db bos : Bos) (st : St)
    (hI : Inv st (List.replicate k dl) dest dmax) (hdl : dl ≠ 0) (hle : dmax ≤ RSIZE_MAX_WSTR)
    (hbos : ∀ b, bos = some b → dmax * SIZEOF_WCHAR_T ≤ b) :
    ∃ outs st', exec (callerLoop true db (List.replicate k dl) dest dmax pv0 bos) st = .ok (outs, st') ∧
      outs.map (readTok st'.data (dest + dmax)) =
        ((tokens (delimsAt st.data dl) (cstr st.data dest dmax)).map some ++ List.replicate k none).take k ∧
      (∀ o ∈ outs, o.ret ≠ 0 →
        dest ≤ o.ret ∧ o.ret + (cstr st'.data o.ret (dest + dmax - o.ret)).length < dest + dmax ∧
        st'.data (o.ret + (cstr st'.data o.ret (dest + dmax - o.ret)).length) = 0) ∧
      (∀ x, st'.data x = st.data x ∨
        (st'.data x = 0 ∧ dest ≤ x ∧ x < dest + scanLen st.data dest dmax ∧ isDelim st.data dl (st.data x) = true)) ∧
      (∀ o ∈ outs, ∃ pv rem, o.ptrv = some pv ∧ o.dmaxv = some rem ∧ dest ≤ pv ∧ 0 < rem ∧ pv + rem = dest + dmax) ∧
      st'.mapped = st.mapped ∧ st'.rd = st.rd ∧ st'.wr = st.wr :=
  tok_C14 true k dl dest dmax pv0 db bos st hI hdl hle (fun b hb => by simpa [cellSize] using hbos b hb)

/-! ## non-vacuity: "a,b" at 100 (dmax 4, one cell of slack), delimiter string "," at 200 -/

def exSt : St := { data := exMem, mapped := fun _ => true, rd := fun _ => true, wr := fun _ => true }

/-- the hypotheses of every theorem above hold for a non-trivial input -/
example : Inv exSt (List.replicate 4 200) 100 4 ∧ (200 : Nat) ≠ 0 ∧ 4 ≤ tokLimit false ∧ 4 ≤ tokLimit true :=
  ⟨⟨fun _ => ⟨rfl, rfl⟩,
    fun dl hdl => by rw [(List.mem_replicate.mp hdl).2]; unfold DelimOK; decide,
    by decide, by decide, fun _ _ _ => rfl,
    fun dl hdl j hj h => by rw [(List.mem_replicate.mp hdl).2] at h; omega⟩,
   by decide, by decide, by decide⟩

/-- the specification on that input, and what the model's caller loop returns on it (kernel-evaluated) -/
example : tokens (delimsAt exMem 200) (cstr exMem 100 4) = [[97], [98]] ∧
    toksOf (refOf exMem (List.replicate 4 200) 100 4) = [some [97], some [98], none, none] ∧
    (match exec (callerLoop false none (List.replicate 4 200) 100 4 0 none) exSt with
      | .ok (outs, st') => outs.map (fun o => (o.ret, o.ptrv, o.dmaxv, readTok st'.data 104 o))
      | .error _ => []) =
      [(100, some 102, some 2, some [97]), (102, some 103, some 1, some [98]),
       (0, some 103, some 1, none), (0, some 103, some 1, none)] := by
  refine ⟨by decide, by decide, by decide⟩

/-- the loops of the two theorems are the entry points themselves -/
example : tokFn false = strtok_s ∧ tokFn true = wcstok_s := ⟨rfl, rfl⟩

end SafeC.Props.C14
