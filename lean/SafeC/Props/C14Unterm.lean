import SafeC.Proofs.TokCaller
/-!
# C14, the unterminated-string clause: "with an unterminated string the sequence ends with an error without
touching anything beyond dmax"

Rests on `tok_call_all` (`Proofs/TokAll.lean`): ONE call on EVERY string (terminated inside `dmax`, terminated exactly
at `dest[dmax]`, not terminated), any `dmax`: the complete outcome as a function of the memory contents.  Hypotheses:
every cell mapped and readable, delimiter string of 1..`STRTOK_DELIM_MAX_LEN` characters.  (The terminated case
`tok_call` is an instance.)

The clause itself is FALSE of the code (known findings `tok-read-before-bound`, `tok-unterm-exit-writes-dest-dmax`,
`tok-nul-at-dmax-accepted`, `tok-unterm-stores-ptr`); the full statement is kept in the comment at `tok_unterm_partial`.

* `tok_unterm_partial` — what holds instead: no NUL in `dest[0..dmax]` INCLUSIVE of `dest[dmax]`.  Then a call either
  cuts a token at a delimiter inside the extent exactly as for a terminated string (and the rest is again unterminated,
  strictly shorter), or it reports `ESUNTERM` exactly once, returns NULL, stores NULL through `ptr`, and changes no cell
  other than `dest[dmax]`;
* `tok_unterm_reads_dmax_witness`, `tok_unterm_writes_dmax_witness`, `tok_nul_at_dmax_accepted_witness` — why the
  clause fails: the call reads `dest[dmax]` (a fault when that cell is unmapped), stores NUL into `dest[dmax]`, and
  accepts a NUL found AT `dest[dmax]` as the terminator (no error, a token is returned);
* `tok_after_error` — after the error (`*ptr == NULL`) every further call is rejected by the entry checks: NULL is
  returned, one handler report, nothing stored, memory untouched — "then an error forever".
-/
namespace SafeC.Props.C14
open SafeC Gen

/-- no NUL among the `n` cells: both scans stay on non-NUL cells up to the end of the extent -/
theorem scanLen_full_nonzero (m : Nat → Nat) (p n : Nat) (hz : scanLen m p n = n) : ∀ j, j < n → m (p + j) ≠ 0 := by
  intro j hj; exact scanLen_nonzero m p n j (by omega)

/-
The clause as the property states it:

  theorem tok_unterm (hz : scanLen st.data p n = n) :        -- no NUL in dest[0..dmax)
      ∃ o st', exec (tokBody wide dl p n) st = .ok (o, st') ∧ o.ret = 0 ∧ <ESUNTERM reported> ∧
        <no cell at or behind p + n read or written> ∧ <nothing stored through ptr>

is false of the model and of the C code: see the three witnesses below.
-/

/-- **the unterminated clause, as far as it holds**: no NUL in `dest[0..dmax]` including the cell `dest[dmax]` the
loops look at.  The call either returns a token cut at a delimiter strictly inside the extent (state as for a
terminated string; what is handed back describes the rest `[b+1, dest+dmax)`, again without NUL and strictly shorter),
or it is the ESUNTERM exit: NULL returned, NULL stored through `ptr`, exactly one handler report, no cell other than
`dest[dmax]` modified, and `dest[dmax]` keeps its value or holds NUL. -/
theorem tok_unterm_partial (wide : Bool) (dl p n : Nat) (st : St) (hall : AllRd st) (hd : DelimOK st.data dl)
    (hp : p ≠ 0) (hz : scanLen st.data p n = n) (hend : st.data (p + n) ≠ 0)
    (hw : ∀ a, p ≤ a → a ≤ p + n → st.wr a = true) :
    ∃ o st', exec (tokBody wide dl p n) st = .ok (o, st') ∧
      ((o.ret = 0 ∧ o.ptrv = some 0 ∧ st'.events = st.events ++ [.handler .str ESUNTERM] ∧
          (∀ x, x ≠ p + n → st'.data x = st.data x) ∧
          (st'.data (p + n) = st.data (p + n) ∨ st'.data (p + n) = 0)) ∨
       (∃ b, p ≤ o.ret ∧ o.ret < b ∧ b < p + n ∧ isDelim st.data dl (st.data b) = true ∧
          o.ptrv = some (b + 1) ∧ o.dmaxv = some (p + n - (b + 1)) ∧ st' = st.upd b 0)) := by
  have hcell : ∀ x, p ≤ x → x ≤ p + n → st.data x ≠ 0 := fun x h1 h2 =>
    if hx : x = p + n then hx ▸ hend else by
      have := scanLen_full_nonzero st.data p n hz (x - p) (by omega)
      rwa [show p + (x - p) = x by omega] at this
  have ha := skipD_bounds st.data dl n p
  rw [tok_call_all wide dl p n st hall hd hp]
  dsimp only
  generalize skipD st.data dl n p = a at ha ⊢
  -- the exit on a non-NUL cell `dest[dmax]`: NULL, `*ptr = NULL`, one report, at most that cell cleared
  have exit : ∀ (o : TokOut) (st' : St), (o = { ret := 0, ptrv := some 0 } ∧ st' = { st with events := st.events ++ [.handler .str ESUNTERM] }) ∨
      (o = { ret := 0, dmaxv := some 0, ptrv := some 0 } ∧
        st' = { st.upd (p + n) 0 with events := st.events ++ [.handler .str ESUNTERM] }) →
      o.ret = 0 ∧ o.ptrv = some 0 ∧ st'.events = st.events ++ [.handler .str ESUNTERM] ∧
        (∀ x, x ≠ p + n → st'.data x = st.data x) ∧ (st'.data (p + n) = st.data (p + n) ∨ st'.data (p + n) = 0) := by
    rintro o st' (⟨rfl, rfl⟩ | ⟨rfl, rfl⟩)
    · exact ⟨rfl, rfl, rfl, fun x _ => rfl, .inl rfl⟩
    · exact ⟨rfl, rfl, rfl, fun x hx => by simp [St.upd, hx], .inr (by simp [St.upd])⟩
  have hwr : st.wr (p + n) = true := hw _ (by omega) (Nat.le_refl _)
  rw [if_neg (hcell a ha.1 ha.2)]
  by_cases hae : a = p + n
  · -- only delimiters up to the end of the extent
    subst hae
    rw [if_pos rfl]
    cases wide
    · exact ⟨_, _, by simp [untermSkip, handlerS, exec_bind], .inl (exit _ _ (.inl ⟨rfl, rfl⟩))⟩
    · exact ⟨_, _, exec_tokUnterm _ st (hall _).1 hwr, .inl (exit _ _ (.inr ⟨rfl, rfl⟩))⟩
  · rw [if_neg hae]
    have e : a + 1 + (n - (a - p) - 1) = p + n := by omega
    have hb := findE_bounds st.data dl (n - (a - p) - 1) (a + 1)
    have he := findE_end st.data dl (n - (a - p) - 1) (a + 1)
    rw [e] at hb he
    generalize findE st.data dl (n - (a - p) - 1) (a + 1) = b at hb he ⊢
    obtain ⟨hab, hbn⟩ : a < b ∧ b ≤ p + n := hb
    have hb0 := hcell b (Nat.le_trans ha.1 (Nat.le_of_lt hab)) hbn
    rw [if_neg hb0]
    by_cases hbe : b = p + n
    · -- the token runs to the end of the extent
      subst hbe
      rw [if_pos rfl]
      exact ⟨_, _, exec_tokUnterm _ st (hall _).1 hwr, .inl (exit _ _ (.inr ⟨rfl, rfl⟩))⟩
    · -- a delimiter inside the extent ends the token
      rw [if_neg hbe]
      have hlt : b < p + n := Nat.lt_of_le_of_ne hbn hbe
      refine ⟨_, _, exec_scan2Cut _ _ _ st (hall _).1 (hw _ (Nat.le_trans ha.1 (Nat.le_of_lt hab)) hbn),
        .inr ⟨b, ha.1, hab, hlt, (he.resolve_left hbe).resolve_left hb0, rfl, ?_, rfl⟩⟩
      rw [rem_cut ha.1 hab hlt]

/-! ## why the clause fails: kernel-evaluated runs of the model (the C code does the same: correspondence run) -/

/-- "ab" at 100 with NO terminator in the two declared cells, delimiter string "," at 200; cell 102 = `dest[dmax]` -/
def unMem (c102 : Nat) : Nat → Nat := fun a =>
  if a = 100 then 97 else if a = 101 then 98 else if a = 102 then c102 else if a = 200 then 44 else 0

/-- `dest[dmax]` unmapped (the string ends at a page boundary) -/
def unStPage : St :=
  { data := unMem 0, mapped := fun a => a ≠ 102, rd := fun a => a ≠ 102, wr := fun a => 100 ≤ a ∧ a < 102 }

/-- **the scan READS `dest[dmax]`**: with that cell unmapped both tokenizers fault on a read of it
(`tok-read-before-bound`) -/
theorem tok_unterm_reads_dmax_witness :
    (match exec (strtok_s 100 (some 2) 200 (some 0) none) unStPage with
      | .error f => some f | .ok _ => none) = some (.read 102) ∧
    (match exec (wcstok_s 100 (some 2) 200 (some 0) none) unStPage with
      | .error f => some f | .ok _ => none) = some (.read 102) := by
  constructor <;> decide

/-- everything mapped; the caller declared the extent `[100, 102)` readable and writable and the delimiter string
readable; `dest[dmax]` holds 120 ('x') -/
def unStX : St :=
  { data := unMem 120, mapped := fun _ => true,
    rd := fun a => (100 ≤ a ∧ a < 102) ∨ (200 ≤ a ∧ a < 202), wr := fun a => 100 ≤ a ∧ a < 102 }

/-- **the ESUNTERM exit STORES NUL into `dest[dmax]`** (recorded as a stray write by the machine), and stores NULL
through `ptr` (`tok-unterm-exit-writes-dest-dmax`, `tok-unterm-stores-ptr`) -/
theorem tok_unterm_writes_dmax_witness :
    (match exec (strtok_s 100 (some 2) 200 (some 0) none) unStX with
      | .ok (o, st') => (o, st'.data 102, st'.strays, st'.events)
      | .error _ => (default, 0, [], [])) =
      ({ ret := 0, dmaxv := some 0, ptrv := some 0 }, 0, [.rd 102, .wr 102], [.handler .str ESUNTERM]) ∧
    (match exec (wcstok_s 100 (some 2) 200 (some 0) none) unStX with
      | .ok (o, st') => (o, st'.data 102, st'.strays, st'.events)
      | .error _ => (default, 0, [], [])) =
      ({ ret := 0, dmaxv := some 0, ptrv := some 0 }, 0, [.rd 102, .wr 102], [.handler .str ESUNTERM]) := by
  constructor <;> decide

/-- `dest[dmax]` holds NUL: no NUL inside the two declared cells, one exactly behind them -/
def unStNul : St :=
  { data := unMem 0, mapped := fun _ => true, rd := fun _ => true, wr := fun a => 100 ≤ a ∧ a < 102 }

/-- **a NUL found AT `dest[dmax]` is accepted as the terminator**: the string is unterminated within `dmax = 2`, yet
no error is reported and the token is returned (`tok-nul-at-dmax-accepted`) -/
theorem tok_nul_at_dmax_accepted_witness :
    scanLen unStNul.data 100 2 = 2 ∧
    (match exec (strtok_s 100 (some 2) 200 (some 0) none) unStNul with
      | .ok (o, st') => (o, st'.events)
      | .error _ => (default, [])) = ({ ret := 100, dmaxv := some 0, ptrv := some 102 }, []) ∧
    (match exec (wcstok_s 100 (some 2) 200 (some 0) none) unStNul with
      | .ok (o, st') => (o, st'.events)
      | .error _ => (default, [])) = ({ ret := 100, dmaxv := some 0, ptrv := some 102 }, []) := by
  refine ⟨by decide, by decide, by decide⟩

/-- non-vacuity of `tok_unterm_partial`: its hypotheses hold for "ab" + 'x' with the three cells writable -/
example : scanLen (unMem 120) 100 2 = 2 ∧ unMem 120 (100 + 2) ≠ 0 ∧ DelimOK (unMem 120) 200 :=
  ⟨by decide, by decide, by unfold DelimOK; decide⟩

/-- **once `*ptr` is NULL every continuation call is rejected by the entry checks**: NULL returned, nothing stored
through `ptr` / `dmaxp` (so the caller's variables stay as they are and the next call is rejected again), exactly one
handler report, memory untouched. Any remaining length, any delimiter pointer, both functions. -/
theorem tok_after_error (wide : Bool) (rem dl : Nat) (db : Bos) (st : St) :
    ∃ code, exec (tokFn wide 0 (some rem) dl (some 0) db) st =
      .ok ({ ret := 0 }, { st with events := st.events ++ [.handler .str code] }) := by
  cases wide
  · simp only [tokFn, Bool.false_eq_true, if_false, strtok_s]
    by_cases h1 : rem = 0
    · exact ⟨ESZEROL, by simp [h1, tokFail, handlerS, exec_bind]⟩
    · exact ⟨ESNULLP, by simp [h1, tokFail, handlerS, exec_bind]⟩
  · simp only [tokFn, if_true, wcstok_s]
    by_cases h1 : rem = 0
    · exact ⟨ESZEROL, by simp [h1, tokFail, handlerS, exec_bind]⟩
    · by_cases h3 : rem > RSIZE_MAX_WSTR
      · exact ⟨ESLEMAX, by simp [h1, h3, tokFail, handlerS, exec_bind]⟩
      · exact ⟨ESNULLP, by simp [h1, h3, tokFail, handlerS, exec_bind]⟩

/-- the same for a whole tail of calls: `k` further calls after the error return NULL `k` times, store nothing, and
leave the memory contents as they are -/
theorem tok_error_forever (wide : Bool) (db : Bos) (dls : List Nat) (rem : Nat) (st : St) :
    ∃ st', exec (nextCalls wide db dls 0 rem) st = .ok (dls.map (fun _ => { ret := 0 }), st') ∧
      st'.data = st.data ∧ st'.strays = st.strays := by
  induction dls generalizing st with
  | nil => exact ⟨st, rfl, rfl, rfl⟩
  | cons dl rest ih =>
    obtain ⟨code, he⟩ := tok_after_error wide rem dl db st
    obtain ⟨st', he', hd', hs'⟩ := ih { st with events := st.events ++ [.handler .str code] }
    refine ⟨st', ?_, hd', hs'⟩
    simp only [nextCalls, exec_bind, he, Option.getD_none, he', List.map_cons]
    rfl

end SafeC.Props.C14
