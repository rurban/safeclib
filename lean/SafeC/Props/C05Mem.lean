import SafeC.Proofs.EVMem
import SafeC.Props.C05Ev
/-!
# C05 for the memory family, through the `EV` event judgement

For ALL arguments (null, zero, huge, wrapped element counts, object sizes known or not, any overlap)
and ALL memory contents: a call of `memcpy_s memmove_s memset_s memzero_s memzero16_s memzero32_s
memset16_s memset32_s memcpy16_s memcpy32_s memmove16_s memmove32_s wmemcpy_s wmemmove_s` that
returns has appended either nothing and returned EOK, or exactly one MEM-handler event carrying the
code it returned.  `memccpy_s` is the exception the code makes: its not-enough-space exit reports
through the STR handler (`handle_error`), a known finding; for it the statement is proved with the
handler kind left open (`OnceAny`), and the witness shows the str-kind report.
-/
namespace SafeC.Props.C05Mem
open SafeC Gen SafeC.Props.C05Ev

/-- memcpy_s: all arguments, all memory — EOK and no event, or code ≠ EOK and exactly that one mem-handler event -/
theorem memcpy_s_C05 (dest dmax src slen : Nat) (db sb : Bos) : Discipline .mem (memcpy_s dest dmax src slen db sb) := .of_In (memcpy_s_ev ..)
theorem memmove_s_C05 (dest dmax src slen : Nat) (db sb : Bos) : Discipline .mem (memmove_s dest dmax src slen db sb) := .of_In (memmove_s_ev ..)
/-- memset_s: same (the n > dmax exit reports first, then fills what fits, then returns the reported code) -/
theorem memset_s_C05 (dest dmax value n : Nat) (db : Bos) : Discipline .mem (memset_s dest dmax value n db) := .of_In (memset_s_ev ..)
theorem memzero_s_C05 (dest len : Nat) (db : Bos) : Discipline .mem (memzero_s dest len db) := .of_In (memzero_s_ev ..)
theorem memzero16_s_C05 (dest len : Nat) (db : Bos) : Discipline .mem (memzero16_s dest len db) := .of_In (memzero16_s_ev ..)
theorem memzero32_s_C05 (dest len : Nat) (db : Bos) : Discipline .mem (memzero32_s dest len db) := .of_In (memzero32_s_ev ..)
theorem memset16_s_C05 (dest dmax value n : Nat) (db : Bos) : Discipline .mem (memset16_s dest dmax value n db) := .of_In (memset16_s_ev ..)
theorem memset32_s_C05 (dest dmax value n : Nat) (db : Bos) : Discipline .mem (memset32_s dest dmax value n db) := .of_In (memset32_s_ev ..)
theorem memcpy16_s_C05 (dest dmax src slen : Nat) (db sb : Bos) : Discipline .mem (memcpy16_s dest dmax src slen db sb) := .of_In (memcpy16_s_ev ..)
theorem memcpy32_s_C05 (dest dmax src slen : Nat) (db sb : Bos) : Discipline .mem (memcpy32_s dest dmax src slen db sb) := .of_In (memcpy32_s_ev ..)
theorem memmove16_s_C05 (dest dmax src slen : Nat) (db sb : Bos) : Discipline .mem (memmove16_s dest dmax src slen db sb) := .of_In (memmove16_s_ev ..)
theorem memmove32_s_C05 (dest dmax src slen : Nat) (db sb : Bos) : Discipline .mem (memmove32_s dest dmax src slen db sb) := .of_In (memmove32_s_ev ..)
theorem wmemcpy_s_C05 (dest dlen src count : Nat) (db sb : Bos) : Discipline .mem (wmemcpy_s dest dlen src count db sb) := .of_In (wmemcpy_s_ev ..)
theorem wmemmove_s_C05 (dest dlen src count : Nat) (db sb : Bos) : Discipline .mem (wmemmove_s dest dlen src count db sb) := .of_In (wmemmove_s_ev ..)

/-- memccpy_s, FULL statement (`Discipline .mem`) is false of the code: the ESNOSPC exit of the copy loop reports
through the STR handler.  Proved: exactly one report carrying the returned code, of either kind. -/
theorem memccpy_s_C05_partial (cfg : Cfg) (dest dmax src c n : Nat) (db sb : Bos) (st : St) (r : Nat) (st' : St)
    (he : exec (memccpy_s cfg dest dmax src c n db sb) st = .ok (r, st')) :
    (r = EOK ∧ st'.events = st.events) ∨ (r ≠ EOK ∧ ∃ k, st'.events = st.events ++ [.handler k r]) := by
  obtain ⟨es, h1, h2⟩ := (memccpy_s_ev cfg dest dmax src c n db sb).sound st he
  rcases h2 with ⟨hr, hes⟩ | ⟨hr, k, hes⟩
  · left; subst hes; exact ⟨hr, by simpa using h1⟩
  · right; subst hes; exact ⟨hr, k, h1⟩

/-- the excluded point: memccpy_s(d, 1, "a", 'x', 1): n == dmax, stop character absent → ESNOSPC through the str handler -/
theorem memccpy_s_C05_witness :
    ((exec (memccpy_s {} 100 1 200 120 1 none none)
      { data := fun a => if a = 200 then 97 else 0, mapped := fun _ => true, rd := fun _ => true, wr := fun _ => true }).toOption.map
        (fun x => (x.1, x.2.events))) = some (ESNOSPC, [.handler .str ESNOSPC]) := by
  decide

/-- non-vacuity: a reporting run of memcpy_s (slen > dmax) -/
example : ((exec (memcpy_s 100 1 200 2 none none)
      { data := fun _ => 7, mapped := fun _ => true, rd := fun _ => true, wr := fun _ => true }).toOption.map
        (fun x => (x.1, x.2.events))) = some (ESNOSPC, [.handler .mem ESNOSPC]) := by decide

end SafeC.Props.C05Mem
