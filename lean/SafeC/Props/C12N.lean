import SafeC.Proofs.Footprint
import SafeC.Proofs.InterleaveEv
import SafeC.Props.C12
/-!
# C12 — N threads, shared read-only data, sequential orders, locality of `exec`

The generic statements behind C12 at full strength (proofs in `Proofs/InterleaveN.lean`,
`Proofs/InterleaveEv.lean`, `Proofs/Footprint.lean`); the per-family footprints are in `C12Fp.lean`.

Model of concurrency: a pool `ps : ι → Thread` of programs over ANY index type (arbitrarily many threads,
each with its own result type), one shared memory, an arbitrary schedule `sch : List ι` of atomic steps
(one load, one store or one handler event; `runPool`).  Footprints `R i` (cells thread `i` may load) and
`W i` (cells it may store to) for the run from the initial memory (`Thread.Fp` = `Within2`).
`NonInterf R W`: no thread stores into a cell another thread loads or stores — read-only cells may be
shared by any number of threads.  Assumption recorded: sequential consistency at the granularity of
single loads and stores.

Statements.
* `reentrant_invariant`  — at every point of every schedule (no length bound, nothing assumed to finish);
* `reentrant_n`          — a finished thread has its run-alone result and contents;
* `sequential_any_order` — calls run one after the other in any order each behave as if alone
                           (nothing is carried from one call to the next);
* `interleaving_is_sequential` — all finished: every interleaving = every sequential order, whole memory;
* `reentrant_shared_reads`, `either_order` — the two-thread forms on `runSched`;
* `events_invariant`, `events_are_a_shuffle`, `quiet_calls_stay_quiet` — the handler events of an interleaving;
* `exec_local_ok`, `exec_local_err`, `exec_frame_outside` — `exec p st` depends only on `st` restricted
  to the footprint and changes nothing outside it: the checkable form of "no mutable state".
-/
namespace SafeC.Props.C12N
open SafeC

variable {ι : Type} [DecidableEq ι]

/-- **invariant of every schedule** (see `pool_invariant`) -/
theorem reentrant_invariant {R W : ι → Nat → Prop} (hni : NonInterf R W) (sch : List ι) (ps : ι → Thread) (s : St)
    (hw : ∀ i, (ps i).Fp (R i) (W i) s) :
    (∀ i, ((runPool sch ps s).1 i).Fp (R i) (W i) (runPool sch ps s).2) ∧
    (∀ i, ((runPool sch ps s).1 i).finish (runPool sch ps s).2 = (ps i).finish s) ∧
    (∀ i a, R i a ∨ W i a → ((runPool sch ps s).1 i).final (runPool sch ps s).2 a = (ps i).final s a) ∧
    (∀ a, (∀ i, ¬ W i a) → (runPool sch ps s).2.data a = s.data a) :=
  pool_invariant hni sch ps s hw

/-- **C12, N threads.**  Any number of calls with pairwise non-interfering footprints, ANY interleaving of
their atomic steps: a call that has returned has returned what it returns when run alone from the initial
memory, and every cell of its footprint holds what the call alone leaves there — whatever the other threads
have done meanwhile, finished or not. -/
theorem reentrant_n {R W : ι → Nat → Prop} (hni : NonInterf R W) (sch : List ι) (ps : ι → Thread) (s : St)
    (hw : ∀ i, (ps i).Fp (R i) (W i) s) (i : ι) (hd : ((runPool sch ps s).1 i).isDone = true) :
    (runPool sch ps s).1 i = (ps i).finish s ∧
    ∀ a, R i a ∨ W i a → (runPool sch ps s).2.data a = (ps i).final s a :=
  pool_finished hni sch ps s hw i hd

omit [DecidableEq ι] in
/-- **no state is carried from call to call.**  The calls of a duplicate-free list run one after the
other, in the order of the list: each returns its run-alone result and leaves its run-alone contents. -/
theorem sequential_any_order {R W : ι → Nat → Prop} (hni : NonInterf R W) (ps : ι → Thread) (l : List ι)
    (hl : l.Nodup) (s : St) (hw : ∀ i ∈ l, (ps i).Fp (R i) (W i) s) :
    seqResults (l.map ps) s = l.map (fun i => (ps i).finish s) ∧
    (∀ i ∈ l, ∀ a, R i a ∨ W i a → (seqRun (l.map ps) s).data a = (ps i).final s a) ∧
    (∀ a, (∀ i ∈ l, ¬ W i a) → (seqRun (l.map ps) s).data a = s.data a) :=
  seq_char hni ps l hl s hw

/-- **every interleaving is every sequential order.**  `l` lists the threads in any order; if the schedule
lets all of them finish, the results are those of the sequential run in the order `l` and the final memory
is the same, cell for cell. -/
theorem interleaving_is_sequential {R W : ι → Nat → Prop} (hni : NonInterf R W) (sch : List ι) (ps : ι → Thread)
    (s : St) (hw : ∀ i, (ps i).Fp (R i) (W i) s) (l : List ι) (hl : l.Nodup) (hall : ∀ i, i ∈ l)
    (hfin : ∀ i, ((runPool sch ps s).1 i).isDone = true) :
    l.map (runPool sch ps s).1 = seqResults (l.map ps) s ∧
    (runPool sch ps s).2.data = (seqRun (l.map ps) s).data :=
  interleave_eq_seq hni sch ps s hw l hl hall hfin

/-- two threads (`runSched`), read-only cells may be shared -/
theorem reentrant_shared_reads {α β : Type} {RA WA RB WB : Nat → Prop}
    (hab : ∀ a, WA a → ¬ RB a ∧ ¬ WB a) (hba : ∀ a, WB a → ¬ RA a ∧ ¬ WA a)
    (sch : List Bool) (pa : Prog α) (pb : Prog β) (s : St)
    (ha : Within2 RA WA pa s) (hb : Within2 RB WB pb s)
    (hfin : done (runSched sch pa pb s).1 = true ∧ done (runSched sch pa pb s).2.1 = true) :
    (runSched sch pa pb s).1 = .ret (runT pa s).1 ∧ (runSched sch pa pb s).2.1 = .ret (runT pb s).1 ∧
    (∀ a, RA a ∨ WA a → (runSched sch pa pb s).2.2.data a = (runT pa s).2.data a) ∧
    (∀ a, RB a ∨ WB a → (runSched sch pa pb s).2.2.data a = (runT pb s).2.data a) ∧
    (∀ a, ¬ WA a → ¬ WB a → (runSched sch pa pb s).2.2.data a = s.data a) :=
  interleave_shared hab hba sch pa pb s ha hb hfin

/-- two threads: the interleaved memory is the memory of A-then-B and of B-then-A, and in either order the
second call returns what it returns alone -/
theorem either_order {α β : Type} {RA WA RB WB : Nat → Prop}
    (hab : ∀ a, WA a → ¬ RB a ∧ ¬ WB a) (hba : ∀ a, WB a → ¬ RA a ∧ ¬ WA a)
    (sch : List Bool) (pa : Prog α) (pb : Prog β) (s : St)
    (ha : Within2 RA WA pa s) (hb : Within2 RB WB pb s)
    (hfin : done (runSched sch pa pb s).1 = true ∧ done (runSched sch pa pb s).2.1 = true) :
    (runSched sch pa pb s).2.2.data = (runT pb (runT pa s).2).2.data ∧
    (runSched sch pa pb s).2.2.data = (runT pa (runT pb s).2).2.data ∧
    (runT pb (runT pa s).2).1 = (runT pb s).1 ∧ (runT pa (runT pb s).2).1 = (runT pa s).1 := by
  obtain ⟨_, _, e3, e4, e5⟩ := interleave_shared hab hba sch pa pb s ha hb hfin
  obtain ⟨rb, wb, fb⟩ := runT_after hab pa pb s ha hb
  obtain ⟨ra, wa, fa⟩ := runT_after hba pb pa s hb ha
  refine ⟨funext fun a => ?_, funext fun a => ?_, rb, ra⟩
  · by_cases h2 : WB a
    · rw [e4 a (Or.inr h2), wb a h2]
    · rw [fb a h2]
      by_cases h1 : WA a
      · exact e3 a (Or.inr h1)
      · rw [e5 a h1 h2, runT_frame2 pa s ha a h1]
  · by_cases h1 : WA a
    · rw [e3 a (Or.inr h1), wa a h1]
    · rw [fa a h1]
      by_cases h2 : WB a
      · exact e4 a (Or.inr h2)
      · rw [e5 a h1 h2, runT_frame2 pb s hb a h2]

/-! ## "keeps no mutable state": a model is a function of its arguments and of the cells of its footprint

A model `f args : Prog α` is a VALUE of an inductive type: it has no storage of its own, and the
interpreters `exec` / `runT` / `step` thread exactly one `St` through it.  What remains to be checked is that
the run does not depend on more of that `St` than the call's footprint: -/

/-- `exec` from two states that agree on the footprint (contents, mapping, permissions; same logs):
same result, same logs, contents agreeing on the footprint -/
theorem exec_local_ok {α : Type} {F : Nat → Prop} (p : Prog α) (s s' : St) (hsim : Sim F s s') (hw : Within F p s)
    {r : α} {t : St} (h : exec p s = .ok (r, t)) :
    ∃ t', exec p s' = .ok (r, t') ∧ Sim F t t' := by
  have := exec_local p s s' hsim hw
  rwa [h] at this

/-- … and the same fault if it faults -/
theorem exec_local_err {α : Type} {F : Nat → Prop} (p : Prog α) (s s' : St) (hsim : Sim F s s') (hw : Within F p s)
    {e : Fault} (h : exec p s = .error e) : exec p s' = .error e := by
  have := exec_local p s s' hsim hw
  rwa [h] at this

/-- … and nothing outside the cells it may store to is changed (`exec` and `runT` alike) -/
theorem exec_frame_outside {α : Type} {R W : Nat → Prop} (p : Prog α) (s : St) (hw : Within2 R W p s)
    {r : α} {t : St} (h : exec p s = .ok (r, t)) :
    ∀ a, ¬ W a → t.data a = s.data a := by
  intro a ha
  rw [← (exec_eq_runT_aux p s s rfl h).2]
  exact runT_frame2 p s hw a ha

/-- **events of an interleaving**: at every point of every schedule the log is the initial log followed by a
shuffle `L` of what the threads have emitted so far — heads taken from the threads' run-alone event lists
(`Thread.evs`, from the initial memory), leaving exactly the events the remaining programs emit run alone from
the current memory -/
theorem events_invariant {R W : ι → Nat → Prop} (hni : NonInterf R W) (sch : List ι) (ps : ι → Thread) (s : St)
    (hw : ∀ i, (ps i).Fp (R i) (W i) s) :
    ∃ L, (runPool sch ps s).2.events = s.events ++ L ∧
      Sh (fun i => (ps i).evs s) L (fun i => ((runPool sch ps s).1 i).evs (runPool sch ps s).2) :=
  pool_events hni sch ps s hw

/-- all threads finished: the log is the initial log followed by a COMPLETE shuffle of the threads' run-alone
event lists — every constraint-handler event of every call appears, with the kind and code of the call run
alone, in the call's own order; only the relative order across threads depends on the schedule -/
theorem events_are_a_shuffle {R W : ι → Nat → Prop} (hni : NonInterf R W) (sch : List ι) (ps : ι → Thread) (s : St)
    (hw : ∀ i, (ps i).Fp (R i) (W i) s) (hfin : ∀ i, ((runPool sch ps s).1 i).isDone = true) :
    ∃ L, (runPool sch ps s).2.events = s.events ++ L ∧ Sh (fun i => (ps i).evs s) L (fun _ => []) := by
  obtain ⟨L, h1, h2⟩ := pool_events hni sch ps s hw
  have : ∀ i, ((runPool sch ps s).1 i).evs (runPool sch ps s).2 = [] := by
    intro i
    have hd := hfin i
    generalize (runPool sch ps s).1 i = th at hd
    obtain ⟨α, p⟩ := th
    cases p with
    | ret x => rfl
    | load _ _ => simp [Thread.isDone, done] at hd
    | store _ _ _ => simp [Thread.isDone, done] at hd
    | emit _ _ => simp [Thread.isDone, done] at hd
  rw [funext this] at h2
  exact ⟨L, h1, h2⟩

/-- calls that report nothing when run alone report nothing under any schedule -/
theorem quiet_calls_stay_quiet {R W : ι → Nat → Prop} (hni : NonInterf R W) (sch : List ι) (ps : ι → Thread) (s : St)
    (hw : ∀ i, (ps i).Fp (R i) (W i) s) (hq : ∀ i, (ps i).evs s = []) :
    (runPool sch ps s).2.events = s.events := by
  obtain ⟨L, h1, h2⟩ := pool_events hni sch ps s hw
  cases h2 with
  | done _ => simpa using h1
  | step i e rest hi _ _ =>
    have hi' : (ps i).evs s = e :: rest := hi
    rw [hq i] at hi'; cases hi'

/-- non-vacuity: a failing call's own event list, and a two-thread shuffle of two such lists -/
example (s : St) : Thread.evs ⟨Nat, failS 5⟩ s = [.handler .str 5] := rfl

example : Sh (fun b : Bool => if b then [Event.handler .str 5] else [Event.handler .mem 7])
    [Event.handler .mem 7, Event.handler .str 5] (fun _ => []) :=
  .step false _ [] rfl (f' := fun b => if b then [Event.handler .str 5] else []) (fun j => by cases j <;> rfl)
    (.step true _ [] rfl (f' := fun _ => []) (fun j => by cases j <;> rfl) (.done fun _ => rfl))

/-- add the shared cell `c` into the private cell `x` through the private scratch cell `tmp` -/
def addVia (tmp c x : Nat) : Prog Nat := do
  let v ← load c
  store tmp v
  let w ← load x
  let u ← load tmp
  store x (w + u)
  pure (w + u)

theorem addVia_fp (tmp c x : Nat) (s : St) :
    Within2 (fun a => a = c ∨ a = tmp ∨ a = x) (fun a => a = tmp ∨ a = x) (addVia tmp c x) s := by
  simp [addVia, load, store, bind, Prog.bind, Within2, pure]

/-- three threads 0,1,2 add the shared cell 7 into their cells 10+i via scratch cells 20+i: under every
schedule a finished thread `i` has returned its own sum and its cell holds it -/
example (sch : List (Fin 3)) (s : St) (i : Fin 3)
    (hd : ((runPool sch (fun j : Fin 3 => (⟨Nat, addVia (20 + j.val) 7 (10 + j.val)⟩ : Thread)) s).1 i).isDone = true) :
    (runPool sch (fun j : Fin 3 => (⟨Nat, addVia (20 + j.val) 7 (10 + j.val)⟩ : Thread)) s).1 i =
      Thread.finish ⟨Nat, addVia (20 + i.val) 7 (10 + i.val)⟩ s :=
  (reentrant_n (R := fun j a => a = 7 ∨ a = 20 + j.val ∨ a = 10 + j.val)
      (W := fun j a => a = 20 + j.val ∨ a = 10 + j.val)
      (by
        intro i j hij a hw
        constructor <;> omega)
      sch (fun j : Fin 3 => (⟨Nat, addVia (20 + j.val) 7 (10 + j.val)⟩ : Thread)) s
      (fun j => addVia_fp (20 + j.val) 7 (10 + j.val) s) i hd).1

/-- … and the "all threads finish" hypothesis of `interleaving_is_sequential` is satisfiable: round-robin for
six rounds lets the three threads finish from the memory `mem0` (cell `a` holds `a`), and thread 1 has then
returned `11 + 7` -/
example :
    let ps : Fin 3 → Thread := fun j => ⟨Nat, addVia (20 + j.val) 7 (10 + j.val)⟩
    let sch : List (Fin 3) := [0, 1, 2, 0, 1, 2, 0, 1, 2, 0, 1, 2, 0, 1, 2, 0, 1, 2]
    (∀ i, ((runPool sch ps Props.C12.mem0).1 i).isDone = true) ∧
    (runPool sch ps Props.C12.mem0).2.data 11 = 18 := by
  decide

/-! ## the remaining offender: a call counter in static storage (`tmpfile_s` / `tmpnam_s`, known finding
`tmpfile-count`)

`static int count; … if (++count > TMP_MAX_S) …` is a load and a store of ONE cell shared by all threads.
The hypothesis of `reentrant_n` fails (both calls store to the counter cell), and so does the conclusion: -/

/-- `++count` on the shared cell `c`, returning the new value -/
def bump (c : Nat) : Prog Nat := do
  let v ← load c
  store c (v + 1)
  pure (v + 1)

/-- two concurrent calls, both load the counter before either stores: both return 1 and the counter ends
at 1 — one call is lost to the `TMP_MAX_S` accounting; run one after the other they return 1 and 2 -/
theorem shared_counter_witness :
    ∃ sch : List Bool,
      (runSched sch (bump 0) (bump 0) Props.C12.mem0).1 = .ret 1 ∧
      (runSched sch (bump 0) (bump 0) Props.C12.mem0).2.1 = .ret 1 ∧
      (runSched sch (bump 0) (bump 0) Props.C12.mem0).2.2.data 0 = 1 ∧
      (runT (bump 0) (runT (bump 0) Props.C12.mem0).2).1 = 2 ∧
      (runT (bump 0) (runT (bump 0) Props.C12.mem0).2).2.data 0 = 2 :=
  ⟨[true, false, true, false, true, false], rfl, rfl, rfl, rfl, rfl⟩

end SafeC.Props.C12N
