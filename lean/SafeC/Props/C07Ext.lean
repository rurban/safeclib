import SafeC.Proofs.CopyOverlap
import SafeC.Proofs.CopyDisjoint
import SafeC.Proofs.MemccpyOverlap
import SafeC.Props.C07
/-!
# C07 (extension) — the bounded copies `strncpy_s` / `wcsncpy_s`, the concatenations `strncat_s` / `wcsncat_s` / `wcscat_s`
and `memccpy_s`: every placement of `src` relative to `dest`

* `*_overlap`: `g` = distance between the two pointers.  Whenever the copy would run into the other operand — the first
  `g` source characters are non-NUL, `g ≤ slen`, and the meeting point lies inside dest (`g < dmax`) — the call returns
  ESOVRLP, exactly one handler call, dest cleared, nothing outside dest touched: never a silently corrupted copy.
* `*_disjoint_not_rejected_partial`: disjoint operands are never rejected as overlapping — PROVIDED the `m` characters
  copied do not end exactly at dest when `slen` runs out.  The full statement (`src + m ≤ dest` when `slen = m`: the cell
  `src + m` is not read) is false: the bumper test precedes the `slen == 0` test (`bounded-copy-src-ends-at-dest`);
  `*_witness` is the excluded point `strncpy_s(a+5, 2, a+4, 1)`.
-/
namespace SafeC.Props.C07
open SafeC Gen

/-- **strncpy_s detects every overlap**, all placements (src before / inside / after dest) -/
theorem strncpy_s_overlap (cfg : Cfg) (dest dmax src slen : Nat) (st : St)
    (hall : ∀ a, st.mapped a = true ∧ st.rd a = true)
    (hd : dest ≠ 0) (hs : src ≠ 0) (hpos : 0 < dmax) (hle : dmax ≤ RSIZE_MAX_STR)
    (hslen : 0 < slen) (hslenle : slen ≤ RSIZE_MAX_STR) (hrw : RW st dest dmax)
    (hnz : ∀ j, j < (if dest < src then src - dest else dest - src) → st.data (src+j) ≠ 0)
    (hg : (if dest < src then src - dest else dest - src) ≤ slen)
    (hgd : (if dest < src then src - dest else dest - src) < dmax) :
    ∃ st', exec (strncpy_s cfg dest dmax src slen none none) st = .ok (ESOVRLP, st') ∧ OvrlpPost cfg dest dmax st st' :=
  strncpyG_overlap _ cfg dest dmax src slen st hall hd hs hpos hle hslen hslenle hrw hnz hg hgd

/-- **wcsncpy_s detects every overlap** -/
theorem wcsncpy_s_overlap (cfg : Cfg) (dest dmax src slen : Nat) (st : St)
    (hall : ∀ a, st.mapped a = true ∧ st.rd a = true)
    (hd : dest ≠ 0) (hs : src ≠ 0) (hpos : 0 < dmax) (hle : dmax ≤ RSIZE_MAX_WSTR)
    (hslen : 0 < slen) (hslenle : slen ≤ RSIZE_MAX_WSTR) (hrw : RW st dest dmax)
    (hnz : ∀ j, j < (if dest < src then src - dest else dest - src) → st.data (src+j) ≠ 0)
    (hg : (if dest < src then src - dest else dest - src) ≤ slen)
    (hgd : (if dest < src then src - dest else dest - src) < dmax) :
    ∃ st', exec (wcsncpy_s cfg dest dmax src slen none none) st = .ok (ESOVRLP, st') ∧ OvrlpPost cfg dest dmax st st' := by
  rw [wcsncpy_s_eq cfg dest dmax src slen hslenle]
  exact strncpyG_overlap _ cfg dest dmax src slen st hall hd hs hpos hle hslen hslenle hrw hnz hg hgd

/- FULL statement (false of the model): `hdisj : dest + dmax ≤ src ∨ src + m < dest ∨ (slen = m ∧ src + m ≤ dest)`. -/

/-- **strncpy_s never rejects disjoint operands** (`m` = number of characters copied: the source string is shorter than
`slen`, or `slen = m` runs out first), except for a source that ends exactly at dest -/
theorem strncpy_s_disjoint_not_rejected_partial (cfg : Cfg) (dest dmax src slen m : Nat) (st : St)
    (hd : dest ≠ 0) (hs : src ≠ 0) (hpos : 0 < dmax) (hle : dmax ≤ RSIZE_MAX_STR)
    (hslen : 0 < slen) (hslenle : slen ≤ RSIZE_MAX_STR) (hrw : RW st dest dmax)
    (hnz : ∀ j, j < m → st.data (src+j) ≠ 0)
    (hrd : ∀ j, j < m → st.mapped (src+j) = true ∧ st.rd (src+j) = true)
    (hfin : (m < slen ∧ st.data (src+m) = 0 ∧ st.mapped (src+m) = true ∧ st.rd (src+m) = true) ∨ slen = m)
    (hdisj : dest + dmax ≤ src ∨ src + m < dest) :
    ∃ code st', exec (strncpy_s cfg dest dmax src slen none none) st = .ok (code, st') ∧ code ≠ ESOVRLP := by
  obtain ⟨code, st', he, _, _, _, _, _, hok, hfail⟩ :=
    strncpyG_disjoint _ cfg dest dmax src slen m st hd hs hpos hle hslen hslenle hrw hnz hrd hfin hdisj
  exact ⟨code, st', he, ne_ovrlp_of_fits hok hfail⟩

/-- **wcsncpy_s never rejects disjoint operands**, same exception -/
theorem wcsncpy_s_disjoint_not_rejected_partial (cfg : Cfg) (dest dmax src slen m : Nat) (st : St)
    (hd : dest ≠ 0) (hs : src ≠ 0) (hpos : 0 < dmax) (hle : dmax ≤ RSIZE_MAX_WSTR)
    (hslen : 0 < slen) (hslenle : slen ≤ RSIZE_MAX_WSTR) (hrw : RW st dest dmax)
    (hnz : ∀ j, j < m → st.data (src+j) ≠ 0)
    (hrd : ∀ j, j < m → st.mapped (src+j) = true ∧ st.rd (src+j) = true)
    (hfin : (m < slen ∧ st.data (src+m) = 0 ∧ st.mapped (src+m) = true ∧ st.rd (src+m) = true) ∨ slen = m)
    (hdisj : dest + dmax ≤ src ∨ src + m < dest) :
    ∃ code st', exec (wcsncpy_s cfg dest dmax src slen none none) st = .ok (code, st') ∧ code ≠ ESOVRLP := by
  rw [wcsncpy_s_eq cfg dest dmax src slen hslenle]
  obtain ⟨code, st', he, _, _, _, _, _, hok, hfail⟩ :=
    strncpyG_disjoint _ cfg dest dmax src slen m st hd hs hpos hle hslen hslenle hrw hnz hrd hfin hdisj
  exact ⟨code, st', he, ne_ovrlp_of_fits hok hfail⟩

/-- `a` = 100: `a[4] = 'x'`, dest = `a+5` (2 cells), src = `a+4`, slen = 1: the one source cell lies below dest -/
def endSt : St :=
  { data := fun a => if a = 104 then 120 else 0
    mapped := fun _ => true, rd := fun _ => true
    wr := fun a => decide (105 ≤ a ∧ a < 107) }

/-- the return code of a run -/
def retCode (r : Except Fault (Nat × St)) : Option Nat :=
  match r with
  | .ok (c, _) => some c
  | .error _ => none

/-- the excluded point: `strncpy_s(a+5, 2, a+4, 1)` — disjoint (`src + slen = dest`), rejected with ESOVRLP -/
theorem strncpy_s_disjoint_not_rejected_witness :
    (104 : Nat) + 1 ≤ 105 ∧ retCode (exec (strncpy_s { slack := true } 105 2 104 1 none none) endSt) = some ESOVRLP := by
  decide

theorem wcsncpy_s_disjoint_not_rejected_witness :
    (104 : Nat) + 1 ≤ 105 ∧ retCode (exec (wcsncpy_s { slack := true } 105 2 104 1 none none) endSt) = some ESOVRLP := by
  decide

/-- **wcscat_s never rejects disjoint operands** -/
theorem wcscat_s_disjoint_not_rejected (cfg : Cfg) (dest dmax src dl n : Nat) (st : St)
    (hd : dest ≠ 0) (hs : src ≠ 0) (hpos : 0 < dmax) (hle : dmax ≤ RSIZE_MAX_WSTR)
    (hrw : RW st dest dmax) (hsrc : SrcStr st src n) (hdisj : Disjoint dest dmax src n)
    (hdl : dl < dmax) (hdnz : ∀ j, j < dl → st.data (dest+j) ≠ 0) (hdnul : st.data (dest+dl) = 0) :
    ∃ code st', exec (wcscat_s cfg dest dmax src none) st = .ok (code, st') ∧ code ≠ ESOVRLP := by
  rw [wcscat_s_eq]
  obtain ⟨code, st', he, _, _, _, _, _, hok, hfail⟩ :=
    strcatG_disjoint _ cfg dest dmax src dl n st hd hs hpos hle hrw hsrc hdisj hdl hdnz hdnul
  exact ⟨code, st', he, ne_ovrlp_of_fits hok hfail⟩

/- FULL statement (false of the model): `hdisj : dest + dmax ≤ src ∨ src + m < dest ∨ (slen = m ∧ src + m ≤ dest)`. -/

/-- **strncat_s never rejects disjoint operands** (dest holds a string of length `dl < dmax`, `m` characters are
appended), except for a source whose `slen` characters end exactly at dest -/
theorem strncat_s_disjoint_not_rejected_partial (cfg : Cfg) (dest dmax src slen dl m : Nat) (st : St)
    (hd : dest ≠ 0) (hs : src ≠ 0) (hpos : 0 < dmax) (hle : dmax ≤ RSIZE_MAX_STR)
    (hslen : 0 < slen) (hslenle : slen ≤ RSIZE_MAX_STR) (hrw : RW st dest dmax)
    (hnz : ∀ j, j < m → st.data (src+j) ≠ 0)
    (hrd : ∀ j, j < m → st.mapped (src+j) = true ∧ st.rd (src+j) = true)
    (hfin : (m < slen ∧ st.data (src+m) = 0 ∧ st.mapped (src+m) = true ∧ st.rd (src+m) = true) ∨ slen = m)
    (hdisj : dest + dmax ≤ src ∨ src + m < dest)
    (hdl : dl < dmax) (hdnz : ∀ j, j < dl → st.data (dest+j) ≠ 0) (hdnul : st.data (dest+dl) = 0) :
    ∃ code st', exec (strncat_s cfg dest dmax src slen none none) st = .ok (code, st') ∧ code ≠ ESOVRLP := by
  obtain ⟨code, st', he, _, _, _, _, _, hok, hfail⟩ :=
    strncatG_disjoint _ cfg dest dmax src slen dl m st hd hs hpos hle hslen hslenle hrw hnz hrd hfin hdisj hdl hdnz hdnul
  exact ⟨code, st', he, ne_ovrlp_of_fits hok hfail⟩

/-- **wcsncat_s never rejects disjoint operands**, same exception -/
theorem wcsncat_s_disjoint_not_rejected_partial (cfg : Cfg) (dest dmax src slen dl m : Nat) (st : St)
    (hd : dest ≠ 0) (hs : src ≠ 0) (hpos : 0 < dmax) (hle : dmax ≤ RSIZE_MAX_WSTR)
    (hslen : 0 < slen) (hslenle : slen ≤ RSIZE_MAX_WSTR) (hrw : RW st dest dmax)
    (hnz : ∀ j, j < m → st.data (src+j) ≠ 0)
    (hrd : ∀ j, j < m → st.mapped (src+j) = true ∧ st.rd (src+j) = true)
    (hfin : (m < slen ∧ st.data (src+m) = 0 ∧ st.mapped (src+m) = true ∧ st.rd (src+m) = true) ∨ slen = m)
    (hdisj : dest + dmax ≤ src ∨ src + m < dest)
    (hdl : dl < dmax) (hdnz : ∀ j, j < dl → st.data (dest+j) ≠ 0) (hdnul : st.data (dest+dl) = 0) :
    ∃ code st', exec (wcsncat_s cfg dest dmax src slen none none) st = .ok (code, st') ∧ code ≠ ESOVRLP := by
  rw [wcsncat_s_eq cfg dest dmax src slen hle hslenle (by omega)]
  obtain ⟨code, st', he, _, _, _, _, _, hok, hfail⟩ :=
    strncatG_disjoint _ cfg dest dmax src slen dl m st hd hs hpos hle hslen hslenle hrw hnz hrd hfin hdisj hdl hdnz hdnul
  exact ⟨code, st', he, ne_ovrlp_of_fits hok hfail⟩

/-- the excluded point: `strncat_s(a+5, 2, a+4, 1)` with `a+5 = ""`: disjoint, rejected with ESOVRLP -/
theorem strncat_s_disjoint_not_rejected_witness :
    (104 : Nat) + 1 ≤ 105 ∧ retCode (exec (strncat_s { slack := true } 105 2 104 1 none none) endSt) = some ESOVRLP := by
  decide

theorem wcsncat_s_disjoint_not_rejected_witness :
    (104 : Nat) + 1 ≤ 105 ∧ retCode (exec (wcsncat_s { slack := true } 105 2 104 1 none none) endSt) = some ESOVRLP := by
  decide

/-! ## memccpy_s: the `CHK_OVRLP` interval test decides every placement -/

/-- **memccpy_s rejects every overlap**: whenever the `n` source bytes and the `dmax` destination bytes share a byte
(identical pointers included; addresses below 2^64) the call returns ESOVRLP with the `dmax` bytes of dest zeroed,
nothing else changed, the mem handler invoked exactly once -/
theorem memccpy_s_C07_overlap (cfg : Cfg) (dest dmax src c n : Nat) (st : St)
    (hd : dest ≠ 0) (hs : src ≠ 0) (hpos : 0 < n) (hle : n ≤ dmax) (hmax : dmax ≤ RSIZE_MAX_MEM)
    (hw : RW st dest dmax) (ha1 : src + n < Mem.U64) (ha2 : dest + dmax < Mem.U64)
    (hov : (src ≤ dest ∧ dest < src + n) ∨ (dest < src ∧ src < dest + dmax)) :
    ∃ st', exec (memccpy_s cfg dest dmax src c n none none) st = .ok (ESOVRLP, st') ∧
      st'.events = st.events ++ [.handler .mem ESOVRLP] ∧ st'.strays = st.strays ∧
      (∀ a, st'.data a = if dest ≤ a ∧ a < dest + dmax then 0 else st.data a) := by
  have hlt := RSIZE_MAX_MEM_lt_U32
  have hn : dmax % Mem.U32 = dmax := Nat.mod_eq_of_lt (by omega)
  obtain ⟨s1, he, hf⟩ := mem_prim_set_ok dest dmax 0 st (by rw [hn]; exact hw)
  rw [hn] at hf
  refine ⟨{ s1 with events := s1.events ++ [.handler .mem ESOVRLP] }, ?_, ?_, hf.same.strays, hf.data⟩
  · rw [memccpy_s_valid cfg dest dmax src c n hd hs hpos hle hmax, if_pos ((ovrlp_one dest dmax src n ha1 ha2).2 hov)]
    simp [exec_bind, he, handlerM]
  · show s1.events ++ _ = _
    rw [hf.same.events]

/-- **memccpy_s never rejects disjoint operands**: for every memory content and every stop character the call returns
EOK or ESNOSPC (the latter is `memccpy-n-eq-dmax`), and writes nothing outside dest -/
theorem memccpy_s_C07_disjoint_not_rejected (cfg : Cfg) (dest dmax src c n : Nat) (st : St)
    (hall : ∀ a, st.mapped a = true ∧ st.rd a = true)
    (hd : dest ≠ 0) (hs : src ≠ 0) (hpos : 0 < n) (hle : n ≤ dmax) (hmax : dmax ≤ RSIZE_MAX_MEM)
    (hw : RW st dest dmax) (ha1 : src + n < Mem.U64) (ha2 : dest + dmax < Mem.U64)
    (hno : ¬ ((src ≤ dest ∧ dest < src + n) ∨ (dest < src ∧ src < dest + dmax))) :
    ∃ code st', exec (memccpy_s cfg dest dmax src c n none none) st = .ok (code, st') ∧ code ≠ ESOVRLP ∧
      (∀ a, ¬ (dest ≤ a ∧ a < dest + dmax) → st'.data a = st.data a) := by
  obtain ⟨code, st', he, hc, hf⟩ := memccpy_s_disjoint cfg dest dmax src c n st hall hd hs hpos hle hmax hw ha1 ha2 hno
  refine ⟨code, st', he, ?_, hf⟩
  rcases hc with h | h <;> rw [h] <;> decide

/-- non-vacuity of the overlap theorems: `strncpy_s(a, 4, a+2, 3)` with `a+2 = "xy…"`: g = 2 ≤ slen, 2 < dmax -/
example : ∃ st : St, (∀ a, st.mapped a = true ∧ st.rd a = true) ∧ RW st 100 4 ∧
    (∀ j, j < (if (100:Nat) < 102 then 102 - 100 else 100 - 102) → st.data (102 + j) ≠ 0) :=
  ⟨{ data := fun _ => 7, mapped := fun _ => true, rd := fun _ => true, wr := fun _ => true },
   fun _ => ⟨rfl, rfl⟩, fun _ _ => ⟨rfl, rfl, rfl⟩, fun _ _ => (by decide : (7 : Nat) ≠ 0)⟩

end SafeC.Props.C07
