import SafeC.Props.C01Ext
import SafeC.Models.Io
import SafeC.Proofs.AccTime
/-!
# C01 for asctime_s, ctime_s, gets_s, gmtime_s and localtime_s

Setting and conclusion of `Props/C01.lean` (`Setting`, `Holds`): every cell mapped and readable with ARBITRARY contents, only
`dest[0..dmax)` writable; then for ALL arguments — any dmax, object size known or not, any `struct tm` / `time_t`, any text libc
hands back (terminated or not), ANY stream contents of any length for gets_s — the call returns, records no stray write and
leaves every cell outside `dest[0..dmax)` bit-identical.

`gets_s_C01` is the theorem that the tree before 27b40b4 does not satisfy: it called `fgets(dest, dmax + 1, stdin)` and stored
the terminator of every line of `dmax - 1` or more characters at `dest[dmax]` (fixed finding `gets-terminator-at-dest-dmax`).
The time functions carry no hypothesis on `dmax`: with `dmax ≥ 120` libc writes straight into dest (at most 26 bytes;
`copyText 120` is the model's bound), below that into a buffer of its own.
-/
namespace SafeC.Props.C01
open SafeC

/-- **asctime_s**: all arguments, any `struct tm` contents, any text -/
theorem asctime_s_C01 (cfg : Cfg) (dest dmax tm : Nat) (db : Bos) (text : Nat) (st : St) (hs : Setting st)
    (hrw : dest ≠ 0 → RW st dest dmax) :
    ∃ r st', exec (asctime_s cfg dest dmax tm db text) st = .ok (r, st') ∧ Holds st st' :=
  holds_of_AccS hs (asctime_s_accs cfg dest dmax tm db text (C02.Wr_of_RW.guard hrw) (fun _ _ _ => trivial)
    fun hd h26 _ _ _ => timeTail_any cfg dest dmax db text false h26 (fun _ => trivial) (C02.Wr_of_RW (hrw hd)))

/-- **ctime_s**: all arguments, any `time_t`, any text, libc succeeding or giving up (`lf`) -/
theorem ctime_s_C01 (cfg : Cfg) (dest dmax timer : Nat) (db : Bos) (text : Nat) (lf : Bool) (st : St) (hs : Setting st)
    (hrw : dest ≠ 0 → RW st dest dmax) :
    ∃ r st', exec (ctime_s cfg dest dmax timer db text lf) st = .ok (r, st') ∧ Holds st st' :=
  holds_of_AccS hs (ctime_s_accs cfg dest dmax timer db text lf (C02.Wr_of_RW.guard hrw) (fun _ => trivial)
    fun hd h26 _ _ _ => timeTail_any cfg dest dmax db text lf h26 (fun _ => trivial) (C02.Wr_of_RW (hrw hd)))

/-- **gets_s**: all arguments and EVERY stream (`inp[0..len)`, any bytes, any length, newline or not, embedded NULs): nothing is
stored outside `dest[0..dmax)` -/
theorem gets_s_C01 (cfg : Cfg) (dest dmax : Nat) (db : Bos) (inp len : Nat) (st : St) (hs : Setting st)
    (hrw : dest ≠ 0 → RW st dest dmax) :
    ∃ r st', exec (gets_s cfg dest dmax db inp len) st = .ok (r, st') ∧ Holds st st' :=
  holds_of_Acc hs (Acc_gets_s cfg dest dmax db inp len (fun _ _ => trivial) (fun _ _ _ => trivial) (C02.Wr_of_RW.guard hrw))

/-- non-vacuity: a one-byte dest at 100 (the smallest buffer gets_s accepts), everything else read-only -/
example : ∃ st : St, Setting st ∧ ((100 : Nat) ≠ 0 → RW st 100 1) :=
  ⟨{ data := fun _ => 65, mapped := fun _ => true, rd := fun _ => true, wr := fun a => decide (a = 100) },
   ⟨fun _ => ⟨rfl, rfl⟩, rfl⟩, fun _ i hi => ⟨rfl, by simp; omega, rfl⟩⟩

/-- **gmtime_s / localtime_s**: all arguments, any `*timer`, any result libc hands back: only the 14 cells of `*dest` are stored to -/
theorem gmtime_s_C01 (timer dest res : Nat) (st : St) (hs : Setting st) (hrw : dest ≠ 0 → RW st dest 14) :
    ∃ r st', exec (gmtime_s timer dest res) st = .ok (r, st') ∧ Holds st st' :=
  holds_of_Acc hs (Acc_tmConv timer dest res (fun _ => trivial) (fun _ _ _ => trivial) (C02.Wr_of_RW.guard hrw))

theorem localtime_s_C01 (timer dest res : Nat) (st : St) (hs : Setting st) (hrw : dest ≠ 0 → RW st dest 14) :
    ∃ r st', exec (localtime_s timer dest res) st = .ok (r, st') ∧ Holds st st' :=
  holds_of_Acc hs (Acc_tmConv timer dest res (fun _ => trivial) (fun _ _ _ => trivial) (C02.Wr_of_RW.guard hrw))

end SafeC.Props.C01
