import SafeC.Proofs.CopyDisjoint
import SafeC.Proofs.MemMove
/-!
# C06 — success means the exact, complete result: no silent truncation

`cells` reads a run of memory as a list; what the standard counterpart (`strcpy`, `strcat`, `strncpy`) produces is
stated over it (`cells st' dest (n+1) = cells st src n ++ [0]`).  For valid, non-overlapping operands the
models return EOK exactly when the complete result including its terminator fits in dmax, and then
dest holds exactly that result; otherwise they fail (ESNOSPC) — they never store a shortened result
and report success.
-/
namespace SafeC.Props.C06
open SafeC Gen

theorem cells_eq (st st' : St) (p q n : Nat) (h : ∀ i, i < n → st'.data (p+i) = st.data (q+i)) :
    cells st' p n = cells st q n := by
  induction n generalizing p q with
  | zero => rfl
  | succ n ih =>
    simp only [cells]
    have h0 := h 0 (by omega)
    simp only [Nat.add_zero] at h0
    rw [h0, ih (p+1) (q+1)]
    intro i hi
    have := h (i+1) (by omega)
    simpa [Nat.add_assoc, Nat.add_comm 1 i] using this

theorem cells_add (st : St) (p a b : Nat) : cells st p (a + b) = cells st p a ++ cells st (p + a) b := by
  induction a generalizing p with
  | zero => simp [cells]
  | succ a ih =>
    have e : a + 1 + b = (a + b) + 1 := by omega
    rw [e]
    simp only [cells, List.cons_append]
    rw [ih (p+1)]
    have e2 : p + 1 + a = p + (a + 1) := by omega
    rw [e2]

theorem cells_snoc (st : St) (p n : Nat) : cells st p (n+1) = cells st p n ++ [st.data (p+n)] :=
  cells_add st p n 1

/-- strcpy: dest = src string ++ [0] -/
theorem strcpy_s_C06 (cfg : Cfg) (dest dmax src n : Nat) (st : St)
    (hd : dest ≠ 0) (hs : src ≠ 0) (hpos : 0 < dmax) (hle : dmax ≤ RSIZE_MAX_STR)
    (hrw : RW st dest dmax) (hsrc : SrcStr st src n) (hdisj : Disjoint dest dmax src n) :
    ∃ code st', exec (strcpy_s cfg dest dmax src none) st = .ok (code, st') ∧
      (code = EOK ↔ n + 1 ≤ dmax) ∧
      (code = EOK → cells st' dest (n+1) = cells st src n ++ [0]) := by
  obtain ⟨code, st', he, _, _, _, _, _, hok, hfail⟩ :=
    strcpyG_disjoint _ cfg dest dmax src n st hd hs hpos hle hrw hsrc hdisj
  have key := eok_iff_fits hok hfail
  refine ⟨code, st', he, key, fun hc => ?_⟩
  · obtain ⟨_, _, hcp, hnul, _⟩ := hok (key.1 hc)
    have : cells st' dest (n+1) = cells st' dest n ++ [0] := by rw [cells_snoc, hnul]
    rw [this, cells_eq st st' dest src n hcp]

/-- strcat: old dest string ++ src string ++ [0] -/
theorem strcat_s_C06 (cfg : Cfg) (dest dmax src dl n : Nat) (st : St)
    (hd : dest ≠ 0) (hs : src ≠ 0) (hpos : 0 < dmax) (hle : dmax ≤ RSIZE_MAX_STR)
    (hrw : RW st dest dmax) (hsrc : SrcStr st src n) (hdisj : Disjoint dest dmax src n)
    (hdl : dl < dmax) (hdnz : ∀ j, j < dl → st.data (dest+j) ≠ 0) (hdnul : st.data (dest+dl) = 0) :
    ∃ code st', exec (strcat_s cfg dest dmax src none) st = .ok (code, st') ∧
      (code = EOK ↔ dl + n + 1 ≤ dmax) ∧
      (code = EOK → cells st' dest dl = cells st dest dl ∧ cells st' (dest+dl) n = cells st src n ∧
        st'.data (dest+dl+n) = 0) := by
  obtain ⟨code, st', he, _, _, _, _, _, hok, hfail⟩ :=
    strcatG_disjoint _ cfg dest dmax src dl n st hd hs hpos hle hrw hsrc hdisj hdl hdnz hdnul
  have key := eok_iff_fits hok hfail
  refine ⟨code, st', he, key, fun hc => ?_⟩
  obtain ⟨_, _, hpre, hcp, hnul, _⟩ := hok (key.1 hc)
  exact ⟨cells_eq st st' dest dest dl hpre, cells_eq st st' (dest+dl) src n hcp, hnul⟩

/-- strncpy: the first `m = min(slen, strlen src)` characters, then a terminator -/
theorem strncpy_s_C06 (cfg : Cfg) (dest dmax src slen m : Nat) (st : St)
    (hd : dest ≠ 0) (hs : src ≠ 0) (hpos : 0 < dmax) (hle : dmax ≤ RSIZE_MAX_STR)
    (hslen : 0 < slen) (hslenle : slen ≤ RSIZE_MAX_STR)
    (hrw : RW st dest dmax)
    (hnz : ∀ j, j < m → st.data (src+j) ≠ 0)
    (hrd : ∀ j, j < m → st.mapped (src+j) = true ∧ st.rd (src+j) = true)
    (hfin : (m < slen ∧ st.data (src+m) = 0 ∧ st.mapped (src+m) = true ∧ st.rd (src+m) = true) ∨ slen = m)
    (hdisj : dest + dmax ≤ src ∨ src + m < dest) :
    ∃ code st', exec (strncpy_s cfg dest dmax src slen none none) st = .ok (code, st') ∧
      (code = EOK ↔ m + 1 ≤ dmax) ∧
      (code = EOK → cells st' dest m = cells st src m ∧ st'.data (dest+m) = 0) := by
  obtain ⟨code, st', he, _, _, _, _, _, hok, hfail⟩ :=
    strncpyG_disjoint _ cfg dest dmax src slen m st hd hs hpos hle hslen hslenle hrw hnz hrd hfin hdisj
  have key := eok_iff_fits hok hfail
  refine ⟨code, st', he, key, fun hc => ?_⟩
  obtain ⟨_, _, hcp, hnul, _⟩ := hok (key.1 hc)
  exact ⟨cells_eq st st' dest src m hcp, hnul⟩

end SafeC.Props.C06
