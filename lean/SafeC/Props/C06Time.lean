import SafeC.Lemmas
import SafeC.Models.Time
/-!
# C06 for gmtime_s / localtime_s: success means the exact, complete result

For every in-range `*timer` (0 ≤ *timer < MAX_TIME_T_STR), every broken-down time `res` libc produces for it (14 32-bit cells,
anywhere outside `*dest`) and every prior content of `*dest`: the call returns dest (EOK), reports nothing, and afterwards the
members `tm_sec … tm_isdst` (cells 0..8) and `tm_gmtoff` (cells 10, 11) of `*dest` are exactly libc's, `tm_zone` (cells 12, 13)
is what the shim normalises it to (0), the padding cell 9 and every cell outside `*dest` are untouched.
-/
namespace SafeC.Props.C06Time
open SafeC Gen

/-- the value member cell `j` of `*dest` ends up with -/
def tmCell (st : St) (res j : Nat) : Nat := if j ≥ 12 then 0 else st.data (res + j)

theorem copyTm_ok (k i res dest : Nat) (st0 st : St)
    (hall : ∀ a, st.mapped a = true ∧ st.rd a = true) (hrw : RW st dest 14) (hik : i + k = 14)
    (hdisj : ∀ a b, a < 14 → b < 14 → res + a ≠ dest + b)
    (hres : ∀ a, a < 14 → st.data (res + a) = st0.data (res + a)) :
    ∃ st', exec (copyTm k i res dest) st = .ok ((), st') ∧ SameMeta st' st ∧
      (∀ j, i ≤ j → j < 14 → j ≠ 9 → st'.data (dest + j) = tmCell st0 res j) ∧
      (∀ a, ¬ (∃ j, i ≤ j ∧ j < 14 ∧ j ≠ 9 ∧ a = dest + j) → st'.data a = st.data a) := by
  induction k generalizing i st with
  | zero =>
    unfold copyTm
    exact ⟨st, rfl, SameMeta.refl _,
      fun j h1 h2 => absurd (Nat.lt_of_le_of_lt h1 h2) (Nat.not_lt.2 (Nat.le_of_eq hik.symm)), fun _ _ => rfl⟩
  | succ k ih =>
    unfold copyTm
    have hi : i < 14 := by omega
    have hm := hall (res + i)
    simp only [exec_bind, exec_load_ok _ _ hm.1 hm.2]
    by_cases h9 : i = 9
    · subst h9
      simp only [if_true, exec_pure]
      obtain ⟨st', he, hmeta, hv, hf⟩ := ih 10 st hall hrw (by omega) hres
      refine ⟨st', he, hmeta, fun j h1 h2 h3 => hv j (Nat.lt_of_le_of_ne h1 (Ne.symm h3)) h2 h3, fun a ha => hf a ?_⟩
      intro ⟨j, h1, h2, h3, h4⟩
      exact ha ⟨j, Nat.le_of_succ_le h1, h2, h3, h4⟩
    · rw [if_neg h9]
      have hw := hrw i hi
      simp only [exec_store_ok _ _ _ hw.1 hw.2.1]
      have hres' : ∀ a, a < 14 → (st.upd (dest + i) (if i ≥ 12 then 0 else st.data (res + i))).data (res + a) = st0.data (res + a) := by
        intro a ha
        rw [St.upd_data_ne _ _ _ _ (hdisj a i ha hi)]
        exact hres a ha
      obtain ⟨st', he, hmeta, hv, hf⟩ := ih (i+1) (st.upd (dest + i) (if i ≥ 12 then 0 else st.data (res + i)))
        hall (RW.of_sameMeta (SameMeta.upd _ _ _) hrw) ((Nat.add_right_comm i 1 k).trans hik) hres'
      refine ⟨st', he, hmeta.trans (SameMeta.upd _ _ _), fun j h1 h2 h3 => ?_, fun a ha => ?_⟩
      · by_cases hj : j = i
        · subst hj
          -- cell `j`, just written, is not among the cells `j+1 …` the rest of the loop writes
          rw [hf (dest + j) (fun ⟨j', h1', _, _, h4'⟩ => Nat.not_succ_le_self j (Nat.add_left_cancel h4' ▸ h1')),
            St.upd_data_same]
          unfold tmCell
          rw [hres j h2]
        · exact hv j (Nat.lt_of_le_of_ne h1 (Ne.symm hj)) h2 h3
      · rw [hf a (fun ⟨j, h1, h2, h3, h4⟩ => ha ⟨j, Nat.le_of_succ_le h1, h2, h3, h4⟩)]
        exact St.upd_data_ne _ _ _ _ (fun h => ha ⟨i, Nat.le_refl _, hi, h9, h⟩)

/-- **gmtime_s / localtime_s, success: the exact result** -/
theorem tmConv_C06 (timer dest res : Nat) (st : St) (hd : dest ≠ 0) (ht : timer ≠ 0) (hr : res ≠ 0)
    (hall : ∀ a, st.mapped a = true ∧ st.rd a = true) (hrw : RW st dest 14)
    (hlo : 0 ≤ cellI64 (st.data timer)) (hhi : cellI64 (st.data timer) < MAX_TIME_T_STR)
    (hdisj : ∀ a b, a < 14 → b < 14 → res + a ≠ dest + b) :
    ∃ st', exec (tmConv timer dest res) st = .ok (EOK, st') ∧ st'.events = st.events ∧ st'.strays = st.strays ∧
      (∀ j, j < 14 → j ≠ 9 → st'.data (dest + j) = tmCell st res j) ∧
      st'.data (dest + 9) = st.data (dest + 9) ∧
      (∀ a, ¬ (dest ≤ a ∧ a < dest + 14) → st'.data a = st.data a) := by
  unfold tmConv
  rw [if_neg hd, if_neg ht]
  have hm := hall timer
  simp only [exec_bind, exec_load_ok _ _ hm.1 hm.2]
  rw [if_neg (Int.not_lt.2 hlo)]
  simp only [exec_bind, exec_load_ok _ _ hm.1 hm.2]
  rw [if_neg (Int.not_le.2 hhi), if_neg hr]
  obtain ⟨st', he, hmeta, hv, hf⟩ := copyTm_ok 14 0 res dest st st hall hrw (Nat.zero_add 14) hdisj (fun _ _ => rfl)
  refine ⟨st', by simp only [exec_bind, he]; rfl, hmeta.events, hmeta.strays, fun j h1 h2 => hv j (Nat.zero_le _) h1 h2, ?_, ?_⟩
  · exact hf _ (fun ⟨j, _, _, h3, h4⟩ => h3 (Nat.add_left_cancel h4).symm)
  · intro a ha
    exact hf a (fun ⟨j, _, h2, _, h4⟩ => ha (h4 ▸ ⟨Nat.le_add_right dest j, Nat.add_lt_add_left h2 dest⟩))

theorem gmtime_s_C06 (timer dest res : Nat) (st : St) (hd : dest ≠ 0) (ht : timer ≠ 0) (hr : res ≠ 0)
    (hall : ∀ a, st.mapped a = true ∧ st.rd a = true) (hrw : RW st dest 14)
    (hlo : 0 ≤ cellI64 (st.data timer)) (hhi : cellI64 (st.data timer) < MAX_TIME_T_STR)
    (hdisj : ∀ a b, a < 14 → b < 14 → res + a ≠ dest + b) :
    ∃ st', exec (gmtime_s timer dest res) st = .ok (EOK, st') ∧ st'.events = st.events ∧ st'.strays = st.strays ∧
      (∀ j, j < 14 → j ≠ 9 → st'.data (dest + j) = tmCell st res j) ∧
      st'.data (dest + 9) = st.data (dest + 9) ∧
      (∀ a, ¬ (dest ≤ a ∧ a < dest + 14) → st'.data a = st.data a) :=
  tmConv_C06 timer dest res st hd ht hr hall hrw hlo hhi hdisj

theorem localtime_s_C06 (timer dest res : Nat) (st : St) (hd : dest ≠ 0) (ht : timer ≠ 0) (hr : res ≠ 0)
    (hall : ∀ a, st.mapped a = true ∧ st.rd a = true) (hrw : RW st dest 14)
    (hlo : 0 ≤ cellI64 (st.data timer)) (hhi : cellI64 (st.data timer) < MAX_TIME_T_STR)
    (hdisj : ∀ a b, a < 14 → b < 14 → res + a ≠ dest + b) :
    ∃ st', exec (localtime_s timer dest res) st = .ok (EOK, st') ∧ st'.events = st.events ∧ st'.strays = st.strays ∧
      (∀ j, j < 14 → j ≠ 9 → st'.data (dest + j) = tmCell st res j) ∧
      st'.data (dest + 9) = st.data (dest + 9) ∧
      (∀ a, ¬ (dest ≤ a ∧ a < dest + 14) → st'.data a = st.data a) :=
  tmConv_C06 timer dest res st hd ht hr hall hrw hlo hhi hdisj

/-- non-vacuity: `*timer = 86399` at cell 8, `*dest` at 100, libc's result at 200 -/
example : ∃ st : St, (∀ a, st.mapped a = true ∧ st.rd a = true) ∧ RW st 100 14 ∧ 0 ≤ cellI64 (st.data 8) ∧
    cellI64 (st.data 8) < MAX_TIME_T_STR ∧ ∀ a b, a < 14 → b < 14 → 200 + a ≠ 100 + b :=
  ⟨{ data := fun a => if a = 8 then 86399 else 7, mapped := fun _ => true, rd := fun _ => true, wr := fun _ => true },
   fun _ => ⟨rfl, rfl⟩, fun _ _ => ⟨rfl, rfl, rfl⟩, by decide, by decide, fun a b _ _ => by omega⟩

end SafeC.Props.C06Time
