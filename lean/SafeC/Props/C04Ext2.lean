import SafeC.Props.C04Ext
import SafeC.Proofs.ExtNarrow
import SafeC.Proofs.ExtBos
/-! # C04 (extension 2): the narrow copy family with the object sizes known or unknown

`strcpy_s strncpy_s strcat_s strncat_s`, one statement each for `destbos` / `srcbos` unknown or known, every
placement of src (overlapping or not), every content, `cfg` arbitrary.  `Cleared` (from `Props/C04Ext.lean`): after
ANY non-EOK return on a usable dest `dest[0] = 0`; with null-slack all `dmax` cells are zero after ESNOSPC / ESOVRLP /
ESUNTERM / a null source; every cell outside `dest[0..dmax)` — in particular a source that does not overlap dest — is
unchanged (after success as well).  As in `Props/C04.lean` the "no element holds anything the failed call wrote"
clause is stated for the null-slack build only (recorded finding `noslack-partial`).

* `strcpy_s_C04`, `strcat_s_C04`: FULL (`strcpy_s` incl. `dest == src`, which returns EOK untouched).
* `strncpy_s_C04`, `strncat_s_C04`: FULL incl. `slen = 0` and `slen > RSIZE_MAX_STR`, for a source size that is unknown
  or contains `slen`; `slen > srcbos` with dest's size unknown is the recorded `slen-exceeds-srcbos`
  (`strncpy_s_C04_srcbos_witness`: dest[0] keeps its old character).
* `*_frame`: the C01 statement for ALL arguments (null / zero / oversize dest and dmax, `dmax` beyond a known object —
  there `chkDmaxClear` reports EOVERFLOW / ESLEMAX and clears at most `destbos` cells): no stray access, nothing
  outside the writable cells changes.
-/
namespace SafeC.Props.C04Ext2
open SafeC Gen SafeC.Props.C01 SafeC.Props.C04Ext

/-- strcpy_s: every failing exit on a usable dest, object size known or unknown, incl. `dest == src` -/
theorem strcpy_s_C04 (cfg : Cfg) (dest dmax src : Nat) (destbos : Bos) (st : St) (hs : Setting st)
    (hrw : RW st dest dmax) (hd : dest ≠ 0) (hpos : 0 < dmax) (hle : dmax ≤ RSIZE_MAX_STR)
    (hb : ∀ b, destbos = some b → dmax ≤ b) :
    ∃ code st', exec (strcpy_s cfg dest dmax src destbos) st = .ok (code, st') ∧
      Cleared cfg dest dmax st st' code := by
  obtain ⟨code, st', he, hf, hq⟩ := strcpyG_ext _ cfg dest dmax src destbos st hs.all (fun _ => hrw) (fun _ => Nat.le_refl _)
  refine ⟨code, st', he, ?_⟩
  by_cases hne : dest = src
  · obtain ⟨h1, _⟩ := (hq ⟨hd, hpos, hle, hb⟩).2 hne
    subst h1
    exact ⟨fun h => absurd rfl h, fun h => by rcases h with h | h | h | h <;> exact absurd h (by decide), hf.frame⟩
  · have h := ((hq ⟨hd, hpos, hle, hb⟩).1 hne).1.1
    exact ⟨h.fail_first, h.fail_clear, hf.frame⟩

/-- strncpy_s: every failing exit on a usable dest (any slen incl. 0 and oversize; `slen` inside a known source) -/
theorem strncpy_s_C04 (cfg : Cfg) (dest dmax src slen : Nat) (destbos srcbos : Bos) (st : St) (hs : Setting st)
    (hrw : RW st dest dmax) (hd : dest ≠ 0) (hpos : 0 < dmax) (hle : dmax ≤ RSIZE_MAX_STR)
    (hb : ∀ b, destbos = some b → dmax ≤ b) (hsb : ∀ sb, srcbos = some sb → slen ≤ sb) :
    ∃ code st', exec (strncpy_s cfg dest dmax src slen destbos srcbos) st = .ok (code, st') ∧
      Cleared cfg dest dmax st st' code := by
  obtain ⟨code, st', he, hf, hq⟩ := strncpy_s_ext cfg dest dmax src slen destbos srcbos st hs.all (fun _ => hrw) hsb
  have h := (hq ⟨hd, hpos, hle, hb⟩).1
  exact ⟨code, st', he, h.fail_first, h.fail_clear, hf.frame⟩

/-- dest = "wxyz" without terminator (4 cells at 100), src = "ab" (3 cells at 200) -/
def bSt : St :=
  { data := fun a => if 100 ≤ a ∧ a < 104 then 119 else if a = 200 then 97 else if a = 201 then 98 else 0
    mapped := fun _ => true, rd := fun _ => true
    wr := fun a => decide (100 ≤ a ∧ a < 104) }

/-- the point excluded by `hsb` (recorded: `slen-exceeds-srcbos`): `strncpy_s(d, 4, "ab", 5)`, `BOS(src) = 3`, dest's
size unknown, null-slack build: EOVERFLOW and `dest[0]` keeps its old character -/
theorem strncpy_s_C04_srcbos_witness :
    ∃ st', exec (strncpy_s { slack := true } 100 4 200 5 none (some 3)) bSt = .ok (EOVERFLOW, st') ∧
      st'.data 100 = 119 := by
  refine ⟨_, rfl, ?_⟩
  simp [bSt]

/-- strcat_s: every failing exit on a usable dest -/
theorem strcat_s_C04 (cfg : Cfg) (dest dmax src : Nat) (destbos : Bos) (st : St) (hs : Setting st)
    (hrw : RW st dest dmax) (hd : dest ≠ 0) (hpos : 0 < dmax) (hle : dmax ≤ RSIZE_MAX_STR)
    (hb : ∀ b, destbos = some b → dmax ≤ b) :
    ∃ code st', exec (strcat_s cfg dest dmax src destbos) st = .ok (code, st') ∧
      Cleared cfg dest dmax st st' code := by
  obtain ⟨code, st', he, hf, hq⟩ := strcat_s_ext cfg dest dmax src destbos st hs.all (fun _ => hrw)
  have h := (hq ⟨hd, hpos, hle, hb⟩).1
  exact ⟨code, st', he, h.fail_first, h.fail_clear, hf.frame⟩

/-- strncat_s: every failing exit on a usable dest (any slen incl. 0 and oversize; `slen` inside a known source) -/
theorem strncat_s_C04 (cfg : Cfg) (dest dmax src slen : Nat) (destbos srcbos : Bos) (st : St) (hs : Setting st)
    (hrw : RW st dest dmax) (hd : dest ≠ 0) (hpos : 0 < dmax) (hle : dmax ≤ RSIZE_MAX_STR)
    (hb : ∀ b, destbos = some b → dmax ≤ b) (hsb : ∀ sb, srcbos = some sb → slen ≤ sb) :
    ∃ code st', exec (strncat_s cfg dest dmax src slen destbos srcbos) st = .ok (code, st') ∧
      Cleared cfg dest dmax st st' code := by
  obtain ⟨code, st', he, hf, hq⟩ := strncat_s_ext cfg dest dmax src slen destbos srcbos st hs.all (fun _ => hrw) hsb
  have h := (hq ⟨hd, hpos, hle, hb⟩).1
  exact ⟨code, st', he, h.fail_first, h.fail_clear, hf.frame⟩

/-! ## the C01 statement for ALL arguments, object size known or not (incl. `dmax > destbos`) -/

theorem strcpy_s_frame (cfg : Cfg) (dest dmax src : Nat) (destbos : Bos) (st : St) (hs : Setting st)
    (hrw : dest ≠ 0 → RW st dest dmax) :
    ∃ code st', exec (strcpy_s cfg dest dmax src destbos) st = .ok (code, st') ∧ Holds st st' :=
  C04Ext.holds_of_frame hs (strcpyG_ext _ cfg dest dmax src destbos st hs.all hrw (fun _ => Nat.le_refl _))

theorem strncpy_s_frame (cfg : Cfg) (dest dmax src slen : Nat) (destbos srcbos : Bos) (st : St) (hs : Setting st)
    (hrw : dest ≠ 0 → RW st dest dmax) (hsb : ∀ sb, srcbos = some sb → slen ≤ sb) :
    ∃ code st', exec (strncpy_s cfg dest dmax src slen destbos srcbos) st = .ok (code, st') ∧ Holds st st' :=
  C04Ext.holds_of_frame hs (strncpy_s_ext cfg dest dmax src slen destbos srcbos st hs.all hrw hsb)

theorem strcat_s_frame (cfg : Cfg) (dest dmax src : Nat) (destbos : Bos) (st : St) (hs : Setting st)
    (hrw : dest ≠ 0 → RW st dest dmax) :
    ∃ code st', exec (strcat_s cfg dest dmax src destbos) st = .ok (code, st') ∧ Holds st st' :=
  C04Ext.holds_of_frame hs (strcat_s_ext cfg dest dmax src destbos st hs.all hrw)

theorem strncat_s_frame (cfg : Cfg) (dest dmax src slen : Nat) (destbos srcbos : Bos) (st : St) (hs : Setting st)
    (hrw : dest ≠ 0 → RW st dest dmax) (hsb : ∀ sb, srcbos = some sb → slen ≤ sb) :
    ∃ code st', exec (strncat_s cfg dest dmax src slen destbos srcbos) st = .ok (code, st') ∧ Holds st st' :=
  C04Ext.holds_of_frame hs (strncat_s_ext cfg dest dmax src slen destbos srcbos st hs.all hrw hsb)

/-- the hypotheses are satisfiable: dest = 5 writable cells at 100 inside an object of 8, src = "ab" at 200 inside an
object of 3, slen = 2 -/
example : Setting exSt ∧ RW exSt 100 5 ∧ (100 : Nat) ≠ 0 ∧ 0 < 5 ∧ 5 ≤ RSIZE_MAX_STR ∧
    (∀ b, (some 8 : Bos) = some b → 5 ≤ b) ∧ (∀ sb, (some 3 : Bos) = some sb → 2 ≤ sb) := by
  refine ⟨⟨fun _ => ⟨rfl, rfl⟩, rfl⟩, exSt_rw, by decide, by decide, by decide, ?_, ?_⟩
  · intro b h; cases h; decide
  · intro b h; cases h; decide

/-! ## `dmax` beyond a KNOWN object size (`dest` "not usable"): what the entry checks do, exactly

Every cell readable with arbitrary contents, ONLY the `b` cells of the object need be writable, `0 < b < dmax`, any
`src` / `slen` / `srcbos`, `cfg` arbitrary.
* The copies, the stp pair and strcpyfld_s go through `CHK_DEST_OVR_CLEAR`: `BosOver` — the code is ESLEMAX (`dmax` also
  above RSIZE_MAX_STR; `handle_error(dest, b)`: exactly `dest[0..b)` zeroed) else EOVERFLOW (`handle_str_bos_overflow`:
  exactly `dest[0..len)` zeroed, `len` = first NUL of the old dest within `b`, `b` if none — the old STRING, not the
  object: old data behind its NUL stays); without null-slack exactly `dest[0]`; ONE handler event; the stp pair
  returns NULL.  `bos_C04_facts`: in every case `dest[0] = 0` and nothing outside the OBJECT `dest[0..b)` changes (C01).
* strcpyfldin_s, strcpyfldout_s, strzero_s, strljustify_s, strremovews_s go through `CHK_DEST_OVR`: the code
  (`bosCode`), one handler event, NOTHING read or written (dest keeps its contents; dest is not usable, so C04 does
  not ask for more).  strnterminate_s returns 0 after one EOVERFLOW event (also when `dmax > RSIZE_MAX_STR`).
* Not failures: `strncpy_s(…, slen = 0)` (the shortcut precedes the check: EOK, `dest[0] = 0`), the field copies with
  `slen = 0` (documented no-op).
-/

theorem bos_C04_facts {cfg : Cfg} {dest dmax b code : Nat} {st st' : St} (h : BosOver cfg dest dmax b st st' code)
    (hb0 : 0 < b) :
    st'.data dest = 0 ∧ (∀ a, ¬ (dest ≤ a ∧ a < dest + b) → st'.data a = st.data a) ∧
      st'.strays = st.strays ∧ st'.wr = st.wr ∧ st'.events = st.events ++ [.handler .str code] :=
  h.facts hb0

theorem stpcpy_s_C04_bos (cfg : Cfg) (dest dmax src b : Nat) (srcbos : Bos) (st : St) (hs : Setting st)
    (hd : dest ≠ 0) (hb0 : 0 < b) (hbd : b < dmax) (hrw : RW st dest b) :
    ∃ code st', exec (stpcpy_s cfg dest dmax src (some b) srcbos) st = .ok ((0, code), st') ∧
      BosOver cfg dest dmax b st st' code := by
  unfold stpcpy_s
  rw [if_neg hd, if_neg (by omega)]
  exact chkDmaxClearG_over _ cfg dest dmax b _ st hs.all hd hb0 hbd hrw

theorem stpncpy_s_C04_bos (cfg : Cfg) (dest dmax src slen b : Nat) (srcbos : Bos) (st : St) (hs : Setting st)
    (hd : dest ≠ 0) (hb0 : 0 < b) (hbd : b < dmax) (hrw : RW st dest b) :
    ∃ code st', exec (stpncpy_s cfg dest dmax src slen (some b) srcbos) st = .ok ((0, code), st') ∧
      BosOver cfg dest dmax b st st' code := by
  unfold stpncpy_s
  rw [if_neg hd, if_neg (by omega)]
  exact chkDmaxClearG_over _ cfg dest dmax b _ st hs.all hd hb0 hbd hrw

theorem strcpy_s_C04_bos (cfg : Cfg) (dest dmax src b : Nat) (st : St) (hs : Setting st)
    (hd : dest ≠ 0) (hb0 : 0 < b) (hbd : b < dmax) (hrw : RW st dest b) :
    ∃ code st', exec (strcpy_s cfg dest dmax src (some b)) st = .ok (code, st') ∧
      BosOver cfg dest dmax b st st' code := by
  unfold strcpy_s strcpyG
  rw [if_neg hd, if_neg (by omega)]
  exact chkDmaxClearG_over id cfg dest dmax b _ st hs.all hd hb0 hbd hrw

theorem strncpy_s_C04_bos (cfg : Cfg) (dest dmax src slen b : Nat) (srcbos : Bos) (st : St) (hs : Setting st)
    (hd : dest ≠ 0) (hb0 : 0 < b) (hbd : b < dmax) (hrw : RW st dest b) (hslen : slen ≠ 0) :
    ∃ code st', exec (strncpy_s cfg dest dmax src slen (some b) srcbos) st = .ok (code, st') ∧
      BosOver cfg dest dmax b st st' code := by
  unfold strncpy_s strncpyG
  rw [if_neg (by intro h; exact hslen h.1), if_neg hd, if_neg (by omega)]
  exact chkDmaxClearG_over id cfg dest dmax b _ st hs.all hd hb0 hbd hrw

theorem strcat_s_C04_bos (cfg : Cfg) (dest dmax src b : Nat) (st : St) (hs : Setting st)
    (hd : dest ≠ 0) (hb0 : 0 < b) (hbd : b < dmax) (hrw : RW st dest b) :
    ∃ code st', exec (strcat_s cfg dest dmax src (some b)) st = .ok (code, st') ∧
      BosOver cfg dest dmax b st st' code := by
  unfold strcat_s strcatG
  rw [if_neg hd, if_neg (by omega)]
  exact chkDmaxClearG_over id cfg dest dmax b _ st hs.all hd hb0 hbd hrw

theorem strncat_s_C04_bos (cfg : Cfg) (dest dmax src slen b : Nat) (srcbos : Bos) (st : St) (hs : Setting st)
    (hd : dest ≠ 0) (hb0 : 0 < b) (hbd : b < dmax) (hrw : RW st dest b) :
    ∃ code st', exec (strncat_s cfg dest dmax src slen (some b) srcbos) st = .ok (code, st') ∧
      BosOver cfg dest dmax b st st' code := by
  unfold strncat_s strncatG
  rw [if_neg (by intro h; exact hd h.2.1), if_neg hd, if_neg (by omega)]
  exact chkDmaxClearG_over id cfg dest dmax b _ st hs.all hd hb0 hbd hrw

theorem strcpyfld_s_C04_bos (cfg : Cfg) (dest dmax src slen b : Nat) (st : St) (hs : Setting st)
    (hd : dest ≠ 0) (hb0 : 0 < b) (hbd : b < dmax) (hrw : RW st dest b) (hslen : slen ≠ 0) :
    ∃ code st', exec (strcpyfld_s cfg dest dmax src slen (some b)) st = .ok (code, st') ∧
      BosOver cfg dest dmax b st st' code := by
  unfold strcpyfld_s fldG
  rw [if_neg hslen, if_neg hd, if_neg (by omega)]
  exact chkDmaxClearG_over id cfg dest dmax b _ st hs.all hd hb0 hbd hrw

/-- the non-clearing entry check: one handler event, nothing else — for EVERY state -/
theorem strcpyfldin_s_C04_bos (cfg : Cfg) (dest dmax src slen b : Nat) (st : St)
    (hd : dest ≠ 0) (hbd : b < dmax) (hslen : slen ≠ 0) :
    exec (strcpyfldin_s cfg dest dmax src slen (some b)) st =
      .ok (bosCode dmax, { st with events := st.events ++ [.handler .str (bosCode dmax)] }) := by
  unfold strcpyfldin_s fldG
  rw [if_neg hslen, if_neg hd, if_neg (by omega)]
  exact chkDmax_over dmax b _ st hbd

theorem strcpyfldout_s_C04_bos (cfg : Cfg) (dest dmax src slen b : Nat) (st : St)
    (hd : dest ≠ 0) (hbd : b < dmax) (hslen : slen ≠ 0) :
    exec (strcpyfldout_s cfg dest dmax src slen (some b)) st =
      .ok (bosCode dmax, { st with events := st.events ++ [.handler .str (bosCode dmax)] }) := by
  unfold strcpyfldout_s fldG
  rw [if_neg hslen, if_neg hd, if_neg (by omega)]
  exact chkDmax_over dmax b _ st hbd

theorem strzero_s_C04_bos (cfg : Cfg) (dest dmax b : Nat) (st : St) (hd : dest ≠ 0) (hbd : b < dmax) :
    exec (strzero_s cfg dest dmax (some b)) st =
      .ok (bosCode dmax, { st with events := st.events ++ [.handler .str (bosCode dmax)] }) := by
  unfold strzero_s
  rw [if_neg hd, if_neg (by omega)]
  exact chkDmax_over dmax b _ st hbd

theorem strljustify_s_C04_bos (cfg : Cfg) (dest dmax b : Nat) (st : St) (hd : dest ≠ 0) (hbd : b < dmax) :
    exec (strljustify_s cfg dest dmax (some b)) st =
      .ok (bosCode dmax, { st with events := st.events ++ [.handler .str (bosCode dmax)] }) := by
  unfold strljustify_s
  rw [if_neg hd, if_neg (by omega)]
  exact chkDmax_over dmax b _ st hbd

theorem strremovews_s_C04_bos (cfg : Cfg) (dest dmax b : Nat) (st : St) (hd : dest ≠ 0) (hbd : b < dmax) :
    exec (strremovews_s cfg dest dmax (some b)) st =
      .ok (bosCode dmax, { st with events := st.events ++ [.handler .str (bosCode dmax)] }) := by
  unfold strremovews_s
  rw [if_neg hd, if_neg (by omega)]
  exact chkDmax_over dmax b _ st hbd

/-- strnterminate_s returns the length 0 after ONE EOVERFLOW event (its check does not look at RSIZE_MAX_STR when the
object size is known), dest untouched -/
theorem strnterminate_s_C04_bos (cfg : Cfg) (dest dmax b : Nat) (st : St) (hd : dest ≠ 0) (hbd : b < dmax) :
    exec (strnterminate_s cfg dest dmax (some b)) st =
      .ok (0, { st with events := st.events ++ [.handler .str EOVERFLOW] }) := by
  unfold strnterminate_s
  rw [if_neg hd, if_neg (by omega)]
  simp only
  rw [if_pos hbd]
  simp [handlerS, exec_bind]

/-! ### the stp pair: C01 statement for ALL arguments and ANY destbos (all `dmax` cells writable, also `destbos = 0`) -/

/-- stpcpy_s, ALL dest/dmax/src and ANY destbos / srcbos (`dmax` inside the known object or beyond it): C01 statement -/
theorem stpcpy_s_frame_all (cfg : Cfg) (dest dmax src : Nat) (destbos srcbos : Bos) (st : St) (hs : Setting st)
    (hrw : dest ≠ 0 → RW st dest dmax) :
    ∃ r st', exec (stpcpy_s cfg dest dmax src destbos srcbos) st = .ok (r, st') ∧ Holds st st' :=
  C04Ext.holds_of_frame hs (stpcpy_s_ext cfg dest dmax src destbos srcbos st hs.all hrw)

theorem stpncpy_s_frame_all (cfg : Cfg) (dest dmax src slen : Nat) (destbos srcbos : Bos) (st : St) (hs : Setting st)
    (hrw : dest ≠ 0 → RW st dest dmax) (hsb : ∀ sb, srcbos = some sb → slen ≤ sb) :
    ∃ r st', exec (stpncpy_s cfg dest dmax src slen destbos srcbos) st = .ok (r, st') ∧ Holds st st' :=
  C04Ext.holds_of_frame hs (stpncpy_s_ext cfg dest dmax src slen destbos srcbos st hs.all hrw hsb)

/-- an object of 3 writable cells at 100 holding `a`, NUL, `b` (the string "a" with stale data behind it); every cell mapped -/
def oSt : St :=
  { data := fun a => if a = 100 then 97 else if a = 102 then 98 else 0
    mapped := fun _ => true, rd := fun _ => true
    wr := fun a => decide (100 ≤ a ∧ a < 103) }

/-- the hypotheses are satisfiable (`strcpy_s(d, 8, src)` with `BOS(d) = 3`) -/
example : Setting oSt ∧ (100 : Nat) ≠ 0 ∧ 0 < 3 ∧ 3 < 8 ∧ RW oSt 100 3 := by
  refine ⟨⟨fun _ => ⟨rfl, rfl⟩, rfl⟩, by decide, by decide, by decide, fun i hi => ⟨rfl, ?_, rfl⟩⟩
  simp [oSt]; omega

/-- … and there the null-slack build clears the old STRING only: `strcpy_s(d, 8, src)`, `BOS(d) = 3`, d = "a\0b":
EOVERFLOW, `d[0] = 0`, the stale 'b' at `d[2]` stays (kernel-evaluated instance of `BosOver` with `len = 1`) -/
theorem strcpy_s_C04_bos_witness :
    ∃ st', exec (strcpy_s { slack := true } 100 8 200 (some 3)) oSt = .ok (EOVERFLOW, st') ∧
      st'.data 100 = 0 ∧ st'.data 102 = 98 := by
  refine ⟨_, rfl, ?_⟩
  simp [oSt, St.upd, St.noteWr, St.noteRd]

end SafeC.Props.C04Ext2
