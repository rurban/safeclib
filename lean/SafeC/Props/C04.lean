import SafeC.Props.C01
import SafeC.Proofs.ExtNarrow
/-!
# C04 — a failed call leaves no partial result in dest

For strcpy_s / wcscpy_s (object size unknown), every way of failing after the entry checks
(source null, overlap reached, no space), every prior dest content:
* `dest[0] = 0`;
* with null-slack all `dmax` cells are zero;
* a cell outside `dest[0..dmax)` — in particular a source that does not overlap dest — is unchanged.
Without null-slack the cells behind `dest[0]` keep what was copied (`noslack-partial` known finding):
the FULL statement "no element holds anything the failed call wrote" is not provable in that
configuration, so the slack = false case carries only the first and third conjunct.
-/
namespace SafeC.Props.C04
open SafeC Gen SafeC.Props.C01

theorem strcpyG_C04 (max : Nat) (cfg : Cfg) (dest dmax src : Nat) (st : St) (hs : Setting st)
    (hrw : dest ≠ 0 → RW st dest dmax) (hd : dest ≠ 0) (hpos : 0 < dmax) (hle : dmax ≤ max)
    (hne : dest ≠ src) :
    ∃ code st', exec (strcpyG max cfg dest dmax src none) st = .ok (code, st') ∧
      (code ≠ EOK →
        st'.data dest = 0 ∧
        (cfg.slack = true → ∀ i, i < dmax → st'.data (dest + i) = 0) ∧
        (∀ a, ¬ (dest ≤ a ∧ a < dest + dmax) → st'.data a = st.data a)) := by
  obtain ⟨code, st', he, hf, hq⟩ := strcpyG_ext max cfg dest dmax src none st hs.all hrw (fun h => absurd rfl h)
  obtain ⟨h, hcs⟩ := (hq ⟨hd, hpos, hle, nofun⟩).1 hne
  -- with `dest ≠ src` on a usable dest every failing code is one of the three that clear the whole extent
  refine ⟨code, st', he, fun hc => ⟨h.1.fail_first hc, h.1.fail_clear ?_, hf.frame⟩⟩
  rcases hcs with h | h | h | h
  · exact absurd h hc
  · exact .inr (.inl h)
  · exact .inl h
  · exact .inr (.inr (.inr h))

theorem strcpy_s_C04 (cfg : Cfg) (dest dmax src : Nat) (st : St) (hs : Setting st)
    (hrw : dest ≠ 0 → RW st dest dmax) (hd : dest ≠ 0) (hpos : 0 < dmax) (hle : dmax ≤ RSIZE_MAX_STR)
    (hne : dest ≠ src) :
    ∃ code st', exec (strcpy_s cfg dest dmax src none) st = .ok (code, st') ∧
      (code ≠ EOK →
        st'.data dest = 0 ∧
        (cfg.slack = true → ∀ i, i < dmax → st'.data (dest + i) = 0) ∧
        (∀ a, ¬ (dest ≤ a ∧ a < dest + dmax) → st'.data a = st.data a)) :=
  strcpyG_C04 _ cfg dest dmax src st hs hrw hd hpos hle hne

theorem wcscpy_s_C04 (cfg : Cfg) (dest dmax src : Nat) (st : St) (hs : Setting st)
    (hrw : dest ≠ 0 → RW st dest dmax) (hd : dest ≠ 0) (hpos : 0 < dmax) (hle : dmax ≤ RSIZE_MAX_WSTR)
    (hne : dest ≠ src) :
    ∃ code st', exec (wcscpy_s cfg dest dmax src none) st = .ok (code, st') ∧
      (code ≠ EOK →
        st'.data dest = 0 ∧
        (cfg.slack = true → ∀ i, i < dmax → st'.data (dest + i) = 0) ∧
        (∀ a, ¬ (dest ≤ a ∧ a < dest + dmax) → st'.data a = st.data a)) := by
  rw [wcscpy_eq]; exact strcpyG_C04 _ cfg dest dmax src st hs hrw hd hpos hle hne

/-- strncpy_s / strcat_s / strncat_s: every failing exit on a usable dest -/
theorem strncpy_s_C04 (cfg : Cfg) (dest dmax src slen : Nat) (st : St) (hs : Setting st)
    (hrw : dest ≠ 0 → RW st dest dmax) (hd : dest ≠ 0) (hpos : 0 < dmax) (hle : dmax ≤ RSIZE_MAX_STR) :
    ∃ code st', exec (strncpy_s cfg dest dmax src slen none none) st = .ok (code, st') ∧
      (code ≠ EOK → st'.data dest = 0) ∧
      (code = ESNOSPC ∨ code = ESOVRLP ∨ code = ESUNTERM → cfg.slack = true → ∀ i, i < dmax → st'.data (dest + i) = 0) ∧
      (∀ a, ¬ (dest ≤ a ∧ a < dest + dmax) → st'.data a = st.data a) := by
  obtain ⟨code, st', he, hf, hq⟩ := strncpy_s_ext cfg dest dmax src slen none none st hs.all hrw nofun
  have h := (hq ⟨hd, hpos, hle, nofun⟩).1
  exact ⟨code, st', he, h.fail_first, fun hc => h.fail_clear (hc.imp_right (·.imp_right .inl)), hf.frame⟩

theorem strcat_s_C04 (cfg : Cfg) (dest dmax src : Nat) (st : St) (hs : Setting st)
    (hrw : dest ≠ 0 → RW st dest dmax) (hd : dest ≠ 0) (hpos : 0 < dmax) (hle : dmax ≤ RSIZE_MAX_STR) :
    ∃ code st', exec (strcat_s cfg dest dmax src none) st = .ok (code, st') ∧
      (code ≠ EOK → st'.data dest = 0) ∧
      (code = ESNOSPC ∨ code = ESOVRLP ∨ code = ESUNTERM → cfg.slack = true → ∀ i, i < dmax → st'.data (dest + i) = 0) ∧
      (∀ a, ¬ (dest ≤ a ∧ a < dest + dmax) → st'.data a = st.data a) := by
  obtain ⟨code, st', he, hf, hq⟩ := strcat_s_ext cfg dest dmax src none st hs.all hrw
  have h := (hq ⟨hd, hpos, hle, nofun⟩).1
  exact ⟨code, st', he, h.fail_first, fun hc => h.fail_clear (hc.imp_right (·.imp_right .inl)), hf.frame⟩

theorem strncat_s_C04 (cfg : Cfg) (dest dmax src slen : Nat) (st : St) (hs : Setting st)
    (hrw : dest ≠ 0 → RW st dest dmax) (hd : dest ≠ 0) (hpos : 0 < dmax) (hle : dmax ≤ RSIZE_MAX_STR)
    (hslen : slen ≠ 0) :
    ∃ code st', exec (strncat_s cfg dest dmax src slen none none) st = .ok (code, st') ∧
      (code ≠ EOK → st'.data dest = 0) ∧
      (code = ESNOSPC ∨ code = ESOVRLP ∨ code = ESUNTERM → cfg.slack = true → ∀ i, i < dmax → st'.data (dest + i) = 0) ∧
      (∀ a, ¬ (dest ≤ a ∧ a < dest + dmax) → st'.data a = st.data a) := by
  have _ := hslen  -- not needed: the `slen == 0` exit clears dest as well
  obtain ⟨code, st', he, hf, hq⟩ := strncat_s_ext cfg dest dmax src slen none none st hs.all hrw nofun
  have h := (hq ⟨hd, hpos, hle, nofun⟩).1
  exact ⟨code, st', he, h.fail_first, fun hc => h.fail_clear (hc.imp_right (·.imp_right .inl)), hf.frame⟩

end SafeC.Props.C04
