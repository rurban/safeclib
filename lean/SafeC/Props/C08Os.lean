import SafeC.Proofs.OsGets
/-!
# C08 for `gets_s`: after success nothing stale remains behind the terminator, and in front of it is exactly the line

(getenv_s / strerror_s: `Props/C08Ext.lean`.)  Setting of `Props/C03Os.lean`.  The stream is the list
`streamOf st inp len` of the bytes at `inp[0..len)`; `lineOf` = the bytes in front of the first newline (all of them when
there is none); `lineStr` = `lineOf` cut at the first NUL (what a C string can show of it).

* `gets_s_C08`: EVERY stream — whenever the call returns EOK, `dest` holds `lineStr`, its terminator, and with null-slack
  zeros from the terminator up to `dmax` (so no earlier content of dest and no byte `fgets` stored behind a NUL or the newline
  itself remains visible);
* `gets_s_C08_line`: a non-empty stream whose line has at most `dmax - 1` bytes and no NUL: the call DOES return EOK, silently,
  and the cells in front of the terminator are exactly the line.
-/
namespace SafeC.Props.C08Os
open SafeC Gen

/-- gets_s, the successful exit, EVERY stream: `n` = length of the line up to its first NUL; `dest[0..n)` are those bytes
(none of them zero), `dest[n] = 0`, `n < dmax`, and with null-slack every cell from the terminator up to `dmax` is zero.
Nothing outside dest changes, nothing is reported. -/
theorem gets_s_C08 (cfg : Cfg) (dest dmax : Nat) (destbos : Bos) (inp len : Nat) (st : St)
    (hd : dest ≠ 0) (hpos : 0 < dmax) (hnone : destbos = none → dmax ≤ RSIZE_MAX_STR)
    (hbos : ∀ b, destbos = some b → dmax ≤ b) (hrw : RW st dest dmax)
    (hrd : ∀ j, j < len → st.mapped (inp+j) = true ∧ st.rd (inp+j) = true)
    (hdisj : dest + dmax ≤ inp ∨ inp + len ≤ dest) :
    ∃ r st', exec (gets_s cfg dest dmax destbos inp len) st = .ok (r, st') ∧
      (∀ a, ¬ (dest ≤ a ∧ a < dest + dmax) → st'.data a = st.data a) ∧ st'.strays = st.strays ∧
      (r = EOK →
        let line := lineStr (streamOf st inp len)
        line.length < dmax ∧ st'.events = st.events ∧
        (∀ j, j < line.length → st'.data (dest+j) = line.getD j 0 ∧ st'.data (dest+j) ≠ 0) ∧
        st'.data (dest + line.length) = 0 ∧
        (cfg.slack = true → ∀ i, line.length ≤ i → i < dmax → st'.data (dest+i) = 0)) := by
  obtain ⟨h1, h2, h3, h4⟩ := lineStr_spec st inp len
  obtain ⟨r, st', he, hfr, hp⟩ := gets_s_runs cfg dest dmax destbos inp len _ st hd hpos hnone hbos hrw hrd hdisj h1 h2 h3
  refine ⟨r, st', he, hfr.frame, hfr.strays, fun hr => ?_⟩
  rcases hp with ⟨hc, hr', _⟩ | ⟨_, _, hf, _, hev, hcp, hz, hsl⟩ | ⟨_, _, _, hr', _⟩
  · exfalso
    rw [hr] at hr'
    split at hr' <;> exact absurd hr' (by decide)
  · refine ⟨by rcases hf with h | ⟨h, _⟩ <;> omega, hev, fun j hj => ⟨?_, ?_⟩, hz, hsl⟩
    · rw [hcp j hj, h4 j hj]
    · rw [hcp j hj]; exact (h1 j hj).2
  · rw [hr] at hr'; exact absurd hr' (by decide)

/-- gets_s on a non-empty stream (not the read-error stream) whose line — the bytes up to the first newline or the end — has
at most `dmax - 1` bytes and contains no NUL: returns EOK, reports nothing, the cells in front of the terminator are EXACTLY
the line, and with null-slack every cell from the terminator up to `dmax` is zero. -/
theorem gets_s_C08_line (cfg : Cfg) (dest dmax : Nat) (destbos : Bos) (inp len : Nat) (st : St)
    (hd : dest ≠ 0) (hpos : 0 < dmax) (hnone : destbos = none → dmax ≤ RSIZE_MAX_STR)
    (hbos : ∀ b, destbos = some b → dmax ≤ b) (hrw : RW st dest dmax)
    (hrd : ∀ j, j < len → st.mapped (inp+j) = true ∧ st.rd (inp+j) = true)
    (hdisj : dest + dmax ≤ inp ∨ inp + len ≤ dest)
    (hinp : inp ≠ 0) (hlen : len ≠ 0)
    (hfit : (lineOf (streamOf st inp len)).length < dmax) (hnul : 0 ∉ lineOf (streamOf st inp len)) :
    ∃ st', exec (gets_s cfg dest dmax destbos inp len) st = .ok (EOK, st') ∧
      st'.events = st.events ∧ st'.strays = st.strays ∧
      (∀ a, ¬ (dest ≤ a ∧ a < dest + dmax) → st'.data a = st.data a) ∧
      (let line := lineOf (streamOf st inp len)
       (∀ j, j < line.length → st'.data (dest+j) = line.getD j 0) ∧ st'.data (dest + line.length) = 0 ∧
       (cfg.slack = true → ∀ i, line.length ≤ i → i < dmax → st'.data (dest+i) = 0)) := by
  have hEq := lineStr_eq_lineOf _ hnul
  obtain ⟨h1, h2, h3, h4⟩ := lineStr_spec st inp len
  rw [hEq] at h1 h2 h3 h4
  -- behind a line without NUL comes a newline or the end of the stream
  have hend : (lineOf (streamOf st inp len)).length < len → st.data (inp + (lineOf (streamOf st inp len)).length) = 10 := by
    intro hl
    obtain ⟨_, _, q3⟩ := takeWhile_spec (fun c => decide (c ≠ 10)) (streamOf st inp len)
    rw [streamOf_length] at q3
    have hl' : (List.takeWhile (fun c => decide (c ≠ 10)) (streamOf st inp len)).length < len := hl
    have := q3 hl'
    rw [streamOf_getD st inp len _ hl'] at this
    simpa [lineOf] using this
  obtain ⟨r, st', he, hfr, hp⟩ := gets_s_runs cfg dest dmax destbos inp len _ st hd hpos hnone hbos hrw hrd hdisj h1 h2 h3
  rcases hp with ⟨hc, _⟩ | ⟨_, _, _, hr, hev, hcp, hz, hsl⟩ | ⟨_, _, hnf, _⟩
  · rcases hc with hc | hc
    · exact absurd hc hlen
    · exact absurd hc.1 hinp
  · subst hr
    exact ⟨st', he, hev, hfr.strays, hfr.frame, fun j hj => by rw [hcp j hj, h4 j hj], hz, hsl⟩
  · exfalso
    apply hnf
    by_cases h : (lineOf (streamOf st inp len)).length + 1 < dmax
    · exact Or.inl h
    · refine Or.inr ⟨by omega, ?_⟩
      by_cases hl : (lineOf (streamOf st inp len)).length < len
      · exact Or.inr (hend hl)
      · exact Or.inl (by omega)

/-- non-vacuity: dest = 100 (8 cells holding 7), the stream "ab\ncd" at 200: its line "ab" has 2 < 8 bytes and no NUL -/
example : (100 : Nat) ≠ 0 ∧ 0 < 8 ∧ 8 ≤ RSIZE_MAX_STR ∧ RW getsExSt 100 8 ∧
    (∀ j, j < 5 → getsExSt.mapped (200+j) = true ∧ getsExSt.rd (200+j) = true) ∧ (100 + 8 ≤ 200 ∨ 200 + 5 ≤ 100) ∧
    (200 : Nat) ≠ 0 ∧ (5 : Nat) ≠ 0 ∧ (lineOf (streamOf getsExSt 200 5)).length < 8 ∧ 0 ∉ lineOf (streamOf getsExSt 200 5) :=
  ⟨by decide, by decide, by decide, getsExSt_rw, getsExSt_rd, Or.inl (by decide), by decide, by decide,
   by rw [getsExSt_line]; decide, by rw [getsExSt_line]; decide⟩

end SafeC.Props.C08Os
