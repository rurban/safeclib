import SafeC.Proofs.AccQueryEntry
import SafeC.Proofs.AccStrstr
import SafeC.Props.C02
/-!
# C02 for the string searches and comparisons of `Models/Query.lean`

`strcmp_s strcasecmp_s strcmpfld_s strstr_s strcasestr_s strchr_s strpbrk_s strspn_s strcspn_s strprefix_s`.

Setting: ONLY what the hypotheses name is mapped and readable.  `Runs p st`: the call returns (no fault:
nothing unmapped was touched) and records no stray access.  All arguments, all contents, object sizes
known or unknown, null pointers included (a null pointer needs nothing mapped).

For nearly all of these functions the statement of C02 —
```
theorem f_C02 (hd : dest ≠ 0 → RD st dest dmax) (hs : src ≠ 0 → StrRd st src slen) : Runs (f dest dmax src slen …) st
```
— is FALSE of the code: the loops are written `while (*dest && dmax)`, which evaluates `*dest` before the
counter (known finding `read-before-bound`), the set/needle scans read `src[slen]` (`read-src-past-slen`),
`strchr_s`/`strstr_s` call unbounded libc scans.  For each function there is

* `f_C02_tight_partial`: the exact extent the proof needs — `StrRd st dest (dmax+1)`: the STRING at dest, up to
  and including its terminator, cut at `dmax + 1` cells: at most the ONE cell behind the declared ones, and that
  one only when no terminator precedes it;
* `f_C02_partial`: the statement of C02 itself under the hypothesis that makes it true (a terminator inside the
  declared extent);
* one `_witness` per defect class: a run that faults on the undeclared cell.

`strprefix_s` satisfies the full statement.
-/
namespace SafeC.Props.C02
open SafeC

/-- **strcmp_s** reads the two strings up to their terminators, at most `dmax + 1` cells of each -/
theorem strcmp_s_C02_tight_partial (dest dmax src : Nat) (db sb : Bos) (st : St)
    (hd : dest ≠ 0 → StrRd st dest (dmax+1)) (hs : src ≠ 0 → StrRd st src (dmax+1)) :
    Runs (strcmp_s dest dmax src db sb) st :=
  runs_of_AccD (strcmp_s_acc dest dmax src db sb hd hs)

/-- **strcmp_s**, C02 for a dest that is terminated inside `dmax` (`src`: a string, declared to its terminator) -/
theorem strcmp_s_C02_partial (dest dmax src : Nat) (db sb : Bos) (st : St)
    (hd : dest ≠ 0 → RD st dest dmax) (ht : dest ≠ 0 → Term st dest dmax) (hs : src ≠ 0 → ∀ n, StrRd st src n) :
    Runs (strcmp_s dest dmax src db sb) st :=
  strcmp_s_C02_tight_partial dest dmax src db sb st (StrRd.of_RD_term.guard hd ht) (fun h => hs h _)

/-- **strcasecmp_s** -/
theorem strcasecmp_s_C02_tight_partial (dest dmax src : Nat) (db : Bos) (st : St)
    (hd : dest ≠ 0 → StrRd st dest (dmax+1)) (hs : src ≠ 0 → StrRd st src (dmax+1)) :
    Runs (strcasecmp_s dest dmax src db) st :=
  runs_of_AccD (strcasecmp_s_acc dest dmax src db hd hs)

theorem strcasecmp_s_C02_partial (dest dmax src : Nat) (db : Bos) (st : St)
    (hd : dest ≠ 0 → RD st dest dmax) (ht : dest ≠ 0 → Term st dest dmax) (hs : src ≠ 0 → ∀ n, StrRd st src n) :
    Runs (strcasecmp_s dest dmax src db) st :=
  strcasecmp_s_C02_tight_partial dest dmax src db st (StrRd.of_RD_term.guard hd ht) (fun h => hs h _)

/-- **strcmpfld_s**: cell `i ≤ dmax` of either field is read only when the `i` cells before it are pairwise equal —
`i = dmax`, the cell BEHIND each field, included (`*resultp = *dest - *src` after the loop) -/
theorem strcmpfld_s_C02_tight_partial (dest dmax src : Nat) (db : Bos) (st : St)
    (h : dest ≠ 0 → src ≠ 0 → ∀ i, i ≤ dmax → (∀ j, j < i → st.data (dest+j) = st.data (src+j)) →
      Rd st (dest+i) ∧ Rd st (src+i)) :
    Runs (strcmpfld_s dest dmax src db) st :=
  runs_of_AccD (strcmpfld_s_acc dest dmax src db h)

/-- **strcmpfld_s**, C02 (both fields declared for `dmax` cells) when the fields differ -/
theorem strcmpfld_s_C02_partial (dest dmax src : Nat) (db : Bos) (st : St)
    (hd : dest ≠ 0 → RD st dest dmax) (hs : src ≠ 0 → RD st src dmax)
    (hdiff : ∃ i, i < dmax ∧ st.data (dest+i) ≠ st.data (src+i)) :
    Runs (strcmpfld_s dest dmax src db) st := by
  refine strcmpfld_s_C02_tight_partial dest dmax src db st (fun h1 h2 i hi hpre => ?_)
  obtain ⟨k, hk, hne⟩ := hdiff
  have : i < dmax := by
    apply Classical.byContradiction
    intro hn
    exact hne (hpre k (by omega))
  exact ⟨hd h1 i this, hs h2 i this⟩

/-- **strstr_s**: dest to its terminator within `dmax + 1` cells, the needle within `slen + 1` cells; with
`slen > dmax` two unbounded `strlen` calls read BOTH strings to their terminators whatever the bounds say -/
theorem strstr_s_C02_tight_partial (dest dmax src slen : Nat) (db sb : Bos) (st : St)
    (hd : dest ≠ 0 → StrRd st dest (dmax+1)) (hs : src ≠ 0 → StrRd st src (slen+1))
    (hlong : dest ≠ 0 → src ≠ 0 → slen > dmax → StrRd st dest scanFuel ∧ StrRd st src scanFuel) :
    Runs (strstr_s dest dmax src slen db sb) st :=
  runs_of_AccD (strstr_s_acc dest dmax src slen db sb hd hs hlong)

/-- **strstr_s**, C02 when both strings are terminated inside their declared extents -/
theorem strstr_s_C02_partial (dest dmax src slen : Nat) (db sb : Bos) (st : St)
    (hd : dest ≠ 0 → RD st dest dmax) (ht : dest ≠ 0 → Term st dest dmax)
    (hs : src ≠ 0 → StrRd st src slen) (hts : src ≠ 0 → Term st src slen) :
    Runs (strstr_s dest dmax src slen db sb) st :=
  strstr_s_C02_tight_partial dest dmax src slen db sb st (StrRd.of_RD_term.guard hd ht)
    (fun h => StrRd.of_term (hs h) (hts h) _)
    (fun h1 h2 _ => ⟨StrRd.of_RD_term (hd h1) (ht h1) _, StrRd.of_term (hs h2) (hts h2) _⟩)

/-- **strcasestr_s** (`slen > dmax` is rejected before anything is read) -/
theorem strcasestr_s_C02_tight_partial (dest dmax src slen : Nat) (db sb : Bos) (st : St)
    (hd : dest ≠ 0 → StrRd st dest (dmax+1)) (hs : src ≠ 0 → StrRd st src (slen+1)) :
    Runs (strcasestr_s dest dmax src slen db sb) st :=
  runs_of_AccD (strcasestr_s_acc dest dmax src slen db sb hd hs)

theorem strcasestr_s_C02_partial (dest dmax src slen : Nat) (db sb : Bos) (st : St)
    (hd : dest ≠ 0 → RD st dest dmax) (ht : dest ≠ 0 → Term st dest dmax)
    (hs : src ≠ 0 → StrRd st src slen) (hts : src ≠ 0 → Term st src slen) :
    Runs (strcasestr_s dest dmax src slen db sb) st :=
  strcasestr_s_C02_tight_partial dest dmax src slen db sb st (StrRd.of_RD_term.guard hd ht)
    (fun h => StrRd.of_term (hs h) (hts h) _)

/-- **strchr_s**: `strchr` reads the string to its terminator (or the hit) — `dmax` does not bound the scan -/
theorem strchr_s_C02_tight_partial (dest dmax : Nat) (ch : Int) (db : Bos) (st : St)
    (hd : dest ≠ 0 → StrRd st dest scanFuel) :
    Runs (strchr_s dest dmax ch db) st :=
  runs_of_AccD (strchr_s_acc dest dmax ch db hd)

theorem strchr_s_C02_partial (dest dmax : Nat) (ch : Int) (db : Bos) (st : St)
    (hd : dest ≠ 0 → RD st dest dmax) (ht : dest ≠ 0 → Term st dest dmax) :
    Runs (strchr_s dest dmax ch db) st :=
  strchr_s_C02_tight_partial dest dmax ch db st (StrRd.of_RD_term.guard hd ht)

/-- **strpbrk_s** (object size of `src` unknown or not exceeded: the other exit clears dest, see C10) -/
theorem strpbrk_s_C02_tight_partial (cfg : Cfg) (dest dmax src slen : Nat) (db sb : Bos) (st : St)
    (hsb : ∀ b, sb = some b → slen ≤ b)
    (hd : dest ≠ 0 → StrRd st dest (dmax+1)) (hs : src ≠ 0 → StrRd st src (slen+1)) :
    Runs (strpbrk_s cfg dest dmax src slen db sb) st :=
  runs_of_AccD (strpbrk_s_acc cfg dest dmax src slen db sb hsb hd hs)

theorem strpbrk_s_C02_partial (cfg : Cfg) (dest dmax src slen : Nat) (db sb : Bos) (st : St)
    (hsb : ∀ b, sb = some b → slen ≤ b)
    (hd : dest ≠ 0 → RD st dest dmax) (ht : dest ≠ 0 → Term st dest dmax)
    (hs : src ≠ 0 → StrRd st src slen) (hts : src ≠ 0 → Term st src slen) :
    Runs (strpbrk_s cfg dest dmax src slen db sb) st :=
  strpbrk_s_C02_tight_partial cfg dest dmax src slen db sb st hsb (StrRd.of_RD_term.guard hd ht)
    (fun h => StrRd.of_term (hs h) (hts h) _)

/-- **strspn_s** -/
theorem strspn_s_C02_tight_partial (dest dmax src slen : Nat) (db sb : Bos) (st : St)
    (hd : dest ≠ 0 → StrRd st dest (dmax+1)) (hs : src ≠ 0 → StrRd st src (slen+1)) :
    Runs (strspn_s dest dmax src slen db sb) st :=
  runs_of_AccD (strspn_s_acc dest dmax src slen db sb hd hs)

theorem strspn_s_C02_partial (dest dmax src slen : Nat) (db sb : Bos) (st : St)
    (hd : dest ≠ 0 → RD st dest dmax) (ht : dest ≠ 0 → Term st dest dmax)
    (hs : src ≠ 0 → StrRd st src slen) (hts : src ≠ 0 → Term st src slen) :
    Runs (strspn_s dest dmax src slen db sb) st :=
  strspn_s_C02_tight_partial dest dmax src slen db sb st (StrRd.of_RD_term.guard hd ht)
    (fun h => StrRd.of_term (hs h) (hts h) _)

/-- **strcspn_s** -/
theorem strcspn_s_C02_tight_partial (dest dmax src slen : Nat) (db sb : Bos) (st : St)
    (hd : dest ≠ 0 → StrRd st dest (dmax+1)) (hs : src ≠ 0 → StrRd st src (slen+1)) :
    Runs (strcspn_s dest dmax src slen db sb) st :=
  runs_of_AccD (strcspn_s_acc dest dmax src slen db sb hd hs)

theorem strcspn_s_C02_partial (dest dmax src slen : Nat) (db sb : Bos) (st : St)
    (hd : dest ≠ 0 → RD st dest dmax) (ht : dest ≠ 0 → Term st dest dmax)
    (hs : src ≠ 0 → StrRd st src slen) (hts : src ≠ 0 → Term st src slen) :
    Runs (strcspn_s dest dmax src slen db sb) st :=
  strcspn_s_C02_tight_partial dest dmax src slen db sb st (StrRd.of_RD_term.guard hd ht)
    (fun h => StrRd.of_term (hs h) (hts h) _)

/-- **strprefix_s** (FULL): the loop is `while (*src && dmax)` and dereferences dest after the counter: dest is
read inside its `dmax` cells (and inside its string), `src` — a string without a length argument — up to its
terminator within `dmax + 1` cells.  All arguments, all contents. -/
theorem strprefix_s_C02 (dest dmax src : Nat) (db : Bos) (st : St)
    (hd : dest ≠ 0 → StrRd st dest dmax) (hs : src ≠ 0 → StrRd st src (dmax+1)) :
    Runs (strprefix_s dest dmax src db) st :=
  runs_of_AccD (strprefix_s_acc dest dmax src db hd hs)

/-- in the vocabulary of the other theorems: all `dmax` cells of dest declared, the string `src` declared -/
theorem strprefix_s_C02' (dest dmax src : Nat) (db : Bos) (st : St)
    (hd : dest ≠ 0 → RD st dest dmax) (hs : src ≠ 0 → ∀ n, StrRd st src n) :
    Runs (strprefix_s dest dmax src db) st :=
  strprefix_s_C02 dest dmax src db st (fun h => StrRd.of_RD (hd h) (Nat.le_refl _)) (fun h => hs h _)

/-- class `read-before-bound` (`while (*dest && *src && dmax)`): dest = {'a','b'} exactly fills its 2 declared
cells, src = "ab": the loop header evaluates `dest[2]` — the first unmapped cell — before it sees `dmax == 0` -/
theorem read_before_bound_witness :
    exec (strcmp_s 100 2 200 none none)
      (win (fun a => if a = 100 ∨ a = 200 then 97 else if a = 101 ∨ a = 201 then 98 else 0) 100 102 200 203) =
      .error (.read 102) := faultOf_ok (by decide)

/-- class `read-src-past-slen` (`while (*scan2 && smax)` of strspn_s): the set {'x','y'} exactly fills its
`slen = 2` cells; dest = "a" is terminated and declared: the inner loop evaluates `src[2]` -/
theorem read_src_past_slen_witness :
    exec (strspn_s 100 2 200 2 none none)
      (win (fun a => if a = 100 then 97 else if a = 200 then 120 else if a = 201 then 121 else 0) 100 102 200 202) =
      .error (.read 202) := faultOf_ok (by decide)

/-- class `unbounded-libc-scan` (`strchr` in strchr_s): `dmax = 1`, yet the scan walks over all three mapped
cells of the unterminated array and faults on the fourth — `dmax` is not looked at until `strchr` returns -/
theorem unbounded_scan_witness :
    exec (strchr_s 100 1 122 none)
      (win (fun a => if 100 ≤ a ∧ a < 103 then 97 else 0) 100 103 0 0) = .error (.read 103) := faultOf_ok (by decide)

/-- class `tail-read-behind-field` (`*resultp = *dest - *src` of strcmpfld_s after `dmax` equal cells) -/
theorem tail_read_witness :
    exec (strcmpfld_s 100 2 200 none)
      (win (fun a => if a = 100 ∨ a = 200 then 97 else if a = 101 ∨ a = 201 then 98 else 0) 100 102 200 202) =
      .error (.read 102) := faultOf_ok (by decide)

/-- dest = "ab\0" + 2 more declared cells at 100 (dmax = 5), src = "b\0" at 200: every hypothesis shape used above -/
def exSt1 : St := win (fun a => if a = 100 then 97 else if a = 101 ∨ a = 200 then 98 else 0) 100 105 200 202

example : RD exSt1 100 5 ∧ Term exSt1 100 5 ∧ (∀ n, StrRd exSt1 200 n) ∧ StrRd exSt1 200 2 ∧ Term exSt1 200 2 ∧
    StrRd exSt1 100 (5+1) ∧ exSt1.mapped 105 = false ∧ exSt1.mapped 202 = false := by
  have hrd : RD exSt1 100 5 := win_RD (by omega)
  have ht : Term exSt1 100 5 := ⟨2, by omega, by simp [exSt1, win]⟩
  have hs2 : RD exSt1 200 2 := win_RD (by omega)
  have hts : Term exSt1 200 2 := ⟨1, by omega, by simp [exSt1, win]⟩
  exact ⟨hrd, ht, fun n => StrRd.of_RD_term hs2 hts n, StrRd.of_RD hs2 (Nat.le_refl _), hts,
    StrRd.of_RD_term hrd ht _, by decide, by decide⟩

/-- an UNTERMINATED dest that exactly fills `dmax = 2` cells satisfies the tight hypothesis only with cell 102 mapped -/
example : ∃ st : St, StrRd st 100 (2+1) ∧ ¬ Term st 100 2 :=
  ⟨win (fun _ => 97) 100 103 0 0, StrRd.of_RD (win_RD (by omega)) (Nat.le_refl _),
   fun ⟨i, _, h⟩ => by simp [win] at h⟩

/-!
`strstr_s` with `slen > dmax`, sharpened: the two unbounded `strlen` calls read both strings to their terminators (the over-read, class
`unbounded-libc-scan`); past the early `ESNOTFND` return the needle is known to end within `dmax` cells, so the search reads
nothing more: the cuts `dmax + 1` / `slen + 1` are hypotheses for `slen ≤ dmax` only.
-/
/-- **strstr_s, sharpened**: for `slen > dmax` ONLY the two strings to their terminators (`scanFuel` cut of the model;
`hfuel`: the cut lies beyond `dmax` — automatic when the object size is unknown) -/
theorem strstr_s_C02_sharp_tight_partial (dest dmax src slen : Nat) (db sb : Bos) (st : St)
    (hfuel : ∀ b, db = some b → dmax < scanFuel)
    (hd : dest ≠ 0 → slen ≤ dmax → StrRd st dest (dmax+1)) (hs : src ≠ 0 → slen ≤ dmax → StrRd st src (slen+1))
    (hlong : dest ≠ 0 → src ≠ 0 → slen > dmax → StrRd st dest scanFuel ∧ StrRd st src scanFuel) :
    Runs (strstr_s dest dmax src slen db sb) st :=
  runs_of_AccD (strstr_s_acc_sharp dest dmax src slen db sb hfuel hd hs hlong)

/-- **strstr_s**, `slen > dmax`, object size unknown: both strings readable to their terminators is all that is needed —
whatever `dmax` and `slen` are -/
theorem strstr_s_C02_long_partial (dest dmax src slen : Nat) (sb : Bos) (st : St) (hl : slen > dmax)
    (hd : dest ≠ 0 → ∀ n, StrRd st dest n) (hs : src ≠ 0 → ∀ n, StrRd st src n) :
    Runs (strstr_s dest dmax src slen none sb) st :=
  strstr_s_C02_sharp_tight_partial dest dmax src slen none sb st (fun _ h => by cases h)
    (fun _ h => by omega) (fun _ h => by omega) (fun h1 h2 _ => ⟨hd h1 _, hs h2 _⟩)

/-- needle longer than `dmax` allows: `slen = 9 > dmax = 2`, both strings terminated, flush against unmapped memory -/
example : ∃ st : St, (∀ n, StrRd st 100 n) ∧ (∀ n, StrRd st 200 n) ∧ st.mapped 103 = false ∧ st.mapped 202 = false :=
  ⟨win (fun a => if a = 102 ∨ a = 201 then 0 else 7) 100 103 200 202,
   fun n => StrRd.of_RD_term (n := 3) (win_RD (by omega)) ⟨2, by omega, by simp [win]⟩ n,
   fun n => StrRd.of_RD_term (n := 2) (win_RD (by omega)) ⟨1, by omega, by simp [win]⟩ n,
   by decide, by decide⟩
end SafeC.Props.C02

