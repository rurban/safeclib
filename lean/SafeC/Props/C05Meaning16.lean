import SafeC.Props.C05Meaning
/-!
# C05 "meaning" for `memcpy16_s memcpy32_s memmove16_s memmove32_s` (object sizes unknown; `dmax` in bytes, `slen` in elements)

The byte size `slen * 2` / `slen * 4` is computed without an overflow check (known finding `mem-size-multiplication-wraps`):
`_partial` for element counts that do not wrap + `_witness` at the first one that does.
-/
namespace SafeC.Props.C05Meaning
open SafeC Gen Mem SafeC.Props.C05Mem

/-- src/extmem/memmove16_s.c: `@retval EOK when operation is successful or slen = 0`, `ESNULLP when dest/src is NULL POINTER`,
`ESZEROL when dmax = ZERO`, `ESLEMAX when dmax > RSIZE_MAX_MEM or slen > RSIZE_MAX_MEM16`, `ESNOSPC when 2*slen > dmax` -/
def memmove16Code (dest dmax src slen : Nat) : Nat :=
  if slen = 0 then EOK
  else if dest = 0 then ESNULLP
  else if dmax = 0 then ESZEROL
  else if dmax > RSIZE_MAX_MEM then ESLEMAX
  else if src = 0 then ESNULLP
  else if slen * 2 > dmax then (if slen > RSIZE_MAX_MEM16 then ESLEMAX else ESNOSPC)
  else EOK

/- FULL statement (no bound on `slen`), false of the code: `memmove16_s_meaning_witness` -/
theorem memmove16_s_code_partial (dest dmax src slen : Nat) (hs : slen < 2 ^ 63) :
    EV (memmove16_s dest dmax src slen none none) (Is .mem (memmove16Code dest dmax src slen)) := by
  have hsm : (slen * 2) % U64 = slen * 2 := Nat.mod_eq_of_lt (by unfold U64; omega)
  have h7 : slen * 2 > RSIZE_MAX_MEM ↔ slen > RSIZE_MAX_MEM16 := by
    have : RSIZE_MAX_MEM = 2 * RSIZE_MAX_MEM16 := by decide
    omega
  simp only [memmove16_s, memmove16Code, chkDmaxMemB, Option.getD_none, exceeds, Bool.false_eq_true, if_false, hsm, h7]
  exact is_ite is_eok (is_ite (is_failM _ ne_ESNULLP) (is_ite (is_failM _ ne_ESZEROL) (is_ite (is_failM _ ne_ESLEMAX)
    (is_ite (is_handleMemErrorB _ _ _ _ ne_ESNULLP) (is_ite (is_handleMemErrorB _ _ _ _ (ite_ne_EOK ne_ESLEMAX ne_ESNOSPC))
      (is_work_eok (q_mem_prim_move16 _ _ _)))))))

/-- memmove16_s, object sizes unknown, `slen < 2^63`: the code is `memmove16Code` of the arguments -/
theorem memmove16_s_meaning_partial (dest dmax src slen : Nat) (hs : slen < 2 ^ 63) (st : St) (r : Nat) (st' : St)
    (he : exec (memmove16_s dest dmax src slen none none) st = .ok (r, st')) :
    r = memmove16Code dest dmax src slen ∧
      ((r = EOK ∧ st'.events = st.events) ∨ (r ≠ EOK ∧ st'.events = st.events ++ [.handler .mem r])) :=
  Is.sound (memmove16_s_code_partial dest dmax src slen hs) st r st' he

/-- the excluded point: `slen = 2^63 + 1` wraps to 2 bytes: EOK without a report (doc comment: ESLEMAX) -/
theorem memmove16_s_meaning_witness :
    ((exec (memmove16_s 100 8 200 (2 ^ 63 + 1) none none)
      { data := fun _ => 7, mapped := fun _ => true, rd := fun _ => true, wr := fun _ => true }).toOption.map
        (fun x => (x.1, x.2.events))) = some (EOK, []) ∧ memmove16Code 100 8 200 (2 ^ 63 + 1) = ESLEMAX := by
  decide

theorem memmove16Code_eok_iff (dest dmax src slen : Nat) :
    memmove16Code dest dmax src slen = EOK ↔
      slen = 0 ∨ (dest ≠ 0 ∧ dmax ≠ 0 ∧ dmax ≤ RSIZE_MAX_MEM ∧ src ≠ 0 ∧ slen * 2 ≤ dmax
        ) := by
  unfold memmove16Code
  rw [ite_EOK_eq_EOK, ite_fail_eq_EOK ne_ESNULLP, ite_fail_eq_EOK ne_ESZEROL, ite_fail_eq_EOK ne_ESLEMAX, ite_fail_eq_EOK ne_ESNULLP, ite_fail_eq_EOK (ite_ne_EOK ne_ESLEMAX ne_ESNOSPC)]
  omega

/-- non-vacuity: a reporting run within the hypothesis -/
example : (5 : Nat) < 2 ^ 63 ∧ ((exec (memmove16_s 100 8 200 5 none none)
      { data := fun _ => 7, mapped := fun _ => true, rd := fun _ => true, wr := fun _ => true }).toOption.map
        (fun x => (x.1, x.2.events))) = some (memmove16Code 100 8 200 5, [.handler .mem ESNOSPC]) := by decide

/-- src/extmem/memmove32_s.c: `@retval EOK when operation is successful or slen = 0`, `ESNULLP when dest/src is NULL POINTER`,
`ESZEROL when dmax = ZERO`, `ESLEMAX when dmax > RSIZE_MAX_MEM or slen > RSIZE_MAX_MEM32`, `ESNOSPC when 4*slen > dmax` -/
def memmove32Code (dest dmax src slen : Nat) : Nat :=
  if slen = 0 then EOK
  else if dest = 0 then ESNULLP
  else if dmax = 0 then ESZEROL
  else if dmax > RSIZE_MAX_MEM then ESLEMAX
  else if src = 0 then ESNULLP
  else if slen * 4 > dmax then (if slen > RSIZE_MAX_MEM32 then ESLEMAX else ESNOSPC)
  else EOK

/- FULL statement (no bound on `slen`), false of the code: `memmove32_s_meaning_witness` -/
theorem memmove32_s_code_partial (dest dmax src slen : Nat) (hs : slen < 2 ^ 62) :
    EV (memmove32_s dest dmax src slen none none) (Is .mem (memmove32Code dest dmax src slen)) := by
  have hsm : (slen * 4) % U64 = slen * 4 := Nat.mod_eq_of_lt (by unfold U64; omega)
  have h7 : slen * 4 > RSIZE_MAX_MEM ↔ slen > RSIZE_MAX_MEM32 := by
    have : RSIZE_MAX_MEM = 4 * RSIZE_MAX_MEM32 := by decide
    omega
  simp only [memmove32_s, memmove32Code, chkDmaxMemB, Option.getD_none, exceeds, Bool.false_eq_true, if_false, hsm, h7]
  exact is_ite is_eok (is_ite (is_failM _ ne_ESNULLP) (is_ite (is_failM _ ne_ESZEROL) (is_ite (is_failM _ ne_ESLEMAX)
    (is_ite (is_handleMemErrorB _ _ _ _ ne_ESNULLP) (is_ite (is_handleMemErrorB _ _ _ _ (ite_ne_EOK ne_ESLEMAX ne_ESNOSPC))
      (is_work_eok (q_mem_prim_move32 _ _ _)))))))

/-- memmove32_s, object sizes unknown, `slen < 2^62`: the code is `memmove32Code` of the arguments -/
theorem memmove32_s_meaning_partial (dest dmax src slen : Nat) (hs : slen < 2 ^ 62) (st : St) (r : Nat) (st' : St)
    (he : exec (memmove32_s dest dmax src slen none none) st = .ok (r, st')) :
    r = memmove32Code dest dmax src slen ∧
      ((r = EOK ∧ st'.events = st.events) ∨ (r ≠ EOK ∧ st'.events = st.events ++ [.handler .mem r])) :=
  Is.sound (memmove32_s_code_partial dest dmax src slen hs) st r st' he

/-- the excluded point: `slen = 2^62 + 1` wraps to 4 bytes: EOK without a report (doc comment: ESLEMAX) -/
theorem memmove32_s_meaning_witness :
    ((exec (memmove32_s 100 8 200 (2 ^ 62 + 1) none none)
      { data := fun _ => 7, mapped := fun _ => true, rd := fun _ => true, wr := fun _ => true }).toOption.map
        (fun x => (x.1, x.2.events))) = some (EOK, []) ∧ memmove32Code 100 8 200 (2 ^ 62 + 1) = ESLEMAX := by
  decide

theorem memmove32Code_eok_iff (dest dmax src slen : Nat) :
    memmove32Code dest dmax src slen = EOK ↔
      slen = 0 ∨ (dest ≠ 0 ∧ dmax ≠ 0 ∧ dmax ≤ RSIZE_MAX_MEM ∧ src ≠ 0 ∧ slen * 4 ≤ dmax
        ) := by
  unfold memmove32Code
  rw [ite_EOK_eq_EOK, ite_fail_eq_EOK ne_ESNULLP, ite_fail_eq_EOK ne_ESZEROL, ite_fail_eq_EOK ne_ESLEMAX, ite_fail_eq_EOK ne_ESNULLP, ite_fail_eq_EOK (ite_ne_EOK ne_ESLEMAX ne_ESNOSPC)]
  omega

/-- non-vacuity: a reporting run within the hypothesis -/
example : (5 : Nat) < 2 ^ 62 ∧ ((exec (memmove32_s 100 8 200 5 none none)
      { data := fun _ => 7, mapped := fun _ => true, rd := fun _ => true, wr := fun _ => true }).toOption.map
        (fun x => (x.1, x.2.events))) = some (memmove32Code 100 8 200 5, [.handler .mem ESNOSPC]) := by decide

/-- src/extmem/memcpy16_s.c: `@retval EOK when operation is successful or slen = 0`, `ESNULLP when dest/src is NULL POINTER`,
`ESZEROL when dmax = ZERO`, `ESLEMAX when dmax > RSIZE_MAX_MEM or slen > RSIZE_MAX_MEM16`, `ESNOSPC when 2*slen > dmax`, `ESOVRLP when src memory overlaps dest` -/
def memcpy16Code (dest dmax src slen : Nat) : Nat :=
  if slen = 0 then EOK
  else if dest = 0 then ESNULLP
  else if dmax = 0 then ESZEROL
  else if dmax > RSIZE_MAX_MEM then ESLEMAX
  else if src = 0 then ESNULLP
  else if slen * 2 > dmax then (if slen > RSIZE_MAX_MEM16 then ESLEMAX else ESNOSPC)
  else if ovrlpButSame 2 dest (dmax / 2) src slen then ESOVRLP
  else EOK

/- FULL statement (no bound on `slen`), false of the code: `memcpy16_s_meaning_witness` -/
theorem memcpy16_s_code_partial (dest dmax src slen : Nat) (hs : slen < 2 ^ 63) :
    EV (memcpy16_s dest dmax src slen none none) (Is .mem (memcpy16Code dest dmax src slen)) := by
  have hsm : (slen * 2) % U64 = slen * 2 := Nat.mod_eq_of_lt (by unfold U64; omega)
  have h7 : slen * 2 > RSIZE_MAX_MEM ↔ slen > RSIZE_MAX_MEM16 := by
    have : RSIZE_MAX_MEM = 2 * RSIZE_MAX_MEM16 := by decide
    omega
  simp only [memcpy16_s, memcpy16Code, chkDmaxMemB, Option.getD_none, exceeds, Bool.false_eq_true, if_false, hsm, h7]
  refine is_ite is_eok (is_ite (is_failM _ ne_ESNULLP) (is_ite (is_failM _ ne_ESZEROL) (is_ite (is_failM _ ne_ESLEMAX)
    (is_ite (is_handleMemErrorB _ _ _ _ ne_ESNULLP) (is_ite (is_handleMemErrorB _ _ _ _ (ite_ne_EOK ne_ESLEMAX ne_ESNOSPC)) (is_ite ?_ ?_))))))
  · exact is_clear_report (q_mem_prim_set _ _ _ _) _ ne_ESOVRLP
  · exact is_work_eok (q_mem_prim_move16 _ _ _)

/-- memcpy16_s, object sizes unknown, `slen < 2^63`: the code is `memcpy16Code` of the arguments -/
theorem memcpy16_s_meaning_partial (dest dmax src slen : Nat) (hs : slen < 2 ^ 63) (st : St) (r : Nat) (st' : St)
    (he : exec (memcpy16_s dest dmax src slen none none) st = .ok (r, st')) :
    r = memcpy16Code dest dmax src slen ∧
      ((r = EOK ∧ st'.events = st.events) ∨ (r ≠ EOK ∧ st'.events = st.events ++ [.handler .mem r])) :=
  Is.sound (memcpy16_s_code_partial dest dmax src slen hs) st r st' he

/-- the excluded point: `slen = 2^63 + 1` wraps to 2 bytes: EOK without a report (doc comment: ESLEMAX) -/
theorem memcpy16_s_meaning_witness :
    ((exec (memcpy16_s 100 8 200 (2 ^ 63 + 1) none none)
      { data := fun _ => 7, mapped := fun _ => true, rd := fun _ => true, wr := fun _ => true }).toOption.map
        (fun x => (x.1, x.2.events))) = some (EOK, []) ∧ memcpy16Code 100 8 200 (2 ^ 63 + 1) = ESLEMAX := by
  decide

theorem memcpy16Code_eok_iff (dest dmax src slen : Nat) :
    memcpy16Code dest dmax src slen = EOK ↔
      slen = 0 ∨ (dest ≠ 0 ∧ dmax ≠ 0 ∧ dmax ≤ RSIZE_MAX_MEM ∧ src ≠ 0 ∧ slen * 2 ≤ dmax ∧
        ovrlpButSame 2 dest (dmax / 2) src slen = false) := by
  unfold memcpy16Code
  rw [ite_EOK_eq_EOK, ite_fail_eq_EOK ne_ESNULLP, ite_fail_eq_EOK ne_ESZEROL, ite_fail_eq_EOK ne_ESLEMAX, ite_fail_eq_EOK ne_ESNULLP, ite_fail_eq_EOK (ite_ne_EOK ne_ESLEMAX ne_ESNOSPC), ite_fail_eq_EOK ne_ESOVRLP]
  simp only [Nat.not_lt, gt_iff_lt, Bool.not_eq_true, and_true, ne_eq]

/-- non-vacuity: a reporting run within the hypothesis -/
example : (5 : Nat) < 2 ^ 63 ∧ ((exec (memcpy16_s 100 8 200 5 none none)
      { data := fun _ => 7, mapped := fun _ => true, rd := fun _ => true, wr := fun _ => true }).toOption.map
        (fun x => (x.1, x.2.events))) = some (memcpy16Code 100 8 200 5, [.handler .mem ESNOSPC]) := by decide

/-- src/extmem/memcpy32_s.c: `@retval EOK when operation is successful or slen = 0`, `ESNULLP when dest/src is NULL POINTER`,
`ESZEROL when dmax = ZERO`, `ESLEMAX when dmax > RSIZE_MAX_MEM or slen > RSIZE_MAX_MEM32`, `ESNOSPC when 4*slen > dmax`, `ESOVRLP when src memory overlaps dest` -/
def memcpy32Code (dest dmax src slen : Nat) : Nat :=
  if slen = 0 then EOK
  else if dest = 0 then ESNULLP
  else if dmax = 0 then ESZEROL
  else if dmax > RSIZE_MAX_MEM then ESLEMAX
  else if src = 0 then ESNULLP
  else if slen * 4 > dmax then (if slen > RSIZE_MAX_MEM32 then ESLEMAX else ESNOSPC)
  else if ovrlpButSame 4 dest (dmax / 4) src slen then ESOVRLP
  else EOK

/- FULL statement (no bound on `slen`), false of the code: `memcpy32_s_meaning_witness` -/
theorem memcpy32_s_code_partial (dest dmax src slen : Nat) (hs : slen < 2 ^ 62) :
    EV (memcpy32_s dest dmax src slen none none) (Is .mem (memcpy32Code dest dmax src slen)) := by
  have hsm : (slen * 4) % U64 = slen * 4 := Nat.mod_eq_of_lt (by unfold U64; omega)
  have h7 : slen * 4 > RSIZE_MAX_MEM ↔ slen > RSIZE_MAX_MEM32 := by
    have : RSIZE_MAX_MEM = 4 * RSIZE_MAX_MEM32 := by decide
    omega
  simp only [memcpy32_s, memcpy32Code, chkDmaxMemB, Option.getD_none, exceeds, Bool.false_eq_true, if_false, hsm, h7]
  refine is_ite is_eok (is_ite (is_failM _ ne_ESNULLP) (is_ite (is_failM _ ne_ESZEROL) (is_ite (is_failM _ ne_ESLEMAX)
    (is_ite (is_handleMemErrorB _ _ _ _ ne_ESNULLP) (is_ite (is_handleMemErrorB _ _ _ _ (ite_ne_EOK ne_ESLEMAX ne_ESNOSPC)) (is_ite ?_ ?_))))))
  · exact is_clear_report (q_mem_prim_set _ _ _ _) _ ne_ESOVRLP
  · exact is_work_eok (q_mem_prim_move32 _ _ _)

/-- memcpy32_s, object sizes unknown, `slen < 2^62`: the code is `memcpy32Code` of the arguments -/
theorem memcpy32_s_meaning_partial (dest dmax src slen : Nat) (hs : slen < 2 ^ 62) (st : St) (r : Nat) (st' : St)
    (he : exec (memcpy32_s dest dmax src slen none none) st = .ok (r, st')) :
    r = memcpy32Code dest dmax src slen ∧
      ((r = EOK ∧ st'.events = st.events) ∨ (r ≠ EOK ∧ st'.events = st.events ++ [.handler .mem r])) :=
  Is.sound (memcpy32_s_code_partial dest dmax src slen hs) st r st' he

/-- the excluded point: `slen = 2^62 + 1` wraps to 4 bytes: EOK without a report (doc comment: ESLEMAX) -/
theorem memcpy32_s_meaning_witness :
    ((exec (memcpy32_s 100 8 200 (2 ^ 62 + 1) none none)
      { data := fun _ => 7, mapped := fun _ => true, rd := fun _ => true, wr := fun _ => true }).toOption.map
        (fun x => (x.1, x.2.events))) = some (EOK, []) ∧ memcpy32Code 100 8 200 (2 ^ 62 + 1) = ESLEMAX := by
  decide

theorem memcpy32Code_eok_iff (dest dmax src slen : Nat) :
    memcpy32Code dest dmax src slen = EOK ↔
      slen = 0 ∨ (dest ≠ 0 ∧ dmax ≠ 0 ∧ dmax ≤ RSIZE_MAX_MEM ∧ src ≠ 0 ∧ slen * 4 ≤ dmax ∧
        ovrlpButSame 4 dest (dmax / 4) src slen = false) := by
  unfold memcpy32Code
  rw [ite_EOK_eq_EOK, ite_fail_eq_EOK ne_ESNULLP, ite_fail_eq_EOK ne_ESZEROL, ite_fail_eq_EOK ne_ESLEMAX, ite_fail_eq_EOK ne_ESNULLP, ite_fail_eq_EOK (ite_ne_EOK ne_ESLEMAX ne_ESNOSPC), ite_fail_eq_EOK ne_ESOVRLP]
  simp only [Nat.not_lt, gt_iff_lt, Bool.not_eq_true, and_true, ne_eq]

/-- non-vacuity: a reporting run within the hypothesis -/
example : (5 : Nat) < 2 ^ 62 ∧ ((exec (memcpy32_s 100 8 200 5 none none)
      { data := fun _ => 7, mapped := fun _ => true, rd := fun _ => true, wr := fun _ => true }).toOption.map
        (fun x => (x.1, x.2.events))) = some (memcpy32Code 100 8 200 5, [.handler .mem ESNOSPC]) := by decide

end SafeC.Props.C05Meaning
