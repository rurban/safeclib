import SafeC.Proofs.OsEv
import SafeC.Props.C05Docs
/-!
# C05 for `getenv_s` and `strerror_s` (`Models/Os.lean`)

Event level, ALL arguments, memory contents and placements (`getenv_s_ev`, `strerror_s_ev`): a returning call has
* reported nothing and returned EOK (getenv_s also: -1, the variable is not set), or
* reported exactly once, a code of the function's list, and returned that code, or
* returned EOK after a report: only possible when the entry checks passed and the INNER copy, whose result the C discards
  (`strcpy_s(dest, dmax, buf)` in getenv_s; `strcpy_s` resp. `strncpy_s` + `strcat_s` in strerror_s — two discarded calls, hence
  possibly TWO reports), failed.  `InnerG` (below) and `InnerS` (defined in `Proofs/EVQuery.lean`,
  beside `qChkS_in`) name exactly when that call is made.

`getenv_s_C05_partial` / `strerror_s_C05_partial`: with valid operands — the value / message (and the literal `"..."`) readable
strings that do not overlap dest, `dmax ≤ RSIZE_MAX_STR` — whenever the inner copy is reached, the third case does not occur
(exec-level theorems of `Proofs/ExtOs.lean`): the C05 discipline holds for every returning run.  The FULL statement (no
hypothesis on the operands) is false of the model: `getenv_s_C05_witness` / `strerror_s_C05_witness` (the value / message
overlaps dest: the inner copy reports ESOVRLP, EOK is returned).

`getenv_s_documented` / `strerror_s_documented`: every returned code is on the CURRENT `@retval` list of the doc comment.
-/
namespace SafeC.Props.C05Os
open SafeC Gen SafeC.Props.C05Query SafeC.Props.C05Docs

/-- the codes getenv_s reports itself -/
abbrev GS : List Nat := [ESNULLP, ESLEMAX, ESNOSPC]

/-- the inner `strcpy_s(dest, dmax, buf)` of getenv_s is reached: usable dest inside the limit / the object, a name, the
variable is set (and, not visible at the event level, its value is shorter than `dmax`) -/
def InnerG (dest dmax name : Nat) (destbos : Bos) (value : Nat) : Prop :=
  dest ≠ 0 ∧ dmax ≠ 0 ∧ name ≠ 0 ∧ value ≠ 0 ∧ (destbos = none → dmax ≤ RSIZE_MAX_STR) ∧ (∀ b, destbos = some b → dmax ≤ b)

/-- outcome of getenv_s -/
def GEPost (inner : Prop) : (Nat × Option Nat) → List Event → Prop := fun r es =>
  (es = [] ∧ (r.1 = EOK ∨ r.1 = NEG1)) ∨ (r.1 ≠ EOK ∧ r.1 ∈ GS ∧ es = [.handler .str r.1]) ∨
  (inner ∧ r.1 = EOK ∧ ∃ c, c ≠ EOK ∧ es = [.handler .str c])

theorem getenvRest_ev (cfg : Cfg) (hasLen : Bool) (dest dmax name : Nat) (destbos : Bos) (value : Nat)
    (h1 : dest ≠ 0 → destbos = none → dmax ≤ RSIZE_MAX_STR) (h2 : dest ≠ 0 → ∀ b, destbos = some b → dmax ≤ b) :
    EV (getenvRest cfg hasLen dest dmax name destbos value) (GEPost (InnerG dest dmax name destbos value)) :=
  .iteH (fun _ => .ite ((EV.handleError ..).bind fun _ _ he => he ▸ .pure _ (.inr (.inl ⟨ne_ESNULLP, show ESNULLP ∈ GS by decide, rfl⟩)))
      (.emit _ _ (.ret _ (.inr (.inl ⟨ne_ESNULLP, show ESNULLP ∈ GS by decide, rfl⟩))))) fun hn =>
  Quiet.then_ (q_strlenP ..) fun _ =>
  .iteH (fun _ => .ite (Quiet.then_ (by quiet) fun _ => .pure _ (.inl ⟨rfl, .inr rfl⟩)) (.pure _ (.inl ⟨rfl, .inr rfl⟩))) fun hv =>
  Quiet.then_ (q_strlenP ..) fun _ =>
  .ite ((EV.handleError ..).bind fun _ _ he => he ▸ .pure _ (.inr (.inl ⟨ne_ESNOSPC, show ESNOSPC ∈ GS by decide, rfl⟩))) <|
  .iteH (fun hc => (strcpyG_ev_partial _ cfg dest dmax value _ (innerBos_ok (h2 hc.1))).bind fun c es h => by
      rcases h with ⟨_, rfl⟩ | ⟨_, hne, rfl⟩
      · exact .pure _ (.inl ⟨rfl, .inl rfl⟩)
      · exact .pure _ (.inr (.inr ⟨⟨hc.1, hc.2, hn, hv, h1 hc.1, h2 hc.1⟩, rfl, c, hne, rfl⟩)))
    fun _ => .pure _ (.inl ⟨rfl, .inl rfl⟩)

/-- getenv_s: all arguments, all memory contents -/
theorem getenv_s_ev (cfg : Cfg) (hasLen : Bool) (dest dmax name : Nat) (destbos : Bos) (value : Nat) :
    EV (getenv_s cfg hasLen dest dmax name destbos value) (GEPost (InnerG dest dmax name destbos value)) := by
  rw [getenv_s_eq]
  exact .iteH (fun _ =>
      match destbos with
      | none => .iteH (fun _ => .emit _ _ (.ret _ (.inr (.inl ⟨ne_ESLEMAX, show ESLEMAX ∈ GS by decide, rfl⟩)))) fun hov =>
        getenvRest_ev cfg hasLen dest dmax name none value (fun _ _ => by simpa using hov) nofun
      | some b => .iteH (fun _ => .emit _ _ (.ret _ (.inr (.inl ⟨ne_ESLEMAX, show ESLEMAX ∈ GS by decide, rfl⟩)))) fun hov =>
        getenvRest_ev cfg hasLen dest dmax name (some b) value nofun fun _ b' h => by cases h; simpa using hov)
    fun hd => .ite (.emit _ _ (.ret _ (.inr (.inl ⟨ne_ESNULLP, show ESNULLP ∈ GS by decide, rfl⟩))))
      (getenvRest_ev cfg hasLen dest dmax name destbos value (fun h => absurd h hd) (fun h => absurd h hd))

/-- what `GEPost` means for runs -/
theorem GEPost.run {inner : Prop} {p : Prog (Nat × Option Nat)} (h : EV p (GEPost inner)) (st : St) {r : Nat × Option Nat} {st' : St}
    (he : exec p st = .ok (r, st')) :
    (st'.events = st.events ∧ (r.1 = EOK ∨ r.1 = NEG1)) ∨ (r.1 ≠ EOK ∧ r.1 ∈ GS ∧ st'.events = st.events ++ [.handler .str r.1]) ∨
    (inner ∧ r.1 = EOK ∧ ∃ c, c ≠ EOK ∧ st'.events = st.events ++ [.handler .str c]) := by
  obtain ⟨es, h1, h2⟩ := h.sound st he
  rcases h2 with ⟨rfl, hr⟩ | ⟨hr, hm, rfl⟩ | ⟨hi, hr, c, hc, rfl⟩
  · exact Or.inl ⟨by simpa using h1, hr⟩
  · exact Or.inr (Or.inl ⟨hr, hm, h1⟩)
  · exact Or.inr (Or.inr ⟨hi, hr, c, hc, h1⟩)

/-- getenv_s whenever the inner copy is NOT reached (dest null, dmax zero / over the limit / outside the object, name null, the
variable not set): the C05 discipline outright, for all memory contents and placements -/
theorem getenv_s_C05_noinner (cfg : Cfg) (hasLen : Bool) (dest dmax name : Nat) (destbos : Bos) (value : Nat)
    (hni : ¬ InnerG dest dmax name destbos value) (st : St) (r : Nat × Option Nat) (st' : St)
    (he : exec (getenv_s cfg hasLen dest dmax name destbos value) st = .ok (r, st')) :
    (st'.events = st.events ∧ (r.1 = EOK ∨ r.1 = NEG1)) ∨
    (r.1 ≠ EOK ∧ r.1 ∈ GS ∧ st'.events = st.events ++ [.handler .str r.1]) := by
  rcases GEPost.run (getenv_s_ev cfg hasLen dest dmax name destbos value) st he with h | h | ⟨hi, _⟩
  · exact Or.inl h
  · exact Or.inr h
  · exact absurd hi hni

/- FULL C05 statement (FALSE of the model, see `getenv_s_C05_witness`): as `getenv_s_C05_partial` without `hv`. -/
/-- getenv_s, every returning run, ALL arguments: provided that WHEN the inner copy is reached the operands are valid (`dmax`
within the limit, dest `dmax` writable cells, name a readable string, the value a readable string of any length `n` that does
not overlap dest): nothing reported and EOK / -1 returned, or exactly one report carrying the returned code. -/
theorem getenv_s_C05_partial (cfg : Cfg) (hasLen : Bool) (dest dmax name : Nat) (destbos : Bos) (value k n : Nat)
    (st : St) (r : Nat × Option Nat) (st' : St)
    (he : exec (getenv_s cfg hasLen dest dmax name destbos value) st = .ok (r, st'))
    (hv : InnerG dest dmax name destbos value →
      dmax ≤ RSIZE_MAX_STR ∧ RW st dest dmax ∧ SrcStr st name k ∧ SrcStr st value n ∧ Disjoint dest dmax value n) :
    (st'.events = st.events ∧ (r.1 = EOK ∨ r.1 = NEG1)) ∨
    (r.1 ≠ EOK ∧ r.1 ∈ GS ∧ st'.events = st.events ++ [.handler .str r.1]) := by
  by_cases hi : InnerG dest dmax name destbos value
  · obtain ⟨hle, hrw, hnm, hval, hdj⟩ := hv hi
    obtain ⟨hd, hz, _, _, _, hb⟩ := hi
    obtain ⟨r2, st2, he2, h⟩ := getenv_s_valid_events cfg hasLen dest dmax name destbos value k n st hd (by omega) hle hb hrw
      (fun _ => hnm) (fun _ => ⟨hval, hdj⟩)
    rw [he2] at he
    cases he
    exact h
  · exact getenv_s_C05_noinner cfg hasLen dest dmax name destbos value hi st r st' he

/-- the excluded point: the variable's value "ab" lies at `dest + 1` (8 cells at 100, everything mapped, dest writable): the
inner strcpy_s meets the overlap and reports ESOVRLP — getenv_s returns EOK with `*len = 2` -/
theorem getenv_s_C05_witness :
    ∃ st', exec (getenv_s {} true 100 8 300 none 101)
        { data := fun a => if a = 101 then 97 else if a = 102 then 98 else if a = 300 then 65 else 0,
          mapped := fun _ => true, rd := fun _ => true, wr := fun a => decide (100 ≤ a ∧ a < 108) } = .ok ((EOK, some 2), st') ∧
      st'.events = [.handler .str ESOVRLP] := ⟨_, rfl, rfl⟩

/-- getenv_s: every returned code is on the current `@retval` list -/
theorem getenv_s_documented (cfg : Cfg) (hasLen : Bool) (dest dmax name : Nat) (destbos : Bos) (value : Nat) :
    ReturnsDocumented "getenv_s" [] (getenv_s cfg hasLen dest dmax name destbos value) (·.1) := by
  refine of_codes (codes := EOK :: NEG1 :: GS) (getenv_s_ev ..) (fun r es h => ?_) (docRow 9 (by decide +kernel))
  rcases h with ⟨_, h | h⟩ | ⟨_, hm, _⟩ | ⟨_, h, _⟩
  · exact h ▸ .head _
  · exact h ▸ .tail _ (.head _)
  · exact .tail _ (.tail _ hm)
  · exact h ▸ .head _

/-- non-vacuity of `hv` (state of `Proofs/ExtOs.lean`: dest 100 (8 cells), name "A" at 300, value "aa" at 200) -/
example : InnerG 100 8 300 none 200 ∧ 8 ≤ RSIZE_MAX_STR ∧ RW osExSt 100 8 ∧ SrcStr osExSt 300 1 ∧ SrcStr osExSt 200 2 ∧
    Disjoint 100 8 200 2 :=
  ⟨⟨by decide, by decide, by decide, by decide, fun _ => by decide, fun b h => by cases h⟩, by decide, osExSt_rw,
   osExSt_str _ _ (by omega), osExSt_str _ _ (by omega), Or.inl (by decide)⟩

/-- the codes strerror_s reports itself -/
abbrev SS : List Nat := [ESNULLP, ESZEROL, ESLEMAX, EOVERFLOW, ESLEMIN]

/-- outcome of strerror_s: the last two cases are "EOK after a report" — one of the discarded inner calls failed, or (the
truncating path `strncpy_s` + `strcat_s`, `dmax > 3`) both did -/
def SEPost (inner : Prop) (dmax : Nat) : Nat → List Event → Prop := fun r es =>
  (es = [] ∧ r = EOK) ∨ (r ≠ EOK ∧ r ∈ SS ∧ es = [.handler .str r]) ∨
  (inner ∧ r = EOK ∧ ∃ c, c ≠ EOK ∧ es = [.handler .str c]) ∨
  (inner ∧ 3 < dmax ∧ r = EOK ∧ ∃ c1 c2, c1 ≠ EOK ∧ c2 ≠ EOK ∧ es = [.handler .str c1, .handler .str c2])

theorem se_failS {inner : Prop} {dmax : Nat} (c : Nat) (hc : c ≠ EOK := by decide) (hm : c ∈ SS := by decide) :
    EV (failS c) (SEPost inner dmax) :=
  (EV.failS c).conseq (fun r es ⟨h1, h2⟩ => by subst h1; exact Or.inr (Or.inl ⟨hc, hm, h2⟩))

/-- strerror_s: all arguments, all memory contents -/
theorem strerror_s_ev (cfg : Cfg) (dest dmax errnum : Nat) (destbos : Bos) (msg dots : Nat) :
    EV (strerror_s cfg dest dmax errnum destbos msg dots) (SEPost (InnerS dest dmax destbos) dmax) :=
  .iteH (fun _ => se_failS _) fun hd => .iteH (fun _ => se_failS _) fun hz =>
    have body (h1 : destbos = none → dmax ≤ RSIZE_MAX_STR) (h2 : ∀ b, destbos = some b → dmax ≤ b) :
        EV (do
          let len ← strerrorlen_s errnum msg
          if len < dmax then do
            let _ ← strcpy_s cfg dest dmax msg (if cfg.fixInnerBos then destbos else none)
            pure EOK
          else if dmax > 3 then do
            let _ ← strncpy_s cfg dest dmax msg (dmax - 4) none none
            let _ ← strcat_s cfg dest dmax dots none
            pure EOK
          else do
            handleError cfg dest dmax ESLEMIN
            pure ESLEMIN : Prog Nat) (SEPost (InnerS dest dmax destbos) dmax) :=
      have hin : InnerS dest dmax destbos := ⟨hd, hz, h1, h2⟩
      Quiet.then_ (q_strerrorlen_s ..) fun _ =>
        .ite ((strcpyG_ev_partial _ cfg dest dmax msg _ (innerBos_ok h2)).bind fun c es h => by
          rcases h with ⟨_, rfl⟩ | ⟨_, hne, rfl⟩
          · exact .pure _ (.inl ⟨rfl, rfl⟩)
          · exact .pure _ (.inr (.inr (.inl ⟨hin, rfl, c, hne, rfl⟩)))) <|
        .iteH (fun h3 => (strncpy_s_ev_partial cfg dest dmax msg (dmax - 4) none none nofun nofun).bind fun c1 es1 h =>
            (strcat_s_ev_partial cfg dest dmax dots none nofun).bind fun c2 es2 h' => by
              rcases h with ⟨_, rfl⟩ | ⟨_, hne1, rfl⟩ <;> rcases h' with ⟨_, rfl⟩ | ⟨_, hne2, rfl⟩
              · exact .pure _ (.inl ⟨rfl, rfl⟩)
              · exact .pure _ (.inr (.inr (.inl ⟨hin, rfl, c2, hne2, rfl⟩)))
              · exact .pure _ (.inr (.inr (.inl ⟨hin, rfl, c1, hne1, rfl⟩)))
              · exact .pure _ (.inr (.inr (.inr ⟨hin, h3, rfl, c1, c2, hne1, hne2, rfl⟩))))
          fun _ => (EV.handleError ..).bind fun _ _ he => he ▸ .pure _ (.inr (.inl ⟨ne_ESLEMIN, by decide, rfl⟩))
    match destbos, body with
    | none, body => .iteH (fun _ => se_failS _) fun h => body (fun _ => Nat.not_lt.mp h) nofun
    | some _, body =>
      .iteH (fun _ => .ite (se_failS _) (se_failS _)) fun h => body nofun fun _ e => Option.some.inj e ▸ Nat.not_lt.mp h

/-- what `SEPost` means for runs -/
theorem SEPost.run {inner : Prop} {dmax : Nat} {p : Prog Nat} (h : EV p (SEPost inner dmax)) (st : St) {r : Nat} {st' : St}
    (he : exec p st = .ok (r, st')) :
    (st'.events = st.events ∧ r = EOK) ∨ (r ≠ EOK ∧ r ∈ SS ∧ st'.events = st.events ++ [.handler .str r]) ∨
    (inner ∧ r = EOK ∧ ∃ es, es ≠ [] ∧ st'.events = st.events ++ es) := by
  obtain ⟨es, h1, h2⟩ := h.sound st he
  rcases h2 with ⟨rfl, hr⟩ | ⟨hr, hm, rfl⟩ | ⟨hi, hr, c, hc, rfl⟩ | ⟨hi, _, hr, c1, c2, _, _, rfl⟩
  · exact Or.inl ⟨by simpa using h1, hr⟩
  · exact Or.inr (Or.inl ⟨hr, hm, h1⟩)
  · exact Or.inr (Or.inr ⟨hi, hr, _, by simp, h1⟩)
  · exact Or.inr (Or.inr ⟨hi, hr, _, by simp, h1⟩)

/-- strerror_s whenever the inner copies are NOT reached (dest null, dmax zero / over the limit / outside the object): the C05
discipline outright, for all memory contents -/
theorem strerror_s_C05_noinner (cfg : Cfg) (dest dmax errnum : Nat) (destbos : Bos) (msg dots : Nat)
    (hni : ¬ InnerS dest dmax destbos) (st : St) (r : Nat) (st' : St)
    (he : exec (strerror_s cfg dest dmax errnum destbos msg dots) st = .ok (r, st')) :
    (st'.events = st.events ∧ r = EOK) ∨ (r ≠ EOK ∧ r ∈ SS ∧ st'.events = st.events ++ [.handler .str r]) := by
  rcases SEPost.run (strerror_s_ev cfg dest dmax errnum destbos msg dots) st he with h | h | ⟨hi, _⟩
  · exact Or.inl h
  · exact Or.inr h
  · exact absurd hi hni

/- FULL C05 statement (FALSE of the model, see `strerror_s_C05_witness`): as `strerror_s_C05_partial` without `hv`. -/
/-- strerror_s, every returning run, ALL arguments: provided that WHEN the entry checks pass the operands are valid (hypotheses
of `strerror_s_runs_src`, `Proofs/ExtOs.lean`: `dmax` within the limit, dest writable, the message a readable string of `n` characters away from dest
whose length `strerrorlen_s` answers, the literal "..." likewise): nothing reported and EOK returned, or exactly one report
carrying the returned code.  NOTE `dmax ≤ RSIZE_MAX_STR` is a genuine part of `hv`: with the object size KNOWN the entry check
compares `dmax` with the object only, and the truncating path calls `strncpy_s` / `strcat_s` WITHOUT the object size — for
`RSIZE_MAX_STR < dmax ≤ destbos` and a message of `dmax` or more characters both report ESLEMAX and EOK is returned (the
fourth case of `SEPost`; it needs a message longer than 4096 characters, which no libc has). -/
theorem strerror_s_C05_partial (cfg : Cfg) (dest dmax errnum : Nat) (destbos : Bos) (msg dots n len : Nat)
    (st : St) (r : Nat) (st' : St)
    (he : exec (strerror_s cfg dest dmax errnum destbos msg dots) st = .ok (r, st'))
    (hv : InnerS dest dmax destbos →
      dmax ≤ RSIZE_MAX_STR ∧ RW st dest dmax ∧ exec (strerrorlen_s errnum msg) st = .ok (len, st) ∧
      (len = n ∨ (dmax ≤ len ∧ dmax ≤ n)) ∧ msg ≠ 0 ∧ SrcStr st msg n ∧ Disjoint dest dmax msg n ∧
      dots ≠ 0 ∧ SrcStr st dots 3 ∧ Disjoint dest dmax dots 3 ∧
      (st.data dots = 46 ∧ st.data (dots+1) = 46 ∧ st.data (dots+2) = 46)) :
    (st'.events = st.events ∧ r = EOK) ∨ (r ≠ EOK ∧ r ∈ SS ∧ st'.events = st.events ++ [.handler .str r]) := by
  by_cases hi : InnerS dest dmax destbos
  · obtain ⟨hle, hrw, hlen, hag, hm, hsrc, hdj, hdots, hds, hdd, h46⟩ := hv hi
    obtain ⟨hd, hz, _, hb⟩ := hi
    obtain ⟨r2, st2, he2, h⟩ := strerror_s_valid_events cfg dest dmax errnum destbos msg dots n len st hd (by omega) hle hb hrw
      hlen hag hm hsrc hdj hdots hds hdd h46
    rw [he2] at he
    cases he
    rcases h with h | ⟨hr, hev⟩
    · exact Or.inl h
    · subst hr; exact Or.inr ⟨by decide, by decide, hev⟩
  · exact strerror_s_C05_noinner cfg dest dmax errnum destbos msg dots hi st r st' he

/-- the excluded point: libc's message "ab" lies at `dest + 1` (8 cells at 100; errnum 5 is not one of the library's own
codes): the inner strcpy_s meets the overlap and reports ESOVRLP — strerror_s returns EOK -/
theorem strerror_s_C05_witness :
    ∃ st', exec (strerror_s {} 100 8 5 none 101 500)
        { data := fun a => if a = 101 then 97 else if a = 102 then 98 else if 500 ≤ a ∧ a < 503 then 46 else 0,
          mapped := fun _ => true, rd := fun _ => true, wr := fun a => decide (100 ≤ a ∧ a < 108) } = .ok (EOK, st') ∧
      st'.events = [.handler .str ESOVRLP] := ⟨_, rfl, rfl⟩

/-- strerror_s: every returned code is on the current `@retval` list -/
theorem strerror_s_documented (cfg : Cfg) (dest dmax errnum : Nat) (destbos : Bos) (msg dots : Nat) :
    ReturnsDocumented "strerror_s" [] (strerror_s cfg dest dmax errnum destbos msg dots) id := by
  refine of_codes (codes := EOK :: SS) (strerror_s_ev ..) (fun r es h => ?_) (docRow 50 (by decide +kernel))
  rcases h with ⟨_, rfl⟩ | ⟨_, hm, _⟩ | ⟨_, rfl, _⟩ | ⟨_, _, rfl, _⟩
  · exact .head _
  · exact .tail _ hm
  · exact .head _
  · exact .head _

/-- non-vacuity of `hv` (state of `Proofs/ExtOs.lean`: dest 100 (8 cells), message of 11 characters at 400, "..." at 500,
errnum 5 not one of the library's own codes) -/
example : InnerS 100 8 none ∧ 8 ≤ RSIZE_MAX_STR ∧ RW osExSt 100 8 ∧
    exec (strerrorlen_s 5 400) osExSt = .ok (11, osExSt) ∧ (11 = 11 ∨ (8 ≤ 11 ∧ 8 ≤ 11)) ∧
    (400 : Nat) ≠ 0 ∧ SrcStr osExSt 400 11 ∧ Disjoint 100 8 400 11 ∧ (500 : Nat) ≠ 0 ∧ SrcStr osExSt 500 3 ∧ Disjoint 100 8 500 3 ∧
    (osExSt.data 500 = 46 ∧ osExSt.data (500+1) = 46 ∧ osExSt.data (500+2) = 46) :=
  ⟨⟨by decide, by decide, fun _ => by decide, fun b h => by cases h⟩, by decide, osExSt_rw,
   strerrorlen_s_libc_eq 5 400 11 osExSt (by decide) (osExSt_str _ _ (by omega)) (by decide), Or.inl rfl,
   by decide, osExSt_str _ _ (by omega), Or.inl (by decide), by decide, osExSt_str _ _ (by omega), Or.inl (by decide), osExSt_dots⟩

/-- the class excluded by `dmax ≤ RSIZE_MAX_STR` in `strerror_s_C05_partial`, in general: object size KNOWN,
`RSIZE_MAX_STR < dmax ≤ destbos`, the message does not fit (`strerrorlen_s` answers `len ≥ dmax`): the entry check compares `dmax`
with the object only, the truncating path calls `strncpy_s(dest, dmax, …)` and `strcat_s(dest, dmax, "...")` WITHOUT the object
size, both reject `dmax` — strerror_s returns EOK after TWO reports of ESLEMAX and leaves dest exactly as it was.  Needs a
message of more than 4096 characters (no libc has one): a statement about the model's quantifier, not a reachable defect. -/
theorem strerror_s_C05_bos_witness (cfg : Cfg) (dest dmax errnum b msg dots len : Nat) (st : St)
    (hd : dest ≠ 0) (hgt : RSIZE_MAX_STR < dmax) (hb : dmax ≤ b)
    (hlen : exec (strerrorlen_s errnum msg) st = .ok (len, st)) (hge : dmax ≤ len) :
    exec (strerror_s cfg dest dmax errnum (some b) msg dots) st =
      .ok (EOK, { st with events := st.events ++ [.handler .str ESLEMAX, .handler .str ESLEMAX] }) := by
  have hz : dmax ≠ 0 := by omega
  have h4 : (4 : Nat) ≤ RSIZE_MAX_STR := by decide
  unfold strerror_s chkDmax
  rw [if_neg hd, if_neg hz]
  simp only []
  rw [if_neg (by omega)]
  simp only [exec_bind, hlen]
  rw [if_neg (by omega), if_pos (by omega)]
  simp only [strncpy_s, strncpyG, strcat_s, strcatG, chkDmaxClear, chkDmaxClearG]
  rw [if_neg (by omega), if_neg hd, if_neg hz, if_pos hgt]
  simp [exec_bind, handlerS, hd, hz, hgt]

/-- non-vacuity: a message of 5000 `d`s at 10000 (errnum 5 is not one of the library's own codes), `dmax = destbos = 4097` -/
example : ∃ st : St, exec (strerrorlen_s 5 10000) st = .ok (5000, st) ∧ RSIZE_MAX_STR < 4097 ∧ 4097 ≤ 5000 := by
  refine ⟨{ data := fun a => if 10000 ≤ a ∧ a < 15000 then 100 else 0, mapped := fun _ => true, rd := fun _ => true,
            wr := fun _ => false }, ?_, by decide, by decide⟩
  refine strerrorlen_s_libc_eq 5 10000 5000 _ (by decide) ⟨fun j hj => ?_, ?_, fun _ _ => ⟨rfl, rfl⟩⟩ (by decide)
  · have : 10000 ≤ 10000 + j ∧ 10000 + j < 15000 := by omega
    simp [this]
  · simp

end SafeC.Props.C05Os
