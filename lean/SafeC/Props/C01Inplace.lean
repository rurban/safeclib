import SafeC.Props.C01
/-!
# C01 for the in-place family (`strset_s strnset_s strzero_s strtolowercase_s strtouppercase_s
strnterminate_s wcsset_s wcsnset_s`)

Same setting and conclusion as `Props/C01.lean` (`Setting`, `Holds`): every cell mapped and readable
with ARBITRARY contents, `dest[0..dmax)` writable; then for ALL arguments — any `dmax`, any value, any
`n`, object size unknown or known (whatever it is), terminated or not — the call returns, records no
stray write and leaves every cell outside `dest[0..dmax)` bit-identical.

Instances of the footprint theorems of `Proofs/AccS.lean` / `Proofs/AccWalk.lean` (`holds_of_AccS`, `holds_of_Acc`): loads
anywhere, stores in `[dest, dest+dmax)`.
-/
namespace SafeC.Props.C01
open SafeC

/-- **strset_s**: all arguments, any object-size knowledge, any contents -/
theorem strset_s_C01 (cfg : Cfg) (dest dmax value : Nat) (b : Bos) (st : St) (hs : Setting st)
    (hrw : dest ≠ 0 → RW st dest dmax) :
    ∃ code st', exec (strset_s cfg dest dmax value b) st = .ok (code, st') ∧ Holds st st' :=
  holds_of_AccS hs (strset_s_accs cfg dest dmax value b (fun _ _ _ => trivial) (C02.Wr_of_RW.guard hrw))

theorem strzero_s_C01 (cfg : Cfg) (dest dmax : Nat) (b : Bos) (st : St) (hs : Setting st)
    (hrw : dest ≠ 0 → RW st dest dmax) :
    ∃ code st', exec (strzero_s cfg dest dmax b) st = .ok (code, st') ∧ Holds st st' :=
  holds_of_AccS hs (strzero_s_accs cfg dest dmax b (fun _ _ _ => trivial) (C02.Wr_of_RW.guard hrw))

theorem strnset_s_C01 (cfg : Cfg) (dest dmax value n : Nat) (b : Bos) (st : St) (hs : Setting st)
    (hrw : dest ≠ 0 → RW st dest dmax) :
    ∃ code st', exec (strnset_s cfg dest dmax value n b) st = .ok (code, st') ∧ Holds st st' :=
  holds_of_AccS hs (strnset_s_accs cfg dest dmax value n b (fun _ _ _ _ => trivial) (C02.Wr_of_RW.guard hrw))

theorem strtolowercase_s_C01 (cfg : Cfg) (dest dmax : Nat) (b : Bos) (st : St) (hs : Setting st)
    (hrw : dest ≠ 0 → RW st dest dmax) :
    ∃ code st', exec (strtolowercase_s cfg dest dmax b) st = .ok (code, st') ∧ Holds st st' :=
  holds_of_AccS hs (caseFn_accs _ _ _ dest dmax b (fun _ _ _ => trivial) (C02.Wr_of_RW.guard hrw))

theorem strtouppercase_s_C01 (cfg : Cfg) (dest dmax : Nat) (b : Bos) (st : St) (hs : Setting st)
    (hrw : dest ≠ 0 → RW st dest dmax) :
    ∃ code st', exec (strtouppercase_s cfg dest dmax b) st = .ok (code, st') ∧ Holds st st' :=
  holds_of_AccS hs (caseFn_accs _ _ _ dest dmax b (fun _ _ _ => trivial) (C02.Wr_of_RW.guard hrw))

theorem strnterminate_s_C01 (cfg : Cfg) (dest dmax : Nat) (b : Bos) (st : St) (hs : Setting st)
    (hrw : dest ≠ 0 → RW st dest dmax) :
    ∃ n st', exec (strnterminate_s cfg dest dmax b) st = .ok (n, st') ∧ Holds st st' :=
  holds_of_Acc hs (Acc_strnterminate_s cfg dest dmax b (fun _ _ _ => trivial) (C02.Wr_of_RW.guard hrw))

/-- **wcsset_s**: all arguments; a known object size smaller than `dmax` makes the call clear
`destbos / sizeof(wchar_t)` cells — still inside `dest[0..dmax)` -/
theorem wcsset_s_C01 (cfg : Cfg) (dest dmax value : Nat) (b : Bos) (st : St) (hs : Setting st)
    (hrw : dest ≠ 0 → RW st dest dmax) :
    ∃ code st', exec (wcsset_s cfg dest dmax value b) st = .ok (code, st') ∧ Holds st st' :=
  holds_of_AccS hs (wcsset_s_accs cfg dest dmax value b (fun _ _ _ => trivial) (C02.Wr_of_RW.guard hrw))

theorem wcsnset_s_C01 (cfg : Cfg) (dest dmax value n : Nat) (b : Bos) (st : St) (hs : Setting st)
    (hrw : dest ≠ 0 → RW st dest dmax) :
    ∃ code st', exec (wcsnset_s cfg dest dmax value n b) st = .ok (code, st') ∧ Holds st st' :=
  holds_of_AccS hs (wcsnset_s_accs cfg dest dmax value n b (fun _ _ _ _ => trivial) (C02.Wr_of_RW.guard hrw))

example : ∃ st : St, Setting st ∧ ((100 : Nat) ≠ 0 → RW st 100 5) :=
  ⟨{ data := fun _ => 7, mapped := fun _ => true, rd := fun _ => true, wr := fun a => decide (100 ≤ a ∧ a < 105) },
   ⟨fun _ => ⟨rfl, rfl⟩, rfl⟩, fun _ i hi => ⟨rfl, by simp; omega, rfl⟩⟩

end SafeC.Props.C01

