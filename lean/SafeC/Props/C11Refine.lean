import SafeC.Proofs.PrintfEngine
import SafeC.Props.C11
/-!
# C11, end to end: the repaired printf engine = `Spec.printf` for `d i u o x X c s %`

`SafeC/Props/C11.lean` proves the parts (digits, layout without `#`, sinks).  This file states the refinement the property asks
for, in its honest partial form: for the repaired code (`Repaired fx`: `Fixes.minusPrec`, `hash`, `negStarPrec`, `strPrec0`;
`current = Fixes.all` satisfies it), every format for which `Spec.printf` is defined, and every specification within `DirOK`
(width and precision below 2^32; numeric specifications inside the 32-byte digit buffer, `IntOK`), the engine hands its sink
exactly the characters of `Spec.printf` (`engine_C11_int_partial`), so the wrappers store that text and return its length
when it fits and a negative code when it does not (`vsnprintf_s_C11_partial`, `vsprintf_s_C11_partial`, `sprintf_s_C11_partial`,
`stream_C11_partial`).  Lemmas: `SafeC/Proofs/Printf{Render,Hash,Conv,Str,Parse,Directive,Engine}.lean`.

Not covered: floats, `%lc`, `%ls`, `%p`, `%b`; specifications outside `DirOK` (known findings printf-digit-buffer-32,
printf-width-numeral-wraps; witnesses in `C11.lean`); the unrepaired code (witnesses in `C11.lean`).  The hypothesis
`prescan fmt = false` is kept explicit (no format with `Spec.printf fmt args ≠ none` is known to violate it).
-/
namespace SafeC.Props.C11
open SafeC.Printf SafeC.Printf.Spec SafeC.Gen

/-- `current` (the code in /repo) is the repaired engine the theorems below speak about -/
theorem current_repaired : Repaired current := ⟨rfl, rfl, rfl, rfl⟩

/-- PARTIAL (layout rewritten into `Spec.renderInt`, both classes).  Repaired code, every value below 2^64, base
    8/10/16, any flag word the parser can build (`#` only on unsigned non-decimal conversions; `0` cleared when a precision is
    given), precision (+1 with `#`) at most 31 and zero-padded width at most 31: `safec_ntoa_long` + `safec_ntoa_format` +
    `safec_out_rev` hand the sink exactly `Spec.renderInt` of the same specification. -/
theorem ntoa_renderInt_C11_partial (fx : Fixes) (hm : fx.minusPrec = true) (hx : fx.hash = true) (sk : Sink) (m v : Nat) (neg : Bool)
    (base prec width : Nat) (fl : Flags) (s : St) (signed : Bool)
    (hb : base = 8 ∨ base = 10 ∨ base = 16) (hv : v < 2 ^ 64)
    (hh10 : fl.hash = true → base ≠ 10 ∧ signed = false)
    (hpz : fl.precision = true → fl.zeropad = false) (hp0 : fl.precision = false → prec = 0)
    (hs : signed = false → neg = false ∧ fl.plus = false ∧ fl.space = false)
    (hp : prec + (if fl.hash then 1 else 0) ≤ 31) (hw : fl.left = false → fl.zeropad = true → width ≤ 31) (hwmax : width ≤ 2147483614) :
    ntoaLong fx sk m v neg base prec width fl s = emitAll sk m (renderInt (dirOf fl width prec) signed neg v base fl.upper) s :=
  ntoaLong_render fx hm hx sk m v neg base prec width fl s signed (dirOf fl width prec) hb hv hh10 hpz hp0 hs hp hw hwmax rfl

/-- `%#010x` of 0xBEEF and `%-+8.3d` of 7 through the repaired `safec_ntoa_long` -/
example : (ntoaLong Fixes.all .fchar 0 48879 false 16 0 10 { zeropad := true, hash := true } ⟨0, [], []⟩).toOption =
    some ⟨10, [], ['0', 'x', '0', '0', '0', '0', 'b', 'e', 'e', 'f']⟩ := by decide
example : renderInt (dirOf { zeropad := true, hash := true } 10 0) false false 48879 16 false =
    ['0', 'x', '0', '0', '0', '0', 'b', 'e', 'e', 'f'] := by decide +kernel

/-- PARTIAL (the `#` class on its own).  Repaired code, `o x X` with `#`, precision at most 30, zero-padded width at most 31. -/
theorem ntoa_hash_C11_partial (fx : Fixes) (hm : fx.minusPrec = true) (hx : fx.hash = true) (sk : Sink) (m v base prec width : Nat)
    (fl : Flags) (s : St) (hb : base = 8 ∨ base = 16) (hv : v < 2 ^ 64) (hh : fl.hash = true) (hpl : fl.plus = false)
    (hsp : fl.space = false) (hpz : fl.precision = true → fl.zeropad = false) (hp0 : fl.precision = false → prec = 0)
    (hp : prec ≤ 30) (hw : fl.left = false → fl.zeropad = true → width ≤ 31) (hwmax : width ≤ 2147483614) :
    ntoaLong fx sk m v false base prec width fl s = emitAll sk m (renderInt (dirOf fl width prec) false false v base fl.upper) s :=
  ntoaLong_renderInt_hash fx hm hx sk m v base prec width fl s hb hv hh hpl hsp hpz hp0 hp hw hwmax

/-- `%#.5o` of 0123 (the repaired code writes 00123) -/
example : (ntoaLong Fixes.all .fchar 0 83 false 8 5 0 { hash := true, precision := true } ⟨0, [], []⟩).toOption =
    some ⟨5, [], ['0', '0', '1', '2', '3']⟩ := by decide

/-- PARTIAL (one integer directive, argument fetch included).  `d i u o x X`, all length modifiers, flags, width, precision:
    whenever the standard defines the text (`Spec.render d args = some (text, args')`) and `IntOK d`, the repaired `convInt`
    emits `text` and leaves `args'`. -/
theorem convInt_C11_partial (fx : Fixes) (hm : fx.minusPrec = true) (hx : fx.hash = true) (sk : Sink) (m : Nat) (d : Dir)
    (hc : d.conv = 'd' ∨ d.conv = 'i' ∨ d.conv = 'u' ∨ d.conv = 'o' ∨ d.conv = 'x' ∨ d.conv = 'X')
    (args : List Arg) (s : St) (text : Str) (args' : List Arg)
    (hr : render d args = some (text, args')) (hok : IntOK d) :
    convInt fx sk m d.conv (cfl d) d.width (d.prec.getD 0) args s = (emitAll sk m text s).map (fun s' => (s', args')) :=
  convInt_eq fx hm hx sk m d hc args s text args' hr hok

/-- `%hhd` of 511 (converted to signed char: -1) with width 4 -/
example : render { width := 4, len := .hh, conv := 'd' } [.int 511] = some ([' ', ' ', '-', '1'], []) := by decide +kernel
example : IntOK { width := 4, len := .hh, conv := 'd' } := by decide

/-- FULL.  `%c` (any width, `-`, any `int` argument, any sink and state, either code): the padded character of the standard. -/
theorem char_C11 (fx : Fixes) (sk : Sink) (m : Nat) (d : Dir) (hlen : d.len = .none) (v : Int) (as : List Arg) (s : St) :
    convChar fx sk m (cfl d) d.width (.int v :: as) s =
      (emitAll sk m (padField d [Char.ofNat (wrapU 8 v)]) s).map (fun s' => (s', as)) :=
  convChar_eq fx sk m d hlen v as s

example : padField { minus := true, width := 3, conv := 'c' } [Char.ofNat (wrapU 8 321)] = ['A', ' ', ' '] := by decide

/-- PARTIAL (`Fixes.strPrec0`; witness `engine_s_precision0_witness`).  `%s` with any width, `-`, precision and string: the
    standard's text; when the characters of the string do not fit the room left the buffer sink returns `-ESNOSPC` (which is
    what `emitAll` of the text returns). -/
theorem str_C11_partial (fx : Fixes) (hs0 : fx.strPrec0 = true) (sk : Sink) (m : Nat) (d : Dir) (hlen : d.len = .none)
    (p : Str) (as : List Arg) (s : St)
    (hroom : (sk = .buffer ∧ s.idx ≤ m) ∨ s.idx + (padField d (strCore d p)).length ≤ m) :
    convStr fx sk m m (cfl d) d.width (d.prec.getD 0) (.str (some p) :: as) s =
      (emitAll sk m (padField d (strCore d p)) s).map (fun s' => (s', as)) :=
  convStr_eq fx hs0 sk m d hlen p as s hroom

example : padField { width := 5, prec := some 2, conv := 's' } (strCore { width := 5, prec := some 2, conv := 's' } ['a', 'b', 'c']) =
    [' ', ' ', ' ', 'a', 'b'] := by decide

/-- FULL.  `%s` with a NULL argument returns `-ESNULLP` (negative), whatever else the directive says. -/
theorem str_null_C11 (fx : Fixes) (sk : Sink) (m bufsize : Nat) (fl : Flags) (hl : fl.long = false) (width prec : Nat) (as : List Arg) (s : St) :
    convStr fx sk m bufsize fl width prec (.str none :: as) s = .error (.ret (-(ESNULLP : Int))) := by
  unfold convStr; simp [hl]

example : (sprintf_s Fixes.all true 8 dest8 ['%', 's'] [.str none]).ret = some (-400) := by decide

/-- FULL.  `%%` writes one `%` and consumes no argument. -/
theorem pct_C11 (fx : Fixes) (sk : Sink) (m : Nat) (r : Str) (args : List Arg) (s : St) :
    directive fx sk m ('%' :: r) args s = (emitAll sk m ['%'] s).map (fun s' => (r, args, s')) :=
  directive_pct fx sk m r args s

/-- PARTIAL (parser equivalence for one specification).  What `Spec.parseDir` reads at `f` and `Spec.render` renders is what
    the repaired `directive` — flag loop, `safec_atoi`, `*` arguments, length switch, specifier switch, conversion — emits;
    same rest of the format, same remaining arguments. -/
theorem directive_C11_partial (fx : Fixes) (hfx : Repaired fx) (sk : Sink) (m : Nat) (f : Str) (args : List Arg) (s : St)
    (d : Dir) (r' : Str) (a0 : List Arg) (text : Str) (a' : List Arg)
    (hp : parseDir f args = some (d, r', a0)) (hr : render d a0 = some (text, a')) (hok : DirOK d)
    (hroom : (sk = .buffer ∧ s.idx ≤ m) ∨ s.idx + text.length ≤ m) :
    directive fx sk m f args s = (emitAll sk m text s).map (fun s' => (r', a', s')) :=
  directive_eq fx hfx sk m f args s d r' a0 text a' hp hr hok hroom

/-- `%-*.*lX|` with arguments 6, 3, 0xAB: parsed alike, rendered alike -/
example : (parseDir ['-', '*', '.', '*', 'l', 'X', '|'] [.int 6, .int 3, .long 171]).map
      (fun x => (x.1.minus, x.1.width, x.1.prec, x.1.conv, x.2.1)) =
    some (true, 6, some 3, 'X', ['|']) := by decide
example : (directive Fixes.all .fchar 0 ['-', '*', '.', '*', 'l', 'X', '|'] [.int 6, .int 3, .long 171] ⟨0, [], []⟩).toOption =
    some (['|'], [], ⟨6, [], ['0', 'A', 'B', ' ', ' ', ' ']⟩) := by decide

/-- PARTIAL (`engine_C11_int` of DESIGN.md §4, the loop).  Parser equivalence + composition by induction over the format: the repaired
    engine's main loop started in ANY state `s` hands the sink exactly `Spec.printf fmt args`, as one `emitAll` — hence, for the
    buffer sink, stores it at `dest[idx..]` when it fits and returns `-ESNOSPC` when it does not (`sinks_C11_buffer*`). -/
theorem engine_C11_int_partial (fx : Fixes) (hfx : Repaired fx) (sk : Sink) (m : Nat) (fmt : Str) (args : List Arg) (s : St) (T : Str)
    (hT : Spec.printf fmt args = some T) (hok : fmtOK fmt.length fmt args = true)
    (hroom : (sk = .buffer ∧ s.idx ≤ m) ∨ s.idx + T.length ≤ m) :
    engLoop fx sk m fmt.length fmt args s = emitAll sk m T s :=
  engLoop_eq fx hfx sk m fmt.length fmt args s T hT hok hroom

/-- a format with literal text, four directives (`0` and `+` flags, `-` and width, precision on `%s`, `#`), `%%` -/
def exFmt : Str := ['a', '%', '+', '0', '5', 'd', '|', '%', '-', '4', '.', '1', 's', '|', '%', '#', 'x', '%', '%']
def exArgs : List Arg := [.int 42, .str (some ['x', 'y']), .int 255]
def exText : Str := ['a', '+', '0', '0', '4', '2', '|', 'x', ' ', ' ', ' ', '|', '0', 'x', 'f', 'f', '%']
example : Spec.printf exFmt exArgs = some exText := by decide +kernel
example : fmtOK exFmt.length exFmt exArgs = true := by decide +kernel
example : SafeC.Fmt.prescan exFmt = false := by decide
example : (sprintf_s current true 20 (List.replicate 20 'x') exFmt exArgs).ret = some 17 := by decide +kernel

/-- PARTIAL (`engine_C11_int` of DESIGN.md §4, `vsnprintf_s` = `snprintf_s` = [code as found] `sprintf_s`).  Repaired engine
    (`Repaired fx`), a format for which `Spec.printf` is defined (literal text, `%%`, `d i u o x X c s` with any flags, width,
    precision, `*`, length modifiers, matching arguments), every specification within `DirOK` (width/precision < 2^32; numeric
    ones inside the 32-byte digit buffer), `dest` of `dmax` cells, `0 < dmax ≤ RSIZE_MAX_STR`, format accepted by the `%n`
    pre-scan.  Then with `T = Spec.printf fmt args`:
    * `T.length < dmax`: returns `T.length`, `dest[0..T.length) = T`, `dest[T.length] = 0`;
    * `T.length = dmax` (exact fit): returns `dmax` with `T` cut to `dmax - 1` characters and terminated (the documented
      truncation of `snprintf_s`/`vsnprintf_s`; finding sprintf_s-exact-fit for the unrepaired `sprintf_s`);
    * `T.length > dmax`: returns `-ESNOSPC`, `dest[0] = 0`.
    Witnesses for the hypotheses: `ntoa_buffer_witness` (IntOK), `engine_width_wraps_witness` (< 2^32), the `Fixes.none`
    halves of `ntoa_minus_precision_witness`, `ntoa_hash_*_witness`, `engine_negative_star_precision_witness`,
    `engine_s_precision0_witness` (Repaired). -/
theorem vsnprintf_s_C11_partial (fx : Fixes) (hfx : Repaired fx) (slack : Bool) (dmax : Nat) (init : List Char) (fmt : Str)
    (args : List Arg) (T : Str)
    (hT : Spec.printf fmt args = some T) (hok : fmtOK fmt.length fmt args = true)
    (hinit : init.length = dmax) (hd0 : dmax ≠ 0) (hmax : dmax ≤ RSIZE_MAX_STR) (hpre : SafeC.Fmt.prescan fmt = false) :
    (T.length < dmax →
      (vsnprintf_s fx slack dmax init fmt args).ret = some (T.length : Int) ∧
      (vsnprintf_s fx slack dmax init fmt args).cells.take T.length = T ∧
      (vsnprintf_s fx slack dmax init fmt args).cells[T.length]? = some '\x00') ∧
    (T.length = dmax →
      (vsnprintf_s fx slack dmax init fmt args).ret = some (dmax : Int) ∧
      (vsnprintf_s fx slack dmax init fmt args).cells.take (dmax - 1) = T.take (dmax - 1) ∧
      (vsnprintf_s fx slack dmax init fmt args).cells[dmax - 1]? = some '\x00') ∧
    (dmax < T.length →
      (vsnprintf_s fx slack dmax init fmt args).ret = some (-(ESNOSPC : Int)) ∧
      (vsnprintf_s fx slack dmax init fmt args).cells[0]? = some '\x00') := by
  have hnmax : ¬ dmax > RSIZE_MAX_STR := by omega
  unfold vsnprintf_s
  simp only [hd0, hnmax, hpre, if_false, Bool.false_eq_true]
  refine ⟨?_, ?_, ?_⟩
  · intro hlt
    obtain ⟨s', he, hi, hlen, hA, _⟩ := engine_buffer_fits fx hfx dmax init fmt args T hT hok hinit (by omega)
    obtain ⟨hA1, hA2⟩ := hA hlt
    rw [he]
    simp only [hi]
    refine ⟨trivial, ?_, ?_⟩
    · cases slack
      · simp only [Bool.false_eq_true, if_false]
        rw [List.take_set_of_le (by omega)]; exact hA1
      · have : ¬ T.length > dmax := by omega
        simp only [if_true, this, if_false]
        rw [List.take_append_of_le_length (by simp; omega), List.take_take, Nat.min_self]; exact hA1
    · cases slack
      · simp only [Bool.false_eq_true, if_false]
        rw [List.getElem?_set]
        split
        · simp; omega
        · exact hA2
      · have : ¬ T.length > dmax := by omega
        simp only [if_true, this, if_false]
        rw [List.getElem?_append_right (by simp; omega)]
        simp [zeros, List.getElem?_replicate]; omega
  · intro heq
    obtain ⟨s', he, hi, hlen, _, hB⟩ := engine_buffer_fits fx hfx dmax init fmt args T hT hok hinit (by omega)
    obtain ⟨hB1, hB2⟩ := hB heq
    have hB2 := hB2 (by omega)
    rw [he]
    simp only [hi, heq]
    refine ⟨trivial, ?_, ?_⟩
    · cases slack
      · simp only [Bool.false_eq_true, if_false]
        rw [List.take_set_of_le (Nat.le_refl _)]; exact hB1
      · simp only [if_true, Nat.lt_irrefl, gt_iff_lt, if_false, Nat.sub_self, zeros, List.replicate_zero, List.append_nil]
        rw [List.take_take, Nat.min_eq_left (by omega)]; exact hB1
    · cases slack
      · simp only [Bool.false_eq_true, if_false]
        rw [List.getElem?_set_self (by omega)]
      · simp only [if_true, Nat.lt_irrefl, gt_iff_lt, if_false, Nat.sub_self, zeros, List.replicate_zero, List.append_nil]
        rw [List.getElem?_take_of_lt (by omega)]; exact hB2
  · intro hover
    rw [engine_buffer_overflow fx hfx dmax init fmt args T hT hok hover]
    refine ⟨rfl, ?_⟩
    cases slack
    · simp only [Bool.false_eq_true, if_false]
      rw [List.getElem?_set_self (by omega)]
    · simp [zeros, List.getElem?_replicate]; omega

/-- PARTIAL.  `vsprintf_s` (and the repaired `sprintf_s`), same hypotheses: the text and its length when it fits with its
    terminator (`T.length < dmax`), `-ESNOSPC` with `dest[0] = 0` otherwise — including the exact fit. -/
theorem vsprintf_s_C11_partial (fx : Fixes) (hfx : Repaired fx) (slack : Bool) (dmax : Nat) (init : List Char) (fmt : Str)
    (args : List Arg) (T : Str)
    (hT : Spec.printf fmt args = some T) (hok : fmtOK fmt.length fmt args = true)
    (hinit : init.length = dmax) (hd0 : dmax ≠ 0) (hmax : dmax ≤ RSIZE_MAX_STR) (hpre : SafeC.Fmt.prescan fmt = false) :
    (T.length < dmax →
      (vsprintf_s fx slack dmax init fmt args).ret = some (T.length : Int) ∧
      (vsprintf_s fx slack dmax init fmt args).cells.take T.length = T ∧
      (vsprintf_s fx slack dmax init fmt args).cells[T.length]? = some '\x00') ∧
    (dmax ≤ T.length →
      (vsprintf_s fx slack dmax init fmt args).ret = some (-(ESNOSPC : Int)) ∧
      (vsprintf_s fx slack dmax init fmt args).cells[0]? = some '\x00') := by
  obtain ⟨h1, h2, h3⟩ := vsnprintf_s_C11_partial fx hfx slack dmax init fmt args T hT hok hinit hd0 hmax hpre
  unfold vsprintf_s
  refine ⟨?_, ?_⟩
  · intro hlt
    obtain ⟨a, b, c⟩ := h1 hlt
    simp only [a]
    have : ¬ (dmax ≠ 0 ∧ (T.length : Int) ≥ (dmax : Int)) := by omega
    rw [if_neg this]
    exact ⟨a, b, c⟩
  · intro hge
    by_cases heq : T.length = dmax
    · obtain ⟨a, b, c⟩ := h2 heq
      simp only [a]
      have : (dmax ≠ 0 ∧ (dmax : Int) ≥ (dmax : Int)) := ⟨hd0, by omega⟩
      rw [if_pos this]
      refine ⟨rfl, ?_⟩
      cases slack
      · simp only [Bool.false_eq_true, if_false]
        rw [List.getElem?_set_self]
        obtain ⟨hl, _⟩ := List.getElem?_eq_some_iff.1 c
        omega
      · simp [zeros, List.getElem?_replicate]; omega
    · obtain ⟨a, c⟩ := h3 (by omega)
      simp only [a]
      have : ¬ (dmax ≠ 0 ∧ (-(ESNOSPC : Int)) ≥ (dmax : Int)) := by simp [ESNOSPC]; omega
      rw [if_neg this]
      exact ⟨a, c⟩


/-- PARTIAL.  `sprintf_s`: the repaired wrapper (`Fixes.sprintfExact`) is `vsprintf_s`; the wrapper as found is `vsnprintf_s`
    (returns `dmax` on an exact fit, `vsnprintf_s_exact_fit_witness`). -/
theorem sprintf_s_C11_partial (fx : Fixes) (hfx : Repaired fx) (hse : fx.sprintfExact = true) (slack : Bool) (dmax : Nat)
    (init : List Char) (fmt : Str) (args : List Arg) (T : Str)
    (hT : Spec.printf fmt args = some T) (hok : fmtOK fmt.length fmt args = true)
    (hinit : init.length = dmax) (hd0 : dmax ≠ 0) (hmax : dmax ≤ RSIZE_MAX_STR) (hpre : SafeC.Fmt.prescan fmt = false) :
    (T.length < dmax →
      (sprintf_s fx slack dmax init fmt args).ret = some (T.length : Int) ∧
      (sprintf_s fx slack dmax init fmt args).cells.take T.length = T ∧
      (sprintf_s fx slack dmax init fmt args).cells[T.length]? = some '\x00') ∧
    (dmax ≤ T.length →
      (sprintf_s fx slack dmax init fmt args).ret = some (-(ESNOSPC : Int)) ∧
      (sprintf_s fx slack dmax init fmt args).cells[0]? = some '\x00') := by
  unfold sprintf_s; rw [if_pos hse]
  exact vsprintf_s_C11_partial fx hfx slack dmax init fmt args T hT hok hinit hd0 hmax hpre

/-- `snprintf_s` is `_vsnprintf_s_chk` (model `vsnprintf_s`): `vsnprintf_s_C11_partial` is its theorem -/
abbrev snprintf_s := vsnprintf_s

example : (vsnprintf_s current false 18 (List.replicate 18 'x') exFmt exArgs).ret = some 17 ∧
    (vsnprintf_s current false 17 (List.replicate 17 'x') exFmt exArgs).ret = some 17 ∧
    (vsprintf_s current false 17 (List.replicate 17 'x') exFmt exArgs).ret = some (-406) ∧
    (vsnprintf_s current false 16 (List.replicate 16 'x') exFmt exArgs).ret = some (-406) := by decide +kernel

/-- PARTIAL.  `fprintf_s` / `vfprintf_s` (sink `fchar`) and `printf_s` (sink `char`): same class of formats, text shorter than
    2^64 - 1: the stream receives exactly `Spec.printf fmt args` (`printf_s`: without its NUL characters, finding
    printf_s-nul-dropped) and the call returns its length. -/
theorem stream_C11_partial (fx : Fixes) (hfx : Repaired fx) (fmt : Str) (args : List Arg) (T : Str)
    (hT : Spec.printf fmt args = some T) (hok : fmtOK fmt.length fmt args = true) (hlen : T.length ≤ 2 ^ 64 - 1)
    (hpre : SafeC.Fmt.prescan fmt = false) :
    (streamPrintf fx .fchar fmt args).ret = some (T.length : Int) ∧ (streamPrintf fx .fchar fmt args).stream = T ∧
    (streamPrintf fx .char fmt args).ret = some (T.length : Int) ∧ (streamPrintf fx .char fmt args).stream = T.filter (· ≠ '\x00') := by
  unfold streamPrintf engine
  simp only [hpre, Bool.false_eq_true, if_false]
  rw [engLoop_eq fx hfx .fchar (2 ^ 64 - 1) fmt.length fmt args ⟨0, [], []⟩ T hT hok (Or.inr (by simpa using hlen)),
    engLoop_eq fx hfx .char (2 ^ 64 - 1) fmt.length fmt args ⟨0, [], []⟩ T hT hok (Or.inr (by simpa using hlen)),
    sinks_C11_fchar, sinks_C11_char]
  simp [bind, Except.bind, pure, Except.pure]

example : (streamPrintf current .fchar exFmt exArgs).stream = exText := by decide +kernel

/-! ## statelessness -/

/-- one call of an entry point of the family, with everything it is given -/
structure Call where
  entry : Nat            -- 0 vsnprintf_s/snprintf_s, 1 vsprintf_s, 2 sprintf_s, 3 fprintf_s/vfprintf_s, 4 printf_s
  fx : Fixes
  slack : Bool
  dmax : Nat
  init : List Char
  fmt : Str
  args : List Arg

/-- what the call returns and leaves behind -/
def Call.run (c : Call) : Option Int × List Char × List Char :=
  let r := match c.entry with
    | 0 => vsnprintf_s c.fx c.slack c.dmax c.init c.fmt c.args
    | 1 => vsprintf_s c.fx c.slack c.dmax c.init c.fmt c.args
    | 2 => sprintf_s c.fx c.slack c.dmax c.init c.fmt c.args
    | 3 => streamPrintf c.fx .fchar c.fmt c.args
    | _ => streamPrintf c.fx .char c.fmt c.args
  (r.ret, r.cells, r.stream)

/-- a sequence of calls: the model has no state to thread from one call to the next -/
def runAll (cs : List Call) : List (Option Int × List Char × List Char) := cs.map Call.run

/-- FULL (of the model, by construction).  The result of a call — return value, `dest`, stream bytes — depends only on what
    the call is given: after ANY two histories of other calls the same call gives the same result.  The model is a pure
    function without static scratch state; that the C has none that matters (`vsnprintf_s` has two static 64-byte buffers on its
    float path) is what the correspondence run checks by replaying every case after two different shuffles. -/
theorem engine_C11_stateless (h1 h2 : List Call) (c : Call) :
    (runAll (h1 ++ [c])).getLast? = (runAll (h2 ++ [c])).getLast? := by
  simp [runAll]

example : (runAll ([⟨2, current, true, 8, dest8, ['%', 'd'], [.int 5]⟩] ++ [⟨0, current, true, 20, List.replicate 20 'x', exFmt, exArgs⟩])).getLast? =
    (runAll ([] ++ [⟨0, current, true, 20, List.replicate 20 'x', exFmt, exArgs⟩])).getLast? := engine_C11_stateless _ _ _

/-- PARTIAL.  What an earlier call left in `dest` does not influence the next one: for the class of the end-to-end theorem
    return value and stored text are the same for any two previous contents of `dest`. -/
theorem vsnprintf_s_C11_dest_independent_partial (fx : Fixes) (hfx : Repaired fx) (slack : Bool) (dmax : Nat) (init init' : List Char)
    (fmt : Str) (args : List Arg) (T : Str)
    (hT : Spec.printf fmt args = some T) (hok : fmtOK fmt.length fmt args = true)
    (hinit : init.length = dmax) (hinit' : init'.length = dmax) (hd0 : dmax ≠ 0) (hmax : dmax ≤ RSIZE_MAX_STR)
    (hpre : SafeC.Fmt.prescan fmt = false) :
    (vsnprintf_s fx slack dmax init fmt args).ret = (vsnprintf_s fx slack dmax init' fmt args).ret ∧
    (T.length < dmax → (vsnprintf_s fx slack dmax init fmt args).cells.take (T.length + 1) =
                        (vsnprintf_s fx slack dmax init' fmt args).cells.take (T.length + 1)) := by
  obtain ⟨a1, a2, a3⟩ := vsnprintf_s_C11_partial fx hfx slack dmax init fmt args T hT hok hinit hd0 hmax hpre
  obtain ⟨b1, b2, b3⟩ := vsnprintf_s_C11_partial fx hfx slack dmax init' fmt args T hT hok hinit' hd0 hmax hpre
  refine ⟨?_, ?_⟩
  · rcases Nat.lt_trichotomy T.length dmax with h | h | h
    · rw [(a1 h).1, (b1 h).1]
    · rw [(a2 h).1, (b2 h).1]
    · rw [(a3 h).1, (b3 h).1]
  · intro h
    obtain ⟨_, x2, x3⟩ := a1 h
    obtain ⟨_, y2, y3⟩ := b1 h
    rw [List.take_add_one, List.take_add_one, x2, y2, x3, y3]

end SafeC.Props.C11
