import SafeC.Proofs.Footprint
import SafeC.Proofs.InterleaveN
import SafeC.Proofs.AccMem
import SafeC.Proofs.AccFld
import SafeC.Proofs.AccTok
import SafeC.Proofs.AccJustify
import SafeC.Proofs.AccQueryEntry
/-!
# C12 — the footprints of the modelled calls are their operands

For every entry point that has an access-footprint theorem (`Acc`: all loaded values; `AccD` / `AccS`: the
contents at the call) the total run from ANY memory `s` — nothing is assumed about mapping or permissions —
loads only from the operands the caller passes as readable and stores only to the destination operand
(`Within2 R W`).  `Obj p n` are the `n` cells of the object at the non-null pointer `p`; `Str s.data p n`
the cells of the string at `p` up to and including its terminator, cut at `n` cells (the footprint then
depends on the contents of the memory at the call, as it must for `while (*p && n)` loops).

With `C12N.reentrant_n` / `C12N.interleaving_is_sequential` any pool of such calls — different functions
may be mixed, the pool may be of any size — whose destination operands are pairwise disjoint and disjoint
from the other calls' source operands behaves, under every schedule, as if each call ran alone; sources may
be shared.  `memcpy_s_reentrant_n`, `strtok_s_reentrant_n`, `mixed_calls_reentrant` spell this out.
-/
namespace SafeC.Props.C12Fp
open SafeC Gen Mem

/-- the `n` cells of the object at the non-null pointer `p` -/
def Obj (p n : Nat) (a : Nat) : Prop := p ≠ 0 ∧ Cells p n a

def None' (_ : Nat) : Prop := False

theorem memcpy_s_fp (dest dmax src slen : Nat) (db sb : Bos) (hU : db = none ∨ slen % U32 ≠ 0) (s : St) :
    Within2 (fun a => slen ≤ dmax ∧ Obj src slen a) (Obj dest dmax) (memcpy_s dest dmax src slen db sb) s :=
  Acc.within2 (Q := fun _ => True) (Acc_memcpy_s dest dmax src slen db sb (hU.imp_right fun h _ _ => h) (fun h1 h2 _ ha => ⟨h2, h1, ha⟩) (fun h _ ha => ⟨h, ha⟩)) s

theorem memmove_s_fp (dest dmax src slen : Nat) (db sb : Bos) (hU : db = none ∨ slen % U32 ≠ 0) (s : St) :
    Within2 (fun a => slen ≤ dmax ∧ Obj src slen a) (Obj dest dmax) (memmove_s dest dmax src slen db sb) s :=
  Acc.within2 (Q := fun _ => True) (Acc_memmove_s dest dmax src slen db sb (hU.imp_right fun h _ _ => h) (fun h1 h2 _ ha => ⟨h2, h1, ha⟩) (fun h _ ha => ⟨h, ha⟩)) s

theorem memset_s_fp (dest dmax value n : Nat) (db : Bos) (s : St) :
    Within2 None' (Obj dest (db.getD dmax)) (memset_s dest dmax value n db) s :=
  Acc.within2 (Q := fun _ => True) (Acc_memset_s dest dmax value n db (fun h _ ha => ⟨h, ha⟩)) s

theorem memzero_s_fp (dest len : Nat) (db : Bos) (s : St) :
    Within2 None' (Obj dest len) (memzero_s dest len db) s :=
  Acc.within2 (Q := fun _ => True) (Acc_memzero_s dest len db (fun h _ ha => ⟨h, ha⟩)) s

theorem memccpy_s_fp (cfg : Cfg) (dest dmax src c n : Nat) (db sb : Bos) (s : St) :
    Within2 (fun a => (n ≤ dmax ∧ Obj src n a) ∨ Obj dest dmax a) (Obj dest dmax)
      (memccpy_s cfg dest dmax src c n db sb) s :=
  Acc.within2 (Q := fun _ => True) (Acc_memccpy_s cfg dest dmax src c n db sb (fun h1 h2 _ ha => Or.inl ⟨h2, h1, ha⟩)
    (fun h _ ha => Or.inr ⟨h, ha⟩) (fun h _ ha => ⟨h, ha⟩)) s

theorem memzero16_s_fp (dest len : Nat) (db : Bos) (s : St) :
    Within2 None' (Obj dest len) (memzero16_s dest len db) s :=
  Acc.within2 (Q := fun _ => True) (Acc_memzero16_s dest len db (fun h _ ha => ⟨h, ha⟩)) s

theorem memzero32_s_fp (dest len : Nat) (db : Bos) (s : St) :
    Within2 None' (Obj dest len) (memzero32_s dest len db) s :=
  Acc.within2 (Q := fun _ => True) (Acc_memzero32_s dest len db (fun h _ ha => ⟨h, ha⟩)) s

theorem memset16_s_fp (dest dmax value n : Nat) (db : Bos) (s : St) :
    Within2 None' (Obj dest (db.getD dmax / 2)) (memset16_s dest dmax value n db) s :=
  Acc.within2 (Q := fun _ => True) (Acc_memset16_s dest dmax value n db (fun h _ ha => ⟨h, ha⟩)) s

theorem memset32_s_fp (dest dmax value n : Nat) (db : Bos) (s : St) :
    Within2 None' (Obj dest (db.getD dmax / 4)) (memset32_s dest dmax value n db) s :=
  Acc.within2 (Q := fun _ => True) (Acc_memset32_s dest dmax value n db (fun h _ ha => ⟨h, ha⟩)) s

theorem memcpy16_s_fp (dest dmax src slen : Nat) (db sb : Bos) (s : St) :
    Within2 (fun a => Obj src slen a ∨ Obj dest ((db.getD dmax + 1) / 2) a) (Obj dest ((db.getD dmax + 1) / 2))
      (memcpy16_s dest dmax src slen db sb) s :=
  Acc.within2 (Q := fun _ => True) (Acc_memcpy16_s dest dmax src slen db sb (fun h _ ha => Or.inl ⟨h, ha⟩) (fun h _ ha => Or.inr ⟨h, ha⟩)
    (fun h _ ha => ⟨h, ha⟩)) s

theorem memcpy32_s_fp (dest dmax src slen : Nat) (db sb : Bos) (s : St) :
    Within2 (fun a => Obj src slen a ∨ Obj dest ((db.getD dmax + 3) / 4) a) (Obj dest ((db.getD dmax + 3) / 4))
      (memcpy32_s dest dmax src slen db sb) s :=
  Acc.within2 (Q := fun _ => True) (Acc_memcpy32_s dest dmax src slen db sb (fun h _ ha => Or.inl ⟨h, ha⟩) (fun h _ ha => Or.inr ⟨h, ha⟩)
    (fun h _ ha => ⟨h, ha⟩)) s

theorem memmove16_s_fp (dest dmax src slen : Nat) (db sb : Bos) (s : St) :
    Within2 (fun a => Obj src slen a ∨ Obj dest ((db.getD dmax + 1) / 2) a) (Obj dest ((db.getD dmax + 1) / 2))
      (memmove16_s dest dmax src slen db sb) s :=
  Acc.within2 (Q := fun _ => True) (Acc_memmove16_s dest dmax src slen db sb (fun h _ ha => Or.inl ⟨h, ha⟩) (fun h _ ha => Or.inr ⟨h, ha⟩)
    (fun h _ ha => ⟨h, ha⟩)) s

theorem memmove32_s_fp (dest dmax src slen : Nat) (db sb : Bos) (s : St) :
    Within2 (fun a => Obj src slen a ∨ Obj dest ((db.getD dmax + 3) / 4) a) (Obj dest ((db.getD dmax + 3) / 4))
      (memmove32_s dest dmax src slen db sb) s :=
  Acc.within2 (Q := fun _ => True) (Acc_memmove32_s dest dmax src slen db sb (fun h _ ha => Or.inl ⟨h, ha⟩) (fun h _ ha => Or.inr ⟨h, ha⟩)
    (fun h _ ha => ⟨h, ha⟩)) s

theorem wmemcpy_s_fp (dest dlen src count : Nat) (db sb : Bos) (s : St) :
    Within2 (Obj src count) (Obj dest dlen) (wmemcpy_s dest dlen src count db sb) s :=
  Acc.within2 (Q := fun _ => True) (Acc_wmemcpy_s dest dlen src count db sb (fun h _ ha => ⟨h, ha⟩) (fun h _ ha => ⟨h, ha⟩)) s

theorem wmemmove_s_fp (dest dlen src count : Nat) (db sb : Bos) (s : St) :
    Within2 (Obj src count) (Obj dest dlen) (wmemmove_s dest dlen src count db sb) s :=
  Acc.within2 (Q := fun _ => True) (Acc_wmemmove_s dest dlen src count db sb (fun h _ ha => ⟨h, ha⟩) (fun h _ ha => ⟨h, ha⟩)) s

theorem fld_fp (kind : FldKind) (cfg : Cfg) (dest dmax src slen : Nat) (b : Bos) (s : St) :
    Within2 (fun a => Obj src slen a ∨ Obj dest dmax a) (Obj dest dmax) (fldG kind cfg dest dmax src slen b) s :=
  AccS.within2 (Q := fun _ _ => True) (fldG_accs kind cfg dest dmax src slen b (fun h _ ha => Or.inl ⟨h, ha⟩) (fun h _ ha => Or.inr ⟨h, ha⟩)
    (fun h _ ha => ⟨h, ha⟩)) s rfl

theorem strnlen_s_fp (str smax : Nat) (b : Bos) (s : St) :
    Within2 (Obj str smax) None' (strnlen_s str smax b) s :=
  Acc.within2 (Q := fun r => r ≤ smax) (Acc_strnlen_s_le str smax b (fun h _ ha => ⟨h, ha⟩)) s

theorem memrchr_s_fp (dest dmax : Nat) (ch : Int) (b : Bos) (s : St) :
    Within2 (Obj dest dmax) None' (memrchr_s dest dmax ch b) s :=
  Acc.within2 (Q := fun _ => True) (Acc_memrchr_s dest dmax ch b (fun h _ ha => ⟨h, ha⟩)) s

theorem strrchr_s_fp (dest dmax : Nat) (ch : Int) (b : Bos) (s : St) :
    Within2 (Obj dest dmax) None' (strrchr_s dest dmax ch b) s :=
  Acc.within2 (Q := fun _ => True) (Acc_strrchr_s dest dmax ch b (fun h _ ha => ⟨h, ha⟩)) s

theorem wmemcmp_s_fp (dest dlen src slen : Nat) (db sb : Bos) (s : St) :
    Within2 (fun a => (slen ≤ dlen ∧ Obj dest slen a) ∨ Obj src slen a) None' (wmemcmp_s dest dlen src slen db sb) s :=
  Acc.within2 (Q := fun _ => True) (Acc_wmemcmp_s dest dlen src slen db sb (fun h1 h2 _ ha => Or.inl ⟨h2, h1, ha⟩)
    (fun h _ ha => Or.inr ⟨h, ha⟩)) s

theorem timingsafe_bcmp_fp (b1 b2 n : Nat) (db sb : Bos) (s : St) :
    Within2 (fun a => Cells b1 n a ∨ Cells b2 n a) None' (timingsafe_bcmp b1 b2 n db sb) s :=
  Acc.within2 (Q := fun _ => True) (Acc_timingsafe_bcmp b1 b2 n db sb (fun _ ha => Or.inl ha) (fun _ ha => Or.inr ha)) s

theorem timingsafe_memcmp_fp (b1 b2 n : Nat) (db sb : Bos) (s : St) :
    Within2 (fun a => Cells b1 n a ∨ Cells b2 n a) None' (timingsafe_memcmp b1 b2 n db sb) s :=
  Acc.within2 (Q := fun _ => True) (Acc_timingsafe_memcmp b1 b2 n db sb (fun _ ha => Or.inl ha) (fun _ ha => Or.inr ha)) s

theorem strnterminate_s_fp (cfg : Cfg) (dest dmax : Nat) (b : Bos) (s : St) :
    Within2 (Obj dest (dmax - 1)) (Obj dest dmax) (strnterminate_s cfg dest dmax b) s :=
  Acc.within2 (Q := fun _ => True) (Acc_strnterminate_s cfg dest dmax b (fun h _ ha => ⟨h, ha⟩) (fun h _ ha => ⟨h, ha⟩)) s

/-- the cells of the string at the non-null pointer `p`, terminator included, cut at `n` cells -/
def StrObj (d : Nat → Nat) (p n : Nat) (a : Nat) : Prop := p ≠ 0 ∧ Str d p n a

/-- what a tokenizer call may touch: the string being tokenized (at `dest`, or at `*ptr` when `dest` is
NULL), cut at `*dmax + 1` cells -/
def TokCells (d : Nat → Nat) (dest : Nat) (dmaxp ptr : Option Nat) (a : Nat) : Prop :=
  ∃ dmax pv, dmaxp = some dmax ∧ ptr = some pv ∧ StrObj d (tokBuf dest pv) (dmax + 1) a

theorem strtok_s_fp (dest : Nat) (dmaxp : Option Nat) (delim : Nat) (ptr : Option Nat) (b : Bos) (s : St) :
    Within2 (fun a => TokCells s.data dest dmaxp ptr a ∨ StrObj s.data delim (STRTOK_DELIM_MAX_LEN + 1) a)
      (TokCells s.data dest dmaxp ptr) (strtok_s dest dmaxp delim ptr b) s :=
  AccS.within2 (Q := fun _ _ => True) (strtok_s_accs dest dmaxp delim ptr b
    (fun dmax pv h1 h2 h3 _ ha => Or.inl ⟨dmax, pv, h1, h2, h3, ha⟩)
    (fun dmax pv h1 h2 h3 _ ha => ⟨dmax, pv, h1, h2, h3, ha⟩)
    (fun h _ ha => Or.inr ⟨h, ha⟩)) s rfl

theorem wcstok_s_fp (dest : Nat) (dmaxp : Option Nat) (delim : Nat) (ptr : Option Nat) (b : Bos) (s : St) :
    Within2 (fun a => TokCells s.data dest dmaxp ptr a ∨ StrObj s.data delim (STRTOK_DELIM_MAX_LEN + 1) a)
      (TokCells s.data dest dmaxp ptr) (wcstok_s dest dmaxp delim ptr b) s :=
  AccS.within2 (Q := fun _ _ => True) (wcstok_s_accs dest dmaxp delim ptr b
    (fun dmax pv h1 h2 h3 _ ha => Or.inl ⟨dmax, pv, h1, h2, h3, ha⟩)
    (fun dmax pv h1 h2 h3 _ ha => ⟨dmax, pv, h1, h2, h3, ha⟩)
    (fun h _ ha => Or.inr ⟨h, ha⟩)) s rfl

theorem strljustify_s_fp (cfg : Cfg) (dest dmax : Nat) (b : Bos) (s : St) :
    Within2 (StrObj s.data dest (dmax + 1)) (Obj dest dmax) (strljustify_s cfg dest dmax b) s :=
  AccS.within2 (Q := fun _ _ => True) (strljustify_s_accs cfg dest dmax b (fun h _ ha => ⟨h, ha⟩) (fun h _ ha => ⟨h, ha⟩)) s rfl

theorem strset_s_fp (cfg : Cfg) (dest dmax value : Nat) (b : Bos) (s : St) :
    Within2 (StrObj s.data dest (dmax + 1)) (Obj dest dmax) (strset_s cfg dest dmax value b) s :=
  AccS.within2 (Q := fun _ _ => True) (strset_s_accs cfg dest dmax value b (fun h _ ha => ⟨h, ha⟩) (fun h _ ha => ⟨h, ha⟩)) s rfl

theorem strzero_s_fp (cfg : Cfg) (dest dmax : Nat) (b : Bos) (s : St) :
    Within2 (StrObj s.data dest (dmax + 1)) (Obj dest dmax) (strzero_s cfg dest dmax b) s :=
  AccS.within2 (Q := fun _ _ => True) (strzero_s_accs cfg dest dmax b (fun h _ ha => ⟨h, ha⟩) (fun h _ ha => ⟨h, ha⟩)) s rfl

theorem strnset_s_fp (cfg : Cfg) (dest dmax value n : Nat) (b : Bos) (s : St) :
    Within2 (fun a => n ≤ dmax ∧ StrObj s.data dest (n + 1) a) (Obj dest dmax) (strnset_s cfg dest dmax value n b) s :=
  AccS.within2 (Q := fun _ _ => True) (strnset_s_accs cfg dest dmax value n b (fun h hn _ ha => ⟨hn, h, ha⟩) (fun h _ ha => ⟨h, ha⟩)) s rfl

theorem wcsset_s_fp (cfg : Cfg) (dest dmax value : Nat) (b : Bos) (s : St) :
    Within2 (StrObj s.data dest (dmax + 1)) (Obj dest dmax) (wcsset_s cfg dest dmax value b) s :=
  AccS.within2 (Q := fun _ _ => True) (wcsset_s_accs cfg dest dmax value b (fun h _ ha => ⟨h, ha⟩) (fun h _ ha => ⟨h, ha⟩)) s rfl

theorem wcsnset_s_fp (cfg : Cfg) (dest dmax value n : Nat) (b : Bos) (s : St) :
    Within2 (fun a => n ≤ dmax ∧ StrObj s.data dest (n + 1) a) (Obj dest dmax) (wcsnset_s cfg dest dmax value n b) s :=
  AccS.within2 (Q := fun _ _ => True) (wcsnset_s_accs cfg dest dmax value n b (fun h hn _ ha => ⟨hn, h, ha⟩) (fun h _ ha => ⟨h, ha⟩)) s rfl

theorem strcmp_s_fp (dest dmax src : Nat) (db sb : Bos) (s : St) :
    Within2 (fun a => StrObj s.data dest (dmax + 1) a ∨ StrObj s.data src (dmax + 1) a) None'
      (strcmp_s dest dmax src db sb) s :=
  AccD.within2 (Q := fun _ => True) (strcmp_s_acc dest dmax src db sb (fun h _ ha => Or.inl ⟨h, ha⟩) (fun h _ ha => Or.inr ⟨h, ha⟩)) s rfl

theorem strcasecmp_s_fp (dest dmax src : Nat) (db : Bos) (s : St) :
    Within2 (fun a => StrObj s.data dest (dmax + 1) a ∨ StrObj s.data src (dmax + 1) a) None'
      (strcasecmp_s dest dmax src db) s :=
  AccD.within2 (Q := fun _ => True) (strcasecmp_s_acc dest dmax src db (fun h _ ha => Or.inl ⟨h, ha⟩) (fun h _ ha => Or.inr ⟨h, ha⟩)) s rfl

variable {ι : Type} [DecidableEq ι]

/-- **N concurrent `memcpy_s` calls** (any index type, any schedule): destinations pairwise disjoint and
disjoint from every other call's source; sources may overlap each other or be one and the same object.
A call that has returned has returned its run-alone code and its destination holds its run-alone bytes. -/
theorem memcpy_s_reentrant_n (dest dmax src slen : ι → Nat) (db sb : ι → Bos)
    (hU : ∀ i, db i = none ∨ slen i % U32 ≠ 0)
    (hdd : ∀ i j, i ≠ j → ∀ a, Obj (dest i) (dmax i) a → ¬ Obj (dest j) (dmax j) a)
    (hds : ∀ i j, i ≠ j → ∀ a, Obj (dest i) (dmax i) a → ¬ Obj (src j) (slen j) a)
    (sch : List ι) (s : St) (i : ι)
    (hd : ((runPool sch (fun j => (⟨Nat, memcpy_s (dest j) (dmax j) (src j) (slen j) (db j) (sb j)⟩ : Thread)) s).1 i).isDone = true) :
    (runPool sch (fun j => (⟨Nat, memcpy_s (dest j) (dmax j) (src j) (slen j) (db j) (sb j)⟩ : Thread)) s).1 i =
      ⟨Nat, .ret (runT (memcpy_s (dest i) (dmax i) (src i) (slen i) (db i) (sb i)) s).1⟩ ∧
    ∀ a, Obj (dest i) (dmax i) a →
      (runPool sch (fun j => (⟨Nat, memcpy_s (dest j) (dmax j) (src j) (slen j) (db j) (sb j)⟩ : Thread)) s).2.data a =
        (runT (memcpy_s (dest i) (dmax i) (src i) (slen i) (db i) (sb i)) s).2.data a := by
  have h := pool_finished
    (R := fun j a => slen j ≤ dmax j ∧ Obj (src j) (slen j) a) (W := fun j => Obj (dest j) (dmax j))
    (fun i j hij a hw => ⟨fun hr => hds i j hij a hw hr.2, hdd i j hij a hw⟩)
    sch (fun j => (⟨Nat, memcpy_s (dest j) (dmax j) (src j) (slen j) (db j) (sb j)⟩ : Thread)) s
    (fun j => memcpy_s_fp (dest j) (dmax j) (src j) (slen j) (db j) (sb j) (hU j) s) i hd
  exact ⟨h.1, fun a ha => h.2 a (Or.inr ha)⟩

/-- non-vacuity of the hypotheses of `memcpy_s_reentrant_n`: two threads copy 8 bytes from the SAME source at
300 into the disjoint destinations 100 and 200 -/
example : (∀ i j : Fin 2, i ≠ j → ∀ a, Obj (100 + 100 * i.val) 16 a → ¬ Obj (100 + 100 * j.val) 16 a) ∧
    (∀ i j : Fin 2, i ≠ j → ∀ a, Obj (100 + 100 * i.val) 16 a → ¬ Obj 300 8 a) := by
  constructor
  · intro i j hij a ⟨_, h1, h2⟩ ⟨_, h3, h4⟩
    omega
  · intro i j _ a ⟨_, h1, h2⟩ ⟨_, h3, h4⟩
    omega

/-- **N concurrent tokenizer calls** on thread-private strings: the delimiter sets may be shared (they are
only read); each returned call gives its run-alone token and leaves its run-alone string -/
theorem strtok_s_reentrant_n (dest : ι → Nat) (dmaxp : ι → Option Nat) (delim : ι → Nat) (ptr : ι → Option Nat)
    (b : ι → Bos) (s : St)
    (hpriv : ∀ i j, i ≠ j → ∀ a, TokCells s.data (dest i) (dmaxp i) (ptr i) a →
      ¬ TokCells s.data (dest j) (dmaxp j) (ptr j) a ∧ ¬ StrObj s.data (delim j) (STRTOK_DELIM_MAX_LEN + 1) a)
    (sch : List ι) (i : ι)
    (hd : ((runPool sch (fun j => (⟨_, strtok_s (dest j) (dmaxp j) (delim j) (ptr j) (b j)⟩ : Thread)) s).1 i).isDone = true) :
    (runPool sch (fun j => (⟨_, strtok_s (dest j) (dmaxp j) (delim j) (ptr j) (b j)⟩ : Thread)) s).1 i =
      ⟨_, .ret (runT (strtok_s (dest i) (dmaxp i) (delim i) (ptr i) (b i)) s).1⟩ ∧
    ∀ a, TokCells s.data (dest i) (dmaxp i) (ptr i) a →
      (runPool sch (fun j => (⟨_, strtok_s (dest j) (dmaxp j) (delim j) (ptr j) (b j)⟩ : Thread)) s).2.data a =
        (runT (strtok_s (dest i) (dmaxp i) (delim i) (ptr i) (b i)) s).2.data a := by
  have h := pool_finished
    (R := fun j a => TokCells s.data (dest j) (dmaxp j) (ptr j) a ∨ StrObj s.data (delim j) (STRTOK_DELIM_MAX_LEN + 1) a)
    (W := fun j => TokCells s.data (dest j) (dmaxp j) (ptr j))
    (fun i j hij a hw => ⟨fun hr => hr.elim (hpriv i j hij a hw).1 (hpriv i j hij a hw).2, (hpriv i j hij a hw).1⟩)
    sch (fun j => (⟨_, strtok_s (dest j) (dmaxp j) (delim j) (ptr j) (b j)⟩ : Thread)) s
    (fun j => strtok_s_fp (dest j) (dmaxp j) (delim j) (ptr j) (b j) s) i hd
  exact ⟨h.1, fun a ha => h.2 a (Or.inr ha)⟩

/-- three different calls: `memset_s(d0, …)`, `memcpy_s(d1, …, src, len)`, `strnlen_s(src, smax)` -/
def mixed (d0 m0 v n0 d1 m1 src len smax : Nat) : Fin 3 → Thread
  | 0 => ⟨Nat, memset_s d0 m0 v n0 none⟩
  | 1 => ⟨Nat, memcpy_s d1 m1 src len none none⟩
  | 2 => ⟨Nat, strnlen_s src smax none⟩

def mixedR (m1 src len smax : Nat) : Fin 3 → Nat → Prop
  | 0 => None'
  | 1 => fun a => len ≤ m1 ∧ Obj src len a
  | 2 => Obj src smax

def mixedW (d0 m0 d1 m1 : Nat) : Fin 3 → Nat → Prop
  | 0 => Obj d0 m0
  | 1 => Obj d1 m1
  | 2 => None'

/-- **different functions mixed**: `memset_s(d0, …)` ∥ `memcpy_s(d1, …, src)` ∥ `strnlen_s(src, …)` — the
copy and the length query read the SAME source; the destinations are disjoint from each other and from
the source.  Every schedule that lets all three finish leaves exactly the memory of running them one after
the other (here in the order 0, 1, 2; any other order by `C12N.interleaving_is_sequential`), and each call
has returned what it returns alone. -/
theorem mixed_calls_reentrant (d0 m0 v n0 d1 m1 src len smax : Nat) (s : St)
    (h01 : ∀ a, Obj d0 m0 a → ¬ Obj d1 m1 a)
    (h0s : ∀ a, Obj d0 m0 a → ¬ Obj src len a ∧ ¬ Obj src smax a)
    (h1s : ∀ a, Obj d1 m1 a → ¬ Obj src len a ∧ ¬ Obj src smax a)
    (sch : List (Fin 3))
    (hfin : ∀ i, ((runPool sch (mixed d0 m0 v n0 d1 m1 src len smax) s).1 i).isDone = true) :
    (runPool sch (mixed d0 m0 v n0 d1 m1 src len smax) s).2.data =
      (runT (strnlen_s src smax none) (runT (memcpy_s d1 m1 src len none none)
        (runT (memset_s d0 m0 v n0 none) s).2).2).2.data ∧
    ∀ i, (runPool sch (mixed d0 m0 v n0 d1 m1 src len smax) s).1 i =
      (mixed d0 m0 v n0 d1 m1 src len smax i).finish s := by
  have hni : NonInterf (mixedR m1 src len smax) (mixedW d0 m0 d1 m1) := by
    intro i j hij a hw
    match i, j with
    | 0, 0 => exact absurd rfl hij
    | 1, 1 => exact absurd rfl hij
    | 2, 2 => exact absurd rfl hij
    | 0, 1 => exact ⟨fun h => (h0s a hw).1 h.2, h01 a hw⟩
    | 0, 2 => exact ⟨(h0s a hw).2, fun h => h⟩
    | 1, 0 => exact ⟨fun h => h, fun h => h01 a h hw⟩
    | 1, 2 => exact ⟨(h1s a hw).2, fun h => h⟩
    | 2, 0 => exact hw.elim
    | 2, 1 => exact hw.elim
  have hw : ∀ i, (mixed d0 m0 v n0 d1 m1 src len smax i).Fp (mixedR m1 src len smax i) (mixedW d0 m0 d1 m1 i) s := by
    intro i
    match i with
    | 0 => exact memset_s_fp d0 m0 v n0 none s
    | 1 => exact memcpy_s_fp d1 m1 src len none none (Or.inl rfl) s
    | 2 => exact strnlen_s_fp src smax none s
  have h := interleave_eq_seq hni sch (mixed d0 m0 v n0 d1 m1 src len smax) s hw [0, 1, 2] (by decide) (by decide) hfin
  exact ⟨h.2, fun i => (pool_finished hni sch _ s hw i (hfin i)).1⟩

end SafeC.Props.C12Fp
