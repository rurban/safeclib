import SafeC.Props.C01
import SafeC.Proofs.SWMem
/-!
# C01 (extension) — the memory family: `memcpy_s memmove_s memccpy_s mem{cpy,move}{16,32}_s wmem{cpy,move}_s`

Setting and conclusion of `Props/C01.lean`; ALL arguments, including the invalid ones (NULL, zero, over the limit,
`slen > dmax`, overlapping, element counts whose byte size wraps).  Memory is addressed in cells of the function's
element width; a byte size `E` covers `⌈E / w⌉` cells.

* `wmemcpy_s`, `wmemmove_s`, `memccpy_s`: full, whatever the object-size knowledge.
* `memcpy_s`, `memmove_s`: full with the object size unknown; with a KNOWN object size the `RSIZE_MAX_MEM` test is skipped,
  and the proof needs `dmax < 2^32` (`mem_prim_move` takes a `uint32_t` length: a multiple of 2^32 arrives as 0 and the
  `do … while (--tsp)` prologue then runs 2^64 times on unaligned pointers) — `_bos_partial`.
* `mem{cpy,move}{16,32}_s`: full with the object size unknown; a known object size REPLACES `dmax`
  (`mem16-32-bos-widens-dmax`): `_bos_partial` with the extent the code uses, `_witness` for the declared one.
-/
namespace SafeC.Props.C01
open SafeC

/-- **memcpy_s**, dest object size unknown: all arguments, all placements -/
theorem memcpy_s_C01 (dest dmax src slen : Nat) (sb : Bos) (st : St) (hs : Setting st)
    (hrw : dest ≠ 0 → RW st dest dmax) :
    ∃ code st', exec (memcpy_s dest dmax src slen none sb) st = .ok (code, st') ∧ Holds st st' :=
  holds_of_Acc hs (Acc_memcpy_s dest dmax src slen none sb (.inl rfl) (fun _ _ _ _ => trivial) (C02.Wr_of_RW.guard hrw))

/-- **memmove_s**, dest object size unknown -/
theorem memmove_s_C01 (dest dmax src slen : Nat) (sb : Bos) (st : St) (hs : Setting st)
    (hrw : dest ≠ 0 → RW st dest dmax) :
    ∃ code st', exec (memmove_s dest dmax src slen none sb) st = .ok (code, st') ∧ Holds st st' :=
  holds_of_Acc hs (Acc_memmove_s dest dmax src slen none sb (.inl rfl) (fun _ _ _ _ => trivial) (C02.Wr_of_RW.guard hrw))

/-- **memcpy_s, dest object size known** (any value): all arguments with `dmax < 2^32`.  Without `hb` the statement is not
proved and believed false of the model for `slen = dmax = k * 2^32` with unaligned operands (see the header); there is no
kernel-decidable witness (2^64 loop passes). -/
theorem memcpy_s_C01_bos_partial (dest dmax src slen : Nat) (db sb : Bos) (st : St) (hs : Setting st)
    (hb : bosSmall dmax db) (hrw : dest ≠ 0 → RW st dest dmax) :
    ∃ code st', exec (memcpy_s dest dmax src slen db sb) st = .ok (code, st') ∧ Holds st st' :=
  holds_of_Acc hs (Acc_memcpy_s dest dmax src slen db sb hb.hU (fun _ _ _ _ => trivial) (C02.Wr_of_RW.guard hrw))

/-- **memmove_s, dest object size known** -/
theorem memmove_s_C01_bos_partial (dest dmax src slen : Nat) (db sb : Bos) (st : St) (hs : Setting st)
    (hb : bosSmall dmax db) (hrw : dest ≠ 0 → RW st dest dmax) :
    ∃ code st', exec (memmove_s dest dmax src slen db sb) st = .ok (code, st') ∧ Holds st st' :=
  holds_of_Acc hs (Acc_memmove_s dest dmax src slen db sb hb.hU (fun _ _ _ _ => trivial) (C02.Wr_of_RW.guard hrw))

/-- **memccpy_s**: all arguments, any stop character, both slack configurations, any object-size knowledge -/
theorem memccpy_s_C01 (cfg : Cfg) (dest dmax src c n : Nat) (db sb : Bos) (st : St) (hs : Setting st)
    (hrw : dest ≠ 0 → RW st dest dmax) :
    ∃ code st', exec (memccpy_s cfg dest dmax src c n db sb) st = .ok (code, st') ∧ Holds st st' :=
  holds_of_Acc hs (Acc_memccpy_s cfg dest dmax src c n db sb (fun _ _ _ _ => trivial) (fun _ _ _ => trivial) (C02.Wr_of_RW.guard hrw))

/-- **wmemcpy_s** (`dlen`, `count` in `wchar_t` elements): all arguments, any object-size knowledge — also element
counts `≥ 2^62` whose byte size wraps (`mem-size-multiplication-wraps`: the primitives truncate the same way) -/
theorem wmemcpy_s_C01 (dest dlen src count : Nat) (db sb : Bos) (st : St) (hs : Setting st)
    (hrw : dest ≠ 0 → RW st dest dlen) :
    ∃ code st', exec (wmemcpy_s dest dlen src count db sb) st = .ok (code, st') ∧ Holds st st' :=
  holds_of_Acc hs (Acc_wmemcpy_s dest dlen src count db sb (fun _ _ _ => trivial) (C02.Wr_of_RW.guard hrw))

theorem wmemmove_s_C01 (dest dlen src count : Nat) (db sb : Bos) (st : St) (hs : Setting st)
    (hrw : dest ≠ 0 → RW st dest dlen) :
    ∃ code st', exec (wmemmove_s dest dlen src count db sb) st = .ok (code, st') ∧ Holds st st' :=
  holds_of_Acc hs (Acc_wmemmove_s dest dlen src count db sb (fun _ _ _ => trivial) (C02.Wr_of_RW.guard hrw))

/-! ## the 16/32-bit copies: `dmax` in BYTES, cells of 2 / 4 bytes -/

/-- **memcpy16_s**, dest object size unknown: all arguments; the `dmax` bytes are `⌈dmax/2⌉` cells -/
theorem memcpy16_s_C01 (dest dmax src slen : Nat) (sb : Bos) (st : St) (hs : Setting st)
    (hrw : dest ≠ 0 → RW st dest ((dmax + 1) / 2)) :
    ∃ code st', exec (memcpy16_s dest dmax src slen none sb) st = .ok (code, st') ∧ Holds st st' :=
  holds_of_Acc hs (Acc_memcpy16_s dest dmax src slen none sb (fun _ _ _ => trivial) (fun _ _ _ => trivial) (C02.Wr_of_RW.guard hrw))

theorem memmove16_s_C01 (dest dmax src slen : Nat) (sb : Bos) (st : St) (hs : Setting st)
    (hrw : dest ≠ 0 → RW st dest ((dmax + 1) / 2)) :
    ∃ code st', exec (memmove16_s dest dmax src slen none sb) st = .ok (code, st') ∧ Holds st st' :=
  holds_of_Acc hs (Acc_memmove16_s dest dmax src slen none sb (fun _ _ _ => trivial) (fun _ _ _ => trivial) (C02.Wr_of_RW.guard hrw))

theorem memcpy32_s_C01 (dest dmax src slen : Nat) (sb : Bos) (st : St) (hs : Setting st)
    (hrw : dest ≠ 0 → RW st dest ((dmax + 3) / 4)) :
    ∃ code st', exec (memcpy32_s dest dmax src slen none sb) st = .ok (code, st') ∧ Holds st st' :=
  holds_of_Acc hs (Acc_memcpy32_s dest dmax src slen none sb (fun _ _ _ => trivial) (fun _ _ _ => trivial) (C02.Wr_of_RW.guard hrw))

theorem memmove32_s_C01 (dest dmax src slen : Nat) (sb : Bos) (st : St) (hs : Setting st)
    (hrw : dest ≠ 0 → RW st dest ((dmax + 3) / 4)) :
    ∃ code st', exec (memmove32_s dest dmax src slen none sb) st = .ok (code, st') ∧ Holds st st' :=
  holds_of_Acc hs (Acc_memmove32_s dest dmax src slen none sb (fun _ _ _ => trivial) (fun _ _ _ => trivial) (C02.Wr_of_RW.guard hrw))

/-- **memcpy16_s, dest object size known**: every store lands inside the OBJECT (`destbos` bytes), not inside `dmax`.  With
`RW st dest ((dmax + 1) / 2)` the statement is false of the model (`mem16-32-bos-widens-dmax`): the code does
`dmax = destbos;`. -/
theorem memcpy16_s_C01_bos_partial (dest dmax src slen bos : Nat) (sb : Bos) (st : St) (hs : Setting st)
    (hrw : dest ≠ 0 → RW st dest ((bos + 1) / 2)) :
    ∃ code st', exec (memcpy16_s dest dmax src slen (some bos) sb) st = .ok (code, st') ∧ Holds st st' :=
  holds_of_Acc hs (Acc_memcpy16_s dest dmax src slen (some bos) sb (fun _ _ _ => trivial) (fun _ _ _ => trivial) (C02.Wr_of_RW.guard hrw))

theorem memmove16_s_C01_bos_partial (dest dmax src slen bos : Nat) (sb : Bos) (st : St) (hs : Setting st)
    (hrw : dest ≠ 0 → RW st dest ((bos + 1) / 2)) :
    ∃ code st', exec (memmove16_s dest dmax src slen (some bos) sb) st = .ok (code, st') ∧ Holds st st' :=
  holds_of_Acc hs (Acc_memmove16_s dest dmax src slen (some bos) sb (fun _ _ _ => trivial) (fun _ _ _ => trivial) (C02.Wr_of_RW.guard hrw))

theorem memcpy32_s_C01_bos_partial (dest dmax src slen bos : Nat) (sb : Bos) (st : St) (hs : Setting st)
    (hrw : dest ≠ 0 → RW st dest ((bos + 3) / 4)) :
    ∃ code st', exec (memcpy32_s dest dmax src slen (some bos) sb) st = .ok (code, st') ∧ Holds st st' :=
  holds_of_Acc hs (Acc_memcpy32_s dest dmax src slen (some bos) sb (fun _ _ _ => trivial) (fun _ _ _ => trivial) (C02.Wr_of_RW.guard hrw))

theorem memmove32_s_C01_bos_partial (dest dmax src slen bos : Nat) (sb : Bos) (st : St) (hs : Setting st)
    (hrw : dest ≠ 0 → RW st dest ((bos + 3) / 4)) :
    ∃ code st', exec (memmove32_s dest dmax src slen (some bos) sb) st = .ok (code, st') ∧ Holds st st' :=
  holds_of_Acc hs (Acc_memmove32_s dest dmax src slen (some bos) sb (fun _ _ _ => trivial) (fun _ _ _ => trivial) (C02.Wr_of_RW.guard hrw))

/-- dest = 100: 4 cells (8 bytes) declared inside an 8-cell (16-byte) object; source at 200 -/
def memSt : St :=
  { data := fun a => a % 251, mapped := fun _ => true, rd := fun _ => true
    wr := fun a => decide (100 ≤ a ∧ a < 104) }

/-- the excluded point: `memcpy16_s(d, 8 bytes, s, 5)` with destbos 16: EOK-path copy of 5 elements, `d[4]` written -/
theorem memcpy16_s_C01_bos_witness :
    strayWrites (exec (memcpy16_s 100 8 200 5 (some 16) none) memSt) = some [.wr 104] := by decide

theorem memmove16_s_C01_bos_witness :
    strayWrites (exec (memmove16_s 100 8 200 5 (some 16) none) memSt) = some [.wr 104] := by decide

/-- `memcpy32_s(d, 16 bytes, s, 5)` with destbos 32 -/
theorem memcpy32_s_C01_bos_witness :
    strayWrites (exec (memcpy32_s 100 16 200 5 (some 32) none) memSt) = some [.wr 104] := by decide

theorem memmove32_s_C01_bos_witness :
    strayWrites (exec (memmove32_s 100 16 200 5 (some 32) none) memSt) = some [.wr 104] := by decide

example : Setting memSt ∧ RW memSt 100 ((8 + 1) / 2) ∧ bosSmall 8 (some 16) :=
  ⟨⟨fun _ => ⟨rfl, rfl⟩, rfl⟩, fun i hi => ⟨rfl, by simp [memSt]; omega, rfl⟩, (by decide : (8 : Nat) < 4294967296)⟩

end SafeC.Props.C01
