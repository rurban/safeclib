import SafeC.Proofs.StpAll
import SafeC.Proofs.FldSteps
import SafeC.Proofs.MemccpyExact
import SafeC.Props.C06ExtMem
/-!
# C06 (extension 2) — `stpcpy_s` / `stpncpy_s`: success means the exact, complete result and the right pointer
(further down: the field copies `strcpyfld_s` / `strcpyfldin_s` / `strcpyfldout_s`, and `memccpy_s` without the stop character)

Setting of `Props/C07Ext.lean`: every cell mapped and readable with ARBITRARY contents, the `dmax` cells of dest
writable, usable sizes (`dest ≠ 0`, `0 < dmax ≤ RSIZE_MAX_STR`, a known object size not smaller than `dmax`, a known
source size that contains the string resp. `slen`); `cfg` — both slack configurations and every repair switch — is
universally quantified.  The source is a string of `n` non-NUL cells followed by a NUL, at ANY address different
from dest (before, inside, behind dest); `m` = number of characters `stpncpy_s` copies (`m < slen` and the string
ends there, or `slen = m`).

* `stpcpy_s_C06` / `stpncpy_s_C06`: `*errp = EOK` EXACTLY when the complete result including its terminator fits in
  `dmax` AND the `m + 1` cells read and the `m + 1` cells written do not meet; then the returned pointer is
  `dest + m` — the address of the terminator —, `dest[0..m)` are the source characters (values before the call),
  `dest[m] = 0`, with null-slack `dest[m..dmax) = 0`, no handler call, nothing outside dest changed.  Otherwise the
  pointer is NULL, `dest[0] = 0`, and the code is ESOVRLP or ESNOSPC: never a shortened or corrupted result
  reported as success.
* `*_C06_same`: `src == dest` as the code defines it: the walk to the terminator.
-/
namespace SafeC.Props.C06
open SafeC Gen

/-- the conclusion shared by the two entry points (`m` characters copied) -/
def StpC06 (cfg : Cfg) (dest dmax src m : Nat) (st st' : St) (r : Nat × Nat) : Prop :=
  (r.2 = EOK ↔ m + 1 ≤ dmax ∧ (dest + m < src ∨ src + m < dest)) ∧
  (r.2 = EOK → r.1 = dest + m ∧ cells st' dest m = cells st src m ∧ st'.data (dest + m) = 0 ∧
    (cfg.slack = true → ∀ i, m ≤ i → i < dmax → st'.data (dest + i) = 0) ∧
    st'.events = st.events ∧ st'.strays = st.strays ∧
    (∀ a, ¬ (dest ≤ a ∧ a < dest + dmax) → st'.data a = st.data a)) ∧
  (r.2 ≠ EOK → r.1 = 0 ∧ st'.data dest = 0 ∧ (r.2 = ESOVRLP ∨ r.2 = ESNOSPC) ∧
    st'.events = st.events ++ [.handler .str r.2] ∧
    (∀ a, ¬ (dest ≤ a ∧ a < dest + dmax) → st'.data a = st.data a))

private theorem stpC06_of_all {cfg : Cfg} {dest dmax src m g : Nat} {st st' : St} {r : Nat × Nat}
    (hg : 0 < g ∧ ((dest < src ∧ src = dest + g) ∨ (src < dest ∧ dest = src + g)))
    (h : StpAll cfg dest dmax src m g st st' r) : StpC06 cfg dest dmax src m st st' r := by
  have hgm : m < g ↔ (dest + m < src ∨ src + m < dest) :=
    apart_iff (hg.2.imp id (fun h => ⟨Nat.le_of_lt h.1, h.2⟩)) (m+1)
  obtain ⟨_, hok, _, hcases, hdone, hfail⟩ := h.1.codes
  refine ⟨hok.trans (and_congr_right' hgm), fun hc => ?_, fun hc => ?_⟩
  · obtain ⟨hm, c1, c2, c3, c4⟩ := hdone hc
    exact ⟨h.2.trans (if_pos hc), cells_eq st st' dest src m c1, c2, c3, hm.events, hm.strays, c4⟩
  · have hp := hfail hc
    exact ⟨h.2.trans (if_neg hc), hp.first, hcases.resolve_left hc, hp.events, hp.frame⟩

/-- **stpcpy_s, every placement of a source string of length `n`** (`src ≠ dest`): EOK exactly when `n + 1 ≤ dmax`
and the `n + 1` cells read and written do not meet; then pointer `dest + n` and the exact result -/
theorem stpcpy_s_C06 (cfg : Cfg) (dest dmax src n : Nat) (destbos srcbos : Bos) (st : St)
    (hall : ∀ a, st.mapped a = true ∧ st.rd a = true)
    (hd : dest ≠ 0) (hs : src ≠ 0) (hne : dest ≠ src) (hpos : 0 < dmax) (hle : dmax ≤ RSIZE_MAX_STR)
    (hb : ∀ b, destbos = some b → dmax ≤ b) (hsb : ∀ sb, srcbos = some sb → n < sb)
    (hrw : RW st dest dmax)
    (hnz : ∀ j, j < n → st.data (src + j) ≠ 0) (hnul : st.data (src + n) = 0) :
    ∃ r st', exec (stpcpy_s cfg dest dmax src destbos srcbos) st = .ok (r, st') ∧
      StpC06 cfg dest dmax src n st st' r := by
  obtain ⟨g, hg, r, st', he, hp⟩ :=
    stpcpy_s_all cfg dest dmax src n destbos srcbos st hall hd hs hne hpos hle hb hsb hrw hnz hnul
  exact ⟨r, st', he, stpC06_of_all hg hp⟩

/-- **stpncpy_s, every placement** (`src ≠ dest`), `m = min(slen, strlen src)` characters: EOK exactly when
`m + 1 ≤ dmax` and the `m + 1` cells read / written do not meet; then pointer `dest + m` and the exact result.
(`slen = 0` included: `m = 0`, the result is the empty string.) -/
theorem stpncpy_s_C06 (cfg : Cfg) (dest dmax src slen m : Nat) (destbos srcbos : Bos) (st : St)
    (hall : ∀ a, st.mapped a = true ∧ st.rd a = true)
    (hd : dest ≠ 0) (hs : src ≠ 0) (hne : dest ≠ src) (hpos : 0 < dmax) (hle : dmax ≤ RSIZE_MAX_STR)
    (hslenle : slen ≤ RSIZE_MAX_STR)
    (hb : ∀ b, destbos = some b → dmax ≤ b) (hsb : ∀ sb, srcbos = some sb → slen ≤ sb)
    (hrw : RW st dest dmax)
    (hnz : ∀ j, j < m → st.data (src + j) ≠ 0)
    (hfin : (m < slen ∧ st.data (src + m) = 0) ∨ slen = m) :
    ∃ r st', exec (stpncpy_s cfg dest dmax src slen destbos srcbos) st = .ok (r, st') ∧
      StpC06 cfg dest dmax src m st st' r := by
  obtain ⟨g, hg, r, st', he, hp⟩ :=
    stpncpy_s_all cfg dest dmax src slen m destbos srcbos st hall hd hs hne hpos hle hslenle hb hsb hrw hnz hfin
  exact ⟨r, st', he, stpC06_of_all hg hp⟩

/-- src = "ab" at 200, dest = 5 writable cells at 100 -/
def stpExSt : St :=
  { data := fun a => if a = 200 then 97 else if a = 201 then 98 else 0
    mapped := fun _ => true, rd := fun _ => true
    wr := fun a => decide (100 ≤ a ∧ a < 105) }

/-- non-vacuity: `stpExSt`; `n = 2`, and for `stpncpy_s` `slen = 1`, `m = 1` -/
example : (∀ a, stpExSt.mapped a = true ∧ stpExSt.rd a = true) ∧
    RW stpExSt 100 5 ∧ (100 : Nat) ≠ 200 ∧
    (∀ j, j < 2 → stpExSt.data (200 + j) ≠ 0) ∧ stpExSt.data (200 + 2) = 0 ∧
    (((1 : Nat) < 1 ∧ stpExSt.data (200 + 1) = 0) ∨ (1 : Nat) = 1) := by
  refine ⟨fun _ => ⟨rfl, rfl⟩, fun i hi => ⟨rfl, ?_, rfl⟩, by decide, ?_, by decide, Or.inr rfl⟩
  · exact decide_eq_true ⟨Nat.le_add_right 100 i, Nat.add_lt_add_left hi 100⟩
  · intro j hj
    match j, hj with
    | 0, _ => decide
    | 1, _ => decide

/-- the conclusion of the `src == dest` walk: `n` = length of the string dest holds (`n ≥ dmax`: no NUL in dest) -/
def StpSame (cfg : Cfg) (dest dmax n : Nat) (st st' : St) (r : Nat × Nat) : Prop :=
  (r.2 = EOK ↔ n + 1 ≤ dmax) ∧
  (r.2 = EOK → r.1 = dest + n ∧ st'.events = st.events ∧ st'.strays = st.strays ∧
    ∀ a, st'.data a = if cfg.slack = true ∧ dest + n ≤ a ∧ a < dest + dmax then 0 else st.data a) ∧
  (r.2 ≠ EOK → r = (0, ESNOSPC) ∧ st'.data dest = 0 ∧ st'.events = st.events ++ [.handler .str ESNOSPC] ∧
    (∀ a, ¬ (dest ≤ a ∧ a < dest + dmax) → st'.data a = st.data a))

private theorem stpSame_of {cfg : Cfg} {isN : Bool} {dest dmax n : Nat} {st : St} (hpos : 0 < dmax) (hrw : RW st dest dmax)
    (hnz : ∀ j, j < n → j < dmax → st.data (dest + j) ≠ 0) (hz : n < dmax → st.data (dest + n) = 0) :
    ∃ r st', exec (stpSameWalk cfg isN dest dmax dmax dest) st = .ok (r, st') ∧ StpSame cfg dest dmax n st st' r := by
  obtain ⟨r, st', he, hok, hfail⟩ := stpSameWalk_exact cfg isN dest dmax hpos n dmax dest st hrw ⟨Nat.le_refl _, rfl⟩ hnz hz
  refine ⟨r, st', he, ?_⟩
  by_cases h : n < dmax
  · obtain ⟨hr, hm, hd⟩ := hok h
    subst hr
    exact ⟨⟨fun _ => h, fun _ => rfl⟩, fun _ => ⟨rfl, hm.events, hm.strays, hd⟩, fun hc => absurd rfl hc⟩
  · obtain ⟨hr, hp⟩ := hfail (Nat.le_of_not_lt h)
    subst hr
    exact ⟨⟨fun hc => absurd hc (by decide), fun hc => absurd hc h⟩, fun hc => absurd hc (by decide),
      fun _ => ⟨rfl, hp.first, hp.events, hp.frame⟩⟩

/-- **stpcpy_s(dest, dmax, dest)**: dest holds `n` non-NUL cells then a NUL (or no NUL within `dmax`: `dmax ≤ n`).
EOK exactly when `n + 1 ≤ dmax`; then the pointer is `dest + n`, no handler call, and the memory is unchanged except
for the null-slack zeros behind the terminator.  Otherwise `(NULL, ESNOSPC)` with dest cleared. -/
theorem stpcpy_s_C06_same (cfg : Cfg) (dest dmax n : Nat) (destbos srcbos : Bos) (st : St)
    (hd : dest ≠ 0) (hpos : 0 < dmax) (hle : dmax ≤ RSIZE_MAX_STR) (hb : ∀ b, destbos = some b → dmax ≤ b)
    (hrw : RW st dest dmax)
    (hnz : ∀ j, j < n → j < dmax → st.data (dest + j) ≠ 0) (hz : n < dmax → st.data (dest + n) = 0) :
    ∃ r st', exec (stpcpy_s cfg dest dmax dest destbos srcbos) st = .ok (r, st') ∧ StpSame cfg dest dmax n st st' r := by
  rw [stpcpy_s_eq_body cfg dest dmax dest destbos srcbos hd hd hpos hle hb]
  unfold stpBody
  rw [if_pos rfl]
  exact stpSame_of hpos hrw hnz hz

/-- **stpncpy_s(dest, dmax, dest, slen)**: the same walk — `slen` is not looked at (see the witness) -/
theorem stpncpy_s_C06_same (cfg : Cfg) (dest dmax slen n : Nat) (destbos srcbos : Bos) (st : St)
    (hd : dest ≠ 0) (hpos : 0 < dmax) (hle : dmax ≤ RSIZE_MAX_STR) (hslenle : slen ≤ RSIZE_MAX_STR)
    (hb : ∀ b, destbos = some b → dmax ≤ b) (hsb : ∀ sb, srcbos = some sb → slen ≤ sb)
    (hrw : RW st dest dmax)
    (hnz : ∀ j, j < n → j < dmax → st.data (dest + j) ≠ 0) (hz : n < dmax → st.data (dest + n) = 0) :
    ∃ r st', exec (stpncpy_s cfg dest dmax dest slen destbos srcbos) st = .ok (r, st') ∧
      StpSame cfg dest dmax n st st' r := by
  rw [stpncpy_s_eq_body cfg dest dmax dest slen destbos srcbos hd hd hpos hle hslenle hb hsb]
  unfold stpBody
  rw [if_pos rfl]
  exact stpSame_of hpos hrw hnz hz

/-- dest = "ab" in 3 writable cells at 100 -/
def sameSt : St :=
  { data := fun a => if a = 100 then 97 else if a = 101 then 98 else 0
    mapped := fun _ => true, rd := fun _ => true
    wr := fun a => decide (100 ≤ a ∧ a < 103) }

/-- the returned pair of a run -/
def retPair (r : Except Fault ((Nat × Nat) × St)) : Option (Nat × Nat) :=
  match r with
  | .ok (p, _) => some p
  | .error _ => none

/-- `stpncpy_s(d = "ab", 3, d, 1)`: identical pointers, `slen = 1 < strlen`: EOK with the pointer at `d + 2` — the
whole string stays, not its first `slen` characters (identical pointers are outside the standard function's
contract; recorded as the behaviour of the code, not as a finding) -/
theorem stpncpy_s_C06_same_witness :
    retPair (exec (stpncpy_s {} 100 3 100 1 none none) sameSt) = some (102, EOK) := by
  decide

/-- non-vacuity of the `src == dest` theorems: `sameSt`, `n = 2` -/
example : RW sameSt 100 3 ∧ (∀ j, j < 2 → j < 3 → sameSt.data (100 + j) ≠ 0) ∧ ((2 : Nat) < 3 → sameSt.data (100 + 2) = 0) := by
  refine ⟨fun i hi => ⟨rfl, ?_, rfl⟩, ?_, fun _ => by decide⟩
  · exact decide_eq_true ⟨Nat.le_add_right 100 i, Nat.add_lt_add_left hi 100⟩
  · intro j hj _
    match j, hj with
    | 0, _ => decide
    | 1, _ => decide

/-! ## the field copies `strcpyfld_s`, `strcpyfldin_s`, `strcpyfldout_s`

Same setting (everything readable, the `dmax` cells of dest writable, usable dest, `slen ≠ 0`, `src ≠ 0`); ANY placement,
ANY `slen` (also above `dmax`), any contents, both slack configurations.  EOK EXACTLY when `slen ≤ dmax` and the cells
read and the cells written do not meet; then dest holds exactly the copy the doc comment promises and the rest of the
field is nulled (unconditionally: not a null-slack matter), no handler call, nothing outside dest changed.  On every other
code `dest[0] = 0`.  False of the code: `strcpyfldout_s` with `slen = dmax` returns EOK having dropped the last character
(`strcpyfldout-slen-eq-dmax`): `_partial` + `_witness`. -/

/-- exact result of a successful field copy of `n` cells -/
def FldExact (dest dmax src n : Nat) (st st' : St) : Prop :=
  cells st' dest n = cells st src n ∧
  (∀ i, n ≤ i → i < dmax → st'.data (dest + i) = 0) ∧
  st'.events = st.events ∧ st'.strays = st.strays ∧
  (∀ a, ¬ (dest ≤ a ∧ a < dest + dmax) → st'.data a = st.data a)

private theorem fldExact_of {dest dmax src n : Nat} {st st' : St} (h : FldOk dest dmax src n st st') (hn : n ≤ dmax) :
    FldExact dest dmax src n st st' :=
  ⟨cells_eq st st' dest src n h.copied, h.filled, h.1.events, h.1.strays, h.frame hn⟩

/-- what every non-EOK return of the field copies looks like -/
def FldFailed (cfg : Cfg) (dest dmax slen : Nat) (st st' : St) (code : Nat) : Prop :=
  st'.data dest = 0 ∧ (code = ESOVRLP ∨ code = fldNospcCode slen) ∧
  st'.events = st.events ++ [.handler .str code] ∧ st'.strays = st.strays ∧
  (∀ a, ¬ (dest ≤ a ∧ a < dest + dmax) → st'.data a = st.data a) ∧
  (code = ESOVRLP → cfg.slack = true → ∀ i, i < dmax → st'.data (dest + i) = 0)

private theorem fldFailed_of {kind : FldKind} {cfg : Cfg} {dest dmax src slen code : Nat} {st st' : St}
    (hp : FldPost kind cfg dest dmax src slen st st' code) (hs : src ≠ 0) (hne : code ≠ EOK) :
    FldFailed cfg dest dmax slen st st' code := by
  refine ⟨hp.fail_first hne, ?_, hp.safe.fail_events hne, hp.safe.strays, hp.safe.frame,
    fun h => hp.fail_clear (Or.inr h)⟩
  by_cases hgt : dmax < slen
  · exact Or.inr (hp.nospc hs hgt)
  · exact (hp.fits hs (by omega)).elim (fun h => absurd h hne) Or.inl

/-- **strcpyfld_s**: EOK exactly when `slen ≤ dmax` and the two `slen`-cell fields do not meet; then
`dest[0..slen) = src[0..slen)` verbatim (NULs included) and `dest[slen..dmax) = 0` -/
theorem strcpyfld_s_C06 (cfg : Cfg) (dest dmax src slen : Nat) (destbos : Bos) (st : St)
    (hall : ∀ a, st.mapped a = true ∧ st.rd a = true) (hrw : RW st dest dmax)
    (hd : dest ≠ 0) (hpos : 0 < dmax) (hle : dmax ≤ RSIZE_MAX_STR) (hbos : ∀ b, destbos = some b → dmax ≤ b)
    (hsl : slen ≠ 0) (hs : src ≠ 0) :
    ∃ code st', exec (strcpyfld_s cfg dest dmax src slen destbos) st = .ok (code, st') ∧
      (code = EOK ↔ slen ≤ dmax ∧ (dest + slen ≤ src ∨ src + slen ≤ dest)) ∧
      (code = EOK → FldExact dest dmax src slen st st') ∧
      (code ≠ EOK → FldFailed cfg dest dmax slen st st' code) := by
  unfold strcpyfld_s
  rw [fldG_entry _ cfg dest dmax src slen destbos hsl hd hpos hle hbos]
  obtain ⟨code, st', he, hp, h1, _, h3⟩ := fldBody_fld_all cfg dest dmax src slen st hall hrw hd hpos hle hs
  exact ⟨code, st', he, h1, fun hc => fldExact_of (h3 hc) (h1.1 hc).1, fldFailed_of hp hs⟩

/-- **strcpyfldin_s**: `n` = number of leading non-NUL source characters capped by `slen` (the copy stops at the
terminator).  EOK exactly when `slen ≤ dmax` and the cells read (the `n` characters and, unless `slen` ran out, the
terminator) and the `n` cells written do not meet; then `dest[0..n) = src[0..n)`, `dest[n..dmax) = 0` -/
theorem strcpyfldin_s_C06 (cfg : Cfg) (dest dmax src slen n : Nat) (destbos : Bos) (st : St)
    (hall : ∀ a, st.mapped a = true ∧ st.rd a = true) (hrw : RW st dest dmax)
    (hd : dest ≠ 0) (hpos : 0 < dmax) (hle : dmax ≤ RSIZE_MAX_STR) (hbos : ∀ b, destbos = some b → dmax ≤ b)
    (hsl : slen ≠ 0) (hs : src ≠ 0)
    (hn : n ≤ slen) (hnz : ∀ j, j < n → st.data (src + j) ≠ 0) (hend : n = slen ∨ st.data (src + n) = 0) :
    ∃ code st', exec (strcpyfldin_s cfg dest dmax src slen destbos) st = .ok (code, st') ∧
      (code = EOK ↔ slen ≤ dmax ∧ (dest + n ≤ src ∨ src + n < dest ∨ (src + n = dest ∧ n = slen))) ∧
      (code = EOK → FldExact dest dmax src n st st') ∧
      (code ≠ EOK → FldFailed cfg dest dmax slen st st' code) := by
  unfold strcpyfldin_s
  rw [fldG_entry _ cfg dest dmax src slen destbos hsl hd hpos hle hbos]
  obtain ⟨code, st', he, hp, h1, _, h3⟩ :=
    fldBody_fldin_all cfg dest dmax src slen n st hall hrw hd hpos hle hs hn hnz hend
  exact ⟨code, st', he, h1, fun hc => fldExact_of (h3 hc) (Nat.le_trans hn (h1.1 hc).1), fldFailed_of hp hs⟩

/-- **strcpyfldout_s, what the code does for every `slen`**: EOK exactly when `slen ≤ dmax` and the
`min slen (dmax-1)` cells read and written do not meet; then THAT many characters are copied, the rest nulled -/
theorem strcpyfldout_s_C06_shape (cfg : Cfg) (dest dmax src slen : Nat) (destbos : Bos) (st : St)
    (hall : ∀ a, st.mapped a = true ∧ st.rd a = true) (hrw : RW st dest dmax)
    (hd : dest ≠ 0) (hpos : 0 < dmax) (hle : dmax ≤ RSIZE_MAX_STR) (hbos : ∀ b, destbos = some b → dmax ≤ b)
    (hsl : slen ≠ 0) (hs : src ≠ 0) :
    ∃ code st', exec (strcpyfldout_s cfg dest dmax src slen destbos) st = .ok (code, st') ∧
      (code = EOK ↔ slen ≤ dmax ∧ (dest + min slen (dmax - 1) ≤ src ∨ src + min slen (dmax - 1) ≤ dest)) ∧
      (code = EOK → FldExact dest dmax src (min slen (dmax - 1)) st st') ∧
      (code ≠ EOK → FldFailed cfg dest dmax slen st st' code) := by
  unfold strcpyfldout_s
  rw [fldG_entry _ cfg dest dmax src slen destbos hsl hd hpos hle hbos]
  obtain ⟨code, st', he, hp, h1, _, h3⟩ := fldBody_fldout_all cfg dest dmax src slen st hall hrw hd hpos hle hs
  exact ⟨code, st', he, h1, fun hc => fldExact_of (h3 hc) (Nat.le_trans (Nat.min_le_right _ _) (Nat.sub_le _ _)), fldFailed_of hp hs⟩

/- FULL statement (FALSE of the code for `slen = dmax`, see `strcpyfldout_s_C06_witness`): the same without `hlt`,
   i.e. "EOK ⇒ all `slen` characters are in dest" / "EOK ⇔ `slen + 1 ≤ dmax` (characters and terminator fit) …". -/
/-- **strcpyfldout_s**, `slen < dmax` (the `slen` characters AND the terminator fit): EOK exactly when the `slen` cells
read and written do not meet; then all `slen` characters are copied verbatim, `dest[slen..dmax) = 0` -/
theorem strcpyfldout_s_C06_partial (cfg : Cfg) (dest dmax src slen : Nat) (destbos : Bos) (st : St)
    (hall : ∀ a, st.mapped a = true ∧ st.rd a = true) (hrw : RW st dest dmax)
    (hd : dest ≠ 0) (hpos : 0 < dmax) (hle : dmax ≤ RSIZE_MAX_STR) (hbos : ∀ b, destbos = some b → dmax ≤ b)
    (hsl : slen ≠ 0) (hs : src ≠ 0) (hlt : slen < dmax) :
    ∃ code st', exec (strcpyfldout_s cfg dest dmax src slen destbos) st = .ok (code, st') ∧
      (code = EOK ↔ (dest + slen ≤ src ∨ src + slen ≤ dest)) ∧
      (code = EOK → FldExact dest dmax src slen st st') ∧
      (code ≠ EOK → FldFailed cfg dest dmax slen st st' code) := by
  obtain ⟨code, st', he, h1, h2, h3⟩ :=
    strcpyfldout_s_C06_shape cfg dest dmax src slen destbos st hall hrw hd hpos hle hbos hsl hs
  rw [Nat.min_eq_left (Nat.le_sub_one_of_lt hlt)] at h1 h2
  exact ⟨code, st', he, ⟨fun hc => (h1.1 hc).2, fun h => h1.2 ⟨Nat.le_of_lt hlt, h⟩⟩, h2, h3⟩

/-- dest = 2 writable cells at 100 holding 7 7, src = "ab" at 200 -/
def fldoutSt : St :=
  { data := fun a => if a = 100 ∨ a = 101 then 7 else if a = 200 then 97 else if a = 201 then 98 else 0
    mapped := fun _ => true, rd := fun _ => true
    wr := fun a => decide (100 ≤ a ∧ a < 102) }

/-- the excluded point: `strcpyfldout_s(d, 2, "ab", 2)` — `slen = dmax`, allowed by the entry check `slen ≤ dmax` —
returns EOK with `d = "a"`: the second character is silently dropped (**listed**: `strcpyfldout-slen-eq-dmax`) -/
theorem strcpyfldout_s_C06_witness :
    ∃ st', exec (strcpyfldout_s {} 100 2 200 2 none) fldoutSt = .ok (EOK, st') ∧
      st'.data 100 = 97 ∧ st'.data 101 = 0 ∧ fldoutSt.data 201 = 98 :=
  ⟨_, rfl, by decide, by decide, by decide⟩

/-- non-vacuity of the field-copy theorems: `fldoutSt` with `dmax = 2`, `slen = 1`, `n = 1` -/
example : (∀ a, fldoutSt.mapped a = true ∧ fldoutSt.rd a = true) ∧ RW fldoutSt 100 2 ∧ (1 : Nat) ≠ 0 ∧ (1 : Nat) < 2 ∧
    (∀ j, j < 1 → fldoutSt.data (200 + j) ≠ 0) ∧ ((1 : Nat) = 1 ∨ fldoutSt.data (200 + 1) = 0) := by
  refine ⟨fun _ => ⟨rfl, rfl⟩, fun i hi => ⟨rfl, ?_, rfl⟩, by decide, by decide, ?_, Or.inl rfl⟩
  · exact decide_eq_true ⟨Nat.le_add_right 100 i, Nat.add_lt_add_left hi 100⟩
  · intro j hj
    match j, hj with
    | 0, _ => decide

/-! ## `memccpy_s` when the stop character does not occur among the `n` source bytes

Valid arguments, disjoint operands (setting of `Props/C06ExtMem.lean`: only the declared extents mapped / readable).
Standard `memccpy` copies the `n` bytes and returns NULL.  `memccpy_s` copies them, stores a NUL behind them and returns
EOK — provided there is room for that NUL (`n < dmax`); nothing else is changed (this exit does no null-slack clearing).
For `n = dmax` it fails with ESNOSPC through the STRING handler although the `n` bytes fit (`memccpy-n-eq-dmax`, listed
under C05 / C04): `_partial` + `_witness`. -/

/- FULL statement (FALSE of the code for `n = dmax`, see the witness): the same without `hlt`. -/
/-- **memccpy_s, stop character absent, `n < dmax`**: EOK, `dest[0..n) = src[0..n)`, `dest[n] = 0`, no handler call,
no stray access, nothing else changed -/
theorem memccpy_s_C06_absent_partial (cfg : Cfg) (dest dmax src c n : Nat) (st : St)
    (hd : dest ≠ 0) (hs : src ≠ 0) (hpos : 0 < n) (hlt : n < dmax) (hmax : dmax ≤ RSIZE_MAX_MEM)
    (hw : RW st dest dmax) (hr : RD st src n) (ha1 : src + n < Mem.U64) (ha2 : dest + dmax < Mem.U64)
    (hno : ¬ ((src ≤ dest ∧ dest < src + n) ∨ (dest < src ∧ src < dest + dmax)))
    (hns : ∀ i, i < n → ((st.data (src+i) : Nat) : Int) ≠ Mem.asInt c) :
    ∃ st', exec (memccpy_s cfg dest dmax src c n none none) st = .ok (EOK, st') ∧
      cells st' dest n = cells st src n ∧ st'.data (dest + n) = 0 ∧
      st'.events = st.events ∧ st'.strays = st.strays ∧
      (∀ a, ¬ (dest ≤ a ∧ a ≤ dest + n) → st'.data a = st.data a) := by
  obtain ⟨code, st', he, hok, _⟩ :=
    memccpy_s_absent cfg dest dmax src c n st hd hs hpos (Nat.le_of_lt hlt) hmax hw hr ha1 ha2 hno hns
  obtain ⟨hc, hm, c1, c2, c3⟩ := hok hlt
  subst hc
  exact ⟨st', he, cells_eq st st' dest src n c1, c2, hm.events, hm.strays, c3⟩

/-- the excluded point `n = dmax`, for every such call: ESNOSPC, one STRING-handler event, dest cleared, nothing outside
dest changed — the `n` bytes would have fitted -/
theorem memccpy_s_C06_absent_full_dmax (cfg : Cfg) (dest dmax src c : Nat) (st : St)
    (hd : dest ≠ 0) (hs : src ≠ 0) (hpos : 0 < dmax) (hmax : dmax ≤ RSIZE_MAX_MEM)
    (hw : RW st dest dmax) (hr : RD st src dmax) (ha1 : src + dmax < Mem.U64) (ha2 : dest + dmax < Mem.U64)
    (hno : ¬ ((src ≤ dest ∧ dest < src + dmax) ∨ (dest < src ∧ src < dest + dmax)))
    (hns : ∀ i, i < dmax → ((st.data (src+i) : Nat) : Int) ≠ Mem.asInt c) :
    ∃ st', exec (memccpy_s cfg dest dmax src c dmax none none) st = .ok (ESNOSPC, st') ∧
      st'.events = st.events ++ [.handler .str ESNOSPC] ∧ st'.strays = st.strays ∧ st'.data dest = 0 ∧
      (cfg.slack = true → ∀ i, i < dmax → st'.data (dest + i) = 0) ∧
      (∀ a, ¬ (dest ≤ a ∧ a < dest + dmax) → st'.data a = st.data a) := by
  obtain ⟨code, st', he, _, hfull⟩ :=
    memccpy_s_absent cfg dest dmax src c dmax st hd hs hpos (Nat.le_refl _) hmax hw hr ha1 ha2 hno hns
  obtain ⟨hc, h1, h2, h3, h4, h5⟩ := hfull rfl
  subst hc
  exact ⟨st', he, h2, h1, h3, h4, h5⟩

/-- src = 200 holds `'a'`, dest = 100 (1 cell holding 7) -/
def ccaSt : St :=
  { data := fun a => if a = 200 then 97 else 7
    mapped := fun _ => true, rd := fun _ => true
    wr := fun a => decide (a = 100) }

/-- the excluded point: `memccpy_s(d, 1, "a", 0, 1)` — one byte into a one-byte dest, stop character 0 absent — is
rejected with ESNOSPC and `d[0] = 0` (**listed**: `memccpy-n-eq-dmax`) -/
theorem memccpy_s_C06_absent_witness :
    observe (exec (memccpy_s { slack := true } 100 1 200 0 1 none none) ccaSt) 100 = some (ESNOSPC, 0) := by decide

example : RW ccaSt 100 1 ∧ RD ccaSt 200 1 ∧ ((ccaSt.data (200 + 0) : Nat) : Int) ≠ Mem.asInt 0 :=
  ⟨fun i hi => ⟨rfl, by simp [ccaSt]; omega, rfl⟩, fun _ _ => ⟨rfl, rfl⟩, by decide⟩

end SafeC.Props.C06
