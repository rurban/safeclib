import SafeC.Proofs.CatAll
import SafeC.Proofs.CatSlen0
import SafeC.Props.C06
/-!
# C06 — `strcpy_s strncpy_s strcat_s strncat_s` and the wide twins: the complete case split for EVERY placement of the source

Setting of `Props/C06Ext2.lean`: every cell mapped and readable with ARBITRARY contents, the `dmax` cells of dest
writable, usable sizes (`dest ≠ 0`, `0 < dmax ≤ RSIZE_MAX_(W)STR`, a known object size not smaller than `dmax`, a
known source size that contains `slen`); `cfg` — both slack configurations — is universally quantified.  The source
holds `m` non-NUL cells followed by a NUL, or (bounded copies) `slen = m` runs out first, at ANY address (before,
inside, behind dest).

`CpyC06`: the return code is EOK EXACTLY when the complete result including its terminator fits in `dmax` AND the
`m + 1` cells read and the `m + 1` cells written do not meet; then `dest[0..m)` are the source characters (values
before the call), `dest[m] = 0`, with null-slack `dest[m..dmax) = 0`, no handler call, nothing outside dest changed.
ESNOSPC EXACTLY when the result does not fit and the `dmax` cells that get copied do not meet; ESOVRLP otherwise
(`Props/C07Copy.lean`).  On every failure dest is cleared and the handler is called once with the code returned: never
a shortened or corrupted result reported as success.

For the bounded copies with `slen = m` the `(m+1)`-th source cell is not read, but the code treats it as if it were
(`src + m = dest` is rejected: `bounded-copy-src-ends-at-dest`, stated as `_partial` / `_witness` in `C07Copy.lean`).
`*_C06_same`: `strcpy_s(d, dmax, d)` as the code defines it (`same-pointer-shortcut`); `*_C06_slen0`: `slen = 0` as
the code defines it (`strncpy-slen0-shortcut`).  The concatenations (`CatC06`, second half of the file): the same on top
of the scan for the end of dest — EOK exactly when old length + `m` + 1 ≤ `dmax` and nothing meets, result = old dest
string ++ first `m` source characters ++ NUL.
-/
namespace SafeC.Props.C06
open SafeC Gen

/-- the conclusion shared by the four copies (`m` characters copied) -/
def CpyC06 (cfg : Cfg) (dest dmax src m : Nat) (st st' : St) (code : Nat) : Prop :=
  (code = EOK ↔ m + 1 ≤ dmax ∧ (dest + m < src ∨ src + m < dest)) ∧
  (code = ESNOSPC ↔ dmax ≤ m ∧ (dest + dmax ≤ src ∨ src + dmax ≤ dest)) ∧
  (code = EOK ∨ code = ESOVRLP ∨ code = ESNOSPC) ∧
  (code = EOK → cells st' dest m = cells st src m ∧ st'.data (dest + m) = 0 ∧
    (cfg.slack = true → ∀ i, m ≤ i → i < dmax → st'.data (dest + i) = 0) ∧
    st'.events = st.events ∧ st'.strays = st.strays ∧
    (∀ a, ¬ (dest ≤ a ∧ a < dest + dmax) → st'.data a = st.data a)) ∧
  (code ≠ EOK → st'.data dest = 0 ∧ (cfg.slack = true → ∀ i, i < dmax → st'.data (dest + i) = 0) ∧
    st'.events = st.events ++ [.handler .str code] ∧ st'.strays = st.strays ∧
    (∀ a, ¬ (dest ≤ a ∧ a < dest + dmax) → st'.data a = st.data a))

private theorem cpyC06_of_all {cfg : Cfg} {dest dmax src m g : Nat} {st st' : St} {code : Nat}
    (hg : (dest < src ∧ src = dest + g) ∨ (src ≤ dest ∧ dest = src + g))
    (h : CopyAll cfg dest dmax dest dmax src m g st st' code) : CpyC06 cfg dest dmax src m st st' code := by
  have hgm : m < g ↔ (dest + m < src ∨ src + m < dest) := apart_iff hg (m+1)
  have hgd := apart_iff hg dmax
  obtain ⟨_, hok, hno, hcases, hdone, hfail⟩ := h.codes
  refine ⟨hok.trans (and_congr_right' hgm), hno.trans (and_congr_right' hgd), hcases, fun hc => ?_, fun hc => ?_⟩
  · obtain ⟨hm, c1, c2, c3, c4⟩ := hdone hc
    exact ⟨cells_eq st st' dest src m c1, c2, c3, hm.events, hm.strays, c4⟩
  · have hp := hfail hc
    exact ⟨hp.first, hp.slack, hp.events, hp.strays, hp.frame⟩

/-- **strcpy_s, every placement of a source string of length `n`** (`src ≠ dest`): EOK exactly when `n + 1 ≤ dmax`
and the `n + 1` cells read and written do not meet, then the exact result; ESNOSPC exactly when `dmax ≤ n` and the
`dmax` cells copied do not meet; ESOVRLP otherwise; every failure clears dest -/
theorem strcpy_s_C06_all (cfg : Cfg) (dest dmax src n : Nat) (destbos : Bos) (st : St)
    (hall : ∀ a, st.mapped a = true ∧ st.rd a = true)
    (hd : dest ≠ 0) (hs : src ≠ 0) (hne : dest ≠ src) (hpos : 0 < dmax) (hle : dmax ≤ RSIZE_MAX_STR)
    (hb : ∀ b, destbos = some b → dmax ≤ b)
    (hrw : RW st dest dmax)
    (hnz : ∀ j, j < n → st.data (src + j) ≠ 0) (hnul : st.data (src + n) = 0) :
    ∃ code st', exec (strcpy_s cfg dest dmax src destbos) st = .ok (code, st') ∧
      CpyC06 cfg dest dmax src n st st' code := by
  obtain ⟨g, hg⟩ := gap_of dest src
  unfold strcpy_s
  rw [strcpyG_eq_body _ cfg dest dmax src destbos hd hs hne hpos hle hb]
  obtain ⟨code, st', he, hp⟩ := cpyBody_cases cfg false dest dmax hpos dmax dest src n g 0 st (fun _ _ => hall _) hrw ⟨Nat.le_refl _, rfl⟩ hg hnz
    (Or.inl ⟨fun h => absurd h (by decide), hnul, hall _⟩)
  exact ⟨code, st', he, cpyC06_of_all hg hp⟩

/-- **wcscpy_s, every placement** (cells are `wchar_t`; a known object size is in bytes) -/
theorem wcscpy_s_C06_all (cfg : Cfg) (dest dmax src n : Nat) (destbos : Bos) (st : St)
    (hall : ∀ a, st.mapped a = true ∧ st.rd a = true)
    (hd : dest ≠ 0) (hs : src ≠ 0) (hne : dest ≠ src) (hpos : 0 < dmax) (hle : dmax ≤ RSIZE_MAX_WSTR)
    (hb : ∀ b, destbos = some b → dmax * SIZEOF_WCHAR_T ≤ b)
    (hrw : RW st dest dmax)
    (hnz : ∀ j, j < n → st.data (src + j) ≠ 0) (hnul : st.data (src + n) = 0) :
    ∃ code st', exec (wcscpy_s cfg dest dmax src destbos) st = .ok (code, st') ∧
      CpyC06 cfg dest dmax src n st st' code := by
  obtain ⟨g, hg⟩ := gap_of dest src
  rw [wcscpy_s_eq_body cfg dest dmax src destbos hd hs hne hpos hle hb]
  obtain ⟨code, st', he, hp⟩ := cpyBody_cases cfg false dest dmax hpos dmax dest src n g 0 st (fun _ _ => hall _) hrw ⟨Nat.le_refl _, rfl⟩ hg hnz
    (Or.inl ⟨fun h => absurd h (by decide), hnul, hall _⟩)
  exact ⟨code, st', he, cpyC06_of_all hg hp⟩

/-- **strcpy_s(d, dmax, d)** as the code defines it: EOK at once — nothing read, nothing written, whatever dest holds
(for a dest without a NUL in `dmax` cells this is the listed finding `same-pointer-shortcut`) -/
theorem strcpy_s_C06_same (cfg : Cfg) (dest dmax : Nat) (destbos : Bos) (st : St)
    (hd : dest ≠ 0) (hpos : 0 < dmax) (hle : dmax ≤ RSIZE_MAX_STR) (hb : ∀ b, destbos = some b → dmax ≤ b) :
    exec (strcpy_s cfg dest dmax dest destbos) st = .ok (EOK, st) := by
  unfold strcpy_s
  rw [strcpyG_same _ cfg dest dmax destbos hd hpos (fun _ => hle) hb]; rfl

/-- the wide twin of `strcpy_s_C06_same` (cells are `wchar_t`, limit `RSIZE_MAX_WSTR`, known object sizes in bytes) -/
theorem wcscpy_s_C06_same (cfg : Cfg) (dest dmax : Nat) (destbos : Bos) (st : St)
    (hd : dest ≠ 0) (hpos : 0 < dmax) (hle : dmax ≤ RSIZE_MAX_WSTR)
    (hb : ∀ b, destbos = some b → dmax * SIZEOF_WCHAR_T ≤ b) :
    exec (wcscpy_s cfg dest dmax dest destbos) st = .ok (EOK, st) := by
  rw [wcscpy_s_same cfg dest dmax destbos hd hpos hle hb]; rfl

/-- **strncpy_s, every placement** (identical pointers included), `0 < slen`, `m = min(slen, strlen src)` characters:
EOK exactly when `m + 1 ≤ dmax` and the `m + 1` cells starting at the two pointers do not meet; then the exact
result -/
theorem strncpy_s_C06_all (cfg : Cfg) (dest dmax src slen m : Nat) (destbos srcbos : Bos) (st : St)
    (hall : ∀ a, st.mapped a = true ∧ st.rd a = true)
    (hd : dest ≠ 0) (hs : src ≠ 0) (hpos : 0 < dmax) (hle : dmax ≤ RSIZE_MAX_STR)
    (hslen : 0 < slen) (hslenle : slen ≤ RSIZE_MAX_STR)
    (hb : ∀ b, destbos = some b → dmax ≤ b) (hsb : ∀ sb, srcbos = some sb → slen ≤ sb)
    (hrw : RW st dest dmax)
    (hnz : ∀ j, j < m → st.data (src + j) ≠ 0)
    (hfin : (m < slen ∧ st.data (src + m) = 0) ∨ slen = m) :
    ∃ code st', exec (strncpy_s cfg dest dmax src slen destbos srcbos) st = .ok (code, st') ∧
      CpyC06 cfg dest dmax src m st st' code := by
  obtain ⟨g, hg⟩ := gap_of dest src
  unfold strncpy_s
  rw [strncpyG_eq_body _ cfg dest dmax src slen destbos srcbos hd hs hpos hle hslen hslenle hb hsb]
  obtain ⟨code, st', he, hp⟩ := cpyBody_cases cfg true dest dmax hpos dmax dest src m g slen st (fun _ _ => hall _) hrw ⟨Nat.le_refl _, rfl⟩ hg hnz
    (hfin.elim (fun h => Or.inl ⟨fun _ => h.1, h.2, hall _⟩) (fun h => Or.inr ⟨rfl, h⟩))
  exact ⟨code, st', he, cpyC06_of_all hg hp⟩

/-- **wcsncpy_s, every placement** -/
theorem wcsncpy_s_C06_all (cfg : Cfg) (dest dmax src slen m : Nat) (destbos srcbos : Bos) (st : St)
    (hall : ∀ a, st.mapped a = true ∧ st.rd a = true)
    (hd : dest ≠ 0) (hs : src ≠ 0) (hpos : 0 < dmax) (hle : dmax ≤ RSIZE_MAX_WSTR)
    (hslen : 0 < slen) (hslenle : slen ≤ RSIZE_MAX_WSTR)
    (hb : ∀ b, destbos = some b → dmax * SIZEOF_WCHAR_T ≤ b)
    (hsb : ∀ sb, srcbos = some sb → slen * SIZEOF_WCHAR_T ≤ sb)
    (hrw : RW st dest dmax)
    (hnz : ∀ j, j < m → st.data (src + j) ≠ 0)
    (hfin : (m < slen ∧ st.data (src + m) = 0) ∨ slen = m) :
    ∃ code st', exec (wcsncpy_s cfg dest dmax src slen destbos srcbos) st = .ok (code, st') ∧
      CpyC06 cfg dest dmax src m st st' code := by
  obtain ⟨g, hg⟩ := gap_of dest src
  rw [wcsncpy_s_eq_body cfg dest dmax src slen destbos srcbos hd hs hpos hle hslen hslenle hb hsb]
  obtain ⟨code, st', he, hp⟩ := cpyBody_cases cfg true dest dmax hpos dmax dest src m g slen st (fun _ _ => hall _) hrw ⟨Nat.le_refl _, rfl⟩ hg hnz
    (hfin.elim (fun h => Or.inl ⟨fun _ => h.1, h.2, hall _⟩) (fun h => Or.inr ⟨rfl, h⟩))
  exact ⟨code, st', he, cpyC06_of_all hg hp⟩

/-- **strncpy_s(dest, dmax, src, 0)** as the code defines it: the result is the empty string — one NUL is stored at
`dest[0]` and EOK returned; `src`, `dmax` against the limits and the object sizes are not looked at, no null-slack
zeros behind (listed: `strncpy-slen0-shortcut`) -/
theorem strncpy_s_C06_slen0 (cfg : Cfg) (dest dmax src : Nat) (destbos srcbos : Bos) (st : St)
    (hd : dest ≠ 0) (hpos : 0 < dmax) (hrw : RW st dest dmax) :
    exec (strncpy_s cfg dest dmax src 0 destbos srcbos) st = .ok (EOK, st.upd dest 0) := by
  obtain ⟨hm, hw, _⟩ := (show RW st dest (dmax - 1 + 1) by rwa [Nat.sub_add_cancel hpos]).head
  unfold strncpy_s
  rw [strncpyG_slen0 _ cfg dest dmax src destbos srcbos hd hpos]
  simp [exec_bind, exec_store_ok _ _ _ hm hw]

/-- the wide twin of `strncpy_s_C06_slen0` -/
theorem wcsncpy_s_C06_slen0 (cfg : Cfg) (dest dmax src : Nat) (destbos srcbos : Bos) (st : St)
    (hd : dest ≠ 0) (hpos : 0 < dmax) (hrw : RW st dest dmax) :
    exec (wcsncpy_s cfg dest dmax src 0 destbos srcbos) st = .ok (EOK, st.upd dest 0) := by
  obtain ⟨hm, hw, _⟩ := (show RW st dest (dmax - 1 + 1) by rwa [Nat.sub_add_cancel hpos]).head
  rw [wcsncpy_s_slen0 cfg dest dmax src destbos srcbos hd hpos]
  simp [exec_bind, exec_store_ok _ _ _ hm hw]

/-- src = "ab" at 102 INSIDE the 5 writable cells of dest at 100 -/
def cpyExSt : St :=
  { data := fun a => if a = 102 then 97 else if a = 103 then 98 else 0
    mapped := fun _ => true, rd := fun _ => true
    wr := fun a => decide (100 ≤ a ∧ a < 105) }

/-- non-vacuity: `cpyExSt` (overlapping operands: `n = 2`, `g = 2`); for the bounded copies `slen = 1`, `m = 1` -/
example : (∀ a, cpyExSt.mapped a = true ∧ cpyExSt.rd a = true) ∧
    RW cpyExSt 100 5 ∧ (100 : Nat) ≠ 102 ∧
    (∀ j, j < 2 → cpyExSt.data (102 + j) ≠ 0) ∧ cpyExSt.data (102 + 2) = 0 ∧
    (((1 : Nat) < 1 ∧ cpyExSt.data (102 + 1) = 0) ∨ (1 : Nat) = 1) := by
  refine ⟨fun _ => ⟨rfl, rfl⟩, fun i hi => ⟨rfl, ?_, rfl⟩, by decide, ?_, by decide, Or.inr rfl⟩
  · simp [cpyExSt]; omega
  · intro j hj
    have : j = 0 ∨ j = 1 := by omega
    rcases this with h | h <;> subst h <;> decide

/-- the return code of a run -/
def cpyRet (r : Except Fault (Nat × St)) : Option Nat :=
  match r with
  | .ok (c, _) => some c
  | .error _ => none

/-- the three outcomes on `cpyExSt` (test instances of `strcpy_s_C06_all`, kernel-evaluated): source two cells behind
dest → ESOVRLP; its tail (from 103) copied to a dest that ends before it → EOK; the string to a one-cell dest → ESNOSPC -/
example : cpyRet (exec (strcpy_s {} 100 5 102 none) cpyExSt) = some ESOVRLP ∧
    cpyRet (exec (strcpy_s {} 100 2 103 none) cpyExSt) = some EOK ∧
    cpyRet (exec (strcpy_s {} 100 1 102 none) cpyExSt) = some ESNOSPC := by
  decide

/-! ## the concatenations

dest holds a string of length `dl < dmax` (arbitrary contents behind it), the source `m` characters to append at ANY
address.  Cells read: `dest[0..dl]` (the scan) and `src[0..m]`; cells written: `dest[dl..dl+m]`. -/

/-- the conclusion shared by the four concatenations (`dl` = old length of dest, `m` characters appended) -/
def CatC06 (cfg : Cfg) (dest dmax dl src m : Nat) (st st' : St) (code : Nat) : Prop :=
  (code = EOK ↔ dl + m + 1 ≤ dmax ∧ (dest + dl + m < src ∨ src + m < dest)) ∧
  (code = ESNOSPC ↔ dmax ≤ dl + m ∧ (dest + dmax ≤ src ∨ src + dmax ≤ dest + dl)) ∧
  (code = EOK ∨ code = ESOVRLP ∨ code = ESNOSPC) ∧
  (code = EOK → cells st' dest dl = cells st dest dl ∧ cells st' (dest + dl) m = cells st src m ∧
    st'.data (dest + dl + m) = 0 ∧
    (cfg.slack = true → ∀ i, dl + m ≤ i → i < dmax → st'.data (dest + i) = 0) ∧
    st'.events = st.events ∧ st'.strays = st.strays ∧
    (∀ a, ¬ (dest ≤ a ∧ a < dest + dmax) → st'.data a = st.data a)) ∧
  (code ≠ EOK → st'.data dest = 0 ∧ (cfg.slack = true → ∀ i, i < dmax → st'.data (dest + i) = 0) ∧
    st'.events = st.events ++ [.handler .str code] ∧ st'.strays = st.strays ∧
    (∀ a, ¬ (dest ≤ a ∧ a < dest + dmax) → st'.data a = st.data a))

private theorem catC06_of_all {cfg : Cfg} {dest dmax dl src m : Nat} {st st' : St} {code : Nat}
    (hdl : dl < dmax) (h : CatAll cfg dest dmax dl src m st st' code) : CatC06 cfg dest dmax dl src m st st' code := by
  obtain ⟨hok, hno, hcases, hdone, hfail⟩ := h.codes hdl
  have hfit : dl + m < dmax ∧ (dest + dl + m < src ∨ src + m < dest) ↔
      dl + m + 1 ≤ dmax ∧ (dest + dl + m < src ∨ src + m < dest) := Iff.rfl
  refine ⟨hok.trans hfit, hno, hcases, fun hc => ?_, fun hc => ?_⟩
  · obtain ⟨hm, c1, c2, c3, c4⟩ := hdone hc
    have hfit := (hok.1 hc).1
    refine ⟨cells_eq st st' dest dest dl (fun i hi => c4 (dest + i) (by omega)),
      cells_eq st st' (dest + dl) src m c1, c2, ?_, hm.events, hm.strays, fun a ha => c4 a (by omega)⟩
    intro hcs i h1 h2
    have := c3 hcs (i - dl) (by omega) (by omega)
    have e : dest + dl + (i - dl) = dest + i := by omega
    rwa [e] at this
  · have hp := hfail hc
    exact ⟨hp.first, hp.slack, hp.events, hp.strays, hp.frame⟩

/-- the EOK clause of `CatC06` as ONE list: dest = old dest string ++ the `m` source characters ++ NUL -/
theorem catC06_result {cfg : Cfg} {dest dmax dl src m : Nat} {st st' : St} {code : Nat}
    (h : CatC06 cfg dest dmax dl src m st st' code) (hc : code = EOK) :
    cells st' dest (dl + m + 1) = cells st dest dl ++ cells st src m ++ [0] := by
  obtain ⟨h1, h2, h3, _⟩ := h.2.2.2.1 hc
  have h3' : st'.data (dest + (dl + m)) = 0 := by rw [← Nat.add_assoc]; exact h3
  rw [cells_add, cells_add, h1, h2]
  simp [cells, h3']

/-- **strcat_s, every placement of a source string of length `n`** (identical pointers included): EOK exactly when
`dl + n + 1 ≤ dmax` and the cells appended do not meet the cells read; then dest = old dest string ++ source string
++ NUL, null-slack zeros behind; ESNOSPC exactly when the result does not fit and the `dmax - dl` cells copied do not
meet; ESOVRLP otherwise; every failure clears dest -/
theorem strcat_s_C06_all (cfg : Cfg) (dest dmax src dl n : Nat) (destbos : Bos) (st : St)
    (hall : ∀ a, st.mapped a = true ∧ st.rd a = true)
    (hd : dest ≠ 0) (hs : src ≠ 0) (hpos : 0 < dmax) (hle : dmax ≤ RSIZE_MAX_STR)
    (hb : ∀ b, destbos = some b → dmax ≤ b)
    (hrw : RW st dest dmax)
    (hdl : dl < dmax) (hdnz : ∀ j, j < dl → st.data (dest + j) ≠ 0) (hdnul : st.data (dest + dl) = 0)
    (hnz : ∀ j, j < n → st.data (src + j) ≠ 0) (hnul : st.data (src + n) = 0) :
    ∃ code st', exec (strcat_s cfg dest dmax src destbos) st = .ok (code, st') ∧
      CatC06 cfg dest dmax dl src n st st' code := by
  unfold strcat_s
  rw [strcatG_eq_body _ cfg dest dmax src destbos hd hs hpos hle hb]
  obtain ⟨code, st', he, hp⟩ := catBody_cases cfg false dest dmax src dl n 0 st (fun _ _ => hall _) hrw hdl hdnz hdnul hnz
    (Or.inl ⟨fun h => absurd h (by decide), hnul, hall _⟩)
  exact ⟨code, st', he, catC06_of_all hdl hp⟩

/-- the wide twin of `strcat_s_C06_all` (cells are `wchar_t`, limit `RSIZE_MAX_WSTR`, known object sizes in bytes) -/
theorem wcscat_s_C06_all (cfg : Cfg) (dest dmax src dl n : Nat) (destbos : Bos) (st : St)
    (hall : ∀ a, st.mapped a = true ∧ st.rd a = true)
    (hd : dest ≠ 0) (hs : src ≠ 0) (hpos : 0 < dmax) (hle : dmax ≤ RSIZE_MAX_WSTR)
    (hb : ∀ b, destbos = some b → dmax * SIZEOF_WCHAR_T ≤ b)
    (hrw : RW st dest dmax)
    (hdl : dl < dmax) (hdnz : ∀ j, j < dl → st.data (dest + j) ≠ 0) (hdnul : st.data (dest + dl) = 0)
    (hnz : ∀ j, j < n → st.data (src + j) ≠ 0) (hnul : st.data (src + n) = 0) :
    ∃ code st', exec (wcscat_s cfg dest dmax src destbos) st = .ok (code, st') ∧
      CatC06 cfg dest dmax dl src n st st' code := by
  rw [wcscat_s_eq_body cfg dest dmax src destbos hd hs hpos hle hb]
  obtain ⟨code, st', he, hp⟩ := catBody_cases cfg false dest dmax src dl n 0 st (fun _ _ => hall _) hrw hdl hdnz hdnul hnz
    (Or.inl ⟨fun h => absurd h (by decide), hnul, hall _⟩)
  exact ⟨code, st', he, catC06_of_all hdl hp⟩

/-- **strncat_s, every placement**, `0 < slen`, `m = min(slen, strlen src)` characters appended: EOK exactly when
`dl + m + 1 ≤ dmax` and the cells appended do not meet the cells read (the `(m+1)`-th source cell counted also when
`slen = m` runs out); then dest = old dest string ++ first `m` source characters ++ NUL -/
theorem strncat_s_C06_all (cfg : Cfg) (dest dmax src slen dl m : Nat) (destbos srcbos : Bos) (st : St)
    (hall : ∀ a, st.mapped a = true ∧ st.rd a = true)
    (hd : dest ≠ 0) (hs : src ≠ 0) (hpos : 0 < dmax) (hle : dmax ≤ RSIZE_MAX_STR)
    (hslen : 0 < slen) (hslenle : slen ≤ RSIZE_MAX_STR)
    (hb : ∀ b, destbos = some b → dmax ≤ b) (hsb : ∀ sb, srcbos = some sb → slen ≤ sb)
    (hrw : RW st dest dmax)
    (hdl : dl < dmax) (hdnz : ∀ j, j < dl → st.data (dest + j) ≠ 0) (hdnul : st.data (dest + dl) = 0)
    (hnz : ∀ j, j < m → st.data (src + j) ≠ 0)
    (hfin : (m < slen ∧ st.data (src + m) = 0) ∨ slen = m) :
    ∃ code st', exec (strncat_s cfg dest dmax src slen destbos srcbos) st = .ok (code, st') ∧
      CatC06 cfg dest dmax dl src m st st' code := by
  unfold strncat_s
  rw [strncatG_eq_body _ cfg dest dmax src slen destbos srcbos hd hs hpos hle hslen hslenle hb hsb]
  obtain ⟨code, st', he, hp⟩ := catBody_cases cfg true dest dmax src dl m slen st (fun _ _ => hall _) hrw hdl hdnz hdnul hnz
    (hfin.elim (fun h => Or.inl ⟨fun _ => h.1, h.2, hall _⟩) (fun h => Or.inr ⟨rfl, h⟩))
  exact ⟨code, st', he, catC06_of_all hdl hp⟩

/-- the wide twin of `strncat_s_C06_all` (cells are `wchar_t`, limit `RSIZE_MAX_WSTR`, known object sizes in bytes) -/
theorem wcsncat_s_C06_all (cfg : Cfg) (dest dmax src slen dl m : Nat) (destbos srcbos : Bos) (st : St)
    (hall : ∀ a, st.mapped a = true ∧ st.rd a = true)
    (hd : dest ≠ 0) (hs : src ≠ 0) (hpos : 0 < dmax) (hle : dmax ≤ RSIZE_MAX_WSTR)
    (hslen : 0 < slen) (hslenle : slen ≤ RSIZE_MAX_WSTR)
    (hb : ∀ b, destbos = some b → dmax * SIZEOF_WCHAR_T ≤ b)
    (hsb : ∀ sb, srcbos = some sb → slen * SIZEOF_WCHAR_T ≤ sb)
    (hrw : RW st dest dmax)
    (hdl : dl < dmax) (hdnz : ∀ j, j < dl → st.data (dest + j) ≠ 0) (hdnul : st.data (dest + dl) = 0)
    (hnz : ∀ j, j < m → st.data (src + j) ≠ 0)
    (hfin : (m < slen ∧ st.data (src + m) = 0) ∨ slen = m) :
    ∃ code st', exec (wcsncat_s cfg dest dmax src slen destbos srcbos) st = .ok (code, st') ∧
      CatC06 cfg dest dmax dl src m st st' code := by
  rw [wcsncat_s_eq_body cfg dest dmax src slen destbos srcbos hd hs hpos hle hslen hslenle hb hsb]
  obtain ⟨code, st', he, hp⟩ := catBody_cases cfg true dest dmax src dl m slen st (fun _ _ => hall _) hrw hdl hdnz hdnul hnz
    (hfin.elim (fun h => Or.inl ⟨fun _ => h.1, h.2, hall _⟩) (fun h => Or.inr ⟨rfl, h⟩))
  exact ⟨code, st', he, catC06_of_all hdl hp⟩

/-- dest = "xy" in 6 writable cells at 100, src = "ab" at 104 INSIDE the room behind the dest string -/
def catExSt : St :=
  { data := fun a => if a = 100 then 120 else if a = 101 then 121 else if a = 104 then 97 else if a = 105 then 98 else 0
    mapped := fun _ => true, rd := fun _ => true
    wr := fun a => decide (100 ≤ a ∧ a < 106) }

/-- non-vacuity of the concatenation theorems: `catExSt`, `dl = 2`, `n = 2` (for the bounded ones `slen = 1`, `m = 1`) -/
example : (∀ a, catExSt.mapped a = true ∧ catExSt.rd a = true) ∧ RW catExSt 100 6 ∧
    (∀ j, j < 2 → catExSt.data (100 + j) ≠ 0) ∧ catExSt.data (100 + 2) = 0 ∧
    (∀ j, j < 2 → catExSt.data (104 + j) ≠ 0) ∧ catExSt.data (104 + 2) = 0 ∧
    (((1 : Nat) < 1 ∧ catExSt.data (104 + 1) = 0) ∨ (1 : Nat) = 1) := by
  refine ⟨fun _ => ⟨rfl, rfl⟩, fun i hi => ⟨rfl, ?_, rfl⟩, ?_, by decide, ?_, by decide, Or.inr rfl⟩
  · simp [catExSt]; omega
  · intro j hj
    have : j = 0 ∨ j = 1 := by omega
    rcases this with h | h <;> subst h <;> decide
  · intro j hj
    have : j = 0 ∨ j = 1 := by omega
    rcases this with h | h <;> subst h <;> decide

/-- test instances on `catExSt` (kernel-evaluated): "xy" ++ "ab" with the source two cells behind the terminator —
the third cell appended (the terminator) would be `src[0]`: ESOVRLP; `strncat_s(…, 1)` appends "a" and its NUL below
src: EOK -/
example : cpyRet (exec (strcat_s {} 100 6 104 none) catExSt) = some ESOVRLP ∧
    cpyRet (exec (strncat_s {} 100 6 104 1 none none) catExSt) = some EOK := by
  decide

/-! ### `slen == 0` of the bounded concatenations (the `_all` theorems above have `0 < slen`) -/

/-- the conclusion of the `slen == 0` special case: `dl` = length of the dest string, `dmax` if dest holds no NUL -/
def CatSlen0 (cfg : Cfg) (dest dmax dl : Nat) (st st' : St) (code : Nat) : Prop :=
  code = (if dl < dmax then EOK else ESZEROL) ∧
  st'.data dest = 0 ∧ (cfg.slack = true → ∀ i, i < dmax → st'.data (dest + i) = 0) ∧
  st'.events = st.events ++ [.handler .str code] ∧ st'.strays = st.strays ∧
  (∀ a, ¬ (dest ≤ a ∧ a < dest + dmax) → st'.data a = st.data a)

/-- **strncat_s(dest, dmax, src, 0)** as the code (and its man page: "analog to msvcrt") defines it: EOK when dest is
terminated within `dmax`, else ESZEROL — and in BOTH cases dest is cleared and the handler called once with the code
returned (with EOK: listed `strncat-slen0-handler-eok`); `src` is not read.  So at `slen = 0` EOK does NOT mean
"dest = old dest ++ nothing": see the witness. -/
theorem strncat_s_C06_slen0 (cfg : Cfg) (dest dmax src dl : Nat) (destbos srcbos : Bos) (st : St)
    (hall : ∀ a, st.mapped a = true ∧ st.rd a = true)
    (hd : dest ≠ 0) (hs : src ≠ 0) (hpos : 0 < dmax) (hle : dmax ≤ RSIZE_MAX_STR)
    (hb : ∀ b, destbos = some b → dmax ≤ b)
    (hrw : RW st dest dmax)
    (hdl : dl ≤ dmax) (hdnz : ∀ j, j < dl → st.data (dest + j) ≠ 0) (hdnul : dl < dmax → st.data (dest + dl) = 0) :
    ∃ code st', exec (strncat_s cfg dest dmax src 0 destbos srcbos) st = .ok (code, st') ∧
      CatSlen0 cfg dest dmax dl st st' code := by
  unfold strncat_s
  rw [strncatG_slen0_eq _ cfg dest dmax src destbos srcbos hd hs hpos hle hb]
  obtain ⟨len, he, hlen⟩ := strnlen_s_first dest dmax st hall hd hpos hle
  have e := hlen.unique hdl hdnz hdnul
  subst e
  simp only [exec_bind, he]
  obtain ⟨st', hx, hp⟩ := handleError_pure cfg dest dmax (if len < dmax then EOK else ESZEROL) _ st hrw hpos
  simp only [exec_bind] at hx
  exact ⟨_, st', hx, rfl, hp.first, hp.slack, hp.events, hp.strays, hp.frame⟩

/-- the wide twin of `strncat_s_C06_slen0` (cells are `wchar_t`, limit `RSIZE_MAX_WSTR`, known object sizes in bytes) -/
theorem wcsncat_s_C06_slen0 (cfg : Cfg) (dest dmax src dl : Nat) (destbos srcbos : Bos) (st : St)
    (hall : ∀ a, st.mapped a = true ∧ st.rd a = true)
    (hd : dest ≠ 0) (hs : src ≠ 0) (hpos : 0 < dmax) (hle : dmax ≤ RSIZE_MAX_WSTR)
    (hb : ∀ b, destbos = some b → dmax * SIZEOF_WCHAR_T ≤ b)
    (hrw : RW st dest dmax)
    (hdl : dl ≤ dmax) (hdnz : ∀ j, j < dl → st.data (dest + j) ≠ 0) (hdnul : dl < dmax → st.data (dest + dl) = 0) :
    ∃ code st', exec (wcsncat_s cfg dest dmax src 0 destbos srcbos) st = .ok (code, st') ∧
      CatSlen0 cfg dest dmax dl st st' code := by
  rw [wcsncat_s_slen0_eq cfg dest dmax src destbos srcbos hd hs hpos hle hb]
  obtain ⟨len, he, hlen⟩ := wcsnlen_s_first dest dmax st hall hd hpos hle
  have e := hlen.unique hdl hdnz hdnul
  subst e
  simp only [exec_bind, he]
  obtain ⟨st', hx, hp⟩ := handleError_pure cfg dest dmax (if len < dmax then EOK else ESZEROL) _ st hrw hpos
  simp only [exec_bind] at hx
  exact ⟨_, st', hx, rfl, hp.first, hp.slack, hp.events, hp.strays, hp.frame⟩

/-- the code and one cell of a run -/
def cpyObs (r : Except Fault (Nat × St)) (a : Nat) : Option (Nat × Nat) :=
  match r with
  | .ok (c, st) => some (c, st.data a)
  | .error _ => none

/-- `strncat_s(d = "xy", 6, "ab", 0)` on `catExSt`: EOK with `d[0] = 0` — success, but dest is not "xy" ++ "" (the
documented special case; `strncat(d, s, 0)` leaves `d` alone).  The conclusion of `strncat_s_C06_all` does not extend
to `slen = 0`. -/
theorem strncat_s_C06_slen0_witness :
    catExSt.data 100 ≠ 0 ∧ cpyObs (exec (strncat_s {} 100 6 104 0 none none) catExSt) 100 = some (EOK, 0) ∧
      cpyObs (exec (wcsncat_s {} 100 6 104 0 none none) catExSt) 100 = some (EOK, 0) := by
  decide

end SafeC.Props.C06
