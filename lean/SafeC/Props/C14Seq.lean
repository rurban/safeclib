import SafeC.Proofs.TokSeq
import SafeC.Props.C14
/-!
# C14, whole call sequences

`Inv st dls p n` is what a caller's tokenizing loop has before a call: everything readable, the
remaining extent `[p, p+n)` writable and holding a NUL, each delimiter string that will be used has
1..`STRTOK_DELIM_MAX_LEN` characters and lies outside the extent.

* `calls_eq_spec` — ANY number of successive calls, each with its own delimiter string, threading
  `*ptr` / `*dmaxp` as the caller does, never faults, and returns exactly `specSeq`, the pure call
  sequence computed from the memory contents;
* `specSeq_replicate` — with one delimiter string throughout, `specSeq` on the memory AS IT WAS
  BEFORE THE FIRST CALL is: the start addresses of `toks` (the maximal delimiter-free runs of the
  original string) in order, each once, then NULL for every further call;
* `toks_sound` / `toks_cover` — `toks` is exactly the set of maximal delimiter-free runs: inside a
  run no NUL and no delimiter, a run ends at a delimiter or the terminator, runs are separated by
  delimiters only, and every non-delimiter character in front of the terminator lies in some run;
* `strtok_sequence` — `calls_eq_spec` and `specSeq_replicate` combined, for `strtok_s` and `wcstok_s`.

`Inv`, `specSeq`, `toks` are defined in `Proofs/TokSeq.lean`, `moreCalls` in `Props/C14.lean`.
-/
namespace SafeC.Props.C14
open SafeC Gen

/-- **any call sequence = the pure call sequence**; no call faults -/
theorem calls_eq_spec (wide : Bool) (dls : List Nat) (p n : Nat) (st : St) (hI : Inv st dls p n) :
    ∃ st', exec (moreCalls wide dls p n) st = .ok (specSeq dls st.data p n, st') := by
  induction dls generalizing st p n with
  | nil => exact ⟨st, rfl⟩
  | cons dl rest ih =>
    obtain ⟨st1, he, hdata, hI'⟩ := hI.step wide
    obtain ⟨st2, he2⟩ := ih _ _ st1 hI'
    refine ⟨st2, ?_⟩
    simp only [moreCalls, exec_bind, he, Option.getD_some, he2, specSeq, hdata]
    rfl

/-- on the terminator: NULL forever (pure form) -/
theorem specSeq_at_nul (k dl : Nat) (m : Nat → Nat) (p n : Nat) (h0 : m p = 0) :
    specSeq (List.replicate k dl) m p n = List.replicate k 0 := by
  induction k with
  | zero => rfl
  | succ k ih =>
    have hs : skipD m dl n p = p := by
      cases n with
      | zero => rfl
      | succ j => simp [skipD, h0]
    have hc : callSpec m dl p n = { ret := 0, ptr := p, rem := n, cut := none } := by
      unfold callSpec; simp [hs, h0]
    simp only [List.replicate_succ, specSeq, hc, afterCall]
    rw [ih]

theorem toks_congr (m m' : Nat → Nat) (dl fuel p n : Nat) (hd : DelimAgree m m' dl) (h : ∀ x, p ≤ x → m x = m' x) :
    toks m dl fuel p n = toks m' dl fuel p n := by
  induction fuel generalizing p n with
  | zero => rfl
  | succ f ih =>
    have e1 := skipD_congr m m' dl n p hd h
    have hb := skipD_bounds m' dl n p
    simp only [toks, e1, h (skipD m' dl n p) hb.1]
    split
    · rfl
    · have e2 := findE_congr m m' dl (n - (skipD m' dl n p - p) - 1) (skipD m' dl n p + 1) hd (fun x hx => h x (by omega))
      have hfb := findE_bounds m' dl (n - (skipD m' dl n p - p) - 1) (skipD m' dl n p + 1)
      simp only [e2, h _ (show p ≤ findE m' dl (n - (skipD m' dl n p - p) - 1) (skipD m' dl n p + 1) by omega)]
      split
      · rfl
      · rw [ih _ _ (fun x hx => h x (by omega))]

/-- **exactly the tokens, in order, each once, then NULL forever.** One delimiter string `dl` for all
`k` calls; `m` is the memory BEFORE the first call (the calls overwrite delimiters as they go — the
statement is about the original string). -/
theorem specSeq_replicate (k dl : Nat) (m : Nat → Nat) (p n : Nat) (hz : scanLen m p n < n)
    (hap : ∀ j, j ≤ STRTOK_DELIM_MAX_LEN → ¬ (p ≤ dl + j ∧ dl + j < p + n)) :
    specSeq (List.replicate k dl) m p n =
      (toks m dl k p n).map Prod.fst ++ List.replicate (k - (toks m dl k p n).length) 0 := by
  induction k generalizing m p n with
  | zero => rfl
  | succ k ih =>
    have h := callSpec_cases m dl p n hz
    have hterm := term_after m dl p n hz
    have hagd := afterCall_agree_delim m dl dl p n hz hap
    have hagt := afterCall_agree_tail m dl p n hz
    simp only [List.replicate_succ, specSeq, toks]
    generalize callSpec m dl p n = c at h hterm hagd hagt
    cases h with
    | nul a hs h1 h2 _ h0 =>
      -- no token: NULL now and forever
      simp only [hs, h0, if_true, afterCall, List.map_nil, List.length_nil, List.nil_append, Nat.sub_zero]
      rw [specSeq_at_nul k dl m _ _ h0]; rfl
    | last a b hs hf h1 h2 h3 _ htok h0 =>
      -- the last token, ended by the terminator
      simp only [hs, hf, (htok a (Nat.le_refl _) h2).1, h0, if_true, if_false, afterCall, List.map_cons, List.map_nil,
        List.length_cons, List.length_nil]
      rw [specSeq_at_nul k dl m _ _ h0]; simp
    | cut a b hs hf h1 h2 h3 _ htok h0 hd =>
      -- a token ended by a delimiter: cut it, continue behind it
      dsimp only at hterm hagd hagt
      simp only [hs, hf, (htok a (Nat.le_refl _) h2).1, h0, if_false, List.map_cons, List.length_cons]
      rw [ih _ _ _ hterm (fun j hj h => hap j hj ⟨by omega, by omega⟩), ← toks_congr m _ dl k _ _ hagd hagt,
        rem_cut h1 h2 h3]
      simp only [List.cons_append, Nat.succ_sub_succ_eq_sub]


/-- soundness: every listed run lies inside the extent, is not empty, contains no NUL and no delimiter,
and ends at a delimiter or at the terminator.  (That nothing but delimiters lies between the runs is
`toks_cover`.) -/
theorem toks_sound (m : Nat → Nat) (dl fuel p n : Nat) (hz : scanLen m p n < n) :
    ∀ t ∈ toks m dl fuel p n,
      p ≤ t.1 ∧ t.1 < t.2 ∧ t.2 < p + n ∧
      (∀ j, t.1 ≤ j → j < t.2 → m j ≠ 0 ∧ isDelim m dl (m j) = false) ∧
      (m t.2 = 0 ∨ isDelim m dl (m t.2) = true) := by
  induction fuel generalizing p n with
  | zero => intro t ht; simp [toks] at ht
  | succ f ih =>
    intro t ht
    have h := callSpec_cases m dl p n hz
    have hn := nul_after m dl p n hz
    generalize callSpec m dl p n = c at h hn
    simp only [toks] at ht
    cases h with
    | nul a hs _ _ _ h0 => simp [hs, h0] at ht
    | last a b hs hf h1 h2 h3 _ htok h0 =>
      simp only [hs, hf, (htok a (Nat.le_refl _) h2).1, h0, if_true, if_false, List.mem_singleton] at ht
      subst ht; exact ⟨h1, h2, h3, htok, .inl h0⟩
    | cut a b hs hf h1 h2 h3 _ htok h0 hd =>
      simp only [hs, hf, (htok a (Nat.le_refl _) h2).1, h0, if_false, List.mem_cons] at ht
      rcases ht with rfl | ht
      · exact ⟨h1, h2, h3, htok, .inr hd⟩
      · -- a later run: the induction hypothesis behind the cut
        rw [rem_cut h1 h2 h3] at ht
        dsimp only at hn
        obtain ⟨i1, i2, i3, i4, i5⟩ := ih _ _ (by omega) t ht
        exact ⟨by omega, i2, by omega, i4, i5⟩


/-- completeness: with enough fuel every cell in front of the terminator is a delimiter or lies in
a listed run — no token is skipped, none is split. -/
theorem toks_cover (m : Nat → Nat) (dl fuel p n : Nat) (hz : scanLen m p n < n) (hf : n ≤ fuel) :
    ∀ x, p ≤ x → x < p + scanLen m p n →
      isDelim m dl (m x) = true ∨ ∃ t ∈ toks m dl fuel p n, t.1 ≤ x ∧ x < t.2 := by
  induction fuel generalizing p n with
  | zero => omega
  | succ f ih =>
    intro x hx1 hx2
    have hxnz : ∀ y, p ≤ y → y ≤ x → m y ≠ 0 := fun y hy1 hy2 => by
      have := scanLen_nonzero m p n (y - p) (by omega)
      rwa [show p + (y - p) = y by omega] at this
    have h := callSpec_cases m dl p n hz
    have hn := nul_after m dl p n hz
    generalize callSpec m dl p n = c at h hn
    simp only [toks]
    cases h with
    | nul a hs h1 _ hlead h0 =>
      exact .inl (hlead x hx1 (Nat.lt_of_not_le fun hle => hxnz a h1 hle h0)).2
    | last a b hs hf' h1 h2 h3 hlead htok h0 =>
      by_cases hxa : x < a
      · exact .inl (hlead x hx1 hxa).2
      · have hxb : x < b := Nat.lt_of_not_le fun hle => hxnz b (by omega) hle h0
        simp only [hs, hf', (htok a (Nat.le_refl _) h2).1, h0, if_true, if_false]
        exact .inr ⟨_, List.mem_singleton.mpr rfl, by omega, hxb⟩
    | cut a b hs hf' h1 h2 h3 hlead htok h0 hd =>
      simp only [hs, hf', (htok a (Nat.le_refl _) h2).1, h0, if_false]
      by_cases hxa : x < a
      · exact .inl (hlead x hx1 hxa).2
      · by_cases hxb : x < b
        · exact .inr ⟨_, List.mem_cons_self, by omega, hxb⟩
        · by_cases hxe : x = b
          · exact .inl (hxe ▸ hd)
          · -- behind the cut: the induction hypothesis, the terminator being where it was
            dsimp only at hn
            rw [rem_cut h1 h2 h3]
            exact (ih _ _ (by omega) (by omega) x (by omega) (by omega)).imp_right
              fun ⟨t, ht, hx⟩ => ⟨t, List.mem_cons_of_mem _ ht, hx⟩


/-- **C14 for a whole call sequence** (`wide = false`: `strtok_s`, `true`: `wcstok_s`): `k` calls with
the delimiter string `dl` return the start addresses of the maximal delimiter-free runs of the
ORIGINAL string in order, each once, then NULL for every further call; no call faults. -/
theorem strtok_sequence (wide : Bool) (k dl p n : Nat) (st : St) (hI : Inv st (List.replicate k dl) p n)
    (hap : ∀ j, j ≤ STRTOK_DELIM_MAX_LEN → ¬ (p ≤ dl + j ∧ dl + j < p + n)) :
    ∃ st', exec (moreCalls wide (List.replicate k dl) p n) st =
      .ok ((toks st.data dl k p n).map Prod.fst ++ List.replicate (k - (toks st.data dl k p n).length) 0, st') := by
  obtain ⟨st', he⟩ := calls_eq_spec wide _ p n st hI
  rw [specSeq_replicate k dl st.data p n hI.term hap] at he
  exact ⟨st', he⟩

/-- non-vacuity: "a,b" at 100 (dmax 4), delimiters "," at 200: two tokens at 100 and 102, then NULL -/
example : toks exMem 200 5 100 4 = [(100, 101), (102, 103)] ∧
    specSeq (List.replicate 4 200) exMem 100 4 = [100, 102, 0, 0] := by
  constructor <;> decide

end SafeC.Props.C14
