import SafeC.Models.Query
import SafeC.Models.Query2
import SafeC.Models.Inplace
import SafeC.Props.C02
import SafeC.Proofs.AccWalk
/-!
# C02 for the counter-bounded scans: `strnlen_s wcsnlen_s memchr_s memrchr_s memcmp_s memcmp16_s memcmp32_s
strtolowercase_s strtouppercase_s`

Setting as in `Props/C02.lean`: ONLY the declared extents need to be mapped (`RD`: mapped and
readable; `RW` for an in-place destination). Conclusion: for ALL argument values — any sizes, any
object-size knowledge, NULL or not — and ALL contents of the declared cells the call returns (no
fault: nothing unmapped was touched) and records no stray access (`NoStray`).

Proved through the `Acc` judgement (`Proofs/Acc.lean`; the loop lemmas in `Proofs/AccWalk.lean`; `runs_of_Acc` in
`Props/C02.lean`): every load address of the model lies
in the declared extent whatever values the loads return.  (The two case functions are the value-aware walk `caseFn_accs` under `runs_of_AccS`.)  The functions whose loops test `*p` BEFORE the
counter (`while (*p && n)`) do not satisfy it — that is known finding `read-before-bound`; they are
not listed here.
-/
namespace SafeC.Props.C02
open SafeC

/-- `a` lies in the `n` cells at `lo` -/
def In (lo n a : Nat) : Prop := lo ≤ a ∧ a < lo + n

theorem Acc_qFailS {R W : Nat → Prop} (c : Nat) : Acc R W (qFailS c) (fun _ => True) := by
  unfold qFailS; exact Acc.handlerSBind _ (Acc.pure _ trivial)

/-- **strnlen_s**: at most the first `smax` characters are read — all `smax`, any object-size knowledge -/
theorem strnlen_s_C02 (str smax : Nat) (b : Bos) (st : St) (hrd : str ≠ 0 → RD st str smax) :
    ∃ n st', exec (strnlen_s str smax b) st = .ok (n, st') ∧ NoStray st st' :=
  runs_of_Acc (Acc_strnlen_s_le str smax b (Rd_of_RD.guard hrd))

theorem wcsnlen_s_C02 (str smax : Nat) (b : Bos) (st : St) (hrd : str ≠ 0 → RD st str smax) :
    ∃ n st', exec (wcsnlen_s_chk str smax b) st = .ok (n, st') ∧ NoStray st st' := by
  refine runs_of_Acc (Q := fun _ => True) ?_
  unfold wcsnlen_s_chk
  have fail : ∀ c, Acc (Rd st) (Wr st) (do handlerS c; pure 0 : Prog Nat) (fun _ => True) :=
    fun _ => Acc.handlerSBind _ (Acc.pure _ trivial)
  refine Acc.ite (fun _ => Acc.pure _ trivial) fun hs => Acc.ite (fun _ => fail _) fun _ => Acc.ite (fun _ => fail _) fun _ => ?_
  cases b with
  | none => exact (Acc_wcsnlenLoop_le smax str 0 (Rd_of_RD (hrd hs))).conseq (fun _ _ => trivial)
  | some b => exact Acc_wcsnlenBosLoop smax smax str 0 b (Rd_of_RD (hrd hs))

/-- **memchr_s**: only the `dmax` declared bytes are read, for every argument combination -/
theorem memchr_s_C02 (dest dmax : Nat) (ch : Int) (b : Bos) (st : St) (hrd : dest ≠ 0 → RD st dest dmax) :
    ∃ r st', exec (memchr_s dest dmax ch b) st = .ok (r, st') ∧ NoStray st st' := by
  refine runs_of_Acc (Q := fun _ => True) ?_
  unfold memchr_s
  refine Acc.bind (Acc_qChkM dest dmax b) (fun x hx => ?_)
  cases x with
  | some e => exact Acc.pure _ trivial
  | none =>
    exact Acc.ite (fun _ => Acc.handlerSBind _ (Acc.pure _ trivial)) fun _ =>
      Acc.bind (Acc_memchrP _ dmax dest (Rd_of_RD (hrd (hx rfl))))
        fun r _ => Acc.ite (fun _ => Acc.pure _ trivial) fun _ => Acc.pure _ trivial

theorem memrchr_s_C02 (dest dmax : Nat) (ch : Int) (b : Bos) (st : St) (hrd : dest ≠ 0 → RD st dest dmax) :
    ∃ r st', exec (memrchr_s dest dmax ch b) st = .ok (r, st') ∧ NoStray st st' :=
  runs_of_Acc (Acc_memrchr_s dest dmax ch b (Rd_of_RD.guard hrd))

/-- **memcmp_s / memcmp16_s / memcmp32_s** (shared body): only the first `slen` elements of each
operand are read, and only when `slen ≤ dlen` — for every argument combination -/
theorem memcmpG_C02 (max : Nat) (f : Nat → Nat → Int) (dest dlen src slen dB sB dL dL' : Nat) (db sb : Bos) (st : St)
    (hd : dest ≠ 0 → RD st dest dlen) (hs : src ≠ 0 → RD st src slen) :
    ∃ r st', exec (memcmpG max f dest dlen src slen dB sB dL dL' db sb) st = .ok (r, st') ∧ NoStray st st' := by
  refine runs_of_Acc (Q := fun _ => True) ?_
  unfold memcmpG
  have fail : ∀ c, Acc (Rd st) (Wr st) (do handlerM c; pure (c, (-1 : Int)) : Prog (Nat × Int)) (fun _ => True) :=
    fun _ => Acc.handlerMBind _ (Acc.pure _ trivial)
  refine Acc.ite (fun _ => fail _) fun hdn => Acc.ite (fun _ => fail _) fun hsn => Acc.ite (fun _ => fail _) fun _ =>
    Acc.bind (Acc_memcmpChecks max dlen slen dB sB dL dL' db sb) (fun x hx => ?_)
  cases x with
  | some e => exact Acc.pure _ trivial
  | none =>
    have hmin : min dlen slen = slen := by have := hx rfl; omega
    refine Acc.ite (fun _ => Acc.pure _ trivial) fun _ =>
      Acc.bind (Acc_memcmpLoopQ f dlen slen dest src ?_ ?_) (fun _ _ => Acc.pure _ trivial)
    · rw [hmin]; exact fun a ha => Rd_of_RD (hd hdn) a ha.within
    · rw [hmin]; exact Rd_of_RD (hs hsn)

theorem memcmp_s_C02 (dest dmax src slen : Nat) (db sb : Bos) (st : St)
    (hd : dest ≠ 0 → RD st dest dmax) (hs : src ≠ 0 → RD st src slen) :
    ∃ r st', exec (memcmp_s dest dmax src slen db sb) st = .ok (r, st') ∧ NoStray st st' :=
  memcmpG_C02 _ _ dest dmax src slen _ _ _ _ db sb st hd hs

/-- **memcmp16_s** (cells are 16-bit elements) -/
theorem memcmp16_s_C02 (dest dlen src slen : Nat) (db sb : Bos) (st : St)
    (hd : dest ≠ 0 → RD st dest dlen) (hs : src ≠ 0 → RD st src slen) :
    ∃ r st', exec (memcmp16_s dest dlen src slen db sb) st = .ok (r, st') ∧ NoStray st st' :=
  memcmpG_C02 _ _ dest dlen src slen _ _ _ _ db sb st hd hs

/-- **memcmp32_s** (cells are 32-bit elements) -/
theorem memcmp32_s_C02 (dest dlen src slen : Nat) (db sb : Bos) (st : St)
    (hd : dest ≠ 0 → RD st dest dlen) (hs : src ≠ 0 → RD st src slen) :
    ∃ r st', exec (memcmp32_s dest dlen src slen db sb) st = .ok (r, st') ∧ NoStray st st' :=
  memcmpG_C02 _ _ dest dlen src slen _ _ _ _ db sb st hd hs

theorem RW_of (st : St) (d n : Nat) (h : RW st d n) :
    (∀ a, In d n a → st.mapped a = true ∧ st.rd a = true) ∧ (∀ a, In d n a → st.mapped a = true ∧ st.wr a = true) :=
  ⟨Rd_of_RW h, Wr_of_RW h⟩

/-- **strtolowercase_s**: reads and writes stay inside `dest[0..dmax)`, nothing else needs to be mapped -/
theorem strtolowercase_s_C02 (cfg : Cfg) (dest dmax : Nat) (b : Bos) (st : St) (hrw : dest ≠ 0 → RW st dest dmax) :
    ∃ r st', exec (strtolowercase_s cfg dest dmax b) st = .ok (r, st') ∧ NoStray st st' :=
  runs_of_AccS (caseFn_accs _ _ _ dest dmax b (Rd_of_RW.guard hrw) (Wr_of_RW.guard hrw))

theorem strtouppercase_s_C02 (cfg : Cfg) (dest dmax : Nat) (b : Bos) (st : St) (hrw : dest ≠ 0 → RW st dest dmax) :
    ∃ r st', exec (strtouppercase_s cfg dest dmax b) st = .ok (r, st') ∧ NoStray st st' :=
  runs_of_AccS (caseFn_accs _ _ _ dest dmax b (Rd_of_RW.guard hrw) (Wr_of_RW.guard hrw))

example : ∃ st : St, ((100 : Nat) ≠ 0 → RD st 100 5) ∧ st.mapped 105 = false :=
  ⟨{ data := fun _ => 7, mapped := fun a => decide (100 ≤ a ∧ a < 105), rd := fun a => decide (100 ≤ a ∧ a < 105), wr := fun _ => false },
   fun _ i hi => ⟨by simp; omega, by simp; omega⟩, by simp⟩

/-!
# C02, full statements: `strrchr_s wmemcmp_s timingsafe_bcmp timingsafe_memcmp strnterminate_s`

These loops test their counter before they dereference (or have no data-dependent exit at all): the footprint
does not depend on the contents, so the value-independent judgement `Acc` gives the statement of C02 as it
stands — ONLY the declared cells mapped, every argument combination, every content, object sizes known or not.
-/

/-- **strrchr_s** (FULL, after the repair of the tail read): `strnlen_s(dest, dmax)` then `memrchr` over at most
`dmax` cells — the unterminated array that exactly fills `dmax` included -/
theorem strrchr_s_C02 (dest dmax : Nat) (ch : Int) (db : Bos) (st : St) (hrd : dest ≠ 0 → RD st dest dmax) :
    Runs (strrchr_s dest dmax ch db) st :=
  runs_of_Acc (Acc_strrchr_s dest dmax ch db (Rd_of_RD.guard hrd))

/-- **wmemcmp_s** (FULL): the first `slen` elements of each operand, and only when `slen ≤ dlen` -/
theorem wmemcmp_s_C02 (dest dlen src slen : Nat) (db sb : Bos) (st : St)
    (hd : dest ≠ 0 → RD st dest dlen) (hs : src ≠ 0 → RD st src slen) :
    Runs (wmemcmp_s dest dlen src slen db sb) st :=
  runs_of_Acc (Acc_wmemcmp_s dest dlen src slen db sb
    (fun h hle a ha => Rd_of_RD (hd h) a ha.within) (Rd_of_RD.guard hs))

/-- **timingsafe_bcmp** (FULL): exactly the `n` bytes of each operand (no data-dependent exit) -/
theorem timingsafe_bcmp_C02 (b1 b2 n : Nat) (db sb : Bos) (st : St) (h1 : RD st b1 n) (h2 : RD st b2 n) :
    Runs (timingsafe_bcmp b1 b2 n db sb) st :=
  runs_of_Acc (Acc_timingsafe_bcmp b1 b2 n db sb (Rd_of_RD h1) (Rd_of_RD h2))

/-- **timingsafe_memcmp** (FULL) -/
theorem timingsafe_memcmp_C02 (b1 b2 n : Nat) (db sb : Bos) (st : St) (h1 : RD st b1 n) (h2 : RD st b2 n) :
    Runs (timingsafe_memcmp b1 b2 n db sb) st :=
  runs_of_Acc (Acc_timingsafe_memcmp b1 b2 n db sb (Rd_of_RD h1) (Rd_of_RD h2))

/-- **strnterminate_s** (FULL): `while (dmax > 1)` — reads `dest[0 .. dmax-1)`, writes one terminator inside `dmax` -/
theorem strnterminate_s_C02 (cfg : Cfg) (dest dmax : Nat) (db : Bos) (st : St) (hrw : dest ≠ 0 → RW st dest dmax) :
    Runs (strnterminate_s cfg dest dmax db) st :=
  runs_of_Acc (Acc_strnterminate_s cfg dest dmax db
    (fun h a ha => Rd_of_RW (hrw h) a ha.within) (Wr_of_RW.guard hrw))

/-- non-vacuity: two unterminated 4-cell arrays flush against unmapped memory -/
example : ∃ st : St, RD st 100 4 ∧ RD st 200 4 ∧ ¬ Term st 100 4 ∧ st.mapped 104 = false ∧ st.mapped 204 = false :=
  ⟨win (fun _ => 7) 100 104 200 204, win_RD (by omega), win_RD (by omega),
   fun ⟨i, _, h⟩ => by simp [win] at h, by decide, by decide⟩
end SafeC.Props.C02

