import SafeC.Proofs.CopyDisjoint
import SafeC.Proofs.CopyOverlap
import SafeC.Props.C06
/-!
# C06 (extension) — `strncat_s`, and the wide twins `wcsncpy_s` / `wcscat_s` / `wcsncat_s` as instances

For valid, non-overlapping operands: EOK exactly when the complete result including its terminator fits in `dmax`,
and then dest holds exactly what the standard counterpart produces (`strncat`: the old dest string followed by the
first `m = min(slen, strlen src)` source characters and a terminator); otherwise the call fails (ESNOSPC) — never a
shortened result reported as success.  `cells` is the list view of `Props/C06.lean`.
-/
namespace SafeC.Props.C06
open SafeC Gen

/-- strncat: old dest string ++ first `m = min(slen, strlen src)` source characters ++ [0] -/
theorem strncat_s_C06 (cfg : Cfg) (dest dmax src slen dl m : Nat) (st : St)
    (hd : dest ≠ 0) (hs : src ≠ 0) (hpos : 0 < dmax) (hle : dmax ≤ RSIZE_MAX_STR)
    (hslen : 0 < slen) (hslenle : slen ≤ RSIZE_MAX_STR) (hrw : RW st dest dmax)
    (hnz : ∀ j, j < m → st.data (src+j) ≠ 0)
    (hrd : ∀ j, j < m → st.mapped (src+j) = true ∧ st.rd (src+j) = true)
    (hfin : (m < slen ∧ st.data (src+m) = 0 ∧ st.mapped (src+m) = true ∧ st.rd (src+m) = true) ∨ slen = m)
    (hdisj : dest + dmax ≤ src ∨ src + m < dest)
    (hdl : dl < dmax) (hdnz : ∀ j, j < dl → st.data (dest+j) ≠ 0) (hdnul : st.data (dest+dl) = 0) :
    ∃ code st', exec (strncat_s cfg dest dmax src slen none none) st = .ok (code, st') ∧
      (code = EOK ↔ dl + m + 1 ≤ dmax) ∧
      (code = EOK → cells st' dest dl = cells st dest dl ∧ cells st' (dest+dl) m = cells st src m ∧
        st'.data (dest+dl+m) = 0) := by
  obtain ⟨code, st', he, _, _, _, _, _, hok, hfail⟩ :=
    strncatG_disjoint _ cfg dest dmax src slen dl m st hd hs hpos hle hslen hslenle hrw hnz hrd hfin hdisj hdl hdnz hdnul
  have key := eok_iff_fits hok hfail
  refine ⟨code, st', he, key, fun hc => ?_⟩
  obtain ⟨_, _, hpre, hcp, hnul, _⟩ := hok (key.1 hc)
  exact ⟨cells_eq st st' dest dest dl hpre, cells_eq st st' (dest+dl) src m hcp, hnul⟩

/-- wcsncpy: the first `m = min(slen, wcslen src)` wide characters, then a terminator -/
theorem wcsncpy_s_C06 (cfg : Cfg) (dest dmax src slen m : Nat) (st : St)
    (hd : dest ≠ 0) (hs : src ≠ 0) (hpos : 0 < dmax) (hle : dmax ≤ RSIZE_MAX_WSTR)
    (hslen : 0 < slen) (hslenle : slen ≤ RSIZE_MAX_WSTR) (hrw : RW st dest dmax)
    (hnz : ∀ j, j < m → st.data (src+j) ≠ 0)
    (hrd : ∀ j, j < m → st.mapped (src+j) = true ∧ st.rd (src+j) = true)
    (hfin : (m < slen ∧ st.data (src+m) = 0 ∧ st.mapped (src+m) = true ∧ st.rd (src+m) = true) ∨ slen = m)
    (hdisj : dest + dmax ≤ src ∨ src + m < dest) :
    ∃ code st', exec (wcsncpy_s cfg dest dmax src slen none none) st = .ok (code, st') ∧
      (code = EOK ↔ m + 1 ≤ dmax) ∧
      (code = EOK → cells st' dest m = cells st src m ∧ st'.data (dest+m) = 0) := by
  rw [wcsncpy_s_eq cfg dest dmax src slen hslenle]
  obtain ⟨code, st', he, _, _, _, _, _, hok, hfail⟩ :=
    strncpyG_disjoint _ cfg dest dmax src slen m st hd hs hpos hle hslen hslenle hrw hnz hrd hfin hdisj
  have key := eok_iff_fits hok hfail
  refine ⟨code, st', he, key, fun hc => ?_⟩
  obtain ⟨_, _, hcp, hnul, _⟩ := hok (key.1 hc)
  exact ⟨cells_eq st st' dest src m hcp, hnul⟩

/-- wcscat: old dest string ++ src string ++ [0] -/
theorem wcscat_s_C06 (cfg : Cfg) (dest dmax src dl n : Nat) (st : St)
    (hd : dest ≠ 0) (hs : src ≠ 0) (hpos : 0 < dmax) (hle : dmax ≤ RSIZE_MAX_WSTR)
    (hrw : RW st dest dmax) (hsrc : SrcStr st src n) (hdisj : Disjoint dest dmax src n)
    (hdl : dl < dmax) (hdnz : ∀ j, j < dl → st.data (dest+j) ≠ 0) (hdnul : st.data (dest+dl) = 0) :
    ∃ code st', exec (wcscat_s cfg dest dmax src none) st = .ok (code, st') ∧
      (code = EOK ↔ dl + n + 1 ≤ dmax) ∧
      (code = EOK → cells st' dest dl = cells st dest dl ∧ cells st' (dest+dl) n = cells st src n ∧
        st'.data (dest+dl+n) = 0) := by
  rw [wcscat_s_eq]
  obtain ⟨code, st', he, _, _, _, _, _, hok, hfail⟩ :=
    strcatG_disjoint _ cfg dest dmax src dl n st hd hs hpos hle hrw hsrc hdisj hdl hdnz hdnul
  have key := eok_iff_fits hok hfail
  refine ⟨code, st', he, key, fun hc => ?_⟩
  obtain ⟨_, _, hpre, hcp, hnul, _⟩ := hok (key.1 hc)
  exact ⟨cells_eq st st' dest dest dl hpre, cells_eq st st' (dest+dl) src n hcp, hnul⟩

/-- wcsncat: old dest string ++ first `m = min(slen, wcslen src)` wide characters ++ [0] -/
theorem wcsncat_s_C06 (cfg : Cfg) (dest dmax src slen dl m : Nat) (st : St)
    (hd : dest ≠ 0) (hs : src ≠ 0) (hpos : 0 < dmax) (hle : dmax ≤ RSIZE_MAX_WSTR)
    (hslen : 0 < slen) (hslenle : slen ≤ RSIZE_MAX_WSTR) (hrw : RW st dest dmax)
    (hnz : ∀ j, j < m → st.data (src+j) ≠ 0)
    (hrd : ∀ j, j < m → st.mapped (src+j) = true ∧ st.rd (src+j) = true)
    (hfin : (m < slen ∧ st.data (src+m) = 0 ∧ st.mapped (src+m) = true ∧ st.rd (src+m) = true) ∨ slen = m)
    (hdisj : dest + dmax ≤ src ∨ src + m < dest)
    (hdl : dl < dmax) (hdnz : ∀ j, j < dl → st.data (dest+j) ≠ 0) (hdnul : st.data (dest+dl) = 0) :
    ∃ code st', exec (wcsncat_s cfg dest dmax src slen none none) st = .ok (code, st') ∧
      (code = EOK ↔ dl + m + 1 ≤ dmax) ∧
      (code = EOK → cells st' dest dl = cells st dest dl ∧ cells st' (dest+dl) m = cells st src m ∧
        st'.data (dest+dl+m) = 0) := by
  rw [wcsncat_s_eq cfg dest dmax src slen hle hslenle (by omega)]
  obtain ⟨code, st', he, _, _, _, _, _, hok, hfail⟩ :=
    strncatG_disjoint _ cfg dest dmax src slen dl m st hd hs hpos hle hslen hslenle hrw hnz hrd hfin hdisj hdl hdnz hdnul
  have key := eok_iff_fits hok hfail
  refine ⟨code, st', he, key, fun hc => ?_⟩
  obtain ⟨_, _, hpre, hcp, hnul, _⟩ := hok (key.1 hc)
  exact ⟨cells_eq st st' dest dest dl hpre, cells_eq st st' (dest+dl) src m hcp, hnul⟩

/-- dest = 100 holds `"ab"` in 8 cells, src = 200 holds `"xyz"`; everything declared -/
def catSt : St :=
  { data := fun a => if a = 100 then 97 else if a = 101 then 98 else
                     if a = 200 then 120 else if a = 201 then 121 else if a = 202 then 122 else 0
    mapped := fun _ => true, rd := fun _ => true, wr := fun _ => true }

/-- non-vacuity: `strncat_s(d, 8, "xyz", 2)` with `d = "ab"`: dl = 2, m = slen = 2 -/
example : RW catSt 100 8 ∧ (∀ j, j < 2 → catSt.data (200+j) ≠ 0) ∧ (∀ j, j < 2 → catSt.data (100+j) ≠ 0) ∧
    catSt.data (100+2) = 0 ∧ ((100:Nat) + 8 ≤ 200 ∨ 200 + 2 < 100) := by
  refine ⟨fun _ _ => ⟨rfl, rfl, rfl⟩, ?_, ?_, by decide, by decide⟩
  · intro j hj; have : j = 0 ∨ j = 1 := by omega
    rcases this with rfl | rfl <;> decide
  · intro j hj; have : j = 0 ∨ j = 1 := by omega
    rcases this with rfl | rfl <;> decide

end SafeC.Props.C06
