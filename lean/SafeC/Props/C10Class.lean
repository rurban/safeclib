import SafeC.Props.C10
import SafeC.Proofs.QueryNested
/-!
# C10: the character-class predicates

`strisalphanumeric_s strishex_s strislowercase_s strisascii_s` (bounded by `dmax`),
`strisdigit_s strismixedcase_s strisuppercase_s` (the loop never tests `dmax`), `strispassword_s`.

Setting as in `C10.lean`.  The value returned is `true` iff the string is not empty (where the code
tests that) and every character before its terminator — at most `dmax` of them — is in the class:
`allCells ok d dest (scanLen d dest dmax)`.  The bounded loops are of the shape
`while (*dest && dmax)`: without a terminator among the first `dmax` cells `dest[dmax]` is read
(known finding `read-before-bound`); its content has NO influence (the theorems hold for all contents).
-/
namespace SafeC.Props.C10
open SafeC Gen

/-- the shape shared by the bounded predicates, on ANY memory -/
theorem predFn_bounded_eq (ok : Nat → Bool) (dest dmax : Nat) (st : St) (hall : AllRd st)
    (hd : dest ≠ 0) (hpos : 0 < dmax) (hle : dmax ≤ RSIZE_MAX_STR) :
    exec (predFn ok true dest dmax none) st =
      .ok ((st.data dest != 0) && allCells ok st.data dest (scanLen st.data dest dmax), st) := by
  unfold predFn
  simp only [chkDestDmaxBool_ok _ hd hpos hle, exec_bind, exec_load_all hall]
  by_cases h0 : st.data dest = 0
  · simp [h0]
  · simp only [h0, if_false, if_true, classLoop_eq hall]
    simp [h0]

/-- the shape shared by the three predicates that never test `dmax`: the scan runs to the terminator
wherever it is.  (`scanFuel2 = 2^20` cells is the model's termination bound: on a memory with no NUL that
near the model answers from the cells up to there, the C loop has no bound.) -/
theorem predFn_unbounded_eq (ok : Nat → Bool) (dest dmax : Nat) (st : St) (hall : AllRd st)
    (hd : dest ≠ 0) (hpos : 0 < dmax) (hle : dmax ≤ RSIZE_MAX_STR) :
    exec (predFn ok false dest dmax none) st =
      .ok ((st.data dest != 0) && allCells ok st.data dest (scanLen st.data dest scanFuel2), st) := by
  unfold predFn
  simp only [chkDestDmaxBool_ok _ hd hpos hle, exec_bind, exec_load_all hall]
  by_cases h0 : st.data dest = 0
  · simp [h0]
  · simp only [h0, if_false, Bool.false_eq_true, classLoopNoBound_eq hall]
    simp [h0]

theorem predFn_unbounded_terminated (ok : Nat → Bool) (dest dmax : Nat) (st : St) (hall : AllRd st)
    (hd : dest ≠ 0) (hpos : 0 < dmax) (hle : dmax ≤ RSIZE_MAX_STR)
    (hz : scanLen st.data dest dmax < dmax) :
    exec (predFn ok false dest dmax none) st =
      .ok ((st.data dest != 0) && allCells ok st.data dest (scanLen st.data dest dmax), st) := by
  rw [predFn_unbounded_eq ok dest dmax st hall hd hpos hle]
  have : dmax ≤ scanFuel2 := by
    have : RSIZE_MAX_STR ≤ scanFuel2 := by decide
    omega
  rw [scanLen_stable _ _ _ _ this hz]

/-- **strisalphanumeric_s**: not empty, and every character of the string (at most `dmax`) is an
ASCII letter or digit -/
theorem strisalphanumeric_s_C10 (dest dmax : Nat) (st : St) (hall : AllRd st)
    (hd : dest ≠ 0) (hpos : 0 < dmax) (hle : dmax ≤ RSIZE_MAX_STR) :
    exec (strisalphanumeric_s dest dmax none) st =
      .ok ((st.data dest != 0) && allCells isAlnumC st.data dest (scanLen st.data dest dmax), st) :=
  predFn_bounded_eq isAlnumC dest dmax st hall hd hpos hle

/-- **strishex_s**: not empty, every character a hexadecimal digit -/
theorem strishex_s_C10 (dest dmax : Nat) (st : St) (hall : AllRd st)
    (hd : dest ≠ 0) (hpos : 0 < dmax) (hle : dmax ≤ RSIZE_MAX_STR) :
    exec (strishex_s dest dmax none) st =
      .ok ((st.data dest != 0) && allCells isHexC st.data dest (scanLen st.data dest dmax), st) :=
  predFn_bounded_eq isHexC dest dmax st hall hd hpos hle

/-- **strislowercase_s**: not empty, every character a lower-case ASCII letter -/
theorem strislowercase_s_C10 (dest dmax : Nat) (st : St) (hall : AllRd st)
    (hd : dest ≠ 0) (hpos : 0 < dmax) (hle : dmax ≤ RSIZE_MAX_STR) :
    exec (strislowercase_s dest dmax none) st =
      .ok ((st.data dest != 0) && allCells isLowerC st.data dest (scanLen st.data dest dmax), st) :=
  predFn_bounded_eq isLowerC dest dmax st hall hd hpos hle

/-- **strisascii_s**: every character of the string (at most `dmax`) is 7-bit; the EMPTY string is
ASCII (no emptiness test in this one) -/
theorem strisascii_s_C10 (dest dmax : Nat) (st : St) (hall : AllRd st)
    (hd : dest ≠ 0) (hpos : 0 < dmax) (hle : dmax ≤ RSIZE_MAX_STR) :
    exec (strisascii_s dest dmax none) st =
      .ok (allCells (fun c => decide (c ≤ 127)) st.data dest (scanLen st.data dest dmax), st) := by
  unfold strisascii_s
  simp only [chkDestDmaxBool_ok _ hd hpos hle]
  exact classLoop_eq hall _ _ _

/-- what `allCells` means -/
theorem allCells_spec (ok : Nat → Bool) (d : Nat → Nat) (p n : Nat) :
    allCells ok d p n = true ↔ ∀ j, j < n → ok (d (p+j)) = true := allCells_iff ok d p n

example : ∃ st : St, AllRd st ∧ (st.data 100 != 0) = true ∧ allCells isAlnumC st.data 100 (scanLen st.data 100 4) = true ∧
    allCells isLowerC st.data 100 (scanLen st.data 100 4) = false :=
  ⟨wMem fun a => if a = 100 then 97 else if a = 101 then 49 else 0, wMem_all _, by decide, by decide, by decide⟩

/-! ## `strisdigit_s`, `strismixedcase_s`, `strisuppercase_s`: `dmax` is never tested

FULL statement (false of the code): *not empty, and every character of the string among the first
`dmax` is in the class.*  The loop is `while (*dest)`: characters BEHIND `dmax` decide the answer. -/

/-- what `strisdigit_s` computes on ANY memory: the class test over the whole string up to its
terminator, wherever that is -/
theorem strisdigit_s_eq (dest dmax : Nat) (st : St) (hall : AllRd st)
    (hd : dest ≠ 0) (hpos : 0 < dmax) (hle : dmax ≤ RSIZE_MAX_STR) :
    exec (strisdigit_s dest dmax none) st =
      .ok ((st.data dest != 0) && allCells isDigitC st.data dest (scanLen st.data dest scanFuel2), st) :=
  predFn_unbounded_eq isDigitC dest dmax st hall hd hpos hle

theorem strismixedcase_s_eq (dest dmax : Nat) (st : St) (hall : AllRd st)
    (hd : dest ≠ 0) (hpos : 0 < dmax) (hle : dmax ≤ RSIZE_MAX_STR) :
    exec (strismixedcase_s dest dmax none) st =
      .ok ((st.data dest != 0) && allCells isAlphaC st.data dest (scanLen st.data dest scanFuel2), st) :=
  predFn_unbounded_eq isAlphaC dest dmax st hall hd hpos hle

theorem strisuppercase_s_eq (dest dmax : Nat) (st : St) (hall : AllRd st)
    (hd : dest ≠ 0) (hpos : 0 < dmax) (hle : dmax ≤ RSIZE_MAX_STR) :
    exec (strisuppercase_s dest dmax none) st =
      .ok ((st.data dest != 0) && allCells isUpperC st.data dest (scanLen st.data dest scanFuel2), st) :=
  predFn_unbounded_eq isUpperC dest dmax st hall hd hpos hle

/-- **strisdigit_s, partial** (a terminator among the first `dmax` cells): not empty and all digits -/
theorem strisdigit_s_C10_partial (dest dmax : Nat) (st : St) (hall : AllRd st)
    (hd : dest ≠ 0) (hpos : 0 < dmax) (hle : dmax ≤ RSIZE_MAX_STR) (hz : scanLen st.data dest dmax < dmax) :
    exec (strisdigit_s dest dmax none) st =
      .ok ((st.data dest != 0) && allCells isDigitC st.data dest (scanLen st.data dest dmax), st) :=
  predFn_unbounded_terminated isDigitC dest dmax st hall hd hpos hle hz

/-- **strismixedcase_s, partial**: not empty and all ASCII letters (of either case) -/
theorem strismixedcase_s_C10_partial (dest dmax : Nat) (st : St) (hall : AllRd st)
    (hd : dest ≠ 0) (hpos : 0 < dmax) (hle : dmax ≤ RSIZE_MAX_STR) (hz : scanLen st.data dest dmax < dmax) :
    exec (strismixedcase_s dest dmax none) st =
      .ok ((st.data dest != 0) && allCells isAlphaC st.data dest (scanLen st.data dest dmax), st) :=
  predFn_unbounded_terminated isAlphaC dest dmax st hall hd hpos hle hz

/-- **strisuppercase_s, partial**: not empty and all upper-case ASCII letters -/
theorem strisuppercase_s_C10_partial (dest dmax : Nat) (st : St) (hall : AllRd st)
    (hd : dest ≠ 0) (hpos : 0 < dmax) (hle : dmax ≤ RSIZE_MAX_STR) (hz : scanLen st.data dest dmax < dmax) :
    exec (strisuppercase_s dest dmax none) st =
      .ok ((st.data dest != 0) && allCells isUpperC st.data dest (scanLen st.data dest dmax), st) :=
  predFn_unbounded_terminated isUpperC dest dmax st hall hd hpos hle hz

/-- memory `"1a"` at 100 -/
def wDigitThenLetter : St := wMem fun a => if a = 100 then 49 else if a = 101 then 97 else 0

/-- `"1a"` with `dmax = 1`: the one character inside the extent is a digit, the answer is `false`
because of the `'a'` behind it.  Known finding `isclass-ignores-dmax`. -/
theorem strisdigit_s_beyond_witness :
    exec (strisdigit_s 100 1 none) wDigitThenLetter = .ok (false, wDigitThenLetter) ∧
    ((wDigitThenLetter.data 100 != 0) && allCells isDigitC wDigitThenLetter.data 100 (scanLen wDigitThenLetter.data 100 1)) = true := by
  constructor
  · rw [strisdigit_s_eq 100 1 wDigitThenLetter (wMem_all _) (by decide) (by decide) (by decide),
      scanLen_stable _ _ 3 scanFuel2 (by decide) (by decide)]
    congr 1
  · decide

/-- `"A1"` with `dmax = 1` for `strisuppercase_s` and `strismixedcase_s`: `false` because of the `'1'`
behind the extent.  Known finding `isclass-ignores-dmax`. -/
theorem strisuppercase_s_beyond_witness :
    let st := wMem fun a => if a = 100 then 65 else if a = 101 then 49 else 0
    exec (strisuppercase_s 100 1 none) st = .ok (false, st) ∧
    exec (strismixedcase_s 100 1 none) st = .ok (false, st) ∧
    allCells isUpperC st.data 100 (scanLen st.data 100 1) = true := by
  intro st
  have hl : scanLen st.data 100 scanFuel2 = 2 := by
    rw [scanLen_stable _ _ 3 scanFuel2 (by decide) (by decide)]; decide
  refine ⟨?_, ?_, by decide⟩
  · rw [strisuppercase_s_eq _ _ _ (wMem_all _) (by decide) (by decide) (by decide), hl]
    congr 1
  · rw [strismixedcase_s_eq _ _ _ (wMem_all _) (by decide) (by decide) (by decide), hl]
    congr 1

example : ∃ st : St, AllRd st ∧ scanLen st.data 100 4 < 4 ∧
    ((st.data 100 != 0) && allCells isDigitC st.data 100 (scanLen st.data 100 4)) = true :=
  ⟨wMem fun a => if a = 100 then 49 else if a = 101 then 50 else 0, wMem_all _, by decide, by decide⟩

/-- the password rule on the `n` characters at `p`: only digits, ASCII letters and the listed
punctuation; fewer than `SAFE_STR_PASSWORD_MAX_LENGTH` characters; at least the configured numbers
of digits, lower-case letters, upper-case letters and punctuation characters -/
def pwOk (d : Nat → Nat) (p n : Nat) : Bool :=
  allCells isPwC d p n &&
  (decide (n < SAFE_STR_PASSWORD_MAX_LENGTH) &&
   decide (countCells isDigitC d p n ≥ SAFE_STR_MIN_NUMBERS) &&
   decide (countCells isLowerC d p n ≥ SAFE_STR_MIN_LOWERCASE) &&
   decide (countCells isUpperC d p n ≥ SAFE_STR_MIN_UPPERCASE) &&
   decide (countCells isSpecialC d p n ≥ SAFE_STR_MIN_SPECIALS))

/-- **strispassword_s** (`SAFE_STR_PASSWORD_MIN_LENGTH ≤ dmax ≤ SAFE_STR_PASSWORD_MAX_LENGTH`, a
terminator among the first `dmax` cells — the function reports ESUNTERM otherwise): `true` iff the
string satisfies the password rule `pwOk`; no handler call, nothing modified -/
theorem strispassword_s_C10 (dest dmax : Nat) (st : St) (hall : AllRd st)
    (hd : dest ≠ 0) (hmin : SAFE_STR_PASSWORD_MIN_LENGTH ≤ dmax) (hle : dmax ≤ SAFE_STR_PASSWORD_MAX_LENGTH)
    (hz : scanLen st.data dest dmax < dmax) :
    exec (strispassword_s dest dmax none) st = .ok (pwOk st.data dest (scanLen st.data dest dmax), st) := by
  unfold strispassword_s
  have h3 : ¬ dmax < SAFE_STR_PASSWORD_MIN_LENGTH := by omega
  simp only [chkDestDmaxBool_ok _ hd (by omega) hle, h3, if_false, exec_bind, exec_load_all hall]
  by_cases h0 : st.data dest = 0
  · have hl := scanLen_of_stop st.data dest dmax (.inl h0)
    simp [h0, hl, pwOk, countCells, SAFE_STR_MIN_NUMBERS]
  · simp only [h0, if_false]
    rw [pwLoop_run hall, if_neg fun hh => Nat.ne_of_lt hz hh.2.1]
    simp [pwOk, pwFinal']

/-- with no terminator among the first `dmax` cells the cell `dest[dmax]` is read and decides
(known finding `read-before-bound`): a NUL there is accepted as the terminator, anything else is
reported as ESUNTERM through the handler -/
theorem strispassword_s_unterminated (dest dmax : Nat) (st : St) (hall : AllRd st)
    (hd : dest ≠ 0) (hmin : SAFE_STR_PASSWORD_MIN_LENGTH ≤ dmax) (hle : dmax ≤ SAFE_STR_PASSWORD_MAX_LENGTH)
    (hz : scanLen st.data dest dmax = dmax) (hcls : allCells isPwC st.data dest dmax = true)
    (hnz : st.data (dest + dmax) ≠ 0) :
    exec (strispassword_s dest dmax none) st =
      .ok (false, { st with events := st.events ++ [.handler .str ESUNTERM] }) := by
  unfold strispassword_s
  have hmn : SAFE_STR_PASSWORD_MIN_LENGTH = 6 := rfl
  have h3 : ¬ dmax < SAFE_STR_PASSWORD_MIN_LENGTH := by omega
  have h0 : st.data dest ≠ 0 := by
    have := scanLen_nonzero st.data dest dmax 0 (by omega)
    simpa using this
  simp only [chkDestDmaxBool_ok _ hd (by omega) hle, h3, if_false, exec_bind, exec_load_all hall, h0]
  rw [pwLoop_run hall, if_pos ⟨by rw [hz]; exact hcls, hz, hnz⟩]

example : ∃ st : St, AllRd st ∧ scanLen st.data 100 8 < 8 ∧ pwOk st.data 100 (scanLen st.data 100 8) = true :=
  ⟨wMem fun a => if a = 100 then 97 else if a = 101 then 98 else if a = 102 then 65 else if a = 103 then 66 else
      if a = 104 then 49 else if a = 105 then 33 else 0, wMem_all _, by decide, by decide⟩

end SafeC.Props.C10
