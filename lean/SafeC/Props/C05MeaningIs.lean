import SafeC.Proofs.EVMem
import SafeC.Props.C05Ev
/-!
# The post of the "meaning" theorems (`Props/C05Meaning*.lean`, `C05WCase.lean`): `Is k c` — the call returns exactly `c`, and the events
are what the discipline asks for `c` —, its rules for the exits of the memory family, and what it says about runs (`Is.sound`)
-/
namespace SafeC.Props.C05Meaning
open SafeC Gen Mem SafeC.Props.C05Ev SafeC.Props.C05Mem

/-- returns exactly `c`; no event when `c = EOK`, else exactly one `k`-handler event carrying `c` -/
def Is (k : Kind) (c : Nat) (r : Nat) (es : List Event) : Prop := r = c ∧ Once k r es

theorem is_failM (c : Nat) (hc : c ≠ EOK) : EV (failM c) (Is .mem c) :=
  (EV.failM c).conseq (fun r es ⟨h1, h2⟩ => ⟨h1, by subst h1; exact Or.inr ⟨hc, h2⟩⟩)

theorem is_failS (c : Nat) (hc : c ≠ EOK) : EV (failS c) (Is .str c) :=
  (EV.failS c).conseq (fun r es ⟨h1, h2⟩ => ⟨h1, by subst h1; exact Or.inr ⟨hc, h2⟩⟩)

theorem is_eok {k : Kind} : EV (pure EOK : Prog Nat) (Is k EOK) := EV.pure _ ⟨rfl, Or.inl ⟨rfl, rfl⟩⟩

/-- One step down the cascade: a `…Code` function is written as the same chain of tests as its model, so the model's
conditional is matched with the code's; `h` bridges tests that are written differently (`n > dmax / 2`, `2 * n > dmax`). -/
theorem is_ite' {k : Kind} {c c' : Prop} [Decidable c] [Decidable c'] {p q : Prog Nat} {a b : Nat} (h : c ↔ c')
    (hp : EV p (Is k a)) (hq : EV q (Is k b)) : EV (if c then p else q) (Is k (if c' then a else b)) := by
  by_cases hc : c
  · rw [if_pos hc, if_pos (h.mp hc)]; exact hp
  · rw [if_neg hc, if_neg (mt h.mpr hc)]; exact hq

theorem is_ite {k : Kind} {c : Prop} [Decidable c] {p q : Prog Nat} {a b : Nat}
    (hp : EV p (Is k a)) (hq : EV q (Is k b)) : EV (if c then p else q) (Is k (if c then a else b)) :=
  is_ite' Iff.rfl hp hq

theorem is_work_eok {k : Kind} {p : Prog Unit} (hp : Quiet p) : EV (do p; pure EOK : Prog Nat) (Is k EOK) :=
  Quiet.then_ hp (fun _ => is_eok)

theorem is_handleMemErrorB (w d len code : Nat) (hc : code ≠ EOK) :
    EV (do handleMemErrorB w d len code; pure code : Prog Nat) (Is .mem code) := by
  unfold handleMemErrorB
  refine EV.bind (Q := fun _ es => es = [.handler .mem code]) ?_
    (fun _ es he => by subst he; exact EV.pure _ ⟨rfl, Or.inr ⟨hc, by simp⟩⟩)
  exact Quiet.then_ (q_memsetBytes _ _ _ _) (fun _ => EV.handlerM code)

theorem is_clear_report {p : Prog Unit} (hp : Quiet p) (code : Nat) (hc : code ≠ EOK) :
    EV (do p; handlerM code; pure code : Prog Nat) (Is .mem code) :=
  Quiet.then_ hp (fun _ => is_failM code hc)

theorem is_report_work {p : Prog Unit} (hp : Quiet p) (code : Nat) (hc : code ≠ EOK) :
    EV (do handlerM code; p; pure code : Prog Nat) (Is .mem code) :=
  EV.bind (EV.handlerM code) (fun _ es he => by
    subst he
    exact Quiet.then_ hp (fun _ => EV.pure _ ⟨rfl, Or.inr ⟨hc, by simp⟩⟩))

/-- what a proved `EV p (Is k c)` means for runs -/
theorem Is.sound {k : Kind} {p : Prog Nat} {c : Nat} (h : EV p (Is k c)) (st : St) (r : Nat) (st' : St)
    (he : exec p st = .ok (r, st')) :
    r = c ∧ ((r = EOK ∧ st'.events = st.events) ∨ (r ≠ EOK ∧ st'.events = st.events ++ [.handler k r])) := by
  obtain ⟨_, _, h2, _⟩ := h.sound st he
  exact ⟨h2, Discipline.of_EV (h.conseq fun _ _ h => h.2) st r st' he⟩

/-- the `↔` reading: events unchanged exactly when the code is EOK -/
theorem Is.sound_iff {k : Kind} {p : Prog Nat} {c : Nat} (h : EV p (Is k c)) (st : St) (r : Nat) (st' : St)
    (he : exec p st = .ok (r, st')) : r = c ∧ (st'.events = st.events ↔ r = EOK) := by
  obtain ⟨h1, h2⟩ := Is.sound h st r st' he
  refine ⟨h1, ?_⟩
  rcases h2 with ⟨hr, hes⟩ | ⟨hr, hes⟩
  · exact ⟨fun _ => hr, fun _ => hes⟩
  · refine ⟨fun h => ?_, fun h => absurd h hr⟩
    rw [hes] at h
    simp at h

end SafeC.Props.C05Meaning
