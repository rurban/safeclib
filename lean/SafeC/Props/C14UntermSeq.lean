import SafeC.Props.C14Unterm
/-!
# C14, the unterminated clause for a whole call sequence (as far as it holds)

`UInv st dls p n`: the continuation point `p` with remaining length `n`, NO NUL in `p[0..n]` (the cell `p[n]` = the
original `dest[dmax]` included — with a NUL there the string is accepted as terminated, `tok-nul-at-dmax-accepted`),
`[p, p+n]` writable, every delimiter string valid, non-null and outside `[p, p+n]`.

`unterm_sequence_partial`: any number of continuation calls, one delimiter string per call.  The calls return some
tokens (each cut at a delimiter strictly inside the extent; at most `n / 2` of them), then NULL for every further call;
if there are more calls than tokens at least one constraint-handler report was made (the sequence ENDS WITH AN ERROR,
and stays there); no cell outside `[p, p+n]` changes, a changed cell holds NUL, and a changed cell other than `p[n]`
held a delimiter.  The one cell beyond the declared extent that IS touched is `p[n]` = `dest[dmax]` (witnesses in
`Props/C14Unterm.lean`).
-/
namespace SafeC.Props.C14
open SafeC Gen

structure UInv (wide : Bool) (st : St) (dls : List Nat) (p n : Nat) : Prop where
  all : AllRd st
  delim : ∀ dl ∈ dls, DelimOK st.data dl
  dne : ∀ dl ∈ dls, dl ≠ 0
  pne : p ≠ 0
  unterm : scanLen st.data p n = n
  endnz : st.data (p + n) ≠ 0
  wr : ∀ a, p ≤ a → a ≤ p + n → st.wr a = true
  apart : ∀ dl ∈ dls, ∀ j, j ≤ STRTOK_DELIM_MAX_LEN → ¬ (p ≤ dl + j ∧ dl + j ≤ p + n)
  lim : n ≤ tokLimit wide

theorem scanLen_eq_of_nonzero (m : Nat → Nat) (p n : Nat) (h : ∀ j, j < n → m (p + j) ≠ 0) : scanLen m p n = n := by
  rw [scanLen_eq_least]
  exact least_unique (Nat.le_refl _) (fun j hj => by simpa using h j hj) fun hlt => absurd hlt (Nat.lt_irrefl _)

theorem exec_tokFail (code : Nat) (st : St) :
    exec (tokFail code) st = .ok ({ ret := 0 }, { st with events := st.events ++ [.handler .str code] }) := by
  simp [tokFail, handlerS, exec_bind]

/-- remaining length 0 (a token cut at the very last cell of an unterminated extent): rejected with ESZEROL, nothing
stored, forever -/
theorem zeroLen_forever (wide : Bool) (db : Bos) (dls : List Nat) (p : Nat) (st : St) :
    ∃ st', exec (nextCalls wide db dls p 0) st = .ok (dls.map (fun _ => { ret := 0 }), st') ∧
      st'.data = st.data ∧ (dls ≠ [] → st.events.length < st'.events.length) := by
  induction dls generalizing st with
  | nil => exact ⟨st, rfl, rfl, fun h => absurd rfl h⟩
  | cons dl rest ih =>
    have he : tokFn wide 0 (some 0) dl (some p) db = tokFail ESZEROL := by
      cases wide <;> simp [tokFn, strtok_s, wcstok_s]
    obtain ⟨st', he', hd', _⟩ := ih { st with events := st.events ++ [.handler .str ESZEROL] }
    obtain ⟨extra, hx⟩ := exec_events_mono _ _ he'
    refine ⟨st', ?_, hd', fun _ => ?_⟩
    · simp only [nextCalls, exec_bind, he, exec_tokFail, Option.getD_none, he', List.map_cons]
      rfl
    · rw [hx]; simp

/-- **the unterminated clause for a call sequence, as far as it holds** -/
theorem unterm_sequence_partial (wide : Bool) (db : Bos) (dls : List Nat) (p n : Nat) (st : St)
    (hU : UInv wide st dls p n) :
    ∃ outs st' toks, exec (nextCalls wide db dls p n) st = .ok (outs, st') ∧
      outs.map (fun o => o.ret) = toks ++ List.replicate (dls.length - toks.length) 0 ∧
      toks.length ≤ dls.length ∧ 2 * toks.length ≤ n ∧ (∀ r ∈ toks, r ≠ 0) ∧
      (toks.length < dls.length → st.events.length < st'.events.length) ∧
      (∀ x, st'.data x = st.data x ∨
        (p ≤ x ∧ x ≤ p + n ∧ st'.data x = 0 ∧ (x = p + n ∨ ∃ dl ∈ dls, isDelim st.data dl (st.data x) = true))) := by
  induction dls generalizing st p n with
  | nil => exact ⟨[], st, [], rfl, rfl, Nat.le_refl _, by simp, by simp, by simp, fun x => Or.inl rfl⟩
  | cons dl rest ih =>
    by_cases hn : n = 0
    · -- nothing left: ESZEROL forever
      subst hn
      obtain ⟨st', he, hd, hev⟩ := zeroLen_forever wide db (dl :: rest) p st
      refine ⟨(dl :: rest).map (fun _ => { ret := 0 }), st', [], he, ?_, by simp, by simp, by simp,
        fun _ => hev (by simp), fun x => Or.inl (by rw [hd])⟩
      simp [List.map_const', List.replicate_succ]
    · have hpos : 0 < n := Nat.pos_of_ne_zero hn
      have hentry := tokFn_next wide n dl p db hU.pne (hU.dne dl (by simp)) hpos hU.lim
      obtain ⟨o, st1, he1, hcase⟩ := tok_unterm_partial wide dl p n st hU.all (hU.delim dl (by simp)) hU.pne
        hU.unterm hU.endnz hU.wr
      rcases hcase with ⟨hret, hptr, hev, hfr, hlast⟩ | ⟨b, hb1, hb2, hb3, hbd, hptr, hrem, hst1⟩
      · -- the ESUNTERM exit: NULL now and, with `*ptr == NULL`, forever
        obtain ⟨st2, he2, hd2, _⟩ := tok_error_forever wide db rest (o.dmaxv.getD n) st1
        obtain ⟨extra, hx⟩ := exec_events_mono _ _ he2
        refine ⟨o :: rest.map (fun _ => { ret := 0 }), st2, [], ?_, ?_, by simp, by simp, by simp, fun _ => ?_, fun x => ?_⟩
        · simp only [nextCalls, exec_bind, hentry, he1, hptr, Option.getD_some, he2]
          rfl
        · simp [hret, List.map_const', List.replicate_succ]
        · rw [hx, hev]; simp
        · rw [hd2]
          by_cases hx : x = p + n
          · subst hx
            rcases hlast with h | h
            · exact Or.inl h
            · exact Or.inr ⟨by omega, Nat.le_refl _, h, Or.inl rfl⟩
          · exact Or.inl (hfr x hx)
      · -- a token cut at the delimiter `b` inside the extent: go on behind it
        subst hst1
        have hnz := scanLen_full_nonzero st.data p n hU.unterm
        have hagree : ∀ x, x ≠ b → (st.upd b 0).data x = st.data x := fun x hx => St.upd_data_ne st b 0 x hx
        have hdag : ∀ d ∈ rest, DelimAgree st.data (st.upd b 0).data d := by
          intro d hd j hj
          have := hU.apart d (by simp [hd]) j hj
          exact (hagree _ (by omega)).symm
        have hU' : UInv wide (st.upd b 0) rest (b + 1) (p + n - (b + 1)) := by
          refine ⟨fun a => hU.all a, ?_, fun d hd => hU.dne d (by simp [hd]), by omega, ?_, ?_, ?_, ?_, ?_⟩
          · intro d hd
            exact DelimOK_congr st.data _ d (hdag d hd) (hU.delim d (by simp [hd]))
          · apply scanLen_eq_of_nonzero
            intro j hj
            rw [hagree _ (by omega)]
            have := hnz (b + 1 + j - p) (by omega)
            rwa [show p + (b + 1 + j - p) = b + 1 + j by omega] at this
          · rw [show b + 1 + (p + n - (b + 1)) = p + n by omega, hagree _ (by omega)]
            exact hU.endnz
          · intro a h1 h2; exact hU.wr a (by omega) (by omega)
          · intro d hd j hj h
            exact hU.apart d (by simp [hd]) j hj ⟨by omega, by omega⟩
          · have := hU.lim; omega
        obtain ⟨outs, st2, toks, he2, hrets, hl1, hl2, hnzt, hevt, hfr2⟩ := ih _ _ _ hU'
        refine ⟨o :: outs, st2, o.ret :: toks, ?_, ?_, ?_, ?_, ?_, ?_, ?_⟩
        · simp only [nextCalls, exec_bind, hentry, he1, hptr, hrem, Option.getD_some, he2]
          rfl
        · simp only [List.map_cons, hrets, List.cons_append, List.length_cons, Nat.add_sub_add_right]
        · simp only [List.length_cons]; omega
        · simp only [List.length_cons]; omega
        · intro r hr
          rcases List.mem_cons.mp hr with rfl | hr
          · have := hU.pne; omega
          · exact hnzt r hr
        · intro hlt
          simp only [List.length_cons] at hlt
          have := hevt (by omega)
          simpa using this
        · intro x
          rcases hfr2 x with h | ⟨h1, h2, h3, h4⟩
          · by_cases hxb : x = b
            · subst hxb
              refine Or.inr ⟨by omega, by omega, ?_, Or.inr ⟨dl, by simp, hbd⟩⟩
              rw [h]; simp
            · exact Or.inl (by rw [h, hagree x hxb])
          · refine Or.inr ⟨by omega, by omega, h3, ?_⟩
            rcases h4 with h4 | ⟨d, hd, h4⟩
            · exact Or.inl (by omega)
            · refine Or.inr ⟨d, by simp [hd], ?_⟩
              rw [hagree x (by omega)] at h4
              exact (inSet_congr st.data _ _ d _ (hdag d hd)).trans h4

/-- **the same for the caller's loop through the entry points** (first call with the string `dest`, length bound
`dmax`, object size unknown or at least `dmax` cells; later calls with NULL) -/
theorem unterm_caller_partial (wide : Bool) (db bos : Bos) (dls : List Nat) (dest dmax pv0 : Nat) (st : St)
    (hU : UInv wide st dls dest dmax) (hpos : 0 < dmax) (hbos : ∀ b, bos = some b → dmax * cellSize wide ≤ b) :
    ∃ outs st' toks, exec (callerLoop wide db dls dest dmax pv0 bos) st = .ok (outs, st') ∧
      outs.map (fun o => o.ret) = toks ++ List.replicate (dls.length - toks.length) 0 ∧
      toks.length ≤ dls.length ∧ 2 * toks.length ≤ dmax ∧ (∀ r ∈ toks, r ≠ 0) ∧
      (toks.length < dls.length → st.events.length < st'.events.length) ∧
      (∀ x, st'.data x = st.data x ∨
        (dest ≤ x ∧ x ≤ dest + dmax ∧ st'.data x = 0 ∧
          (x = dest + dmax ∨ ∃ dl ∈ dls, isDelim st.data dl (st.data x) = true))) := by
  have hsame : exec (callerLoop wide db dls dest dmax pv0 bos) st = exec (nextCalls wide db dls dest dmax) st := by
    cases dls with
    | nil => rfl
    | cons dl rest =>
      have hf := tokFn_first wide dest dmax dl pv0 bos hU.pne (hU.dne dl (by simp)) hpos hU.lim hbos
      have hn := tokFn_next wide dmax dl dest db hU.pne (hU.dne dl (by simp)) hpos hU.lim
      obtain ⟨o, st1, he1, hcase⟩ := tok_unterm_partial wide dl dest dmax st hU.all (hU.delim dl (by simp)) hU.pne
        hU.unterm hU.endnz hU.wr
      have hptr : ∃ v, o.ptrv = some v := by
        rcases hcase with ⟨_, h, _⟩ | ⟨b, _, _, _, _, h, _⟩
        · exact ⟨_, h⟩
        · exact ⟨_, h⟩
      obtain ⟨v, hv⟩ := hptr
      simp only [callerLoop, nextCalls, exec_bind, hf, hn, he1, hv, Option.getD_some]
  rw [hsame]
  exact unterm_sequence_partial wide db dls dest dmax st hU

/-! ## non-vacuity: "a,b" + 'x' at 100 with dmax 3 — no NUL in `dest[0..3]` —, delimiter string "," at 200 -/

def unSeqMem : Nat → Nat := fun a =>
  if a = 100 then 97 else if a = 101 then 44 else if a = 102 then 98 else if a = 103 then 120
  else if a = 200 then 44 else 0

def unSeqSt : St := { data := unSeqMem, mapped := fun _ => true, rd := fun _ => true, wr := fun _ => true }

example : UInv false unSeqSt (List.replicate 3 200) 100 3 :=
  ⟨fun _ => ⟨rfl, rfl⟩,
   fun dl hdl => by rw [(List.mem_replicate.mp hdl).2]; unfold DelimOK; decide,
   fun dl hdl => by rw [(List.mem_replicate.mp hdl).2]; decide,
   by decide, by decide, by decide, fun _ _ _ => rfl,
   fun dl hdl j hj h => by rw [(List.mem_replicate.mp hdl).2] at h; omega,
   by decide⟩

/-- the run (kernel-evaluated): the token "a", then ESUNTERM with NULL — the last token "b" is lost and `dest[3]` is
cleared, `*dmaxp = 0` —, then ESZEROL with NULL -/
example :
    (match exec (callerLoop false none (List.replicate 3 200) 100 3 0 none) unSeqSt with
      | .ok (outs, st') => (outs.map (fun o => o.ret), st'.events, st'.data 101, st'.data 103)
      | .error _ => ([], [], 0, 0)) =
    ([100, 0, 0], [.handler .str ESUNTERM, .handler .str ESZEROL], 0, 0) := by decide

end SafeC.Props.C14
