import SafeC.Props.C05Meaning
/-!
# C05 "meaning" for `wmemcpy_s` / `wmemmove_s` (object sizes unknown): the doc comments' codes, and where the code departs

Both compute byte sizes `dlen * sizeof(wchar_t)`, `count * sizeof(wchar_t)` without an overflow check (known finding
`mem-size-multiplication-wraps`), and `wmemmove_s` compares the BYTE size of dest with the ELEMENT limit RSIZE_MAX_WMEM (known
finding `wmemmove-byte-vs-element-limit`): `_partial` + `_witness` for each.  `count = 0 → EOK` before any other test is the
code's (the doc comments of the two do not say "or count = 0" as memcpy_s's does); it is transcribed as such and named here.
-/
namespace SafeC.Props.C05Meaning
open SafeC Gen Mem SafeC.Props.C05Mem

/-- src/wchar/wmemmove_s.c: `@retval EOK when operation is successful`, `ESNULLP when dest or src is a NULL POINTER`,
`ESZEROL when dlen = ZERO`, `ESLEMAX when dlen/count > RSIZE_MAX_WMEM`, `ESNOSPC when dlen < count` (all in ELEMENTS) -/
def wmemmoveCode (dest dlen src count : Nat) : Nat :=
  if count = 0 then EOK
  else if dest = 0 then ESNULLP
  else if dlen = 0 then ESZEROL
  else if dlen > RSIZE_MAX_WMEM then ESLEMAX
  else if src = 0 then ESNULLP
  else if count > dlen then (if count > RSIZE_MAX_WMEM then ESLEMAX else ESNOSPC)
  else EOK

/- FULL statement (no hypotheses), false of the code: `wmemmove_s_meaning_witness` -/
theorem wmemmove_s_code_partial (dest dlen src count : Nat) (hd : dlen < 2 ^ 62) (hc : count < 2 ^ 62)
    (hl : dlen ≤ RSIZE_MAX_WMEM / 4 ∨ dlen > RSIZE_MAX_WMEM) :
    EV (wmemmove_s dest dlen src count none none) (Is .mem (wmemmoveCode dest dlen src count)) := by
  have hdm : (dlen * SIZEOF_WCHAR_T) % U64 = dlen * 4 := Nat.mod_eq_of_lt (by unfold U64 SIZEOF_WCHAR_T; omega)
  have hsm : (count * SIZEOF_WCHAR_T) % U64 = count * 4 := Nat.mod_eq_of_lt (by unfold U64 SIZEOF_WCHAR_T; omega)
  have hm : RSIZE_MAX_MEM = 4 * RSIZE_MAX_WMEM := by decide
  have h7 : count * 4 > RSIZE_MAX_MEM ↔ count > RSIZE_MAX_WMEM := by omega
  have hw : RSIZE_MAX_WMEM = 67108864 := rfl
  simp only [wmemmove_s, wmemmoveCode, chkDmaxMemB, exceeds, Bool.false_eq_true, if_false, hdm, hsm, h7]
  refine is_ite is_eok (is_ite (is_failM _ ne_ESNULLP) (is_ite' (by omega) (is_failM _ ne_ESZEROL)
    (is_ite' (by omega) (is_failM _ ne_ESLEMAX) (is_ite (is_handleMemErrorB _ _ _ _ ne_ESNULLP)
      (is_ite' (by omega) ?_ (is_work_eok (q_mem_prim_move32 _ _ _)))))))
  exact is_handleMemErrorB _ _ _ _ (ite_ne_EOK ne_ESLEMAX ne_ESNOSPC)

/-- wmemmove_s, object sizes unknown, counts that do not wrap, `dlen` outside (RSIZE_MAX_WMEM/4, RSIZE_MAX_WMEM]: the code is
`wmemmoveCode` of the arguments -/
theorem wmemmove_s_meaning_partial (dest dlen src count : Nat) (hd : dlen < 2 ^ 62) (hc : count < 2 ^ 62)
    (hl : dlen ≤ RSIZE_MAX_WMEM / 4 ∨ dlen > RSIZE_MAX_WMEM) (st : St) (r : Nat) (st' : St)
    (he : exec (wmemmove_s dest dlen src count none none) st = .ok (r, st')) :
    r = wmemmoveCode dest dlen src count ∧
      ((r = EOK ∧ st'.events = st.events) ∨ (r ≠ EOK ∧ st'.events = st.events ++ [.handler .mem r])) :=
  Is.sound (wmemmove_s_code_partial dest dlen src count hd hc hl) st r st' he

/-- the excluded band: `dlen = RSIZE_MAX_WMEM/4 + 1` elements (a legal size) is rejected with ESLEMAX -/
theorem wmemmove_s_meaning_witness :
    ((exec (wmemmove_s 100 (RSIZE_MAX_WMEM / 4 + 1) 100000000 1 none none)
      { data := fun _ => 7, mapped := fun _ => true, rd := fun _ => true, wr := fun _ => true }).toOption.map
        (fun x => (x.1, x.2.events))) = some (ESLEMAX, [.handler .mem ESLEMAX]) ∧
      wmemmoveCode 100 (RSIZE_MAX_WMEM / 4 + 1) 100000000 1 = EOK := by
  decide

theorem wmemmoveCode_eok_iff (dest dlen src count : Nat) :
    wmemmoveCode dest dlen src count = EOK ↔
      count = 0 ∨ (dest ≠ 0 ∧ dlen ≠ 0 ∧ dlen ≤ RSIZE_MAX_WMEM ∧ src ≠ 0 ∧ count ≤ dlen) := by
  unfold wmemmoveCode
  rw [ite_EOK_eq_EOK, ite_fail_eq_EOK ne_ESNULLP, ite_fail_eq_EOK ne_ESZEROL, ite_fail_eq_EOK ne_ESLEMAX, ite_fail_eq_EOK ne_ESNULLP, ite_fail_eq_EOK (ite_ne_EOK ne_ESLEMAX ne_ESNOSPC)]
  omega

/-- non-vacuity of the partial statement: a reporting run within its hypotheses -/
example : (2 : Nat) < 2 ^ 62 ∧ (3 : Nat) < 2 ^ 62 ∧ (2 ≤ RSIZE_MAX_WMEM / 4 ∨ 2 > RSIZE_MAX_WMEM) ∧
    ((exec (wmemmove_s 100 2 200 3 none none)
      { data := fun _ => 7, mapped := fun _ => true, rd := fun _ => true, wr := fun _ => true }).toOption.map
        (fun x => (x.1, x.2.events))) = some (wmemmoveCode 100 2 200 3, [.handler .mem ESNOSPC]) := by decide

/-- src/wchar/wmemcpy_s.c: wmemmove_s's list plus `ESOVRLP when src memory overlaps dst` (`CHK_OVRLP_BUTSAME` on the
addresses: dest == src is accepted) -/
def wmemcpyCode (dest dlen src count : Nat) : Nat :=
  if count = 0 then EOK
  else if dest = 0 then ESNULLP
  else if dlen = 0 then ESZEROL
  else if dlen > RSIZE_MAX_WMEM then ESLEMAX
  else if src = 0 then ESNULLP
  else if count > dlen then (if count > RSIZE_MAX_WMEM then ESLEMAX else ESNOSPC)
  else if ovrlpButSame SIZEOF_WCHAR_T dest dlen src count then ESOVRLP
  else EOK

/- FULL statement (no hypotheses), false of the code: `wmemcpy_s_meaning_witness` -/
theorem wmemcpy_s_code_partial (dest dlen src count : Nat) (hd : dlen < 2 ^ 62) (hc : count < 2 ^ 62) :
    EV (wmemcpy_s dest dlen src count none none) (Is .mem (wmemcpyCode dest dlen src count)) := by
  have hdm : (dlen * SIZEOF_WCHAR_T) % U64 = dlen * 4 := Nat.mod_eq_of_lt (by unfold U64 SIZEOF_WCHAR_T; omega)
  have hsm : (count * SIZEOF_WCHAR_T) % U64 = count * 4 := Nat.mod_eq_of_lt (by unfold U64 SIZEOF_WCHAR_T; omega)
  have hm : RSIZE_MAX_MEM = 4 * RSIZE_MAX_WMEM := by decide
  have h7 : count * 4 > RSIZE_MAX_MEM ↔ count > RSIZE_MAX_WMEM := by omega
  simp only [wmemcpy_s, wmemcpyCode, chkDmaxMemB, exceeds, Bool.false_eq_true, if_false, hdm, hsm, h7]
  refine is_ite is_eok (is_ite (is_failM _ ne_ESNULLP) (is_ite' (by omega) (is_failM _ ne_ESZEROL)
    (is_ite' (by omega) (is_failM _ ne_ESLEMAX) (is_ite (is_handleMemErrorB _ _ _ _ ne_ESNULLP)
      (is_ite' (by omega) ?_ (is_ite ?_ ?_))))))
  · exact is_handleMemErrorB _ _ _ _ (ite_ne_EOK ne_ESLEMAX ne_ESNOSPC)
  · exact is_clear_report (q_mem_prim_set32 _ _ _) _ ne_ESOVRLP
  · exact is_work_eok (q_mem_prim_move32 _ _ _)

/-- wmemcpy_s, object sizes unknown, counts that do not wrap: the code is `wmemcpyCode` of the arguments -/
theorem wmemcpy_s_meaning_partial (dest dlen src count : Nat) (hd : dlen < 2 ^ 62) (hc : count < 2 ^ 62)
    (st : St) (r : Nat) (st' : St) (he : exec (wmemcpy_s dest dlen src count none none) st = .ok (r, st')) :
    r = wmemcpyCode dest dlen src count ∧
      ((r = EOK ∧ st'.events = st.events) ∨ (r ≠ EOK ∧ st'.events = st.events ++ [.handler .mem r])) :=
  Is.sound (wmemcpy_s_code_partial dest dlen src count hd hc) st r st' he

/-- the excluded point: `count = 2^62 + 1` wraps to 4 bytes: EOK without a report (doc comment: ESLEMAX) -/
theorem wmemcpy_s_meaning_witness :
    ((exec (wmemcpy_s 100 8 200 (2 ^ 62 + 1) none none)
      { data := fun _ => 7, mapped := fun _ => true, rd := fun _ => true, wr := fun _ => true }).toOption.map
        (fun x => (x.1, x.2.events))) = some (EOK, []) ∧ wmemcpyCode 100 8 200 (2 ^ 62 + 1) = ESLEMAX := by
  decide

theorem wmemcpyCode_eok_iff (dest dlen src count : Nat) :
    wmemcpyCode dest dlen src count = EOK ↔
      count = 0 ∨ (dest ≠ 0 ∧ dlen ≠ 0 ∧ dlen ≤ RSIZE_MAX_WMEM ∧ src ≠ 0 ∧ count ≤ dlen ∧
        ovrlpButSame SIZEOF_WCHAR_T dest dlen src count = false) := by
  unfold wmemcpyCode
  rw [ite_EOK_eq_EOK, ite_fail_eq_EOK ne_ESNULLP, ite_fail_eq_EOK ne_ESZEROL, ite_fail_eq_EOK ne_ESLEMAX, ite_fail_eq_EOK ne_ESNULLP, ite_fail_eq_EOK (ite_ne_EOK ne_ESLEMAX ne_ESNOSPC), ite_fail_eq_EOK ne_ESOVRLP]
  simp only [Nat.not_lt, gt_iff_lt, Bool.not_eq_true, and_true, ne_eq]

example : (4 : Nat) < 2 ^ 62 ∧
    ((exec (wmemcpy_s 100 4 102 4 none none)
      { data := fun _ => 7, mapped := fun _ => true, rd := fun _ => true, wr := fun _ => true }).toOption.map
        (fun x => (x.1, x.2.events))) = some (wmemcpyCode 100 4 102 4, [.handler .mem ESOVRLP]) := by decide

end SafeC.Props.C05Meaning
