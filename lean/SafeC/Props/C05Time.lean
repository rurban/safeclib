import SafeC.Props.C05Docs
import SafeC.Proofs.CopyDisjoint
import SafeC.Proofs.ExtOs
import SafeC.Models.Io
/-!
# C05 for asctime_s / ctime_s, gmtime_s / localtime_s (`Models/Time.lean`) and gets_s (`Models/Io.lean`)

Event level, ALL arguments, memory contents and placements (`asctime_s_ev`, `ctime_s_ev`): a returning call has
* reported nothing and returned EOK or -1 (libc gave up), or
* reported exactly once, a code of `[ESNULLP, ESLEMIN, ESLEMAX, EOVERFLOW, ESNOSPC]`, and returned that code, or
* returned EOK after ONE report: only possible when `dmax < 120` and the copy out of libc's buffer fails, i.e. when that
  buffer overlaps dest or holds no terminated text — `timeTail_small` shows that with a terminated text disjoint from dest
  (the automatic `tmp[120]` of the C) this does not happen and states what dest holds afterwards.

With `dmax >= 120` the third case does not occur (`asctime_s_C05_direct`, `ctime_s_C05_direct`): the closing
`strcpy_s(dest, dmax, dest)` is given the known object size (fixed finding, /repo 93525f5: without it a large dmax within a known
object was reported as ESLEMAX and EOK returned).

`asctime_s_documented` / `ctime_s_documented`: every returned code is on the CURRENT `@retval` list of the doc comment.

gets_s (`gets_s_in`, `gets_s_C05`, `gets_s_documented`): the discipline for all arguments and EVERY stream.  gmtime_s / localtime_s
(`tmConv_ev`): `tmConv_C05_partial` + witness — an out-of-range `*timer` is reported as ESLEMIN / ESLEMAX and returned as EOVERFLOW.
-/
namespace SafeC.Props.C05Time
open SafeC Gen SafeC.Props.C05Query SafeC.Props.C05Docs

/-- the codes the two functions report themselves -/
abbrev TS : List Nat := [ESNULLP, ESLEMIN, ESLEMAX, EOVERFLOW, ESNOSPC]

/-- outcome of asctime_s / ctime_s; `small` = the copy out of libc's buffer happens (dmax < 120) -/
def TPost (small : Prop) : Nat → List Event → Prop := fun r es =>
  (es = [] ∧ (r = EOK ∨ r = NEG1)) ∨ (r ≠ EOK ∧ r ∈ TS ∧ es = [.handler .str r]) ∨
  (small ∧ r = EOK ∧ ∃ c, c ≠ EOK ∧ es = [.handler .str c])

theorem q_anyField (tm : Nat) (l : List (Nat × (Int → Bool))) : Quiet (anyField tm l) := by
  induction l with
  | nil => unfold anyField; quiet
  | cons x xs ih => obtain ⟨i, p⟩ := x; unfold anyField; quiet using ih

theorem q_copyText (f t d : Nat) : Quiet (copyText f t d) := by
  induction f generalizing t d with
  | zero => unfold copyText; quiet
  | succ f ih => unfold copyText; quiet using ih

theorem tp_failS {sm : Prop} (c : Nat) (hc : c ≠ EOK := by decide) (hm : c ∈ TS := by decide) : EV (failS c) (TPost sm) :=
  (EV.failS c).conseq (fun r es ⟨h1, h2⟩ => by subst h1; exact Or.inr (Or.inl ⟨hc, hm, h2⟩))

theorem tp_failClr {sm : Prop} (cfg : Cfg) (d m c : Nat) (hc : c ≠ EOK := by decide) (hm : c ∈ TS := by decide) :
    EV (failClr cfg d m c) (TPost sm) :=
  (EV.handleError cfg d m c).bind fun _ _ he => he ▸ .pure _ (.inr (.inl ⟨hc, hm, rfl⟩))

theorem timeTail_ev (cfg : Cfg) (dest dmax : Nat) (db : Bos) (text : Nat) (lf : Bool) (hd : dest ≠ 0) (h26 : 26 ≤ dmax)
    (hb : ∀ b, db = some b → dmax ≤ b) (hn : db = none → dmax ≤ RSIZE_MAX_STR) :
    EV (timeTail cfg dest dmax db text lf) (TPost (dmax < 120)) :=
  have nospc : EV (do handlerS ESNOSPC; pure ESNOSPC : Prog Nat) (TPost (dmax < 120)) := tp_failS _
  .ite (Quiet.then_ (.ite (q_copyText ..) (.pure _)) fun _ => Quiet.then_ (.ite (.memsetP ..) (.storeP ..)) fun _ =>
      .pure _ (.inl ⟨rfl, .inr rfl⟩)) <|
  .iteH (fun _ => Quiet.then_ (q_copyText ..) fun _ => Quiet.then_ (q_strlenP ..) fun _ =>
      .ite (by rw [strcpy_same cfg dest dmax db hd (by omega) hb hn]; exact .pure _ (.inl ⟨rfl, .inl rfl⟩)) nospc)
    fun h120 => Quiet.then_ (q_strlenP ..) fun _ =>
      .ite ((strcpyG_ev_partial _ cfg dest dmax text none nofun).bind fun c es h => by
        rcases h with ⟨_, rfl⟩ | ⟨_, hc, rfl⟩
        · exact .pure _ (.inl ⟨rfl, .inl rfl⟩)
        · exact .pure _ (.inr (.inr ⟨by omega, rfl, c, hc, rfl⟩))) nospc

theorem timeEntry_ev {sm : Prop} (dest dmax : Nat) (db : Bos) {k : Prog Nat}
    (hk : dest ≠ 0 → 26 ≤ dmax → (∀ b, db = some b → dmax ≤ b) → (db = none → dmax ≤ RSIZE_MAX_STR) → EV k (TPost sm)) :
    EV (timeEntry dest dmax db k) (TPost sm) :=
  .iteH (fun _ => tp_failS _) fun hd =>
    .iteH (fun _ => Quiet.then_ (.ite (.storeP ..) (.pure _)) fun _ => tp_failS _) fun h26 =>
      match db, hk with
      | none, hk => .iteH (fun _ => tp_failS _) fun h => hk hd (by omega) nofun fun _ => by omega
      | some b, hk =>
        .iteH (fun _ => .ite (tp_failS _) (tp_failS _)) fun h => .iteH (fun _ => tp_failS _) fun _ =>
          hk hd (by omega) (fun b' e => by cases e; omega) nofun

/-- asctime_s: all arguments, all memory contents -/
theorem asctime_s_ev (cfg : Cfg) (dest dmax tm : Nat) (db : Bos) (text : Nat) :
    EV (asctime_s cfg dest dmax tm db text) (TPost (dmax < 120)) :=
  timeEntry_ev _ _ _ fun hd h26 hb hn => .ite (tp_failClr ..) <|
    Quiet.then_ (q_anyField ..) fun _ => Quiet.then_ (by quiet) fun _ => .ite (tp_failClr ..) <|
      Quiet.then_ (q_anyField ..) fun _ => Quiet.then_ (by quiet) fun _ => .ite (tp_failClr ..) <|
        timeTail_ev cfg dest dmax db text false hd h26 hb hn

/-- ctime_s: all arguments, all memory contents -/
theorem ctime_s_ev (cfg : Cfg) (dest dmax timer : Nat) (db : Bos) (text : Nat) (lf : Bool) :
    EV (ctime_s cfg dest dmax timer db text lf) (TPost (dmax < 120)) :=
  timeEntry_ev _ _ _ fun hd h26 hb hn => .ite (tp_failClr ..) <| Quiet.then_ (.loadP _) fun _ => .ite (tp_failClr ..) <|
    Quiet.then_ (.loadP _) fun _ => .ite (tp_failClr ..) <| timeTail_ev cfg dest dmax db text lf hd h26 hb hn

/-- what `TPost` means for runs -/
theorem TPost.run {sm : Prop} {p : Prog Nat} (h : EV p (TPost sm)) (st : St) {r : Nat} {st' : St} (he : exec p st = .ok (r, st')) :
    (st'.events = st.events ∧ (r = EOK ∨ r = NEG1)) ∨ (r ≠ EOK ∧ r ∈ TS ∧ st'.events = st.events ++ [.handler .str r]) ∨
    (sm ∧ r = EOK ∧ ∃ c, c ≠ EOK ∧ st'.events = st.events ++ [.handler .str c]) := by
  obtain ⟨es, h1, h2⟩ := h.sound st he
  rcases h2 with ⟨rfl, hr⟩ | ⟨hr, hm, rfl⟩ | ⟨hs, hr, c, hc, rfl⟩
  · exact Or.inl ⟨by simpa using h1, hr⟩
  · exact Or.inr (Or.inl ⟨hr, hm, h1⟩)
  · exact Or.inr (Or.inr ⟨hs, hr, c, hc, h1⟩)

/-- asctime_s with room for libc to write straight into dest (dmax >= 120): the C05 discipline outright, for all arguments,
memory contents and placements — nothing reported and EOK / -1, or one report carrying the returned code -/
theorem asctime_s_C05_direct (cfg : Cfg) (dest dmax tm : Nat) (db : Bos) (text : Nat) (h : 120 ≤ dmax) (st : St) (r : Nat) (st' : St)
    (he : exec (asctime_s cfg dest dmax tm db text) st = .ok (r, st')) :
    (st'.events = st.events ∧ (r = EOK ∨ r = NEG1)) ∨ (r ≠ EOK ∧ r ∈ TS ∧ st'.events = st.events ++ [.handler .str r]) := by
  rcases TPost.run (asctime_s_ev cfg dest dmax tm db text) st he with h1 | h1 | ⟨hs, _⟩
  · exact Or.inl h1
  · exact Or.inr h1
  · omega

theorem ctime_s_C05_direct (cfg : Cfg) (dest dmax timer : Nat) (db : Bos) (text : Nat) (lf : Bool) (h : 120 ≤ dmax) (st : St) (r : Nat) (st' : St)
    (he : exec (ctime_s cfg dest dmax timer db text lf) st = .ok (r, st')) :
    (st'.events = st.events ∧ (r = EOK ∨ r = NEG1)) ∨ (r ≠ EOK ∧ r ∈ TS ∧ st'.events = st.events ++ [.handler .str r]) := by
  rcases TPost.run (ctime_s_ev cfg dest dmax timer db text lf) st he with h1 | h1 | ⟨hs, _⟩
  · exact Or.inl h1
  · exact Or.inr h1
  · omega

/-- what a returning call hands back under `TPost` -/
theorem TPost.code {sm : Prop} {r : Nat} {es : List Event} (h : TPost sm r es) : r ∈ EOK :: NEG1 :: TS := by
  rcases h with ⟨_, rfl | rfl⟩ | ⟨_, hm, _⟩ | ⟨_, rfl, _⟩
  · exact .head _
  · exact .tail _ (.head _)
  · exact .tail _ (.tail _ hm)
  · exact .head _

/-- asctime_s: every returned code is on the current `@retval` list -/
theorem asctime_s_documented (cfg : Cfg) (dest dmax tm : Nat) (db : Bos) (text : Nat) :
    ReturnsDocumented "asctime_s" [] (asctime_s cfg dest dmax tm db text) id :=
  of_codes (asctime_s_ev ..) (fun _ _ => TPost.code) (docRow 0 (by decide +kernel))

/-- ctime_s: every returned code is on the current `@retval` list -/
theorem ctime_s_documented (cfg : Cfg) (dest dmax timer : Nat) (db : Bos) (text : Nat) (lf : Bool) :
    ReturnsDocumented "ctime_s" [] (ctime_s cfg dest dmax timer db text lf) id :=
  of_codes (ctime_s_ev ..) (fun _ _ => TPost.code) (docRow 2 (by decide +kernel))

/-- With libc's text a readable string of `n` characters (glibc: 25) in a buffer disjoint from dest, the tail for `dmax < 120`
copies it, terminates, nulls the slack and reports nothing (`n < dmax`), or reports ESNOSPC once and returns it (`dmax <= n`,
unreachable with glibc's 25 characters since `26 <= dmax`): never "EOK after a report", the third case of `TPost`. -/
theorem timeTail_small (cfg : Cfg) (dest dmax : Nat) (db : Bos) (text n : Nat) (st : St) (h120 : dmax < 120)
    (hd : dest ≠ 0) (ht : text ≠ 0) (hpos : 0 < dmax) (hrw : RW st dest dmax) (hsrc : SrcStr st text n) (hn : n < scanFuel)
    (hdisj : Disjoint dest dmax text n) :
    ∃ code st', exec (timeTail cfg dest dmax db text) st = .ok (code, st') ∧ st'.strays = st.strays ∧
      (∀ a, ¬ (dest ≤ a ∧ a < dest + dmax) → st'.data a = st.data a) ∧
      (n < dmax → code = EOK ∧ st'.events = st.events ∧
        (∀ i, i < n → st'.data (dest+i) = st.data (text+i)) ∧ st'.data (dest+n) = 0 ∧
        (cfg.slack = true → ∀ i, n ≤ i → i < dmax → st'.data (dest+i) = 0)) ∧
      (dmax ≤ n → code = ESNOSPC ∧ st'.events = st.events ++ [.handler .str ESNOSPC] ∧ st'.data = st.data) := by
  unfold timeTail
  dsimp only
  rw [if_neg (by simp [ht]), if_neg (by omega)]
  simp only [exec_bind, strlen_ok text n st hsrc hn]
  by_cases hlt : n < dmax
  · rw [if_pos hlt]
    obtain ⟨code, st', he, _, _, _, hst, hout, hok, _⟩ :=
      strcpyG_disjoint RSIZE_MAX_STR cfg dest dmax text n st hd ht hpos (by simp [RSIZE_MAX_STR]; omega) hrw hsrc hdisj
    obtain ⟨hc, hev, hcp, hnul, hsl⟩ := hok hlt
    refine ⟨EOK, st', ?_, hst, hout, fun _ => ⟨rfl, hev, hcp, hnul, hsl⟩, fun h => by omega⟩
    have he' : exec (strcpy_s cfg dest dmax text none) st = .ok (code, st') := he
    simp only [exec_bind, he']
    rfl
  · rw [if_neg hlt]
    refine ⟨ESNOSPC, { st with events := st.events ++ [.handler .str ESNOSPC] }, ?_, rfl, fun _ _ => rfl, fun h => by omega,
      fun _ => ⟨rfl, rfl, rfl⟩⟩
    simp [exec_bind, handlerS]

/-- the hypotheses are satisfiable: a 3-character text at 200, dest 26 cells at 100 -/
example : ∃ st : St, RW st 100 26 ∧ SrcStr st 200 3 ∧ Disjoint 100 26 200 3 :=
  ⟨{ data := fun a => if 200 ≤ a ∧ a < 203 then 65 else 0, mapped := fun _ => true, rd := fun _ => true, wr := fun _ => true },
   fun i _ => ⟨rfl, rfl, rfl⟩,
   ⟨fun j hj => by simp; omega, by simp, fun j _ => ⟨rfl, rfl⟩⟩, Or.inl (by omega)⟩

theorem q_fgetsLoop (k inp l d acc : Nat) : Quiet (fgetsLoop k inp l d acc) := by
  induction k generalizing inp l d acc with
  | zero => unfold fgetsLoop; quiet
  | succ k ih =>
    cases l with
    | zero => unfold fgetsLoop; quiet
    | succ l => unfold fgetsLoop; quiet using ih

theorem q_strnlenP (n s acc : Nat) : Quiet (strnlenP n s acc) := by
  induction n generalizing s acc with
  | zero => unfold strnlenP; quiet
  | succ n ih => unfold strnlenP; quiet using ih

/-- gets_s: silent with `dest` returned (EOK), NULL at end of file (-1) or libc's errno of the read-error stream the harness uses
(21, EISDIR); or exactly one report of a code of `C05Docs.SChkNospc`, which is also what `errno` is set to -/
abbrev GBn : List Nat := [EOK, NEG1, 21]

theorem gq_failS (c : Nat) (hc : c ≠ EOK := by decide) (hm : c ∈ C05Docs.SChkNospc := by decide) : EV (failS c) (QIn GBn C05Docs.SChkNospc .str id) :=
  (EV.failS c).conseq (fun r es ⟨h1, h2⟩ => by subst h1; exact Or.inr ⟨hm, hc, h2⟩)

theorem getsBody_in (cfg : Cfg) (dest dmax inp len : Nat) : EV (getsBody cfg dest dmax inp len) (QIn GBn C05Docs.SChkNospc .str id) :=
  have silent (r : Nat) (h : r ∈ GBn := by decide) : EV (pure r : Prog Nat) (QIn GBn C05Docs.SChkNospc .str id) := .pure _ (.inl ⟨rfl, h⟩)
  have done_ (k : Nat) : EV (do
      (if cfg.slack = true ∧ k < dmax then memsetP 0 (dmax - k) (dest + k) else pure ())
      pure EOK : Prog Nat) (QIn GBn C05Docs.SChkNospc .str id) :=
    Quiet.then_ (by quiet) fun _ => silent _
  .ite (Quiet.then_ (.storeP ..) fun _ => silent _) <| Quiet.then_ (q_fgetsLoop ..) fun (_, _) =>
    .ite (Quiet.then_ (.storeP ..) fun _ => silent _) <| Quiet.then_ (.storeP ..) fun _ =>
      Quiet.then_ (q_strnlenP ..) fun _ => Quiet.then_ (by quiet) fun _ =>
        .ite (Quiet.then_ (.storeP ..) fun _ => done_ _) <|
          .ite (.ite (.ite (silent _ (by split <;> decide)) (done_ _)) <| Quiet.then_ (.loadP _) fun _ => .ite (done_ _) <|
              (EV.handleError ..).bind fun _ _ he => he ▸ Quiet.then_ (by quiet) fun _ =>
                .pure _ (.inr ⟨by decide, ne_ESNOSPC, rfl⟩))
            (done_ _)

/-- gets_s: all arguments, EVERY stream -/
theorem gets_s_in (cfg : Cfg) (dest dmax : Nat) (db : Bos) (inp len : Nat) :
    EV (gets_s cfg dest dmax db inp len) (QIn GBn C05Docs.SChkNospc .str id) :=
  .ite (gq_failS _) <| .ite (gq_failS _) <| EV.optMatch db (.ite (gq_failS _) (getsBody_in ..)) fun _ =>
    .ite (.ite (gq_failS _) (gq_failS _)) (getsBody_in ..)

/-- the C05 discipline of gets_s for runs: for all arguments and every stream, a returning call has reported nothing and returned
dest (EOK) or NULL at end of file (-1), or has reported exactly once, the code it leaves in `errno` -/
theorem gets_s_C05 (cfg : Cfg) (dest dmax : Nat) (db : Bos) (inp len : Nat) (st : St) (r : Nat) (st' : St)
    (he : exec (gets_s cfg dest dmax db inp len) st = .ok (r, st')) :
    (st'.events = st.events ∧ (r = EOK ∨ r = NEG1 ∨ r = 21)) ∨
    (r ≠ EOK ∧ r ∈ [ESNULLP, ESZEROL, ESLEMAX, EOVERFLOW, ESNOSPC] ∧ st'.events = st.events ++ [.handler .str r]) := by
  obtain ⟨es, h1, h2⟩ := (gets_s_in cfg dest dmax db inp len).sound st he
  rcases h2 with ⟨rfl, hr⟩ | ⟨hm, hr, rfl⟩
  · exact Or.inl ⟨by simpa using h1, by simpa using hr⟩
  · exact Or.inr ⟨hr, hm, h1⟩

/-- gets_s: the code left in `errno` is on the current `@retval errno=` list of the doc comment (EOK / -1 stand for the two
pointer results that set no code, 21 for libc's errno of a failed read) -/
theorem gets_s_documented (cfg : Cfg) (dest dmax : Nat) (db : Bos) (inp len : Nat) :
    ReturnsDocumented "gets_s" [EOK, NEG1, 21] (gets_s cfg dest dmax db inp len) id :=
  of_QInAny ((gets_s_in ..).conseq fun _ _ => QIn.any) (docRow 10 (by decide +kernel))

theorem q_copyTm (k i res dest : Nat) : Quiet (copyTm k i res dest) := by
  induction k generalizing i with
  | zero => unfold copyTm; quiet
  | succ k ih =>
    unfold copyTm
    refine Quiet.bind (Quiet.loadP _) (fun v => ?_)
    refine Quiet.bind (by quiet) (fun _ => ih _)

/-- outcome of gmtime_s / localtime_s (result: EOK = dest returned, otherwise `errno`): silent success or libc failure; a null
pointer reported and returned as ESNULLP; an out-of-range `*timer` reported ONCE — as ESLEMIN / ESLEMAX — and returned as
EOVERFLOW (known finding `tmconv-handler-code-differs-from-errno`: the handler is not passed the code the caller gets) -/
def TmPost : Nat → List Event → Prop := fun r es =>
  (es = [] ∧ (r = EOK ∨ r = NEG1)) ∨ (r = ESNULLP ∧ es = [.handler .str ESNULLP]) ∨
  (r = EOVERFLOW ∧ (es = [.handler .str ESLEMIN] ∨ es = [.handler .str ESLEMAX]))

theorem tmConv_ev (timer dest res : Nat) : EV (tmConv timer dest res) TmPost :=
  have nul : EV (failS ESNULLP) TmPost := (EV.failS _).conseq fun _ _ ⟨h1, h2⟩ => .inr (.inl ⟨h1, h2⟩)
  .ite nul <| .ite nul <| Quiet.then_ (.loadP _) fun _ => .ite (.emit _ _ (.ret _ (.inr (.inr ⟨rfl, .inl rfl⟩)))) <|
    Quiet.then_ (.loadP _) fun _ => .ite (.emit _ _ (.ret _ (.inr (.inr ⟨rfl, .inr rfl⟩)))) <|
      .ite (.pure _ (.inl ⟨rfl, .inr rfl⟩)) (Quiet.then_ (q_copyTm ..) fun _ => .pure _ (.inl ⟨rfl, .inl rfl⟩))

/- FULL C05 statement (FALSE of the code, see `tmConv_C05_witness`): every returning call reported nothing and returned dest / NULL
   with errno 0, or reported exactly once the code it leaves in errno. -/
/-- what holds for all arguments and contents: never two reports, never a silent error code, never a report followed by success;
the one reported code is the returned one except for an out-of-range timer -/
theorem tmConv_C05_partial (timer dest res : Nat) (st : St) (r : Nat) (st' : St) (he : exec (tmConv timer dest res) st = .ok (r, st')) :
    (st'.events = st.events ∧ (r = EOK ∨ r = NEG1)) ∨
    (r = ESNULLP ∧ st'.events = st.events ++ [.handler .str ESNULLP]) ∨
    (r = EOVERFLOW ∧ (st'.events = st.events ++ [.handler .str ESLEMIN] ∨ st'.events = st.events ++ [.handler .str ESLEMAX])) := by
  obtain ⟨es, h1, h2⟩ := (tmConv_ev timer dest res).sound st he
  rcases h2 with ⟨rfl, hr⟩ | ⟨hr, rfl⟩ | ⟨hr, rfl | rfl⟩
  · exact Or.inl ⟨by simpa using h1, hr⟩
  · exact Or.inr (Or.inl ⟨hr, h1⟩)
  · exact Or.inr (Or.inr ⟨hr, Or.inl h1⟩)
  · exact Or.inr (Or.inr ⟨hr, Or.inr h1⟩)

/-- the excluded point: `*timer = -1` (cell value 2^64 - 1) is reported as ESLEMIN and returned as EOVERFLOW -/
theorem tmConv_C05_witness :
    ∃ st', exec (gmtime_s 8 100 200) { data := fun a => if a = 8 then 2^64 - 1 else 0, mapped := fun _ => true, rd := fun _ => true,
                                       wr := fun _ => true } = .ok (EOVERFLOW, st') ∧
      st'.events = [.handler .str ESLEMIN] ∧ ESLEMIN ≠ EOVERFLOW := by
  refine ⟨_, rfl, rfl, by decide⟩

end SafeC.Props.C05Time
