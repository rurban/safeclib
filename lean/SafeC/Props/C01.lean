import SafeC.Proofs.ExSt
import SafeC.Proofs.AccCopyEntry
import SafeC.Proofs.WW
import SafeC.Props.C02
/-!
# C01 — no write ever lands outside the destination the caller declared

Setting (DESIGN.md §4 C01): every cell is mapped and readable with ARBITRARY contents (an over-read
must not be able to cause an over-write); writable = exactly what the caller declared.
The conclusion is the property itself: the run records no stray write and every cell that was not
declared writable is bit-identical afterwards — for every argument combination, every relative
placement of `src` and `dest` (including overlap), success or failure, both slack configurations.
-/
namespace SafeC.Props.C01
open SafeC

structure Setting (st : St) : Prop where
  all : ∀ a, st.mapped a = true ∧ st.rd a = true
  clean : st.strays = []

def Holds (st st' : St) : Prop :=
  (∀ x ∈ st'.strays, x.isWrite = false) ∧ ∀ a, st.wr a = false → st'.data a = st.data a

/-- the C01 conclusion from a footprint theorem: loads anywhere, stores in what `st` declares writable (`C02.Wr st`) — the
instance C02 reads "no stray access" off (`C02.runs_of_AccS`), here read for the frame -/
theorem holds_of_AccS {α} {p : Prog α} {Q : α → (Nat → Nat) → Prop} {st : St} (hs : Setting st)
    (h : AccS (fun _ => True) (C02.Wr st) st.data p Q) : ∃ r st', exec p st = .ok (r, st') ∧ Holds st st' := by
  obtain ⟨r, st', he, ⟨_, hf⟩, hy⟩ := h.frame.sound st rfl (fun a _ => hs.all a) (fun _ h => h)
  exact ⟨r, st', he, .intro (fun x hx => by rw [hy, hs.clean] at hx; cases hx)
    fun a ha => hf a fun hw => by rw [hw.2] at ha; cases ha⟩

theorem holds_of_Acc {α} {p : Prog α} {Q : α → Prop} {st : St} (hs : Setting st)
    (h : Acc (fun _ => True) (C02.Wr st) p Q) : ∃ r st', exec p st = .ok (r, st') ∧ Holds st st' :=
  holds_of_AccS hs (AccS.of_Acc h st.data)

/-- the reading of `WW` for C01: a derivation whose window the state declares writable -/
theorem holds_of_WW {α} {p : Prog α} {Q : α → Prop} {st : St} {lo hi : Nat} (hs : Setting st)
    (hw : ∀ a, lo ≤ a → a < hi → C02.Wr st a) (h : WW lo hi p Q) : ∃ r st', exec p st = .ok (r, st') ∧ Holds st st' :=
  holds_of_Acc hs (h.toAcc.mono (fun _ h => h) fun a ha => hw a ha.1 ha.2)

/-- the stray WRITES a run recorded (`none`: the run faulted) — the decidable observation used by the witnesses -/
def strayWrites {α} (r : Except Fault (α × St)) : Option (List Access) :=
  match r with
  | .ok (_, s) => some (s.strays.filter Access.isWrite)
  | .error _ => none

/-- strcpy_s, object size unknown: all dest/dmax/src (null, zero, huge, overlapping, unterminated) -/
theorem strcpy_s_C01 (cfg : Cfg) (dest dmax src : Nat) (st : St) (hs : Setting st)
    (hrw : dest ≠ 0 → RW st dest dmax) :
    ∃ code st', exec (strcpy_s cfg dest dmax src none) st = .ok (code, st') ∧ Holds st st' :=
  holds_of_AccS hs (strcpyG_accs _ cfg dest dmax src none (fun _ _ _ => trivial) (fun _ _ _ => trivial) (C02.Wr_of_RW.guard hrw))

/-- wcscpy_s: same statement on `wchar_t` cells -/
theorem wcscpy_s_C01 (cfg : Cfg) (dest dmax src : Nat) (st : St) (hs : Setting st)
    (hrw : dest ≠ 0 → RW st dest dmax) :
    ∃ code st', exec (wcscpy_s cfg dest dmax src none) st = .ok (code, st') ∧ Holds st st' :=
  holds_of_AccS hs (wcscpy_s_accs cfg dest dmax src none (fun _ _ _ => trivial) (C02.Wr_of_RW.guard hrw))

/-- strncpy_s: all dest/dmax/src/slen, all placements and contents -/
theorem strncpy_s_C01 (cfg : Cfg) (dest dmax src slen : Nat) (st : St) (hs : Setting st)
    (hrw : dest ≠ 0 → RW st dest dmax) :
    ∃ code st', exec (strncpy_s cfg dest dmax src slen none none) st = .ok (code, st') ∧ Holds st st' :=
  holds_of_AccS hs (strncpyG_accs _ cfg dest dmax src slen none none (fun _ _ _ h => nomatch h) (fun _ _ _ => trivial) (fun _ _ _ => trivial) (C02.Wr_of_RW.guard hrw))

/-- strcat_s: all arguments, dest terminated or not, all placements -/
theorem strcat_s_C01 (cfg : Cfg) (dest dmax src : Nat) (st : St) (hs : Setting st)
    (hrw : dest ≠ 0 → RW st dest dmax) :
    ∃ code st', exec (strcat_s cfg dest dmax src none) st = .ok (code, st') ∧ Holds st st' :=
  holds_of_AccS hs (strcatG_accs _ cfg dest dmax src none (fun _ _ _ => trivial) (fun _ _ _ => trivial) (C02.Wr_of_RW.guard hrw))

/-- strncat_s (stated for slen ≠ 0; the slen = 0 path is the `strncat-slen0-handler-eok` finding: it writes
only inside dest as well, the footprint walk covers it and the proof does not use `hslen`) -/
theorem strncat_s_C01 (cfg : Cfg) (dest dmax src slen : Nat) (st : St) (hs : Setting st)
    (hrw : dest ≠ 0 → RW st dest dmax) (hslen : slen ≠ 0) :
    ∃ code st', exec (strncat_s cfg dest dmax src slen none none) st = .ok (code, st') ∧ Holds st st' :=
  holds_of_AccS hs (strncatG_accs _ cfg dest dmax src slen none none (fun _ _ _ h => nomatch h) (fun _ _ _ => trivial) (fun _ _ _ => trivial) (C02.Wr_of_RW.guard hrw))

theorem wcscat_s_C01 (cfg : Cfg) (dest dmax src : Nat) (st : St) (hs : Setting st)
    (hrw : dest ≠ 0 → RW st dest dmax) :
    ∃ code st', exec (wcscat_s cfg dest dmax src none) st = .ok (code, st') ∧ Holds st st' :=
  holds_of_AccS hs (wcscat_s_accs cfg dest dmax src none (fun _ _ _ => trivial) (fun _ _ _ => trivial) (C02.Wr_of_RW.guard hrw))

/-- non-vacuity: `exSt` (`Proofs/ExSt.lean`: dest = 100, dmax = 5, src = 200) meets the hypotheses -/
example : Setting exSt ∧ ((100 : Nat) ≠ 0 → RW exSt 100 5) := by
  refine ⟨⟨fun _ => ⟨rfl, rfl⟩, rfl⟩, fun _ i hi => ⟨rfl, ?_, rfl⟩⟩
  simp [exSt]; omega

end SafeC.Props.C01
