import SafeC.Proofs.EVRQuery
import SafeC.Proofs.EVRQuery2
import SafeC.Proofs.EVTok
import SafeC.Proofs.EVCopy
/-!
# C05 through the event judgement: the event readings of the walks that no later theorem uses, and what the posts mean for runs

The walks are in `Proofs/EVRQuery*.lean` (query functions, store-free judgement `EVR`), `Proofs/EVTok.lean`, `Proofs/EVCopy.lean`;
those of strtok_s / wcstok_s, wcscpy_s and strnterminate_s are written here, on the blocks of these files and of `Proofs/EVInplace.lean`.
`*_meaning`: what `EV p Post` says about runs (`EV.sound` instantiated for each post).
-/
namespace SafeC.Props.C05Query
open SafeC Gen SafeC.Props.C05Ev SafeC.Props.C05Docs

/-- strpbrk_s, FULL statement false of the code (known finding `strpbrk-clears-dest`: with a known source size and
`slen` above it the exit goes through `handle_str_bos_overflow(dest, destbos)`, which with destbos unknown reports
twice).  Partial: source size unknown or `slen` within it. -/
theorem strpbrk_s_ev_partial (cfg : Cfg) (dest dmax src slen : Nat) (db sb : Bos) (h : ∀ b, sb = some b → slen ≤ b) :
    EV (strpbrk_s cfg dest dmax src slen db sb) (P2 [EOK, ESNOTFND] .str) :=
  (strpbrk_s_in cfg dest dmax src slen db sb h).ev.conseq fun _ _ => QIn.qpost

theorem predFn_ev (ok : Nat → Bool) (b : Bool) (dest dmax : Nat) (db : Bos) : EV (predFn ok b dest dmax db) PB :=
  (predFn_ro ..).ev

theorem strisascii_s_ev (dest dmax : Nat) (db : Bos) : EV (strisascii_s dest dmax db) PB :=
  (strisascii_s_ro ..).ev

theorem strispassword_s_ev (dest dmax : Nat) (db : Bos) : EV (strispassword_s dest dmax db) PB :=
  (strispassword_s_ro ..).ev

theorem quiet_Q {α} {bn : List Nat} {k : Kind} {code : α → Nat} {p : Prog α} (h : EV.Silent p (fun y => code y ∈ bn)) :
    EV p (QPost bn k code) := h.conseq (fun _ _ ⟨he, hb⟩ => Or.inl ⟨he, hb⟩)

theorem wcsnlen_s_chk_ev (str smax : Nat) (sb : Bos) : EV (wcsnlen_s_chk str smax sb) PN :=
  (wcsnlen_s_chk_ro ..).ev

theorem strtok_s_ev (dest : Nat) (dmaxp : Option Nat) (delim : Nat) (ptr : Option Nat) (db : Bos) :
    EV (strtok_s dest dmaxp delim ptr db) PT :=
  match dmaxp, ptr with
  | none, _ => tokFail_ev _
  | some _, none => .ite (tokFail_ev _) <| .ite (tokFail_ev _) (tokFail_ev _)
  | some _, some _ => .ite (tokFail_ev _) <| .ite (tokFail_ev _) <| .ite (tokFail_ev _) <|
    EV.optMatch _ (.ite (tokFail_ev _) (tokBody_ev ..)) fun _ => .ite (tokFail_ev _) (tokBody_ev ..)

theorem wcstok_s_ev (dest : Nat) (dmaxp : Option Nat) (delim : Nat) (ptr : Option Nat) (db : Bos) :
    EV (wcstok_s dest dmaxp delim ptr db) PT :=
  match dmaxp, ptr with
  | none, _ => tokFail_ev _
  | some _, none => .ite (tokFail_ev _) <| .ite (tokFail_ev _) <| .ite (tokFail_ev _) (tokFail_ev _)
  | some _, some _ => .ite (tokFail_ev _) <| .ite (tokFail_ev _) <| .ite (tokFail_ev _) <| .ite (tokFail_ev _) <|
    EV.optMatch _ (tokBody_ev ..) fun _ => .ite (tokFail_ev _) (tokBody_ev ..)

/-! ## wcscpy_s; strnterminate_s / strnlen_s: a count is returned; after a report it is 0 -/

theorem wcscpy_s_ev (cfg : Cfg) (dest dmax src : Nat) (db : Bos) : EV (wcscpy_s cfg dest dmax src db) PC :=
  EV.conseq (Q := OnceIn SCopy .str) (.ite (failS_in _) <| .ite (failS_in _) <| chkDmaxClearW_in _ _ _ _ <|
    .ite (handleError_ret_in ..) <| .ite eok_in <| .ite (copyLoop_ev ..) (copyLoop_ev ..)) fun _ _ => OnceIn.once

theorem strnterminate_s_ev (cfg : Cfg) (dest dmax : Nat) (db : Bos) : EV (strnterminate_s cfg dest dmax db) PN :=
  have f (c : Nat) (hc : c ≠ EOK := by decide) : EV (do handlerS c; pure 0 : Prog Nat) PN := (failF c hc).ev
  have body : EV (do let (d, count) ← ntermLoop (dmax - 1) dest 0; store d 0; pure count : Prog Nat) PN :=
    Quiet.then_ (q_ntermLoop ..) fun _ => Quiet.then_ (.storeP ..) fun _ => .pure _ (.inl rfl)
  .ite (f _) <| .ite (f _) <| EV.optMatch db (.ite (f _) body) fun _ => .ite (f _) body
theorem strnlen_s_ev (str smax : Nat) (sb : Bos) : EV (strnlen_s str smax sb) PN := (strnlen_s_ro ..).ev

/-- `EV p (QPost bn k code)`: every returning run appended nothing and returned a result code of `bn`, or appended
exactly one `k`-handler event carrying the non-EOK code it returned -/
theorem QPost_meaning {α} {bn : List Nat} {k : Kind} {code : α → Nat} {p : Prog α} (h : EV p (QPost bn k code))
    (st : St) (r : α) (st' : St) (he : exec p st = .ok (r, st')) :
    (st'.events = st.events ∧ code r ∈ bn) ∨ (code r ≠ EOK ∧ st'.events = st.events ++ [.handler k (code r)]) := by
  obtain ⟨es, h1, h2⟩ := h.sound st he
  rcases h2 with ⟨rfl, hb⟩ | ⟨hc, rfl⟩
  · exact Or.inl ⟨by simpa using h1, hb⟩
  · exact Or.inr ⟨hc, h1⟩

theorem QPostAny_meaning {α} {bn : List Nat} {code : α → Nat} {p : Prog α} (h : EV p (QPostAny bn code))
    (st : St) (r : α) (st' : St) (he : exec p st = .ok (r, st')) :
    (st'.events = st.events ∧ code r ∈ bn) ∨ (code r ≠ EOK ∧ ∃ k, st'.events = st.events ++ [.handler k (code r)]) := by
  obtain ⟨es, h1, h2⟩ := h.sound st he
  rcases h2 with ⟨rfl, hb⟩ | ⟨hc, k, rfl⟩
  · exact Or.inl ⟨by simpa using h1, hb⟩
  · exact Or.inr ⟨hc, k, h1⟩

/-- `EV p (FPost fv)`: nothing appended, or exactly one str-handler event (code ≠ EOK) and the failure value returned -/
theorem FPost_meaning {α} {fv : α} {p : Prog α} (h : EV p (FPost fv))
    (st : St) (r : α) (st' : St) (he : exec p st = .ok (r, st')) :
    st'.events = st.events ∨ (r = fv ∧ ∃ c, c ≠ EOK ∧ st'.events = st.events ++ [.handler .str c]) := by
  obtain ⟨es, h1, h2⟩ := h.sound st he
  rcases h2 with rfl | ⟨hr, c, hc, rfl⟩
  · exact Or.inl (by simpa using h1)
  · exact Or.inr ⟨hr, c, hc, h1⟩

/-- tokenizers: nothing appended, or NULL returned and exactly one str-handler event -/
theorem PT_meaning {p : Prog TokOut} (h : EV p PT) (st : St) (r : TokOut) (st' : St) (he : exec p st = .ok (r, st')) :
    st'.events = st.events ∨ (r.ret = 0 ∧ ∃ c, c ≠ EOK ∧ st'.events = st.events ++ [.handler .str c]) := by
  obtain ⟨es, h1, h2⟩ := h.sound st he
  rcases h2 with rfl | ⟨hr, c, hc, rfl⟩
  · exact Or.inl (by simpa using h1)
  · exact Or.inr ⟨hr, c, hc, h1⟩

/-- object of 5000 bytes known, dmax = 5000 > RSIZE_MAX_STR: strrchr_s rejects the call itself with ESLEMAX, reported once with that
code (without the test of /repo commit fd35a3d the inner strnlen_s reported ESLEMAX and strrchr_s returned ESZEROL) -/
theorem strrchr_s_C05_fixed_point :
    ((exec (strrchr_s 100 5000 97 (some 5000))
      { data := fun _ => 97, mapped := fun _ => true, rd := fun _ => true, wr := fun _ => false }).toOption.map
        (fun x => (x.1.1, x.2.events))) = some (ESLEMAX, [.handler .str ESLEMAX]) := by
  decide

/-- non-vacuity of `SmallBos` / `SrcOk` -/
example : SmallBos (some 8) := fun b h => by cases h; exact ⟨by decide, by decide⟩
example : SmallBos none := fun b h => by cases h
example : SrcOk (some 4) 3 := fun b h => by cases h; decide

end SafeC.Props.C05Query
