import SafeC.Props.C05MeaningIs
import SafeC.Proofs.OsEv
/-!
# C05, the "which arguments are violations" half in Lean: `*_meaning` theorems for functions whose result code is a
function of the ARGUMENTS alone (memory contents play no part)

For each function: `<fn>Code args` transcribed from the doc comment's `@retval` / `@pre` lines, `<fn>_code`
(`EV` form: every returning call returns exactly `<fn>Code args`, with no event when that is EOK and exactly one
handler event carrying it otherwise — for ALL arguments and ALL memory contents and mappings), `<fn>_meaning` (the same
for runs) and `<fn>Code_eok_iff` (EOK exactly when no documented runtime-constraint is violated).

The memory family is stated here with the object sizes UNKNOWN (`destbos = srcbos = none`, the library's own view of
its parameters); with a known size the code widens `dmax` (known findings `memset-bos-widens-dmax`,
`mem16-32-bos-widens-dmax`).
-/
namespace SafeC.Props.C05Meaning
open SafeC Gen Mem SafeC.Props.C05Ev SafeC.Props.C05Mem

/-- src/mem/memset_s.c: `@retval EOK when operation is successful or n = 0`, `ESNULLP when dest is NULL pointer`,
`ESLEMAX when dmax/n > RSIZE_MAX_MEM or value > 255`, `ESNOSPC when dmax < n` (`value` is a C `int`) -/
def memsetCode (dest dmax value n : Nat) : Nat :=
  if dest = 0 then ESNULLP
  else if n = 0 then EOK
  else if dmax > RSIZE_MAX_MEM then ESLEMAX
  else if asInt value > 255 then ESLEMAX
  else if n > dmax then (if n > RSIZE_MAX_MEM then ESLEMAX else ESNOSPC)
  else EOK

theorem memset_s_code (dest dmax value n : Nat) :
    EV (memset_s dest dmax value n none) (Is .mem (memsetCode dest dmax value n)) := by
  unfold memset_s memsetCode chkDmaxMemB
  refine is_ite (is_failM _ ne_ESNULLP) (is_ite is_eok (is_ite (is_failM _ ne_ESLEMAX)
    (is_ite (is_failM _ ne_ESLEMAX) (is_ite ?_ ?_))))
  · exact is_report_work (q_mem_prim_set _ _ _ _) _ (ite_ne_EOK ne_ESLEMAX ne_ESNOSPC)
  · exact is_work_eok (q_mem_prim_set _ _ _ _)

/-- memset_s, object size unknown: every returning call hands back exactly `memsetCode` of its arguments; a violation
is reported exactly once with that code, a call without one reports nothing -/
theorem memset_s_meaning (dest dmax value n : Nat) (st : St) (r : Nat) (st' : St)
    (he : exec (memset_s dest dmax value n none) st = .ok (r, st')) :
    r = memsetCode dest dmax value n ∧
      ((r = EOK ∧ st'.events = st.events) ∨ (r ≠ EOK ∧ st'.events = st.events ++ [.handler .mem r])) :=
  Is.sound (memset_s_code ..) st r st' he

/-- EOK exactly when no documented runtime-constraint is violated (`n ≤ RSIZE_MAX_MEM` follows from the last two) -/
theorem memsetCode_eok_iff (dest dmax value n : Nat) :
    memsetCode dest dmax value n = EOK ↔
      dest ≠ 0 ∧ (n = 0 ∨ (dmax ≤ RSIZE_MAX_MEM ∧ asInt value ≤ 255 ∧ n ≤ dmax)) := by
  unfold memsetCode
  rw [ite_fail_eq_EOK ne_ESNULLP, ite_EOK_eq_EOK, ite_fail_eq_EOK ne_ESLEMAX, ite_fail_eq_EOK ne_ESLEMAX, ite_fail_eq_EOK (ite_ne_EOK ne_ESLEMAX ne_ESNOSPC)]
  omega

/-- non-vacuity: a reporting run (n > dmax) -/
example : ((exec (memset_s 100 1 7 2 none)
      { data := fun _ => 0, mapped := fun _ => true, rd := fun _ => true, wr := fun _ => true }).toOption.map
        (fun x => (x.1, x.2.events))) = some (memsetCode 100 1 7 2, [.handler .mem ESNOSPC]) := by decide

/-- src/extmem/memzero_s.c: `@retval EOK when operation is successful`, `ESNULLP when dest is NULL POINTER`,
`ESZEROL when len = ZERO`, `ESLEMAX when len > RSIZE_MAX_MEM` -/
def memzeroCode (dest len : Nat) : Nat :=
  if dest = 0 then ESNULLP
  else if len = 0 then ESZEROL
  else if len > RSIZE_MAX_MEM then ESLEMAX
  else EOK

theorem memzero_s_code (dest len : Nat) : EV (memzero_s dest len none) (Is .mem (memzeroCode dest len)) := by
  unfold memzero_s memzeroCode chkDmaxMemB
  exact is_ite (is_failM _ ne_ESNULLP) (is_ite (is_failM _ ne_ESZEROL) (is_ite (is_failM _ ne_ESLEMAX)
    (is_work_eok (q_memsetBytes _ _ _ _))))

/-- memzero_s, object size unknown: the code is `memzeroCode` of the arguments, reported exactly once iff ≠ EOK -/
theorem memzero_s_meaning (dest len : Nat) (st : St) (r : Nat) (st' : St)
    (he : exec (memzero_s dest len none) st = .ok (r, st')) :
    r = memzeroCode dest len ∧
      ((r = EOK ∧ st'.events = st.events) ∨ (r ≠ EOK ∧ st'.events = st.events ++ [.handler .mem r])) :=
  Is.sound (memzero_s_code ..) st r st' he

theorem memzeroCode_eok_iff (dest len : Nat) :
    memzeroCode dest len = EOK ↔ dest ≠ 0 ∧ len ≠ 0 ∧ len ≤ RSIZE_MAX_MEM := by
  unfold memzeroCode
  rw [ite_fail_eq_EOK ne_ESNULLP, ite_fail_eq_EOK ne_ESZEROL, ite_fail_eq_EOK ne_ESLEMAX]
  omega

example : ((exec (memzero_s 100 0 none)
      { data := fun _ => 0, mapped := fun _ => true, rd := fun _ => true, wr := fun _ => true }).toOption.map
        (fun x => (x.1, x.2.events))) = some (memzeroCode 100 0, [.handler .mem ESZEROL]) := by decide

/-! ## memset16_s, memset32_s (`dmax` in bytes, `n` in elements) -/

/-- src/extmem/memset16_s.c: `@retval EOK when operation is successful or n = 0`, `ESNULLP when dest is NULL POINTER`,
`ESLEMAX when dmax > RSIZE_MAX_MEM or n > RSIZE_MAX_MEM16`, `ESNOSPC when 2*n > dmax` -/
def memset16Code (dest dmax n : Nat) : Nat :=
  if dest = 0 then ESNULLP
  else if n = 0 then EOK
  else if dmax > RSIZE_MAX_MEM then ESLEMAX
  else if 2 * n > dmax then (if n > RSIZE_MAX_MEM16 then ESLEMAX else ESNOSPC)
  else EOK

theorem memset16_s_code (dest dmax value n : Nat) :
    EV (memset16_s dest dmax value n none) (Is .mem (memset16Code dest dmax n)) := by
  simp only [memset16_s, memset16Code, chkDmaxMemB, Option.getD_none]
  refine is_ite (is_failM _ ne_ESNULLP) (is_ite is_eok (is_ite (is_failM _ ne_ESLEMAX) (is_ite' (by omega) ?_ ?_)))
  · exact is_report_work (q_mem_prim_set16 _ _ _) _ (ite_ne_EOK ne_ESLEMAX ne_ESNOSPC)
  · exact is_work_eok (q_mem_prim_set16 _ _ _)

/-- memset16_s, object size unknown: the code is `memset16Code` of the arguments (the fill value plays no part) -/
theorem memset16_s_meaning (dest dmax value n : Nat) (st : St) (r : Nat) (st' : St)
    (he : exec (memset16_s dest dmax value n none) st = .ok (r, st')) :
    r = memset16Code dest dmax n ∧
      ((r = EOK ∧ st'.events = st.events) ∨ (r ≠ EOK ∧ st'.events = st.events ++ [.handler .mem r])) :=
  Is.sound (memset16_s_code ..) st r st' he

theorem memset16Code_eok_iff (dest dmax n : Nat) :
    memset16Code dest dmax n = EOK ↔
      dest ≠ 0 ∧ (n = 0 ∨ (dmax ≤ RSIZE_MAX_MEM ∧ n ≤ RSIZE_MAX_MEM16 ∧ 2 * n ≤ dmax)) := by
  have hm : RSIZE_MAX_MEM = 2 * RSIZE_MAX_MEM16 := by decide
  unfold memset16Code
  rw [ite_fail_eq_EOK ne_ESNULLP, ite_EOK_eq_EOK, ite_fail_eq_EOK ne_ESLEMAX, ite_fail_eq_EOK (ite_ne_EOK ne_ESLEMAX ne_ESNOSPC)]
  omega

/-- src/extmem/memset32_s.c: as memset16_s with `RSIZE_MAX_MEM32` and `4*n > dmax` -/
def memset32Code (dest dmax n : Nat) : Nat :=
  if dest = 0 then ESNULLP
  else if n = 0 then EOK
  else if dmax > RSIZE_MAX_MEM then ESLEMAX
  else if 4 * n > dmax then (if n > RSIZE_MAX_MEM32 then ESLEMAX else ESNOSPC)
  else EOK

theorem memset32_s_code (dest dmax value n : Nat) :
    EV (memset32_s dest dmax value n none) (Is .mem (memset32Code dest dmax n)) := by
  simp only [memset32_s, memset32Code, chkDmaxMemB, Option.getD_none]
  refine is_ite (is_failM _ ne_ESNULLP) (is_ite is_eok (is_ite (is_failM _ ne_ESLEMAX) (is_ite' (by omega) ?_ ?_)))
  · exact is_report_work (q_mem_prim_set32 _ _ _) _ (ite_ne_EOK ne_ESLEMAX ne_ESNOSPC)
  · exact is_work_eok (q_mem_prim_set32 _ _ _)

/-- memset32_s, object size unknown: the code is `memset32Code` of the arguments -/
theorem memset32_s_meaning (dest dmax value n : Nat) (st : St) (r : Nat) (st' : St)
    (he : exec (memset32_s dest dmax value n none) st = .ok (r, st')) :
    r = memset32Code dest dmax n ∧
      ((r = EOK ∧ st'.events = st.events) ∨ (r ≠ EOK ∧ st'.events = st.events ++ [.handler .mem r])) :=
  Is.sound (memset32_s_code ..) st r st' he

theorem memset32Code_eok_iff (dest dmax n : Nat) :
    memset32Code dest dmax n = EOK ↔
      dest ≠ 0 ∧ (n = 0 ∨ (dmax ≤ RSIZE_MAX_MEM ∧ n ≤ RSIZE_MAX_MEM32 ∧ 4 * n ≤ dmax)) := by
  have hm : RSIZE_MAX_MEM = 4 * RSIZE_MAX_MEM32 := by decide
  unfold memset32Code
  rw [ite_fail_eq_EOK ne_ESNULLP, ite_EOK_eq_EOK, ite_fail_eq_EOK ne_ESLEMAX, ite_fail_eq_EOK (ite_ne_EOK ne_ESLEMAX ne_ESNOSPC)]
  omega

example : ((exec (memset16_s 100 2 7 2 none)
      { data := fun _ => 0, mapped := fun _ => true, rd := fun _ => true, wr := fun _ => true }).toOption.map
        (fun x => (x.1, x.2.events))) = some (memset16Code 100 2 2, [.handler .mem ESNOSPC]) := by decide
example : ((exec (memset32_s 100 4 7 2 none)
      { data := fun _ => 0, mapped := fun _ => true, rd := fun _ => true, wr := fun _ => true }).toOption.map
        (fun x => (x.1, x.2.events))) = some (memset32Code 100 4 2, [.handler .mem ESNOSPC]) := by decide

/-- src/mem/memcpy_s.c: `@retval EOK when operation is successful or slen = 0`, `ESNULLP when dest/src is NULL POINTER`,
`ESZEROL when dmax = 0`, `ESLEMAX when dmax/slen > RSIZE_MAX_MEM`, `ESNOSPC when dmax < slen`,
`ESOVRLP when src memory overlaps dst` (the code: `CHK_OVRLP_BUTSAME`, "overlap is disallowed, but allow dest==src" —
a function of the ADDRESSES and sizes only, `ovrlpButSame_iff`) -/
def memcpyCode (dest dmax src slen : Nat) : Nat :=
  if slen = 0 then EOK
  else if dest = 0 then ESNULLP
  else if dmax = 0 then ESZEROL
  else if dmax > RSIZE_MAX_MEM then ESLEMAX
  else if src = 0 then ESNULLP
  else if slen > dmax then (if slen > RSIZE_MAX_MEM then ESLEMAX else ESNOSPC)
  else if ovrlpButSame 1 dest dmax src slen then ESOVRLP
  else EOK

/-- `CHK_OVRLP_BUTSAME` on byte operands that do not wrap around the address space: the two regions
`[dest, dest+dmax)` and `[src, src+slen)` intersect and the pointers differ -/
theorem ovrlpButSame_iff (dest dmax src slen : Nat) (hd : dest + dmax < U64) (hs : src + slen < U64) :
    ovrlpButSame 1 dest dmax src slen = true ↔ dest ≠ src ∧ dest < src + slen ∧ src < dest + dmax := by
  simp only [ovrlpButSame, Nat.mul_one, Nat.mod_eq_of_lt hd, Nat.mod_eq_of_lt hs, Bool.or_eq_true, Bool.and_eq_true,
    decide_eq_true_eq]
  omega

theorem memcpy_s_code (dest dmax src slen : Nat) :
    EV (memcpy_s dest dmax src slen none none) (Is .mem (memcpyCode dest dmax src slen)) := by
  simp only [memcpy_s, memcpyCode, chkDmaxMemB, exceeds, Bool.false_eq_true, if_false]
  refine is_ite is_eok (is_ite (is_failM _ ne_ESNULLP) (is_ite (is_failM _ ne_ESZEROL) (is_ite (is_failM _ ne_ESLEMAX)
    (is_ite (is_handleMemErrorB _ _ _ _ ne_ESNULLP) (is_ite (is_handleMemErrorB _ _ _ _ (ite_ne_EOK ne_ESLEMAX ne_ESNOSPC)) (is_ite ?_ ?_))))))
  · exact is_clear_report (q_mem_prim_set _ _ _ _) _ ne_ESOVRLP
  · exact is_work_eok (q_mem_prim_move _ _ _)

/-- memcpy_s, object sizes unknown: the code is `memcpyCode` of the arguments (addresses and sizes; no memory content) -/
theorem memcpy_s_meaning (dest dmax src slen : Nat) (st : St) (r : Nat) (st' : St)
    (he : exec (memcpy_s dest dmax src slen none none) st = .ok (r, st')) :
    r = memcpyCode dest dmax src slen ∧
      ((r = EOK ∧ st'.events = st.events) ∨ (r ≠ EOK ∧ st'.events = st.events ++ [.handler .mem r])) :=
  Is.sound (memcpy_s_code ..) st r st' he

/-- EOK exactly when no documented constraint is violated (`slen ≤ RSIZE_MAX_MEM` follows) -/
theorem memcpyCode_eok_iff (dest dmax src slen : Nat) :
    memcpyCode dest dmax src slen = EOK ↔
      slen = 0 ∨ (dest ≠ 0 ∧ dmax ≠ 0 ∧ dmax ≤ RSIZE_MAX_MEM ∧ src ≠ 0 ∧ slen ≤ dmax ∧
        ovrlpButSame 1 dest dmax src slen = false) := by
  unfold memcpyCode
  rw [ite_EOK_eq_EOK, ite_fail_eq_EOK ne_ESNULLP, ite_fail_eq_EOK ne_ESZEROL, ite_fail_eq_EOK ne_ESLEMAX, ite_fail_eq_EOK ne_ESNULLP, ite_fail_eq_EOK (ite_ne_EOK ne_ESLEMAX ne_ESNOSPC), ite_fail_eq_EOK ne_ESOVRLP]
  simp only [Nat.not_lt, gt_iff_lt, Bool.not_eq_true, and_true, ne_eq]

/-- the doc comment's "regions that overlap" reading of `memcpyCode_eok_iff` for operands that do not wrap: dest == src
(a complete overlap) is NOT rejected — the code's own comment says so, the `@pre` line does not -/
theorem memcpyCode_eok_iff_regions (dest dmax src slen : Nat) (hd : dest + dmax < U64) (hs : src + slen < U64) :
    memcpyCode dest dmax src slen = EOK ↔
      slen = 0 ∨ (dest ≠ 0 ∧ dmax ≠ 0 ∧ dmax ≤ RSIZE_MAX_MEM ∧ src ≠ 0 ∧ slen ≤ dmax ∧
        (dest = src ∨ src + slen ≤ dest ∨ dest + dmax ≤ src)) := by
  rw [memcpyCode_eok_iff]
  have h := ovrlpButSame_iff dest dmax src slen hd hs
  have : ovrlpButSame 1 dest dmax src slen = false ↔ (dest = src ∨ src + slen ≤ dest ∨ dest + dmax ≤ src) := by
    rw [← Bool.not_eq_true, h]; omega
  rw [this]

/-- src/mem/memmove_s.c: as memcpy_s without the overlap line -/
def memmoveCode (dest dmax src slen : Nat) : Nat :=
  if slen = 0 then EOK
  else if dest = 0 then ESNULLP
  else if dmax = 0 then ESZEROL
  else if dmax > RSIZE_MAX_MEM then ESLEMAX
  else if src = 0 then ESNULLP
  else if slen > dmax then (if slen > RSIZE_MAX_MEM then ESLEMAX else ESNOSPC)
  else EOK

theorem memmove_s_code (dest dmax src slen : Nat) :
    EV (memmove_s dest dmax src slen none none) (Is .mem (memmoveCode dest dmax src slen)) := by
  simp only [memmove_s, memmoveCode, chkDmaxMemB, exceeds, Bool.false_eq_true, if_false]
  exact is_ite is_eok (is_ite (is_failM _ ne_ESNULLP) (is_ite (is_failM _ ne_ESZEROL) (is_ite (is_failM _ ne_ESLEMAX)
    (is_ite (is_handleMemErrorB _ _ _ _ ne_ESNULLP) (is_ite (is_handleMemErrorB _ _ _ _ (ite_ne_EOK ne_ESLEMAX ne_ESNOSPC))
      (is_work_eok (q_mem_prim_move _ _ _)))))))

/-- memmove_s, object sizes unknown: the code is `memmoveCode` of the arguments -/
theorem memmove_s_meaning (dest dmax src slen : Nat) (st : St) (r : Nat) (st' : St)
    (he : exec (memmove_s dest dmax src slen none none) st = .ok (r, st')) :
    r = memmoveCode dest dmax src slen ∧
      ((r = EOK ∧ st'.events = st.events) ∨ (r ≠ EOK ∧ st'.events = st.events ++ [.handler .mem r])) :=
  Is.sound (memmove_s_code ..) st r st' he

theorem memmoveCode_eok_iff (dest dmax src slen : Nat) :
    memmoveCode dest dmax src slen = EOK ↔
      slen = 0 ∨ (dest ≠ 0 ∧ dmax ≠ 0 ∧ dmax ≤ RSIZE_MAX_MEM ∧ src ≠ 0 ∧ slen ≤ dmax) := by
  unfold memmoveCode
  rw [ite_EOK_eq_EOK, ite_fail_eq_EOK ne_ESNULLP, ite_fail_eq_EOK ne_ESZEROL, ite_fail_eq_EOK ne_ESLEMAX, ite_fail_eq_EOK ne_ESNULLP, ite_fail_eq_EOK (ite_ne_EOK ne_ESLEMAX ne_ESNOSPC)]
  omega

/-- non-vacuity: an overlap report of memcpy_s, and the same operands accepted by memmove_s -/
example : ((exec (memcpy_s 100 4 102 4 none none)
      { data := fun _ => 7, mapped := fun _ => true, rd := fun _ => true, wr := fun _ => true }).toOption.map
        (fun x => (x.1, x.2.events))) = some (memcpyCode 100 4 102 4, [.handler .mem ESOVRLP]) := by decide
example : ((exec (memmove_s 100 4 102 4 none none)
      { data := fun _ => 7, mapped := fun _ => true, rd := fun _ => true, wr := fun _ => true }).toOption.map
        (fun x => (x.1, x.2.events))) = some (memmoveCode 100 4 102 4, []) := by decide

/-! ## memzero16_s, memzero32_s: `len` in elements; the byte size `len * 2` / `len * 4` is computed without an
overflow check (known finding `mem-size-multiplication-wraps`) -/

/-- src/extmem/memzero16_s.c: `@retval EOK when operation is successful`, `ESNULLP when dest is NULL POINTER`,
`ESZEROL when len = ZERO`, `ESLEMAX when len > RSIZE_MAX_MEM16` -/
def memzero16Code (dest len : Nat) : Nat :=
  if dest = 0 then ESNULLP
  else if len = 0 then ESZEROL
  else if len > RSIZE_MAX_MEM16 then ESLEMAX
  else EOK

/- FULL statement, false of the code (`memzero16_s_meaning_witness`):
   ∀ dest len, EV (memzero16_s dest len none) (Is .mem (memzero16Code dest len)) -/
theorem memzero16_s_code_partial (dest len : Nat) (hl : len < 2 ^ 63) :
    EV (memzero16_s dest len none) (Is .mem (memzero16Code dest len)) := by
  have hd : (len * 2) % U64 = len * 2 := Nat.mod_eq_of_lt (by unfold U64; omega)
  have hm : RSIZE_MAX_MEM = 2 * RSIZE_MAX_MEM16 := by decide
  simp only [memzero16_s, memzero16Code, chkDmaxMemB, hd]
  exact is_ite (is_failM _ ne_ESNULLP) (is_ite' (by omega) (is_failM _ ne_ESZEROL)
    (is_ite' (by omega) (is_failM _ ne_ESLEMAX) (is_work_eok (q_mem_prim_set16 _ _ _))))

/-- memzero16_s, object size unknown, element count below 2^63: the code is `memzero16Code` of the arguments -/
theorem memzero16_s_meaning_partial (dest len : Nat) (hl : len < 2 ^ 63) (st : St) (r : Nat) (st' : St)
    (he : exec (memzero16_s dest len none) st = .ok (r, st')) :
    r = memzero16Code dest len ∧
      ((r = EOK ∧ st'.events = st.events) ∨ (r ≠ EOK ∧ st'.events = st.events ++ [.handler .mem r])) :=
  Is.sound (memzero16_s_code_partial dest len hl) st r st' he

/-- the excluded point: `memzero16_s(d, 2^63 + 1)`: `len * 2` wraps to 2, the call returns EOK without a report although
`len > RSIZE_MAX_MEM16` (doc comment: ESLEMAX) -/
theorem memzero16_s_meaning_witness :
    ((exec (memzero16_s 100 (2 ^ 63 + 1) none)
      { data := fun _ => 7, mapped := fun _ => true, rd := fun _ => true, wr := fun _ => true }).toOption.map
        (fun x => (x.1, x.2.events))) = some (EOK, []) ∧ memzero16Code 100 (2 ^ 63 + 1) = ESLEMAX := by
  decide

theorem memzero16Code_eok_iff (dest len : Nat) :
    memzero16Code dest len = EOK ↔ dest ≠ 0 ∧ len ≠ 0 ∧ len ≤ RSIZE_MAX_MEM16 := by
  unfold memzero16Code
  rw [ite_fail_eq_EOK ne_ESNULLP, ite_fail_eq_EOK ne_ESZEROL, ite_fail_eq_EOK ne_ESLEMAX]
  omega

/-- src/extmem/memzero32_s.c: as memzero16_s with `RSIZE_MAX_MEM32` -/
def memzero32Code (dest len : Nat) : Nat :=
  if dest = 0 then ESNULLP
  else if len = 0 then ESZEROL
  else if len > RSIZE_MAX_MEM32 then ESLEMAX
  else EOK

/- FULL statement, false of the code (`memzero32_s_meaning_witness`):
   ∀ dest len, EV (memzero32_s dest len none) (Is .mem (memzero32Code dest len)) -/
theorem memzero32_s_code_partial (dest len : Nat) (hl : len < 2 ^ 62) :
    EV (memzero32_s dest len none) (Is .mem (memzero32Code dest len)) := by
  have hd : (len * 4) % U64 = len * 4 := Nat.mod_eq_of_lt (by unfold U64; omega)
  have hm : RSIZE_MAX_MEM = 4 * RSIZE_MAX_MEM32 := by decide
  simp only [memzero32_s, memzero32Code, chkDmaxMemB, hd]
  exact is_ite (is_failM _ ne_ESNULLP) (is_ite' (by omega) (is_failM _ ne_ESZEROL)
    (is_ite' (by omega) (is_failM _ ne_ESLEMAX) (is_work_eok (q_mem_prim_set32 _ _ _))))

/-- memzero32_s, object size unknown, element count below 2^62: the code is `memzero32Code` of the arguments -/
theorem memzero32_s_meaning_partial (dest len : Nat) (hl : len < 2 ^ 62) (st : St) (r : Nat) (st' : St)
    (he : exec (memzero32_s dest len none) st = .ok (r, st')) :
    r = memzero32Code dest len ∧
      ((r = EOK ∧ st'.events = st.events) ∨ (r ≠ EOK ∧ st'.events = st.events ++ [.handler .mem r])) :=
  Is.sound (memzero32_s_code_partial dest len hl) st r st' he

/-- the excluded point: `memzero32_s(d, 2^62 + 1)`: `len * 4` wraps to 4 → EOK, no report (doc comment: ESLEMAX) -/
theorem memzero32_s_meaning_witness :
    ((exec (memzero32_s 100 (2 ^ 62 + 1) none)
      { data := fun _ => 7, mapped := fun _ => true, rd := fun _ => true, wr := fun _ => true }).toOption.map
        (fun x => (x.1, x.2.events))) = some (EOK, []) ∧ memzero32Code 100 (2 ^ 62 + 1) = ESLEMAX := by
  decide

theorem memzero32Code_eok_iff (dest len : Nat) :
    memzero32Code dest len = EOK ↔ dest ≠ 0 ∧ len ≠ 0 ∧ len ≤ RSIZE_MAX_MEM32 := by
  unfold memzero32Code
  rw [ite_fail_eq_EOK ne_ESNULLP, ite_fail_eq_EOK ne_ESZEROL, ite_fail_eq_EOK ne_ESLEMAX]
  omega

/-- non-vacuity of the partial statements: a reporting run within the hypothesis -/
example : (3 : Nat) < 2 ^ 63 ∧ ((exec (memzero16_s 0 3 none)
      { data := fun _ => 7, mapped := fun _ => true, rd := fun _ => true, wr := fun _ => true }).toOption.map
        (fun x => (x.1, x.2.events))) = some (memzero16Code 0 3, [.handler .mem ESNULLP]) := by decide

/-! ## the in-place setters `strzero_s`, `strset_s`, `strnset_s` (str handler; object size known or not)

Their codes do not depend on the cells (an unterminated `dest` is a `@pre` without a `@retval`: the loops stop after
`dmax` cells and nothing is reported).  With a KNOWN object size above RSIZE_MAX_STR the limit check is skipped
(`CHK_DEST_OVR` only; known finding `bos-known-skips-limit`): `_partial` under `BosSmall`, + witness. -/

/-- the shared `dmax` lines: `ESLEMAX when dmax > RSIZE_MAX_STR`, `EOVERFLOW when dmax > size of dest`, else `c` -/
def dmaxCode (dmax : Nat) (destbos : Bos) (c : Nat) : Nat :=
  if dmax > RSIZE_MAX_STR then ESLEMAX
  else match destbos with
    | none => c
    | some b => if dmax > b then EOVERFLOW else c

/-- a known object size is a possible one for a string (the hypothesis the proofs force) -/
def BosSmall (destbos : Bos) : Prop := ∀ b, destbos = some b → b ≤ RSIZE_MAX_STR

theorem dmaxCode_eok_iff (dmax : Nat) (destbos : Bos) (c : Nat) :
    dmaxCode dmax destbos c = EOK ↔ dmax ≤ RSIZE_MAX_STR ∧ (∀ b, destbos = some b → dmax ≤ b) ∧ c = EOK := by
  unfold dmaxCode
  rw [ite_fail_eq_EOK ne_ESLEMAX]
  cases destbos with
  | none => simp
  | some b => simp only [ite_fail_eq_EOK ne_EOVERFLOW, Option.some.injEq, forall_eq', Nat.not_lt, gt_iff_lt]

theorem is_chkDmax (dmax : Nat) (destbos : Bos) (hb : BosSmall destbos) {k : Prog Nat} {c : Nat}
    (hk : EV k (Is .str c)) : EV (chkDmax dmax destbos RSIZE_MAX_STR k) (Is .str (dmaxCode dmax destbos c)) := by
  have hl := is_failS ESLEMAX ne_ESLEMAX
  unfold chkDmax dmaxCode
  cases destbos with
  | none => exact is_ite hl hk
  | some b =>
    have hb' : b ≤ RSIZE_MAX_STR := hb b rfl
    by_cases h : dmax > RSIZE_MAX_STR
    · simp only [h, if_true, show dmax > b by omega]; exact hl
    · simp only [h, if_false]; exact is_ite (is_failS _ ne_EOVERFLOW) hk

/-- src/extstr/strzero_s.c: `@retval EOK when successful operation`, `ESNULLP when dest is NULL pointer`,
`ESZEROL when dmax = 0`, `ESLEMAX when dmax > RSIZE_MAX_STR`, `EOVERFLOW when dmax > size of dest` -/
def strzeroCode (dest dmax : Nat) (destbos : Bos) : Nat :=
  if dest = 0 then ESNULLP
  else if dmax = 0 then ESZEROL
  else dmaxCode dmax destbos EOK

/- FULL statement (no `BosSmall`), false of the code: `strzero_s_meaning_witness` -/
theorem strzero_s_code_partial (cfg : Cfg) (dest dmax : Nat) (destbos : Bos) (hb : BosSmall destbos) :
    EV (strzero_s cfg dest dmax destbos) (Is .str (strzeroCode dest dmax destbos)) := by
  unfold strzero_s strzeroCode
  exact is_ite (is_failS _ ne_ESNULLP) (is_ite (is_failS _ ne_ESZEROL) (is_chkDmax _ _ hb
    (Quiet.then_ (q_setLoop _ _ _) (fun x => Quiet.then_ (q_slackTail cfg x.1 x.2) (fun _ => is_eok)))))

/-- strzero_s, object size unknown or a possible string size: the code is `strzeroCode` of the arguments, whatever the
cells hold; reported exactly once iff ≠ EOK -/
theorem strzero_s_meaning_partial (cfg : Cfg) (dest dmax : Nat) (destbos : Bos) (hb : BosSmall destbos)
    (st : St) (r : Nat) (st' : St) (he : exec (strzero_s cfg dest dmax destbos) st = .ok (r, st')) :
    r = strzeroCode dest dmax destbos ∧
      ((r = EOK ∧ st'.events = st.events) ∨ (r ≠ EOK ∧ st'.events = st.events ++ [.handler .str r])) :=
  Is.sound (strzero_s_code_partial cfg dest dmax destbos hb) st r st' he

/-- strzero_s with the object size unknown: the FULL statement -/
theorem strzero_s_meaning (cfg : Cfg) (dest dmax : Nat) (st : St) (r : Nat) (st' : St)
    (he : exec (strzero_s cfg dest dmax none) st = .ok (r, st')) :
    r = strzeroCode dest dmax none ∧
      ((r = EOK ∧ st'.events = st.events) ∨ (r ≠ EOK ∧ st'.events = st.events ++ [.handler .str r])) :=
  strzero_s_meaning_partial cfg dest dmax none (fun _ h => by cases h) st r st' he

/-- the excluded point: a known object size above the limit and `dmax` above the limit within it: EOK, no report
(doc comment: ESLEMAX).  Run without the null-slack clearing only to keep the kernel evaluation short (the clearing of
4097 cells emits nothing either: `q_slackTail`). -/
theorem strzero_s_meaning_witness :
    ((exec (strzero_s { slack := false } 100 (RSIZE_MAX_STR + 1) (some (RSIZE_MAX_STR + 2)))
      { data := fun _ => 0, mapped := fun _ => true, rd := fun _ => true, wr := fun _ => true }).toOption.map
        (fun x => (x.1, x.2.events))) = some (EOK, []) ∧
      strzeroCode 100 (RSIZE_MAX_STR + 1) (some (RSIZE_MAX_STR + 2)) = ESLEMAX := by
  decide

theorem strzeroCode_eok_iff (dest dmax : Nat) (destbos : Bos) :
    strzeroCode dest dmax destbos = EOK ↔
      dest ≠ 0 ∧ dmax ≠ 0 ∧ dmax ≤ RSIZE_MAX_STR ∧ ∀ b, destbos = some b → dmax ≤ b := by
  unfold strzeroCode
  rw [ite_fail_eq_EOK ne_ESNULLP, ite_fail_eq_EOK ne_ESZEROL, dmaxCode_eok_iff]
  simp only [and_true, ne_eq]

/-- src/extstr/strset_s.c: as strzero_s plus `ESLEMAX when value > 255` (`(unsigned)value > 255`) -/
def strsetCode (dest dmax value : Nat) (destbos : Bos) : Nat :=
  if dest = 0 then ESNULLP
  else if dmax = 0 then ESZEROL
  else dmaxCode dmax destbos (if arg32 value > 255 then ESLEMAX else EOK)

theorem strset_s_code_partial (cfg : Cfg) (dest dmax value : Nat) (destbos : Bos) (hb : BosSmall destbos) :
    EV (strset_s cfg dest dmax value destbos) (Is .str (strsetCode dest dmax value destbos)) := by
  unfold strset_s strsetCode
  exact is_ite (is_failS _ ne_ESNULLP) (is_ite (is_failS _ ne_ESZEROL) (is_chkDmax _ _ hb (is_ite (is_failS _ ne_ESLEMAX)
    (Quiet.then_ (q_setLoop _ _ _) (fun x => Quiet.then_ (q_slackTail cfg x.1 x.2) (fun _ => is_eok))))))

/-- strset_s, object size unknown or a possible string size: the code is `strsetCode` of the arguments -/
theorem strset_s_meaning_partial (cfg : Cfg) (dest dmax value : Nat) (destbos : Bos) (hb : BosSmall destbos)
    (st : St) (r : Nat) (st' : St) (he : exec (strset_s cfg dest dmax value destbos) st = .ok (r, st')) :
    r = strsetCode dest dmax value destbos ∧
      ((r = EOK ∧ st'.events = st.events) ∨ (r ≠ EOK ∧ st'.events = st.events ++ [.handler .str r])) :=
  Is.sound (strset_s_code_partial cfg dest dmax value destbos hb) st r st' he

/-- strset_s with the object size unknown: the FULL statement -/
theorem strset_s_meaning (cfg : Cfg) (dest dmax value : Nat) (st : St) (r : Nat) (st' : St)
    (he : exec (strset_s cfg dest dmax value none) st = .ok (r, st')) :
    r = strsetCode dest dmax value none ∧
      ((r = EOK ∧ st'.events = st.events) ∨ (r ≠ EOK ∧ st'.events = st.events ++ [.handler .str r])) :=
  strset_s_meaning_partial cfg dest dmax value none (fun _ h => by cases h) st r st' he

theorem strset_s_meaning_witness :
    ((exec (strset_s { slack := false } 100 (RSIZE_MAX_STR + 1) 65 (some (RSIZE_MAX_STR + 2)))
      { data := fun _ => 0, mapped := fun _ => true, rd := fun _ => true, wr := fun _ => true }).toOption.map
        (fun x => (x.1, x.2.events))) = some (EOK, []) ∧
      strsetCode 100 (RSIZE_MAX_STR + 1) 65 (some (RSIZE_MAX_STR + 2)) = ESLEMAX := by
  decide

theorem strsetCode_eok_iff (dest dmax value : Nat) (destbos : Bos) :
    strsetCode dest dmax value destbos = EOK ↔
      dest ≠ 0 ∧ dmax ≠ 0 ∧ dmax ≤ RSIZE_MAX_STR ∧ (∀ b, destbos = some b → dmax ≤ b) ∧ arg32 value ≤ 255 := by
  unfold strsetCode
  rw [ite_fail_eq_EOK ne_ESNULLP, ite_fail_eq_EOK ne_ESZEROL, dmaxCode_eok_iff, ite_fail_eq_EOK ne_ESLEMAX]
  simp only [and_true, ne_eq, Nat.not_lt, gt_iff_lt]

/-- src/extstr/strnset_s.c: as strset_s plus `ESNOSPC when n > dmax` -/
def strnsetCode (dest dmax value n : Nat) (destbos : Bos) : Nat :=
  if dest = 0 then ESNULLP
  else if dmax = 0 then ESZEROL
  else dmaxCode dmax destbos (if arg32 value > 255 then ESLEMAX else if n > dmax then ESNOSPC else EOK)

theorem strnset_s_code_partial (cfg : Cfg) (dest dmax value n : Nat) (destbos : Bos) (hb : BosSmall destbos) :
    EV (strnset_s cfg dest dmax value n destbos) (Is .str (strnsetCode dest dmax value n destbos)) := by
  unfold strnset_s strnsetCode
  exact is_ite (is_failS _ ne_ESNULLP) (is_ite (is_failS _ ne_ESZEROL) (is_chkDmax _ _ hb (is_ite (is_failS _ ne_ESLEMAX)
    (is_ite (is_failS _ ne_ESNOSPC) (Quiet.then_ (q_setLoop _ _ _) (fun x => Quiet.then_ (q_slackTail cfg x.1 _) (fun _ => is_eok)))))))

/-- strnset_s, object size unknown or a possible string size: the code is `strnsetCode` of the arguments -/
theorem strnset_s_meaning_partial (cfg : Cfg) (dest dmax value n : Nat) (destbos : Bos) (hb : BosSmall destbos)
    (st : St) (r : Nat) (st' : St) (he : exec (strnset_s cfg dest dmax value n destbos) st = .ok (r, st')) :
    r = strnsetCode dest dmax value n destbos ∧
      ((r = EOK ∧ st'.events = st.events) ∨ (r ≠ EOK ∧ st'.events = st.events ++ [.handler .str r])) :=
  Is.sound (strnset_s_code_partial cfg dest dmax value n destbos hb) st r st' he

/-- strnset_s with the object size unknown: the FULL statement -/
theorem strnset_s_meaning (cfg : Cfg) (dest dmax value n : Nat) (st : St) (r : Nat) (st' : St)
    (he : exec (strnset_s cfg dest dmax value n none) st = .ok (r, st')) :
    r = strnsetCode dest dmax value n none ∧
      ((r = EOK ∧ st'.events = st.events) ∨ (r ≠ EOK ∧ st'.events = st.events ++ [.handler .str r])) :=
  strnset_s_meaning_partial cfg dest dmax value n none (fun _ h => by cases h) st r st' he

theorem strnset_s_meaning_witness :
    ((exec (strnset_s { slack := false } 100 (RSIZE_MAX_STR + 1) 65 1 (some (RSIZE_MAX_STR + 2)))
      { data := fun _ => 0, mapped := fun _ => true, rd := fun _ => true, wr := fun _ => true }).toOption.map
        (fun x => (x.1, x.2.events))) = some (EOK, []) ∧
      strnsetCode 100 (RSIZE_MAX_STR + 1) 65 1 (some (RSIZE_MAX_STR + 2)) = ESLEMAX := by
  decide

theorem strnsetCode_eok_iff (dest dmax value n : Nat) (destbos : Bos) :
    strnsetCode dest dmax value n destbos = EOK ↔
      dest ≠ 0 ∧ dmax ≠ 0 ∧ dmax ≤ RSIZE_MAX_STR ∧ (∀ b, destbos = some b → dmax ≤ b) ∧ arg32 value ≤ 255 ∧ n ≤ dmax := by
  unfold strnsetCode
  rw [ite_fail_eq_EOK ne_ESNULLP, ite_fail_eq_EOK ne_ESZEROL, dmaxCode_eok_iff, ite_fail_eq_EOK ne_ESLEMAX, ite_fail_eq_EOK ne_ESNOSPC]
  simp only [and_true, ne_eq, Nat.not_lt, gt_iff_lt]

/-- non-vacuity: a known-size run inside `BosSmall` that reports EOVERFLOW -/
example : BosSmall (some 4) ∧ ((exec (strnset_s {} 100 5 65 1 (some 4))
      { data := fun _ => 66, mapped := fun _ => true, rd := fun _ => true, wr := fun _ => true }).toOption.map
        (fun x => (x.1, x.2.events))) = some (strnsetCode 100 5 65 1 (some 4), [.handler .str EOVERFLOW]) :=
  ⟨fun b h => by cases h; decide, by decide⟩

/-! ## strnterminate_s (returns the length, 0 after a report), strerrorlen_s (no runtime-constraints) -/

/-- src/extstr/strnterminate_s.c has no `@retval` list (it returns the string length); its `@pre` lines, top to bottom:
`dest shall not be a null pointer`, `dmax shall not equal zero`, `dmax shall not be greater than RSIZE_MAX_STR`
(object size unknown).  The violation reported, if any: -/
def strnterminateReport (dest dmax : Nat) : Option Nat :=
  if dest = 0 then some ESNULLP
  else if dmax = 0 then some ESZEROL
  else if dmax > RSIZE_MAX_STR then some ESLEMAX
  else none

theorem strnterminate_s_code (cfg : Cfg) (dest dmax : Nat) :
    EV (strnterminate_s cfg dest dmax none) (fun r es =>
      es = (strnterminateReport dest dmax).toList.map (Event.handler .str) ∧
      (strnterminateReport dest dmax ≠ none → r = 0)) := by
  have rep : ∀ c, EV (do handlerS c; pure 0 : Prog Nat) (fun r es => es = [Event.handler .str c] ∧ r = 0) := fun c =>
    EV.bind (EV.handlerS c) (fun _ es he => by subst he; exact EV.pure _ ⟨by simp, rfl⟩)
  by_cases h1 : dest = 0
  · simp only [strnterminate_s, strnterminateReport, h1, if_true]
    exact (rep _).conseq (fun r es ⟨a, b⟩ => ⟨by simpa using a, fun _ => b⟩)
  by_cases h2 : dmax = 0
  · simp only [strnterminate_s, strnterminateReport, h1, h2, if_true, if_false]
    exact (rep _).conseq (fun r es ⟨a, b⟩ => ⟨by simpa using a, fun _ => b⟩)
  by_cases h3 : dmax > RSIZE_MAX_STR
  · simp only [strnterminate_s, strnterminateReport, h1, h2, h3, if_true, if_false]
    exact (rep _).conseq (fun r es ⟨a, b⟩ => ⟨by simpa using a, fun _ => b⟩)
  · simp only [strnterminate_s, strnterminateReport, h1, h2, h3, if_false]
    refine EV.bindSilent (q_ntermLoop _ _ _) (fun x _ => ?_)
    exact EV.bindSilent (EV.storeP _ _) (fun _ _ => EV.pure _ ⟨by simp, fun h => absurd rfl h⟩)

/-- strnterminate_s, object size unknown: WHICH violation is reported is `strnterminateReport` of the arguments alone
(the cells decide only the length returned); a reporting call returns 0 -/
theorem strnterminate_s_meaning (cfg : Cfg) (dest dmax : Nat) (st : St) (r : Nat) (st' : St)
    (he : exec (strnterminate_s cfg dest dmax none) st = .ok (r, st')) :
    st'.events = st.events ++ (strnterminateReport dest dmax).toList.map (Event.handler .str) ∧
      (strnterminateReport dest dmax ≠ none → r = 0) := by
  obtain ⟨es, h1, h2, h3⟩ := (strnterminate_s_code cfg dest dmax).sound st he
  subst h2; exact ⟨h1, h3⟩

/-- nothing is reported exactly when no `@pre` line is violated -/
theorem strnterminateReport_none_iff (dest dmax : Nat) :
    strnterminateReport dest dmax = none ↔ dest ≠ 0 ∧ dmax ≠ 0 ∧ dmax ≤ RSIZE_MAX_STR := by
  have s : ∀ c : Nat, some c ≠ (none : Option Nat) := fun _ => nofun
  unfold strnterminateReport
  rw [ite_ne_eq_iff (s _), ite_ne_eq_iff (s _), ite_ne_eq_iff (s _)]
  simp only [Nat.not_lt, gt_iff_lt, and_true, ne_eq]

example : ((exec (strnterminate_s {} 100 0 none)
      { data := fun _ => 7, mapped := fun _ => true, rd := fun _ => true, wr := fun _ => true }).toOption.map
        (fun x => (x.1, x.2.events))) = some (0, (strnterminateReport 100 0).toList.map (Event.handler .str)) := by decide

/-- strerrorlen_s (src/str/strerror_s.c) documents no runtime-constraint: for every `errnum` and every message text no
call reports anything -/
theorem strerrorlen_s_meaning (errnum msg : Nat) (st : St) (r : Nat) (st' : St)
    (he : exec (strerrorlen_s errnum msg) st = .ok (r, st')) : st'.events = st.events := by
  obtain ⟨es, h1, h2, _⟩ := (SafeC.q_strerrorlen_s errnum msg).sound st he
  subst h2; simpa using h1

end SafeC.Props.C05Meaning
