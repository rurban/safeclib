import SafeC.Props.C01
import SafeC.Proofs.ExtNarrow
import SafeC.Proofs.EVCopy
/-!
# C05 — every constraint violation is reported exactly once, with the code returned

Handler discipline for strcpy_s / wcscpy_s / strncpy_s / strcat_s / strncat_s (object sizes unknown; strncat_s under
`slen ≠ 0`), for ALL other arguments and placements, in the setting of C01 (`Setting`: every cell mapped and readable,
contents arbitrary; `dest` writable over `dmax` cells): the call returns, and the events appended by it are `[]` when
EOK is returned and exactly `[handler str code]` when `code ≠ EOK` is returned — never zero, never two, never another code.
`strcpyG_C05_early`: a dmax above the limit is rejected with NOTHING mapped, i.e. before dest or
src is touched.
-/
namespace SafeC.Props.C05
open SafeC Gen SafeC.Props.C01 SafeC.Props.C05Query

theorem strcpyG_C05 (max : Nat) (cfg : Cfg) (dest dmax src : Nat) (st : St) (hs : Setting st)
    (hrw : dest ≠ 0 → RW st dest dmax) :
    ∃ code st', exec (strcpyG max cfg dest dmax src none) st = .ok (code, st') ∧
      (code = EOK → st'.events = st.events) ∧
      (code ≠ EOK → st'.events = st.events ++ [.handler .str code]) := by
  obtain ⟨code, st', he, _⟩ := strcpyG_ext max cfg dest dmax src none st hs.all hrw (fun h => absurd rfl h)
  exact ⟨code, st', he, events_of_once (strcpyG_ev_partial max cfg dest dmax src none nofun) he⟩

theorem strcpy_s_C05 (cfg : Cfg) (dest dmax src : Nat) (st : St) (hs : Setting st)
    (hrw : dest ≠ 0 → RW st dest dmax) :
    ∃ code st', exec (strcpy_s cfg dest dmax src none) st = .ok (code, st') ∧
      (code = EOK → st'.events = st.events) ∧
      (code ≠ EOK → st'.events = st.events ++ [.handler .str code]) :=
  strcpyG_C05 _ cfg dest dmax src st hs hrw

theorem wcscpy_s_C05 (cfg : Cfg) (dest dmax src : Nat) (st : St) (hs : Setting st)
    (hrw : dest ≠ 0 → RW st dest dmax) :
    ∃ code st', exec (wcscpy_s cfg dest dmax src none) st = .ok (code, st') ∧
      (code = EOK → st'.events = st.events) ∧
      (code ≠ EOK → st'.events = st.events ++ [.handler .str code]) := by
  rw [wcscpy_eq]; exact strcpyG_C05 _ cfg dest dmax src st hs hrw

theorem strncpy_s_C05 (cfg : Cfg) (dest dmax src slen : Nat) (st : St) (hs : Setting st)
    (hrw : dest ≠ 0 → RW st dest dmax) :
    ∃ code st', exec (strncpy_s cfg dest dmax src slen none none) st = .ok (code, st') ∧
      (code = EOK → st'.events = st.events) ∧
      (code ≠ EOK → st'.events = st.events ++ [.handler .str code]) := by
  obtain ⟨code, st', he, _⟩ := strncpy_s_ext cfg dest dmax src slen none none st hs.all hrw nofun
  exact ⟨code, st', he, events_of_once (strncpy_s_ev_partial cfg dest dmax src slen none none nofun nofun) he⟩

theorem strcat_s_C05 (cfg : Cfg) (dest dmax src : Nat) (st : St) (hs : Setting st)
    (hrw : dest ≠ 0 → RW st dest dmax) :
    ∃ code st', exec (strcat_s cfg dest dmax src none) st = .ok (code, st') ∧
      (code = EOK → st'.events = st.events) ∧
      (code ≠ EOK → st'.events = st.events ++ [.handler .str code]) := by
  obtain ⟨code, st', he, _⟩ := strcat_s_ext cfg dest dmax src none st hs.all hrw
  exact ⟨code, st', he, events_of_once (strcat_s_ev_partial cfg dest dmax src none nofun) he⟩

/-- strncat_s: FULL statement is false of the code — `slen = 0` calls the handler with code EOK
(`strncat-slen0-handler-eok`); partial theorem under `slen ≠ 0`, witness below -/
theorem strncat_s_C05_partial (cfg : Cfg) (dest dmax src slen : Nat) (st : St) (hs : Setting st)
    (hrw : dest ≠ 0 → RW st dest dmax) (hslen : slen ≠ 0) :
    ∃ code st', exec (strncat_s cfg dest dmax src slen none none) st = .ok (code, st') ∧
      (code = EOK → st'.events = st.events) ∧
      (code ≠ EOK → st'.events = st.events ++ [.handler .str code]) := by
  obtain ⟨code, st', he, _⟩ := strncat_s_ext cfg dest dmax src slen none none st hs.all hrw nofun
  exact ⟨code, st', he, events_of_once (strncat_s_ev_partial cfg dest dmax src slen none none nofun nofun hslen) he⟩

/-- return code and events of a run (decidable observation) -/
def observeEv (r : Except Fault (Nat × St)) : Option (Nat × List Event) :=
  match r with
  | .ok (c, s) => some (c, s.events)
  | .error _ => none

/-- the excluded point: strncat_s(d, 3, "a", 0) with d = "" returns EOK after invoking the handler with EOK -/
theorem strncat_s_C05_witness :
    observeEv (exec (strncat_s {} 100 3 200 0 none none)
      { data := fun a => if a = 200 then 97 else 0, mapped := fun _ => true, rd := fun _ => true,
        wr := fun a => decide (100 ≤ a ∧ a < 103) }) = some (EOK, [.handler .str EOK]) := by
  decide

/-- rejected before anything is touched: with NO cell mapped the call still returns -/
theorem strcpyG_C05_early (max : Nat) (cfg : Cfg) (dest dmax src : Nat) (st : St)
    (hd : dest ≠ 0) (hbig : dmax > max) :
    exec (strcpyG max cfg dest dmax src none) { st with mapped := fun _ => false } =
      .ok (ESLEMAX, { st with mapped := fun _ => false, events := st.events ++ [.handler .str ESLEMAX] }) := by
  have hz : dmax ≠ 0 := by omega
  simp [strcpyG, hd, hz, chkDmaxClear, chkDmaxClearG, hbig, handlerS, exec_bind]

end SafeC.Props.C05
