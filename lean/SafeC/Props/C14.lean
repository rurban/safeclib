import SafeC.Proofs.TokSeq
/-!
# C14 — tokenizing yields each token exactly once and stays inside the string

Setting: everything mapped and readable (`AllRd`, the access pattern is C01/C02), the cells of the
remaining string extent `[p, p+n)` writable, the delimiter string has 1..`STRTOK_DELIM_MAX_LEN`
characters (`DelimOK`; the empty and the over-long delimiter string are known findings
`tok-empty-delim-no-token`, `tok-delim-too-long`), and the string is terminated inside the remaining
length (`scanLen m p n < n`).

`tok_call` (`Proofs/TokAll.lean`, with `callSpec` and `tok_only_delim_overwritten`, which the sequence lemmas use too) describes ONE call
completely, as a function of the memory contents: where the token
starts (`skipD`: after the maximal run of delimiters), where it ends (`findE`: at the next delimiter
or the terminator), what is returned, what is stored through `ptr` / `dmaxp`, and the single cell that
may be overwritten.  The property-level statements are corollaries:

* `tok_conserves`   — `*ptr + *dmaxp` after the call = before the call: the remaining length shrinks
  exactly as the pointer advances, so it never permits access past the original `dmax`;
* `tok_token_shape` — the returned token is a maximal delimiter-free run, NUL-terminated inside the
  buffer after the call;
* `tok_only_delim_overwritten` — the one cell `tok_call` says a call changes (to NUL) lies inside the extent and held a delimiter;
* `tok_null_forever` — once the continuation pointer rests on the terminator every later call
  (any number of them, any valid delimiter strings) returns NULL and changes nothing;
* `strtok_s_first` / `wcstok_s_first` — with valid arguments the entry points are `tokBody`, the program `tok_call`
  is about (instances of `tokFn_first`; continuation calls: `tokFn_next`, `Proofs/TokAll.lean`).

(`tok_null_forever` depends on the continuation pointer being stored on every return, as the C does (commit
5d3329f of the repository).)

`moreCalls` (a call sequence on `tokBody`) is defined here; the loop invariant `Inv`, `specSeq` and `toks`
are in `Proofs/TokSeq.lean`.
-/
namespace SafeC.Props.C14
open SafeC Gen

/-- **the remaining length shrinks exactly as the pointer advances**: what is handed back through
`ptr` and `dmaxp` always satisfies `*ptr + *dmaxp = p + n` — the end of the original extent. A later
call can therefore never be allowed to look past the original `dmax`. -/
theorem tok_conserves (m : Nat → Nat) (dl p n : Nat) (hz : scanLen m p n < n) :
    (callSpec m dl p n).ptr + (callSpec m dl p n).rem = p + n :=
  (ptr_bounds m dl p n hz).2

/-- **shape of the returned token**: it starts right after a (possibly empty) run of delimiters
beginning at the continuation point, consists of non-NUL non-delimiters only, ends — strictly inside
the extent — at a NUL or a delimiter, and after the call the cell at its end holds NUL. -/
theorem tok_token_shape (wide : Bool) (dl p n : Nat) (st : St) (hall : AllRd st) (hd : DelimOK st.data dl)
    (hp : p ≠ 0) (hz : scanLen st.data p n < n) (hw : ∀ a, p ≤ a → a < p + n → st.wr a = true)
    (hret : (callSpec st.data dl p n).ret ≠ 0) :
    ∃ o st' e, exec (tokBody wide dl p n) st = .ok (o, st') ∧
      o.ret = skipD st.data dl n p ∧ p ≤ o.ret ∧ o.ret < e ∧ e < p + n ∧
      (∀ j, p ≤ j → j < o.ret → isDelim st.data dl (st.data j) = true) ∧
      (∀ j, o.ret ≤ j → j < e → st.data j ≠ 0 ∧ isDelim st.data dl (st.data j) = false ∧ st'.data j = st.data j) ∧
      (st.data e = 0 ∨ isDelim st.data dl (st.data e) = true) ∧
      st'.data e = 0 := by
  have hcall := tok_call wide dl p n st hall hd hp hz hw
  have h := callSpec_cases st.data dl p n hz
  generalize callSpec st.data dl p n = c at h hcall hret
  cases h with
  | nul => exact absurd rfl hret
  | last a b hs _ h1 h2 h3 hlead htok h0 =>
    exact ⟨_, _, b, hcall, hs.symm, h1, h2, h3, fun j a b => (hlead j a b).2,
      fun j a b => ⟨(htok j a b).1, (htok j a b).2, rfl⟩, .inl h0, h0⟩
  | cut a b hs _ h1 h2 h3 hlead htok h0 hdl =>
    exact ⟨_, _, b, hcall, hs.symm, h1, h2, h3, fun j a b => (hlead j a b).2,
      fun j hj1 hj2 => ⟨(htok j hj1 hj2).1, (htok j hj1 hj2).2, St.upd_data_ne _ _ _ _ (by omega)⟩, .inr hdl,
      St.upd_data_same _ _ _⟩

/-- a call whose continuation point rests on the terminator finds nothing and changes nothing -/
theorem tok_at_nul (wide : Bool) (dl p n : Nat) (st : St) (hall : AllRd st) (hd : DelimOK st.data dl)
    (hp : p ≠ 0) (hn : 0 < n) (h0 : st.data p = 0) :
    exec (tokBody wide dl p n) st = .ok ({ ret := 0, dmaxv := some n, ptrv := some p }, st) := by
  have ha : skipD st.data dl n p = p := by
    cases n with
    | zero => rfl
    | succ k => simp [skipD, h0]
  rw [tok_call_all wide dl p n st hall hd hp]
  simp [ha, h0]

/-- further calls, one per delimiter string of the list, threading `*ptr` and `*dmaxp` as the
caller does; returns the list of returned pointers -/
def moreCalls (wide : Bool) : List Nat → Nat → Nat → Prog (List Nat)
  | [], _, _ => pure []
  | dl :: rest, p, n => do
    let o ← tokBody wide dl p n
    let rs ← moreCalls wide rest (o.ptrv.getD p) (o.dmaxv.getD n)
    pure (o.ret :: rs)

/-- **then a null pointer forever**: once the continuation pointer rests on the terminator, every
further call — any number, any valid delimiter strings — returns NULL and leaves memory as it is. -/
theorem tok_null_forever (wide : Bool) (dls : List Nat) (p n : Nat) (st : St) (hall : AllRd st)
    (hd : ∀ dl ∈ dls, DelimOK st.data dl) (hp : p ≠ 0) (hn : 0 < n) (h0 : st.data p = 0) :
    exec (moreCalls wide dls p n) st = .ok (dls.map (fun _ => 0), st) := by
  induction dls with
  | nil => rfl
  | cons dl rest ih =>
    simp only [moreCalls, exec_bind, tok_at_nul wide dl p n st hall (hd dl (by simp)) hp hn h0]
    simp only [Option.getD_some]
    rw [ih (fun d hd' => hd d (by simp [hd']))]
    simp

/-- first call (`dest` given), object size unknown -/
theorem strtok_s_first (dest dmax dl pv : Nat) (hd : dest ≠ 0) (hdl : dl ≠ 0) (hpos : 0 < dmax)
    (hle : dmax ≤ RSIZE_MAX_STR) :
    strtok_s dest (some dmax) dl (some pv) none = tokBody false dl dest dmax :=
  tokFn_first false dest dmax dl pv none hd hdl hpos hle nofun

theorem wcstok_s_first (dest dmax dl pv : Nat) (hd : dest ≠ 0) (hdl : dl ≠ 0) (hpos : 0 < dmax)
    (hle : dmax ≤ RSIZE_MAX_WSTR) :
    wcstok_s dest (some dmax) dl (some pv) none = tokBody true dl dest dmax :=
  tokFn_first true dest dmax dl pv none hd hdl hpos hle nofun

/-- non-vacuity: the string "a,b" at 100 with dmax 4, delimiter string "," at 200 -/
def exMem : Nat → Nat := fun a =>
  if a = 100 then 97 else if a = 101 then 44 else if a = 102 then 98 else if a = 200 then 44 else 0

example : DelimOK exMem 200 ∧ scanLen exMem 100 4 < 4 ∧ callSpec exMem 200 100 4 = { ret := 100, ptr := 102, rem := 2, cut := some 101 } :=
  ⟨by unfold DelimOK; decide, by decide, by decide⟩

end SafeC.Props.C14
