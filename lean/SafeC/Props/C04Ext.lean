import SafeC.Props.C01
import SafeC.Proofs.ExSt
import SafeC.Proofs.ExtNarrow
import SafeC.Proofs.FldSteps
import SafeC.Proofs.ExtOs
/-! # C04 (extension): generic string families — a failed call leaves no partial result in dest

One section per family, each with its own module comment:
* `PartCopy` — wide twins and stp pair
* `PartFld` — field copies
* `PartOs` — getenv_s / strerror_s
-/
namespace SafeC.Props.C04Ext

section PartCopy
open SafeC Gen SafeC.Props.C01
/-!
## C04 (extension) — a failed call leaves no partial result in dest: the wide twins and the stp pair

Setting as in `Props/C04.lean` (every cell mapped and readable, ARBITRARY contents and placement, dest's
`dmax` cells writable, both builds).  For a usable dest, after ANY non-EOK return:
* `dest[0] = 0`;
* in the null-slack build all `dmax` cells are zero when the failure was met after copying began
  (ESNOSPC, ESOVRLP, ESUNTERM = dest unterminated) or the source is null (ESNULLP with dest non-null);
* every cell outside `dest[0..dmax)` — in particular a source that does not overlap dest — is unchanged
  (this conjunct holds for success as well: it is the C01 statement).
Without null-slack the cells behind `dest[0]` keep what was copied (`noslack-partial`, recorded): as in
`Props/C04.lean` the second conjunct is stated for `cfg.slack = true` only.

The `*_frame` theorems are the C01 statement for ALL arguments (null / zero / oversize dest and dmax
included, no usability hypothesis): no stray access and nothing outside the declared dest changes.
(`stpcpy_s_frame` / `stpncpy_s_frame` still ask `dmax ≤ destbos` for a known object size, which their proofs do not use;
`stpcpy_s_frame_all` / `stpncpy_s_frame_all` of `Props/C04Ext2.lean` are the same statements without it.)

`stpcpy_s` with a KNOWN source size and the switch `fixStpUnterm` off: the `src unterminated` exit (ESUNTERM) clears
nothing — the FULL statement is false there (`stpcpy_s_C04_witness`); `stpcpy_s_C04_partial` excludes that code, and
`stpcpy_s_C04_fixed` is the full statement with the switch on.
-/

/-- the C04 conclusion for an errno-returning producer -/
def Cleared (cfg : Cfg) (dest dmax : Nat) (st st' : St) (code : Nat) : Prop :=
  (code ≠ EOK → st'.data dest = 0) ∧
  (code = ESNOSPC ∨ code = ESOVRLP ∨ code = ESUNTERM ∨ code = ESNULLP → cfg.slack = true →
    ∀ i, i < dmax → st'.data (dest + i) = 0) ∧
  (∀ a, ¬ (dest ≤ a ∧ a < dest + dmax) → st'.data a = st.data a)

protected theorem holds_of_frame {α} {p : Prog α} {dest dmax : Nat} {st : St} {Q : α → St → Prop} (hs : Setting st)
    (h : Outcome dest dmax st p Q) : ∃ r st', exec p st = .ok (r, st') ∧ Holds st st' := by
  obtain ⟨r, st', he, hf, _⟩ := h
  have hstr : st'.strays = [] := by rw [hf.strays, hs.clean]
  exact ⟨r, st', he, by simp [hstr], exec_frame_clean _ st he hs.clean hstr⟩

/-- wcsncpy_s: every failing exit on a usable dest (object sizes known or unknown) -/
theorem wcsncpy_s_C04 (cfg : Cfg) (dest dmax src slen : Nat) (destbos srcbos : Bos) (st : St) (hs : Setting st)
    (hrw : RW st dest dmax) (hd : dest ≠ 0) (hpos : 0 < dmax) (hle : dmax ≤ RSIZE_MAX_WSTR)
    (hb : ∀ b, destbos = some b → dmax * SIZEOF_WCHAR_T ≤ b) :
    ∃ code st', exec (wcsncpy_s cfg dest dmax src slen destbos srcbos) st = .ok (code, st') ∧
      Cleared cfg dest dmax st st' code := by
  obtain ⟨code, st', he, hf, hq⟩ := wcsncpy_s_ext cfg dest dmax src slen destbos srcbos st hs.all (fun _ => hrw)
  have h := (hq ⟨hd, hpos, hle, hb⟩).1
  exact ⟨code, st', he, h.fail_first, h.fail_clear, hf.frame⟩

/-- wcscat_s: every failing exit on a usable dest -/
theorem wcscat_s_C04 (cfg : Cfg) (dest dmax src : Nat) (destbos : Bos) (st : St) (hs : Setting st)
    (hrw : RW st dest dmax) (hd : dest ≠ 0) (hpos : 0 < dmax) (hle : dmax ≤ RSIZE_MAX_WSTR)
    (hb : ∀ b, destbos = some b → dmax * SIZEOF_WCHAR_T ≤ b) :
    ∃ code st', exec (wcscat_s cfg dest dmax src destbos) st = .ok (code, st') ∧
      Cleared cfg dest dmax st st' code := by
  obtain ⟨code, st', he, hf, hq⟩ := wcscat_s_ext cfg dest dmax src destbos st hs.all (fun _ => hrw)
  have h := (hq ⟨hd, hpos, hle, hb⟩).1
  exact ⟨code, st', he, h.fail_first, h.fail_clear, hf.frame⟩

/-- wcsncat_s: every failing exit on a usable dest (any slen, incl. 0) -/
theorem wcsncat_s_C04 (cfg : Cfg) (dest dmax src slen : Nat) (destbos srcbos : Bos) (st : St) (hs : Setting st)
    (hrw : RW st dest dmax) (hd : dest ≠ 0) (hpos : 0 < dmax) (hle : dmax ≤ RSIZE_MAX_WSTR)
    (hb : ∀ b, destbos = some b → dmax * SIZEOF_WCHAR_T ≤ b) :
    ∃ code st', exec (wcsncat_s cfg dest dmax src slen destbos srcbos) st = .ok (code, st') ∧
      Cleared cfg dest dmax st st' code := by
  obtain ⟨code, st', he, hf, hq⟩ := wcsncat_s_ext cfg dest dmax src slen destbos srcbos st hs.all (fun _ => hrw)
  have h := (hq ⟨hd, hpos, hle, hb⟩).1
  exact ⟨code, st', he, h.fail_first, h.fail_clear, hf.frame⟩

/-- wcsncpy_s, ALL arguments: no stray access, nothing outside the declared dest changes (C01 statement) -/
theorem wcsncpy_s_frame (cfg : Cfg) (dest dmax src slen : Nat) (destbos srcbos : Bos) (st : St) (hs : Setting st)
    (hrw : dest ≠ 0 → RW st dest dmax) :
    ∃ code st', exec (wcsncpy_s cfg dest dmax src slen destbos srcbos) st = .ok (code, st') ∧ Holds st st' :=
  C04Ext.holds_of_frame hs (wcsncpy_s_ext cfg dest dmax src slen destbos srcbos st hs.all hrw)

/-- wcscat_s, ALL arguments, object size known or not (C01 statement) -/
theorem wcscat_s_frame (cfg : Cfg) (dest dmax src : Nat) (destbos : Bos) (st : St) (hs : Setting st)
    (hrw : dest ≠ 0 → RW st dest dmax) :
    ∃ code st', exec (wcscat_s cfg dest dmax src destbos) st = .ok (code, st') ∧ Holds st st' :=
  C04Ext.holds_of_frame hs (wcscat_s_ext cfg dest dmax src destbos st hs.all hrw)

/-- wcsncat_s, ALL arguments (C01 statement) -/
theorem wcsncat_s_frame (cfg : Cfg) (dest dmax src slen : Nat) (destbos srcbos : Bos) (st : St) (hs : Setting st)
    (hrw : dest ≠ 0 → RW st dest dmax) :
    ∃ code st', exec (wcsncat_s cfg dest dmax src slen destbos srcbos) st = .ok (code, st') ∧ Holds st st' :=
  C04Ext.holds_of_frame hs (wcsncat_s_ext cfg dest dmax src slen destbos srcbos st hs.all hrw)

/-! ## the stp pair: `r = (returned pointer, *errp)` -/

/-- stpcpy_s, source size unknown: every failing exit returns NULL, leaves `dest[0] = 0`, with
null-slack all dmax cells zero after ESNOSPC / ESOVRLP / null src; nothing outside dest changes -/
theorem stpcpy_s_C04 (cfg : Cfg) (dest dmax src : Nat) (destbos : Bos) (st : St) (hs : Setting st)
    (hrw : RW st dest dmax) (hd : dest ≠ 0) (hpos : 0 < dmax) (hle : dmax ≤ RSIZE_MAX_STR)
    (hb : ∀ b, destbos = some b → dmax ≤ b) :
    ∃ r st', exec (stpcpy_s cfg dest dmax src destbos none) st = .ok (r, st') ∧
      (r.2 ≠ EOK → r.1 = 0) ∧ Cleared cfg dest dmax st st' r.2 := by
  obtain ⟨r, st', he, hf, hq⟩ := stpcpy_s_ext cfg dest dmax src destbos none st hs.all (fun _ => hrw)
  obtain ⟨h1, h2⟩ := hq ⟨hd, hpos, hle, hb⟩
  have h := h1.post (Or.inl (fun h => h2 h rfl))
  exact ⟨r, st', he, h1.fail_ptr, h.fail_first, h.fail_clear, hf.frame⟩

/- FULL statement for a known source size (FALSE with the switch `fixStpUnterm` off, see `stpcpy_s_C04_witness`; with it
   on: `stpcpy_s_C04_fixed`): the same with `srcbos` arbitrary. -/
/-- stpcpy_s, any knowledge of the source size: as `stpcpy_s_C04` for every code but ESUNTERM -/
theorem stpcpy_s_C04_partial (cfg : Cfg) (dest dmax src : Nat) (destbos srcbos : Bos) (st : St) (hs : Setting st)
    (hrw : RW st dest dmax) (hd : dest ≠ 0) (hpos : 0 < dmax) (hle : dmax ≤ RSIZE_MAX_STR)
    (hb : ∀ b, destbos = some b → dmax ≤ b) :
    ∃ r st', exec (stpcpy_s cfg dest dmax src destbos srcbos) st = .ok (r, st') ∧
      (r.2 ≠ EOK → r.1 = 0) ∧
      (r.2 ≠ ESUNTERM → Cleared cfg dest dmax st st' r.2) ∧
      (∀ a, ¬ (dest ≤ a ∧ a < dest + dmax) → st'.data a = st.data a) := by
  obtain ⟨r, st', he, hf, hq⟩ := stpcpy_s_ext cfg dest dmax src destbos srcbos st hs.all (fun _ => hrw)
  obtain ⟨h1, _⟩ := hq ⟨hd, hpos, hle, hb⟩
  exact ⟨r, st', he, h1.fail_ptr, fun hne => ⟨(h1.post (Or.inl hne)).fail_first, (h1.post (Or.inl hne)).fail_clear, hf.frame⟩, hf.frame⟩

/-- The FULL statement, with the switch `fixStpUnterm` on: stpcpy_s with ANY knowledge of the source size — every failing exit
returns NULL, leaves `dest[0] = 0`, with null-slack all dmax cells zero after ESNOSPC / ESOVRLP / ESUNTERM / null src -/
theorem stpcpy_s_C04_fixed (cfg : Cfg) (hfx : cfg.fixStpUnterm = true) (dest dmax src : Nat) (destbos srcbos : Bos) (st : St)
    (hs : Setting st) (hrw : RW st dest dmax) (hd : dest ≠ 0) (hpos : 0 < dmax) (hle : dmax ≤ RSIZE_MAX_STR)
    (hb : ∀ b, destbos = some b → dmax ≤ b) :
    ∃ r st', exec (stpcpy_s cfg dest dmax src destbos srcbos) st = .ok (r, st') ∧
      (r.2 ≠ EOK → r.1 = 0) ∧ Cleared cfg dest dmax st st' r.2 := by
  obtain ⟨r, st', he, hf, hq⟩ := stpcpy_s_ext cfg dest dmax src destbos srcbos st hs.all (fun _ => hrw)
  obtain ⟨h1, _⟩ := hq ⟨hd, hpos, hle, hb⟩
  have h := h1.post (Or.inr hfx)
  exact ⟨r, st', he, h1.fail_ptr, h.fail_first, h.fail_clear, hf.frame⟩

/-- dest = 3 cells holding 1 at 100, src = "ab" at 200 -/
def wStp : St :=
  { data := fun a => if a = 200 then 97 else if a = 201 then 98 else if 100 ≤ a ∧ a < 103 then 1 else 0
    mapped := fun _ => true, rd := fun _ => true
    wr := fun a => decide (100 ≤ a ∧ a < 103) }

/-- the excluded point, switch `fixStpUnterm` off: `stpcpy_s(d, 3, "ab")` with `BOS(src) = 1`, null-slack build: ESUNTERM, and
`dest[0]` holds the copied 'a' (a partial result of the failed call) -/
theorem stpcpy_s_C04_witness :
    ∃ st', exec (stpcpy_s { slack := true, fixStpUnterm := false } 100 3 200 none (some 1)) wStp = .ok ((0, ESUNTERM), st') ∧
      st'.data 100 = 97 := by
  refine ⟨_, rfl, ?_⟩
  simp [wStp, St.upd, St.noteWr, St.noteRd]

/-- stpncpy_s, source size unknown or containing slen: every failing exit -/
theorem stpncpy_s_C04 (cfg : Cfg) (dest dmax src slen : Nat) (destbos srcbos : Bos) (st : St) (hs : Setting st)
    (hrw : RW st dest dmax) (hd : dest ≠ 0) (hpos : 0 < dmax) (hle : dmax ≤ RSIZE_MAX_STR)
    (hb : ∀ b, destbos = some b → dmax ≤ b) (hsb : ∀ sb, srcbos = some sb → slen ≤ sb) :
    ∃ r st', exec (stpncpy_s cfg dest dmax src slen destbos srcbos) st = .ok (r, st') ∧
      (r.2 ≠ EOK → r.1 = 0) ∧ Cleared cfg dest dmax st st' r.2 := by
  obtain ⟨r, st', he, hf, hq⟩ := stpncpy_s_ext cfg dest dmax src slen destbos srcbos st hs.all (fun _ => hrw) hsb
  obtain ⟨h1, h2⟩ := hq ⟨hd, hpos, hle, hb⟩
  have h := h1.post (Or.inl h2)
  exact ⟨r, st', he, h1.fail_ptr, h.fail_first, h.fail_clear, hf.frame⟩

/-- stpcpy_s, ALL dest/dmax/src (dmax inside a known object): no stray access, nothing outside dest changes -/
theorem stpcpy_s_frame (cfg : Cfg) (dest dmax src : Nat) (destbos srcbos : Bos) (st : St) (hs : Setting st)
    (hrw : dest ≠ 0 → RW st dest dmax) (hb : ∀ b, destbos = some b → dmax ≤ b) :
    ∃ r st', exec (stpcpy_s cfg dest dmax src destbos srcbos) st = .ok (r, st') ∧ Holds st st' :=
  C04Ext.holds_of_frame hs (stpcpy_s_ext cfg dest dmax src destbos srcbos st hs.all hrw)

/-- stpncpy_s, ALL dest/dmax/src/slen (dmax, slen inside known objects): C01 statement -/
theorem stpncpy_s_frame (cfg : Cfg) (dest dmax src slen : Nat) (destbos srcbos : Bos) (st : St) (hs : Setting st)
    (hrw : dest ≠ 0 → RW st dest dmax) (hb : ∀ b, destbos = some b → dmax ≤ b)
    (hsb : ∀ sb, srcbos = some sb → slen ≤ sb) :
    ∃ r st', exec (stpncpy_s cfg dest dmax src slen destbos srcbos) st = .ok (r, st') ∧ Holds st st' :=
  C04Ext.holds_of_frame hs (stpncpy_s_ext cfg dest dmax src slen destbos srcbos st hs.all hrw hsb)

/-- non-vacuity: dest = 5 writable cells at 100, object sizes 20 bytes (wide) / 5 (narrow), slen 2 in a source object of 3 -/
example : Setting exSt ∧ RW exSt 100 5 ∧ (100 : Nat) ≠ 0 ∧ 0 < 5 ∧ 5 ≤ RSIZE_MAX_WSTR ∧ 5 ≤ RSIZE_MAX_STR ∧
    (∀ b, (some 20 : Bos) = some b → 5 * SIZEOF_WCHAR_T ≤ b) ∧ (∀ b, (some 5 : Bos) = some b → 5 ≤ b) ∧
    (∀ sb, (some 3 : Bos) = some sb → 2 ≤ sb) := by
  refine ⟨⟨fun _ => ⟨rfl, rfl⟩, rfl⟩, exSt_rw, by decide, by decide, by decide, by decide, ?_, ?_, ?_⟩
  · intro b h; injection h with h; subst h; decide
  · intro b h; injection h with h; subst h; decide
  · intro b h; injection h with h; subst h; decide

end PartCopy

section PartFld
open SafeC Gen
/-!
## C04 for the field copies: a failed call leaves no partial result in dest

Setting: every cell mapped and readable with ARBITRARY contents, the `dmax` cells of dest writable,
`dest ≠ 0`, `0 < dmax ≤ RSIZE_MAX_STR`, `slen ≠ 0`, object size unknown or known and at least `dmax`;
ANY `src` (null, overlapping in any way), both slack configurations.

* headline (`…_C04`): on every non-EOK return `dest[0] = 0`, exactly one handler event carrying the returned
  code, no stray access, nothing outside `dest[0..dmax)` changed (a source that does not overlap dest is
  unmodified); on ESNULLP and ESOVRLP with null-slack all `dmax` cells are zero; which code is returned when.
* `strcpyfld_s_C04_srcnull` (one statement for the three functions): the `src == NULL` exit exactly.
* `…_C04_nospc`: the `slen > dmax` exit exactly — it is taken BEFORE anything is copied and clears only the
  `len = strnlen_s(dest, dmax)` cells of the string that WAS in dest (with null-slack; `dest[0]` only without):
  cells behind the old NUL keep their OLD contents (`strcpyfld_s_C04_nospc_witness`), which is prior data of
  dest, not a partial result of the failed call.
* Without null-slack the ESOVRLP exit leaves the characters copied before the bumper was met in
  `dest[1..)` (class `noslack-partial` of known_findings.jsonl): only `dest[0] = 0` is claimed there.
-/

/-- the headline conclusion -/
structure FldHolds (cfg : Cfg) (dest dmax src slen : Nat) (st st' : St) (code : Nat) : Prop where
  strays : st'.strays = st.strays
  frame : ∀ a, ¬ (dest ≤ a ∧ a < dest + dmax) → st'.data a = st.data a
  ok_events : code = EOK → st'.events = st.events
  fail_events : code ≠ EOK → st'.events = st.events ++ [.handler .str code]
  fail_first : code ≠ EOK → st'.data dest = 0
  fail_clear : code = ESNULLP ∨ code = ESOVRLP → cfg.slack = true → ∀ i, i < dmax → st'.data (dest + i) = 0
  srcnull : src = 0 → code = ESNULLP
  nospc : src ≠ 0 → dmax < slen → code = (if slen > RSIZE_MAX_STR then ESLEMAX else ESNOSPC)
  fits : src ≠ 0 → slen ≤ dmax → code = EOK ∨ code = ESOVRLP

private theorem fldHolds_of {kind : FldKind} {cfg : Cfg} {dest dmax src slen : Nat} {st st' : St} {code : Nat}
    (hp : FldPost kind cfg dest dmax src slen st st' code) : FldHolds cfg dest dmax src slen st st' code :=
  ⟨hp.safe.strays, hp.safe.frame, hp.safe.ok_events, hp.safe.fail_events, hp.fail_first,
    hp.fail_clear, hp.srcnull, hp.nospc, hp.fits⟩

private theorem fldG_C04 (kind : FldKind) (cfg : Cfg) (dest dmax src slen : Nat) (destbos : Bos) (st : St)
    (hall : ∀ a, st.mapped a = true ∧ st.rd a = true) (hrw : RW st dest dmax)
    (hd : dest ≠ 0) (hpos : 0 < dmax) (hle : dmax ≤ RSIZE_MAX_STR) (hbos : ∀ b, destbos = some b → dmax ≤ b)
    (hsl : slen ≠ 0) :
    ∃ code st', exec (fldG kind cfg dest dmax src slen destbos) st = .ok (code, st') ∧
      FldHolds cfg dest dmax src slen st st' code := by
  rw [fldG_entry _ cfg dest dmax src slen destbos hsl hd hpos hle hbos]
  obtain ⟨code, st', he, hp⟩ := fldBody_safe kind cfg dest dmax src slen st hall hrw hd hpos hle
  exact ⟨code, st', he, fldHolds_of hp⟩

/-- strcpyfld_s, C04 headline: any src (null, overlapping), any contents, both slack configurations, slen ≠ 0.
On every non-EOK return dest[0] = 0 with exactly one handler event carrying the returned code; no stray access;
nothing outside dest[0..dmax) changes; with null-slack ESNULLP/ESOVRLP leave all dmax cells zero; src = 0 gives
ESNULLP, slen > dmax gives ESNOSPC (ESLEMAX above RSIZE_MAX_STR), otherwise EOK or ESOVRLP. -/
theorem strcpyfld_s_C04 (cfg : Cfg) (dest dmax src slen : Nat) (destbos : Bos) (st : St)
    (hall : ∀ a, st.mapped a = true ∧ st.rd a = true) (hrw : RW st dest dmax)
    (hd : dest ≠ 0) (hpos : 0 < dmax) (hle : dmax ≤ RSIZE_MAX_STR) (hbos : ∀ b, destbos = some b → dmax ≤ b)
    (hsl : slen ≠ 0) :
    ∃ code st', exec (strcpyfld_s cfg dest dmax src slen destbos) st = .ok (code, st') ∧
      FldHolds cfg dest dmax src slen st st' code :=
  fldG_C04 .fld cfg dest dmax src slen destbos st hall hrw hd hpos hle hbos hsl

/-- strcpyfldin_s, C04 headline: any src (null, overlapping, unterminated), any contents, both slack
configurations, slen ≠ 0.  On every non-EOK return dest[0] = 0 with exactly one handler event carrying the
returned code; no stray access; nothing outside dest[0..dmax) changes; with null-slack ESNULLP/ESOVRLP leave all
dmax cells zero; which code is returned when. -/
theorem strcpyfldin_s_C04 (cfg : Cfg) (dest dmax src slen : Nat) (destbos : Bos) (st : St)
    (hall : ∀ a, st.mapped a = true ∧ st.rd a = true) (hrw : RW st dest dmax)
    (hd : dest ≠ 0) (hpos : 0 < dmax) (hle : dmax ≤ RSIZE_MAX_STR) (hbos : ∀ b, destbos = some b → dmax ≤ b)
    (hsl : slen ≠ 0) :
    ∃ code st', exec (strcpyfldin_s cfg dest dmax src slen destbos) st = .ok (code, st') ∧
      FldHolds cfg dest dmax src slen st st' code :=
  fldG_C04 .fldin cfg dest dmax src slen destbos st hall hrw hd hpos hle hbos hsl

/-- strcpyfldout_s, C04 headline: any src (null, overlapping), any contents, both slack configurations,
slen ≠ 0.  On every non-EOK return dest[0] = 0 with exactly one handler event carrying the returned code; no
stray access; nothing outside dest[0..dmax) changes; with null-slack ESNULLP/ESOVRLP leave all dmax cells zero;
which code is returned when. -/
theorem strcpyfldout_s_C04 (cfg : Cfg) (dest dmax src slen : Nat) (destbos : Bos) (st : St)
    (hall : ∀ a, st.mapped a = true ∧ st.rd a = true) (hrw : RW st dest dmax)
    (hd : dest ≠ 0) (hpos : 0 < dmax) (hle : dmax ≤ RSIZE_MAX_STR) (hbos : ∀ b, destbos = some b → dmax ≤ b)
    (hsl : slen ≠ 0) :
    ∃ code st', exec (strcpyfldout_s cfg dest dmax src slen destbos) st = .ok (code, st') ∧
      FldHolds cfg dest dmax src slen st st' code :=
  fldG_C04 .fldout cfg dest dmax src slen destbos st hall hrw hd hpos hle hbos hsl

/-- exact effect of a `handle_error(dest, len, code)` exit: one event, `dest[0] = 0`, with null-slack exactly
the cells `dest[0..len)` are zeroed, without it exactly `dest[0]` -/
structure FldCleared (cfg : Cfg) (dest len : Nat) (st st' : St) (code : Nat) : Prop where
  strays : st'.strays = st.strays
  events : st'.events = st.events ++ [.handler .str code]
  first : st'.data dest = 0
  slack_zero : cfg.slack = true → ∀ i, i < len → st'.data (dest + i) = 0
  slack_rest : cfg.slack = true → ∀ a, ¬ (dest ≤ a ∧ a < dest + len) → st'.data a = st.data a
  noslack_rest : cfg.slack = false → ∀ a, a ≠ dest → st'.data a = st.data a

private theorem fldCleared_of {cfg : Cfg} {dest len : Nat} {st st' : St} {code : Nat}
    (h : FldFail cfg dest len st st' code) : FldCleared cfg dest len st st' code := by
  refine ⟨h.strays, h.events, h.first, ?_, ?_, h.noslack⟩
  · intro hcs i hi
    rw [h.slack hcs (dest + i)]
    have : dest ≤ dest + i ∧ dest + i < dest + len := by omega
    rw [if_pos this]
  · intro hcs a ha
    rw [h.slack hcs a, if_neg ha]

private theorem fldG_C04_srcnull (kind : FldKind) (cfg : Cfg) (dest dmax slen : Nat) (destbos : Bos) (st : St)
    (hrw : RW st dest dmax)
    (hd : dest ≠ 0) (hpos : 0 < dmax) (hle : dmax ≤ RSIZE_MAX_STR) (hbos : ∀ b, destbos = some b → dmax ≤ b)
    (hsl : slen ≠ 0) :
    ∃ st', exec (fldG kind cfg dest dmax 0 slen destbos) st = .ok (ESNULLP, st') ∧
      FldCleared cfg dest dmax st st' ESNULLP := by
  rw [fldG_entry _ cfg dest dmax 0 slen destbos hsl hd hpos hle hbos]
  obtain ⟨st', he, hf⟩ := fldBody_srcnull kind cfg dest dmax slen st hrw hpos
  exact ⟨st', he, fldCleared_of hf⟩

/-- strcpyfld_s / strcpyfldin_s / strcpyfldout_s with src = NULL on a usable dest (no readability hypothesis
needed): ESNULLP, exactly one handler event, dest[0] = 0; with null-slack exactly the dmax cells of dest are
zeroed, without it exactly dest[0]; every other cell keeps its value. -/
theorem strcpyfld_s_C04_srcnull (cfg : Cfg) (dest dmax slen : Nat) (destbos : Bos) (st : St)
    (hrw : RW st dest dmax)
    (hd : dest ≠ 0) (hpos : 0 < dmax) (hle : dmax ≤ RSIZE_MAX_STR) (hbos : ∀ b, destbos = some b → dmax ≤ b)
    (hsl : slen ≠ 0) :
    (∃ st', exec (strcpyfld_s cfg dest dmax 0 slen destbos) st = .ok (ESNULLP, st') ∧
      FldCleared cfg dest dmax st st' ESNULLP) ∧
    (∃ st', exec (strcpyfldin_s cfg dest dmax 0 slen destbos) st = .ok (ESNULLP, st') ∧
      FldCleared cfg dest dmax st st' ESNULLP) ∧
    (∃ st', exec (strcpyfldout_s cfg dest dmax 0 slen destbos) st = .ok (ESNULLP, st') ∧
      FldCleared cfg dest dmax st st' ESNULLP) :=
  ⟨fldG_C04_srcnull .fld cfg dest dmax slen destbos st hrw hd hpos hle hbos hsl,
   fldG_C04_srcnull .fldin cfg dest dmax slen destbos st hrw hd hpos hle hbos hsl,
   fldG_C04_srcnull .fldout cfg dest dmax slen destbos st hrw hd hpos hle hbos hsl⟩

private theorem fldG_C04_nospc (kind : FldKind) (cfg : Cfg) (dest dmax src slen : Nat) (destbos : Bos) (st : St)
    (hall : ∀ a, st.mapped a = true ∧ st.rd a = true) (hrw : RW st dest dmax)
    (hd : dest ≠ 0) (hpos : 0 < dmax) (hle : dmax ≤ RSIZE_MAX_STR) (hbos : ∀ b, destbos = some b → dmax ≤ b)
    (hs : src ≠ 0) (hgt : dmax < slen) :
    ∃ len st', exec (fldG kind cfg dest dmax src slen destbos) st =
        .ok ((if slen > RSIZE_MAX_STR then ESLEMAX else ESNOSPC), st') ∧
      StrLenIn st dest dmax len ∧
      FldCleared cfg dest len st st' (if slen > RSIZE_MAX_STR then ESLEMAX else ESNOSPC) := by
  rw [fldG_entry _ cfg dest dmax src slen destbos (by omega) hd hpos hle hbos]
  obtain ⟨len, st', he, hlen, hf⟩ := fldBody_nospc kind cfg dest dmax src slen st hall hrw hd hpos hle hs hgt
  exact ⟨len, st', he, hlen, fldCleared_of hf⟩

/-- strcpyfld_s, exit slen > dmax exactly (taken before anything is copied; any src ≠ 0, any contents): returns
ESNOSPC (ESLEMAX when slen > RSIZE_MAX_STR) with one handler event; len = length of the string that was in dest
(first NUL of the OLD dest within dmax, else dmax); dest[0] = 0; with null-slack exactly dest[0..len) is zeroed,
without it exactly dest[0]; all other cells (also dest[len..dmax)) keep their old value. -/
theorem strcpyfld_s_C04_nospc (cfg : Cfg) (dest dmax src slen : Nat) (destbos : Bos) (st : St)
    (hall : ∀ a, st.mapped a = true ∧ st.rd a = true) (hrw : RW st dest dmax)
    (hd : dest ≠ 0) (hpos : 0 < dmax) (hle : dmax ≤ RSIZE_MAX_STR) (hbos : ∀ b, destbos = some b → dmax ≤ b)
    (hs : src ≠ 0) (hgt : dmax < slen) :
    ∃ len st', exec (strcpyfld_s cfg dest dmax src slen destbos) st =
        .ok ((if slen > RSIZE_MAX_STR then ESLEMAX else ESNOSPC), st') ∧
      StrLenIn st dest dmax len ∧
      FldCleared cfg dest len st st' (if slen > RSIZE_MAX_STR then ESLEMAX else ESNOSPC) :=
  fldG_C04_nospc .fld cfg dest dmax src slen destbos st hall hrw hd hpos hle hbos hs hgt

/-- strcpyfldin_s, exit slen > dmax exactly (before anything is copied; any src ≠ 0, any contents): ESNOSPC
(ESLEMAX when slen > RSIZE_MAX_STR), one handler event; len = length of the string that was in dest; dest[0] = 0;
with null-slack exactly dest[0..len) is zeroed, without it exactly dest[0]; all other cells keep their value. -/
theorem strcpyfldin_s_C04_nospc (cfg : Cfg) (dest dmax src slen : Nat) (destbos : Bos) (st : St)
    (hall : ∀ a, st.mapped a = true ∧ st.rd a = true) (hrw : RW st dest dmax)
    (hd : dest ≠ 0) (hpos : 0 < dmax) (hle : dmax ≤ RSIZE_MAX_STR) (hbos : ∀ b, destbos = some b → dmax ≤ b)
    (hs : src ≠ 0) (hgt : dmax < slen) :
    ∃ len st', exec (strcpyfldin_s cfg dest dmax src slen destbos) st =
        .ok ((if slen > RSIZE_MAX_STR then ESLEMAX else ESNOSPC), st') ∧
      StrLenIn st dest dmax len ∧
      FldCleared cfg dest len st st' (if slen > RSIZE_MAX_STR then ESLEMAX else ESNOSPC) :=
  fldG_C04_nospc .fldin cfg dest dmax src slen destbos st hall hrw hd hpos hle hbos hs hgt

/-- strcpyfldout_s, exit slen > dmax exactly (before anything is copied; any src ≠ 0, any contents): ESNOSPC
(ESLEMAX when slen > RSIZE_MAX_STR), one handler event; len = length of the string that was in dest; dest[0] = 0;
with null-slack exactly dest[0..len) is zeroed, without it exactly dest[0]; all other cells keep their value. -/
theorem strcpyfldout_s_C04_nospc (cfg : Cfg) (dest dmax src slen : Nat) (destbos : Bos) (st : St)
    (hall : ∀ a, st.mapped a = true ∧ st.rd a = true) (hrw : RW st dest dmax)
    (hd : dest ≠ 0) (hpos : 0 < dmax) (hle : dmax ≤ RSIZE_MAX_STR) (hbos : ∀ b, destbos = some b → dmax ≤ b)
    (hs : src ≠ 0) (hgt : dmax < slen) :
    ∃ len st', exec (strcpyfldout_s cfg dest dmax src slen destbos) st =
        .ok ((if slen > RSIZE_MAX_STR then ESLEMAX else ESNOSPC), st') ∧
      StrLenIn st dest dmax len ∧
      FldCleared cfg dest len st st' (if slen > RSIZE_MAX_STR then ESLEMAX else ESNOSPC) :=
  fldG_C04_nospc .fldout cfg dest dmax src slen destbos st hall hrw hd hpos hle hbos hs hgt

/-- strcpyfld_s, the overlap exit (converse of strcpyfld_s_C08, any contents, both slack configurations): when
the slen cells read and the slen cells written meet — ¬ (dest + slen ≤ src ∨ src + slen ≤ dest) — the call
returns ESOVRLP: one handler event, dest[0] = 0, with null-slack all dmax cells zero, nothing outside dest
changed.  So ESOVRLP is returned exactly when these two fields meet. -/
theorem strcpyfld_s_C04_overlap (cfg : Cfg) (dest dmax src slen : Nat) (destbos : Bos) (st : St)
    (hall : ∀ a, st.mapped a = true ∧ st.rd a = true) (hrw : RW st dest dmax)
    (hd : dest ≠ 0) (hpos : 0 < dmax) (hle : dmax ≤ RSIZE_MAX_STR) (hbos : ∀ b, destbos = some b → dmax ≤ b)
    (hsl : slen ≠ 0) (hs : src ≠ 0) (hfit : slen ≤ dmax)
    (hmeet : ¬ (dest + slen ≤ src ∨ src + slen ≤ dest)) :
    ∃ st', exec (strcpyfld_s cfg dest dmax src slen destbos) st = .ok (ESOVRLP, st') ∧
      FldHolds cfg dest dmax src slen st st' ESOVRLP := by
  unfold strcpyfld_s
  rw [fldG_entry _ cfg dest dmax src slen destbos hsl hd hpos hle hbos]
  obtain ⟨code, st', he, hp, _, h2, _⟩ := fldBody_fld_all cfg dest dmax src slen st hall hrw hd hpos hle hs
  obtain rfl := h2.2 ⟨hfit, hmeet⟩
  exact ⟨st', he, fldHolds_of hp⟩

/-- strcpyfldout_s, the overlap exit (converse of strcpyfldout_s_C08, any contents, both slack configurations):
with n = min slen (dmax-1), when the n cells read and the n cells written meet the call returns ESOVRLP: one
handler event, dest[0] = 0, with null-slack all dmax cells zero, nothing outside dest changed. -/
theorem strcpyfldout_s_C04_overlap (cfg : Cfg) (dest dmax src slen : Nat) (destbos : Bos) (st : St)
    (hall : ∀ a, st.mapped a = true ∧ st.rd a = true) (hrw : RW st dest dmax)
    (hd : dest ≠ 0) (hpos : 0 < dmax) (hle : dmax ≤ RSIZE_MAX_STR) (hbos : ∀ b, destbos = some b → dmax ≤ b)
    (hsl : slen ≠ 0) (hs : src ≠ 0) (hfit : slen ≤ dmax)
    (hmeet : ¬ (dest + min slen (dmax - 1) ≤ src ∨ src + min slen (dmax - 1) ≤ dest)) :
    ∃ st', exec (strcpyfldout_s cfg dest dmax src slen destbos) st = .ok (ESOVRLP, st') ∧
      FldHolds cfg dest dmax src slen st st' ESOVRLP := by
  unfold strcpyfldout_s
  rw [fldG_entry _ cfg dest dmax src slen destbos hsl hd hpos hle hbos]
  obtain ⟨code, st', he, hp, _, h2, _⟩ := fldBody_fldout_all cfg dest dmax src slen st hall hrw hd hpos hle hs
  obtain rfl := h2.2 ⟨hfit, hmeet⟩
  exact ⟨st', he, fldHolds_of hp⟩

/-- strcpyfldin_s, the overlap exit for dest ≤ src (both slack configurations): the source string starts
j0 = src - dest < slen cells into dest and its first j0+1 characters are non-NUL, so the copy runs into the
source: ESOVRLP, one handler event, dest[0] = 0, with null-slack all dmax cells zero, nothing outside dest
changed. -/
theorem strcpyfldin_s_C04_overlap (cfg : Cfg) (dest dmax src slen : Nat) (destbos : Bos) (st : St)
    (hall : ∀ a, st.mapped a = true ∧ st.rd a = true) (hrw : RW st dest dmax)
    (hd : dest ≠ 0) (hpos : 0 < dmax) (hle : dmax ≤ RSIZE_MAX_STR) (hbos : ∀ b, destbos = some b → dmax ≤ b)
    (hsl : slen ≠ 0) (hs : src ≠ 0) (hfit : slen ≤ dmax)
    (hge : dest ≤ src) (hlt : src - dest < slen)
    (hnz : ∀ j, j ≤ src - dest → st.data (src + j) ≠ 0) :
    ∃ st', exec (strcpyfldin_s cfg dest dmax src slen destbos) st = .ok (ESOVRLP, st') ∧
      FldHolds cfg dest dmax src slen st st' ESOVRLP := by
  unfold strcpyfldin_s
  rw [fldG_entry _ cfg dest dmax src slen destbos hsl hd hpos hle hbos]
  -- `n` = the source's leading non-NUL characters, capped by `slen`: more than the gap
  obtain ⟨n, hn, hnz', hz⟩ := firstNul (fun j => st.data (src + j)) slen
  have hgn : src - dest < n := Nat.lt_of_not_le fun h => hnz n h (hz (by omega))
  have hD : ¬ (dest + n ≤ src ∨ src + n < dest ∨ (src + n = dest ∧ n = slen)) := by omega
  obtain ⟨code, st', he, hp, _, h2, _⟩ := fldBody_fldin_all cfg dest dmax src slen n st hall hrw hd hpos hle hs hn hnz'
    (if h : n < slen then .inr (hz h) else .inl (by omega))
  obtain rfl := h2.2 ⟨hfit, hD⟩
  exact ⟨st', he, fldHolds_of hp⟩

/-- dest = 100 (3 writable cells) holding "a\0b", src = 200 -/
def fldNSt : St :=
  { data := fun a => if a = 100 then 97 else if a = 102 then 98 else if a = 200 then 99 else 0
    mapped := fun _ => true, rd := fun _ => true
    wr := fun a => decide (100 ≤ a ∧ a < 103) }

/- FALSE of the code (see the witness): on every failing exit with null-slack all dmax cells of dest are zero:
   strcpyfld_s_C04_clear_all : … → code ≠ EOK → cfg.slack = true → ∀ i, i < dmax → st'.data (dest + i) = 0 -/

/-- the slen > dmax exit with null-slack does not zero all of dest: strcpyfld_s(d = "a\0b", 3, src, 4) returns
ESNOSPC, dest[0] = 0, and dest[2] still holds the 'b' it held before the call (only strnlen_s(dest, dmax) = 1
cell is cleared).  Old data of dest, nothing the failed call wrote. -/
theorem strcpyfld_s_C04_nospc_witness :
    ∃ st', exec (strcpyfld_s { slack := true } 100 3 200 4 none) fldNSt = .ok (ESNOSPC, st') ∧
      st'.data 100 = 0 ∧ st'.data 102 = 98 := by
  exact ⟨_, rfl, rfl, rfl⟩

/-- dest = 100 (4 writable cells, all zero), src = 102 holding "abc": the fields meet -/
def fldOSt : St :=
  { data := fun a => if a = 102 then 97 else if a = 103 then 98 else if a = 104 then 99 else 0
    mapped := fun _ => true, rd := fun _ => true
    wr := fun a => decide (100 ≤ a ∧ a < 104) }

/- FALSE of the code without null-slack (see the witness; class noslack-partial of known_findings.jsonl):
   strcpyfld_s_C04_nopartial : … → code ≠ EOK → ∀ i, 0 < i → i < dmax → st'.data (dest + i) = st.data (dest + i) ∨ st'.data (dest + i) = 0 -/

/-- the ESOVRLP exit in the NO-slack build leaves what was copied before the bumper was met behind dest[0]:
strcpyfld_s(d, 4, d+2 = "abc", 3) returns ESOVRLP, dest[0] = 0, and dest[1], which was 0, now holds 'b'
(handle_error stores only dest[0] = 0 there). -/
theorem strcpyfld_s_C04_noslack_witness :
    ∃ st', exec (strcpyfld_s { slack := false } 100 4 102 3 none) fldOSt = .ok (ESOVRLP, st') ∧
      st'.data 100 = 0 ∧ fldOSt.data 101 = 0 ∧ st'.data 101 = 98 := by
  exact ⟨_, rfl, rfl, rfl, rfl⟩

/-- the hypotheses of the overlap statements are satisfiable: dest = 100 (5 cells), src = 102, slen = 3 -/
example : (∀ a, SafeC.Props.C01.exSt.mapped a = true ∧ SafeC.Props.C01.exSt.rd a = true) ∧
    RW SafeC.Props.C01.exSt 100 5 ∧ (3 : Nat) ≠ 0 ∧ (102 : Nat) ≠ 0 ∧ 3 ≤ 5 ∧
    ¬ (100 + 3 ≤ 102 ∨ 102 + 3 ≤ 100) ∧
    ¬ (100 + min 3 (5 - 1) ≤ 102 ∨ 102 + min 3 (5 - 1) ≤ 100) := by
  refine ⟨fun _ => ⟨rfl, rfl⟩, exSt_rw, by decide, by decide, by decide, by decide, by decide⟩

/-- the hypotheses of strcpyfldin_s_C04_overlap are satisfiable: `fldOSt`, dest = 100 (4 cells), src = 102 = "abc" -/
example : (∀ a, fldOSt.mapped a = true ∧ fldOSt.rd a = true) ∧ RW fldOSt 100 4 ∧ 3 ≤ 4 ∧
    100 ≤ 102 ∧ 102 - 100 < 3 ∧ (∀ j, j ≤ 102 - 100 → fldOSt.data (102 + j) ≠ 0) := by
  refine ⟨fun _ => ⟨rfl, rfl⟩, fun i hi => ⟨rfl, ?_, rfl⟩, by decide, by decide, by decide, ?_⟩
  · simp [fldOSt]; omega
  · intro j hj
    have : j = 0 ∨ j = 1 ∨ j = 2 := by omega
    rcases this with h | h | h <;> subst h <;> decide

/-- why dmax ≤ RSIZE_MAX_STR is a hypothesis also when the object size is known: CHK_DEST_OVR_CLEAR tests the
limit only inside dmax > destbos (class bos-known-skips-limit).  strcpyfld_s(d, 5000, s, 5001) with destbos 5000
passes the dmax checks; the slen > dmax exit then calls strnlen_s(dest, 5000), which reports ESLEMAX itself and
returns 0, and handle_error reports again: TWO handler events for one ESLEMAX return, dest untouched. -/
theorem strcpyfld_s_C04_bos_limit_witness :
    ∃ st', exec (strcpyfld_s { slack := true } 100 5000 200 5001 (some 5000)) fldNSt = .ok (ESLEMAX, st') ∧
      st'.events = [.handler .str ESLEMAX, .handler .str ESLEMAX] ∧ st'.data 100 = 97 := by
  exact ⟨_, rfl, rfl, rfl⟩

/-- the hypotheses are satisfiable: dest = 100 with 5 writable cells in `exSt`, src = 200, slen = 7 > dmax -/
example : (∀ a, SafeC.Props.C01.exSt.mapped a = true ∧ SafeC.Props.C01.exSt.rd a = true) ∧
    RW SafeC.Props.C01.exSt 100 5 ∧ (100 : Nat) ≠ 0 ∧ 0 < 5 ∧ 5 ≤ RSIZE_MAX_STR ∧
    (∀ b, (none : Bos) = some b → 5 ≤ b) ∧ (7 : Nat) ≠ 0 ∧ (200 : Nat) ≠ 0 ∧ 5 < 7 := by
  refine ⟨fun _ => ⟨rfl, rfl⟩, exSt_rw, by decide, by decide, by decide,
    (fun b h => by cases h), by decide, by decide, by decide⟩

end PartFld

section PartOs
open SafeC Gen
/-!
## C04 for `getenv_s` and `strerror_s`: a failed call leaves no partial result in dest

Same setting as section `PartOs` of `Props/C03Ext.lean` (declared extents only, arbitrary prior dest content).  Every non-EOK exit on a
usable dest stores `dest[0] = 0`; with null-slack all `dmax` cells are zero; cells outside `dest[0..dmax)` are
unchanged and nothing outside the declared extents is touched.  Exactly one handler event, carrying the returned code —
except the "variable not set" exit of `getenv_s` (-1), which by design reports nothing.
-/

/-- getenv_s, the ESNOSPC exit: the variable is set to a string of length n ≥ dmax (no upper bound on n). Returns
ESNOSPC with *len = 0, exactly one handler event (ESNOSPC), dest[0] = 0, with null-slack all dmax cells zero; nothing
outside dest changes, no stray access. The value need not be disjoint from dest here. -/
theorem getenv_s_C04_nospc (cfg : Cfg) (hasLen : Bool) (dest dmax name : Nat) (destbos : Bos) (value k n : Nat)
    (st : St) (hd : dest ≠ 0) (hpos : 0 < dmax) (hle : dmax ≤ RSIZE_MAX_STR)
    (hbos : ∀ b, destbos = some b → dmax ≤ b) (hrw : RW st dest dmax)
    (hname : name ≠ 0) (hnm : SrcStr st name k) (hv : value ≠ 0) (hval : SrcStr st value n) (hn : dmax ≤ n) :
    ∃ st', exec (getenv_s cfg hasLen dest dmax name destbos value) st
        = .ok ((ESNOSPC, if hasLen then some 0 else none), st') ∧
      st'.events = st.events ++ [.handler .str ESNOSPC] ∧ st'.strays = st.strays ∧
      st'.data dest = 0 ∧ (cfg.slack = true → ∀ i, i < dmax → st'.data (dest+i) = 0) ∧
      (∀ a, ¬ (dest ≤ a ∧ a < dest + dmax) → st'.data a = st.data a) := by
  obtain ⟨r, s, he, hf, h⟩ := getenv_s_runs cfg hasLen dest dmax name destbos value k n st hd hpos hle hbos hrw
    (fun _ => hnm) (fun _ _ => ⟨hval, fun h => by omega⟩)
  rcases h with ⟨h, _⟩ | ⟨_, h, _⟩ | ⟨_, _, _, rfl, pe, hc⟩ | ⟨_, _, h, _⟩
  · exact absurd h hname
  · exact absurd h hv
  · exact ⟨s, he, pe, hf.strays, hc.1, hc.2, hf.frame⟩
  · omega

/-- getenv_s, the name == NULL exit on a usable dest: ESNULLP with *len = 0, exactly one handler event (ESNULLP),
dest[0] = 0, with null-slack all dmax cells zero; nothing outside dest changes, no stray access (the environment is not
consulted: value is arbitrary). -/
theorem getenv_s_C04_nullname (cfg : Cfg) (hasLen : Bool) (dest dmax : Nat) (destbos : Bos) (value : Nat) (st : St)
    (hd : dest ≠ 0) (hpos : 0 < dmax) (hle : dmax ≤ RSIZE_MAX_STR) (hbos : ∀ b, destbos = some b → dmax ≤ b)
    (hrw : RW st dest dmax) :
    ∃ st', exec (getenv_s cfg hasLen dest dmax 0 destbos value) st
        = .ok ((ESNULLP, if hasLen then some 0 else none), st') ∧
      st'.events = st.events ++ [.handler .str ESNULLP] ∧ st'.strays = st.strays ∧
      st'.data dest = 0 ∧ (cfg.slack = true → ∀ i, i < dmax → st'.data (dest+i) = 0) ∧
      (∀ a, ¬ (dest ≤ a ∧ a < dest + dmax) → st'.data a = st.data a) := by
  obtain ⟨r, s, he, hf, h⟩ := getenv_s_runs cfg hasLen dest dmax 0 destbos value 0 0 st hd hpos hle hbos hrw
    (fun h => absurd rfl h) (fun h => absurd rfl h)
  rcases h with ⟨_, rfl, pe, hc⟩ | ⟨h, _⟩ | ⟨h, _⟩ | ⟨h, _⟩
  · exact ⟨s, he, pe, hf.strays, hc.1, hc.2, hf.frame⟩
  all_goals exact absurd rfl h

/-- getenv_s, the variable is not set (getenv returned NULL, value = 0): returns -1 (NEG1) with *len = 0 and NO handler
event; dest[0] = 0, with null-slack all dmax cells zero; nothing outside dest changes, no stray access. -/
theorem getenv_s_C04_unset (cfg : Cfg) (hasLen : Bool) (dest dmax name : Nat) (destbos : Bos) (k : Nat) (st : St)
    (hd : dest ≠ 0) (hpos : 0 < dmax) (hle : dmax ≤ RSIZE_MAX_STR) (hbos : ∀ b, destbos = some b → dmax ≤ b)
    (hrw : RW st dest dmax) (hname : name ≠ 0) (hnm : SrcStr st name k) :
    ∃ st', exec (getenv_s cfg hasLen dest dmax name destbos 0) st
        = .ok ((NEG1, if hasLen then some 0 else none), st') ∧
      st'.events = st.events ∧ st'.strays = st.strays ∧
      st'.data dest = 0 ∧ (cfg.slack = true → ∀ i, i < dmax → st'.data (dest+i) = 0) ∧
      (∀ a, ¬ (dest ≤ a ∧ a < dest + dmax) → st'.data a = st.data a) := by
  obtain ⟨r, s, he, hf, h⟩ := getenv_s_runs cfg hasLen dest dmax name destbos 0 k 0 st hd hpos hle hbos hrw
    (fun _ => hnm) (fun _ h => absurd rfl h)
  rcases h with ⟨h, _⟩ | ⟨_, _, rfl, pe, hc⟩ | ⟨_, h, _⟩ | ⟨_, h, _⟩
  · exact absurd h hname
  · exact ⟨s, he, pe, hf.strays, hc.1, hc.2, hf.frame⟩
  · exact absurd rfl h
  · exact absurd rfl h

/-- getenv_s, EVERY exit with a usable dest (hypotheses of C03Ext.getenv_s_C03): whenever the returned code is not EOK,
dest[0] = 0, with null-slack all dmax cells are zero, *len = 0 (if requested); in every case nothing outside
dest[0..dmax) changes and no stray access happens. -/
theorem getenv_s_C04 (cfg : Cfg) (hasLen : Bool) (dest dmax name : Nat) (destbos : Bos) (value k n : Nat) (st : St)
    (hd : dest ≠ 0) (hpos : 0 < dmax) (hle : dmax ≤ RSIZE_MAX_STR) (hbos : ∀ b, destbos = some b → dmax ≤ b)
    (hrw : RW st dest dmax) (hname : name ≠ 0 → SrcStr st name k)
    (hval : value ≠ 0 → SrcStr st value n ∧ Disjoint dest dmax value n) :
    ∃ r st', exec (getenv_s cfg hasLen dest dmax name destbos value) st = .ok (r, st') ∧
      (r.1 ≠ EOK → st'.data dest = 0 ∧ (cfg.slack = true → ∀ i, i < dmax → st'.data (dest+i) = 0) ∧
        r.2 = if hasLen then some 0 else none) ∧
      st'.strays = st.strays ∧ (∀ a, ¬ (dest ≤ a ∧ a < dest + dmax) → st'.data a = st.data a) := by
  refine (getenv_s_runs cfg hasLen dest dmax name destbos value k n st hd hpos hle hbos hrw hname
    (fun _ h => ⟨(hval h).1, fun _ => (hval h).2⟩)).conseq fun r s ⟨hf, h⟩ => ⟨?_, hf.strays, hf.frame⟩
  rcases h with ⟨_, rfl, _, hc⟩ | ⟨_, _, rfl, _, hc⟩ | ⟨_, _, _, rfl, _, hc⟩ | ⟨_, _, _, rfl, _⟩
  · exact fun _ => ⟨hc.1, hc.2, rfl⟩
  · exact fun _ => ⟨hc.1, hc.2, rfl⟩
  · exact fun _ => ⟨hc.1, hc.2, rfl⟩
  · exact fun h => absurd rfl h

/-- strerror_s, the ESLEMIN exit: dmax ≤ 3 and strerrorlen_s answers len ≥ dmax (the message does not fit and there is
no room for "..."): returns ESLEMIN, exactly one handler event (ESLEMIN), dest[0] = 0, with null-slack all dmax cells
zero; nothing outside dest changes, no stray access. -/
theorem strerror_s_C04_lemin (cfg : Cfg) (dest dmax errnum : Nat) (destbos : Bos) (msg dots len : Nat) (st : St)
    (hd : dest ≠ 0) (hpos : 0 < dmax) (h3 : dmax ≤ 3) (hbos : ∀ b, destbos = some b → dmax ≤ b)
    (hrw : RW st dest dmax) (hlen : exec (strerrorlen_s errnum msg) st = .ok (len, st)) (hge : dmax ≤ len) :
    ∃ st', exec (strerror_s cfg dest dmax errnum destbos msg dots) st = .ok (ESLEMIN, st') ∧
      st'.events = st.events ++ [.handler .str ESLEMIN] ∧ st'.strays = st.strays ∧
      st'.data dest = 0 ∧ (cfg.slack = true → ∀ i, i < dmax → st'.data (dest+i) = 0) ∧
      (∀ a, ¬ (dest ≤ a ∧ a < dest + dmax) → st'.data a = st.data a) := by
  obtain ⟨r, s, he, hf, h⟩ := strerror_s_runs cfg dest dmax errnum destbos msg dots len st hd hpos
    (Nat.le_trans h3 (by decide)) hbos hrw hlen (fun h => by omega) (fun h => by omega) (fun _ h => by omega)
  rcases h with ⟨h, _⟩ | ⟨_, h, _⟩ | ⟨_, _, rfl, pe, hc⟩
  · omega
  · omega
  · exact ⟨s, he, pe, hf.strays, hc.1, hc.2, hf.frame⟩

/-- strerror_s ESLEMIN exit for an errnum outside the library's own range: msg is a readable string of length n ≥ dmax
(any n; libc strlen decides), dmax ≤ 3. Same conclusion as strerror_s_C04_lemin without a hypothesis on strerrorlen_s. -/
theorem strerror_s_C04_lemin_libc (cfg : Cfg) (dest dmax errnum : Nat) (destbos : Bos) (msg dots n : Nat) (st : St)
    (hd : dest ≠ 0) (hpos : 0 < dmax) (h3 : dmax ≤ 3) (hbos : ∀ b, destbos = some b → dmax ≤ b)
    (hrw : RW st dest dmax) (hown : isSafeclibErr errnum = false) (hsrc : SrcStr st msg n) (hge : dmax ≤ n) :
    ∃ st', exec (strerror_s cfg dest dmax errnum destbos msg dots) st = .ok (ESLEMIN, st') ∧
      st'.events = st.events ++ [.handler .str ESLEMIN] ∧ st'.strays = st.strays ∧
      st'.data dest = 0 ∧ (cfg.slack = true → ∀ i, i < dmax → st'.data (dest+i) = 0) ∧
      (∀ a, ¬ (dest ≤ a ∧ a < dest + dmax) → st'.data a = st.data a) := by
  obtain ⟨len, hlen, hag⟩ := strerrorlen_s_libc errnum msg n st hown hsrc
  have hge' : dmax ≤ len := by
    have : 3 < scanFuel := by decide
    rcases hag with h | h <;> omega
  exact strerror_s_C04_lemin cfg dest dmax errnum destbos msg dots len st hd hpos h3 hbos hrw hlen hge'

/-- strerror_s, EVERY exit with a usable dest (hypotheses of C03Ext.strerror_s_C03): the only non-EOK exit is ESLEMIN,
and then dest[0] = 0 and with null-slack all dmax cells are zero; in every case nothing outside dest[0..dmax) changes
and no stray access happens. -/
theorem strerror_s_C04 (cfg : Cfg) (dest dmax errnum : Nat) (destbos : Bos) (msg dots n : Nat) (st : St)
    (hd : dest ≠ 0) (hpos : 0 < dmax) (hle : dmax ≤ RSIZE_MAX_STR) (hbos : ∀ b, destbos = some b → dmax ≤ b)
    (hrw : RW st dest dmax) (hlen : exec (strerrorlen_s errnum msg) st = .ok (n, st))
    (hm : msg ≠ 0) (hsrc : SrcStr st msg n) (hdisj : Disjoint dest dmax msg n)
    (hdots : dots ≠ 0) (hds : SrcStr st dots 3) (hdd : Disjoint dest dmax dots 3)
    (h46 : st.data dots = 46 ∧ st.data (dots+1) = 46 ∧ st.data (dots+2) = 46) :
    ∃ code st', exec (strerror_s cfg dest dmax errnum destbos msg dots) st = .ok (code, st') ∧
      (code = EOK ∨ code = ESLEMIN) ∧
      (code ≠ EOK → st'.data dest = 0 ∧ (cfg.slack = true → ∀ i, i < dmax → st'.data (dest+i) = 0) ∧
        st'.events = st.events ++ [.handler .str ESLEMIN]) ∧
      st'.strays = st.strays ∧ (∀ a, ¬ (dest ≤ a ∧ a < dest + dmax) → st'.data a = st.data a) := by
  refine (strerror_s_runs_src cfg dest dmax errnum destbos msg dots n n st hd hpos hle hbos hrw hlen (Or.inl rfl) hm hsrc hdisj
    hdots hds hdd h46).conseq fun code s ⟨hf, h⟩ => ?_
  -- the code: EOK when the message fits or can be truncated, ESLEMIN (with dest cleared) otherwise
  rcases h with ⟨_, rfl, _⟩ | ⟨_, _, rfl, _⟩ | ⟨_, _, rfl, pe, hc⟩
  · exact ⟨Or.inl rfl, fun h => absurd rfl h, hf.strays, hf.frame⟩
  · exact ⟨Or.inl rfl, fun h => absurd rfl h, hf.strays, hf.frame⟩
  · exact ⟨Or.inr rfl, fun _ => ⟨hc.1, hc.2, pe⟩, hf.strays, hf.frame⟩

/-- non-vacuity: dest = 100 with dmax = 2 (two of its 8 writable cells), name "A" at 300, value "aa" at 200 (2 ≥ dmax:
ESNOSPC), message of 11 characters at 400 with errnum 5 (not an own code; dmax ≤ 3: ESLEMIN) -/
example : (100 : Nat) ≠ 0 ∧ 0 < 2 ∧ 2 ≤ RSIZE_MAX_STR ∧ RW osExSt 100 2 ∧
    (300 : Nat) ≠ 0 ∧ SrcStr osExSt 300 1 ∧ (200 : Nat) ≠ 0 ∧ SrcStr osExSt 200 2 ∧ 2 ≤ 2 ∧
    isSafeclibErr 5 = false ∧ SrcStr osExSt 400 11 ∧ 2 ≤ 11 :=
  ⟨by decide, by decide, by decide, fun i hi => osExSt_rw i (by omega), by decide, osExSt_str _ _ (by omega),
   by decide, osExSt_str _ _ (by omega), by decide, by decide, osExSt_str _ _ (by omega), by decide⟩

end PartOs

end SafeC.Props.C04Ext
