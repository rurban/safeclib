import SafeC.Props.C01
import SafeC.Proofs.ExtNarrow
import SafeC.Proofs.ExSt
/-!
# C03 — string-producing calls never leave dest unterminated

For every prior content of dest (no hypothesis on `st.data`), every source (terminated or not,
overlapping or not), both slack configurations: after the call a NUL exists in `dest[0..dmax)`.
FULL statement for strcpy_s/wcscpy_s is FALSE of the code: `dest == src` returns EOK untouched
(`same-pointer-shortcut` in known_findings.jsonl); the hypothesis `dest ≠ src` is exactly that class
and `strcpy_s_C03_witness` exhibits the excluded point.
-/
namespace SafeC.Props.C03
open SafeC Gen SafeC.Props.C01

theorem strcpyG_C03_partial (max : Nat) (cfg : Cfg) (dest dmax src : Nat) (st : St) (hs : Setting st)
    (hrw : dest ≠ 0 → RW st dest dmax) (hd : dest ≠ 0) (hpos : 0 < dmax) (hle : dmax ≤ max)
    (hne : dest ≠ src) :
    ∃ code st', exec (strcpyG max cfg dest dmax src none) st = .ok (code, st') ∧
      ∃ i, i < dmax ∧ st'.data (dest + i) = 0 := by
  obtain ⟨code, st', he, _, hq⟩ := strcpyG_ext max cfg dest dmax src none st hs.all hrw (fun h => absurd rfl h)
  exact ⟨code, st', he, ((hq ⟨hd, hpos, hle, nofun⟩).1 hne).1.1.term⟩

theorem strcpy_s_C03_partial (cfg : Cfg) (dest dmax src : Nat) (st : St) (hs : Setting st)
    (hrw : dest ≠ 0 → RW st dest dmax) (hd : dest ≠ 0) (hpos : 0 < dmax) (hle : dmax ≤ RSIZE_MAX_STR)
    (hne : dest ≠ src) :
    ∃ code st', exec (strcpy_s cfg dest dmax src none) st = .ok (code, st') ∧
      ∃ i, i < dmax ∧ st'.data (dest + i) = 0 :=
  strcpyG_C03_partial _ cfg dest dmax src st hs hrw hd hpos hle hne

theorem wcscpy_s_C03_partial (cfg : Cfg) (dest dmax src : Nat) (st : St) (hs : Setting st)
    (hrw : dest ≠ 0 → RW st dest dmax) (hd : dest ≠ 0) (hpos : 0 < dmax) (hle : dmax ≤ RSIZE_MAX_WSTR)
    (hne : dest ≠ src) :
    ∃ code st', exec (wcscpy_s cfg dest dmax src none) st = .ok (code, st') ∧
      ∃ i, i < dmax ∧ st'.data (dest + i) = 0 := by
  rw [wcscpy_eq]; exact strcpyG_C03_partial _ cfg dest dmax src st hs hrw hd hpos hle hne

/-- strncpy_s / strcat_s / strncat_s: FULL (no exclusion needed) for usable dest -/
theorem strncpy_s_C03 (cfg : Cfg) (dest dmax src slen : Nat) (st : St) (hs : Setting st)
    (hrw : dest ≠ 0 → RW st dest dmax) (hd : dest ≠ 0) (hpos : 0 < dmax) (hle : dmax ≤ RSIZE_MAX_STR) :
    ∃ code st', exec (strncpy_s cfg dest dmax src slen none none) st = .ok (code, st') ∧
      ∃ i, i < dmax ∧ st'.data (dest + i) = 0 := by
  obtain ⟨code, st', he, _, hq⟩ := strncpy_s_ext cfg dest dmax src slen none none st hs.all hrw nofun
  exact ⟨code, st', he, (hq ⟨hd, hpos, hle, nofun⟩).1.term⟩

theorem strcat_s_C03 (cfg : Cfg) (dest dmax src : Nat) (st : St) (hs : Setting st)
    (hrw : dest ≠ 0 → RW st dest dmax) (hd : dest ≠ 0) (hpos : 0 < dmax) (hle : dmax ≤ RSIZE_MAX_STR) :
    ∃ code st', exec (strcat_s cfg dest dmax src none) st = .ok (code, st') ∧
      ∃ i, i < dmax ∧ st'.data (dest + i) = 0 := by
  obtain ⟨code, st', he, _, hq⟩ := strcat_s_ext cfg dest dmax src none st hs.all hrw
  exact ⟨code, st', he, (hq ⟨hd, hpos, hle, nofun⟩).1.term⟩

theorem strncat_s_C03 (cfg : Cfg) (dest dmax src slen : Nat) (st : St) (hs : Setting st)
    (hrw : dest ≠ 0 → RW st dest dmax) (hd : dest ≠ 0) (hpos : 0 < dmax) (hle : dmax ≤ RSIZE_MAX_STR)
    (hslen : slen ≠ 0) :
    ∃ code st', exec (strncat_s cfg dest dmax src slen none none) st = .ok (code, st') ∧
      ∃ i, i < dmax ∧ st'.data (dest + i) = 0 := by
  have _ := hslen  -- not needed: the `slen == 0` exit clears dest as well
  obtain ⟨code, st', he, _, hq⟩ := strncat_s_ext cfg dest dmax src slen none none st hs.all hrw nofun
  exact ⟨code, st', he, (hq ⟨hd, hpos, hle, nofun⟩).1.term⟩

/-- the excluded point: `strcpy_s(d, 1, d)` with `d = "a"` returns EOK and dest[0..1) has no NUL -/
def wSt : St :=
  { data := fun a => if a = 100 then 97 else 0, mapped := fun _ => true, rd := fun _ => true
    wr := fun a => decide (a = 100) }

theorem strcpy_s_C03_witness :
    ∃ st', exec (strcpy_s {} 100 1 100 none) wSt = .ok (EOK, st') ∧ ¬ ∃ i, i < 1 ∧ st'.data (100 + i) = 0 := by
  refine ⟨wSt, by simp [strcpy_s, strcpyG, chkDmaxClear, chkDmaxClearG, RSIZE_MAX_STR, EOK], ?_⟩
  intro ⟨i, hi, h⟩
  have : i = 0 := by omega
  subst this
  simp [wSt] at h

example : Setting exSt ∧ ((100 : Nat) ≠ 0 → RW exSt 100 5) ∧ (100 : Nat) ≠ 0 ∧ 0 < 5 ∧ 5 ≤ RSIZE_MAX_STR ∧ (100 : Nat) ≠ 200 := by
  refine ⟨⟨fun _ => ⟨rfl, rfl⟩, rfl⟩, fun _ => exSt_rw, by decide, by decide, by decide, by decide⟩

end SafeC.Props.C03
