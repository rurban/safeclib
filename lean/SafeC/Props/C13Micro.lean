import SafeC.Models.Handlers
/-!
# C13, third part — the process-wide registration at the granularity of its load and its store

`set_{str,mem}_constraint_handler_s` is `prev = slot; slot = handler ?: default; return prev;` — a load
and a store of one aligned word, NOT one atomic exchange.  `Models/Handlers.lean` (and the harness, which
serialises whole calls with semaphores) takes a call as one step.  Here the two halves of a process-wide
registration are scheduled separately (`load t`, `store t h`; `pend t` is the thread's local `prev`), for
one kind (the kinds are independent, `C13R.kinds_product` of `Props/C13Refine.lean`; thread-local slots are touched by their own
thread only, so splitting `thrd_set_*` changes nothing).

* `micro_glob`, `micro_dispatch`: the slot — hence the handler every violation runs — is a function of the
  STORES only, in the order they happen: the dispatch clauses of C13 hold for every interleaving of the
  halves (what a violation runs is the most recently STORED handler);
* `micro_returns_prev_partial`: a registration returns the handler registered at the moment it stores,
  PROVIDED no other registration stores between its load and its store;
* `micro_returns_prev_witness`: without that proviso the clause "registering returns the previously
  registered handler" is FALSE: two overlapping registrations both return NULL, nobody is handed the
  handler `1` that was registered in between and then replaced.  (ISO C calls the unsynchronised accesses a
  data race; under the sequential consistency that `Props/C13.lean` assumes for the single word loads and stores, this is the
  observable effect.)
-/
namespace SafeC.Props.C13M
open SafeC SafeC.Handlers

/-- the process-wide slot of one kind and, per thread, the value loaded by a registration in progress -/
structure M where
  glob : Option Hid
  pend : Tid → Option (Option Hid)

inductive MOp where
  | load (t : Tid)                      -- prev_handler = slot
  | store (t : Tid) (h : Option Hid)    -- slot = handler ?: default; return prev_handler
  | violate (t : Tid)                   -- a violation on a thread without a handler of its own
  deriving Repr, DecidableEq

def mstep (m : M) : MOp → M × Out
  | .load t => ({ m with pend := fun t' => if t' = t then some m.glob else m.pend t' }, .none)
  | .store t h =>
    ({ glob := some (reg h), pend := fun t' => if t' = t then none else m.pend t' },
     match m.pend t with
     | some p => .prev p
     | none => .none)
  | .violate _ => (m, .ran (m.glob.getD 0))

def mrun (m : M) : List MOp → M
  | [] => m
  | op :: rest => mrun (mstep m op).1 rest

def minit : M := { glob := none, pend := fun _ => none }

/-- the handler stored by the most recent `store` of a chronological list, if any -/
def lastStore : List MOp → Option Hid
  | [] => none
  | .store _ h :: rest => (lastStore rest).orElse fun _ => some (reg h)
  | _ :: rest => lastStore rest

def isStore : MOp → Bool
  | .store _ _ => true
  | _ => false

/-- the slot after any interleaving of halves = the most recently stored handler, else what it was -/
theorem micro_glob (m : M) (ops : List MOp) : (mrun m ops).glob = (lastStore ops).orElse fun _ => m.glob := by
  induction ops generalizing m with
  | nil => rfl
  | cons op rest ih =>
    cases op with
    | load t => simp only [mrun, mstep, lastStore, ih]
    | violate t => simp only [mrun, mstep, lastStore, ih]
    | store t h =>
      simp only [mrun, mstep, lastStore, ih]
      cases lastStore rest <;> rfl

/-- **dispatch is unaffected by the split**: a violation runs the most recently STORED handler, else the
default — whatever loads are pending -/
theorem micro_dispatch (ops : List MOp) (t : Tid) :
    (mstep (mrun minit ops) (.violate t)).2 = .ran ((lastStore ops).getD 0) := by
  simp only [mstep, micro_glob]
  cases lastStore ops <;> rfl

theorem glob_noStore (m : M) (ops : List MOp) (h : ∀ op ∈ ops, isStore op = false) : (mrun m ops).glob = m.glob := by
  have : lastStore ops = none := by
    induction ops with
    | nil => rfl
    | cons op rest ih =>
      have h1 := h op List.mem_cons_self
      cases op with
      | load t => exact ih (fun o ho => h o (List.mem_cons_of_mem _ ho))
      | violate t => exact ih (fun o ho => h o (List.mem_cons_of_mem _ ho))
      | store t x => simp [isStore] at h1
  rw [micro_glob, this]; rfl

theorem pend_keep (m : M) (ops : List MOp) (t : Tid)
    (h : ∀ op ∈ ops, op ≠ .load t ∧ ∀ x, op ≠ .store t x) : (mrun m ops).pend t = m.pend t := by
  induction ops generalizing m with
  | nil => rfl
  | cons op rest ih =>
    have h1 := h op List.mem_cons_self
    simp only [mrun]
    rw [ih _ (fun o ho => h o (List.mem_cons_of_mem _ ho))]
    cases op with
    | load t' =>
      have : ¬ t = t' := fun e => h1.1 (by rw [e])
      simp only [mstep, this, if_false]
    | violate t' => rfl
    | store t' x =>
      have : ¬ t = t' := fun e => h1.2 x (by rw [e])
      simp only [mstep, this, if_false]

-- FALSE for arbitrary `mid` (see the witness):
--   (mstep (mrun (mstep m (.load t)).1 mid) (.store t h)).2 = .prev (mrun (mstep m (.load t)).1 mid).glob
/-- a registration whose load and store are not separated by another registration's store (loads and
violations of other threads may fall in between) returns the handler registered at the moment it stores -/
theorem micro_returns_prev_partial (m : M) (t : Tid) (h : Option Hid) (mid : List MOp)
    (hns : ∀ op ∈ mid, isStore op = false) (hnt : ∀ op ∈ mid, op ≠ .load t) :
    (mstep (mrun (mstep m (.load t)).1 mid) (.store t h)).2 = .prev (mrun (mstep m (.load t)).1 mid).glob := by
  have hp : (mrun (mstep m (.load t)).1 mid).pend t = some m.glob := by
    rw [pend_keep _ mid t (fun op ho => ⟨hnt op ho, fun x e => by have := hns op ho; rw [e] at this; simp [isStore] at this⟩)]
    simp [mstep]
  rw [glob_noStore _ mid hns]
  show (match (mrun (mstep m (.load t)).1 mid).pend t with
    | some p => Out.prev p
    | none => Out.none) = _
  rw [hp]
  rfl

/-- threads 1 and 2 register handlers 1 and 2 concurrently; both load the empty slot before either stores.
Both calls return NULL; handler 1 was registered (a violation in between runs it) and is replaced by 2, but
no call ever returns it: thread 2 does NOT get "the previously registered handler". -/
theorem micro_returns_prev_witness :
    let ops := [MOp.load 1, .load 2, .store 1 (some 1)]
    (mstep (mrun minit ops) (.violate 0)).2 = .ran 1 ∧
    (mrun minit ops).glob = some 1 ∧
    (mstep (mrun minit ops) (.store 2 (some 2))).2 = .prev none ∧
    (mstep (mrun minit ops) (.store 2 (some 2))).2 ≠ .prev (mrun minit ops).glob := by
  decide

/-- when each registration's two halves are adjacent the micro machine is the atomic one: same slot, and the
store returns what the atomic `set` returns -/
theorem micro_atomic (m : M) (t : Tid) (h : Option Hid) :
    (mrun m [.load t, .store t h]).glob = some (reg h) ∧
    (mstep (mstep m (.load t)).1 (.store t h)).2 = .prev m.glob := by
  simp [mrun, mstep]

/-- non-vacuity of the partial theorem's hypotheses: another thread loads and a violation happens in between -/
example : (mstep (mrun (mstep minit (.load 1)).1 [.load 2, .violate 3]) (.store 1 (some 5))).2 = .prev none :=
  micro_returns_prev_partial minit 1 (some 5) [.load 2, .violate 3] (by decide) (by decide)

end SafeC.Props.C13M
