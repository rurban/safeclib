import SafeC.Proofs.Acc
import SafeC.Models.WCase
import SafeC.Props.C02Query
import SafeC.Props.C02
/-!
# C02 for the wide case mappers `wcslwr_s`, `wcsupr_s`

The full statement — "with `src[0..slen)` mapped and declared and NOTHING else, the call returns without a stray
access" —

    theorem wcase_s_C02 (hrw : src ≠ 0 → RW st src slen) : Runs (wcase_s rb f src slen b) st

holds of the tree as it stands (`while (slen && *src)`; `rb = false`, switch `fixWcaseOrder` on: the `_fixed` theorems at the
end) and is FALSE of the tree before 7997192 / c770409 (`rb = true`, `fixWcaseOrder := false`; fixed finding
`wcase-read-before-bound`), as it was of that C: the loop header was `while (*src && slen)`, the cell is read before the
counter is tested, so an array of exactly `slen` non-NUL cells makes the call read `src[slen]`.

* `wcase_s_C02_partial` (either order): under the one extra hypothesis the old order forces — the cell `src[slen]` is readable too —
  for ALL arguments, all contents and every cell mapping `f`: the call returns, no stray read, no stray write, every
  cell outside `src[0..slen)` unchanged.  Reads lie in `src[0..slen]`, writes in `src[0..slen)`.
* `wcslwr_s_C02_witness` / `wcsupr_s_C02_witness` (kernel-decided, `fixWcaseOrder := false`): two cells `A A` flush against an unmapped cell,
  `slen = 2`: the run ends in `Fault.read (src + 2)` — after both cells have been converted.
  The same class as `read-before-bound` of known_findings.jsonl (signatures `wcslwr_s:rfault@dest+dmax`,
  `wcsupr_s:rfault@dest+dmax` in the correspondence run).
-/
namespace SafeC.Props.C02
open SafeC

/-- the loop reads `src[slen]` only in the old order of the test (`rb`) -/
theorem Acc_wcaseLoop {R W : Nat → Prop} (rb : Bool) (f : Nat → Nat) (slen src : Nat)
    (hr : ∀ a, Cells src (slen + rb.toNat) a → R a) (hw : ∀ a, Cells src slen a → W a) :
    Acc R W (wcaseLoop rb f slen src) (fun _ => True) := by
  induction slen generalizing src with
  | zero =>
    unfold wcaseLoop
    exact Acc.ite (fun h => Acc.loadBind (hr _ ⟨Nat.le_refl _, by subst h; exact Nat.lt_succ_self _⟩) fun _ => Acc.pure _ trivial)
      fun _ => Acc.pure _ trivial
  | succ k ih =>
    unfold wcaseLoop
    have hin : R src := hr _ ⟨Nat.le_refl _, by omega⟩
    exact Acc.loadBind hin fun c => Acc.ite (fun _ => Acc.pure _ trivial) fun _ => Acc.loadBind hin fun c1 =>
      Acc.storeBind (hw _ ⟨Nat.le_refl _, by omega⟩) (ih (src+1) (fun a ha => hr a ha.within) (fun a ha => hw a ha.within))

theorem Acc_wcase_s {R W : Nat → Prop} (rb : Bool) (f : Nat → Nat) (src slen : Nat) (b : Bos)
    (hr : src ≠ 0 → ∀ a, Cells src (slen + rb.toNat) a → R a) (hw : src ≠ 0 → ∀ a, Cells src slen a → W a) :
    Acc R W (wcase_s rb f src slen b) (fun _ => True) := by
  unfold wcase_s
  refine Acc.ite (fun _ => Acc.pure _ trivial) fun _ => Acc.ite (fun _ => Acc_failS _ trivial) fun hd =>
    Acc.ite (fun _ => Acc_failS _ trivial) fun _ => ?_
  extract_lets body
  have body : Acc R W body (fun _ => True) :=
    Acc.thenPure (Acc_wcaseLoop rb f slen src (hr hd) (hw hd))
  exact Acc.bos (fun _ => body) (fun _ _ => Acc.ite (fun _ => Acc_failS _ trivial) fun _ => body)

/-- the shared text, every mapping, ALL arguments, either order of the test: with `src[0..slen)` declared and — in the old order (`rb`)
only — `src[slen]` readable, the call returns, records no stray access and changes nothing outside `src[0..slen)` -/
theorem wcase_s_C02_partial (rb : Bool) (f : Nat → Nat) (src slen : Nat) (b : Bos) (st : St)
    (hrw : src ≠ 0 → RW st src slen) (hx : src ≠ 0 → rb = true → st.mapped (src+slen) = true ∧ st.rd (src+slen) = true) :
    ∃ r st', exec (wcase_s rb f src slen b) st = .ok (r, st') ∧ NoStray st st' ∧
      ∀ a, ¬ (src ≠ 0 ∧ In src slen a) → st'.data a = st.data a := by
  obtain ⟨r, st', he, _, hst, hfr⟩ := (Acc_wcase_s rb f src slen b
      (R := fun a => src ≠ 0 ∧ In src (slen + rb.toNat) a) (W := fun a => src ≠ 0 ∧ In src slen a)
      (fun hs a ha => ⟨hs, ha⟩) (fun hs a ha => ⟨hs, ha⟩)).sound st
    (fun a ⟨hs, h1, h2⟩ => by
      by_cases ha : a < src + slen
      · exact (RW_of st src slen (hrw hs)).1 a ⟨h1, ha⟩
      · cases rb with
        | false => exact absurd h2 ha
        | true =>
          have : a = src + slen := by simp only [Bool.toNat_true] at h2; omega
          subst this; exact hx hs rfl)
    (fun a ⟨hs, h⟩ => (RW_of st src slen (hrw hs)).2 a h)
  exact ⟨r, st', he, hst, hfr⟩

/-- **wcslwr_s** -/
theorem wcslwr_s_C02_partial (cfg : Cfg) (src slen : Nat) (b : Bos) (st : St)
    (hrw : src ≠ 0 → RW st src slen) (hx : src ≠ 0 → st.mapped (src+slen) = true ∧ st.rd (src+slen) = true) :
    ∃ r st', exec (wcslwr_s cfg src slen b) st = .ok (r, st') ∧ NoStray st st' ∧
      ∀ a, ¬ (src ≠ 0 ∧ In src slen a) → st'.data a = st.data a :=
  wcase_s_C02_partial _ _ src slen b st hrw fun h _ => hx h

/-- **wcsupr_s** -/
theorem wcsupr_s_C02_partial (cfg : Cfg) (src slen : Nat) (b : Bos) (st : St)
    (hrw : src ≠ 0 → RW st src slen) (hx : src ≠ 0 → st.mapped (src+slen) = true ∧ st.rd (src+slen) = true) :
    ∃ r st', exec (wcsupr_s cfg src slen b) st = .ok (r, st') ∧ NoStray st st' ∧
      ∀ a, ¬ (src ≠ 0 ∧ In src slen a) → st'.data a = st.data a :=
  wcase_s_C02_partial _ _ src slen b st hrw fun h _ => hx h

/-- the hypotheses of the partial theorems are satisfiable: three cells declared, the fourth readable -/
example : ∃ st : St, ((100 : Nat) ≠ 0 → RW st 100 3) ∧ ((100 : Nat) ≠ 0 → st.mapped (100+3) = true ∧ st.rd (100+3) = true) :=
  ⟨{ data := fun _ => 0x47, mapped := fun a => decide (100 ≤ a ∧ a < 104), rd := fun a => decide (100 ≤ a ∧ a < 104),
     wr := fun a => decide (100 ≤ a ∧ a < 103) },
   fun _ i hi => ⟨by simp; omega, by simp; omega, by simp; omega⟩, fun _ => ⟨by decide, by decide⟩⟩

/-- the memory of the witnesses: cells 100, 101 hold 'A' and are declared; nothing else is mapped -/
def witnessSt : St :=
  { data := fun _ => 0x41, mapped := fun a => decide (100 ≤ a ∧ a < 102), rd := fun a => decide (100 ≤ a ∧ a < 102),
    wr := fun a => decide (100 ≤ a ∧ a < 102) }

/-- the full statement fails: `RW witnessSt 100 2` holds, the call faults reading `src[slen]` -/
theorem wcslwr_s_C02_witness : RW witnessSt 100 2 ∧ faultOf (exec (wcslwr_s { fixWcaseOrder := false } 100 2 none) witnessSt) = some (.read 102) := by
  refine ⟨fun i hi => ?_, by decide⟩
  have : i = 0 ∨ i = 1 := by omega
  rcases this with h | h <;> subst h <;> decide

theorem wcsupr_s_C02_witness : RW witnessSt 100 2 ∧ faultOf (exec (wcsupr_s { fixWcaseOrder := false } 100 2 (some 8)) witnessSt) = some (.read 102) :=
  ⟨wcslwr_s_C02_witness.1, by decide⟩

/-! ## the repaired loop order (`slen && *src`, 7997192 / c770409): the FULL statement, no extra readable cell -/

/-- the shared text with the repaired loop, every mapping, ALL arguments: with exactly `src[0..slen)` declared (nothing behind
it needs to be mapped) the call returns, records no stray access and changes nothing outside `src[0..slen)` -/
theorem wcase_s_C02_fixed (f : Nat → Nat) (src slen : Nat) (b : Bos) (st : St) (hrw : src ≠ 0 → RW st src slen) :
    ∃ r st', exec (wcase_s false f src slen b) st = .ok (r, st') ∧ NoStray st st' ∧
      ∀ a, ¬ (src ≠ 0 ∧ In src slen a) → st'.data a = st.data a :=
  wcase_s_C02_partial false f src slen b st hrw fun _ h => nomatch h

/-- **wcslwr_s, current tree**: C02 outright -/
theorem wcslwr_s_C02_fixed (cfg : Cfg) (hfx : cfg.fixWcaseOrder = true) (src slen : Nat) (b : Bos) (st : St)
    (hrw : src ≠ 0 → RW st src slen) :
    ∃ r st', exec (wcslwr_s cfg src slen b) st = .ok (r, st') ∧ NoStray st st' ∧
      ∀ a, ¬ (src ≠ 0 ∧ In src slen a) → st'.data a = st.data a := by
  unfold wcslwr_s; rw [hfx]; exact wcase_s_C02_fixed _ src slen b st hrw

/-- **wcsupr_s, current tree**: C02 outright -/
theorem wcsupr_s_C02_fixed (cfg : Cfg) (hfx : cfg.fixWcaseOrder = true) (src slen : Nat) (b : Bos) (st : St)
    (hrw : src ≠ 0 → RW st src slen) :
    ∃ r st', exec (wcsupr_s cfg src slen b) st = .ok (r, st') ∧ NoStray st st' ∧
      ∀ a, ¬ (src ≠ 0 ∧ In src slen a) → st'.data a = st.data a := by
  unfold wcsupr_s; rw [hfx]; exact wcase_s_C02_fixed _ src slen b st hrw

/-- non-vacuity: two cells declared, the cell behind them UNMAPPED -/
example : ∃ st : St, ((100 : Nat) ≠ 0 → RW st 100 2) ∧ st.mapped 102 = false :=
  ⟨{ data := fun _ => 0x47, mapped := fun a => decide (100 ≤ a ∧ a < 102), rd := fun a => decide (100 ≤ a ∧ a < 102),
     wr := fun a => decide (100 ≤ a ∧ a < 102) },
   fun _ i hi => ⟨by simp; omega, by simp; omega, by simp; omega⟩, by simp⟩


end SafeC.Props.C02
