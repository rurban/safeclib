import SafeC.Proofs.ExtExact
import SafeC.Proofs.StpAll
import SafeC.Proofs.FldSteps
import SafeC.Proofs.CatOverlap
import SafeC.Props.C07Ext
/-!
# C07 (extension 2) — `stpcpy_s` / `stpncpy_s` and the field copies: every placement of `src` relative to `dest`

Setting of `Props/C07Ext.lean` (every cell mapped and readable, ARBITRARY contents, dest writable, usable sizes, `cfg`
arbitrary).  `g` = distance between the two pointers.

* `*_C07_overlap` — the copy would run into the other operand (first `g` source characters non-NUL, meeting point inside
  dest, `slen` reaches it): `(NULL, ESOVRLP)`, one handler call, dest cleared, nothing outside dest touched.  The source
  need not be terminated.
* `*_C07_exact` — for a source string: ESOVRLP is returned EXACTLY when the `c = min(m + 1, dmax)` cells starting at the
  two pointers — the cells the copy reads and writes, terminator included — meet.
* `*_disjoint_not_rejected` — disjoint operands (the `dmax` cells of dest, the source cells read) are never rejected.
  False of `stpncpy_s` when the `slen` source characters end exactly at dest (the cell `src + slen = dest` is not read,
  but the bumper test precedes the `slen == 0` test: `bounded-copy-src-ends-at-dest`): `_partial` + `_witness`.
* the field copies: ESOVRLP exactly when `slen ≤ dmax` and the cells copied meet.
* `strncat_s` / `wcsncat_s` / `strcat_s` / `wcscat_s`: `*_overlap`, see the comment of the last section.
-/
namespace SafeC.Props.C07
open SafeC Gen

/-- **stpcpy_s detects every overlap**: the first `g` source characters are non-NUL (`g` = pointer distance) and the
meeting point lies inside dest -/
theorem stpcpy_s_C07_overlap (cfg : Cfg) (dest dmax src g : Nat) (destbos srcbos : Bos) (st : St)
    (hall : ∀ a, st.mapped a = true ∧ st.rd a = true)
    (hd : dest ≠ 0) (hs : src ≠ 0) (hpos : 0 < dmax) (hle : dmax ≤ RSIZE_MAX_STR)
    (hb : ∀ b, destbos = some b → dmax ≤ b) (hsb : ∀ sb, srcbos = some sb → g < sb)
    (hrw : RW st dest dmax)
    (hg : 0 < g ∧ ((dest < src ∧ src = dest + g) ∨ (src < dest ∧ dest = src + g)))
    (hgd : g < dmax) (hnz : ∀ j, j < g → st.data (src + j) ≠ 0) :
    ∃ st', exec (stpcpy_s cfg dest dmax src destbos srcbos) st = .ok ((0, ESOVRLP), st') ∧
      OvrlpPost cfg dest dmax st st' := by
  rw [stpcpy_s_eq_body cfg dest dmax src destbos srcbos hd hs hpos hle hb]
  obtain ⟨st', he, hp⟩ := stpBody_overlap cfg false dest dmax src g 0 srcbos st hall hpos hrw hg hgd hnz
    (fun h => nomatch h) (untermB_stpSlen_cpy srcbos g hsb)
  exact ⟨st', he, hp.ovrlp⟩

/-- **stpncpy_s detects every overlap**: as above, and `slen` reaches the meeting point (`g ≤ slen`) -/
theorem stpncpy_s_C07_overlap (cfg : Cfg) (dest dmax src slen g : Nat) (destbos srcbos : Bos) (st : St)
    (hall : ∀ a, st.mapped a = true ∧ st.rd a = true)
    (hd : dest ≠ 0) (hs : src ≠ 0) (hpos : 0 < dmax) (hle : dmax ≤ RSIZE_MAX_STR) (hslenle : slen ≤ RSIZE_MAX_STR)
    (hb : ∀ b, destbos = some b → dmax ≤ b) (hsb : ∀ sb, srcbos = some sb → slen ≤ sb)
    (hrw : RW st dest dmax)
    (hg : 0 < g ∧ ((dest < src ∧ src = dest + g) ∨ (src < dest ∧ dest = src + g)))
    (hgd : g < dmax) (hgs : g ≤ slen) (hnz : ∀ j, j < g → st.data (src + j) ≠ 0) :
    ∃ st', exec (stpncpy_s cfg dest dmax src slen destbos srcbos) st = .ok ((0, ESOVRLP), st') ∧
      OvrlpPost cfg dest dmax st st' := by
  rw [stpncpy_s_eq_body cfg dest dmax src slen destbos srcbos hd hs hpos hle hslenle hb hsb]
  obtain ⟨st', he, hp⟩ := stpBody_overlap cfg true dest dmax src g slen srcbos st hall hpos hrw hg hgd hnz
    (fun _ => hgs) (fun i hi => untermB_stpSlen_ncpy srcbos slen hsb i (Nat.lt_of_lt_of_le hi hgs))
  exact ⟨st', he, hp.ovrlp⟩

/-- **stpcpy_s: ESOVRLP exactly when the cells copied meet** — source string of length `n` at any address ≠ dest;
`c = min (n+1) dmax` cells are read and written (terminator included, capped by `dmax`) -/
theorem stpcpy_s_C07_exact (cfg : Cfg) (dest dmax src n : Nat) (destbos srcbos : Bos) (st : St)
    (hall : ∀ a, st.mapped a = true ∧ st.rd a = true)
    (hd : dest ≠ 0) (hs : src ≠ 0) (hne : dest ≠ src) (hpos : 0 < dmax) (hle : dmax ≤ RSIZE_MAX_STR)
    (hb : ∀ b, destbos = some b → dmax ≤ b) (hsb : ∀ sb, srcbos = some sb → n < sb)
    (hrw : RW st dest dmax)
    (hnz : ∀ j, j < n → st.data (src + j) ≠ 0) (hnul : st.data (src + n) = 0) :
    ∃ r st', exec (stpcpy_s cfg dest dmax src destbos srcbos) st = .ok (r, st') ∧
      (r.2 = ESOVRLP ↔ ¬ (dest + min (n+1) dmax ≤ src ∨ src + min (n+1) dmax ≤ dest)) ∧
      (r.2 = ESOVRLP → r.1 = 0 ∧ OvrlpPost cfg dest dmax st st') := by
  obtain ⟨g, hg, r, st', he, hp⟩ :=
    stpcpy_s_all cfg dest dmax src n destbos srcbos st hall hd hs hne hpos hle hb hsb hrw hnz hnul
  exact ⟨r, st', he, hp.ovrlp_exact hg⟩

/-- **stpncpy_s: ESOVRLP exactly when the `min (m+1) dmax` cells starting at the two pointers meet**, `m` = number of
characters copied.  (When `slen = m` runs out the last of these source cells, `src + m`, is NOT read: for
`src + m = dest` this is the rejection of disjoint operands of `stpncpy_s_disjoint_not_rejected_witness`.) -/
theorem stpncpy_s_C07_exact (cfg : Cfg) (dest dmax src slen m : Nat) (destbos srcbos : Bos) (st : St)
    (hall : ∀ a, st.mapped a = true ∧ st.rd a = true)
    (hd : dest ≠ 0) (hs : src ≠ 0) (hne : dest ≠ src) (hpos : 0 < dmax) (hle : dmax ≤ RSIZE_MAX_STR)
    (hslenle : slen ≤ RSIZE_MAX_STR)
    (hb : ∀ b, destbos = some b → dmax ≤ b) (hsb : ∀ sb, srcbos = some sb → slen ≤ sb)
    (hrw : RW st dest dmax)
    (hnz : ∀ j, j < m → st.data (src + j) ≠ 0)
    (hfin : (m < slen ∧ st.data (src + m) = 0) ∨ slen = m) :
    ∃ r st', exec (stpncpy_s cfg dest dmax src slen destbos srcbos) st = .ok (r, st') ∧
      (r.2 = ESOVRLP ↔ ¬ (dest + min (m+1) dmax ≤ src ∨ src + min (m+1) dmax ≤ dest)) ∧
      (r.2 = ESOVRLP → r.1 = 0 ∧ OvrlpPost cfg dest dmax st st') := by
  obtain ⟨g, hg, r, st', he, hp⟩ :=
    stpncpy_s_all cfg dest dmax src slen m destbos srcbos st hall hd hs hne hpos hle hslenle hb hsb hrw hnz hfin
  exact ⟨r, st', he, hp.ovrlp_exact hg⟩

/-- **stpcpy_s never rejects disjoint operands** (only the declared extents mapped / readable here) -/
theorem stpcpy_s_disjoint_not_rejected (cfg : Cfg) (dest dmax src n : Nat) (destbos srcbos : Bos) (st : St)
    (hd : dest ≠ 0) (hs : src ≠ 0) (hpos : 0 < dmax) (hle : dmax ≤ RSIZE_MAX_STR)
    (hb : ∀ b, destbos = some b → dmax ≤ b) (hsb : ∀ sb, srcbos = some sb → n < sb)
    (hrw : RW st dest dmax) (hsrc : SrcStr st src n) (hdisj : Disjoint dest dmax src n) :
    ∃ r st', exec (stpcpy_s cfg dest dmax src destbos srcbos) st = .ok (r, st') ∧ r.2 ≠ ESOVRLP := by
  obtain ⟨r, st', he, ⟨_, _, _, _, _, hok, hfail⟩, _⟩ :=
    stpcpy_s_disjoint cfg dest dmax src n destbos srcbos st hd hs hpos hle hb hsb hrw hsrc hdisj
  exact ⟨r, st', he, ne_ovrlp_of_fits hok hfail⟩

/- FULL statement (false of the model): `hdisj : dest + dmax ≤ src ∨ src + m < dest ∨ (slen = m ∧ src + m ≤ dest)`. -/

/-- **stpncpy_s never rejects disjoint operands** (`m` = number of characters copied), except for a source whose
`slen` characters end exactly at dest -/
theorem stpncpy_s_disjoint_not_rejected_partial (cfg : Cfg) (dest dmax src slen m : Nat) (destbos srcbos : Bos) (st : St)
    (hd : dest ≠ 0) (hs : src ≠ 0) (hpos : 0 < dmax) (hle : dmax ≤ RSIZE_MAX_STR) (hslenle : slen ≤ RSIZE_MAX_STR)
    (hb : ∀ b, destbos = some b → dmax ≤ b) (hsb : ∀ sb, srcbos = some sb → slen ≤ sb)
    (hrw : RW st dest dmax)
    (hnz : ∀ j, j < m → st.data (src+j) ≠ 0)
    (hrd : ∀ j, j < m → st.mapped (src+j) = true ∧ st.rd (src+j) = true)
    (hfin : (m < slen ∧ st.data (src+m) = 0 ∧ st.mapped (src+m) = true ∧ st.rd (src+m) = true) ∨ slen = m)
    (hdisj : dest + dmax ≤ src ∨ src + m < dest) :
    ∃ r st', exec (stpncpy_s cfg dest dmax src slen destbos srcbos) st = .ok (r, st') ∧ r.2 ≠ ESOVRLP := by
  obtain ⟨r, st', he, ⟨_, _, _, _, _, hok, hfail⟩, _⟩ :=
    stpncpy_s_disjoint cfg dest dmax src slen m destbos srcbos st hd hs hpos hle hslenle hb hsb hrw hnz hrd hfin hdisj
  exact ⟨r, st', he, ne_ovrlp_of_fits hok hfail⟩

/-- the `*errp` of a run of the stp pair -/
def retErr (r : Except Fault ((Nat × Nat) × St)) : Option Nat :=
  match r with
  | .ok (p, _) => some p.2
  | .error _ => none

/-- the excluded point: `stpncpy_s(a+5, 2, a+4, 1)` — disjoint (`src + slen = dest`), rejected with ESOVRLP
(**listed**: `bounded-copy-src-ends-at-dest`) -/
theorem stpncpy_s_disjoint_not_rejected_witness :
    (104 : Nat) + 1 ≤ 105 ∧ retErr (exec (stpncpy_s { slack := true } 105 2 104 1 none none) endSt) = some ESOVRLP := by
  decide

/-- non-vacuity of the overlap theorems: `stpcpy_s(a, 4, a+2)` with `a+2 = "xy…"`: g = 2 < dmax -/
example : ∃ st : St, (∀ a, st.mapped a = true ∧ st.rd a = true) ∧ RW st 100 4 ∧
    (0 < 2 ∧ (((100:Nat) < 102 ∧ 102 = 100 + 2) ∨ ((102:Nat) < 100 ∧ 100 = 102 + 2))) ∧
    (∀ j, j < 2 → st.data (102 + j) ≠ 0) :=
  ⟨{ data := fun _ => 7, mapped := fun _ => true, rd := fun _ => true, wr := fun _ => true },
   fun _ => ⟨rfl, rfl⟩, fun _ _ => ⟨rfl, rfl, rfl⟩, ⟨by decide, Or.inl ⟨by decide, rfl⟩⟩, fun _ _ => (by decide : (7 : Nat) ≠ 0)⟩

private theorem ovrlpPost_of_fld {kind : FldKind} {cfg : Cfg} {dest dmax src slen : Nat} {st st' : St}
    (hp : FldPost kind cfg dest dmax src slen st st' ESOVRLP) : OvrlpPost cfg dest dmax st st' :=
  ⟨hp.safe.strays, hp.safe.fail_events ne_ESOVRLP, hp.fail_first ne_ESOVRLP,
    hp.fail_clear (Or.inr rfl), hp.safe.frame⟩

/-- **strcpyfld_s**: ESOVRLP exactly when `slen ≤ dmax` and the `slen` cells read and the `slen` cells written meet
(so disjoint operands are never rejected); then one handler call, dest cleared, nothing outside dest changed -/
theorem strcpyfld_s_C07 (cfg : Cfg) (dest dmax src slen : Nat) (destbos : Bos) (st : St)
    (hall : ∀ a, st.mapped a = true ∧ st.rd a = true) (hrw : RW st dest dmax)
    (hd : dest ≠ 0) (hpos : 0 < dmax) (hle : dmax ≤ RSIZE_MAX_STR) (hbos : ∀ b, destbos = some b → dmax ≤ b)
    (hsl : slen ≠ 0) (hs : src ≠ 0) :
    ∃ code st', exec (strcpyfld_s cfg dest dmax src slen destbos) st = .ok (code, st') ∧
      (code = ESOVRLP ↔ slen ≤ dmax ∧ ¬ (dest + slen ≤ src ∨ src + slen ≤ dest)) ∧
      (code = ESOVRLP → OvrlpPost cfg dest dmax st st') := by
  unfold strcpyfld_s
  rw [fldG_entry _ cfg dest dmax src slen destbos hsl hd hpos hle hbos]
  obtain ⟨code, st', he, hp, _, h2, _⟩ := fldBody_fld_all cfg dest dmax src slen st hall hrw hd hpos hle hs
  exact ⟨code, st', he, h2, fun hc => by subst hc; exact ovrlpPost_of_fld hp⟩

/-- **strcpyfldout_s**: ESOVRLP exactly when `slen ≤ dmax` and the `min slen (dmax-1)` cells copied meet -/
theorem strcpyfldout_s_C07 (cfg : Cfg) (dest dmax src slen : Nat) (destbos : Bos) (st : St)
    (hall : ∀ a, st.mapped a = true ∧ st.rd a = true) (hrw : RW st dest dmax)
    (hd : dest ≠ 0) (hpos : 0 < dmax) (hle : dmax ≤ RSIZE_MAX_STR) (hbos : ∀ b, destbos = some b → dmax ≤ b)
    (hsl : slen ≠ 0) (hs : src ≠ 0) :
    ∃ code st', exec (strcpyfldout_s cfg dest dmax src slen destbos) st = .ok (code, st') ∧
      (code = ESOVRLP ↔ slen ≤ dmax ∧ ¬ (dest + min slen (dmax - 1) ≤ src ∨ src + min slen (dmax - 1) ≤ dest)) ∧
      (code = ESOVRLP → OvrlpPost cfg dest dmax st st') := by
  unfold strcpyfldout_s
  rw [fldG_entry _ cfg dest dmax src slen destbos hsl hd hpos hle hbos]
  obtain ⟨code, st', he, hp, _, h2, _⟩ := fldBody_fldout_all cfg dest dmax src slen st hall hrw hd hpos hle hs
  exact ⟨code, st', he, h2, fun hc => by subst hc; exact ovrlpPost_of_fld hp⟩

/-- **strcpyfldin_s**, `n` = number of leading non-NUL source characters capped by `slen`: ESOVRLP exactly when
`slen ≤ dmax` and the cells read — the `n` characters and, unless `slen` ran out, the terminator `src[n]` — meet the
`n` cells written.  (`src + n = dest` with `n < slen`: the terminator of the source IS `dest[0]`, overwritten before it
is tested: ESOVRLP, the `src < dest` case of `fldBody_fldin_all`.) -/
theorem strcpyfldin_s_C07 (cfg : Cfg) (dest dmax src slen n : Nat) (destbos : Bos) (st : St)
    (hall : ∀ a, st.mapped a = true ∧ st.rd a = true) (hrw : RW st dest dmax)
    (hd : dest ≠ 0) (hpos : 0 < dmax) (hle : dmax ≤ RSIZE_MAX_STR) (hbos : ∀ b, destbos = some b → dmax ≤ b)
    (hsl : slen ≠ 0) (hs : src ≠ 0)
    (hn : n ≤ slen) (hnz : ∀ j, j < n → st.data (src + j) ≠ 0) (hend : n = slen ∨ st.data (src + n) = 0) :
    ∃ code st', exec (strcpyfldin_s cfg dest dmax src slen destbos) st = .ok (code, st') ∧
      (code = ESOVRLP ↔ slen ≤ dmax ∧ ¬ (dest + n ≤ src ∨ src + n < dest ∨ (src + n = dest ∧ n = slen))) ∧
      (code = ESOVRLP → OvrlpPost cfg dest dmax st st') := by
  unfold strcpyfldin_s
  rw [fldG_entry _ cfg dest dmax src slen destbos hsl hd hpos hle hbos]
  obtain ⟨code, st', he, hp, _, h2, _⟩ :=
    fldBody_fldin_all cfg dest dmax src slen n st hall hrw hd hpos hle hs hn hnz hend
  exact ⟨code, st', he, h2, fun hc => by subst hc; exact ovrlpPost_of_fld hp⟩

/-- non-vacuity of the field-copy theorems: dest = 4 cells at 100, src = 101 (inside dest) holding 7 7 …, slen = 2 -/
example : ∃ st : St, (∀ a, st.mapped a = true ∧ st.rd a = true) ∧ RW st 100 4 ∧ (2 : Nat) ≠ 0 ∧ (101 : Nat) ≠ 0 ∧
    (∀ j, j < 2 → st.data (101 + j) ≠ 0) ∧ ((2 : Nat) = 2 ∨ st.data (101 + 2) = 0) :=
  ⟨{ data := fun _ => 7, mapped := fun _ => true, rd := fun _ => true, wr := fun _ => true },
   fun _ => ⟨rfl, rfl⟩, fun _ _ => ⟨rfl, rfl, rfl⟩, by decide, by decide, fun _ _ => (by decide : (7 : Nat) ≠ 0), Or.inl rfl⟩

/-! ## the concatenations `strncat_s` / `wcsncat_s` / `strcat_s` / `wcscat_s`: the overlap is detected wherever it is met

dest holds a string of length `dl < dmax`.  The operands meet in one of three ways: src lies inside the dest string (its
terminator included) — found while `findEnd` scans dest, or at the first test of the copy loop; src lies in the room
behind the string and the characters appended reach it; the source (at or below dest) runs into dest.  In each case
ESOVRLP, one handler call, dest cleared, nothing outside dest touched. -/

/-- **strncat_s detects every overlap** -/
theorem strncat_s_overlap (cfg : Cfg) (dest dmax src slen dl : Nat) (st : St)
    (hall : ∀ a, st.mapped a = true ∧ st.rd a = true)
    (hd : dest ≠ 0) (hs : src ≠ 0) (hpos : 0 < dmax) (hle : dmax ≤ RSIZE_MAX_STR)
    (hslen : 0 < slen) (hslenle : slen ≤ RSIZE_MAX_STR) (hrw : RW st dest dmax)
    (hdl : dl < dmax) (hdnz : ∀ j, j < dl → st.data (dest+j) ≠ 0) (hdnul : st.data (dest+dl) = 0)
    (hov : (dest < src ∧ src ≤ dest + dl) ∨
      (dest + dl < src ∧ src < dest + dmax ∧ src - (dest + dl) ≤ slen ∧
        ∀ j, j < src - (dest + dl) → st.data (src + j) ≠ 0) ∨
      (src ≤ dest ∧ dest - src < dmax - dl ∧ dest - src ≤ slen ∧ ∀ j, j < dest - src → st.data (src + j) ≠ 0)) :
    ∃ st', exec (strncat_s cfg dest dmax src slen none none) st = .ok (ESOVRLP, st') ∧ OvrlpPost cfg dest dmax st st' :=
  strncatG_overlap _ cfg dest dmax src slen dl st hall hd hs hpos hle hslen hslenle hrw hdl hdnz hdnul hov

/-- **wcsncat_s detects every overlap** -/
theorem wcsncat_s_overlap (cfg : Cfg) (dest dmax src slen dl : Nat) (st : St)
    (hall : ∀ a, st.mapped a = true ∧ st.rd a = true)
    (hd : dest ≠ 0) (hs : src ≠ 0) (hpos : 0 < dmax) (hle : dmax ≤ RSIZE_MAX_WSTR)
    (hslen : 0 < slen) (hslenle : slen ≤ RSIZE_MAX_WSTR) (hrw : RW st dest dmax)
    (hdl : dl < dmax) (hdnz : ∀ j, j < dl → st.data (dest+j) ≠ 0) (hdnul : st.data (dest+dl) = 0)
    (hov : (dest < src ∧ src ≤ dest + dl) ∨
      (dest + dl < src ∧ src < dest + dmax ∧ src - (dest + dl) ≤ slen ∧
        ∀ j, j < src - (dest + dl) → st.data (src + j) ≠ 0) ∨
      (src ≤ dest ∧ dest - src < dmax - dl ∧ dest - src ≤ slen ∧ ∀ j, j < dest - src → st.data (src + j) ≠ 0)) :
    ∃ st', exec (wcsncat_s cfg dest dmax src slen none none) st = .ok (ESOVRLP, st') ∧ OvrlpPost cfg dest dmax st st' := by
  rw [wcsncat_s_eq cfg dest dmax src slen hle hslenle (by omega)]
  exact strncatG_overlap _ cfg dest dmax src slen dl st hall hd hs hpos hle hslen hslenle hrw hdl hdnz hdnul hov

/-- **strcat_s detects every overlap** (unbounded: the characters appended are the whole source string) -/
theorem strcat_s_overlap (cfg : Cfg) (dest dmax src dl : Nat) (st : St)
    (hall : ∀ a, st.mapped a = true ∧ st.rd a = true)
    (hd : dest ≠ 0) (hs : src ≠ 0) (hpos : 0 < dmax) (hle : dmax ≤ RSIZE_MAX_STR) (hrw : RW st dest dmax)
    (hdl : dl < dmax) (hdnz : ∀ j, j < dl → st.data (dest+j) ≠ 0) (hdnul : st.data (dest+dl) = 0)
    (hov : (dest < src ∧ src ≤ dest + dl) ∨
      (dest + dl < src ∧ src < dest + dmax ∧ ∀ j, j < src - (dest + dl) → st.data (src + j) ≠ 0) ∨
      (src ≤ dest ∧ dest - src < dmax - dl ∧ ∀ j, j < dest - src → st.data (src + j) ≠ 0)) :
    ∃ st', exec (strcat_s cfg dest dmax src none) st = .ok (ESOVRLP, st') ∧ OvrlpPost cfg dest dmax st st' :=
  strcatG_overlap _ cfg dest dmax src dl st hall hd hs hpos hle hrw hdl hdnz hdnul hov

/-- **wcscat_s detects every overlap** -/
theorem wcscat_s_overlap (cfg : Cfg) (dest dmax src dl : Nat) (st : St)
    (hall : ∀ a, st.mapped a = true ∧ st.rd a = true)
    (hd : dest ≠ 0) (hs : src ≠ 0) (hpos : 0 < dmax) (hle : dmax ≤ RSIZE_MAX_WSTR) (hrw : RW st dest dmax)
    (hdl : dl < dmax) (hdnz : ∀ j, j < dl → st.data (dest+j) ≠ 0) (hdnul : st.data (dest+dl) = 0)
    (hov : (dest < src ∧ src ≤ dest + dl) ∨
      (dest + dl < src ∧ src < dest + dmax ∧ ∀ j, j < src - (dest + dl) → st.data (src + j) ≠ 0) ∨
      (src ≤ dest ∧ dest - src < dmax - dl ∧ ∀ j, j < dest - src → st.data (src + j) ≠ 0)) :
    ∃ st', exec (wcscat_s cfg dest dmax src none) st = .ok (ESOVRLP, st') ∧ OvrlpPost cfg dest dmax st st' := by
  rw [wcscat_s_eq]
  exact strcatG_overlap _ cfg dest dmax src dl st hall hd hs hpos hle hrw hdl hdnz hdnul hov

/-- non-vacuity: `strncat_s(a, 8, a+1, 3)` with `a = "xyz"` (dl = 3): src inside the dest string -/
example : ∃ st : St, (∀ a, st.mapped a = true ∧ st.rd a = true) ∧ RW st 100 8 ∧
    (∀ j, j < 3 → st.data (100 + j) ≠ 0) ∧ st.data (100 + 3) = 0 ∧ ((100 : Nat) < 101 ∧ 101 ≤ 100 + 3) :=
  ⟨{ data := fun a => if a < 103 then 7 else 0, mapped := fun _ => true, rd := fun _ => true, wr := fun _ => true },
   fun _ => ⟨rfl, rfl⟩, fun _ _ => ⟨rfl, rfl, rfl⟩,
   fun j hj => by
     have h : 100 + j < 103 := by omega
     simp [h],
   by decide, by decide⟩

end SafeC.Props.C07
