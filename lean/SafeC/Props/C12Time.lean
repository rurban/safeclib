import SafeC.Proofs.Footprint
import SafeC.Proofs.InterleaveN
import SafeC.Proofs.FootprintTime
import SafeC.Proofs.CopyDisjoint
/-!
# C12 — `asctime_s` / `ctime_s`

Before 7910d7f both functions staged libc's rendering in a function-`static` `tmp[120]` when `dmax < 120`; the
model (`Models/Time.lean`) takes the staging buffer as the ARGUMENT `text` — an automatic object of the
calling thread in the current tree.  Footprint of one call, from any memory: it loads from `*tm` (twelve
32-bit cells) / `*timer`, from dest and from its own staging buffer (the `n` characters libc rendered and the
terminator), and stores to dest only.  `text = 0` stands for libc returning NULL.
On the direct path (`dmax ≥ 120`: libc writes into dest, the tail measures dest and calls the same-pointer
`strcpy_s`) `text` is libc's rendering; the footprint is the same.  Hence (`asctime_s_reentrant_n`) any number
of concurrent calls with thread-private dest and staging buffers — the `struct tm` / `time_t` objects may be
shared — behave under every schedule as if each ran alone.
-/
namespace SafeC.Props.C12Time
open SafeC Gen

/-- the `n` cells of the object at the non-null pointer `p` -/
def Obj (p n : Nat) (a : Nat) : Prop := p ≠ 0 ∧ Cells p n a

/-- libc's text in the staging buffer: `n` non-NUL characters and the terminator (nothing when NULL) -/
def Text (text n : Nat) (a : Nat) : Prop := text ≠ 0 ∧ text ≤ a ∧ a ≤ text + n

/-- the staging buffer holds a string of `n < 120` characters (glibc: 25) and lies apart from dest -/
def Staged (s : St) (dest dmax text n : Nat) : Prop :=
  (∀ j, j < n → s.data (text + j) ≠ 0) ∧ s.data (text + n) = 0 ∧ n < 120 ∧ Disjoint dest dmax text n

/-- a staged text seen on contents that differ from those of `s` inside dest only: what `timeTail_accs` asks -/
theorem Staged.tail {s : St} {dest dmax text n : Nat} (h : Staged s dest dmax text n) {d' : Nat → Nat}
    (hd' : ∀ a, ¬ Obj dest dmax a → d' a = s.data a) :
    (∀ j, j < n → d' (text + j) ≠ 0) ∧ d' (text + n) = 0 ∧ n < 120 ∧ (120 ≤ dmax → dest + n < text ∨ text + n < dest) := by
  obtain ⟨hnz, hnul, hn, hdisj⟩ := h
  unfold Disjoint at hdisj
  have hout : ∀ j, j ≤ n → d' (text + j) = s.data (text + j) := fun j hj => hd' _ (fun ⟨_, h1, h2⟩ => by omega)
  exact ⟨fun j hj => by rw [hout j (by omega)]; exact hnz j hj, by rw [hout n (Nat.le_refl _)]; exact hnul, hn,
    fun _ => by omega⟩

theorem timeTail_fp (cfg : Cfg) (dest dmax : Nat) (db : Bos) (text n : Nat) (s s' : St)
    (hd : dest ≠ 0) (h26 : 26 ≤ dmax) (htext : text ≠ 0 → Staged s dest dmax text n)
    (hs' : ∀ a, ¬ Obj dest dmax a → s'.data a = s.data a) :
    Within2 (fun a => Obj dest dmax a ∨ Text text n a) (Obj dest dmax) (timeTail cfg dest dmax db text) s' :=
  AccS.within2 (Q := fun _ _ => True) (timeTail_accs cfg dest dmax db text n h26 (fun ht => (htext ht).tail hs')
    (fun ht j hj => Or.inr ⟨ht, by omega, by omega⟩) (fun a ha => Or.inl ⟨hd, ha⟩) (fun a ha => ⟨hd, ha⟩)) s' rfl

/-- **`asctime_s`**, every `dmax`, every object size, every `*tm`. -/
theorem asctime_s_fp (cfg : Cfg) (dest dmax tm : Nat) (db : Bos) (text n : Nat) (s : St)
    (htext : text ≠ 0 → Staged s dest dmax text n) :
    Within2 (fun a => Obj dest dmax a ∨ Obj tm 12 a ∨ Text text n a) (Obj dest dmax)
      (asctime_s cfg dest dmax tm db text) s :=
  AccS.within2 (Q := fun _ _ => True) (asctime_s_accs cfg dest dmax tm db text (fun hd a ha => ⟨hd, ha⟩)
    (fun htm a ha => Or.inr (Or.inl ⟨htm, ha⟩)) fun hd h26 _ d' hd' =>
      timeTail_accs cfg dest dmax db text n h26 (fun ht => (htext ht).tail hd')
        (fun ht j hj => Or.inr (Or.inr ⟨ht, by omega, by omega⟩)) (fun a ha => Or.inl ⟨hd, ha⟩) (fun a ha => ⟨hd, ha⟩)) s rfl

/-- **`ctime_s`**, every `dmax`, every object size, every `*timer`. -/
theorem ctime_s_fp (cfg : Cfg) (dest dmax timer : Nat) (db : Bos) (text n : Nat) (s : St)
    (htext : text ≠ 0 → Staged s dest dmax text n) :
    Within2 (fun a => Obj dest dmax a ∨ Obj timer 1 a ∨ Text text n a) (Obj dest dmax)
      (ctime_s cfg dest dmax timer db text) s :=
  AccS.within2 (Q := fun _ _ => True) (ctime_s_accs cfg dest dmax timer db text false (fun hd a ha => ⟨hd, ha⟩)
    (fun htm => Or.inr (Or.inl ⟨htm, Nat.le_refl _, by omega⟩)) fun hd h26 _ d' hd' =>
      timeTail_accs cfg dest dmax db text n h26 (fun ht => (htext ht).tail hd')
        (fun ht j hj => Or.inr (Or.inr ⟨ht, by omega, by omega⟩)) (fun a ha => Or.inl ⟨hd, ha⟩) (fun a ha => ⟨hd, ha⟩)) s rfl

variable {ι : Type} [DecidableEq ι]

/-- **N concurrent `asctime_s` calls**, any schedule: dest objects pairwise disjoint and
disjoint from every other call's `*tm` and staging buffer (the buffers are automatic objects of the calling
threads; `*tm` may be one shared object).  A call that has returned has returned its run-alone code and its
dest holds its run-alone text. -/
theorem asctime_s_reentrant_n (cfg : Cfg) (dest dmax tm text n : ι → Nat) (db : ι → Bos) (s : St)
    (htext : ∀ i, text i ≠ 0 → Staged s (dest i) (dmax i) (text i) (n i))
    (hpriv : ∀ i j, i ≠ j → ∀ a, Obj (dest i) (dmax i) a →
      ¬ Obj (dest j) (dmax j) a ∧ ¬ Obj (tm j) 12 a ∧ ¬ Text (text j) (n j) a)
    (sch : List ι) (i : ι)
    (hd : ((runPool sch (fun j => (⟨Nat, asctime_s cfg (dest j) (dmax j) (tm j) (db j) (text j)⟩ : Thread)) s).1 i).isDone = true) :
    (runPool sch (fun j => (⟨Nat, asctime_s cfg (dest j) (dmax j) (tm j) (db j) (text j)⟩ : Thread)) s).1 i =
      ⟨Nat, .ret (runT (asctime_s cfg (dest i) (dmax i) (tm i) (db i) (text i)) s).1⟩ ∧
    ∀ a, Obj (dest i) (dmax i) a →
      (runPool sch (fun j => (⟨Nat, asctime_s cfg (dest j) (dmax j) (tm j) (db j) (text j)⟩ : Thread)) s).2.data a =
        (runT (asctime_s cfg (dest i) (dmax i) (tm i) (db i) (text i)) s).2.data a := by
  have h := pool_finished
    (R := fun j a => Obj (dest j) (dmax j) a ∨ Obj (tm j) 12 a ∨ Text (text j) (n j) a)
    (W := fun j => Obj (dest j) (dmax j))
    (fun i j hij a hw => by
      obtain ⟨p1, p2, p3⟩ := hpriv i j hij a hw
      exact ⟨fun hr => hr.elim p1 (fun hr => hr.elim p2 p3), p1⟩)
    sch (fun j => (⟨Nat, asctime_s cfg (dest j) (dmax j) (tm j) (db j) (text j)⟩ : Thread)) s
    (fun j => asctime_s_fp cfg (dest j) (dmax j) (tm j) (db j) (text j) (n j) s (htext j)) i hd
  exact ⟨h.1, fun a ha => h.2 a (Or.inr ha)⟩

/-- non-vacuity of `Staged`: "Thu" + NUL at 200, dest 26 cells at 100 -/
example : Staged { data := fun a => if 200 ≤ a ∧ a < 203 then 65 else 0, mapped := fun _ => false,
                   rd := fun _ => false, wr := fun _ => false } 100 26 200 3 :=
  ⟨fun j hj => by simp; omega, by simp, by omega, Or.inl (by omega)⟩

end SafeC.Props.C12Time
