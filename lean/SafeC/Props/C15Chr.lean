import SafeC.Props.C15
/-!
# C15 — `wctomb_s`: the general theorem (twin of `wcrtomb_s_C15`)

`wctomb_s` differs from `wcrtomb_s` in three places, all visible in the statement: `*retvalp` is an `int` (−1 is modelled
as `none`, stored as `SIZE_MAX`), the success test is `len > 0 && len < dmax`, and the build without
SAFECLIB_STR_NULL_SLACK stores NO terminator (the C has only the `memset` under `#ifdef`), so `Delivered … term` holds with
`term = cfg.slack`.
-/
namespace SafeC.Props.C15
open SafeC.Conv SafeC.Gen

/-- libc's `wctomb` into a buffer: either −1 (nothing stored) or a positive count = the number of bytes stored -/
theorem wctomb_shape (loc : Locale) (wc : Nat) :
    ((Libc.wctomb loc false wc).2.1 = none) ∨
      (∃ n, (Libc.wctomb loc false wc).2.1 = some n ∧ 0 < n ∧ (Libc.wctomb loc false wc).1.length = n ∧ n ≤ 6) := by
  simp only [Libc.wctomb, Libc.wcrtomb, Bool.false_eq_true, ↓reduceIte]
  split
  · right; exact ⟨1, by simp [SIZE_MAX], by omega, by simp, by omega⟩
  · split
    · left; simp
    · rename_i bs hb
      right
      have hpos := Libc.enc_length_pos loc wc bs hb
      have h6 := Libc.enc_length_le loc wc bs hb
      have hne : ¬ bs.length = SIZE_MAX := by simp only [SIZE_MAX]; omega
      exact ⟨bs.length, by simp [hne], hpos, rfl, h6⟩

/-- **wctomb_s = wctomb when the character fits**: for every wide character (valid or not), locale, dmax, dest: if libc's
byte count is `< dmax` the call returns EOK, stores that count through `retvalp`, dest holds exactly libc's bytes (followed
by zeros up to dmax in the slack build; the other build stores no terminator), nothing outside `dest[0..dmax)`; in every
other case (no room, or −1) the handler is called once with the code returned, dest is cleared, `*retvalp` = libc's value -/
theorem wctomb_s_C15 (cfg : Cfg) (a : CArgs) {cells} (hs : SaneC a cells) :
    let bs := (Libc.wctomb cfg.loc false a.wc).1
    let n? := (Libc.wctomb cfg.loc false a.wc).2.1
    (∀ n, n? = some n → n < a.dmax → Delivered (wctomb_s cfg a) cells a.dmax ⟨bs, n, none, [], false⟩ cfg.slack) ∧
    ((n? = none ∨ ∃ n, n? = some n ∧ ¬ n < a.dmax) →
      Reported (wctomb_s cfg a) cells a.dmax cfg.slack ∧ (wctomb_s cfg a).retval = some (n?.getD SIZE_MAX) ∧
      (cfg.fx.rc = true → (wctomb_s cfg a).ret = if n? = none then EILSEQ else ESNOSPC)) := by
  intro bs n?
  have hsh := wctomb_shape cfg.loc a.wc
  rw [wctomb_s_eq cfg a hs.rv (entryC_eq_none a hs.dest hs.dpos hs.dmaxle hs.bos) hs.dest bs n? (Libc.wctomb cfg.loc false a.wc).2.2 rfl]
  constructor
  · intro n hn hlt
    have hn' : (Libc.wctomb cfg.loc false a.wc).2.1 = some n := hn
    obtain ⟨n', hn2, hpos, hlen, _⟩ := hsh.resolve_left (by rw [hn']; simp)
    rw [hn'] at hn2; cases hn2
    have hlen' : bs.length = n := hlen
    simp only [hn, Option.getD_some]
    rw [if_pos (by simp; omega)]
    cases hsl : cfg.slack with
    | true =>
      exact .of_zeroed (r := ⟨bs, n, none, [], false⟩) rfl rfl rfl rfl (Nat.le_of_eq hlen'.symm)
        (by show bs.length ≤ n + 1; omega) (by omega) (by show n + _ ≤ _; omega) hs.truthful
    | false =>
      exact .of_stored (r := ⟨bs, n, none, [], false⟩) rfl rfl rfl rfl (Nat.le_of_eq hlen'.symm)
        (by show bs.length ≤ _; omega) hs.truthful
  · intro hcase
    rw [if_neg (by rcases hcase with h | ⟨n, h, hn⟩
                   · simp [h]
                   · simp [h, hn])]
    refine ⟨.of_cleared rfl rfl hs.dpos hs.truthful, rfl, fun hrc => ?_⟩
    rcases hcase with h | ⟨n, h, hn⟩
    · simp [hrc, h]
    · have h' : (Libc.wctomb cfg.loc false a.wc).2.1 = some n := h
      obtain ⟨n', hn2, hpos, _, _⟩ := hsh.resolve_left (by rw [h']; simp)
      rw [h'] at hn2; cases hn2
      have hz : ¬ n = 0 := by omega
      simp [hrc, h, hz]

/-- the hypotheses are satisfiable on every branch: U+20AC has count 3 (fits `dmax = 4`, does not fit `dmax = 3`), a surrogate gives −1 -/
example : (Libc.wctomb .UTF8 false 0x20AC).2.1 = some 3 ∧ (Libc.wctomb .UTF8 false 0xD800).2.1 = none := by decide

end SafeC.Props.C15
