import SafeC.Props.C09
import SafeC.Props.C09Gram
import SafeC.Proofs.FmtEngine
import SafeC.Proofs.PrintfN
import SafeC.Proofs.PrintfFrame
/-!
# C09 — the engine-based entry points (`sprintf_s vsprintf_s snprintf_s vsnprintf_s printf_s fprintf_s vfprintf_s`)

Two models of `safec_vsnprintf_s`:
* `SafeC.Fmt.engine` (Models/Fmt.lean) — the directive parser alone (what the C09 correspondence run compares with the C:
  "rejected == prescan or the parser stops");
* `SafeC.Printf.engine` (Models/Printf.lean, shared with C11) — arguments, output, run-time failures, the wrappers.

Proved here, for EVERY format and EVERY argument list (induction over the format):
1. on the grammar of the standard the parser stops in `case 'n'` exactly when there is an `n` conversion
   (`engine_gram_exact`; the one other stop on a grammatical format is `%L` + integer conversion);
2. whenever the parser model stops, the full engine takes an error exit (`full_engine_rejects`), and every error exit
   `return`s a negative value (`full_engine_error_negative`);
3. the full engine stores into `dest[0..bufsize)` and the stream only (`full_engine_frame`) — its state has no other
   memory, and the arguments are values it only reads: there is no store through an argument to be had;
4. the wrappers: a format with an `n` conversion gives a negative return with dest cleared, or a call on which the model
   has no answer (`Rejected`, `ret = none`: an argument of the wrong type, a floating conversion in front)
   (`vsnprintf_s_n`, `vsprintf_s_n`, `sprintf_s_n`, `streamPrintf_n`, and `engine_family_C09*`).
-/
namespace SafeC.Props.C09
open SafeC.Fmt SafeC.Fmt.Gram SafeC.Gen

/-! ## 1. the directive parser on the grammar -/

/-- the engine on a format of the grammar: `case 'n'` iff there is an `n` conversion, unless `%L` + integer
    conversion stopped it before; never the `default:` exit -/
theorem engine_gram_exact (fmt : Str) (b : Bool) (h : PParse fmt b) :
    SafeC.Fmt.engine fmt = some .illegalLInt ∨ SafeC.Fmt.engine fmt = (if b then some .illegalN else none) := by
  simpa [SafeC.Fmt.engine] using engLoop_gram h fmt.length (Nat.le_refl _)

/-- every format of the grammar with an `n` conversion is rejected by the engine: any flags, width, precision, length
    modifier, `%%`, text before and after -/
theorem engine_rejects_gram (fmt : Str) (h : PHasN fmt) : engineRejects fmt = true := by
  rcases engine_gram_exact fmt true h with e | e <;> simp [engineRejects, e]

example : engineRejects "ab%5.3lld%%%-08.*hhn x".toList = true :=
  engine_rejects_gram _ (pparse_of_check (by decide +kernel))

/-- a grammatical format without `n` conversion that the engine rejects all the same: `L` with an integer conversion
    (undefined in the standard) -/
theorem engine_gram_LInt_witness :
    PParse ['%', 'L', 'd'] false ∧ SafeC.Fmt.engine ['%', 'L', 'd'] = some .illegalLInt :=
  ⟨PParse.conv (d := ⟨[], [], [], ['L']⟩) (c := 'd') (by decide) (by decide) PParse.nil, by decide⟩

/-- **the model the correspondence run compares** (`enginePrintfRejects` = pre-scan or parser stop) on the grammar: a format
    is rejected iff it has an `n` conversion or the parser stopped on `%L` + integer conversion — sound and complete -/
theorem engine_entry_gram_exact (fmt : Str) (b : Bool) (h : PParse fmt b) :
    enginePrintfRejects fmt = true ↔ (b = true ∨ SafeC.Fmt.engine fmt = some .illegalLInt) := by
  cases b with
  | true =>
    have := engine_rejects_gram fmt h
    simp [enginePrintfRejects, this]
  | false =>
    have hp := prescan_sound_printf fmt h
    rcases engine_gram_exact fmt false h with e | e <;> simp [enginePrintfRejects, engineRejects, hp, e]

/-! ## 2. the full engine takes the error exit -/

/-- whenever the directive-parser model stops on a format, the full engine (arguments, output, run-time failures)
    takes an error exit — every argument list, sink, buffer size, start state and repair configuration -/
theorem full_engine_rejects (fmt : Str) (h : engineRejects fmt = true) (fx : SafeC.Printf.Fixes) (sk : SafeC.Printf.Sink)
    (bufsize : Nat) (args : List SafeC.Printf.Arg) (s : SafeC.Printf.St) :
    ∃ e, SafeC.Printf.engine fx sk bufsize fmt args s = .error e :=
  SafeC.Printf.engine_error_of_rejects fx sk bufsize fmt args s h

/-- the full engine never returns normally from a format with an `n` conversion — grammar of the standard -/
theorem full_engine_n_gram (fmt : Str) (h : PHasN fmt) (fx : SafeC.Printf.Fixes) (sk : SafeC.Printf.Sink)
    (bufsize : Nat) (args : List SafeC.Printf.Arg) (s : SafeC.Printf.St) :
    ∃ e, SafeC.Printf.engine fx sk bufsize fmt args s = .error e :=
  full_engine_rejects fmt (engine_rejects_gram fmt h) fx sk bufsize args s

/-- … — glibc's grammar (positional arguments, `'` and `I` flags, `q Z` modifiers), for ANY character string -/
theorem full_engine_n_libc (fmt : Str) (h : libcPrintfStoresN fmt = true) (fx : SafeC.Printf.Fixes) (sk : SafeC.Printf.Sink)
    (bufsize : Nat) (args : List SafeC.Printf.Arg) (s : SafeC.Printf.St) :
    ∃ e, SafeC.Printf.engine fx sk bufsize fmt args s = .error e :=
  full_engine_rejects fmt (engine_rejects_n fmt h) fx sk bufsize args s

/-- every value the full engine `return`s on an error exit is negative (the current tree: `fx.lcMemcpy`) -/
theorem full_engine_error_negative (fx : SafeC.Printf.Fixes) (hfx : fx.lcMemcpy = true) (sk : SafeC.Printf.Sink)
    (bufsize : Nat) (hb : 0 < bufsize) (fmt : Str) (args : List SafeC.Printf.Arg) (s : SafeC.Printf.St) (v : Int)
    (h : SafeC.Printf.engine fx sk bufsize fmt args s = .error (.ret v)) : v < 0 :=
  (SafeC.Printf.engine_good fx hfx sk bufsize hb fmt args s).neg v h

/-! ## 3. where the full engine stores -/

/-- a normal return of the full engine has changed cells of `dest` below `bufsize` and appended to the stream; nothing
    else exists in the state of the model, and the arguments are read-only values -/
theorem full_engine_frame (fx : SafeC.Printf.Fixes) (hfx : fx.lcMemcpy = true) (sk : SafeC.Printf.Sink)
    (bufsize : Nat) (hb : 0 < bufsize) (fmt : Str) (args : List SafeC.Printf.Arg) (s s' : SafeC.Printf.St)
    (h : SafeC.Printf.engine fx sk bufsize fmt args s = .ok s') :
    s'.cells.length = s.cells.length ∧ (∀ i, bufsize ≤ i → s'.cells[i]? = s.cells[i]?) ∧ s.stream <+: s'.stream :=
  let f := (SafeC.Printf.engine_good fx hfx sk bufsize hb fmt args s).frame s' h
  ⟨f.len, f.out, f.str⟩

example : SafeC.Printf.engine SafeC.Printf.current .buffer 8 "a%5d%%".toList [.int 42] ⟨0, List.replicate 12 'x', []⟩ =
    .ok ⟨7, "a   42%\x00xxxx".toList, []⟩ := by rfl

/-- the tree before aebf026 (`%lc` copied two bytes to `buffer[0]` whatever `bufsize` was): a store beyond `bufsize` -/
theorem full_engine_frame_lc_witness :
    ∃ s', SafeC.Printf.engine SafeC.Printf.Fixes.none .buffer 1 ['%', 'l', 'c'] [.int 65] ⟨0, ['x', 'y'], []⟩ = .ok s' ∧
      s'.cells[1]? ≠ some 'y' :=
  ⟨⟨1, ['\x00', '\x00'], []⟩, by rfl, by decide⟩

/-! ## 4. the entry points -/

/-- dest after `handle_error` / the `ret < 0` branch of `_vsnprintf_s_chk` (334ee1c): all zero with
    SAFECLIB_STR_NULL_SLACK, `dest[0] = 0` without -/
def cleared (slack : Bool) (dmax : Nat) (init : List Char) : List Char :=
  if slack then SafeC.Printf.zeros dmax else init.set 0 '\x00'

/-- what a rejected call looks like; `ret = none`: the model does not say (an argument of the wrong type or missing —
    undefined in C — or a floating conversion in front of the failing directive, which Models/Printf.lean does not model) -/
def Rejected (slack : Bool) (dmax : Nat) (init : List Char) (r : SafeC.Printf.Result) : Prop :=
  r.ret = none ∨ ∃ v, r.ret = some v ∧ v < 0 ∧ r.cells = cleared slack dmax init ∧ r.stream = []

theorem vsnprintf_s_n (fx : SafeC.Printf.Fixes) (hfx : fx.lcMemcpy = true) (slack : Bool) (dmax : Nat) (init : List Char)
    (fmt : Str) (args : List SafeC.Printf.Arg) (h0 : dmax ≠ 0) (h1 : dmax ≤ RSIZE_MAX_STR)
    (hn : prescan fmt = true ∨ engineRejects fmt = true) :
    Rejected slack dmax init (SafeC.Printf.vsnprintf_s fx slack dmax init fmt args) := by
  unfold SafeC.Printf.vsnprintf_s
  rw [if_neg h0, if_neg (Nat.not_lt.mpr h1)]
  by_cases hp : prescan fmt = true
  · rw [if_pos hp]
    exact Or.inr ⟨_, rfl, by decide, rfl, rfl⟩
  · rw [if_neg hp]
    obtain ⟨e, he⟩ := full_engine_rejects fmt (hn.resolve_left hp) fx .buffer dmax args ⟨0, init, []⟩
    rw [he]
    cases e with
    | ret v =>
      exact Or.inr ⟨v, rfl, full_engine_error_negative fx hfx .buffer dmax (Nat.pos_of_ne_zero h0) fmt args _ v he, rfl, rfl⟩
    | fault => exact Or.inl rfl
    | stuck => exact Or.inl rfl
    | unmodelled => exact Or.inl rfl

theorem vsprintf_s_n (fx : SafeC.Printf.Fixes) (hfx : fx.lcMemcpy = true) (slack : Bool) (dmax : Nat) (init : List Char)
    (fmt : Str) (args : List SafeC.Printf.Arg) (h0 : dmax ≠ 0) (h1 : dmax ≤ RSIZE_MAX_STR)
    (hn : prescan fmt = true ∨ engineRejects fmt = true) :
    Rejected slack dmax init (SafeC.Printf.vsprintf_s fx slack dmax init fmt args) := by
  have h := vsnprintf_s_n fx hfx slack dmax init fmt args h0 h1 hn
  unfold SafeC.Printf.vsprintf_s
  rcases h with h | ⟨v, hv, hneg, hc, hs⟩
  · simp only [h]; exact Or.inl h
  · simp only [hv]
    have : ¬ (dmax ≠ 0 ∧ v ≥ (dmax : Int)) := by omega
    rw [if_neg this]
    exact Or.inr ⟨v, hv, hneg, hc, hs⟩

theorem sprintf_s_n (fx : SafeC.Printf.Fixes) (hfx : fx.lcMemcpy = true) (slack : Bool) (dmax : Nat) (init : List Char)
    (fmt : Str) (args : List SafeC.Printf.Arg) (h0 : dmax ≠ 0) (h1 : dmax ≤ RSIZE_MAX_STR)
    (hn : prescan fmt = true ∨ engineRejects fmt = true) :
    Rejected slack dmax init (SafeC.Printf.sprintf_s fx slack dmax init fmt args) := by
  unfold SafeC.Printf.sprintf_s
  split
  · exact vsprintf_s_n fx hfx slack dmax init fmt args h0 h1 hn
  · exact vsnprintf_s_n fx hfx slack dmax init fmt args h0 h1 hn

/-- `printf_s` (sink `char`), `fprintf_s` / `vfprintf_s` (sink `fchar`) -/
theorem streamPrintf_n (fx : SafeC.Printf.Fixes) (hfx : fx.lcMemcpy = true) (sk : SafeC.Printf.Sink)
    (fmt : Str) (args : List SafeC.Printf.Arg) (hn : prescan fmt = true ∨ engineRejects fmt = true) :
    let r := SafeC.Printf.streamPrintf fx sk fmt args
    r.ret = none ∨ ∃ v, r.ret = some v ∧ v < 0 ∧ r.stream = [] := by
  unfold SafeC.Printf.streamPrintf
  by_cases hp : prescan fmt = true
  · rw [if_pos hp]
    exact Or.inr ⟨_, rfl, by decide, rfl⟩
  · rw [if_neg hp]
    obtain ⟨e, he⟩ := full_engine_rejects fmt (hn.resolve_left hp) fx sk (2 ^ 64 - 1) args ⟨0, [], []⟩
    rw [he]
    cases e with
    | ret v =>
      exact Or.inr ⟨v, rfl, full_engine_error_negative fx hfx sk (2 ^ 64 - 1) (by decide) fmt args _ v he, rfl⟩
    | fault => exact Or.inl rfl
    | stuck => exact Or.inl rfl
    | unmodelled => exact Or.inl rfl

/-- **C09 for the engine-based entry points, grammar of the standard**: a format that contains an `n` conversion — any
    flags, width, precision, length modifier, `%%`, text before and after — is rejected (negative return, dest cleared)
    by the tree as it is (`Printf.current`), for every argument list; nothing is stored through an argument (`full_engine_frame`) -/
theorem engine_family_C09 (slack : Bool) (dmax : Nat) (init : List Char) (fmt : Str) (args : List SafeC.Printf.Arg)
    (h0 : dmax ≠ 0) (h1 : dmax ≤ RSIZE_MAX_STR) (hn : PHasN fmt) :
    Rejected slack dmax init (SafeC.Printf.vsnprintf_s SafeC.Printf.current slack dmax init fmt args) ∧
    Rejected slack dmax init (SafeC.Printf.vsprintf_s SafeC.Printf.current slack dmax init fmt args) ∧
    Rejected slack dmax init (SafeC.Printf.sprintf_s SafeC.Printf.current slack dmax init fmt args) :=
  have hr := Or.inr (engine_rejects_gram fmt hn)
  ⟨vsnprintf_s_n _ rfl slack dmax init fmt args h0 h1 hr, vsprintf_s_n _ rfl slack dmax init fmt args h0 h1 hr,
   sprintf_s_n _ rfl slack dmax init fmt args h0 h1 hr⟩

/-- the same for ANY character string in which glibc's printf grammar finds an `n` conversion -/
theorem engine_family_C09_libc (slack : Bool) (dmax : Nat) (init : List Char) (fmt : Str) (args : List SafeC.Printf.Arg)
    (h0 : dmax ≠ 0) (h1 : dmax ≤ RSIZE_MAX_STR) (hn : libcPrintfStoresN fmt = true) :
    Rejected slack dmax init (SafeC.Printf.vsnprintf_s SafeC.Printf.current slack dmax init fmt args) ∧
    Rejected slack dmax init (SafeC.Printf.vsprintf_s SafeC.Printf.current slack dmax init fmt args) ∧
    Rejected slack dmax init (SafeC.Printf.sprintf_s SafeC.Printf.current slack dmax init fmt args) :=
  have hr := Or.inr (engine_rejects_n fmt hn)
  ⟨vsnprintf_s_n _ rfl slack dmax init fmt args h0 h1 hr, vsprintf_s_n _ rfl slack dmax init fmt args h0 h1 hr,
   sprintf_s_n _ rfl slack dmax init fmt args h0 h1 hr⟩

/-- stream variants -/
theorem engine_family_C09_stream (sk : SafeC.Printf.Sink) (fmt : Str) (args : List SafeC.Printf.Arg)
    (hn : PHasN fmt ∨ libcPrintfStoresN fmt = true) :
    (SafeC.Printf.streamPrintf SafeC.Printf.current sk fmt args).ret = none ∨
    ∃ v, (SafeC.Printf.streamPrintf SafeC.Printf.current sk fmt args).ret = some v ∧ v < 0 ∧
      (SafeC.Printf.streamPrintf SafeC.Printf.current sk fmt args).stream = [] :=
  streamPrintf_n _ rfl sk fmt args (Or.inr (hn.elim (engine_rejects_gram fmt) (engine_rejects_n fmt)))

/-- the hypotheses are satisfiable and the conclusion is the second disjunct on a well-typed call -/
example : (SafeC.Printf.vsnprintf_s SafeC.Printf.current true 8 "xxxxxxxx".toList "a%d%ln".toList [.int 7, .ptr 0]).ret = some (-1) ∧
    (SafeC.Printf.vsnprintf_s SafeC.Printf.current true 8 "xxxxxxxx".toList "a%d%ln".toList [.int 7, .ptr 0]).cells =
      SafeC.Printf.zeros 8 := by decide +kernel

end SafeC.Props.C09
