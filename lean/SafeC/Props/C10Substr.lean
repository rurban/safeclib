import SafeC.Props.C10
import SafeC.Proofs.QueryNested
/-!
# C10: substring and set searches

`strstr_s strcasestr_s wcsstr_s strpbrk_s`.

Setting as in `C10.lean`.  The needle is the string at `src` cut at `slen` characters
(`scanLen d src slen` cells); the answer is `findSub` (`SafeC/Spec/Query.lean`): the first
occurrence of the needle lying entirely inside the first `dmax` cells of `dest`, the search ending at
`dest`'s terminator.  All outer loops are `while (*dest && dmax)` and the inner ones test
`src[i]` / `dest[i]` before the remaining length: cells `dest[dmax]`, `src[slen]` may be read (known
findings `read-before-bound`, `read-src-past-slen`); the theorems hold for every content of those cells.
-/
namespace SafeC.Props.C10
open SafeC Gen

/-- **strstr_s**: the first occurrence, inside the first `dmax` characters of `dest`, of the string
`src` cut at `slen` characters; ESNOTFND if there is none — for ALL `slen` up to the limit, also
above `dmax` (where the code consults the unbounded `strlen` of both operands) -/
theorem strstr_s_C10 (dest dmax src slen : Nat) (st : St) (hall : AllRd st)
    (hd : dest ≠ 0) (hs : src ≠ 0) (hpos : 0 < dmax) (hle : dmax ≤ RSIZE_MAX_STR)
    (hspos : 0 < slen) (hsle : slen ≤ RSIZE_MAX_STR) :
    exec (strstr_s dest dmax src slen none none) st =
      .ok ((match findSub id st.data src (scanLen st.data src slen) dest dmax with
            | some i => (EOK, dest + i) | none => (ESNOTFND, 0)), st) := by
  unfold strstr_s
  have h3 : ¬ slen = 0 := by omega
  have hfu : RSIZE_MAX_STR < scanFuel := by decide
  simp only [qChkS_ok hd (mt Option.some.inj hs) hpos hle, qChkSlenS_ok hsle, exec_bind, exec_pure]
  -- the needle length, and what the early exit knows
  have hm := scanLen_min st.data src slen scanFuel (by omega)
  have hdl := scanLen_min st.data dest dmax scanFuel (by omega)
  have hcells := scanLen_nonzero st.data src slen
  -- continuation after the early test
  have cont : scanLen st.data src slen ≤ dmax →
      exec (do
        let s0 ← load src
        if s0 = 0 ∨ dest = src then pure (EOK, dest)
        else if slen = 0 then do handlerS ESZEROL; pure (ESZEROL, 0)
        else strstrOuter src slen dmax dest) st =
      .ok ((match findSub id st.data src (scanLen st.data src slen) dest dmax with
            | some i => (EOK, dest + i) | none => (ESNOTFND, 0)), st) := by
    intro hmle
    simp only [exec_bind, exec_load_all hall]
    obtain ⟨n, rfl⟩ : ∃ n, dmax = n + 1 := ⟨dmax - 1, by omega⟩
    by_cases hc : st.data src = 0 ∨ dest = src
    · simp only [hc, if_true, exec_pure]
      simp [findSub_shortcut id st.data src slen dest n hc (fun _ => hmle)]
    · simp only [hc, h3, if_false]
      have hs0 : st.data src ≠ 0 := fun hh => hc (Or.inl hh)
      exact strstrOuter_eq hall src slen (n+1) dest hspos hs0
  by_cases hgt : slen > dmax
  · simp only [hgt, if_true, exec_bind, strlenP_eq hall, Nat.zero_add, exec_pure]
    by_cases hearly : scanLen st.data src scanFuel > dmax ∨ scanLen st.data src scanFuel > scanLen st.data dest scanFuel
    · simp only [hearly, decide_true, if_true, exec_pure]
      have : findSub id st.data src (scanLen st.data src slen) dest dmax = none := by
        by_cases he' : scanLen st.data src scanFuel > dmax
        · exact findSub_short _ _ _ _ _ _ (by omega)
        · exact findSub_short_haystack _ _ _ _ _ hcells (by omega)
      simp [this]
    · simp only [hearly, decide_false, Bool.false_eq_true, if_false]
      exact cont (by omega)
  · simp only [hgt, if_false, exec_pure, Bool.false_eq_true]
    exact cont (by have := scanLen_le st.data src slen; omega)

/-- what `findSub` means -/
theorem findSub_spec (f : Nat → Nat) (d : Nat → Nat) (q m p n : Nat) :
    (∀ i, findSub f d q m p n = some i →
      i + m ≤ n ∧ subAt f d (p+i) q m = true ∧ ∀ k, k < i → d (p+k) ≠ 0 ∧ subAt f d (p+k) q m = false) ∧
    (findSub f d q m p n = none →
      ∀ i, i + m ≤ n → i < n → (∀ k, k < i → d (p+k) ≠ 0) → subAt f d (p+i) q m = false) :=
  ⟨fun i => findSub_some f d q m p n i, findSub_none f d q m p n⟩

/-- what `subAt` means -/
theorem subAt_spec (f : Nat → Nat) (d : Nat → Nat) (p q m : Nat) :
    subAt f d p q m = true ↔ ∀ j, j < m → f (d (p+j)) = f (d (q+j)) := subAt_iff f d p q m

example : ∃ st : St, AllRd st ∧ findSub id st.data 200 (scanLen st.data 200 4) 100 4 = some 1 :=
  ⟨wMem fun a => if a = 100 then 97 else if a = 101 then 98 else if a = 102 then 99 else if a = 200 then 98 else
      if a = 201 then 99 else 0, wMem_all _, by decide⟩

/-! ## strcasestr_s

FULL statement (false of the code): *the same with characters compared after `toupper`, for all
`slen` up to the limit.*  The code turns `slen > dmax` into ESNOTFND through the handler. -/

/-- **strcasestr_s, partial** (`slen ≤ dmax`): the first occurrence ignoring case -/
theorem strcasestr_s_C10_partial (dest dmax src slen : Nat) (st : St) (hall : AllRd st)
    (hd : dest ≠ 0) (hs : src ≠ 0) (hpos : 0 < dmax) (hle : dmax ≤ RSIZE_MAX_STR)
    (hspos : 0 < slen) (hsle : slen ≤ dmax) :
    exec (strcasestr_s dest dmax src slen none none) st =
      .ok ((match findSub toUpperC st.data src (scanLen st.data src slen) dest dmax with
            | some i => (EOK, dest + i) | none => (ESNOTFND, 0)), st) := by
  unfold strcasestr_s
  have h3 : ¬ slen = 0 := by omega
  have h4 : ¬ slen > dmax := by omega
  simp only [qChkS_ok hd (mt Option.some.inj hs) hpos hle, h3, h4, if_false, exec_bind, exec_pure, Bool.false_eq_true, exec_load_all hall]
  obtain ⟨n, rfl⟩ : ∃ n, dmax = n + 1 := ⟨dmax - 1, by omega⟩
  have hmle : scanLen st.data src slen ≤ n + 1 := by have := scanLen_le st.data src slen; omega
  by_cases hc : st.data src = 0 ∨ dest = src
  · simp only [hc, if_true, exec_pure]
    simp [findSub_shortcut toUpperC st.data src slen dest n hc (fun _ => hmle)]
  · simp only [hc, if_false]
    have hs0 : st.data src ≠ 0 := fun hh => hc (Or.inl hh)
    exact strcasestrOuter_eq hall src slen (n+1) dest hspos hs0

/-- `dest = "ab"` (`dmax = 2`), `src = "B"` with `slen = 3`: the needle occurs at offset 1, the code
calls the handler and returns ESNOTFND.  Known finding `strcasestr-slen-gt-dmax`. -/
theorem strcasestr_s_slen_witness :
    let st := wMem fun a => if a = 100 then 97 else if a = 101 then 98 else if a = 200 then 66 else 0
    exec (strcasestr_s 100 2 200 3 none none) st =
      .ok ((ESNOTFND, 0), { st with events := st.events ++ [.handler .str ESNOTFND] }) ∧
    findSub toUpperC st.data 200 (scanLen st.data 200 3) 100 2 = some 1 := by
  intro st
  constructor
  · unfold strcasestr_s qChkS
    simp [exec_bind, handlerS, RSIZE_MAX_STR]
  · decide

example : ∃ st : St, AllRd st ∧ findSub toUpperC st.data 200 (scanLen st.data 200 2) 100 4 = some 1 :=
  ⟨wMem fun a => if a = 100 then 97 else if a = 101 then 98 else if a = 102 then 99 else if a = 200 then 66 else
      if a = 201 then 67 else 0, wMem_all _, by decide⟩

/-! ## wcsstr_s

FULL statement (false of the code): *as `strstr_s`, on wide elements.*  The shortcut
`*src == 0 || dest == src` answers "found at `dest`" before anything else: for `dest == src` also
when the needle (cut at `slen`) is LONGER than the `dmax` elements of the haystack. -/

/-- **wcsstr_s, partial** (`dest ≠ src`, or the needle fits into `dmax` elements) -/
theorem wcsstr_s_C10_partial (dest dmax src slen : Nat) (st : St) (hall : AllRd st)
    (hd : dest ≠ 0) (hs : src ≠ 0) (hpos : 0 < dmax) (hle : dmax ≤ RSIZE_MAX_WSTR)
    (hspos : 0 < slen) (hsle : slen ≤ RSIZE_MAX_WSTR)
    (hfit : dest ≠ src ∨ scanLen st.data src slen ≤ dmax) :
    exec (wcsstr_s dest dmax src slen none none) st =
      .ok ((match findSub id st.data src (scanLen st.data src slen) dest dmax with
            | some i => (EOK, dest + i) | none => (ESNOTFND, 0)), st) := by
  unfold wcsstr_s
  have h1 : ¬ dmax = 0 := by omega
  have h2 : ¬ dmax > RSIZE_MAX_WSTR := by omega
  have h3 : ¬ slen = 0 := by omega
  have h4 : ¬ slen > RSIZE_MAX_WSTR := by omega
  simp only [hd, hs, h1, h2, if_false, exec_bind, exec_load_all hall]
  obtain ⟨n, rfl⟩ : ∃ n, dmax = n + 1 := ⟨dmax - 1, by omega⟩
  by_cases hc : st.data src = 0 ∨ dest = src
  · simp only [hc, if_true, exec_pure]
    simp [findSub_shortcut id st.data src slen dest n hc (fun e => hfit.resolve_left (fun hh => hh e))]
  · simp only [hc, h3, h4, if_false]
    have hs0 : st.data src ≠ 0 := fun hh => hc (Or.inl hh)
    exact wcsstrOuter_eq hall src slen (n+1) dest hspos hs0

/-- `dest == src == L"abc"`, `dmax = 2`, `slen = 3`: the needle `L"abc"` does not fit into the two
elements of the haystack, the code answers EOK / `dest`.  (Not among the known findings: a corner of
the `dest == src` shortcut.) -/
theorem wcsstr_s_same_witness :
    let st := wMem fun a => if a = 100 then 97 else if a = 101 then 98 else if a = 102 then 99 else 0
    exec (wcsstr_s 100 2 100 3 none none) st = .ok ((EOK, 100), st) ∧
    findSub id st.data 100 (scanLen st.data 100 3) 100 2 = none := by
  intro st
  constructor
  · have hall : AllRd st := wMem_all _
    unfold wcsstr_s
    simp [exec_bind, exec_load_all hall, RSIZE_MAX_WSTR]
  · decide

example : ∃ st : St, AllRd st ∧ (100 ≠ 200 ∨ scanLen st.data 200 4 ≤ 4) ∧
    findSub id st.data 200 (scanLen st.data 200 4) 100 4 = some 1 :=
  ⟨wMem fun a => if a = 100 then 97 else if a = 101 then 98 else if a = 102 then 99 else if a = 200 then 98 else
      if a = 201 then 99 else 0, wMem_all _, by decide, by decide⟩

/-! ## strpbrk_s

FULL statement (false of the code): *the first character of `dest` (before its terminator, at most
`dmax`) that occurs in the string `src` cut at `slen` characters; ESNOTFND if none.*  The inner loop
compares BEFORE it tests `len`, and running out of `len` ends the whole search. -/

/-- what `strpbrk_s` computes on ANY memory: the loops as pure functions -/
theorem strpbrk_s_eq (cfg : Cfg) (dest dmax src slen : Nat) (st : St) (hall : AllRd st)
    (hd : dest ≠ 0) (hs : src ≠ 0) (hpos : 0 < dmax) (hle : dmax ≤ RSIZE_MAX_STR)
    (hspos : 0 < slen) (hsle : slen ≤ RSIZE_MAX_STR) :
    exec (strpbrk_s cfg dest dmax src slen none none) st =
      .ok ((match pbrkOuterF st.data src slen dest dmax with
            | some i => (EOK, dest + i) | none => (ESNOTFND, 0)), st) := by
  unfold strpbrk_s
  have h3 : ¬ slen = 0 := by omega
  have h4 : ¬ slen > RSIZE_MAX_STR := by omega
  simp only [qChkS_ok hd (mt Option.some.inj hs) hpos hle, h3, h4, if_false, exec_bind, exec_pure]
  exact strpbrkOuter_code_eq hall _ _ _ _

/-- **strpbrk_s, partial** (the set string ends within `slen` characters or exactly at `src[slen]`):
the first character of `dest` that is in the set -/
theorem strpbrk_s_C10_partial (cfg : Cfg) (dest dmax src slen : Nat) (st : St) (hall : AllRd st)
    (hd : dest ≠ 0) (hs : src ≠ 0) (hpos : 0 < dmax) (hle : dmax ≤ RSIZE_MAX_STR)
    (hspos : 0 < slen) (hsle : slen ≤ RSIZE_MAX_STR)
    (hz : st.data (src + scanLen st.data src slen) = 0) :
    exec (strpbrk_s cfg dest dmax src slen none none) st =
      .ok ((match firstIn st.data src slen dest dmax with
            | some i => (EOK, dest + i) | none => (ESNOTFND, 0)), st) := by
  rw [strpbrk_s_eq cfg dest dmax src slen st hall hd hs hpos hle hspos hsle, pbrkOuterF_term _ _ _ _ _ hz]

/-- what `firstIn` means -/
theorem firstIn_spec (d : Nat → Nat) (src slen p n : Nat) :
    (∀ i, firstIn d src slen p n = some i →
      i < scanLen d p n ∧ inSet d (d (p+i)) src slen = true ∧ ∀ k, k < i → inSet d (d (p+k)) src slen = false) ∧
    (firstIn d src slen p n = none → ∀ k, k < scanLen d p n → inSet d (d (p+k)) src slen = false) := by
  rw [firstIn_eq_leastO]
  exact ⟨fun i h => by simpa using leastO_some h, fun h => by simpa using leastO_none h⟩

/-- a character BEHIND `slen` matches: `dest = "b"`, `src = "ab"` with `slen = 1` (the set is `{a}`):
EOK, `dest`.  Known finding `strpbrk-slen` (found-but-absent). -/
theorem strpbrk_s_beyond_witness (cfg : Cfg) :
    let st := wMem fun a => if a = 100 then 98 else if a = 200 then 97 else if a = 201 then 98 else 0
    exec (strpbrk_s cfg 100 2 200 1 none none) st = .ok ((EOK, 100), st) ∧
    firstIn st.data 200 1 100 2 = none := by
  intro st
  constructor
  · rw [strpbrk_s_eq cfg _ _ _ _ _ (wMem_all _) (by decide) (by decide) (by decide) (by decide) (by decide) (by decide)]
    have : pbrkOuterF st.data 200 1 100 2 = some 0 := by decide
    rw [this]
  · decide

/-- exhausting `slen` ends the whole search: `dest = "ca"`, `src = "ab"` with `slen = 1`: `'a'` at
offset 1 is in the set, ESNOTFND is returned.  Known finding `strpbrk-slen` (absent-but-present). -/
theorem strpbrk_s_gaveup_witness (cfg : Cfg) :
    let st := wMem fun a => if a = 100 then 99 else if a = 101 then 97 else if a = 200 then 97 else if a = 201 then 98 else 0
    exec (strpbrk_s cfg 100 3 200 1 none none) st = .ok ((ESNOTFND, 0), st) ∧
    firstIn st.data 200 1 100 3 = some 1 := by
  intro st
  constructor
  · rw [strpbrk_s_eq cfg _ _ _ _ _ (wMem_all _) (by decide) (by decide) (by decide) (by decide) (by decide) (by decide)]
    have : pbrkOuterF st.data 200 1 100 3 = none := by decide
    rw [this]
  · decide

example : ∃ st : St, AllRd st ∧ st.data (200 + scanLen st.data 200 2) = 0 ∧ firstIn st.data 200 2 100 4 = some 1 :=
  ⟨wMem fun a => if a = 100 then 99 else if a = 101 then 98 else if a = 200 then 97 else if a = 201 then 98 else 0,
   wMem_all _, by decide, by decide⟩

end SafeC.Props.C10
