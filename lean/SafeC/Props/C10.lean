import SafeC.Proofs.Query
import SafeC.Proofs.QueryRO
/-!
# C10 — read-only query functions answer as their standard counterparts do

Setting of every theorem: ALL of memory is mapped and readable (`AllRd`) with ARBITRARY contents
(the subject here is the answer; which cells may be touched is C02), the operands are valid
(non-null, `0 < dmax ≤ RSIZE_MAX_*`, object sizes unknown to the library or large enough).
The conclusion always has three parts: the value returned / stored through the out-parameter is the
standard function's answer computed from the memory contents restricted to the first `dmax`
(`slen`) elements; no constraint handler ran (`events` unchanged); the final state IS the initial
state (so in particular no operand was modified).

Where the C does not satisfy the property the FULL statement is kept in the doc comment, what is
proved is `…_partial` under the hypothesis the code forces (a hypothesis written `_hin` / `_hz` is not used by the proof:
the equation holds without it, and it is what makes the value computed the standard function's answer), and `…_witness` exhibits a
concrete input outside the hypothesis on which the model (= the code) gives the wrong answer;
each witness corresponds to an entry of `known_findings.jsonl`.

`*_readonly` (`Proofs/QueryRO.lean`): every query model is a `NoStore` program, hence leaves the memory
contents unchanged on EVERY input (valid or not, any mapping) — `exec_noStore`.
-/
namespace SafeC.Props.C10
open SafeC Gen

/-- **strnlen_s** with a known object size of at least `smax` characters: the same answer as with the size unknown
(`strnlen_s_C10`, `Proofs/Query.lean`) -/
theorem strnlen_s_bos_C10 (str smax b : Nat) (st : St) (hall : AllRd st)
    (hs : str ≠ 0) (hpos : 0 < smax) (hle : smax ≤ RSIZE_MAX_STR) (hb : smax ≤ b) :
    exec (strnlen_s str smax (some b)) st = .ok (scanLen st.data str smax, st) := by
  unfold strnlen_s
  rw [if_neg hs, if_neg (Nat.ne_of_gt hpos), if_neg (Nat.not_lt.mpr hle),
    strnlenLoop_eq hall _ _ _ _ (fun v hv => by cases hv; exact hb), Nat.zero_add]

/-- what `scanLen` means: a bound, non-zero cells before it, a zero cell at it when below the bound -/
theorem scanLen_spec (d : Nat → Nat) (p n : Nat) :
    scanLen d p n ≤ n ∧ (∀ i, i < scanLen d p n → d (p+i) ≠ 0) ∧
    (scanLen d p n < n → d (p + scanLen d p n) = 0) :=
  ⟨scanLen_le d p n, scanLen_nonzero d p n, scanLen_zero d p n⟩

/-- **wcsnlen_s**, object size unknown -/
theorem wcsnlen_s_C10 (str smax : Nat) (st : St) (hall : AllRd st)
    (hs : str ≠ 0) (hpos : 0 < smax) (hle : smax ≤ RSIZE_MAX_WSTR) :
    exec (wcsnlen_s_chk str smax none) st = .ok (scanLen st.data str smax, st) := by
  unfold wcsnlen_s_chk
  have h1 : ¬ smax = 0 := by omega
  have h2 : ¬ smax > RSIZE_MAX_WSTR := by omega
  simp only [hs, h1, h2, if_false]
  rw [wcsnlenLoop_eq hall]; simp

example : ∃ st : St, AllRd st ∧ scanLen st.data 100 5 = 2 :=
  ⟨{ data := fun a => if a = 102 then 0 else 7, mapped := fun _ => true, rd := fun _ => true, wr := fun _ => false },
   fun _ => ⟨rfl, rfl⟩, by decide⟩

theorem chCell_of_byte (ch : Int) (h0 : 0 ≤ ch) (h1 : ch ≤ 255) : (chCell ch : Int) = ch := by
  unfold chCell
  have : ch % 256 = ch := Int.emod_eq_of_lt h0 (by omega)
  rw [this]; exact Int.toNat_of_nonneg h0

/-- **memchr_s**: the FIRST of the `dmax` bytes equal to `ch`, ESNOTFND if none -/
theorem memchr_s_C10 (dest dmax : Nat) (ch : Int) (st : St) (hall : AllRd st)
    (hd : dest ≠ 0) (hpos : 0 < dmax) (hle : dmax ≤ RSIZE_MAX_MEM) (hch : ch ≤ 255) :
    exec (memchr_s dest dmax ch none) st =
      .ok ((match firstIdx st.data (chCell ch) dest dmax with
            | some i => (EOK, dest + i) | none => (ESNOTFND, 0)), st) := by
  unfold memchr_s
  have h3 : ¬ ch > 255 := by omega
  simp only [qChkM_ok hd hpos hle, h3, if_false, exec_bind, exec_pure, memchrP_eq hall]
  cases hf : firstIdx st.data (chCell ch) dest dmax with
  | none => simp
  | some i => simp [hd]

/-- **memrchr_s**: the LAST of the `dmax` bytes equal to `ch` -/
theorem memrchr_s_C10 (dest dmax : Nat) (ch : Int) (st : St) (hall : AllRd st)
    (hd : dest ≠ 0) (hpos : 0 < dmax) (hle : dmax ≤ RSIZE_MAX_MEM) (hch : ch ≤ 255) :
    exec (memrchr_s dest dmax ch none) st =
      .ok ((match lastIdx st.data (chCell ch) dest dmax with
            | some i => (EOK, dest + i) | none => (ESNOTFND, 0)), st) := by
  unfold memrchr_s
  have h3 : ¬ ch > 255 := by omega
  simp only [qChkM_ok hd hpos hle, h3, if_false, exec_bind, exec_pure, memrchrP_eq hall]
  cases hf : lastIdx st.data (chCell ch) dest dmax with
  | none => simp
  | some i => simp [hd]

/-- what `firstIdx` / `lastIdx` mean -/
theorem firstIdx_spec (d : Nat → Nat) (c p n : Nat) :
    (∀ i, firstIdx d c p n = some i → i < n ∧ d (p+i) = c ∧ ∀ j, j < i → d (p+j) ≠ c) ∧
    (firstIdx d c p n = none → ∀ j, j < n → d (p+j) ≠ c) := by
  rw [firstIdx_eq_leastO]
  exact ⟨fun i h => by simpa using leastO_some h, fun h => by simpa using leastO_none h⟩

theorem lastIdx_spec (d : Nat → Nat) (c p n : Nat) :
    (∀ i, lastIdx d c p n = some i → i < n ∧ d (p+i) = c ∧ ∀ j, i < j → j < n → d (p+j) ≠ c) ∧
    (lastIdx d c p n = none → ∀ j, j < n → d (p+j) ≠ c) :=
  ⟨fun i => lastIdx_some d c p n i, lastIdx_none d c p n⟩

/-- **memcmp_s**: compares the first `slen` bytes (`slen ≤ dmax`): 0 if equal, otherwise -1 / +1 as
the first differing pair orders as UNSIGNED bytes -/
theorem memcmp_s_C10 (dest dmax src slen : Nat) (st : St) (hall : AllRd st)
    (hd : dest ≠ 0) (hs : src ≠ 0) (hpos : 0 < dmax) (hle : dmax ≤ RSIZE_MAX_MEM)
    (hspos : 0 < slen) (hsle : slen ≤ dmax) :
    exec (memcmp_s dest dmax src slen none none) st =
      .ok ((EOK, match firstDiff st.data dest src slen with
                 | some i => (if st.data (dest+i) < st.data (src+i) then -1 else 1) | none => 0), st) := by
  exact memcmpG_ok hall hd hs hpos hle hspos (by omega) hsle

/-- **wmemcmp_s**: the same on `wchar_t` elements (signed 32-bit order, as `wmemcmp` on this platform) -/
theorem wmemcmp_s_C10 (dest dlen src slen : Nat) (st : St) (hall : AllRd st)
    (hd : dest ≠ 0) (hs : src ≠ 0) (hpos : 0 < dlen) (hle : dlen * SIZEOF_WCHAR_T ≤ RSIZE_MAX_MEM)
    (hspos : 0 < slen) (hsle : slen ≤ dlen) (hne : dest ≠ src) :
    exec (wmemcmp_s dest dlen src slen none none) st =
      .ok ((EOK, match firstDiff st.data dest src slen with
                 | some i => (if toS32 (st.data (dest+i)) < toS32 (st.data (src+i)) then -1 else 1)
                 | none => 0), st) := by
  unfold wmemcmp_s
  have hw : SIZEOF_WCHAR_T = 4 := rfl
  rw [hw] at hle ⊢
  have hm : RSIZE_MAX_MEM < two64 := by decide
  have e1 : dlen * 4 % two64 = dlen * 4 := Nat.mod_eq_of_lt (by omega)
  have h1 : ¬ dlen * 4 = 0 := by omega
  have h2 : ¬ dlen * 4 > RSIZE_MAX_MEM := by omega
  have h3 : ¬ slen = 0 := by omega
  have hmm : RSIZE_MAX_MEM ≤ RSIZE_MAX_WMEM * 4 + 3 := by decide
  have h4 : ¬ slen > RSIZE_MAX_WMEM := by omega
  have h5 : ¬ slen > dlen := by omega
  simp only [hd, hs, e1, h1, h2, h3, h4, h5, hne, if_false, exec_bind, wmemcmpLoop_eq hall _ _ _ _ hsle]
  rfl

/-- what `firstDiff` means -/
theorem firstDiff_spec (d : Nat → Nat) (p q n : Nat) :
    (∀ i, firstDiff d p q n = some i → i < n ∧ d (p+i) ≠ d (q+i) ∧ ∀ j, j < i → d (p+j) = d (q+j)) ∧
    (firstDiff d p q n = none → ∀ j, j < n → d (p+j) = d (q+j)) := by
  rw [firstDiff_eq_leastO]
  exact ⟨fun i h => by simpa using leastO_some h, fun h => by simpa using leastO_none h⟩


/-- **strspn_s**: the length of the initial segment of `dest` (first `dmax` characters, stopping at
its NUL) made only of characters of the string `src` (its first `slen` characters) -/
theorem strspn_s_C10 (dest dmax src slen : Nat) (st : St) (hall : AllRd st)
    (hd : dest ≠ 0) (hs : src ≠ 0) (hpos : 0 < dmax) (hle : dmax ≤ RSIZE_MAX_STR)
    (hspos : 0 < slen) (hsle : slen ≤ RSIZE_MAX_STR) :
    exec (strspn_s dest dmax src slen none none) st =
      .ok ((EOK, spanLen st.data true src slen dest dmax), st) := by
  unfold strspn_s
  have h3 : ¬ slen = 0 := by omega
  simp only [qChkS_ok hd (mt Option.some.inj hs) hpos hle, qChkSlenS_ok hsle, h3, if_false, exec_bind, exec_pure, spanOuter_eq hall]
  simp

/-- **strcspn_s**: the length of the initial segment made only of characters NOT in `src` -/
theorem strcspn_s_C10 (dest dmax src slen : Nat) (st : St) (hall : AllRd st)
    (hd : dest ≠ 0) (hs : src ≠ 0) (hpos : 0 < dmax) (hle : dmax ≤ RSIZE_MAX_STR)
    (hspos : 0 < slen) (hsle : slen ≤ RSIZE_MAX_STR) :
    exec (strcspn_s dest dmax src slen none none) st =
      .ok ((EOK, spanLen st.data false src slen dest dmax), st) := by
  unfold strcspn_s
  have h3 : ¬ slen = 0 := by omega
  have h4 : ¬ slen > RSIZE_MAX_STR := by omega
  simp only [qChkS_ok hd (mt Option.some.inj hs) hpos hle, h3, h4, if_false, exec_bind, exec_pure]
  simp [exec_bind, spanOuter_eq hall]

/-- what `spanLen` means: bounded by `n`, every counted cell is non-NUL and (not) in the set, and
the cell that stopped the count — if inside `n` — is NUL or on the other side of the set -/
theorem spanLen_spec (d : Nat → Nat) (want : Bool) (src slen p n : Nat) :
    spanLen d want src slen p n ≤ n ∧
    (∀ i, i < spanLen d want src slen p n → d (p+i) ≠ 0 ∧ inSet d (d (p+i)) src slen = want) ∧
    (spanLen d want src slen p n < n →
      d (p + spanLen d want src slen p n) = 0 ∨ inSet d (d (p + spanLen d want src slen p n)) src slen ≠ want) :=
  spanLen_facts d want src slen p n


/-! ## strcmp_s

FULL statement (false of the code): *for valid operands the value stored through `resultp` has the
sign of `strcmp` restricted to the first `dmax` characters (unsigned char comparison)*.
The code (a) subtracts plain — signed — `char`s and (b) when neither string ends nor differs within
`dmax` characters, subtracts the cells at index `dmax`, outside the compared extent.  Hence the
partial theorem (stop inside `dmax`, both cells 7-bit) and the two witnesses. -/

/-- what `strcmp_s` computes on ANY memory: plain-`char` difference at `stopIdx` -/
theorem strcmp_s_eq (dest dmax src : Nat) (st : St) (hall : AllRd st)
    (hd : dest ≠ 0) (hs : src ≠ 0) (hpos : 0 < dmax) (hle : dmax ≤ RSIZE_MAX_STR) :
    exec (strcmp_s dest dmax src none none) st =
      .ok ((EOK, schar (st.data (dest + stopIdx st.data dest src dmax)) -
                 schar (st.data (src + stopIdx st.data dest src dmax))), st) := by
  unfold strcmp_s
  simp only [qChkS_ok hd (mt Option.some.inj hs) hpos hle, exec_bind, exec_pure, strcmpLoop_run hall, Option.any_none,
    Bool.false_eq_true, if_false]

/-- **strcmp_s, partial**: when the comparison is decided inside the first `dmax` characters
(`stopIdx < dmax`: one string ends or they differ there) and the two deciding characters are 7-bit,
the result is their difference as UNSIGNED characters — zero iff the strings are equal up to there,
and of `strcmp`'s sign otherwise. -/
theorem strcmp_s_C10_partial (dest dmax src : Nat) (st : St) (hall : AllRd st)
    (hd : dest ≠ 0) (hs : src ≠ 0) (hpos : 0 < dmax) (hle : dmax ≤ RSIZE_MAX_STR)
    (_hin : stopIdx st.data dest src dmax < dmax)
    (ha : st.data (dest + stopIdx st.data dest src dmax) < 128)
    (hb : st.data (src + stopIdx st.data dest src dmax) < 128) :
    exec (strcmp_s dest dmax src none none) st =
      .ok ((EOK, (st.data (dest + stopIdx st.data dest src dmax) : Int) -
                 (st.data (src + stopIdx st.data dest src dmax) : Int)), st) := by
  rw [strcmp_s_eq dest dmax src st hall hd hs hpos hle]
  simp [schar, ha, hb]

/-- memory for the witnesses: contents `f`, every cell mapped and readable, none writable -/
def wMem (f : Nat → Nat) : St := { data := f, mapped := fun _ => true, rd := fun _ => true, wr := fun _ => false }
theorem wMem_all (f : Nat → Nat) : AllRd (wMem f) := fun _ => ⟨rfl, rfl⟩

/-- (a) signed comparison: `strcmp_s("\x80", 2, "a")` stores a NEGATIVE value; `strcmp` says positive
(0x80 > 0x61 as unsigned char). Known finding `signed-char-compare`. -/
theorem strcmp_s_signed_witness :
    exec (strcmp_s 100 2 200 none none) (wMem fun a => if a = 100 then 128 else if a = 200 then 97 else 0) =
      .ok ((EOK, -225), wMem fun a => if a = 100 then 128 else if a = 200 then 97 else 0) := by
  rw [strcmp_s_eq _ _ _ _ (wMem_all _) (by decide) (by decide) (by decide) (by decide)]
  simp [wMem, stopIdx, schar]

/-- (b) result taken from outside the compared extent: `dest = "ab…"`, `src = "ac…"` compared over
`dmax = 1` character are EQUAL within the extent, yet the value stored is `'b' - 'c' = -1`.
Known finding `compare-uses-dest-dmax`. -/
theorem strcmp_s_outside_witness :
    exec (strcmp_s 100 1 200 none none)
        (wMem fun a => if a = 100 then 97 else if a = 101 then 98 else if a = 200 then 97 else if a = 201 then 99 else 0) =
      .ok ((EOK, -1),
        wMem fun a => if a = 100 then 97 else if a = 101 then 98 else if a = 200 then 97 else if a = 201 then 99 else 0) := by
  rw [strcmp_s_eq _ _ _ _ (wMem_all _) (by decide) (by decide) (by decide) (by decide)]
  simp [wMem, stopIdx, schar]

example : ∃ st : St, AllRd st ∧ stopIdx st.data 100 200 4 < 4 ∧ st.data (100 + stopIdx st.data 100 200 4) < 128 :=
  ⟨wMem fun a => if a = 100 then 97 else if a = 200 then 97 else 0, wMem_all _, by decide, by decide⟩

end SafeC.Props.C10
