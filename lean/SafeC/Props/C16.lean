import SafeC.Proofs.SortRel
import SafeC.Proofs.Bsearch
import SafeC.Proofs.SortCycle
import SafeC.Proofs.SortSorted
import SafeC.Proofs.SortGap64
/-!
# C16 — "qsort_s sorts and bsearch_s finds, for every array and comparator"

Models: `SafeC/Models/Sort.lean` (`qsortChk` = `_qsort_s_chk` + musl smoothsort at element-index level,
`bsearchChk` = `_bsearch_s_chk`).  `fx : Fixes` has one switch per repair in `fixes/qsort_*.diff` (`ctz64`: whole-word `ntz`,
`ovf`: unwrapped `nmemb*size` check, `pntzGap`: `pntz` tests `p[1] != 0` itself); `unrepaired` = none, `ntzOvfFixed` = the
first two, `allFixed` = all three.  Theorems quantified over `fx` hold for all eight combinations.

All statements quantify over EVERY array (any length), every element type, and — unless a hypothesis says
otherwise — EVERY comparator, including comparators whose answer depends on the call number and on the
positions of their arguments.  A run that ends in `.error` is a run in which the C would touch memory outside
the array or one of its fixed-size locals (see the model); `qsort_perm`/`qsort_cmp_discipline` speak about
every run that returns.
-/
namespace SafeC.Props.C16
open SafeC.Sort SafeC.Gen

/-! ## qsort_s: (1) permutation, (2) comparator discipline — every comparator, every `nmemb`, every `fx` -/

/-- (1) whatever `_qsort_s_chk` returns, the array is a permutation of the original array -/
theorem qsort_perm (fx : Fixes) (c : Cmp α) (g : Args) (s : St α) (o : Out α Nat)
    (h : qsortChk fx c g s = .ok o) : o.st.a.toList.Perm s.a.toList :=
  Array.perm_iff_toList_perm.mp (qsortChk_rel fx c g s o h).perm

/-- (2) every comparator call made by `_qsort_s_chk` is logged with two positions inside the array and
    the caller's context: the log of the exit state is the entry log extended by such events only -/
theorem qsort_cmp_discipline (fx : Fixes) (c : Cmp α) (g : Args) (s : St α) (o : Out α Nat)
    (h : qsortChk fx c g s = .ok o) :
    ∃ l, o.st.log = l ++ s.log ∧ ∀ ev ∈ l, ev.i < s.a.size ∧ ev.j < s.a.size ∧ ev.ctx = c.ctx :=
  (qsortChk_rel fx c g s o h).log

/-- the element count never changes (no element lost or duplicated, stated on sizes) -/
theorem qsort_size (fx : Fixes) (c : Cmp α) (g : Args) (s : St α) (o : Out α Nat)
    (h : qsortChk fx c g s = .ok o) : o.st.a.size = s.a.size :=
  (qsortChk_rel fx c g s o h).size

def natCmp : Cmp Nat := ⟨fun _ _ _ x y => if x < y then -1 else if x > y then 1 else 0, 7, true⟩
def okArgs (n w : Nat) : Args := ⟨false, false, false, n, w, none⟩

/-- non-vacuity: a run that returns, with 13 logged comparisons -/
example : (match qsortChk unrepaired natCmp (okArgs 6 4) ⟨#[5, 3, 9, 1, 2, 8], [], 0⟩ with
    | .ok o => o.st.a.toList == [1, 2, 3, 5, 8, 9] && o.st.log.length == 13 && o.ret == 0
    | .error _ => false) = true := by decide +kernel

/-- an inconsistent comparator (always "greater") returns too, with the elements rearranged -/
example : (match qsortChk unrepaired ⟨fun _ _ _ _ _ => 1, 0, true⟩ (okArgs 5 1) ⟨#[5, 3, 9, 1, 2], [], 0⟩ with
    | .ok o => o.st.a.toList != [5, 3, 9, 1, 2] && o.st.a.toList.length == 5
    | .error _ => false) = true := by decide +kernel


/-! ## (3) bounds and termination of qsort_s — every comparator

The smoothsort forest-shape invariant (`Shape`, Proofs/SortShape.lean): the set bits of the two-word vector `p`, read
relative to `pshift`, are the orders of Leonardo trees (strictly ascending, from the second on at least 2 apart,
`pshift = 0` only next to a tree of order 1) that tile `[0, head]` exactly, the smallest rooted at `head`.  It holds
initially (`Shape.init`), is preserved by the three cases of the main loop (`Shape.merge_cons`, `Shape.single` for a new tree of
order 0 resp. 1) and by the dismantling loop (`Shape.drop`, `Shape.split`); `sift` and `trinkle` walk only inside the trees
it describes (`sift_in_tree_safe`, `trinkle_run`), the dismantling loop ends exactly at `head = 0` (`Shape.done_of_zero`).
The model has no fuel: its loops recurse on the free entries of `ar[]`, on `high - head` and on `head`, so a run that
returns `.ok` is a run in which the C terminates, never indexes outside `[0, nmemb)`, never forms a pointer below
`base`, and overruns neither `lp[]` nor `ar[]`.

`qsort_safe` is the FULL statement (no bound on `nmemb`) for the code with the whole-word `ntz` and the repaired `pntz`.
For the code without the `pntz` repair it is FALSE beyond 55 555 780 070 575 elements (`qsort_safe_witness`,
`qsort_safe_overrun_witness`), hence `qsort_safe_partial`.
-/

/-- (3, FULL) `_qsort_s_chk` with the whole-word `ntz` and the repaired `pntz` (`fixes/qsort_s-pntz-gap-64.diff`), on an array
    of exactly `nmemb` elements — ANY `nmemb` —, EVERY comparator (inconsistent ones included), object size known or not:
    the call returns (terminates; every element index `< nmemb`; no pointer below `base`; `lp[]`, `ar[]` within capacity) and
    keeps the element count.  The two remaining hypotheses are about `size_t` arithmetic of the table loop
    `for (…; (lp[i] = lp[i-2] + lp[i-1] + width) < size; i++)`, which adds BEFORE it compares:
    * `nmemb*size ≤ 2^63`: the last entry computed is the first scaled Leonardo number `≥ nmemb*size`; it is below
      `2*nmemb*size`, so it fits `size_t`.  Dropping it is false, also of the C: `qsort_safe_product_witness` (the entry wraps,
      compares below `size`, and the loop goes on past the values the sort relies on; needs an object of 1.5·10^19 bytes).
      Every real object has at most `PTRDIFF_MAX < 2^63` bytes.
    * `3*size < 2^64`: the first computed entry is `3*width`.  Only a one-element array can violate it under the first
      hypothesis; the model flags the wrapped entry (`qsort_safe_size_witness`) although the C never uses the table then. -/
theorem qsort_safe (fx : Fixes) (hfx : fx.ctz64 = true) (hgap : fx.pntzGap = true) (c : Cmp α) (g : Args) (s : St α)
    (hn : g.nmemb = s.a.size) (h63 : g.nmemb * g.size ≤ 2 ^ 63) (h3 : 3 * g.size < 2 ^ 64) :
    ∃ o, qsortChk fx c g s = .ok o ∧ o.st.a.size = s.a.size :=
  (qsortChk_run fx c (fun _ _ => True) g s hn h63 h3 (.inl ⟨hfx, hgap⟩)).imp fun _ h => ⟨h.1, h.2.1⟩

/-- non-vacuity: 6 elements of 4 bytes, all three repairs -/
example : allFixed.ctz64 = true ∧ allFixed.pntzGap = true ∧ (6 : Nat) = (#[5, 3, 9, 1, 2, 8] : Array Nat).size ∧ 6 * 4 ≤ 2 ^ 63 ∧
    3 * 4 < 2 ^ 64 := by decide

/-- witness for `nmemb*size ≤ 2^63` in `qsort_safe` (all repairs, size 1, object of `2^64 - 1` bytes, product representable in
    `size_t`): with `nmemb = leo 91 + 1` = 15 080 227 609 492 692 858 the table loop computes `lp[92] = leo 92`, which does not
    fit `size_t`; the call does not return `.ok` whatever the array — in the C the wrapped entry is `< size`, the loop goes on
    and the table no longer holds Leonardo numbers.  (No such object exists on a 64-bit machine.) -/
theorem qsort_safe_product_witness (c : Cmp α) (s : St α) :
    qsortChk allFixed c ⟨false, false, false, 15080227609492692858, 1, some (2 ^ 64 - 1)⟩ s = .error .wrap ∧
    15080227609492692858 * 1 < 2 ^ 64 ∧ 3 * 1 < 2 ^ 64 ∧ ¬ (15080227609492692858 * 1 ≤ 2 ^ 63) := by
  refine ⟨?_, by decide, by decide, by decide⟩
  have hmk : mkLp 1 15080227609492692858 = .error .wrap := eq_wrap_of_match _ (by decide +kernel)
  unfold qsortChk qsortMusl
  simp only [allFixed, if_true]
  rw [if_neg (by decide)]
  simp only [show (1 * 15080227609492692858) % 2 ^ 64 = 15080227609492692858 by decide]
  rw [if_neg (by decide), hmk]
  rfl

/-- witness for `3*size < 2^64` in `qsort_safe`: one element of `2^63` bytes (object size known, all repairs): the model flags
    `lp[2] = 3*width` as not representable (`Fault.wrap`).  Of the MODEL only: the C computes the wrapped value too but never
    reads the table when `nmemb = 1`. -/
theorem qsort_safe_size_witness :
    qsortChk allFixed natCmp ⟨false, false, false, 1, 2 ^ 63, some (2 ^ 63)⟩ ⟨#[0], [], 0⟩ = .error .wrap ∧
    1 * 2 ^ 63 ≤ 2 ^ 63 ∧ ¬ (3 * 2 ^ 63 < 2 ^ 64) := by
  refine ⟨eq_wrap_of_match _ (by decide +kernel), by decide, by decide⟩

/-- witness for `nmemb = a.size` in `qsort_safe` (the caller's obligation: the array really has `nmemb` elements; with an
    unknown object size nothing can check it): `nmemb = 4` on a 3-element array reads element 3 (`Fault.idx 3`; in the harness
    the guard page) -/
theorem qsort_safe_nmemb_witness :
    (match qsortChk allFixed natCmp (okArgs 4 4) ⟨#[3, 2, 1], [], 0⟩ with
     | .error (.idx i) => i == 3
     | _ => false) = true := by decide +kernel

/-- (3, code WITHOUT the `pntz` repair — the statement holds for every `fx`) `_qsort_s_chk` on an array of exactly `nmemb`
    elements, EVERY comparator (inconsistent ones included), either `ntz`: the call returns (terminates; every element index `< nmemb`; no pointer below `base`; `lp[]`, `ar[]` within capacity)
    and keeps the element count.  Hypotheses the proof forces: the byte size fits 63 bits and `3*size` fits 64 bits (the
    table loop computes `lp[i-2] + lp[i-1] + width` before comparing it with `nmemb*size`), and `nmemb ≤ safeBound fx`
    = `leo 65` = 55 555 780 070 575 for the repaired `ntz`, `leo 34` = 18 454 929 for the `int` builtin (up to there
    every `pntz` answer is right). -/
theorem qsort_safe_partial (fx : Fixes) (c : Cmp α) (g : Args) (s : St α) (hn : g.nmemb = s.a.size)
    (h63 : g.nmemb * g.size ≤ 2 ^ 63) (h3 : 3 * g.size < 2 ^ 64) (hb : g.nmemb ≤ safeBound fx) :
    ∃ o, qsortChk fx c g s = .ok o ∧ o.st.a.size = s.a.size :=
  (qsortChk_run fx c (fun _ _ => True) g s hn h63 h3 (.inr hb)).imp fun _ h => ⟨h.1, h.2.1⟩

/-- non-vacuity: 6 elements of 4 bytes -/
example : (6 : Nat) = (#[5, 3, 9, 1, 2, 8] : Array Nat).size ∧ 6 * 4 ≤ 2 ^ 63 ∧ 3 * 4 < 2 ^ 64 ∧ 6 ≤ safeBound ntzOvfFixed ∧
    6 ≤ safeBound unrepaired := by decide

/-- (3, FULL for the branch without a known object size) repaired `ntz`, `basebos == BOS_UNKNOWN`: the function's own
    `RSIZE_MAX_MEM` checks imply every side condition of `qsort_safe_partial`, so EVERY call on an array of `nmemb`
    elements — any `nmemb`, any `size`, any comparator, NULL arguments or not — returns and keeps the element count -/
theorem qsort_safe_bos_unknown (fx : Fixes) (hfx : fx.ctz64 = true) (c : Cmp α) (g : Args) (s : St α)
    (hbos : g.bos = none) (hn : g.nmemb = s.a.size) : ∃ o, qsortChk fx c g s = .ok o ∧ o.st.a.size = s.a.size := by
  by_cases hl : g.nmemb > RSIZE_MAX_MEM ∨ g.size > RSIZE_MAX_MEM
  · unfold qsortChk
    split
    · exact ⟨_, rfl, rfl⟩
    · simp only [hbos]
      exact ⟨_, rfl, rfl⟩
  · have h1 : g.nmemb ≤ 268435456 := by unfold RSIZE_MAX_MEM at hl; omega
    have h2 : g.size ≤ 268435456 := by unfold RSIZE_MAX_MEM at hl; omega
    refine qsort_safe_partial fx c g s hn ?_ (by omega) (by unfold safeBound; simp only [hfx, if_true]; omega)
    calc g.nmemb * g.size ≤ 268435456 * 268435456 := Nat.mul_le_mul h1 h2
      _ ≤ 2 ^ 63 := by decide

example : (okArgs 6 4).bos = none := rfl

/-- witness for the bound of `qsort_safe_partial` (whole-word `ntz`, `pntz` not repaired — the tree before
    `fixes/qsort_s-pntz-gap-64.diff`, and musl upstream): `{1, 1}` with `pshift = 1` is the bit
    vector of a heap whose two trees have orders 1 and 65, first reached with `leo 65 + 1` = 55 555 780 070 576
    elements; `pntz` answers 0 instead of 64 (`r = 64 + ntz(p[1])` is 64 and taken for "no bit set"), so `trinkle` shifts by 0 and keeps
    walking `head - lp[1]` with the same `p`: it never reaches `p == {1,0}` and stops only when the comparator says so — `ar[]` (113
    entries) is overrun after 112 steps with a comparator that keeps answering "greater" (e.g. a consistent one, new element
    smaller than the 112 elements below it).  No run of that size can be replayed; the statement here is about `pntz` and the
    encoding only (the check replays `pntz` itself on `{1,1}` on the compiled C: harness/hpntz.c).  The repaired `pntz`
    answers 64. -/
theorem qsort_safe_witness : pntz ntzOvfFixed ⟨1, 1⟩ = 0 ∧ Rep ⟨1, 1⟩ 1 [1, 65] ∧ leo 65 + 1 = 55555780070576 ∧
    pntz allFixed ⟨1, 1⟩ = 64 := by
  refine ⟨by decide +kernel, ?_, by rw [leo_65], by decide +kernel⟩
  intro i
  unfold PV.bit
  by_cases h : i < 64
  · simp only [h, if_true]
    show (1 : Nat).testBit i = _
    rw [tb_one]
    apply decide_eq_decide.mpr
    simp only [List.mem_cons, List.not_mem_nil, or_false]
    omega
  · simp only [h, if_false]
    show (1 : Nat).testBit (i - 64) = _
    rw [tb_one]
    apply decide_eq_decide.mpr
    simp only [List.mem_cons, List.not_mem_nil, or_false]
    omega

/-- `cycle` on at most 112 positions inside the array returns and keeps the size (no `ar[]` overrun, no position `≥ nmemb`) -/
theorem cycle_safe (s : St α) (ar : List Nat) (h : ∀ y ∈ ar, y < s.a.size) (hl : ar.length ≤ 112) :
    ∃ r, cycle s ar = .ok r ∧ r.a.size = s.a.size :=
  match ar, h with
  | [], _ => ⟨s, rfl, rfl⟩
  | x :: ar, h =>
    haveI : Inhabited α := ⟨s.a[x]'(h x (by simp))⟩
    (cycle_fn s (x :: ar) h hl).mono fun _ h => h.1

/-- `sift` called on a Leonardo tree of order `pshift` rooted at `head` that lies inside the array
    (`leo pshift ≤ head + 1`, `head < nmemb`), with `lp[0..pshift]` the Leonardo numbers: every comparison and move is
    at positions `< nmemb`, no pointer below `base`, `ar[]` not overrun, the call returns — every comparator -/
theorem sift_in_tree_safe (e : Env α) (s : St α) (n head pshift : Nat) (hs : s.a.size = n) (hh : head < n)
    (hl : leo pshift ≤ head + 1) (hlp : LpOk e.lp pshift) (hp : pshift ≤ 111) :
    ∃ r, sift e s head pshift = .ok r ∧ r.a.size = n :=
  haveI : Inhabited α := ⟨s.a[head]'(hs ▸ hh)⟩
  (sift_run e (fun _ _ => True) hlp hp s head pshift hs hh hl (Nat.le_refl _)).mono fun _ h => h.1

/-- non-vacuity: the root of a tree of order 3 (5 elements) at position 4 of a 5-element array -/
example : leo 3 ≤ 4 + 1 ∧ LpOk #[1, 1, 3, 5, 9] 3 := by
  refine ⟨by decide, ?_⟩
  intro i hi
  have : i = 0 ∨ i = 1 ∨ i = 2 ∨ i = 3 := by omega
  rcases this with h | h | h | h <;> subst h <;> decide

/-- witness for the defect that makes `qsort_safe` false of the unrepaired code (why it asks for `fx.ctz64 = true`): the bit
    vector of a heap whose two smallest trees are 33 orders apart (first reached with nmemb = leo 34 + 1 = 18454930): `pntz` with
    `ntz` the `int` builtin (`__builtin_ctz` on the low 32 bits, compiled to `tzcnt`) answers 32, with the repaired `ntz` 33.  The
    run of 18454930 elements is replayed on the real C and on the compiled model by the check (known finding
    `qsort_s-ntz-counts-32-bits`). -/
theorem pntz_witness : pntz unrepaired ⟨2 ^ 33 + 1, 0⟩ = 32 ∧ pntz allFixed ⟨2 ^ 33 + 1, 0⟩ = 33 ∧ leo 34 + 1 = 18454930 := by
  refine ⟨by decide +kernel, by decide +kernel, by decide +kernel⟩

/-- second half of the witness, on the model's `trinkle` itself: in the state `p = {1,1}`, `pshift = 1` (the forest of orders 1 and
    65 of `qsort_safe_witness`), repaired `ntz`, `pntz` NOT repaired, any array with at least 113 elements below `head`, a
    comparator that answers "greater" every time: `trinkle` does not return, it runs over the 113 entries of `ar[]`
    (`Fault.arIdx`) -/
theorem qsort_safe_overrun_witness (e : Env α) (hfx : e.fx.ctz64 = true) (hgap : e.fx.pntzGap = false)
    (hcmp : ∀ k i j x y, e.cmp k i j x y = 1)
    (hlp1 : e.lp[1]? = some 1) (s : St α) (head : Nat) (hh : head < s.a.size) (h113 : 113 ≤ head) :
    trinkle e s head ⟨1, 1⟩ 1 false = .error .arIdx := by
  unfold trinkle
  rw [trinkleLoop_gap64 e hfx hgap hcmp hlp1 head 112 s head false [head] hh hh (by omega)]
  rfl

/-- non-vacuity: 200 elements, head = 150, the switches of the tree before the `pntz` repair -/
example : (150 : Nat) < (Array.replicate 200 (0 : Nat)).size ∧ 113 ≤ 150 ∧ (#[1, 1, 3] : Array Nat)[1]? = some 1 ∧
    ntzOvfFixed.ctz64 = true ∧ ntzOvfFixed.pntzGap = false := by
  refine ⟨by simp, by decide, by decide, rfl, rfl⟩

/-! ## (5) qsort_s sorts — comparator a total preorder

On top of `Shape`: every tree of the forest heap-ordered (`Heaps`), roots ascending (`Roots`) — during the build phase only
for the trees the code itself declares final (`RootsFin`: `lp[pshift-1] >= high - head` is a static property of a tree's
order and root position, and a final tree has only final trees to its left, `fin_step`) —, and in the dismantling loop
everything right of `head` in its final place (`Dom`).  `sift_run`: `sift` restores the heap order of one tree given both
subtrees are heaps; `trinkle_run`: `trinkle` restores heap order and ascending roots of the whole forest (the clauses behind
`Consistent e.cmp le →` of the lemmas that give (3) for every comparator). -/

/-- (5, FULL) `_qsort_s_chk` with the whole-word `ntz` and the repaired `pntz` returns EOK on an array of exactly `nmemb`
    elements — ANY `nmemb` — of `size > 0` bytes, with a comparator that is a total preorder — its sign depends on the two
    elements only (`f`), is antisymmetric (`0 ≤ f x y ↔ f y x ≤ 0`, which gives totality and reflexivity) and transitive: the
    result is ordered, `f a[j] a[i] ≤ 0` for all `j ≤ i`.  Arithmetic side conditions as in `qsort_safe` (see there for why
    each is needed and for the witnesses); `size > 0` because a zero-size call returns EOK without sorting (as documented).
    Together with `qsort_perm` this is "sorted permutation of the input". -/
theorem qsort_sorted (fx : Fixes) (hfx : fx.ctz64 = true) (hgap : fx.pntzGap = true) (c : Cmp α) (f : α → α → Int)
    (hcmp : ∀ k i j x y, c.cmp k i j x y = f x y)
    (hanti : ∀ x y, 0 ≤ f x y ↔ f y x ≤ 0) (htrans : ∀ x y z, f x y ≤ 0 → f y z ≤ 0 → f x z ≤ 0)
    (g : Args) (s : St α) (hn : g.nmemb = s.a.size) (hsz : 0 < g.size) (h63 : g.nmemb * g.size ≤ 2 ^ 63)
    (h3 : 3 * g.size < 2 ^ 64) (o : Out α Nat) (h : qsortChk fx c g s = .ok o) (hok : o.ret = EOK) :
    ∀ (i j : Nat) (hi : i < o.st.a.size) (hij : j ≤ i), f (o.st.a[j]'(by omega)) o.st.a[i] ≤ 0 := by
  obtain ⟨o', ho', _, h'⟩ := qsortChk_run fx c (fun x y => f x y ≤ 0) g s hn h63 h3 (.inl ⟨hfx, hgap⟩)
  rw [h] at ho'; cases ho'
  exact h' hok (consistent_of c f hcmp hanti htrans) hsz

/-- witness for `size > 0` in `qsort_sorted`: `size = 0` returns EOK and leaves the array alone -/
theorem qsort_sorted_size0_witness :
    (match qsortChk allFixed natCmp (okArgs 3 0) ⟨#[3, 2, 1], [], 0⟩ with
     | .ok o => o.ret == EOK && o.st.a.toList == [3, 2, 1]
     | .error _ => false) = true := by decide +kernel

/-- (5, code WITHOUT the `pntz` repair — the statement holds for every `fx`) the same with `nmemb ≤ safeBound fx` (see
    `qsort_safe_partial` and `qsort_safe_witness` for why the element count is bounded there) -/
theorem qsort_sorted_partial (fx : Fixes) (c : Cmp α) (f : α → α → Int) (hcmp : ∀ k i j x y, c.cmp k i j x y = f x y)
    (hanti : ∀ x y, 0 ≤ f x y ↔ f y x ≤ 0) (htrans : ∀ x y z, f x y ≤ 0 → f y z ≤ 0 → f x z ≤ 0)
    (g : Args) (s : St α) (hn : g.nmemb = s.a.size) (hsz : 0 < g.size) (h63 : g.nmemb * g.size ≤ 2 ^ 63)
    (h3 : 3 * g.size < 2 ^ 64) (hb : g.nmemb ≤ safeBound fx) (o : Out α Nat) (h : qsortChk fx c g s = .ok o)
    (hok : o.ret = EOK) :
    ∀ (i j : Nat) (hi : i < o.st.a.size) (hij : j ≤ i), f (o.st.a[j]'(by omega)) o.st.a[i] ≤ 0 := by
  obtain ⟨o', ho', _, h'⟩ := qsortChk_run fx c (fun x y => f x y ≤ 0) g s hn h63 h3 (.inr hb)
  rw [h] at ho'; cases ho'
  exact h' hok (consistent_of c f hcmp hanti htrans) hsz

/-- non-vacuity: the three-way comparison of natural numbers is such a comparator -/
example : (∀ x y : Nat, 0 ≤ (if x < y then (-1 : Int) else if x > y then 1 else 0) ↔
      (if y < x then (-1 : Int) else if y > x then 1 else 0) ≤ 0) ∧
    (∀ x y z : Nat, (if x < y then (-1 : Int) else if x > y then 1 else 0) ≤ 0 →
      (if y < z then (-1 : Int) else if y > z then 1 else 0) ≤ 0 → (if x < z then (-1 : Int) else if x > z then 1 else 0) ≤ 0) := by
  have np : ∀ x y : Nat, (if x < y then (-1 : Int) else if x > y then 1 else 0) ≤ 0 ↔ x ≤ y := by
    intro x y; split <;> (try split) <;> omega
  have nn : ∀ x y : Nat, 0 ≤ (if x < y then (-1 : Int) else if x > y then 1 else 0) ↔ y ≤ x := by
    intro x y; split <;> (try split) <;> omega
  exact ⟨fun x y => by rw [nn, np], fun x y z => by rw [np, np, np]; exact Nat.le_trans⟩

/-! ## the byte-level `cycle` (rotation through `tmp[256]` in chunks) is the element rotation the sort model uses -/

/-- `cycle(width, ar, n)` of the C on bytes = the rotation of whole elements, for EVERY width (also > 256 and not a multiple
    of 256; `width = 0` included), every element count and EVERY list of positions inside the array (any length, repeated
    positions allowed), `fuel` = any bound ≥ the number of 256-byte chunks: the byte program returns, the memory keeps its
    size, and cutting the new memory into `w`-byte elements gives exactly what the element rotation `cycleElems` (= `cycle`
    without the `ar[]` capacity check, `cycle_eq_cycleElems`) computes on the old elements -/
theorem cycleBytes_is_cycle (w n : Nat) (mem : Array UInt8) (hm : mem.size = n * w) (ar : List Nat) (har : ∀ x ∈ ar, x < n)
    (fuel : Nat) (hf : w ≤ 256 * fuel) :
    ∃ mem', cycleBytes fuel mem w (ar.map (· * w)) = .ok mem' ∧ mem'.size = n * w ∧
      cycleElems (elems mem w n) ar = .ok (elems mem' w n) := by
  have short : ∀ ptrs : List Nat, ptrs.length < 2 → cycleBytes fuel mem w ptrs = .ok mem := by
    intro ptrs hp
    cases fuel with
    | zero =>
      have : w = 0 := by omega
      unfold cycleBytes; simp only [this, if_true]
    | succ f => unfold cycleBytes; simp only [hp, if_true]
  match ar, har with
  | [], _ => exact ⟨mem, short _ (by simp), hm, rfl⟩
  | [_], _ => exact ⟨mem, short _ (by simp), hm, rfl⟩
  | x :: y :: rest, har =>
    have hx : x < n := har x (by simp)
    have har' : ∀ z ∈ y :: rest, z < n := fun z hz => har z (by simp [hz])
    have h0 := Cyc.rep2_self hm
    obtain ⟨mem', e, h'⟩ := Cyc.cycleBytes_rep2 x y rest hx har' fuel 0 w mem _ h0 (by omega) hf
    refine ⟨mem', e, h'.1, ?_⟩
    have hE := Cyc.elems_rep h0
    have hE' := Cyc.elems_rep h'
    show (do let tmp ← getE (elems mem w n) x; cycleGo (elems mem w n) tmp (x :: y :: rest)) = _
    rw [Cyc.getE_rep hE hx]
    obtain ⟨r, er, hr⟩ := Cyc.cycleGo_rep (Cyc.row w fun k => mem[x * w + k]?.getD 0) (y :: rest) _ _ x hE hx har'
    simp only [bind, Except.bind, er]
    congr 1
    apply Cyc.Rep.ext hr
    have : (fun i => Cyc.row w ((fun i k => if 0 ≤ k then Cyc.rotF (fun j => (fun i k => mem[i * w + k]?.getD 0) j k)
          ((fun i k => mem[i * w + k]?.getD 0) x k) (x :: y :: rest) i
          else (fun i k => mem[i * w + k]?.getD 0) i k) i)) =
        Cyc.rotF (fun i => Cyc.row w ((fun i k => mem[i * w + k]?.getD 0) i))
          (Cyc.row w fun k => mem[x * w + k]?.getD 0) (x :: y :: rest) := by
      funext i
      rw [Cyc.rotF_map (Cyc.row w)]
      congr 1
      funext k
      simp only [Nat.zero_le, if_true]
      exact Cyc.rotF_map (fun (f : Nat → UInt8) => f k) (fun k => mem[x * w + k]?.getD 0) (x :: y :: rest)
        (fun i k => mem[i * w + k]?.getD 0) i
    rw [← this]
    exact hE'

/-- the same against the sort's own `cycle` (at most 112 positions, the capacity of `ar[]` next to `tmp`) -/
theorem cycleBytes_is_cycle_st (w n : Nat) (mem : Array UInt8) (hm : mem.size = n * w) (ar : List Nat) (har : ∀ x ∈ ar, x < n)
    (hlen : ar.length ≤ 112) (fuel : Nat) (hf : w ≤ 256 * fuel) (s : St (Array UInt8)) (hs : s.a = elems mem w n) :
    ∃ mem', cycleBytes fuel mem w (ar.map (· * w)) = .ok mem' ∧ mem'.size = n * w ∧
      cycle s ar = .ok { s with a := elems mem' w n } := by
  obtain ⟨mem', e, hsz, h⟩ := cycleBytes_is_cycle w n mem hm ar har fuel hf
  refine ⟨mem', e, hsz, ?_⟩
  have : ¬ (2 ≤ ar.length ∧ ar.length > 112) := by omega
  rw [cycle_eq_cycleElems, if_neg this, hs, h]
  rfl

/-- a position outside the array among at least two positions: both programs fault (the payloads differ: byte address vs
    element index) -/
theorem cycleBytes_fault_iff (w n : Nat) (hw : 0 < w) (mem : Array UInt8) (hm : mem.size = n * w) (ar : List Nat)
    (hlen : 2 ≤ ar.length) (hbad : ∃ z ∈ ar, n ≤ z) (fuel : Nat) (hf : w ≤ 256 * fuel) :
    (∃ e, cycleBytes fuel mem w (ar.map (· * w)) = .error e) ∧ (∃ e, cycleElems (elems mem w n) ar = .error e) := by
  refine ⟨?_, cycleElems_fault _ ar hlen (by simpa [elems] using hbad)⟩
  match ar, hlen, hbad with
  | x :: y :: rest, _, hbad =>
    obtain ⟨f, rfl⟩ : ∃ f, fuel = f + 1 := ⟨fuel - 1, by omega⟩
    unfold cycleBytes
    have h2 : ¬ ((x :: y :: rest).map (· * w)).length < 2 := by simp
    have h0 : ¬ w = 0 := by omega
    simp only [h2, h0, if_false]
    obtain ⟨l, hl⟩ : ∃ l, l + 1 = if 256 < w then 256 else w := ⟨(if 256 < w then 256 else w) - 1, by split <;> omega⟩
    rw [← hl]
    cases ht : loadTmp mem ((x :: y :: rest).map (· * w)).head! (l + 1) with
    | error e => exact ⟨e, rfl⟩
    | ok tmp =>
      have htl : tmp.length = l + 1 := by
        by_cases hx : x < n
        · have hl2 : 0 + (l + 1) ≤ w := by rw [hl]; split <;> omega
          have hl1 : l + 1 ≤ 256 := by rw [hl]; split <;> omega
          have := Cyc.loadTmp_rep2 (Cyc.rep2_self hm) hx hl2 hl1
          have hhd : ((x :: y :: rest).map (· * w)).head! = x * w + 0 := rfl
          rw [hhd, this] at ht
          injection ht with ht
          rw [← ht]; simp
        · exfalso
          have hhd : ((x :: y :: rest).map (· * w)).head! = x * w := rfl
          have hle : n * w ≤ x * w := Nat.mul_le_mul_right w (by omega)
          have hg : ¬ x * w + 0 < mem.size := by omega
          rw [hhd] at ht
          unfold loadTmp at ht
          split at ht
          · cases ht
          · rw [List.range_succ_eq_map, List.mapM_cons] at ht
            simp only [getE, hg, dite_false, bind, Except.bind] at ht
            cases ht
      obtain ⟨e, he⟩ := Cyc.chunkGo_fault (w := w) tmp htl (y :: rest) x mem hm hbad
      exact ⟨e, by simp only [bind, Except.bind, he]⟩

/-- EXAMPLE: width 300 (> 256, not a multiple of 256: chunks of 256 and 44 bytes), 3 elements, the rotation `[2, 0, 1]`,
2 rounds of fuel: the hypotheses of the main theorem hold -/
example : ∃ mem', cycleBytes 2 (Array.ofFn (n := 900) fun i => i.val.toUInt8) 300 ([2, 0, 1].map (· * 300)) = .ok mem' ∧
    mem'.size = 3 * 300 ∧
    cycleElems (elems (Array.ofFn (n := 900) fun i => i.val.toUInt8) 300 3) [2, 0, 1] = .ok (elems mem' 300 3) :=
  cycleBytes_is_cycle 300 3 _ (by simp) [2, 0, 1] (by decide) 2 (by decide)

/-- non-vacuity: width 300 (chunks of 256 and 44 bytes), 3 elements, positions 2, 0, 1, fuel 2 -/
example : (Array.ofFn (n := 900) fun i => i.val.toUInt8).size = 3 * 300 ∧ (∀ x ∈ [2, 0, 1], x < 3) ∧ 300 ≤ 256 * 2 := by
  refine ⟨by simp, by decide, by decide⟩

/-! ## entry checks of `_qsort_s_chk` (doc comment: ESNULLP / ESLEMAX / ESNOSPC) -/

/-- a rejected call: code returned, exactly one str-handler event with that code, nothing touched -/
def Rejected (r : M (Out α Nat)) (s : St α) (code : Nat) : Prop :=
  r = .ok ⟨code, none, [(.str, code)], s⟩

theorem qsortChk_lemax (fx : Fixes) (c : Cmp α) (g : Args) (s : St α)
    (hp : g.nmemb = 0 ∨ (g.baseNull = false ∧ g.cmpNull = false)) (hb : g.bos = none)
    (hl : g.nmemb > RSIZE_MAX_MEM ∨ g.size > RSIZE_MAX_MEM) : Rejected (qsortChk fx c g s) s ESLEMAX := by
  unfold Rejected qsortChk
  simp only [no_null hp, if_false, hb]
  simp [hl]

/-- (3, FULL for the branch with a known object size) all three repairs, object size `b` known and at most `2^63` bytes (every
    object is: `PTRDIFF_MAX`), array of exactly `nmemb` elements: EVERY call — any `nmemb`, comparator, NULL arguments or not,
    `nmemb*size` fitting the object or not — returns (a rejection or the sorted run) and keeps the element count.  The
    product hypothesis of `qsort_safe` is implied by the function's own (repaired) check. -/
theorem qsort_safe_bos_known (fx : Fixes) (hfx : fx.ctz64 = true) (hgap : fx.pntzGap = true) (hovf : fx.ovf = true) (c : Cmp α)
    (g : Args) (s : St α) (b : Nat) (hb : g.bos = some b) (hb63 : b ≤ 2 ^ 63) (hn : g.nmemb = s.a.size)
    (h3 : 3 * g.size < 2 ^ 64) : ∃ o, qsortChk fx c g s = .ok o ∧ o.st.a.size = s.a.size := by
  by_cases hnull : g.nmemb ≠ 0 ∧ (g.baseNull = true ∨ g.cmpNull = true)
  · exact ⟨_, qsortChk_null fx c g s hnull.1 hnull.2, rfl⟩
  · by_cases hprod : g.nmemb * g.size > b
    · exact ⟨_, qsortChk_nospc c g s fx hovf hnull b hb hprod, rfl⟩
    · exact qsort_safe fx hfx hgap c g s hn (by omega) h3

example : (⟨false, false, false, 6, 4, some 24⟩ : Args).bos = some 24 ∧ 24 ≤ 2 ^ 63 ∧ allFixed.ovf = true := by decide

/- FULL statement, false of the unrepaired check (`fx.ovf = false`: `nmemb * size` computed in `size_t`):
   theorem qsortChk_nospc_full (fx) … (hl : g.nmemb * g.size > b) : Rejected (qsortChk fx c g s) s ESNOSPC -/

/-- unrepaired check (`fx.ovf = false`): rejected when the product fits `size_t` -/
theorem qsortChk_nospc_partial (c : Cmp α) (g : Args) (s : St α) (fx : Fixes) (hfx : fx.ovf = false)
    (hp : g.nmemb = 0 ∨ (g.baseNull = false ∧ g.cmpNull = false)) (b : Nat) (hb : g.bos = some b)
    (hl : g.nmemb * g.size > b) (hfit : g.nmemb * g.size < 2 ^ 64) : Rejected (qsortChk fx c g s) s ESNOSPC := by
  unfold Rejected qsortChk
  simp only [no_null hp, if_false, hb, hfx]
  simp [Nat.mod_eq_of_lt hfit, hl]

example : (4 : Nat) * 7 > 24 ∧ (4 : Nat) * 7 < 2 ^ 64 := by decide

/-- witness (unrepaired check): nmemb = 2^62+6, size 4, object of 24 bytes: the product wraps to 24, the call is
    NOT rejected and sorts 6 elements although nmemb*size exceeds the object by 2^64 bytes -/
theorem qsortChk_overflow_witness :
    (match qsortChk unrepaired natCmp ⟨false, false, false, 2 ^ 62 + 6, 4, some 24⟩ ⟨#[5, 3, 9, 1, 2, 8], [], 0⟩ with
     | .ok o => o.ret == EOK && o.events.isEmpty && o.st.a.toList == [1, 2, 3, 5, 8, 9]
     | .error _ => false) = true ∧ (2 ^ 62 + 6) * 4 > 24 := by
  constructor
  · decide +kernel
  · decide

/-! ## bsearch_s -/

/-- the entry checks of `_bsearch_s_chk` let the call through -/
def BsPasses (fx : Fixes) (g : Args) : Prop :=
  ¬(g.nmemb ≠ 0 ∧ (g.keyNull = true ∨ g.baseNull = true ∨ g.cmpNull = true)) ∧
  match g.bos with
  | none => ¬(g.nmemb > RSIZE_MAX_MEM ∨ g.size > RSIZE_MAX_MEM)
  | some b => if fx.ovf then ¬(g.size ≠ 0 ∧ g.nmemb > b / g.size) else ¬((g.nmemb * g.size) % 2 ^ 64 > b)

/-- (4) `bsearch_s` on an array whose `nmemb` elements are partitioned w.r.t. the key (`f x = compar(key, x)`:
    elements comparing less, then equal, then greater — the standard's precondition), consistent comparator:
    the call returns; a returned position holds an element comparing equal; NULL is returned only if NO element
    compares equal; every probe is at a position `< nmemb` with the caller's ctx; the array is untouched;
    errno 0, no handler; at most `steps nmemb` = ⌈log2 nmemb⌉ + 1 probes (see `bsearch_probe_bound`) -/
theorem bsearch_C16 (fx : Fixes) (f : α → Int) (ctx : Nat) (g : Args) (s : St α)
    (hv : BsPasses fx g) (hn : g.nmemb = s.a.size) (hp : Partitioned f s.a g.nmemb) :
    ∃ o, bsearchChk fx (BCmp.pureOf f ctx) g s = .ok o ∧ o.st.a = s.a ∧ o.errno = some 0 ∧ o.events = [] ∧
      (∀ j, o.ret = some j → ∃ h : j < s.a.size, f s.a[j] = 0) ∧
      (o.ret = none → ∀ j (h : j < s.a.size), f s.a[j] ≠ 0) ∧
      (∃ l, o.st.log = l ++ s.log ∧ l.length = o.st.ncmp - s.ncmp ∧ ∀ ev ∈ l, ev.i < g.nmemb ∧ ev.j = ev.i ∧ ev.ctx = ctx) ∧
      o.st.ncmp - s.ncmp ≤ steps g.nmemb g.nmemb := by
  obtain ⟨r, hr, run⟩ := bsearchLoop_any (BCmp.pureOf f ctx) g.nmemb s 0 g.nmemb (Nat.le_refl _) (by omega)
  obtain ⟨hfound, hnone⟩ := bsearchLoop_spec f ctx g.nmemb s.a hp g.nmemb s 0 g.nmemb r rfl (by omega) (by omega)
    (by intro j h hj; omega) (by intro j h h1 h2; omega) hr
  refine ⟨⟨r.1, some 0, [], r.2⟩, ?_, run.arr, rfl, rfl, hfound, ?_, ?_, run.cnt⟩
  · rw [bsearchChk_passes fx _ g s hv.1 hv.2, hr]; rfl
  · intro hn' j h; exact hnone hn' j h (by omega)
  · obtain ⟨l, e1, e2, e3⟩ := run.log
    exact ⟨l, e1, e3 rfl, fun ev hev => by have := e2 ev hev; exact ⟨by omega, this.2.2⟩⟩

/-- non-vacuity of `Partitioned` (key 5, which the array holds) -/
example : Partitioned (fun x : Nat => if 5 < x then -1 else if 5 > x then (1 : Int) else 0) #[1, 2, 3, 5, 8, 9] 6 := by
  -- the array ascends, and the sign of the comparison with 5 descends along it
  have asc : ∀ i j : Fin 6, i ≤ j → #[1, 2, 3, 5, 8, 9][i] ≤ #[1, 2, 3, 5, 8, 9][j] := by decide
  have neg : ∀ x : Nat, (if 5 < x then -1 else if 5 > x then (1 : Int) else 0) < 0 ↔ 5 < x := by
    intro x; split <;> (try split) <;> omega
  have pos : ∀ x : Nat, (if 5 < x then -1 else if 5 > x then (1 : Int) else 0) > 0 ↔ x < 5 := by
    intro x; split <;> (try split) <;> omega
  constructor
  · intro i j hi hj hij _
    rw [neg, neg]
    exact fun h => Nat.lt_of_lt_of_le h (asc ⟨i, hi⟩ ⟨j, hj⟩ hij)
  · intro i j hi hj hij _
    rw [pos, pos]
    exact fun h => Nat.lt_of_le_of_lt (asc ⟨i, hi⟩ ⟨j, hj⟩ hij) h

/-- (4, every comparator) bounds and termination do not depend on the comparator: any answers whatsoever,
    the loop returns, leaves the array alone, probes only positions `< nmemb`, at most `steps nmemb` times -/
theorem bsearch_any_comparator (fx : Fixes) (c : BCmp α) (g : Args) (s : St α)
    (hv : BsPasses fx g) (hn : g.nmemb ≤ s.a.size) :
    ∃ o, bsearchChk fx c g s = .ok o ∧ o.st.a = s.a ∧ (∀ j, o.ret = some j → j < g.nmemb) ∧
      o.st.ncmp - s.ncmp ≤ steps g.nmemb g.nmemb ∧
      ∃ l, o.st.log = l ++ s.log ∧ ∀ ev ∈ l, ev.i < g.nmemb ∧ ev.ctx = c.ctx := by
  obtain ⟨r, hr, ha, _, hc, hf, l, el, pl, _⟩ := bsearchLoop_any c g.nmemb s 0 g.nmemb (Nat.le_refl _) (by omega)
  refine ⟨⟨r.1, some 0, [], r.2⟩, ?_, ha, fun j hj => by have := hf j hj; omega, hc, l, el, fun ev hev => by have := pl ev hev; omega⟩
  rw [bsearchChk_passes fx _ g s hv.1 hv.2, hr]; rfl

/-- the probe bound in closed form: for `nmemb ≥ 2`, `2^(probes-1) ≤ 2(nmemb-1)`, i.e. probes ≤ ⌈log2 nmemb⌉ + 1 -/
theorem bsearch_probe_bound (n : Nat) (h : 2 ≤ n) : 2 ^ (steps n n - 1) ≤ 2 * (n - 1) := steps_bound n n h

/- FULL statement asked for ("number of comparisons ≤ log2(nmemb)+1" with the integer logarithm), false of the code:
   theorem bsearch_probe_floor (…) : o.st.ncmp - s.ncmp ≤ Nat.log2 g.nmemb + 1 -/

/-- witness: 3 elements, key larger than all: 3 probes (positions 1, 2, 2), while ⌊log2 3⌋ + 1 = 2.
    The right branch keeps the probed element (`base = ptry; nmemb -= nmemb/2`), which is probed again. -/
theorem bsearch_probe_floor_witness :
    (match bsearchChk unrepaired (BCmp.pureOf (fun x : Nat => if 9 < x then -1 else if 9 > x then (1 : Int) else 0) 0) (okArgs 3 4) ⟨#[1, 2, 3], [], 0⟩ with
     | .ok o => o.st.ncmp == 3 && o.st.log.map (·.i) == [2, 2, 1] && o.ret == none
     | .error _ => false) = true ∧ Nat.log2 3 + 1 = 2 := by
  constructor <;> decide +kernel

/-- unrepaired check, object size known: the wrapped product passes the check and the first probe is at
    position nmemb/2 = 2^61, outside the 4 elements that exist (the C computes `base + size*(nmemb/2)`) -/
theorem bsearchChk_overflow_witness :
    (match bsearchChk unrepaired (BCmp.pureOf (fun x : Nat => if 5 < x then -1 else if 5 > x then (1 : Int) else 0) 0)
      ⟨false, false, false, 2 ^ 62 + 1, 4, some 16⟩ ⟨#[1, 2, 3, 5], [], 0⟩ with
     | .error (.idx i) => i == 2 ^ 61
     | _ => false) = true ∧ (2 ^ 62 + 1) * 4 > 16 := by
  constructor
  · decide +kernel
  · decide

/-- repaired code: with a known object size that really holds the array (`bos ≤ size * a.size`), a call that passes the
    checks has `nmemb ≤ a.size`, so `bsearch_any_comparator` applies: no probe outside the array -/
theorem bsearchChk_safe_fixed (fx : Fixes) (hfx : fx.ovf = true) (g : Args) (b asize : Nat) (hb : g.bos = some b)
    (hs : 0 < g.size) (hobj : b ≤ g.size * asize) (hv : BsPasses fx g) : g.nmemb ≤ asize := by
  obtain ⟨_, h2⟩ := hv
  simp only [hb, hfx, if_true] at h2
  have h4 : b / g.size ≤ asize := by
    apply Nat.div_le_of_le_mul; exact hobj
  omega

end SafeC.Props.C16
