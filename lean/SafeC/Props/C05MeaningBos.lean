import SafeC.Props.C05Meaning
/-!
# C05 "meaning" for `memset_s` with a KNOWN object size: `dmax = destbos;` widens `dmax`

With `destbos` known the code replaces `dmax` by it before `n` is compared (known finding `memset-bos-widens-dmax`): an `n` in
`(dmax, destbos]` is not reported.  `_partial` away from that band (and for object sizes within RSIZE_MAX_MEM) + `_witness`.
-/
namespace SafeC.Props.C05Meaning
open SafeC Gen Mem SafeC.Props.C05Mem

/-- src/mem/memset_s.c with the object size `b` of dest known: `memsetCode`'s list plus
`@retval EOVERFLOW when dmax > size of dest` -/
def memsetBosCode (dest dmax value n b : Nat) : Nat :=
  if dest = 0 then ESNULLP
  else if n = 0 then EOK
  else if dmax > RSIZE_MAX_MEM then ESLEMAX
  else if dmax > b then EOVERFLOW
  else if asInt value > 255 then ESLEMAX
  else if n > dmax then (if n > RSIZE_MAX_MEM then ESLEMAX else ESNOSPC)
  else EOK

/- FULL statement (no hypotheses on `b`, `n`), false of the code: `memset_s_bos_meaning_witness` -/
theorem memset_s_bos_code_partial (dest dmax value n b : Nat) (hb : b ≤ RSIZE_MAX_MEM) (hn : n ≤ dmax ∨ n > b) :
    EV (memset_s dest dmax value n (some b)) (Is .mem (memsetBosCode dest dmax value n b)) := by
  simp only [memset_s, memsetBosCode, chkDmaxMemB, Option.getD_some]
  refine is_ite (is_failM _ ne_ESNULLP) (is_ite is_eok ?_)
  by_cases h3 : dmax > b
  · rw [if_pos h3, if_pos h3]
    exact is_ite (is_failM _ ne_ESLEMAX) (is_failM _ ne_EOVERFLOW)
  · rw [if_neg h3, if_neg h3, if_neg (show ¬ dmax > RSIZE_MAX_MEM by omega)]
    refine is_ite (is_failM _ ne_ESLEMAX) (is_ite' (by omega) ?_ ?_)
    · exact is_report_work (q_mem_prim_set _ _ _ _) _ (ite_ne_EOK ne_ESLEMAX ne_ESNOSPC)
    · exact is_work_eok (q_mem_prim_set _ _ _ _)

/-- memset_s, object size `b ≤ RSIZE_MAX_MEM` known, `n` not in `(dmax, b]`: the code is `memsetBosCode` of the arguments -/
theorem memset_s_bos_meaning_partial (dest dmax value n b : Nat) (hb : b ≤ RSIZE_MAX_MEM) (hn : n ≤ dmax ∨ n > b)
    (st : St) (r : Nat) (st' : St) (he : exec (memset_s dest dmax value n (some b)) st = .ok (r, st')) :
    r = memsetBosCode dest dmax value n b ∧
      ((r = EOK ∧ st'.events = st.events) ∨ (r ≠ EOK ∧ st'.events = st.events ++ [.handler .mem r])) :=
  Is.sound (memset_s_bos_code_partial dest dmax value n b hb hn) st r st' he

/-- the excluded band: `memset_s(d, 1, 7, 2)` on a 4-byte object: `dmax < n` is not reported, 2 bytes are written -/
theorem memset_s_bos_meaning_witness :
    ((exec (memset_s 100 1 7 2 (some 4))
      { data := fun _ => 0, mapped := fun _ => true, rd := fun _ => true, wr := fun _ => true }).toOption.map
        (fun x => (x.1, x.2.events, x.2.data 101))) = some (EOK, [], 7) ∧ memsetBosCode 100 1 7 2 4 = ESNOSPC := by
  decide

theorem memsetBosCode_eok_iff (dest dmax value n b : Nat) :
    memsetBosCode dest dmax value n b = EOK ↔
      dest ≠ 0 ∧ (n = 0 ∨ (dmax ≤ RSIZE_MAX_MEM ∧ dmax ≤ b ∧ asInt value ≤ 255 ∧ n ≤ dmax)) := by
  unfold memsetBosCode
  rw [ite_fail_eq_EOK ne_ESNULLP, ite_EOK_eq_EOK, ite_fail_eq_EOK ne_ESLEMAX, ite_fail_eq_EOK ne_EOVERFLOW, ite_fail_eq_EOK ne_ESLEMAX, ite_fail_eq_EOK (ite_ne_EOK ne_ESLEMAX ne_ESNOSPC)]
  omega

/-- non-vacuity: a reporting run within the hypotheses (dmax above the object size) -/
example : (4 : Nat) ≤ RSIZE_MAX_MEM ∧ ((1 : Nat) ≤ 5 ∨ 1 > 4) ∧ ((exec (memset_s 100 5 7 1 (some 4))
      { data := fun _ => 0, mapped := fun _ => true, rd := fun _ => true, wr := fun _ => true }).toOption.map
        (fun x => (x.1, x.2.events))) = some (memsetBosCode 100 5 7 1 4, [.handler .mem EOVERFLOW]) := by decide

end SafeC.Props.C05Meaning
