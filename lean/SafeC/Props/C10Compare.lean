import SafeC.Props.C10
import SafeC.Proofs.QueryScan
/-!
# C10: comparisons

`strcasecmp_s strcmpfld_s wcscmp_s wcsncmp_s memcmp16_s memcmp32_s`.

Setting as in `C10.lean`.  For every function but `memcmp16_s` an `…_eq` theorem says what the code computes on ANY
memory contents (all sizes); the `…_partial` theorem is the property's statement under the hypothesis
the code forces (`_hin`, the comparison is decided inside the extent: the equation is the `…_eq` theorem and holds without it,
with it the value is the standard function's answer); each `…_witness` is a concrete valid call outside that hypothesis with an answer
that differs from the standard function's.
-/
namespace SafeC.Props.C10
open SafeC Gen

/-! ## strcasecmp_s

FULL statement (false of the code): *the value stored has the sign of `strcasecmp` (characters folded
with `toupper`, C locale, unsigned) restricted to the first `dmax` characters.*  When neither string
ends nor differs within `dmax` characters the cells at index `dmax` are folded and subtracted. -/

/-- what `strcasecmp_s` computes on ANY memory: the difference of the upper-cased (unsigned)
characters at `stopIdxF toUpperC` — the first index at which a string ends or the folded characters
differ, `dmax` if there is none -/
theorem strcasecmp_s_eq (dest dmax src : Nat) (st : St) (hall : AllRd st)
    (hd : dest ≠ 0) (hs : src ≠ 0) (hpos : 0 < dmax) (hle : dmax ≤ RSIZE_MAX_STR) :
    exec (strcasecmp_s dest dmax src none) st =
      .ok ((EOK, (toUpperC (st.data (dest + stopIdxF toUpperC st.data dest src dmax)) : Int) -
                 (toUpperC (st.data (src + stopIdxF toUpperC st.data dest src dmax)) : Int)), st) := by
  unfold strcasecmp_s
  simp only [qChkS_ok hd (mt Option.some.inj hs) hpos hle, exec_bind, exec_pure, strcasecmpLoop_eq hall]

/-- **strcasecmp_s, partial** (the comparison is decided inside the first `dmax` characters): the
value stored is the difference of the two upper-cased characters at the first index where a string
ends or the strings differ ignoring case — 0 iff they are equal ignoring case, `strcasecmp`'s sign
(with `toupper` folding) otherwise -/
theorem strcasecmp_s_C10_partial (dest dmax src : Nat) (st : St) (hall : AllRd st)
    (hd : dest ≠ 0) (hs : src ≠ 0) (hpos : 0 < dmax) (hle : dmax ≤ RSIZE_MAX_STR)
    (_hin : stopIdxF toUpperC st.data dest src dmax < dmax) :
    exec (strcasecmp_s dest dmax src none) st =
      .ok ((EOK, (toUpperC (st.data (dest + stopIdxF toUpperC st.data dest src dmax)) : Int) -
                 (toUpperC (st.data (src + stopIdxF toUpperC st.data dest src dmax)) : Int)), st) :=
  strcasecmp_s_eq dest dmax src st hall hd hs hpos hle

/-- `dest = "ab…"`, `src = "ac…"`, `dmax = 1`: equal within the extent, the value stored is
`'B' - 'C' = -1`.  Known finding `compare-uses-dest-dmax`. -/
theorem strcasecmp_s_outside_witness :
    exec (strcasecmp_s 100 1 200 none)
        (wMem fun a => if a = 100 then 97 else if a = 101 then 98 else if a = 200 then 97 else if a = 201 then 99 else 0) =
      .ok ((EOK, -1),
        wMem fun a => if a = 100 then 97 else if a = 101 then 98 else if a = 200 then 97 else if a = 201 then 99 else 0) := by
  rw [strcasecmp_s_eq _ _ _ _ (wMem_all _) (by decide) (by decide) (by decide) (by decide)]
  simp [wMem, stopIdxF, toUpperC]

/-- folding to UPPER case (documented) where POSIX `strcasecmp` folds to lower: `"_"` against `"a"`
gives `'_' - 'A' = 30 > 0`; with `tolower` it is `'_' - 'a' < 0`.  Known finding `strcasecmp-folds-upper`. -/
theorem strcasecmp_s_fold_witness :
    exec (strcasecmp_s 100 2 200 none) (wMem fun a => if a = 100 then 95 else if a = 200 then 97 else 0) =
      .ok ((EOK, 30), wMem fun a => if a = 100 then 95 else if a = 200 then 97 else 0) := by
  rw [strcasecmp_s_eq _ _ _ _ (wMem_all _) (by decide) (by decide) (by decide) (by decide)]
  simp [wMem, stopIdxF, toUpperC]

example : ∃ st : St, AllRd st ∧ stopIdxF toUpperC st.data 100 200 4 = 1 ∧ stopIdxF toUpperC st.data 100 200 4 < 4 :=
  ⟨wMem fun a => if a = 100 then 97 else if a = 200 then 65 else 0, wMem_all _, by decide, by decide⟩

/-! ## strcmpfld_s

FULL statement (false of the code): *the value stored is 0 when the two fields of `dmax` characters
are equal, and otherwise has the sign of the difference of the first differing pair as UNSIGNED
characters (no NUL stop: fields).*  The code subtracts plain `char`s, and when the fields are equal
it subtracts the cells at index `dmax`. -/

/-- what `strcmpfld_s` computes on ANY memory -/
theorem strcmpfld_s_eq (dest dmax src : Nat) (st : St) (hall : AllRd st)
    (hd : dest ≠ 0) (hs : src ≠ 0) (hpos : 0 < dmax) (hle : dmax ≤ RSIZE_MAX_STR) :
    exec (strcmpfld_s dest dmax src none) st =
      .ok ((EOK, schar (st.data (dest + diffIdx st.data dest src dmax)) -
                 schar (st.data (src + diffIdx st.data dest src dmax))), st) := by
  unfold strcmpfld_s
  simp only [qChkS_ok hd (mt Option.some.inj hs) hpos hle, exec_bind, exec_pure, strcmpfldLoop_eq hall]

/-- **strcmpfld_s, partial** (the fields differ, at a pair of 7-bit characters): the difference of
the first differing pair -/
theorem strcmpfld_s_C10_partial (dest dmax src : Nat) (st : St) (hall : AllRd st)
    (hd : dest ≠ 0) (hs : src ≠ 0) (hpos : 0 < dmax) (hle : dmax ≤ RSIZE_MAX_STR)
    (i : Nat) (hi : firstDiff st.data dest src dmax = some i)
    (ha : st.data (dest + i) < 128) (hb : st.data (src + i) < 128) :
    exec (strcmpfld_s dest dmax src none) st =
      .ok ((EOK, (st.data (dest + i) : Int) - (st.data (src + i) : Int)), st) := by
  rw [strcmpfld_s_eq dest dmax src st hall hd hs hpos hle]
  simp [diffIdx, hi, schar, ha, hb]

/-- signed comparison: fields `"\x80"` and `"a"`, `dmax = 1`: the value stored is negative.
Known finding `signed-char-compare`. -/
theorem strcmpfld_s_signed_witness :
    exec (strcmpfld_s 100 1 200 none) (wMem fun a => if a = 100 then 128 else if a = 200 then 97 else 0) =
      .ok ((EOK, -225), wMem fun a => if a = 100 then 128 else if a = 200 then 97 else 0) := by
  rw [strcmpfld_s_eq _ _ _ _ (wMem_all _) (by decide) (by decide) (by decide) (by decide)]
  simp [wMem, diffIdx, firstDiff, schar]

/-- equal fields `"a"`, `"a"` (`dmax = 1`) followed by `'b'` and `'c'`: the value stored is `-1`, not 0.
Known finding `compare-uses-dest-dmax`. -/
theorem strcmpfld_s_equal_witness :
    exec (strcmpfld_s 100 1 200 none)
        (wMem fun a => if a = 100 then 97 else if a = 101 then 98 else if a = 200 then 97 else if a = 201 then 99 else 0) =
      .ok ((EOK, -1),
        wMem fun a => if a = 100 then 97 else if a = 101 then 98 else if a = 200 then 97 else if a = 201 then 99 else 0) := by
  rw [strcmpfld_s_eq _ _ _ _ (wMem_all _) (by decide) (by decide) (by decide) (by decide)]
  simp [wMem, diffIdx, firstDiff, schar]

example : ∃ st : St, AllRd st ∧ firstDiff st.data 100 200 4 = some 1 ∧ st.data 101 < 128 ∧ st.data 201 < 128 :=
  ⟨wMem fun a => if a = 100 then 97 else if a = 101 then 98 else if a = 200 then 97 else 0, wMem_all _,
   by decide, by decide, by decide⟩

/-! ## wcscmp_s / wcsncmp_s

FULL statement (false of the code): *the value stored has the sign of `wcscmp` / `wcsncmp` on the
first `min dmax smax [count]` elements.*  The code subtracts, as `int`s with wrap-around, the two
elements at which its loop stopped — also when it stopped because a bound ran out. -/

/-- what `wcscmp_s` computes on ANY memory (`dmax` is tested against the NARROW limit
`RSIZE_MAX_STR`, which is above `RSIZE_MAX_WSTR`: every valid `dmax` passes) -/
theorem wcscmp_s_eq (dest dmax src smax : Nat) (st : St) (hall : AllRd st)
    (hd : dest ≠ 0) (hs : src ≠ 0) (hpos : 0 < dmax) (hle : dmax ≤ RSIZE_MAX_STR)
    (hspos : 0 < smax) (hsle : smax ≤ RSIZE_MAX_WSTR) :
    exec (wcscmp_s dest dmax src smax none none) st =
      .ok ((EOK, subS32 (st.data (dest + stopIdx st.data dest src (min dmax smax)))
                        (st.data (src + stopIdx st.data dest src (min dmax smax)))), st) := by
  exact wcscmpG_eq hall false dest dmax src smax 0 hd hs hpos hle hspos hsle

theorem wcsncmp_s_eq (dest dmax src smax count : Nat) (st : St) (hall : AllRd st)
    (hd : dest ≠ 0) (hs : src ≠ 0) (hpos : 0 < dmax) (hle : dmax ≤ RSIZE_MAX_STR)
    (hspos : 0 < smax) (hsle : smax ≤ RSIZE_MAX_WSTR) :
    exec (wcsncmp_s dest dmax src smax count none none) st =
      .ok ((EOK, subS32 (st.data (dest + stopIdx st.data dest src (min dmax (min smax count))))
                        (st.data (src + stopIdx st.data dest src (min dmax (min smax count))))), st) := by
  exact wcscmpG_eq hall true dest dmax src smax count hd hs hpos hle hspos hsle

/-- **wcscmp_s, partial** (decided inside the first `min dmax smax` elements, and the difference of
the two deciding elements fits an `int`): their difference as signed 32-bit values — 0 iff the
strings are equal up to there, `wcscmp`'s sign otherwise -/
theorem wcscmp_s_C10_partial (dest dmax src smax : Nat) (st : St) (hall : AllRd st)
    (hd : dest ≠ 0) (hs : src ≠ 0) (hpos : 0 < dmax) (hle : dmax ≤ RSIZE_MAX_STR)
    (hspos : 0 < smax) (hsle : smax ≤ RSIZE_MAX_WSTR)
    (_hin : stopIdx st.data dest src (min dmax smax) < min dmax smax)
    (h1 : -(2^31 : Int) ≤ toS32 (st.data (dest + stopIdx st.data dest src (min dmax smax))) -
                          toS32 (st.data (src + stopIdx st.data dest src (min dmax smax))))
    (h2 : toS32 (st.data (dest + stopIdx st.data dest src (min dmax smax))) -
          toS32 (st.data (src + stopIdx st.data dest src (min dmax smax))) < 2^31) :
    exec (wcscmp_s dest dmax src smax none none) st =
      .ok ((EOK, toS32 (st.data (dest + stopIdx st.data dest src (min dmax smax))) -
                 toS32 (st.data (src + stopIdx st.data dest src (min dmax smax)))), st) := by
  rw [wcscmp_s_eq dest dmax src smax st hall hd hs hpos hle hspos hsle, subS32_exact _ _ h1 h2]

/-- **wcsncmp_s, partial**: the same over `min dmax (min smax count)` elements -/
theorem wcsncmp_s_C10_partial (dest dmax src smax count : Nat) (st : St) (hall : AllRd st)
    (hd : dest ≠ 0) (hs : src ≠ 0) (hpos : 0 < dmax) (hle : dmax ≤ RSIZE_MAX_STR)
    (hspos : 0 < smax) (hsle : smax ≤ RSIZE_MAX_WSTR)
    (_hin : stopIdx st.data dest src (min dmax (min smax count)) < min dmax (min smax count))
    (h1 : -(2^31 : Int) ≤ toS32 (st.data (dest + stopIdx st.data dest src (min dmax (min smax count)))) -
                          toS32 (st.data (src + stopIdx st.data dest src (min dmax (min smax count)))))
    (h2 : toS32 (st.data (dest + stopIdx st.data dest src (min dmax (min smax count)))) -
          toS32 (st.data (src + stopIdx st.data dest src (min dmax (min smax count)))) < 2^31) :
    exec (wcsncmp_s dest dmax src smax count none none) st =
      .ok ((EOK, toS32 (st.data (dest + stopIdx st.data dest src (min dmax (min smax count)))) -
                 toS32 (st.data (src + stopIdx st.data dest src (min dmax (min smax count))))), st) := by
  rw [wcsncmp_s_eq dest dmax src smax count st hall hd hs hpos hle hspos hsle, subS32_exact _ _ h1 h2]

/-- `L"ab…"` against `L"ac…"` over `dmax = smax = 1` element: equal within the extent, `-1` stored.
Known finding `wcscmp-bound-ignored`. -/
theorem wcscmp_s_bound_witness :
    exec (wcscmp_s 100 1 200 1 none none)
        (wMem fun a => if a = 100 then 97 else if a = 101 then 98 else if a = 200 then 97 else if a = 201 then 99 else 0) =
      .ok ((EOK, -1),
        wMem fun a => if a = 100 then 97 else if a = 101 then 98 else if a = 200 then 97 else if a = 201 then 99 else 0) := by
  rw [wcscmp_s_eq _ _ _ _ _ (wMem_all _) (by decide) (by decide) (by decide) (by decide) (by decide) (by decide)]
  simp [wMem, stopIdx]; decide

/-- `wcsncmp_s` with `count = 1` on the same strings (`dmax = smax = 4`): `wcsncmp(…, 1)` is 0, `-1` is
stored.  Known finding `wcscmp-bound-ignored`. -/
theorem wcsncmp_s_count_witness :
    exec (wcsncmp_s 100 4 200 4 1 none none)
        (wMem fun a => if a = 100 then 97 else if a = 101 then 98 else if a = 200 then 97 else if a = 201 then 99 else 0) =
      .ok ((EOK, -1),
        wMem fun a => if a = 100 then 97 else if a = 101 then 98 else if a = 200 then 97 else if a = 201 then 99 else 0) := by
  rw [wcsncmp_s_eq _ _ _ _ _ _ (wMem_all _) (by decide) (by decide) (by decide) (by decide) (by decide) (by decide)]
  simp [wMem, stopIdx]; decide

/-- `int` overflow: first elements `0x7fffffff` (= INT_MAX) and `0xffffffff` (= -1): the left string
is the GREATER one, the value stored is `INT_MIN`, negative.  Known finding `wcscmp-int-overflow`. -/
theorem wcscmp_s_overflow_witness :
    exec (wcscmp_s 100 2 200 2 none none)
        (wMem fun a => if a = 100 then 2147483647 else if a = 200 then 4294967295 else 0) =
      .ok ((EOK, -2147483648), wMem fun a => if a = 100 then 2147483647 else if a = 200 then 4294967295 else 0) := by
  rw [wcscmp_s_eq _ _ _ _ _ (wMem_all _) (by decide) (by decide) (by decide) (by decide) (by decide) (by decide)]
  simp [wMem, stopIdx]; decide

example : ∃ st : St, AllRd st ∧ stopIdx st.data 100 200 (min 4 4) < min 4 4 ∧
    toS32 (st.data (100 + stopIdx st.data 100 200 (min 4 4))) - toS32 (st.data (200 + stopIdx st.data 100 200 (min 4 4))) = 1 :=
  ⟨wMem fun a => if a = 100 then 97 else if a = 101 then 99 else if a = 200 then 97 else if a = 201 then 98 else 0,
   wMem_all _, by decide, by decide⟩

example : ∃ st : St, AllRd st ∧ stopIdx st.data 100 200 (min 4 (min 4 3)) < min 4 (min 4 3) ∧
    toS32 (st.data (100 + stopIdx st.data 100 200 (min 4 (min 4 3)))) -
      toS32 (st.data (200 + stopIdx st.data 100 200 (min 4 (min 4 3)))) = -1 :=
  ⟨wMem fun a => if a = 100 then 97 else if a = 101 then 98 else if a = 200 then 97 else if a = 201 then 99 else 0,
   wMem_all _, by decide, by decide⟩

/-- **memcmp16_s, partial** (`dlen * 2 ≤ RSIZE_MAX_MEM16`: the code compares the BYTE count with the
element limit): compares the first `slen ≤ dlen` 16-bit elements; 0 if equal, otherwise the
difference of the first differing pair -/
theorem memcmp16_s_C10_partial (dest dlen src slen : Nat) (st : St) (hall : AllRd st)
    (hd : dest ≠ 0) (hs : src ≠ 0) (hpos : 0 < dlen) (hle : dlen * 2 ≤ RSIZE_MAX_MEM16)
    (hspos : 0 < slen) (hsle : slen ≤ dlen) :
    exec (memcmp16_s dest dlen src slen none none) st =
      .ok ((EOK, match firstDiff st.data dest src slen with
                 | some i => (st.data (dest+i) : Int) - (st.data (src+i) : Int) | none => 0), st) := by
  have hm : RSIZE_MAX_MEM16 < 2^64 := by decide
  refine memcmpG_ok hall hd hs hpos ?_ hspos (by omega) hsle
  rw [Nat.mod_eq_of_lt (by omega)]; exact hle

example : ∃ st : St, AllRd st ∧ firstDiff st.data 100 200 2 = some 1 ∧ (st.data 101 : Int) - (st.data 201 : Int) = -65535 :=
  ⟨wMem fun a => if a = 100 then 7 else if a = 200 then 7 else if a = 201 then 65535 else 0, wMem_all _, by decide, by decide⟩

/-- a VALID element count above half the limit is rejected with ESLEMAX (`dmax = dlen * 2` is
compared with `RSIZE_MAX_MEM16`).  Known finding `memcmp16-bytes-vs-elements` (recorded under C05). -/
theorem memcmp16_s_limit_witness (st : St) :
    (exec (memcmp16_s 100 RSIZE_MAX_MEM16 200 1 none none) st).map (·.1) = .ok (ESLEMAX, -1) := by
  unfold memcmp16_s memcmpG memcmpChecks
  simp [exec_bind, qFailM, handlerM, RSIZE_MAX_MEM16, Except.map]

/-- what `memcmp32_s` computes on ANY memory: the `uint32_t` difference of the first differing
pair converted to `int` -/
theorem memcmp32_s_eq (dest dlen src slen : Nat) (st : St) (hall : AllRd st)
    (hd : dest ≠ 0) (hs : src ≠ 0) (hpos : 0 < dlen) (hle : dlen ≤ RSIZE_MAX_MEM32)
    (hspos : 0 < slen) (hsle : slen ≤ dlen) :
    exec (memcmp32_s dest dlen src slen none none) st =
      .ok ((EOK, match firstDiff st.data dest src slen with
                 | some i => toInt32 (st.data (dest+i) + 2^32 - st.data (src+i)) | none => 0), st) := by
  exact memcmpG_ok hall hd hs hpos hle hspos (by omega) hsle

/-- **memcmp32_s, partial** (the first differing elements are less than `2^31` apart): 0 if the
first `slen` 32-bit elements are equal, otherwise the difference of the first differing pair -/
theorem memcmp32_s_C10_partial (dest dlen src slen : Nat) (st : St) (hall : AllRd st)
    (hd : dest ≠ 0) (hs : src ≠ 0) (hpos : 0 < dlen) (hle : dlen ≤ RSIZE_MAX_MEM32)
    (hspos : 0 < slen) (hsle : slen ≤ dlen)
    (hcells : ∀ a, st.data a < 2^32)
    (hnear : ∀ i, firstDiff st.data dest src slen = some i →
      -(2^31 : Int) ≤ (st.data (dest+i) : Int) - (st.data (src+i) : Int) ∧
      (st.data (dest+i) : Int) - (st.data (src+i) : Int) < 2^31) :
    exec (memcmp32_s dest dlen src slen none none) st =
      .ok ((EOK, match firstDiff st.data dest src slen with
                 | some i => (st.data (dest+i) : Int) - (st.data (src+i) : Int) | none => 0), st) := by
  rw [memcmp32_s_eq dest dlen src slen st hall hd hs hpos hle hspos hsle]
  cases hf : firstDiff st.data dest src slen with
  | none => rfl
  | some i =>
    obtain ⟨h1, h2⟩ := hnear i hf
    simp only [toInt32_diff _ _ h1 h2]

/-- elements `0x80000000` against `0`: the left operand is the greater one, `*diff` is `INT_MIN`.
Known finding `memcmp32-unsigned-diff`. -/
theorem memcmp32_s_sign_witness :
    exec (memcmp32_s 100 1 200 1 none none) (wMem fun a => if a = 100 then 2147483648 else 0) =
      .ok ((EOK, -2147483648), wMem fun a => if a = 100 then 2147483648 else 0) := by
  rw [memcmp32_s_eq _ _ _ _ _ (wMem_all _) (by decide) (by decide) (by decide) (by decide) (by decide) (by decide)]
  simp [wMem, firstDiff]; decide

example : ∃ st : St, AllRd st ∧ (∀ a, st.data a < 2^32) ∧ firstDiff st.data 100 200 2 = some 1 :=
  ⟨wMem fun a => if a = 100 then 7 else if a = 101 then 9 else if a = 200 then 7 else 0, wMem_all _,
   fun a => by simp only [wMem]; split <;> (try split) <;> (try split) <;> omega, by decide⟩

end SafeC.Props.C10
