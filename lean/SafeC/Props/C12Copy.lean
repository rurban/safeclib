import SafeC.Proofs.Footprint
import SafeC.Proofs.InterleaveN
import SafeC.Proofs.AccCopyEntry
import SafeC.Proofs.CopyDisjoint
/-!
# C12 — the string copy family in the vocabulary of `Proofs/CopyDisjoint.lean` (`Disjoint`; `IsStr` = the contents half of `SrcStr`)

`strcpy_s`, `wcscpy_s`, `strncpy_s`, `strcat_s` with a terminated source: the total run from ANY memory loads from
dest ∪ source string and stores to dest only — instances of the footprint theorems of `Proofs/AccCopyEntry.lean`
(which hold for every argument and placement; of the hypotheses below only the one about the source string is used).
So two (or N) copies from the SAME source string into disjoint destinations are covered (`strcpy_s_shared_source`).
-/
namespace SafeC.Props.C12Copy
open SafeC Gen

/-- the `dmax` cells of dest -/
def Dest (dest dmax : Nat) (a : Nat) : Prop := dest ≤ a ∧ a < dest + dmax
/-- the `n` characters of the source string and its terminator -/
def Src (src n : Nat) (a : Nat) : Prop := src ≤ a ∧ a ≤ src + n

/-- a NUL-terminated string of length `n` at `s` (contents only) -/
structure IsStr (st : St) (s n : Nat) : Prop where
  nz : ∀ j, j < n → st.data (s+j) ≠ 0
  nul : st.data (s+n) = 0

/-- the cells of a terminated string, at any cut, are its characters and the terminator -/
theorem IsStr.src {st : St} {s n m a : Nat} (h : IsStr st s n) (ha : Str st.data s m a) : Src s n a :=
  have := Str.of_term h.nul ha
  ⟨this.1, Nat.le_of_lt_succ this.2⟩

theorem strcpy_s_fp (cfg : Cfg) (dest dmax src n : Nat) (st : St)
    (hd : dest ≠ 0) (hs : src ≠ 0) (hpos : 0 < dmax) (hle : dmax ≤ RSIZE_MAX_STR)
    (hstr : IsStr st src n) (hdisj : Disjoint dest dmax src n) :
    Within2 (fun a => Dest dest dmax a ∨ Src src n a) (Dest dest dmax) (strcpy_s cfg dest dmax src none) st :=
  AccS.within2 (Q := fun _ _ => True) (strcpyG_accs _ cfg dest dmax src none (fun _ _ ha => Or.inr (hstr.src ha))
    (fun _ _ ha => Or.inl ha) (fun _ _ ha => ha)) st rfl

theorem wcscpy_s_fp (cfg : Cfg) (dest dmax src n : Nat) (st : St)
    (hd : dest ≠ 0) (hs : src ≠ 0) (hpos : 0 < dmax) (hle : dmax ≤ RSIZE_MAX_WSTR)
    (hstr : IsStr st src n) (hdisj : Disjoint dest dmax src n) :
    Within2 (fun a => Dest dest dmax a ∨ Src src n a) (Dest dest dmax) (wcscpy_s cfg dest dmax src none) st :=
  AccS.within2 (Q := fun _ _ => True) (wcscpy_s_accs cfg dest dmax src none (fun _ _ ha => Or.inr (hstr.src ha))
    (fun _ _ ha => ha)) st rfl

theorem strcat_s_fp (cfg : Cfg) (dest dmax src dl n : Nat) (st : St)
    (hd : dest ≠ 0) (hs : src ≠ 0) (hpos : 0 < dmax) (hle : dmax ≤ RSIZE_MAX_STR)
    (hstr : IsStr st src n) (hdisj : Disjoint dest dmax src n)
    (hdl : dl < dmax) (hdst : IsStr st dest dl) :
    Within2 (fun a => Dest dest dmax a ∨ Src src n a) (Dest dest dmax) (strcat_s cfg dest dmax src none) st :=
  AccS.within2 (Q := fun _ _ => True) (strcatG_accs _ cfg dest dmax src none (fun _ _ ha => Or.inr (hstr.src ha))
    (fun _ _ ha => Or.inl ha) (fun _ _ ha => ha)) st rfl

/-- `strncpy_s(dest, dmax, src, slen)`: `m` = number of source characters before the terminator or `slen`,
whichever comes first; the cell `src + slen` is not touched when no terminator is met -/
theorem strncpy_s_fp (cfg : Cfg) (dest dmax src slen m : Nat) (st : St)
    (hd : dest ≠ 0) (hs : src ≠ 0) (hpos : 0 < dmax) (hle : dmax ≤ RSIZE_MAX_STR)
    (hslen : 0 < slen) (hslenle : slen ≤ RSIZE_MAX_STR)
    (hnz : ∀ j, j < m → st.data (src+j) ≠ 0)
    (hfin : (m < slen ∧ st.data (src+m) = 0) ∨ slen = m)
    (hdisj : dest + dmax ≤ src ∨ src + m < dest) :
    Within2 (fun a => Dest dest dmax a ∨ Src src m a) (Dest dest dmax)
      (strncpy_s cfg dest dmax src slen none none) st :=
  AccS.within2 (Q := fun _ _ => True) (strncpyG_accs _ cfg dest dmax src slen none none (fun _ _ _ h => nomatch h)
    (fun _ a ha => Or.inr (by
      rcases hfin with ⟨_, h0⟩ | rfl
      · exact IsStr.src ⟨hnz, h0⟩ ha
      · exact ⟨ha.1, by have := ha.2.1; omega⟩))
    (fun _ _ ha => Or.inl ha) (fun _ _ ha => ha)) st rfl

/-- **two `strcpy_s` calls copying the SAME source string** into disjoint destinations (both away from
the source), any schedule that lets both finish: each returns its run-alone code, each dest holds its
run-alone contents, the source and everything else is untouched -/
theorem strcpy_s_shared_source (cfg : Cfg) (d1 m1 d2 m2 src n : Nat) (st : St)
    (hd1 : d1 ≠ 0) (hd2 : d2 ≠ 0) (hs : src ≠ 0) (hpos1 : 0 < m1) (hle1 : m1 ≤ RSIZE_MAX_STR)
    (hpos2 : 0 < m2) (hle2 : m2 ≤ RSIZE_MAX_STR) (hstr : IsStr st src n)
    (hdisj1 : Disjoint d1 m1 src n) (hdisj2 : Disjoint d2 m2 src n)
    (h12 : d1 + m1 ≤ d2 ∨ d2 + m2 ≤ d1)
    (sch : List Bool)
    (hfin : done (runSched sch (strcpy_s cfg d1 m1 src none) (strcpy_s cfg d2 m2 src none) st).1 = true ∧
            done (runSched sch (strcpy_s cfg d1 m1 src none) (strcpy_s cfg d2 m2 src none) st).2.1 = true) :
    (runSched sch (strcpy_s cfg d1 m1 src none) (strcpy_s cfg d2 m2 src none) st).1 =
      .ret (runT (strcpy_s cfg d1 m1 src none) st).1 ∧
    (runSched sch (strcpy_s cfg d1 m1 src none) (strcpy_s cfg d2 m2 src none) st).2.1 =
      .ret (runT (strcpy_s cfg d2 m2 src none) st).1 ∧
    (∀ a, Dest d1 m1 a → (runSched sch (strcpy_s cfg d1 m1 src none) (strcpy_s cfg d2 m2 src none) st).2.2.data a =
      (runT (strcpy_s cfg d1 m1 src none) st).2.data a) ∧
    (∀ a, Dest d2 m2 a → (runSched sch (strcpy_s cfg d1 m1 src none) (strcpy_s cfg d2 m2 src none) st).2.2.data a =
      (runT (strcpy_s cfg d2 m2 src none) st).2.data a) ∧
    (∀ a, ¬ Dest d1 m1 a → ¬ Dest d2 m2 a →
      (runSched sch (strcpy_s cfg d1 m1 src none) (strcpy_s cfg d2 m2 src none) st).2.2.data a = st.data a) := by
  have f1 := strcpy_s_fp cfg d1 m1 src n st hd1 hs hpos1 hle1 hstr hdisj1
  have f2 := strcpy_s_fp cfg d2 m2 src n st hd2 hs hpos2 hle2 hstr hdisj2
  obtain ⟨e1, e2, e3, e4, e5⟩ := interleave_shared
    (by intro a ⟨h1, h2⟩
        refine ⟨fun h => ?_, fun h => ?_⟩
        · rcases h with ⟨h3, h4⟩ | ⟨h3, h4⟩
          · omega
          · unfold Disjoint at hdisj1; omega
        · obtain ⟨h3, h4⟩ := h; omega)
    (by intro a ⟨h1, h2⟩
        refine ⟨fun h => ?_, fun h => ?_⟩
        · rcases h with ⟨h3, h4⟩ | ⟨h3, h4⟩
          · omega
          · unfold Disjoint at hdisj2; omega
        · obtain ⟨h3, h4⟩ := h; omega)
    sch _ _ st f1 f2 hfin
  exact ⟨e1, e2, fun a h => e3 a (Or.inr h), fun a h => e4 a (Or.inr h), e5⟩

/-- non-vacuity: "ab" at 200 copied by two threads to 100 (8 cells) and 300 (2 cells: ESNOSPC) -/
example :
    let st : St := { data := fun a => if a = 200 ∨ a = 201 then 65 else 0,
                     mapped := fun _ => false, rd := fun _ => false, wr := fun _ => false }
    IsStr st 200 2 ∧ Disjoint 100 8 200 2 ∧ Disjoint 300 2 200 2 := by
  refine ⟨⟨?_, ?_⟩, Or.inl (by decide), Or.inr (by decide)⟩
  · intro j hj
    have : j = 0 ∨ j = 1 := by omega
    rcases this with rfl | rfl <;> simp
  · simp

end SafeC.Props.C12Copy
