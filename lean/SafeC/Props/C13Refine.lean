import SafeC.Proofs.HandlersAbs
import SafeC.Props.C13
/-!
# C13, second part — refinement to the abstract per-thread-override machine, clauses as corollaries

`Proofs/HandlersAbs.lean` defines the abstract machine `A` (ONE kind: `own : thread → option handler`,
`glob : option handler`; dispatch = own, else global, else default 0) and the abstraction
`absK k : H → A`, `proj k : Op → Option AOp`.  Here:

(a) the concrete machine `H` (the model of `safe_{str,mem}_constraint.c` that the correspondence run
    ties to the C) is the product of two independent copies of `A` — one step commutes
    (`refine_step`, `refine_out`), hence every run of any length from any state (`refine_run`), in
    particular every reachable state (`refine_reachable`);
(b) "registering returns the previously registered handler of the same kind (and scope)" for every
    history: `set_chain`, `set_first`, `thrdSet_chain`, `thrdSet_first`, `thrdSet_after_spawn`;
(c) "registering NULL selects the default": `null_thrd`, `null_thrd_persists`, `null_glob`,
    `null_glob_iff`, `null_is_default_registration`; the unconditional process-wide form is false
    because the thread's OWN registration comes first (that is the first clause of the property, not a
    defect): `null_glob_all_witness`;
(d) a thread-local registration is never used on behalf of, nor observable by, any other thread —
    whether that thread existed before or is created later by anybody — for ALL futures:
    `tl_never_foreign` (one registration, any continuation), `erase_foreign` / `erase_foreign_out`
    (all foreign registrations of a history erased at once); `spawn_clean`;
    what the code does for a child of the registering thread (the property leaves it open, the doc
    comment promises inheritance, `_Thread_local` storage does not provide it): `thrd_inherit_witness`;
(e) independence of the two kinds: `kinds_product`, `other_kind_noop`, `other_kind_run`.

All statements quantify over every state `s : H` — a fortiori every state reachable from `init` —
every thread id, every handler value (incl. NULL = `none`) and every list of operations: arbitrary
interleavings of arbitrarily many threads are exactly the lists of operations (each registration
function is one load and one store of an aligned word; see `C13Micro.lean` for what changes when the
load and the store of a process-wide registration are scheduled separately).
-/
namespace SafeC.Props.C13R
open SafeC SafeC.Handlers

/-! ## (a) refinement -/

/-- one concrete step = the abstract step of the `k`-copy if the operation concerns kind `k`, no step otherwise -/
theorem refine_step (k : Kind) (s : H) (op : Op) :
    absK k (step s op).1 = match proj k op with
      | some a => ((absK k s).step a).1
      | none => absK k s := abs_step k s op

/-- … with the same output (previous handler returned / handler run) -/
theorem refine_out (k : Kind) (s : H) (op : Op) (a : A.AOp) (h : proj k op = some a) :
    (step s op).2 = ((absK k s).step a).2 := abs_out k s op a h

/-- every run, any length, any start state: state and outputs of the `k`-operations are those of the
abstract machine run over the `k`-operations -/
theorem refine_run (k : Kind) (s : H) (ops : List Op) :
    absK k (runC s ops) = (absK k s).run (ops.filterMap (proj k)) ∧
    outsK k s ops = (absK k s).runOut (ops.filterMap (proj k)) :=
  ⟨refines k s ops, refines_out k s ops⟩

/-- every REACHABLE state: reached from `init`, whose two copies are the abstract initial state -/
theorem refine_reachable (k : Kind) (ops : List Op) :
    absK k (runC init ops) = A.init.run (ops.filterMap (proj k)) ∧
    outsK k init ops = A.init.runOut (ops.filterMap (proj k)) := by
  have := refine_run k init ops
  rwa [absK_init] at this

/-- the histories of `Props/C13.lean` (most recent first) are the chronological runs -/
theorem runR_is_runC (hist : List Op) : runR hist = runC init hist.reverse := by
  induction hist with
  | nil => rfl
  | cons op older ih =>
    rw [List.reverse_cons, runC_append, ← ih]
    rfl

/-- **dispatch rule, every state**: thread's own handler if any, else the process-wide one, else the default -/
theorem dispatch_state (s : H) (t : Tid) (k : Kind) :
    invoked s t k = ((s.tl t k).orElse fun _ => s.glob k).getD 0 := by
  unfold invoked
  cases s.tl t k <;> cases s.glob k <;> rfl

theorem own_first (s : H) (t : Tid) (k : Kind) (h : Hid) (ho : s.tl t k = some h) : invoked s t k = h := by
  simp [invoked, ho]

theorem global_second (s : H) (t : Tid) (k : Kind) (h : Hid) (ho : s.tl t k = none) (hg : s.glob k = some h) :
    invoked s t k = h := by
  simp [invoked, ho, hg]

theorem default_last (s : H) (t : Tid) (k : Kind) (ho : s.tl t k = none) (hg : s.glob k = none) :
    invoked s t k = 0 := by
  simp [invoked, ho, hg]

/-! ## (b) registering returns the previously registered handler of the same kind and scope -/

/-- two consecutive process-wide registrations of kind `k` (anything in between that is not one:
thread-local registrations, the other kind, violations, thread creations, by any threads): the second
returns what the first stored, whichever threads made them -/
theorem set_chain (s : H) (pre mid : List Op) (t1 t2 : Tid) (k : Kind) (h1 h2 : Option Hid)
    (hmid : ∀ op ∈ mid, isSet k op = false) :
    (step (runC s (pre ++ [.set t1 k h1] ++ mid)) (.set t2 k h2)).2 = .prev (some (reg h1)) := by
  simp only [step, List.append_assoc, runC_append, runC]
  rw [glob_run_noSet k _ mid hmid]
  simp

/-- the first process-wide registration of a kind returns NULL -/
theorem set_first (ops : List Op) (t : Tid) (k : Kind) (h : Option Hid)
    (hno : ∀ op ∈ ops, isSet k op = false) :
    (step (runC init ops) (.set t k h)).2 = .prev none := by
  simp only [step]
  rw [glob_run_noSet k _ ops hno]
  rfl

/-- two consecutive thread-local registrations of kind `k` by thread `t` (in between: anything that is
neither one nor a re-creation of `t`): the second returns what the first stored -/
theorem thrdSet_chain (s : H) (pre mid : List Op) (t : Tid) (k : Kind) (h1 h2 : Option Hid)
    (hmid : ∀ op ∈ mid, touchesTl t k op = false) :
    (step (runC s (pre ++ [.thrdSet t k h1] ++ mid)) (.thrdSet t k h2)).2 = .prev (some (reg h1)) := by
  simp only [step, List.append_assoc, runC_append, runC]
  rw [tl_run_noTouch t k _ mid hmid]
  simp

/-- a thread's first thread-local registration of a kind returns NULL -/
theorem thrdSet_first (ops : List Op) (t : Tid) (k : Kind) (h : Option Hid)
    (hno : ∀ op ∈ ops, touchesTl t k op = false) :
    (step (runC init ops) (.thrdSet t k h)).2 = .prev none := by
  simp only [step]
  rw [tl_run_noTouch t k _ ops hno]
  rfl

/-- … and so does the first one of a thread created in ANY state by ANY thread (nothing is inherited) -/
theorem thrdSet_after_spawn (s : H) (mid : List Op) (p t : Tid) (k : Kind) (h : Option Hid)
    (hmid : ∀ op ∈ mid, touchesTl t k op = false) :
    (step (runC s (.spawn p t :: mid)) (.thrdSet t k h)).2 = .prev none := by
  simp only [step, runC]
  rw [tl_run_noTouch t k _ mid hmid]
  simp

/-! ## (c) registering NULL selects the default -/

/-- thread-local NULL: the thread's violations run the default handler from then on … -/
theorem null_thrd (s : H) (t : Tid) (k : Kind) : invoked (step s (.thrdSet t k none)).1 t k = 0 := by
  simp [step, invoked, reg]

/-- … whatever is registered process-wide later, by anybody, until the thread registers again -/
theorem null_thrd_persists (s : H) (later : List Op) (t : Tid) (k : Kind)
    (hl : ∀ op ∈ later, touchesTl t k op = false) :
    invoked (runC (step s (.thrdSet t k none)).1 later) t k = 0 := by
  unfold invoked
  rw [tl_run_noTouch t k _ later hl]
  simp [step, reg]

/-- process-wide NULL: every thread without a registration of its own runs the default -/
theorem null_glob (s : H) (t t' : Tid) (k : Kind) (hno : s.tl t k = none) :
    invoked (step s (.set t' k none)).1 t k = 0 := by
  simp [step, invoked, reg, hno]

/-- exact form: after a process-wide NULL registration thread `t` runs the default iff it has no
registration of its own or its own registration is the default -/
theorem null_glob_iff (s : H) (t t' : Tid) (k : Kind) :
    invoked (step s (.set t' k none)).1 t k = 0 ↔ (s.tl t k = none ∨ s.tl t k = some 0) := by
  simp only [step, invoked, reg]
  cases h : s.tl t k with
  | none => simp
  | some x => simp

-- FALSE as an unconditional statement:  ∀ s t t' k, invoked (step s (.set t' k none)).1 t k = 0
/-- the thread's own registration takes precedence over a process-wide NULL (first clause of the
property; reachable state) -/
theorem null_glob_all_witness :
    ∃ ops t t' k, invoked (step (runC init ops) (.set t' k none)).1 t k ≠ 0 :=
  ⟨[.thrdSet 1 .str (some 2)], 1, 0, .str, by decide⟩

/-- NULL and the default handler itself are the same registration, in both scopes -/
theorem null_is_default_registration (s : H) (t : Tid) (k : Kind) :
    (step s (.set t k none)).1.glob = (step s (.set t k (some 0))).1.glob ∧
    (step s (.thrdSet t k none)).1.tl = (step s (.thrdSet t k (some 0))).1.tl := ⟨rfl, rfl⟩

/-! ## (d) a thread-local registration and the other threads -/

/-- ONE thread-local registration `op` by another thread, made in any state, followed by ANY
continuation `later`: everything thread `t` can observe — both process-wide slots, its own slots, hence
the handler run for each of its violations and the value returned by each of its registrations — is as
if `op` had never been made.  `t` may exist already or be created in `later`, by any thread
(including the registering one). -/
theorem tl_never_foreign (s : H) (t : Tid) (op : Op) (later : List Op) (hop : isForeignTl t op = true) :
    view t (runC (step s op).1 later) = view t (runC s later) ∧
    outsT t (step s op).1 later = outsT t s later ∧
    ∀ k, invoked (runC (step s op).1 later) t k = invoked (runC s later) t k := by
  have hv : view t (step s op).1 = view t s := view_foreign t s op (foreignTl_of_isForeignTl t op hop)
  have h1 := view_run_congr t _ _ later hv
  refine ⟨h1, ?_, ?_⟩
  · have a := outsT_erase_foreign t (step s op).1 s later hv
    have b := outsT_erase_foreign t s s later rfl
    rw [a, b]
  · intro k
    simp only [view, Prod.mk.injEq] at h1
    simp only [invoked, h1.1, h1.2]

/-- the same for a whole history: erase EVERY thread-local registration made by other threads — the
state thread `t` can observe is unchanged -/
theorem erase_foreign (s : H) (t : Tid) (ops : List Op) :
    view t (runC s ops) = view t (runC s (ops.filter fun op => !isForeignTl t op)) :=
  view_erase_foreign t s s ops rfl

/-- … and so is every output thread `t` ever gets -/
theorem erase_foreign_out (s : H) (t : Tid) (ops : List Op) :
    outsT t s ops = outsT t s (ops.filter fun op => !isForeignTl t op) :=
  outsT_erase_foreign t s s ops rfl

/-- a newly created thread has no registration of its own, whoever created it, in any state:
its violations run the process-wide handler, else the default -/
theorem spawn_clean (s : H) (p c : Tid) (k : Kind) :
    (step s (.spawn p c)).1.tl c k = none ∧
    invoked (step s (.spawn p c)).1 c k = (s.glob k).getD 0 := by
  constructor
  · simp [step]
  · simp only [invoked, step, if_true]
    cases s.glob k <;> rfl

-- documented (thrd_set_*_constraint_handler_s: "only for the calling thread and for any threads that
-- are yet to be created by the calling thread"), NOT what the code does — the property leaves it open:
--   ∀ s p c k h, s.tl p k = some h → invoked (step s (.spawn p c)).1 c k = h
/-- thread 0 registers handler 3 thread-locally, then creates thread 1: a violation on thread 1 runs
the default handler, not 3 -/
theorem thrd_inherit_witness :
    (runC init [.thrdSet 0 .str (some 3)]).tl 0 .str = some 3 ∧
    invoked (runC init [.thrdSet 0 .str (some 3), .spawn 0 1]) 1 .str = 0 := by decide

/-! ## (e) the two kinds are independent -/

/-- two histories with the same `k`-operations (whatever they do to the other kind, in whatever
interleaving) lead to the same `k`-state and give the `k`-operations the same outputs -/
theorem kinds_product (k : Kind) (s : H) (ops1 ops2 : List Op)
    (h : ops1.filterMap (proj k) = ops2.filterMap (proj k)) :
    absK k (runC s ops1) = absK k (runC s ops2) ∧ outsK k s ops1 = outsK k s ops2 := by
  rw [refines, refines, refines_out, refines_out, h]
  exact ⟨rfl, rfl⟩

/-- an operation on the other kind leaves the `k`-copy alone -/
theorem other_kind_noop (k : Kind) (s : H) (op : Op) (h : proj k op = none) :
    absK k (step s op).1 = absK k s := by
  rw [abs_step, h]

/-- any run of operations on the other kind: the handler run for a `k`-violation on any thread is unchanged -/
theorem other_kind_run (k : Kind) (s : H) (ops : List Op) (h : ∀ op ∈ ops, proj k op = none) (t : Tid) :
    invoked (runC s ops) t k = invoked s t k := by
  have : ops.filterMap (proj k) = [] := by
    rw [List.filterMap_eq_nil_iff]; exact h
  rw [abs_invoked, abs_invoked, refines, this]
  rfl

/-! ## non-vacuity -/

example : (step (runC init ([.violate 0 .mem] ++ [.set 0 .str (some 2)] ++ [.thrdSet 1 .str (some 1), .set 0 .mem none]))
    (.set 1 .str none)).2 = .prev (some 2) :=
  set_chain init [.violate 0 .mem] [.thrdSet 1 .str (some 1), .set 0 .mem none] 0 1 .str (some 2) none (by decide)

example : isForeignTl 1 (.thrdSet 0 .str (some 3)) = true := by decide

example : ([.set 0 .str (some 1), .set 0 .mem (some 2), .violate 1 .str] : List Op).filterMap (proj .str) =
    ([.set 0 .mem none, .set 0 .str (some 1), .violate 1 .str, .thrdSet 2 .mem (some 3)] : List Op).filterMap (proj .str) := by
  decide

end SafeC.Props.C13R
