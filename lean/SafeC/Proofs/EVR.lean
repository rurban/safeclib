import SafeC.Proofs.EV
import SafeC.Proofs.Query
/-!
# `EVR p Q`: the event judgement `EV p Q` for a program that has no `store`

The query functions never write.  Their models are walked ONCE, in this judgement: `EVR.ev` gives the event
discipline (C05), `EVR.noStore` the `NoStore` fact behind the `*_readonly` theorems (C10).  A derivation is written as a
term that follows the program: `.load _ _ fun v => …` for a load, `.emit _ _ …` for a handler call, `.ret _ …` at an
exit (the model unfolds by definitional equality), `EVR.ite` / `EVR.bind` for the rest.
-/
namespace SafeC
open Gen

inductive EVR : {α : Type} → Prog α → (α → List Event → Prop) → Prop where
  | ret {α} {Q : α → List Event → Prop} (x : α) : Q x [] → EVR (.ret x) Q
  | load {α} {Q : α → List Event → Prop} (a : Nat) (k : Nat → Prog α) : (∀ v, EVR (k v) Q) → EVR (.load a k) Q
  | emit {α} {Q : α → List Event → Prop} (e : Event) (k : Prog α) : EVR k (fun x es => Q x (e :: es)) → EVR (.emit e k) Q

namespace EVR

theorem ev {α} {p : Prog α} {Q : α → List Event → Prop} (h : EVR p Q) : EV p Q := by
  induction h with
  | ret x hx => exact .ret x hx
  | load a k _ ih => exact .load a _ ih
  | emit e k _ ih => exact .emit e _ ih

theorem noStore {α} {p : Prog α} {Q : α → List Event → Prop} (h : EVR p Q) : NoStore p := by
  induction h with
  | ret x _ => exact .ret x
  | load a k _ ih => exact .load a _ ih
  | emit e k _ ih => exact .emit e _ ih

theorem conseq {α} {p : Prog α} {Q Q' : α → List Event → Prop} (hp : EVR p Q) (h : ∀ x es, Q x es → Q' x es) :
    EVR p Q' := by
  induction hp generalizing Q' with
  | ret x hx => exact .ret x (h x [] hx)
  | load a k _ ih => exact .load a _ (fun v => ih v h)
  | emit e k _ ih => exact .emit e _ (ih (fun x es hq => h x (e :: es) hq))

theorem bind {α β} {p : Prog α} {f : α → Prog β} {Q : α → List Event → Prop} {R : β → List Event → Prop}
    (hp : EVR p Q) (hf : ∀ x es, Q x es → EVR (f x) (fun y es' => R y (es ++ es'))) : EVR (p >>= f) R := by
  induction hp generalizing R with
  | ret x hx => exact hf x [] hx
  | load a k _ ih => exact .load a _ (fun v => ih v hf)
  | emit e k _ ih => exact .emit e _ (ih (fun x es hq => hf x (e :: es) hq))

theorem ite {α} {Q : α → List Event → Prop} {c : Prop} [Decidable c] {p q : Prog α} (hp : EVR p Q) (hq : EVR q Q) :
    EVR (if c then p else q) Q := by
  split <;> assumption

theorem iteH {α} {Q : α → List Event → Prop} {c : Prop} [Decidable c] {p q : Prog α} (hp : c → EVR p Q)
    (hq : ¬ c → EVR q Q) : EVR (if c then p else q) Q := by
  split
  · exact hp ‹_›
  · exact hq ‹_›

abbrev Silent {α} (p : Prog α) : Prop := EVR p (fun _ es => es = [])

theorem Silent.quiet {α} {p : Prog α} (h : Silent p) : Quiet p := h.ev.conseq fun _ _ h => ⟨h, trivial⟩

theorem Silent.then_ {α β} {p : Prog α} {f : α → Prog β} {R : β → List Event → Prop} (hp : Silent p)
    (hf : ∀ x, EVR (f x) R) : EVR (p >>= f) R :=
  bind hp fun x _ he => he ▸ hf x

end EVR
end SafeC
