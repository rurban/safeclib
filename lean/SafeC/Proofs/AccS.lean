import SafeC.Proofs.AccWalk
/-!
# `AccS R W d p Q`: the value-aware footprint judgement for programs that also STORE

Started on contents `d`, every load of `p` is at an address in `R` and continues with the value the memory holds
THEN (earlier stores of `p` included), every store is at an address in `W`; `Q` relates the result and the final
contents.  `AccS.sound` (in `Footprint.lean`): on a state with data `d` in which only `R` is mapped+readable and `W` mapped+writable,
`p` returns and records no stray access.

The loops of the in-place string functions and the tokenizers stop on the contents of `dest` and write `dest` as they go.
The setters test the counter first (`while (dmax && *dest)`) and read `dest[dmax]` in the `if (!*dest)` after a full loop;
the tokenizers read `*dest` before they look at their counter.  Either way the footprint is `Str d₀ dest (dmax+1)` for
the contents `d₀` at the call.
-/
namespace SafeC
open Gen

def updF (d : Nat → Nat) (a v : Nat) : Nat → Nat := fun x => if x = a then v else d x

theorem updF_same {d : Nat → Nat} {a v : Nat} : updF d a v a = v := if_pos rfl
theorem updF_ne {d : Nat → Nat} {a v x : Nat} (h : x ≠ a) : updF d a v x = d x := if_neg h
/-- used with `v = 0`: the in-place string functions store NULs and need the NULs already there to stay -/
theorem updF_of_eq {d : Nat → Nat} {a v x : Nat} (h : d x = v) : updF d a v x = v := by
  by_cases e : x = a
  · rw [e, updF_same]
  · rw [updF_ne e, h]

inductive AccS (R W : Nat → Prop) : {α : Type} → (Nat → Nat) → Prog α → (α → (Nat → Nat) → Prop) → Prop where
  | ret {α} {Q : α → (Nat → Nat) → Prop} {d : Nat → Nat} (x : α) : Q x d → AccS R W d (.ret x) Q
  | load {α} {Q : α → (Nat → Nat) → Prop} {d : Nat → Nat} (a : Nat) (k : Nat → Prog α) :
      R a → AccS R W d (k (d a)) Q → AccS R W d (.load a k) Q
  | store {α} {Q : α → (Nat → Nat) → Prop} {d : Nat → Nat} (a v : Nat) (k : Prog α) :
      W a → AccS R W (updF d a v) k Q → AccS R W d (.store a v k) Q
  | emit {α} {Q : α → (Nat → Nat) → Prop} {d : Nat → Nat} (e : Event) (k : Prog α) :
      AccS R W d k Q → AccS R W d (.emit e k) Q

namespace AccS
variable {R W : Nat → Prop}

theorem pure {α} {Q : α → (Nat → Nat) → Prop} {d : Nat → Nat} (x : α) (h : Q x d) :
    AccS R W d (Pure.pure x : Prog α) Q := .ret x h

theorem bind {α β} {p : Prog α} {f : α → Prog β} {Q : α → (Nat → Nat) → Prop} {S : β → (Nat → Nat) → Prop}
    {d : Nat → Nat} (hp : AccS R W d p Q) (hf : ∀ x d', Q x d' → AccS R W d' (f x) S) : AccS R W d (p >>= f) S := by
  induction hp with
  | ret x hx => exact hf x _ hx
  | load a k ha _ ih => exact .load a _ ha (ih hf)
  | store a v k ha _ ih => exact .store a v _ ha (ih hf)
  | emit e k _ ih => exact .emit e _ (ih hf)

theorem thenPure {α β} {p : Prog α} {Q : α → (Nat → Nat) → Prop} {d : Nat → Nat} {x : β} (hp : AccS R W d p Q) :
    AccS R W d (p >>= fun _ => Pure.pure x) (fun _ _ => True) := bind hp (fun _ _ _ => pure _ trivial)

theorem conseq {α} {p : Prog α} {Q Q' : α → (Nat → Nat) → Prop} {d : Nat → Nat} (hp : AccS R W d p Q)
    (h : ∀ x d', Q x d' → Q' x d') : AccS R W d p Q' := by
  induction hp with
  | ret x hx => exact .ret x (h x _ hx)
  | load a k ha _ ih => exact .load a _ ha (ih h)
  | store a v k ha _ ih => exact .store a v _ ha (ih h)
  | emit e k _ ih => exact .emit e _ (ih h)

theorem frame {α} {p : Prog α} {Q : α → (Nat → Nat) → Prop} {d : Nat → Nat} (h : AccS R W d p Q) :
    AccS R W d p (fun x d' => Q x d' ∧ ∀ a, ¬ W a → d' a = d a) := by
  induction h with
  | ret x hx => exact .ret x ⟨hx, fun _ _ => rfl⟩
  | load a k ha _ ih => exact .load a _ ha ih
  | store a v k ha _ ih =>
    refine .store a v _ ha (ih.conseq (fun x d' ⟨hq, hf⟩ => ⟨hq, fun b hb => ?_⟩))
    rw [hf b hb]
    exact updF_ne fun e => hb (e ▸ ha)
  | emit e k _ ih => exact .emit e _ ih

theorem mono {R' W' : Nat → Prop} {α} {p : Prog α} {Q : α → (Nat → Nat) → Prop} {d : Nat → Nat} (h : AccS R W d p Q)
    (hr : ∀ a, R a → R' a) (hw : ∀ a, W a → W' a) : AccS R' W' d p Q := by
  induction h with
  | ret x hx => exact .ret x hx
  | load a k ha _ ih => exact .load a _ (hr a ha) ih
  | store a v k ha _ ih => exact .store a v _ (hw a ha) ih
  | emit e k _ ih => exact .emit e _ ih

theorem loadBind {α} {f : Nat → Prog α} {Q : α → (Nat → Nat) → Prop} {d : Nat → Nat} {a : Nat} (ha : R a)
    (h : AccS R W d (f (d a)) Q) : AccS R W d (SafeC.load a >>= f) Q := .load a _ ha h
theorem storeBind {α} {f : Unit → Prog α} {Q : α → (Nat → Nat) → Prop} {d : Nat → Nat} {a v : Nat} (ha : W a)
    (h : AccS R W (updF d a v) (f ()) Q) : AccS R W d (SafeC.store a v >>= f) Q := .store a v _ ha h
theorem handlerSBind {α} {f : Unit → Prog α} {Q : α → (Nat → Nat) → Prop} {d : Nat → Nat} (c : Nat)
    (h : AccS R W d (f ()) Q) : AccS R W d (SafeC.handlerS c >>= f) Q := .emit _ _ h
theorem handlerMBind {α} {f : Unit → Prog α} {Q : α → (Nat → Nat) → Prop} {d : Nat → Nat} (c : Nat)
    (h : AccS R W d (f ()) Q) : AccS R W d (SafeC.handlerM c >>= f) Q := .emit _ _ h

theorem ite {α} {Q : α → (Nat → Nat) → Prop} {d : Nat → Nat} {c : Prop} [Decidable c] {p q : Prog α}
    (hp : c → AccS R W d p Q) (hq : ¬ c → AccS R W d q Q) : AccS R W d (if c then p else q) Q := by
  split
  · exact hp ‹_›
  · exact hq ‹_›

theorem bos {α} {Q : α → (Nat → Nat) → Prop} {d : Nat → Nat} {b : Bos} {p : Prog α} {q : Nat → Prog α}
    (hp : b = none → AccS R W d p Q) (hq : ∀ x, b = some x → AccS R W d (q x) Q) :
    AccS R W d (match b with | none => p | some x => q x) Q := by
  cases b
  · exact hp rfl
  · exact hq _ rfl

theorem of_Acc {α} {p : Prog α} {Q : α → Prop} (h : Acc R W p Q) (d : Nat → Nat) :
    AccS R W d p (fun x _ => Q x) := by
  induction h generalizing d with
  | ret x hx => exact .ret x hx
  | load a k ha _ ih => exact .load a _ ha (ih _ _)
  | store a v k ha _ ih => exact .store a v _ ha (ih _)
  | emit e k _ ih => exact .emit e _ (ih _)

theorem of_AccD {α} {p : Prog α} {Q : α → Prop} {d : Nat → Nat} (h : AccD d R p Q) :
    AccS R W d p (fun x d' => d' = d ∧ Q x) := by
  induction h with
  | ret x hx => exact .ret x ⟨rfl, hx⟩
  | load a k ha _ ih => exact .load a _ ha ih
  | emit e k _ ih => exact .emit e _ ih

/-- where every cell is mapped and readable no access faults: the guarded run returns, and the post holds of what it returns
(a store outside the writable cells is recorded as a stray, not refused; nothing is said about strays here) -/
theorem exec_all {α} {p : Prog α} {Q : α → (Nat → Nat) → Prop} {d : Nat → Nat}
    (h : AccS R W d p Q) (st : St) (hd : st.data = d) (hall : ∀ a, st.mapped a = true ∧ st.rd a = true) :
    ∃ r st', exec p st = .ok (r, st') ∧ Q r st'.data := by
  induction h generalizing st with
  | ret x hx => exact ⟨x, st, rfl, hd ▸ hx⟩
  | load a k _ _ ih =>
    obtain ⟨r, st', he, hq⟩ := ih st hd hall
    exact ⟨r, st', by simp only [exec, (hall a).1, if_true, St.noteRd_of_rd (hall a).2, hd]; exact he, hq⟩
  | store a v k _ _ ih =>
    obtain ⟨r, st', he, hq⟩ := ih ((st.noteWr a).upd a v)
      (by funext x; rw [St.upd_data, St.noteWr_data, ← hd]; rfl) (fun x => by simpa using hall x)
    exact ⟨r, st', by simp only [exec, (hall a).1, if_true]; exact he, hq⟩
  | emit e k _ ih => exact ih { st with events := st.events ++ [e] } hd hall

end AccS

theorem Str.upd_off {d : Nat → Nat} {p n a a0 v : Nat} (hoff : a0 < p ∨ a ≤ a0) (h : Str (updF d a0 v) p n a) :
    Str d p n a := by
  obtain ⟨h1, h2, h3⟩ := h
  refine ⟨h1, h2, fun j hj1 hj2 => ?_⟩
  have := h3 j hj1 hj2
  rwa [updF_ne (by omega)] at this

variable {R W : Nat → Prop} {d : Nat → Nat}

theorem AccS_failS {Q : Nat → (Nat → Nat) → Prop} (c : Nat) (h : Q c d) : AccS R W d (failS c) Q := by
  unfold failS; exact AccS.handlerSBind _ (AccS.pure _ h)

theorem AccS_memsetP (v n p : Nat) (hw : ∀ a, Cells p n a → W a) : AccS R W d (memsetP v n p) (fun _ _ => True) :=
  AccS.of_Acc (Acc_memsetP v n p hw) d

theorem AccS_handleError (cfg : Cfg) (p len code : Nat) (hw : ∀ a, Cells p len a → W a) (h0 : W p) :
    AccS R W d (handleError cfg p len code) (fun _ _ => True) :=
  AccS.of_Acc (Acc_handleError cfg p len code hw h0) d

theorem AccS_errRet {α} (cfg : Cfg) (p len code : Nat) (x : α) (hw : ∀ a, Cells p len a → W a) (h0 : W p) :
    AccS R W d (do handleError cfg p len code; pure x : Prog α) (fun _ _ => True) :=
  AccS.thenPure (AccS_handleError cfg p len code hw h0)

theorem AccS_handleStrBosOverflow (cfg : Cfg) (p n : Nat) (hr : ∀ a, Cells p n a → R a)
    (hw : ∀ a, Cells p (max n 1) a → W a) : AccS R W d (handleStrBosOverflow cfg p n) (fun _ _ => True) :=
  AccS.of_Acc (Acc_handleStrBosOverflow cfg p n hr hw) d

theorem AccS_chkDmax (dmax : Nat) (b : Bos) (max : Nat) {k : Prog Nat} (hk : AccS R W d k (fun _ _ => True)) :
    AccS R W d (chkDmax dmax b max k) (fun _ _ => True) := by
  exact AccS.bos (fun _ => AccS.ite (fun _ => AccS_failS _ trivial) fun _ => hk)
    (fun _ _ => AccS.ite (fun _ => AccS.ite (fun _ => AccS_failS _ trivial) fun _ => AccS_failS _ trivial) fun _ => hk)

/-- `CHK_DMAX_MAX` / `CHK_DEST_OVR_CLEAR`: with a known object size below `dmax` the first `destbos` cells are measured
and cleared; the continuation runs with `dmax ≤ destbos` -/
theorem AccS_chkDmaxClearG {α} (mk : Nat → α) (cfg : Cfg) (dest dmax : Nat) (b : Bos) (max : Nat) {k : Prog α}
    (hpos : dmax ≠ 0) (hr : ∀ a, Cells dest dmax a → R a) (hw : ∀ a, Cells dest dmax a → W a)
    (hk : (∀ bos, b = some bos → dmax ≤ bos) → AccS R W d k (fun _ _ => True)) :
    AccS R W d (chkDmaxClearG mk cfg dest dmax b max k) (fun _ _ => True) := by
  have h0 : W dest := hw _ ⟨by omega, by omega⟩
  refine AccS.bos (fun hb => AccS.ite (fun _ => AccS.handlerSBind _ (AccS.pure _ trivial)) fun _ =>
      hk (fun _ h => by rw [hb] at h; cases h))
    (fun bos hb => AccS.ite (fun hgt => AccS.ite (fun _ => ?_) fun _ => ?_) fun hle => hk (fun b' h => by rw [hb] at h; cases h; omega))
  · exact AccS_errRet cfg dest bos _ _ (fun a ha => hw a ha.within) h0
  · exact AccS.bind (AccS_handleStrBosOverflow cfg dest bos
      (fun a ha => hr a ha.within) (fun a ha => hw a ha.within)) (fun _ _ _ => AccS.pure _ trivial)

theorem AccS_chkDmaxClearW (cfg : Cfg) (dest dmax : Nat) (b : Bos) {k : Prog Nat} (hpos : dmax ≠ 0)
    (hw : ∀ a, Cells dest dmax a → W a) (hk : AccS R W d k (fun _ _ => True)) :
    AccS R W d (chkDmaxClearW cfg dest dmax b k) (fun _ _ => True) := by
  have h0 : W dest := hw _ ⟨by omega, by omega⟩
  refine AccS.bos (fun _ => AccS.ite (fun _ => AccS_failS _ trivial) fun _ => hk)
    (fun bos _ => AccS.ite (fun hgt => ?_) fun _ => hk)
  have hsub : ∀ a, Cells dest (bos / SIZEOF_WCHAR_T) a → W a := fun a ⟨h1, h2⟩ => hw a ⟨h1, by
    rw [SIZEOF_WCHAR_T_eq] at hgt h2; omega⟩
  have clr : ∀ e, AccS R W d (do handleError cfg dest (bos / SIZEOF_WCHAR_T) e; pure e : Prog Nat) (fun _ _ => True) :=
    fun e => AccS.bind (AccS_handleError cfg dest _ _ hsub h0) (fun _ _ _ => AccS.pure _ trivial)
  exact AccS.ite (fun _ => clr _) fun _ => clr _

/-- `while (k && *dest) { *dest = v; … }`: counter first.  The pointer it hands back is what
`if (!*dest) memset(…)` dereferences next: after `k` full rounds that is `dest[k]`. -/
theorem AccS_setLoop (v k dest : Nat) (hr : ∀ a, Str d dest (k+1) a → R a) (hw : ∀ a, Cells dest k a → W a) :
    AccS R W d (setLoop v k dest) (fun r _ => r.1 + r.2 = dest + k ∧ R r.1 ∧ dest ≤ r.1) := by
  induction k generalizing dest d with
  | zero => unfold setLoop; exact AccS.pure _ ⟨by simp, Str.first hr, Nat.le_refl _⟩
  | succ n ih =>
    have h0 : R dest := Str.first hr
    refine AccS.loadBind h0 ?_
    refine AccS.ite (fun _ => AccS.pure _ ⟨by simp, h0, Nat.le_refl _⟩) fun hne => ?_
    refine AccS.storeBind (hw _ ⟨by omega, by omega⟩) ?_
    exact (ih (dest+1) (fun a h => hr a (Str.succ hne (Str.upd_off (.inl (by omega)) h)))
        (fun a ha => hw a ha.within)).conseq (fun r _ ⟨g1, g2, g3⟩ => ⟨by omega, g2, by omega⟩)

theorem AccS_slackTail (cfg : Cfg) (p n : Nat) (hr : R p) (hw : ∀ a, Cells p n a → W a) :
    AccS R W d (slackTail cfg p n) (fun _ _ => True) := by
  exact AccS.ite (fun _ => AccS.loadBind hr (AccS.ite (fun _ => AccS_memsetP 0 n p hw) fun _ => AccS.pure _ trivial))
    fun _ => AccS.pure _ trivial

theorem AccS_setBody (cfg : Cfg) (v n dmax dest : Nat) (hn : n ≤ dmax)
    (hr : ∀ a, Str d dest (n+1) a → R a) (hw : ∀ a, Cells dest dmax a → W a) :
    AccS R W d (do
      let (p, _) ← setLoop v n dest
      slackTail cfg p (dmax - (p - dest))
      pure EOK : Prog Nat) (fun _ _ => True) := by
  refine AccS.bind (AccS_setLoop v n dest hr (fun a ha => hw a ha.within)) (fun r d' hq => ?_)
  obtain ⟨r1, r2⟩ := r
  obtain ⟨g1, g2, g3⟩ := hq
  exact AccS.thenPure (AccS_slackTail cfg r1 _ g2 fun a ha => hw a ha.within)

theorem AccS_setBodyAll (cfg : Cfg) (v dmax dest : Nat)
    (hr : ∀ a, Str d dest (dmax+1) a → R a) (hw : ∀ a, Cells dest dmax a → W a) :
    AccS R W d (do
      let (p, m) ← setLoop v dmax dest
      slackTail cfg p m
      pure EOK : Prog Nat) (fun _ _ => True) := by
  refine AccS.bind (AccS_setLoop v dmax dest hr hw) (fun r d' hq => ?_)
  obtain ⟨r1, r2⟩ := r
  obtain ⟨g1, g2, g3⟩ := hq
  exact AccS.thenPure (AccS_slackTail cfg r1 r2 g2 fun a ha => hw a ha.within)

/-- `CHK_DEST_NULL; CHK_DMAX_ZERO`, shared by the string functions that write -/
theorem AccS_destChecks {dest dmax : Nat} {k : Prog Nat}
    (hk : dest ≠ 0 → dmax ≠ 0 → AccS R W d k (fun _ _ => True)) :
    AccS R W d (if dest = 0 then failS ESNULLP else if dmax = 0 then failS ESZEROL else k) (fun _ _ => True) :=
  AccS.ite (fun _ => AccS_failS _ trivial) fun hd => AccS.ite (fun _ => AccS_failS _ trivial) fun hm => hk hd hm

theorem strset_s_accs (cfg : Cfg) (dest dmax value : Nat) (b : Bos)
    (hr : dest ≠ 0 → ∀ a, Str d dest (dmax+1) a → R a) (hw : dest ≠ 0 → ∀ a, Cells dest dmax a → W a) :
    AccS R W d (strset_s cfg dest dmax value b) (fun _ _ => True) := by
  exact AccS_destChecks fun hd _ => AccS_chkDmax _ _ _ <|
    AccS.ite (fun _ => AccS_failS _ trivial) fun _ => AccS_setBodyAll cfg _ dmax dest (hr hd) (hw hd)

theorem strzero_s_accs (cfg : Cfg) (dest dmax : Nat) (b : Bos)
    (hr : dest ≠ 0 → ∀ a, Str d dest (dmax+1) a → R a) (hw : dest ≠ 0 → ∀ a, Cells dest dmax a → W a) :
    AccS R W d (strzero_s cfg dest dmax b) (fun _ _ => True) := by
  exact AccS_destChecks fun hd _ => AccS_chkDmax _ _ _ (AccS_setBodyAll cfg _ dmax dest (hr hd) (hw hd))

/-- `strnset_s` sets at most `n ≤ dmax` characters: the tail read is `dest[n]` at most -/
theorem strnset_s_accs (cfg : Cfg) (dest dmax value n : Nat) (b : Bos)
    (hr : dest ≠ 0 → n ≤ dmax → ∀ a, Str d dest (n+1) a → R a) (hw : dest ≠ 0 → ∀ a, Cells dest dmax a → W a) :
    AccS R W d (strnset_s cfg dest dmax value n b) (fun _ _ => True) := by
  exact AccS_destChecks fun hd _ => AccS_chkDmax _ _ _ <|
    AccS.ite (fun _ => AccS_failS _ trivial) fun _ => AccS.ite (fun _ => AccS_failS _ trivial) fun _ =>
      AccS_setBody cfg _ n dmax dest (by omega) (hr hd (by omega)) (hw hd)

theorem wcsset_s_accs (cfg : Cfg) (dest dmax value : Nat) (b : Bos)
    (hr : dest ≠ 0 → ∀ a, Str d dest (dmax+1) a → R a) (hw : dest ≠ 0 → ∀ a, Cells dest dmax a → W a) :
    AccS R W d (wcsset_s cfg dest dmax value b) (fun _ _ => True) := by
  exact AccS_destChecks fun hd hm => AccS.ite (fun _ => AccS_failS _ trivial) fun _ =>
    AccS_chkDmaxClearW cfg dest dmax b hm (hw hd) (AccS_setBodyAll cfg _ dmax dest (hr hd) (hw hd))

theorem wcsnset_s_accs (cfg : Cfg) (dest dmax value n : Nat) (b : Bos)
    (hr : dest ≠ 0 → n ≤ dmax → ∀ a, Str d dest (n+1) a → R a) (hw : dest ≠ 0 → ∀ a, Cells dest dmax a → W a) :
    AccS R W d (wcsnset_s cfg dest dmax value n b) (fun _ _ => True) := by
  exact AccS_destChecks fun hd hm => AccS.ite (fun _ => AccS_failS _ trivial) fun _ =>
    AccS_chkDmaxClearW cfg dest dmax b hm (hw hd) <| AccS.ite
      (fun _ => AccS.bind (AccS_handleError cfg dest dmax _ (hw hd) (hw hd _ ⟨by omega, by omega⟩)) (fun _ _ _ => AccS.pure _ trivial))
      fun _ => AccS_setBody cfg _ n dmax dest (by omega) (hr hd (by omega)) (hw hd)

/-- the case mappers `strtolowercase_s`, `strtouppercase_s` behind their definitions -/
theorem caseFn_accs (lo' hi' : Nat) (f : Nat → Nat) (dest dmax : Nat) (b : Bos)
    (hr : dest ≠ 0 → ∀ a, Cells dest dmax a → R a) (hw : dest ≠ 0 → ∀ a, Cells dest dmax a → W a) :
    AccS R W d (if dest = 0 then failS ESNULLP else if dmax = 0 then failS ESZEROL
      else chkDmax dmax b RSIZE_MAX_STR <| do caseLoop lo' hi' f dmax dest; pure EOK) (fun _ _ => True) :=
  AccS_destChecks fun hd _ => AccS_chkDmax _ _ _ <|
    AccS.of_Acc (Acc.thenPure (Acc_caseLoop _ _ _ dmax dest (hr hd) (hw hd))) d

end SafeC
