import SafeC.Proofs.SortShape
/-!
# qsort_s model: the standing facts `Ctx` hold for the table `mkLp` builds and for what `pntz` really computes

With both repairs (`Fixes.ctz64`, `Fixes.pntzGap`) `pntz` is the distance to the next set bit of the two-word vector for
every distance (`pntz_spec64`): `ctx_of_fixed`, no bound on the element count.  Without the `pntz` repair the repaired
`ntz` is right as long as that distance is not exactly 64 (`pntz` returns 0 for `p = {1, odd}`: its `r != 64` test cannot
tell "bit 64 set" from "nothing set"), the `int` builtin as long as it is at most 32.  A distance of `d` between two
consecutive tree orders first occurs with `leo (d + 1) + 1` elements, hence the bounds `leo 65` resp. `leo 34` on the element
count in `ctx_of` (`safeBound`).  `qsortMusl_run_gen` (Proofs/SortSorted.lean) turns either into a statement about the whole call.
-/
namespace SafeC.Sort

theorem leo_65 : leo 65 = 55555780070575 := by
  have h : (leoPair 65).1 = 55555780070575 := by decide +kernel
  rw [leoPair_eq] at h; exact h

/-- largest element count for which every `pntz` call of the sort is right when `pntz` itself is not repaired -/
def safeBound (fx : Fixes) : Nat := if fx.ctz64 then 55555780070575 else 18454929

/-- the largest distance between consecutive orders `pntz` handles -/
def gapBound (fx : Fixes) : Nat := if fx.ctz64 then 63 else 32

theorem safeBound_eq (fx : Fixes) : safeBound fx = leo (gapBound fx + 2) := by
  unfold safeBound gapBound
  cases fx.ctz64
  · simp [leo_34]
  · simp [leo_65]

theorem ctx_of (fx : Fixes) (c : Cmp α) (lp : Array Nat) (n K : Nat) (hlp : LpOk lp K) (hK2 : 2 ≤ K) (hK95 : K ≤ 95)
    (hnK : n ≤ leo K) (hb : n ≤ safeBound fx) : Ctx (⟨c.cmp, c.ctx, lp, fx, c.trace⟩ : Env α) n K (gapBound fx) := by
  refine ⟨hlp, fun o ho => leo_le_imp_le hK2 hnK ho, hK95, by unfold gapBound; split <;> omega, ?_, ?_⟩
  · intro o ho
    rw [safeBound_eq] at hb
    refine Nat.le_of_not_lt (fun hlt => ?_)
    have := leo_mono (show gapBound fx + 2 ≤ o by omega)
    omega
  · intro p t h0 ht htG hbt hmin
    show pntz fx p = t
    unfold gapBound at htG
    cases hfx : fx.ctz64 with
    | true =>
      simp only [hfx, if_true] at htG
      exact pntz_spec64_partial fx hfx p t h0 ht (by omega) hbt hmin
    | false =>
      simp only [hfx] at htG
      exact pntz_spec32 fx hfx p t h0 ht (by simpa using htG) hbt hmin

/-- both repairs: `pntz` is right for every distance, and every order is at most 95 (the table), so `G = 127` does -/
theorem ctx_of_fixed (fx : Fixes) (hfx : fx.ctz64 = true) (hgap : fx.pntzGap = true) (c : Cmp α) (lp : Array Nat) (n K : Nat)
    (hlp : LpOk lp K) (hK2 : 2 ≤ K) (hK95 : K ≤ 95) (hnK : n ≤ leo K) :
    Ctx (⟨c.cmp, c.ctx, lp, fx, c.trace⟩ : Env α) n K 127 := by
  refine ⟨hlp, fun o ho => leo_le_imp_le hK2 hnK ho, hK95, by omega, ?_, ?_⟩
  · intro o ho
    have := leo_le_imp_le hK2 hnK (show leo o ≤ n by omega)
    omega
  · intro p t h0 ht _ hbt hmin
    exact pntz_spec64 fx hfx hgap p t h0 ht hbt hmin

end SafeC.Sort
