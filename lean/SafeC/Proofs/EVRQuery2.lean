import SafeC.Proofs.EVQuery
/-!
# C05 and C10 for `Models/Query2.lean`: every model walked once, in the store-free event judgement `EVR`
-/
namespace SafeC.Props.C05Query
open SafeC Gen SafeC.Props.C05Docs

theorem failS2_in {bn S : List Nat} (c o : Nat) (hS : c ∈ S := by decide) (hc : c ≠ EOK := by decide) :
    EVR (failS2 c o) (QIn bn S .str (·.1)) :=
  .emit _ _ (.ret _ (.inr ⟨hS, hc, rfl⟩))

theorem chkDmaxQ_ev {α} {R : α → List Event → Prop} (mk : Nat → α) (dmax : Nat) (db : Bos) (max : Nat) {k : Prog α}
    (hk : EVR k R) (hl : R (mk ESLEMAX) [.handler .str ESLEMAX]) (ho : R (mk EOVERFLOW) [.handler .str EOVERFLOW]) :
    EVR (chkDmaxQ mk dmax db max k) R := by
  have l : EVR (do handlerS ESLEMAX; pure (mk ESLEMAX) : Prog α) R := .emit _ _ (.ret _ hl)
  cases db with
  | none => exact .ite l hk
  | some b => exact .ite (.ite l (.emit _ _ (.ret _ ho))) hk

theorem chkDmaxQ_in {bn S : List Nat} (dmax : Nat) (db : Bos) (max : Nat) {k : Prog (Nat × Nat)}
    (hk : EVR k (QIn bn S .str (·.1))) (h1 : ESLEMAX ∈ S := by decide) (h2 : EOVERFLOW ∈ S := by decide) :
    EVR (chkDmaxQ (fun e => (e, 0)) dmax db max k) (QIn bn S .str (·.1)) :=
  chkDmaxQ_ev _ _ _ _ hk (.inr ⟨h1, by decide, rfl⟩) (.inr ⟨h2, by decide, rfl⟩)

theorem firstcharLoop_ev {S : List Nat} (c n d : Nat) : EVR (firstcharLoop c n d) (QIn [EOK, ESNOTFND] S .str (·.1)) := by
  induction n generalizing d with
  | zero => exact .load _ _ fun _ => notfnd_in
  | succ n ih => exact .load _ _ fun _ => .ite notfnd_in (.ite (.ret _ (.inl ⟨rfl, .head _⟩)) (ih _))

theorem strfirstchar_s_ev (dest dmax c : Nat) (db : Bos) :
    EVR (strfirstchar_s dest dmax c db) (QIn [EOK, ESNOTFND] SChk .str (·.1)) :=
  .ite (failS2_in _ _) (.ite (failS2_in _ _)
    (chkDmaxQ_in _ _ _ (firstcharLoop_ev ..)))

theorem lastcharLoop_ro (c n d l : Nat) : EVR.Silent (lastcharLoop c n d l) := by
  induction n generalizing d l with
  | zero => exact .load _ _ fun _ => .ret _ rfl
  | succ n ih => exact .load _ _ fun _ => .ite (.ret _ rfl) (ih ..)

theorem strlastchar_s_ev (dest dmax c : Nat) (db : Bos) :
    EVR (strlastchar_s dest dmax c db) (QIn [EOK, ESNOTFND] SChk .str (·.1)) :=
  .ite (failS2_in _ _) (.ite (failS2_in _ _)
    (chkDmaxQ_in _ _ _ ((lastcharLoop_ro ..).then_ fun _ =>
      .ite (.ret _ (.inl ⟨rfl, .tail _ (.head _)⟩)) (.ret _ (.inl ⟨rfl, .head _⟩)))))

theorem pairLoop_ro (sm fi : Bool) (rp n d s : Nat) (l : Option Nat) : EVR.Silent (pairLoop sm fi rp n d s l) := by
  induction n generalizing d s l with
  | zero => exact .load _ _ fun _ => .ite (.ret _ rfl) (.load _ _ fun _ => .ret _ rfl)
  | succ n ih =>
    exact .load _ _ fun _ => .ite (.ret _ rfl) (.load _ _ fun _ => .ite (.ret _ rfl)
      (.ite (.ite (.ret _ rfl) (ih ..)) (ih ..)))

theorem pairFn_ev (sm fi : Bool) (nohit : Nat) (dest dmax src : Nat) (db : Bos) :
    EVR (pairFn sm fi nohit dest dmax src db) (QIn [EOK, nohit] SChk .str (·.1)) :=
  have n := failS2_in (bn := [EOK, nohit]) ESNULLP 0 (S := SChk)
  .ite n (.ite n (.ite (failS2_in _ _)
    (chkDmaxQ_in _ _ _ ((pairLoop_ro ..).then_ fun
      | some _ => .ret _ (.inl ⟨rfl, .head _⟩)
      | none => .ret _ (.inl ⟨rfl, .tail _ (.head _)⟩)))))
theorem strfirstdiff_s_ev (dest dmax src : Nat) (db : Bos) :
    EVR (strfirstdiff_s dest dmax src db) (QIn [EOK, ESNODIFF] SChk .str (·.1)) := pairFn_ev ..
theorem strfirstsame_s_ev (dest dmax src : Nat) (db : Bos) :
    EVR (strfirstsame_s dest dmax src db) (QIn [EOK, ESNOTFND] SChk .str (·.1)) := pairFn_ev ..
theorem strlastdiff_s_ev (dest dmax src : Nat) (db : Bos) :
    EVR (strlastdiff_s dest dmax src db) (QIn [EOK, ESNODIFF] SChk .str (·.1)) := pairFn_ev ..
theorem strlastsame_s_ev (dest dmax src : Nat) (db : Bos) :
    EVR (strlastsame_s dest dmax src db) (QIn [EOK, ESNOTFND] SChk .str (·.1)) := pairFn_ev ..

theorem chkDestDmaxBool_ev (dest dmax : Nat) (db : Bos) (max : Nat) {k : Prog Bool} (hk : EVR k PB) :
    EVR (chkDestDmaxBool dest dmax db max k) PB :=
  .ite (failF _) (.ite (failF _)
    (chkDmaxQ_ev _ _ _ _ hk (.inr ⟨rfl, _, by decide, rfl⟩) (.inr ⟨rfl, _, by decide, rfl⟩)))

theorem classLoop_ro (ok : Nat → Bool) (n d : Nat) : EVR.Silent (classLoop ok n d) := by
  induction n generalizing d with
  | zero => exact .load _ _ fun _ => .ret _ rfl
  | succ n ih => exact .load _ _ fun _ => .ite (.ret _ rfl) (.ite (ih _) (.ret _ rfl))
theorem classLoopNoBound_ro (ok : Nat → Bool) (n d : Nat) : EVR.Silent (classLoopNoBound ok n d) := by
  induction n generalizing d with
  | zero => exact .ret _ rfl
  | succ n ih => exact .load _ _ fun _ => .ite (.ret _ rfl) (.ite (ih _) (.ret _ rfl))

theorem predFn_ro (ok : Nat → Bool) (b : Bool) (dest dmax : Nat) (db : Bos) : EVR (predFn ok b dest dmax db) PB :=
  chkDestDmaxBool_ev _ _ _ _ (.load _ _ fun _ => .ite (.ret _ (.inl rfl))
    (.ite (silent_F (classLoop_ro ..)) (silent_F (classLoopNoBound_ro ..))))
theorem strisascii_s_ro (dest dmax : Nat) (db : Bos) : EVR (strisascii_s dest dmax db) PB :=
  chkDestDmaxBool_ev _ _ _ _ (silent_F (classLoop_ro ..))
theorem pwLoop_ev (n d : Nat) (c : PwCnt) : EVR (pwLoop n d c) PB := by
  induction n generalizing d c with
  | zero => exact .load _ _ fun _ => .ite (.ret _ (.inl rfl)) (failF _)
  | succ n ih =>
    exact .load _ _ fun _ => .ite (.ret _ (.inl rfl))
      (.ite (ih ..) (.ite (ih ..) (.ite (ih ..) (.ite (ih ..) (.ret _ (.inl rfl))))))
theorem strispassword_s_ro (dest dmax : Nat) (db : Bos) : EVR (strispassword_s dest dmax db) PB :=
  chkDestDmaxBool_ev _ _ _ _ (.ite (failF _) (.load _ _ fun _ => .ite (.ret _ (.inl rfl)) (pwLoop_ev ..)))
theorem wcsnlenLoop_ro (n s c : Nat) : EVR.Silent (wcsnlenLoop n s c) := by
  induction n generalizing s c with
  | zero => exact .ret _ rfl
  | succ n ih => exact .load _ _ fun _ => .ite (.ret _ rfl) (ih ..)
theorem wcsnlenBosLoop_ro (o n s c b : Nat) : EVR.Silent (wcsnlenBosLoop o n s c b) := by
  induction n generalizing s c b with
  | zero => exact .ret _ rfl
  | succ n ih => exact .load _ _ fun _ => .ite (.ret _ rfl) (.ite (.ret _ rfl) (ih ..))
theorem wcsnlen_s_chk_ro (str smax : Nat) (sb : Bos) : EVR (wcsnlen_s_chk str smax sb) PN :=
  .ite (.ret _ (.inl rfl)) (.ite (failF _) (.ite (failF _)
    (match sb with
    | some _ => silent_F (wcsnlenBosLoop_ro ..)
    | none => silent_F (wcsnlenLoop_ro ..))))
theorem wcscmpLoop_ro (u : Bool) (n sm c d s : Nat) : EVR.Silent (wcscmpLoop u n sm c d s) := by
  induction n generalizing sm c d s with
  | zero => exact .load _ _ fun _ => .ite (.ret _ rfl) (.load _ _ fun _ => .ret _ rfl)
  | succ n ih =>
    exact .load _ _ fun _ => .ite (.ret _ rfl) (.load _ _ fun _ => .ite (.ret _ rfl)
      (.ite (.ret _ rfl) (.ite (.ret _ rfl) (.ite (.ret _ rfl) (ih ..)))))

theorem wcscmpG_ev (u : Bool) (dest dmax src smax count : Nat) (db sb : Bos) :
    EVR (wcscmpG u dest dmax src smax count db sb) (QIn [EOK] SChk .str (·.1)) := by
  refine .ite (qExitS _) (.ite (qExitS _) (.ite (qExitS _) ?_))
  suffices rest : EVR _ _ by
    cases db with
    | none => exact .ite (qExitS _) rest
    | some _ => exact .ite (.ite (qExitS _) (qExitS _)) rest
  suffices body : EVR _ _ by
    refine .ite (qExitS _) ?_
    cases sb with
    | none => exact body
    | some _ => exact .ite (qExitS _) body
  exact (wcscmpLoop_ro ..).then_ fun (_, _) => .load _ _ fun _ => .load _ _ fun _ => .ret _ (.inl ⟨rfl, .head _⟩)
theorem wcscmp_s_ev (dest dmax src smax : Nat) (db sb : Bos) :
    EVR (wcscmp_s dest dmax src smax db sb) (QIn [EOK] SChk .str (·.1)) := wcscmpG_ev ..
theorem wcsncmp_s_ev (dest dmax src smax count : Nat) (db sb : Bos) :
    EVR (wcsncmp_s dest dmax src smax count db sb) (QIn [EOK] SChk .str (·.1)) := wcscmpG_ev ..

theorem wcsstrInner_ro (d s n i l : Nat) : EVR.Silent (wcsstrInner d s n i l) := by
  induction n generalizing i l with
  | zero => exact .load _ _ fun _ => .ret _ rfl
  | succ n ih =>
    exact .load _ _ fun _ => .ite (.ret _ rfl) (.load _ _ fun _ => .ite (.ret _ rfl)
      (.load _ _ fun _ => .ite (.ret _ rfl) (ih ..)))

theorem wcsstrOuter_ev {S : List Nat} (src slen n d : Nat) :
    EVR (wcsstrOuter src slen n d) (QIn [EOK, ESNOTFND] S .str (·.1)) := by
  induction n generalizing d with
  | zero => exact .load _ _ fun _ => notfnd_in
  | succ n ih =>
    exact .load _ _ fun _ => .ite notfnd_in ((wcsstrInner_ro ..).then_ fun _ => .ite (.ret _ (.inl ⟨rfl, .head _⟩)) (ih _))

theorem wcsstr_s_ev (dest dmax src slen : Nat) (db sb : Bos) :
    EVR (wcsstr_s dest dmax src slen db sb) (QIn [EOK, ESNOTFND] SChk .str (·.1)) := by
  have f (c : Nat) (hS : c ∈ SChk := by decide) (hc : c ≠ EOK := by decide) := failS2_in (bn := [EOK, ESNOTFND]) c 0 hS hc
  have n := f ESNULLP
  have z := f ESZEROL
  have l := f ESLEMAX
  have o := f EOVERFLOW
  refine .ite n (.ite n (.ite z ?_))
  suffices rest : EVR _ _ by
    cases db with
    | none => exact .ite l rest
    | some _ => exact .ite (.ite l o) rest
  refine .load _ _ fun _ => .ite (.ret _ (.inl ⟨rfl, .head _⟩)) (.ite z (.ite l ?_))
  cases sb with
  | none => exact wcsstrOuter_ev ..
  | some _ => exact .ite o (wcsstrOuter_ev ..)

theorem wmemcmpLoop_ro (n m d s : Nat) : EVR.Silent (wmemcmpLoop n m d s) := by
  induction n generalizing m d s with
  | zero => exact .ret _ rfl
  | succ n ih => exact .ite (.ret _ rfl) (.load _ _ fun _ => .load _ _ fun _ => .ite (.ret _ rfl) (ih ..))

theorem wmemcmp_s_ev (dest dlen src slen : Nat) (db sb : Bos) :
    EVR (wmemcmp_s dest dlen src slen db sb) (QIn [EOK] SChkNospc .mem (·.1)) := by
  refine .ite (qExitS _) (.ite (qExitS _) (.ite (qExitS _) ?_))
  suffices rest : EVR _ _ by
    cases db with
    | none => exact .ite (qExitS _) rest
    | some _ => exact .ite (.ite (qExitS _) (qExitS _)) rest
  suffices rest2 : EVR _ _ by
    cases sb <;> exact .ite (qExitS _) (.ite (qExitS _) rest2)
  exact .ite (qExitS _) (.ite (.ret _ (.inl ⟨rfl, .head _⟩))
    ((wmemcmpLoop_ro ..).then_ fun _ => .ret _ (.inl ⟨rfl, .head _⟩)))

end SafeC.Props.C05Query
