import SafeC.Proofs.CopyAll
/-!
# What the whole-call analyses of the copy family share below `Proofs/ExtWide.lean`

The scan for the end of dest of the concatenations for every content (`findEnd_full`, `cat_exec`: the body runs as
`handle_error` on the whole of dest or as the copy loop from the first NUL), and `strncpyG_two_handlers`.
-/
namespace SafeC
open Gen

/-- `while (*dest != '\0')` of the concatenations, from `d` with `k` cells left: either one of its two error exits, which is
`handle_error` on the whole of dest and the code returned; or the position `d'` of the first NUL — every cell it walked over is
non-zero — with the state untouched -/
theorem findEnd_full (cfg : Cfg) (chk : Bool) (B oD oM : Nat)
    (k d : Nat) (st : St)
    (hall : ∀ a, st.mapped a = true ∧ st.rd a = true)
    (hk : 0 < k) (hinv : d + k = oD + oM) :
    (∃ code, code ≠ EOK ∧ ∀ st', exec (handleError cfg oD oM code) st = .ok ((), st') →
        exec (findEnd cfg chk B oD oM k d) st = .ok (.inl code, st')) ∨
    (∃ d' k', exec (findEnd cfg chk B oD oM k d) st = .ok (.inr (d', k'), st) ∧
        d ≤ d' ∧ d' + k' = oD + oM ∧ (∀ a, d ≤ a → a < d' → st.data a ≠ 0)) := by
  -- `j` = the first cell at which the scan stops: a NUL, the bumper, or the last cell
  obtain ⟨j, hjk, hP, hmin⟩ := least_of (fun j => j = k - 1 ∨ st.data (d + j) = 0 ∨ (chk = true ∧ d + j = B)) (k - 1)
    (Or.inl rfl)
  obtain ⟨k', hk'⟩ : ∃ k', k - j = k' + 1 := ⟨k - j - 1, by omega⟩
  rw [findEnd_steps cfg chk B oD oM k d st j (fun _ _ => hall _) (by omega)
    (fun i hi h => hmin i hi (Or.inr (Or.inl h))) (fun hc i hi h => hmin i hi (Or.inr (Or.inr ⟨hc, h⟩))), hk',
    findEnd_succ]
  simp only [exec_bind, exec_load_ok _ _ (hall _).1 (hall _).2]
  by_cases hc : st.data (d + j) = 0
  · rw [if_pos hc]
    refine Or.inr ⟨d + j, k' + 1, rfl, Nat.le_add_right _ _, by omega, fun a h1 h2 h => ?_⟩
    exact hmin (a - d) (by omega) (Or.inr (Or.inl (by rwa [show d + (a - d) = a from by omega])))
  rw [if_neg hc]
  by_cases hb : chk = true ∧ d + j = B
  · rw [if_pos hb]
    exact Or.inl ⟨ESOVRLP, ne_ESOVRLP, fun st' he => by simp [exec_bind, he]⟩
  have hlast : k' = 0 := by
    rcases hP with h | h | h
    · omega
    · exact absurd h hc
    · exact absurd h hb
  rw [if_neg hb, if_pos hlast]
  exact Or.inl ⟨ESUNTERM, ne_ESUNTERM, fun st' he => by simp [exec_bind, he]⟩

/-- `findEnd` followed by the copy loop, the common body of the concatenations, runs as one of the two: the error exit, or
the copy loop from the first NUL `d` of dest -/
theorem cat_exec (cfg : Cfg) (chk onDest bounded : Bool) (B dest dmax src slen : Nat) (st : St)
    (hall : ∀ a, st.mapped a = true ∧ st.rd a = true) (hpos : 0 < dmax)
    (f : Nat ⊕ (Nat × Nat) → Prog Nat) (hf1 : ∀ c, f (.inl c) = pure c)
    (hf2 : ∀ d m, f (.inr (d, m)) = copyLoop cfg onDest bounded B dest dmax m d src slen) :
    (∃ code, code ≠ EOK ∧ ∀ st', exec (handleError cfg dest dmax code) st = .ok ((), st') →
        exec (findEnd cfg chk B dest dmax dmax dest >>= f) st = .ok (code, st')) ∨
    (∃ d k, exec (findEnd cfg chk B dest dmax dmax dest >>= f) st =
          exec (copyLoop cfg onDest bounded B dest dmax k d src slen) st ∧
        dest ≤ d ∧ d + k = dest + dmax ∧ (∀ a, dest ≤ a → a < d → st.data a ≠ 0)) := by
  rcases findEnd_full cfg chk B dest dmax dmax dest st hall hpos rfl with ⟨code, hne, he⟩ | ⟨d, k, he, h⟩
  · refine Or.inl ⟨code, hne, fun st' h => ?_⟩
    rw [exec_bind, he st' h]
    show exec (f (.inl code)) st' = _
    rw [hf1]; rfl
  · refine Or.inr ⟨d, k, ?_, h⟩
    rw [exec_bind, he]
    show exec (f (.inr (d, k))) st = _
    rw [hf2]

/-- With `RSIZE_MAX_STR < dmax ≤ max < slen` (possible only when `max > RSIZE_MAX_STR`) the
`CHK_SLEN_MAX_CLEAR` exit of `strncpyG` records the handler **twice**: once inside
`strnlen_s(dest, dmax)` (its own `smax > RSIZE_MAX_STR` branch, which returns 0) and once in
`handle_error`.  So "one handler call, with the code returned" (`Props/C05.lean`) is stated for `strncpy_s` /
`strncat_s`, i.e. at the limit `RSIZE_MAX_STR`, and not for `strncpyG max` / `strncatG max` (the same path). -/
theorem strncpyG_two_handlers (max : Nat) (cfg : Cfg) (dest dmax src slen : Nat) (st : St)
    (hd : dest ≠ 0) (hs : src ≠ 0) (h1 : RSIZE_MAX_STR < dmax) (h2 : dmax ≤ max) (h3 : max < slen)
    (hw : st.mapped dest = true ∧ st.wr dest = true) :
    ∃ st', exec (strncpyG max cfg dest dmax src slen none none) st = .ok (ESLEMAX, st') ∧
      st'.events = st.events ++ [.handler .str ESLEMAX, .handler .str ESLEMAX] := by
  have hz : dmax ≠ 0 := by omega
  have hsl : slen ≠ 0 := by omega
  have hmx : ¬ dmax > max := by omega
  have hgt : slen > max := h3
  have hgt2 : dmax > RSIZE_MAX_STR := h1
  unfold strncpyG
  simp only [hsl, hd, hz, hs, hmx, hgt, hgt2, false_and, if_false, if_true, chkDmaxClear, chkDmaxClearG,
    chkSlenMaxClear, strnlen_s, handleError, handlerS]
  cases hcs : cfg.slack with
  | true =>
    exact ⟨_, by simp [exec_bind, memsetP]; rfl, by simp⟩
  | false =>
    refine ⟨{ st.upd dest 0 with events := (st.events ++ [.handler .str ESLEMAX]) ++ [.handler .str ESLEMAX] }, ?_, by simp⟩
    simp [exec_bind, hw.1, hw.2, St.upd]

end SafeC
