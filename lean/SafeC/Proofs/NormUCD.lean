import SafeC.Proofs.NormTables
import SafeC.Proofs.UnicodeSpec
/-!
# C17 — the tree's tables against UCD 14.0, block by block (kernel-checked)

The tree's tables are those of Unicode 15.0.0 and know more code points than the reference: `cccOk` and `dmOk` compare the two sides
on the code points 14.0 assigns.

Only blocks of 256 code points in which one of the four paged tables (tree: canon / combin; reference: dm / ccc) has a page are
enumerated; for the other blocks both sides are trivially "no mapping, class 0" by the shape of the lookups.  Planes 3..16 have no
plane table and no page at all (`high_planes_empty`: one comparison per index literal), so the sweeps stop at block 0x300.
-/
namespace SafeC.Norm
open SafeC.Gen

theorem rowId_block (mN m p c : Nat) : rowId mN m p c = rowId mN m p (c / 256 * 256) := by
  unfold rowId
  have h1 : c / 256 * 256 / 65536 = c / 65536 := by omega
  have h2 : c / 256 * 256 / 256 % 256 = c / 256 % 256 := by omega
  rw [h1, h2]

/-- planes 3..16: no plane table in any of the tree's three paged tables, no page in the reference indexes -/
theorem high_planes_empty :
    UniCanon.main < 2 ^ (8 * 3) ∧ UniCombin.main < 2 ^ (8 * 3) ∧ UniCompos.main < 2 ^ (8 * 3) ∧
    UCD14.dmIdx < 2 ^ (16 * 0x300) ∧ UCD14.cccIdx < 2 ^ (16 * 0x300) := by decide +kernel

theorem rowId_high {mainN main planes n c : Nat} (hm : main < 2 ^ (8 * n)) (hc : n * 65536 ≤ c) (hN : c / 65536 < mainN) :
    rowId mainN main planes c = some 0 := by
  unfold rowId
  rw [if_pos hN, cell_eq_zero_of_ge hm (by omega)]
  rfl

def cccBlock (b : Nat) : Bool :=
  rowId UniCombin.mainN UniCombin.main UniCombin.planes (b * 256) != some 0 || cell 16 UCD14.cccIdx b != 0

def cccOk (c : Nat) : Bool := !UCD.assigned c || combinClass c == some (UCD.ccc c)

def cccRowEq (b : Nat) : Bool :=
  match rowId UniCombin.mainN UniCombin.main UniCombin.planes (b * 256), cell 16 UCD14.cccIdx b with
  | some (r + 1), p + 1 => row 8 UniCombin.rows r == row 8 UCD14.cccPages p
  | _, _ => false

theorem cccRowEq_spec {c : Nat} (hc : c < 0x110000) (h : cccRowEq (c / 256) = true) : combinClass c = some (UCD.ccc c) := by
  have hi : c % 256 < 256 := Nat.mod_lt _ (by omega)
  unfold cccRowEq at h
  split at h
  · next r p hr hp =>
    rw [combinClass, rowId_block, hr, UCD.ccc, if_pos hc]
    simp only [hp, Nat.add_one_ne_zero, ↓reduceIte, Nat.succ_sub_one]
    rw [cell_row _ _ _ hi, cell_row _ _ _ hi, eq_of_beq h]
  · cases h

theorem cccBlock_lt {b : Nat} (hb : b < 0x1100) (h : cccBlock b = true) : b < 0x300 := by
  refine Decidable.by_contra fun hge => ?_
  unfold cccBlock at h
  rw [rowId_high high_planes_empty.2.1 (by omega) (by rw [combin_mainN]; omega),
    cell_eq_zero_of_ge high_planes_empty.2.2.2.2 (by omega)] at h
  cases h

/-- every block in which either side has a page (all lie below 0x300: `cccBlock_lt`): the two pages are equal, or (the tree knows
classes of code points that 14.0 has not assigned yet) the assigned code points agree one by one -/
theorem ccc_check :
    allBelow (fun b => !cccBlock b || cccRowEq b || allBelow (fun i => cccOk (b * 256 + i)) 256) 0x300 = true := by decide +kernel

def dmBlock (b : Nat) : Bool :=
  rowId UniCanon.mainN UniCanon.main UniCanon.planes (b * 256) != some 0 || cell 16 UCD14.dmIdx b != 0

/-- the tree's stored (full) decomposition of `c` is the recursive expansion of UCD's single-step mappings; the expansion
contains only assigned code points that UCD does not decompose further.  U+037E is the one exception in the tree (finding `wcsnorm-singleton-slot0`) -/
def dmOk (c : Nat) : Bool :=
  (!UCD.assigned c || isS c || c == 0x37E || decompose1 c == UCD.fullDecomp 4 c) &&
  (isS c || (UCD.fullDecomp 4 c).all fun d => (UCD.dm d).isNone && !UCD.isHangulS d && (!UCD.assigned c || UCD.assigned d))

theorem isS_iff (c : Nat) : isS c = UCD.isHangulS c := by
  unfold isS UCD.isHangulS UCD.SBase UCD.SCount
  rw [HSBase_eq, HSFinal_eq]
  by_cases a : 0xAC00 ≤ c <;> by_cases b : c ≤ 0xD7A3 <;> simp [a, b] <;> omega

/-- neither side has an entry for `c`: most code points of a block, and much quicker to see than `dmOk` -/
def dmNone (c : Nat) : Bool := canonVi c == some 0 && (UCD.dm c).isNone

theorem dmOk_of_dmNone {c : Nat} (h : dmNone c = true) : dmOk c = true := by
  simp only [dmNone, Bool.and_eq_true, beq_iff_eq, Option.isNone_iff_eq_none] at h
  cases hs : isS c with
  | true => simp only [dmOk, hs, Bool.or_true, Bool.true_or, Bool.and_self]
  | false =>
    have e1 : decompose1 c = [c] := by simp only [decompose1, hs, decompCanon, h.1]; rfl
    have e2 : UCD.fullDecomp 4 c = [c] := by simp only [UCD.fullDecomp, ← isS_iff, hs, h.2]; rfl
    simp [dmOk, e1, e2, h.2, ← isS_iff, hs]

/-- `dm_check` for one block: where both sides have a page, the two cells of a code point are read directly (both 0: no entry) -/
def dmBlockOk (b : Nat) : Bool :=
  match rowId UniCanon.mainN UniCanon.main UniCanon.planes (b * 256), cell 16 UCD14.dmIdx b with
  | some (r + 1), p + 1 =>
    allBelow (fun i => (cell 16 UniCanon.rows (r * 256 + i) == 0 && cell 16 UCD14.dmPages (p * 256 + i) == 0) || dmOk (b * 256 + i)) 256
  | _, _ => allBelow (fun i => dmNone (b * 256 + i) || dmOk (b * 256 + i)) 256

theorem dmBlock_lt {b : Nat} (hb : b < 0x1100) (h : dmBlock b = true) : b < 0x300 := by
  refine Decidable.by_contra fun hge => ?_
  unfold dmBlock at h
  rw [rowId_high high_planes_empty.1 (by omega) (by rw [canon_mainN]; omega),
    cell_eq_zero_of_ge high_planes_empty.2.2.2.1 (by omega)] at h
  cases h

theorem dm_check : allBelow (fun b => !dmBlock b || dmBlockOk b) 0x300 = true := by decide +kernel

end SafeC.Norm
