import SafeC.Proofs.PrintfHash
/-!
# C11: one integer directive of the engine (`convInt`: flag adjustments, argument fetch, `safec_ntoa_long`) = `Spec.render`
-/
namespace SafeC.Printf
open SafeC.Printf.Spec

theorem wrapU_cast (k : Nat) (x : Int) : (wrapU k x : Int) = x % ((2 ^ k : Nat) : Int) :=
  Int.toNat_of_nonneg (Int.emod_nonneg _ (Int.ne_of_gt (Int.natCast_pos.2 (Nat.two_pow_pos k))))

theorem wrapU_lt {k n : Nat} (hkn : k ≤ n) (x : Int) : wrapU k x < 2 ^ n := by
  have := Int.emod_lt_of_pos x (Int.natCast_pos.2 (Nat.two_pow_pos k))
  rw [← wrapU_cast] at this
  exact Nat.lt_of_lt_of_le (Int.ofNat_lt.1 this) (Nat.pow_le_pow_right (by decide) hkn)

theorem wrapU_congr {j k : Nat} (hjk : j ≤ k) {x y : Int} (h : x % ((2 ^ k : Nat) : Int) = y % ((2 ^ k : Nat) : Int)) :
    wrapU j x = wrapU j y := by
  have hd : ((2 ^ j : Nat) : Int) ∣ ((2 ^ k : Nat) : Int) := Int.natCast_dvd_natCast.2 (Nat.pow_dvd_pow 2 hjk)
  apply Int.ofNat_inj.1
  rw [wrapU_cast, wrapU_cast, ← Int.emod_emod_of_dvd x hd, h, Int.emod_emod_of_dvd y hd]

theorem wrapS_congr {k : Nat} {x y : Int} (h : wrapU k x = wrapU k y) : wrapS k x = wrapS k y := by
  unfold wrapS; rw [h]

theorem wrapS_emod (k : Nat) (x : Int) : wrapS k x % ((2 ^ k : Nat) : Int) = x % ((2 ^ k : Nat) : Int) := by
  unfold wrapS
  split
  · rw [wrapU_cast, Int.emod_emod]
  · rw [Int.sub_emod_right, wrapU_cast, Int.emod_emod]

theorem wrapU_wrapS {j k : Nat} (hjk : j ≤ k) (x : Int) : wrapU j (wrapS k x) = wrapU j x :=
  wrapU_congr hjk (wrapS_emod k x)

theorem wrapS_wrapS {j k : Nat} (hjk : j ≤ k) (x : Int) : wrapS j (wrapS k x) = wrapS j x :=
  wrapS_congr (wrapU_wrapS hjk x)

theorem wrapS_wrapU (k : Nat) (x : Int) : wrapS k (wrapU k x : Int) = wrapS k x :=
  wrapS_congr (wrapU_congr (Nat.le_refl k) (by rw [wrapU_cast, Int.emod_emod]))

theorem wrapU_mod {j k : Nat} (hjk : j ≤ k) (x : Int) : wrapU k x % 2 ^ j = wrapU j x := by
  apply Int.ofNat_inj.1
  rw [Int.natCast_emod, wrapU_cast, wrapU_cast]
  exact Int.emod_emod_of_dvd x (Int.natCast_dvd_natCast.2 (Nat.pow_dvd_pow 2 hjk))

theorem wrapU_of_lt (n : Nat) (y : Int) (h0 : 0 ≤ y) (h : y < ((2 ^ n : Nat) : Int)) : wrapU n y = y.toNat := by
  unfold wrapU; rw [Int.emod_eq_of_lt h0 h]

theorem natAbs_wrapS_lt {k n : Nat} (hk : 0 < k) (hkn : k ≤ n) (x : Int) : (wrapS k x).natAbs < 2 ^ n := by
  have h2 : 2 ^ k = 2 * 2 ^ (k - 1) := by rw [← Nat.pow_succ']; congr 1; omega
  have hu := wrapU_lt (Nat.le_refl k) x
  have hle : 2 ^ k ≤ 2 ^ n := Nat.pow_le_pow_right (by decide) hkn
  unfold wrapS
  split <;> omega

/-- `(unsigned)(v > 0 ? v : 0 - v)` is the magnitude of a `v` that fits -/
theorem wrapU_abs (n : Nat) (v : Int) (h : v.natAbs < 2 ^ n) : wrapU n (if 0 < v then v else -v) = v.natAbs := by
  have hv : (if 0 < v then v else -v) = (v.natAbs : Int) := by split <;> omega
  rw [hv, wrapU_of_lt n _ (Int.natCast_nonneg _) (Int.ofNat_lt.2 h), Int.toNat_natCast]

/-- the magnitude `convInt` hands to `ntoaLong` for a signed `k`-bit value held in an `n`-bit unsigned -/
theorem mag {k n : Nat} (hk : 0 < k) (hkn : k ≤ n) (x : Int) :
    wrapU n (if 0 < wrapS k x then wrapS k x else -wrapS k x) = (wrapS k x).natAbs :=
  wrapU_abs n _ (natAbs_wrapS_lt hk hkn x)

theorem mag64 (x : Int) : wrapU 64 (if wrapS 64 x > 0 then wrapS 64 x else 0 - wrapS 64 x) = (wrapS 64 x).natAbs := by
  rw [Int.zero_sub]; exact mag (by decide) (by decide) x
theorem mag32 (x : Int) : wrapU 32 (if wrapS 32 x > 0 then wrapS 32 x else 0 - wrapS 32 x) = (wrapS 32 x).natAbs := by
  rw [Int.zero_sub]; exact mag (by decide) (by decide) x
theorem mag16 (x : Int) : wrapU 32 (if wrapS 16 x > 0 then wrapS 16 x else 0 - wrapS 16 x) = (wrapS 16 x).natAbs := by
  rw [Int.zero_sub]; exact mag (by decide) (by decide) x
theorem mag8 (x : Int) : wrapU 32 (if wrapS 8 x > 0 then wrapS 8 x else 0 - wrapS 8 x) = (wrapS 8 x).natAbs := by
  rw [Int.zero_sub]; exact mag (by decide) (by decide) x

theorem wrapU32_neg (x : Int) (h : wrapS 32 x < 0) : wrapU 32 (-(wrapS 32 x)) = (-(wrapS 32 x)).toNat :=
  wrapU_of_lt 32 _ (by omega) (by have := natAbs_wrapS_lt (k := 32) (n := 32) (by decide) (by decide) x; omega)

/-- the bits the engine's length switch sets for a length modifier -/
def lenFlags (lm : LenMod) (fl : Flags) : Flags :=
  match lm with
  | .none => fl
  | .hh => { fl with short := true, char := true }
  | .h => { fl with short := true }
  | .l => { fl with long := true }
  | .ll => { fl with long := true, longlong := true }
  | .j => { fl with long := true }
  | .z => { fl with long := true }
  | .t => { fl with long := true }

/-- the flag word the engine's parser builds for the specification `d` -/
def cfl (d : Dir) : Flags :=
  lenFlags d.len { zeropad := d.zero, left := d.minus, plus := d.plus, space := d.space, hash := d.hash, precision := d.prec.isSome }

@[simp] theorem cfl_zeropad (d : Dir) : (cfl d).zeropad = d.zero := by unfold cfl lenFlags; cases d.len <;> rfl
@[simp] theorem cfl_left (d : Dir) : (cfl d).left = d.minus := by unfold cfl lenFlags; cases d.len <;> rfl
@[simp] theorem cfl_plus (d : Dir) : (cfl d).plus = d.plus := by unfold cfl lenFlags; cases d.len <;> rfl
@[simp] theorem cfl_space (d : Dir) : (cfl d).space = d.space := by unfold cfl lenFlags; cases d.len <;> rfl
@[simp] theorem cfl_hash (d : Dir) : (cfl d).hash = d.hash := by unfold cfl lenFlags; cases d.len <;> rfl
@[simp] theorem cfl_upper (d : Dir) : (cfl d).upper = false := by unfold cfl lenFlags; cases d.len <;> rfl
@[simp] theorem cfl_precision (d : Dir) : (cfl d).precision = d.prec.isSome := by unfold cfl lenFlags; cases d.len <;> rfl
@[simp] theorem cfl_longDouble (d : Dir) : (cfl d).longDouble = false := by unfold cfl lenFlags; cases d.len <;> rfl
@[simp] theorem cfl_long (d : Dir) : (cfl d).long = (d.len != .none && d.len != .hh && d.len != .h) := by
  unfold cfl lenFlags; cases d.len <;> rfl
@[simp] theorem cfl_longlong (d : Dir) : (cfl d).longlong = (d.len == .ll) := by unfold cfl lenFlags; cases d.len <;> rfl
@[simp] theorem cfl_char (d : Dir) : (cfl d).char = (d.len == .hh) := by unfold cfl lenFlags; cases d.len <;> rfl
@[simp] theorem cfl_short (d : Dir) : (cfl d).short = (d.len == .hh || d.len == .h) := by unfold cfl lenFlags; cases d.len <;> rfl

/-- the width of the type a length modifier names; 64 = the `long` argument slot, below = the `int` slot -/
def bitsOf : LenMod → Nat
  | .none => 32 | .hh => 8 | .h => 16 | _ => 64

theorem bitsOf_pos (lm : LenMod) : 0 < bitsOf lm := by cases lm <;> decide
theorem bitsOf_le (lm : LenMod) : bitsOf lm ≤ 64 := by cases lm <;> decide

/-- `va_arg` of the slot the modifier selects: the raw value, before the conversion to the named type -/
def fetch (lm : LenMod) : List Arg → Option (Int × List Arg)
  | .int v :: as => if bitsOf lm ≤ 32 then some (v, as) else none
  | .long v :: as => if bitsOf lm = 64 then some (v, as) else none
  | _ => none

theorem signedArg_eq (lm : LenMod) (args : List Arg) :
    signedArg lm args = (fetch lm args).map fun p => (wrapS (bitsOf lm) p.1, p.2) := by
  unfold signedArg fetch
  rcases args with _ | ⟨a, as⟩
  · rfl
  · cases a <;> cases lm <;> rfl

theorem unsignedArg_eq (lm : LenMod) (args : List Arg) :
    unsignedArg lm args = (fetch lm args).map fun p => (wrapU (bitsOf lm) p.1, p.2) := by
  unfold unsignedArg fetch
  rcases args with _ | ⟨a, as⟩
  · rfl
  · cases a <;> cases lm <;> rfl

/-- what `convInt` makes of an `int` slot under `hh` / `h` / no modifier is the conversion to the named type -/
theorem narrowS (d : Dir) (x : Int) (h : bitsOf d.len ≤ 32) :
    (if (cfl d).char then wrapS 8 (wrapS 32 x) else if (cfl d).short then wrapS 16 (wrapS 32 x) else wrapS 32 x) =
      wrapS (bitsOf d.len) x := by
  cases hl : d.len <;> simp [hl, bitsOf] at h ⊢ <;> exact wrapS_wrapS (by decide) x

theorem narrowU (d : Dir) (x : Int) (h : bitsOf d.len ≤ 32) :
    (if (cfl d).char then wrapU 32 (wrapS 32 x) % 256 else if (cfl d).short then wrapU 32 (wrapS 32 x) % 65536 else wrapU 32 (wrapS 32 x)) =
      wrapU (bitsOf d.len) x := by
  rw [wrapU_wrapS (Nat.le_refl 32)]
  cases hl : d.len <;> simp [hl, bitsOf] at h ⊢
  · exact wrapU_mod (j := 8) (by decide) x
  · exact wrapU_mod (j := 16) (by decide) x

theorem cfl_isLong (d : Dir) : ((cfl d).longlong ∨ (cfl d).long) ↔ bitsOf d.len = 64 := by
  cases hl : d.len <;> simp [hl, bitsOf]

theorem renderInt_ext (d d' : Dir) (signed neg : Bool) (mag base : Nat) (upper : Bool)
    (h1 : d.minus = d'.minus) (h2 : d.hash = d'.hash) (h3 : d.width = d'.width) (h4 : d.prec = d'.prec)
    (h5 : signed = true → d.plus = d'.plus ∧ d.space = d'.space) (h6 : d.prec = Option.none → d.zero = d'.zero) :
    renderInt d signed neg mag base upper = renderInt d' signed neg mag base upper := by
  have hsign : (if signed then (if neg then ['-'] else if d.plus then ['+'] else if d.space then [' '] else []) else [] : Str) =
      if signed then (if neg then ['-'] else if d'.plus then ['+'] else if d'.space then [' '] else []) else [] := by
    cases signed
    · rfl
    · rw [(h5 rfl).1, (h5 rfl).2]
  have hfill (n : Nat) : (if d.zero ∧ ¬ d.minus ∧ d.prec = Option.none then List.replicate (d.width - n) '0' else [] : Str) =
      if d'.zero ∧ ¬ d'.minus ∧ d'.prec = Option.none then List.replicate (d'.width - n) '0' else [] := by
    rw [← h1, ← h3, ← h4]
    by_cases hp : d.prec = Option.none
    · rw [h6 hp]
    · rw [if_neg (fun h => hp h.2.2), if_neg (fun h => hp h.2.2)]
  simp only [renderInt, padField, hsign, hfill]
  rw [h1, h2, h3, h4]

theorem ntoaLong_render (fx : Fixes) (hm : fx.minusPrec = true) (hx : fx.hash = true) (sk : Sink) (m v : Nat) (neg : Bool)
    (base prec width : Nat) (fl : Flags) (s : St) (signed : Bool) (d : Dir)
    (hb : base = 8 ∨ base = 10 ∨ base = 16) (hv : v < 2 ^ 64)
    (hh10 : fl.hash = true → base ≠ 10 ∧ signed = false)
    (hpz : fl.precision = true → fl.zeropad = false) (hp0 : fl.precision = false → prec = 0)
    (hs : signed = false → neg = false ∧ fl.plus = false ∧ fl.space = false)
    (hp : prec + (if fl.hash then 1 else 0) ≤ 31) (hw : fl.left = false → fl.zeropad = true → width ≤ 31) (hwmax : width ≤ 2147483614)
    (hd : renderInt d signed neg v base fl.upper = renderInt (dirOf fl width prec) signed neg v base fl.upper) :
    ntoaLong fx sk m v neg base prec width fl s = emitAll sk m (renderInt d signed neg v base fl.upper) s := by
  rw [hd]
  cases hh : fl.hash
  · exact ntoaLong_renderInt_nohash fx hm sk m v neg base prec width fl s signed hb hv hh hpz hp0 hs (by simp [hh] at hp; omega) hw hwmax
  · obtain ⟨h10, hsg⟩ := hh10 hh
    obtain ⟨hn, hpl, hsp⟩ := hs hsg
    subst hsg hn
    exact ntoaLong_renderInt_hash fx hm hx sk m v base prec width fl s (by omega) hv hh hpl hsp hpz hp0 (by simp [hh] at hp; omega) hw hwmax

/-- a numeric directive stays inside the 32-byte digit buffer (finding printf-digit-buffer-32) and below the engine's
    field-width limit -/
def IntOK (d : Dir) : Prop :=
  d.prec.getD 0 + (if d.hash then 1 else 0) ≤ 31 ∧ (d.zero = true → d.minus = false → d.prec = Option.none → d.width ≤ 31) ∧
  d.width ≤ 2147483614

instance (d : Dir) : Decidable (IntOK d) := by unfold IntOK; infer_instance

/-- `base` of the specifier switch -/
def baseOf (c : Char) : Nat := if c = 'x' ∨ c = 'X' then 16 else if c = 'o' then 8 else if c = 'b' then 2 else 10

/-- the flag adjustments `convInt` makes before it fetches the argument (text of `convInt`) -/
def adjFlags (c : Char) (fl : Flags) : Flags :=
  let fl := if baseOf c = 10 then { fl with hash := false } else fl
  let fl := if c = 'X' then { fl with upper := true } else fl
  let fl := if c ≠ 'i' ∧ c ≠ 'd' then { fl with plus := false, space := false } else fl
  if fl.precision then { fl with zeropad := false } else fl

/-- `convInt` with its flag adjustments named (`adjFlags`, `baseOf`): the four fetch-and-print branches -/
theorem convInt_stages (fx : Fixes) (sk : Sink) (maxlen : Nat) (c : Char) (fl : Flags) (width prec : Nat) (args : List Arg) (s : St) :
    convInt fx sk maxlen c fl width prec args s =
      (if fl.longDouble then .error EINVALr else
      if c = 'i' ∨ c = 'd' then
        if (adjFlags c fl).longlong ∨ (adjFlags c fl).long then do
          let (w, as) ← nextLong args
          let v := wrapS 64 (w : Int)
          let s ← ntoaLong fx sk maxlen (wrapU 64 (if v > 0 then v else 0 - v)) (v < 0) (baseOf c) prec width (adjFlags c fl) s
          pure (s, as)
        else do
          let (a, as) ← nextInt args
          let v := if (adjFlags c fl).char then wrapS 8 a else if (adjFlags c fl).short then wrapS 16 a else a
          let s ← ntoaLong fx sk maxlen (wrapU 32 (if v > 0 then v else 0 - v)) (v < 0) (baseOf c) prec width (adjFlags c fl) s
          pure (s, as)
      else
        if (adjFlags c fl).longlong ∨ (adjFlags c fl).long then do
          let (w, as) ← nextLong args
          let s ← ntoaLong fx sk maxlen w false (baseOf c) prec width (adjFlags c fl) s
          pure (s, as)
        else do
          let (a, as) ← nextInt args
          let u := wrapU 32 a
          let v := if (adjFlags c fl).char then u % 256 else if (adjFlags c fl).short then u % 65536 else u
          let s ← ntoaLong fx sk maxlen v false (baseOf c) prec width (adjFlags c fl) s
          pure (s, as)) := rfl

section adj
variable (c : Char) (fl : Flags)
/-! a field of `adjFlags c fl` is read through the four `if`s (`apply_ite`); most of them do not touch it (`ite_self`) -/
@[simp] theorem adj_left : (adjFlags c fl).left = fl.left := by simp only [adjFlags, apply_ite Flags.left, ite_self]
@[simp] theorem adj_precision : (adjFlags c fl).precision = fl.precision := by
  simp only [adjFlags, apply_ite Flags.precision, ite_self]
@[simp] theorem adj_long : (adjFlags c fl).long = fl.long := by simp only [adjFlags, apply_ite Flags.long, ite_self]
@[simp] theorem adj_longlong : (adjFlags c fl).longlong = fl.longlong := by
  simp only [adjFlags, apply_ite Flags.longlong, ite_self]
@[simp] theorem adj_char : (adjFlags c fl).char = fl.char := by simp only [adjFlags, apply_ite Flags.char, ite_self]
@[simp] theorem adj_short : (adjFlags c fl).short = fl.short := by simp only [adjFlags, apply_ite Flags.short, ite_self]
@[simp] theorem adj_zeropad : (adjFlags c fl).zeropad = (fl.zeropad && !fl.precision) := by
  simp only [adjFlags, apply_ite Flags.zeropad, apply_ite Flags.precision, ite_self]
  cases fl.precision <;> simp
@[simp] theorem adj_hash : (adjFlags c fl).hash = (fl.hash && baseOf c != 10) := by
  simp only [adjFlags, apply_ite Flags.hash, ite_self]
  split <;> simp [*]
@[simp] theorem adj_upper : (adjFlags c fl).upper = (fl.upper || c == 'X') := by
  simp only [adjFlags, apply_ite Flags.upper, ite_self]
  split <;> simp [*]
@[simp] theorem adj_plus : (adjFlags c fl).plus = (fl.plus && (c == 'i' || c == 'd')) := by
  simp only [adjFlags, apply_ite Flags.plus, ite_self]
  by_cases hi : c = 'i' <;> by_cases hd : c = 'd' <;> simp [hi, hd]
@[simp] theorem adj_space : (adjFlags c fl).space = (fl.space && (c == 'i' || c == 'd')) := by
  simp only [adjFlags, apply_ite Flags.space, ite_self]
  by_cases hi : c = 'i' <;> by_cases hd : c = 'd' <;> simp [hi, hd]
end adj

theorem ntoaLong_dir (fx : Fixes) (hm : fx.minusPrec = true) (hx : fx.hash = true) (sk : Sink) (m : Nat) (d : Dir) (c : Char)
    (hc : c = 'd' ∨ c = 'i' ∨ c = 'u' ∨ c = 'o' ∨ c = 'x' ∨ c = 'X') (v : Nat) (neg signed : Bool)
    (hsigned : signed = (c == 'i' || c == 'd')) (hv : v < 2 ^ 64) (hneg : signed = false → neg = false)
    (hhash : d.hash = true → c = 'o' ∨ c = 'x' ∨ c = 'X') (hok : IntOK d) (s : St) :
    ntoaLong fx sk m v neg (baseOf c) (d.prec.getD 0) d.width (adjFlags c (cfl d)) s =
      emitAll sk m (renderInt d signed neg v (baseOf c) (c == 'X')) s := by
  obtain ⟨hk1, hk2, hk3⟩ := hok
  have hu : (adjFlags c (cfl d)).upper = (c == 'X') := by simp
  rw [← hu]
  have hbase : (c = 'd' ∨ c = 'i' ∨ c = 'u') ∧ baseOf c = 10 ∨ c = 'o' ∧ baseOf c = 8 ∨ (c = 'x' ∨ c = 'X') ∧ baseOf c = 16 := by
    rcases hc with rfl | rfl | rfl | rfl | rfl | rfl <;> simp [baseOf]
  apply ntoaLong_render fx hm hx sk m v neg (baseOf c) (d.prec.getD 0) d.width (adjFlags c (cfl d)) s signed d
  · rcases hbase with ⟨_, h⟩ | ⟨_, h⟩ | ⟨_, h⟩ <;> omega
  · exact hv
  · intro hh
    simp only [adj_hash, cfl_hash, Bool.and_eq_true, bne_iff_ne, ne_eq] at hh
    refine ⟨hh.2, ?_⟩
    rw [hsigned]
    rcases hbase with ⟨_, h⟩ | ⟨rfl, h⟩ | ⟨h', h⟩
    · exact absurd h hh.2
    · rfl
    · rcases h' with rfl | rfl <;> rfl
  · intro hp; simp only [adj_precision, cfl_precision] at hp; simp [hp]
  · intro hp; simp only [adj_precision, cfl_precision] at hp
    cases h : d.prec
    · rfl
    · rw [h] at hp; cases hp
  · intro hs
    refine ⟨hneg hs, ?_, ?_⟩
    · rw [hsigned] at hs; simp only [adj_plus, hs, Bool.and_false]
    · rw [hsigned] at hs; simp only [adj_space, hs, Bool.and_false]
  · have : (if (adjFlags c (cfl d)).hash = true then 1 else 0) ≤ (if d.hash = true then 1 else 0) := by
      simp only [adj_hash, cfl_hash]
      cases d.hash <;> simp
      split <;> omega
    omega
  · intro hl hz
    simp only [adj_left, cfl_left, adj_zeropad, cfl_zeropad, cfl_precision, Bool.and_eq_true, Bool.not_eq_true'] at hl hz
    apply hk2 hz.1 hl
    cases h : d.prec
    · rfl
    · rw [h] at hz; cases hz.2
  · exact hk3
  · apply renderInt_ext
    · simp [dirOf]
    · simp only [dirOf, adj_hash, cfl_hash]
      cases hh : d.hash
      · rfl
      · rcases hhash hh with rfl | rfl | rfl <;> rfl
    · rfl
    · simp only [dirOf, adj_precision, cfl_precision]
      cases d.prec <;> simp
    · intro hs
      rw [hsigned] at hs
      simp [dirOf, hs]
    · intro hp
      simp [dirOf, hp]

theorem emit_map (sk : Sink) (m : Nat) (t : Str) (s : St) (as : List Arg) :
    (do let s' ← emitAll sk m t s; pure (s', as) : M (St × List Arg)) = (emitAll sk m t s).map (fun s' => (s', as)) := by
  cases emitAll sk m t s <;> rfl

/-- signedness is a function of the conversion character, as `baseOf` is; magnitude and sign of the slot's value `x` read as a
    `bits`-bit value of that signedness -/
def sg (c : Char) : Bool := c == 'i' || c == 'd'
def magOf (signed : Bool) (bits : Nat) (x : Int) : Nat := if signed then (wrapS bits x).natAbs else wrapU bits x
def negOf (signed : Bool) (bits : Nat) (x : Int) : Bool := signed && decide (wrapS bits x < 0)

theorem bitsOf_cases (lm : LenMod) : bitsOf lm ≤ 32 ∧ bitsOf lm ≠ 64 ∨ bitsOf lm = 64 := by cases lm <;> decide

theorem convInt_fetch (fx : Fixes) (sk : Sink) (m : Nat) (d : Dir) (c : Char) (w p : Nat) (args : List Arg) (s : St) :
    convInt fx sk m c (cfl d) w p args s =
      match fetch d.len args with
      | none => .error .stuck
      | some (x, as) =>
        (ntoaLong fx sk m (magOf (sg c) (bitsOf d.len) x) (negOf (sg c) (bitsOf d.len) x) (baseOf c) p w (adjFlags c (cfl d)) s).map
          (fun s' => (s', as)) := by
  rw [convInt_stages]
  simp only [cfl_longDouble, Bool.false_eq_true, if_false, adj_longlong, adj_long, adj_char, adj_short, cfl_isLong]
  have hsg : sg c = decide (c = 'i' ∨ c = 'd') := by
    by_cases h1 : c = 'i' <;> by_cases h2 : c = 'd' <;> simp [sg, h1, h2]
  have stuck : ∀ (a : Arg) (as : List Arg), (∀ v, a ≠ .int v) → (∀ v, a ≠ .long v) →
      nextInt (a :: as) = .error .stuck ∧ nextLong (a :: as) = .error .stuck ∧ fetch d.len (a :: as) = none := by
    intro a as h1 h2
    cases a <;> first | exact absurd rfl (h1 _) | exact absurd rfl (h2 _) | exact ⟨rfl, rfl, rfl⟩
  rcases args with _ | ⟨a, as⟩
  · simp [fetch, nextInt, nextLong, bind, Except.bind]
  by_cases hi : ∃ v, a = .int v
  · obtain ⟨v, rfl⟩ := hi
    rcases bitsOf_cases d.len with ⟨h32, h64⟩ | h64
    · simp only [fetch, if_pos h32, if_neg h64]
      simp only [nextInt, bind, Except.bind, narrowS d _ h32, narrowU d _ h32, Int.zero_sub, gt_iff_lt]
      by_cases hs : c = 'i' ∨ c = 'd'
      · rw [if_pos hs, mag (bitsOf_pos d.len) h32]
        simp only [magOf, negOf, hsg, hs, decide_true, if_true, Bool.true_and]
        generalize ntoaLong _ _ _ _ _ _ _ _ _ _ = X; cases X <;> rfl
      · rw [if_neg hs]
        simp only [magOf, negOf, hsg, hs, decide_false, Bool.false_and, Bool.false_eq_true, if_false]
        generalize ntoaLong _ _ _ _ _ _ _ _ _ _ = X; cases X <;> rfl
    · simp only [fetch, if_neg (show ¬ bitsOf d.len ≤ 32 by omega), if_pos h64, nextLong, bind, Except.bind, ite_self]
  by_cases hl : ∃ v, a = .long v
  · obtain ⟨v, rfl⟩ := hl
    rcases bitsOf_cases d.len with ⟨h32, h64⟩ | h64
    · simp only [fetch, if_neg h64, nextInt, bind, Except.bind, ite_self]
    · simp only [fetch, if_pos h64]
      simp only [nextLong, bind, Except.bind, wrapS_wrapU, Int.zero_sub, gt_iff_lt]
      by_cases hs : c = 'i' ∨ c = 'd'
      · rw [if_pos hs, ← h64, mag (bitsOf_pos d.len) (Nat.le_refl _)]
        simp only [magOf, negOf, hsg, hs, decide_true, if_true, Bool.true_and]
        generalize ntoaLong _ _ _ _ _ _ _ _ _ _ = X; cases X <;> rfl
      · rw [if_neg hs]
        simp only [magOf, negOf, hsg, hs, h64, decide_false, Bool.false_and, Bool.false_eq_true, if_false]
        generalize ntoaLong _ _ _ _ _ _ _ _ _ _ = X; cases X <;> rfl
  · obtain ⟨e1, e2, e3⟩ := stuck a as (fun v h => hi ⟨v, h⟩) (fun v h => hl ⟨v, h⟩)
    simp only [e1, e2, e3, bind, Except.bind, ite_self]

theorem render_int (d : Dir) (hc : d.conv = 'd' ∨ d.conv = 'i' ∨ d.conv = 'u' ∨ d.conv = 'o' ∨ d.conv = 'x' ∨ d.conv = 'X')
    (args : List Arg) :
    render d args = if d.hash = true ∧ baseOf d.conv = 10 then none else
      (fetch d.len args).map fun p =>
        (renderInt d (sg d.conv) (negOf (sg d.conv) (bitsOf d.len) p.1) (magOf (sg d.conv) (bitsOf d.len) p.1) (baseOf d.conv)
          (d.conv == 'X'), p.2) := by
  unfold render
  rw [signedArg_eq, unsignedArg_eq]
  rcases hc with h | h | h | h | h | h <;>
    simp (config := {decide := true}) only [h, if_true, if_false, true_or, or_true, and_true, and_false] <;>
    cases fetch d.len args <;> rfl

/-- **one integer directive.**  For `d i u o x X` with any flags, width, precision and length modifier for which the
    standard defines the result (`Spec.render d args = some …`) and which stays inside the digit buffer (`IntOK`), the
    repaired engine's `convInt` hands the sink exactly the standard's characters and consumes the same argument. -/
theorem convInt_eq (fx : Fixes) (hm : fx.minusPrec = true) (hx : fx.hash = true) (sk : Sink) (m : Nat) (d : Dir)
    (hc : d.conv = 'd' ∨ d.conv = 'i' ∨ d.conv = 'u' ∨ d.conv = 'o' ∨ d.conv = 'x' ∨ d.conv = 'X')
    (args : List Arg) (s : St) (text : Str) (args' : List Arg)
    (hr : render d args = some (text, args')) (hok : IntOK d) :
    convInt fx sk m d.conv (cfl d) d.width (d.prec.getD 0) args s = (emitAll sk m text s).map (fun s' => (s', args')) := by
  rw [render_int d hc] at hr
  split at hr
  · cases hr
  · rename_i hh
    obtain ⟨⟨x, as⟩, hf, hv⟩ := Option.map_eq_some_iff.mp hr
    obtain ⟨rfl, rfl⟩ := Prod.mk.inj hv
    rw [convInt_fetch, hf]
    simp only
    rw [ntoaLong_dir fx hm hx sk m d d.conv hc _ _ (sg d.conv) rfl ?_ ?_ ?_ hok s]
    · unfold magOf; split
      · exact natAbs_wrapS_lt (bitsOf_pos d.len) (bitsOf_le d.len) x
      · exact wrapU_lt (bitsOf_le d.len) x
    · intro h; simp [negOf, h]
    · intro h
      have : baseOf d.conv ≠ 10 := fun e => hh ⟨h, e⟩
      rcases hc with e | e | e | e | e | e <;> simp [e, baseOf] at this ⊢
end SafeC.Printf
