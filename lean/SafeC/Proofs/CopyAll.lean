import SafeC.Proofs.CopySteps
/-!
# The bumper copy loops: the complete outcome for EVERY placement of a readable source

`copyLoop_cases`: the loop started at `d` (the `k` cells left of the `oM` cells of dest), `g` = the number of
iterations after which the pointer compared meets the bumper, `m` = number of characters the call would copy (the
length of the source string, for the bounded twin capped by `slen`):
* `g ≤ m`, `g < k`  — the copy runs into the other operand: ESOVRLP, dest cleared;
* `m < k`, `m < g`  — EOK, `d[0..m) = src[0..m)` (values before the call), `d[m] = 0`, null-slack zeros behind;
* `k ≤ m`, `k ≤ g`  — ESNOSPC, dest cleared.
`cpyBody` started at dest with `dmax` cells is the part of `strcpy_s strncpy_s wcscpy_s wcsncpy_s` behind the entry checks,
`catBody` that of the four concatenations: `cpyBody` started at the terminator of dest (`catBody_at_end`).
-/
namespace SafeC
open Gen

/-- the two copy loops behind `if (dest < src)`, started at `d` with `k` of the `oM` cells at `oD` left: the four copies start them
at dest itself, the concatenations at the terminator of dest (`catBody_at_end`) -/
def cpyBody (cfg : Cfg) (bounded : Bool) (oD oM k d src slen : Nat) : Prog Nat :=
  if oD < src then copyLoop cfg true bounded src oD oM k d src slen
  else copyLoop cfg false bounded oD oD oM k d src slen

def catBody (cfg : Cfg) (bounded : Bool) (dest dmax src slen : Nat) : Prog Nat :=
  if dest < src then do
    match ← findEnd cfg true src dest dmax dmax dest with
    | .inl code => pure code
    | .inr (d, m) => copyLoop cfg true bounded src dest dmax m d src slen
  else do
    match ← findEnd cfg false dest dest dmax dmax dest with
    | .inl code => pure code
    | .inr (d, m) => copyLoop cfg false bounded dest dest dmax m d src slen

theorem findEnd_succ (cfg : Cfg) (chk : Bool) (B oD oM k d : Nat) :
    findEnd cfg chk B oD oM (k+1) d = (do
      let c ← load d
      if c = 0 then pure (.inr (d, k+1))
      else if chk ∧ d = B then do
        handleError cfg oD oM ESOVRLP
        pure (.inl ESOVRLP)
      else if k = 0 then do
        handleError cfg oD oM ESUNTERM
        pure (.inl ESUNTERM)
      else findEnd cfg chk B oD oM k (d+1)) := by
  rfl

/-- **`j0` continuing iterations of the scan for the end of dest**: non-NUL cells, none of them the bumper, more cells
left; nothing is written -/
theorem findEnd_steps (cfg : Cfg) (chk : Bool) (B oD oM k d : Nat) (st : St) (j0 : Nat)
    (hrd : ∀ j, j < j0 → st.mapped (d+j) = true ∧ st.rd (d+j) = true) (hk : j0 < k)
    (hnz : ∀ j, j < j0 → st.data (d+j) ≠ 0) (hb : chk = true → ∀ j, j < j0 → d + j ≠ B) :
    exec (findEnd cfg chk B oD oM k d) st = exec (findEnd cfg chk B oD oM (k - j0) (d + j0)) st := by
  induction j0 with
  | zero => rfl
  | succ j0 ih =>
    obtain ⟨k', hk'⟩ : ∃ k', k - j0 = k' + 1 := ⟨k - j0 - 1, by omega⟩
    have hrd0 := hrd j0 (by omega)
    rw [ih (fun j hj => hrd j (by omega)) (by omega) (fun j hj => hnz j (by omega))
      (fun h j hj => hb h j (by omega)), hk', findEnd_succ]
    simp only [exec_bind, exec_load_ok _ _ hrd0.1 hrd0.2]
    rw [if_neg (hnz j0 (by omega)), if_neg (fun h => hb h.1 j0 (by omega) h.2), if_neg (by omega),
      show k - (j0 + 1) = k' from by omega]
    rfl

theorem findEnd_str (cfg : Cfg) (chk : Bool) (B oD oM : Nat) (k d dl : Nat) (st : St)
    (hrw : RW st d k) (hdl : dl < k)
    (hnz : ∀ j, j < dl → st.data (d+j) ≠ 0) (hnul : st.data (d+dl) = 0)
    (hb : chk = true → ∀ j, j < dl → d + j ≠ B) :
    exec (findEnd cfg chk B oD oM k d) st = .ok (.inr (d+dl, k-dl), st) := by
  obtain ⟨k', hk'⟩ : ∃ k', k - dl = k' + 1 := ⟨k - dl - 1, by omega⟩
  obtain ⟨hm, _, hr⟩ := hrw dl hdl
  rw [findEnd_steps cfg chk B oD oM k d st dl (fun j hj => ⟨(hrw j (by omega)).1, (hrw j (by omega)).2.2⟩) hdl hnz hb,
    hk', findEnd_succ]
  simp only [exec_bind, exec_load_ok _ _ hm hr]
  rw [if_pos hnul]
  rfl

structure CopyAll (cfg : Cfg) (oD oM d k s m g : Nat) (st st' : St) (code : Nat) : Prop where
  hit : g ≤ m → g < k → code = ESOVRLP ∧ ClearedPost cfg oD oM ESOVRLP st st'
  done : m < k → m < g → code = EOK ∧ StpDone cfg d k s m st st'
  full : k ≤ m → k ≤ g → code = ESNOSPC ∧ ClearedPost cfg oD oM ESNOSPC st st'

theorem code_of_cases {A B C D : Prop} {cfg : Cfg} {dest dmax code : Nat} {st st' : St}
    (hit : A → code = ESOVRLP ∧ ClearedPost cfg dest dmax ESOVRLP st st')
    (done : B → code = EOK ∧ D)
    (full : C → code = ESNOSPC ∧ ClearedPost cfg dest dmax ESNOSPC st st')
    (hex : A ∨ B ∨ C) (hAB : A → ¬ B) (hAC : A → ¬ C) (hBC : B → ¬ C) :
    (code = ESOVRLP ↔ A) ∧ (code = EOK ↔ B) ∧ (code = ESNOSPC ↔ C) ∧
      (code = EOK ∨ code = ESOVRLP ∨ code = ESNOSPC) ∧ (code = EOK → D) ∧
      (code ≠ EOK → ClearedPost cfg dest dmax code st st') := by
  rcases hex with a | b | c
  · obtain ⟨rfl, hp⟩ := hit a
    exact ⟨⟨fun _ => a, fun _ => rfl⟩, ⟨fun hc => absurd hc (by decide), fun b => absurd b (hAB a)⟩,
      ⟨fun hc => absurd hc (by decide), fun c => absurd c (hAC a)⟩, Or.inr (Or.inl rfl),
      fun hc => absurd hc (by decide), fun _ => hp⟩
  · obtain ⟨rfl, hd⟩ := done b
    exact ⟨⟨fun hc => absurd hc (by decide), fun a => absurd b (hAB a)⟩, ⟨fun _ => b, fun _ => rfl⟩,
      ⟨fun hc => absurd hc (by decide), fun c => absurd c (hBC b)⟩, Or.inl rfl, fun _ => hd, fun hc => absurd rfl hc⟩
  · obtain ⟨rfl, hp⟩ := full c
    exact ⟨⟨fun hc => absurd hc (by decide), fun a => absurd c (hAC a)⟩,
      ⟨fun hc => absurd hc (by decide), fun b => absurd c (hBC b)⟩, ⟨fun _ => c, fun _ => rfl⟩,
      Or.inr (Or.inr rfl), fun hc => absurd hc (by decide), fun _ => hp⟩

theorem gap_cases (m g dmax : Nat) : (g ≤ m ∧ g < dmax) ∨ (m < dmax ∧ m < g) ∨ (dmax ≤ m ∧ dmax ≤ g) := by
  omega

theorem CopyAll.codes {cfg : Cfg} {oD oM d k s m g : Nat} {st st' : St} {code : Nat}
    (h : CopyAll cfg oD oM d k s m g st st' code) :
    (code = ESOVRLP ↔ g ≤ m ∧ g < k) ∧ (code = EOK ↔ m < k ∧ m < g) ∧ (code = ESNOSPC ↔ k ≤ m ∧ k ≤ g) ∧
      (code = EOK ∨ code = ESOVRLP ∨ code = ESNOSPC) ∧ (code = EOK → StpDone cfg d k s m st st') ∧
      (code ≠ EOK → ClearedPost cfg oD oM code st st') :=
  code_of_cases (fun a => h.hit a.1 a.2) (fun b => h.done b.1 b.2) (fun c => h.full c.1 c.2) (gap_cases m g k)
    (by omega) (by omega) (by omega)

theorem CopyAll.ovrlp_iff {cfg : Cfg} {oD oM d k s m g : Nat} {st st' : St} {code : Nat}
    (h : CopyAll cfg oD oM d k s m g st st' code) : code = ESOVRLP ↔ g ≤ m ∧ g < k :=
  h.codes.1

theorem CopyAll.eok_iff {cfg : Cfg} {oD oM d k s m g : Nat} {st st' : St} {code : Nat}
    (h : CopyAll cfg oD oM d k s m g st st' code) : code = EOK ↔ m < k ∧ m < g :=
  h.codes.2.1

theorem CopyAll.nospc_iff {cfg : Cfg} {oD oM d k s m g : Nat} {st st' : St} {code : Nat}
    (h : CopyAll cfg oD oM d k s m g st st' code) : code = ESNOSPC ↔ k ≤ m ∧ k ≤ g :=
  h.codes.2.2.1

/-- the two twins' geometry in the terms of the exits: for `g` iterations no cell read was written before and the
pointer compared is not the bumper; after `g` it is -/
theorem bumper_geo {onDest : Bool} {B d s g : Nat}
    (hgeo : (onDest = true ∧ s = d + g ∧ B = s) ∨ (onDest = false ∧ B = s + g ∧ B ≤ d)) :
    (∀ i j, i < j → j < g → s + j ≠ d + i) ∧ (∀ j, j < g → (if onDest then d + j else s + j) ≠ B) ∧
      (if onDest then d + g else s + g) = B := by
  rcases hgeo with ⟨rfl, h, h'⟩ | ⟨rfl, h, h'⟩
  · simp only [if_true]
    exact ⟨fun i j _ _ => by omega, fun j _ => by omega, by omega⟩
  · simp only [Bool.false_eq_true, if_false]
    exact ⟨fun i j _ _ => by omega, fun j _ => by omega, by omega⟩

/-- a source without a terminator in the cells the loop gets to read (the first `min g k` cells non-NUL, `slen` reaches
as far).  In the `dest < src` twin (`onDest`) the bumper is `src = d + g`; in the other twin it is the start of dest,
`src + g`, at or below `d`. -/
theorem copyLoop_noterm (cfg : Cfg) (onDest bounded : Bool) (B oD oM : Nat) (hoM : 0 < oM)
    (k d s g slen : Nat) (st : St)
    (hrd : ∀ j, j < g → j < k → st.mapped (s+j) = true ∧ st.rd (s+j) = true)
    (hrw : RW st oD oM) (hinv : oD ≤ d ∧ d + k = oD + oM)
    (hgeo : (onDest = true ∧ s = d + g ∧ B = s) ∨ (onDest = false ∧ B = s + g ∧ B ≤ d))
    (hnz : ∀ j, j < g → j < k → st.data (s+j) ≠ 0)
    (hsl : bounded = true → (g < k → g ≤ slen) ∧ (k ≤ g → k ≤ slen)) :
    ∃ code st', exec (copyLoop cfg onDest bounded B oD oM k d s slen) st = .ok (code, st') ∧
      code = (if g < k then ESOVRLP else ESNOSPC) ∧ ClearedPost cfg oD oM code st st' := by
  obtain ⟨hclean, hbne, hbeq⟩ := bumper_geo hgeo
  by_cases hA : g < k
  · obtain ⟨code, st', hx, hc, hp⟩ := copySteps_fail cfg onDest bounded B oD oM hoM k d s g slen st
      (fun j hj => hrd j hj (by omega)) hrw hinv (Nat.le_of_lt hA) (fun j hj => hnz j hj (by omega)) hclean hbne (fun _ => hbeq)
      (fun h => (hsl h).1 hA)
    refine ⟨code, st', hx, hc, hp.cleared ?_⟩
    rw [hc, if_pos hA]; exact ne_ESOVRLP
  · obtain ⟨code, st', hx, hc, hp⟩ := copySteps_fail cfg onDest bounded B oD oM hoM k d s k slen st
      (fun j hj => hrd j (by omega) hj) hrw hinv (Nat.le_refl _) (fun j hj => hnz j (by omega) hj)
      (fun i j h1 h2 => hclean i j h1 (by omega)) (fun j hj => hbne j (by omega))
      (fun h => absurd h (Nat.lt_irrefl _)) (fun h => (hsl h).2 (by omega))
    rw [if_neg (Nat.lt_irrefl _)] at hc
    refine ⟨code, st', hx, by rw [if_neg hA]; exact hc, hp.cleared ?_⟩
    rw [hc]; exact ne_ESNOSPC

/-- only the source cells the loop gets to need be readable; the three cases are the two failing exits and the success exit -/
theorem copyLoop_cases (cfg : Cfg) (onDest bounded : Bool) (B oD oM : Nat) (hoM : 0 < oM)
    (k d s m g slen : Nat) (st : St)
    (hrd : ∀ j, j < m → st.mapped (s+j) = true ∧ st.rd (s+j) = true)
    (hrw : RW st oD oM) (hinv : oD ≤ d ∧ d + k = oD + oM)
    (hgeo : (onDest = true ∧ s = d + g ∧ B = s) ∨ (onDest = false ∧ B = s + g ∧ B ≤ d))
    (hnz : ∀ j, j < m → st.data (s+j) ≠ 0)
    (hfin : ((bounded = true → m < slen) ∧ st.data (s+m) = 0 ∧ st.mapped (s+m) = true ∧ st.rd (s+m) = true) ∨
      (bounded = true ∧ slen = m)) :
    ∃ code st', exec (copyLoop cfg onDest bounded B oD oM k d s slen) st = .ok (code, st') ∧
      CopyAll cfg oD oM d k s m g st st' code := by
  have hsl : bounded = true → m ≤ slen := by
    intro h; rcases hfin with h1 | h1
    · have := h1.1 h; omega
    · omega
  by_cases hB : m < k ∧ m < g
  · obtain ⟨hclean, hbne, _⟩ := bumper_geo hgeo
    obtain ⟨st', hx, hp⟩ := copySteps_done cfg onDest bounded B oD oM k d s m slen st hrd
      (hrw.sub (by omega) (by omega)) hB.1 hnz (fun i j h1 h2 => hclean i j h1 (by omega)) (fun j hj => hbne j (by omega))
      hfin
    exact ⟨_, st', hx, fun _ _ => by omega, fun _ _ => ⟨rfl, hp⟩, fun _ _ => by omega⟩
  -- the terminator is not reached: the loop fails as on a source without one
  obtain ⟨code, st', hx, hc, hp⟩ := copyLoop_noterm cfg onDest bounded B oD oM hoM k d s g slen st
    (fun j _ _ => hrd j (by omega)) hrw hinv hgeo (fun j _ _ => hnz j (by omega)) (fun h => by have := hsl h; omega)
  by_cases hA : g < k
  · rw [if_pos hA] at hc; subst hc
    exact ⟨_, st', hx, fun _ _ => ⟨rfl, hp⟩, fun _ _ => by omega, fun _ _ => by omega⟩
  · rw [if_neg hA] at hc; subst hc
    exact ⟨_, st', hx, fun _ _ => by omega, fun _ _ => by omega, fun _ _ => ⟨rfl, hp⟩⟩

theorem gap_of (dest src : Nat) :
    ∃ g, (dest < src ∧ src = dest + g) ∨ (src ≤ dest ∧ dest = src + g) := by
  by_cases h : dest < src
  · exact ⟨src - dest, Or.inl ⟨h, by omega⟩⟩
  · exact ⟨dest - src, Or.inr ⟨by omega, by omega⟩⟩

theorem apart_iff {dest src g : Nat} (hg : (dest < src ∧ src = dest + g) ∨ (src ≤ dest ∧ dest = src + g)) (n : Nat) :
    n ≤ g ↔ (dest + n ≤ src ∨ src + n ≤ dest) := by
  omega

/-- the copy runs into the other operand inside dest exactly when the `min (m+1) dmax` cells starting at the two
pointers — read and written, terminator included — meet -/
theorem meet_iff {dest src g m dmax : Nat} (hg : (dest < src ∧ src = dest + g) ∨ (src ≤ dest ∧ dest = src + g)) :
    (g ≤ m ∧ g < dmax) ↔ ¬ (dest + min (m+1) dmax ≤ src ∨ src + min (m+1) dmax ≤ dest) := by
  rw [← apart_iff hg]
  omega

/-- `g = 0`: identical pointers, which only the bounded copies let through to the loop -/
theorem cpyBody_cases (cfg : Cfg) (bounded : Bool) (oD oM : Nat) (hoM : 0 < oM) (k d src m g slen : Nat) (st : St)
    (hrd : ∀ j, j < m → st.mapped (src+j) = true ∧ st.rd (src+j) = true)
    (hrw : RW st oD oM) (hinv : oD ≤ d ∧ d + k = oD + oM)
    (hg : (oD < src ∧ src = d + g) ∨ (src ≤ oD ∧ oD = src + g))
    (hnz : ∀ j, j < m → st.data (src+j) ≠ 0)
    (hfin : ((bounded = true → m < slen) ∧ st.data (src+m) = 0 ∧ st.mapped (src+m) = true ∧ st.rd (src+m) = true) ∨
      (bounded = true ∧ slen = m)) :
    ∃ code st', exec (cpyBody cfg bounded oD oM k d src slen) st = .ok (code, st') ∧
      CopyAll cfg oD oM d k src m g st st' code := by
  unfold cpyBody
  rcases hg with ⟨hlt, he⟩ | ⟨hlt, he⟩
  · rw [if_pos hlt]
    exact copyLoop_cases cfg true bounded src oD oM hoM k d src m g slen st hrd hrw hinv (Or.inl ⟨rfl, he, rfl⟩) hnz hfin
  · rw [if_neg (by omega)]
    exact copyLoop_cases cfg false bounded oD oD oM hoM k d src m g slen st hrd hrw hinv (Or.inr ⟨rfl, he, hinv.1⟩) hnz hfin

theorem cpyBody_noterm (cfg : Cfg) (bounded : Bool) (oD oM : Nat) (hoM : 0 < oM) (k d src g slen : Nat) (st : St)
    (hall : ∀ a, st.mapped a = true ∧ st.rd a = true)
    (hrw : RW st oD oM) (hinv : oD ≤ d ∧ d + k = oD + oM)
    (hg : (oD < src ∧ src = d + g) ∨ (src ≤ oD ∧ oD = src + g))
    (hnz : ∀ j, j < g → j < k → st.data (src+j) ≠ 0)
    (hsl : bounded = true → (g < k → g ≤ slen) ∧ (k ≤ g → k ≤ slen)) :
    ∃ code st', exec (cpyBody cfg bounded oD oM k d src slen) st = .ok (code, st') ∧
      code = (if g < k then ESOVRLP else ESNOSPC) ∧ ClearedPost cfg oD oM code st st' := by
  unfold cpyBody
  rcases hg with ⟨hlt, he⟩ | ⟨hlt, he⟩
  · rw [if_pos hlt]
    exact copyLoop_noterm cfg true bounded src oD oM hoM k d src g slen st (fun _ _ _ => hall _) hrw hinv
      (Or.inl ⟨rfl, he, rfl⟩) hnz hsl
  · rw [if_neg (by omega)]
    exact copyLoop_noterm cfg false bounded oD oD oM hoM k d src g slen st (fun _ _ _ => hall _) hrw hinv
      (Or.inr ⟨rfl, he, hinv.1⟩) hnz hsl

theorem catBody_at_end (cfg : Cfg) (bounded : Bool) (dest dmax src slen dl : Nat) (st : St)
    (hrw : RW st dest dmax) (hdl : dl < dmax) (hdnz : ∀ j, j < dl → st.data (dest + j) ≠ 0)
    (hdnul : st.data (dest + dl) = 0) (hout : src ≤ dest ∨ dest + dl ≤ src) :
    exec (catBody cfg bounded dest dmax src slen) st =
      exec (cpyBody cfg bounded dest dmax (dmax - dl) (dest + dl) src slen) st := by
  unfold catBody cpyBody
  by_cases hlt : dest < src
  · rw [if_pos hlt, if_pos hlt]
    have hfe := findEnd_str cfg true src dest dmax dmax dest dl st hrw hdl hdnz hdnul (by intro _ j hj; omega)
    simp only [exec_bind, hfe]
  · rw [if_neg hlt, if_neg hlt]
    have hfe := findEnd_str cfg false dest dest dmax dmax dest dl st hrw hdl hdnz hdnul (by intro h; cases h)
    simp only [exec_bind, hfe]

theorem strcpyG_eq_body (max : Nat) (cfg : Cfg) (dest dmax src : Nat) (destbos : Bos)
    (hd : dest ≠ 0) (hs : src ≠ 0) (hne : dest ≠ src) (hpos : 0 < dmax) (hle : dmax ≤ max)
    (hb : ∀ b, destbos = some b → dmax ≤ b) :
    strcpyG max cfg dest dmax src destbos = cpyBody cfg false dest dmax dmax dest src 0 := by
  unfold strcpyG cpyBody chkDmaxClear
  rw [if_neg hd, if_neg (Nat.ne_of_gt hpos), chkDmaxClearG_pass _ cfg dest dmax destbos max _ hle hb, if_neg hs, if_neg hne]

theorem wcscpy_s_eq_body (cfg : Cfg) (dest dmax src : Nat) (destbos : Bos)
    (hd : dest ≠ 0) (hs : src ≠ 0) (hne : dest ≠ src) (hpos : 0 < dmax) (hle : dmax ≤ RSIZE_MAX_WSTR)
    (hb : ∀ b, destbos = some b → dmax * SIZEOF_WCHAR_T ≤ b) :
    wcscpy_s cfg dest dmax src destbos = cpyBody cfg false dest dmax dmax dest src 0 := by
  unfold wcscpy_s cpyBody
  rw [if_neg hd, if_neg (Nat.ne_of_gt hpos), chkDmaxClearW_pass cfg dest dmax destbos _ hle hb, if_neg hs, if_neg hne]

theorem wcscpy_s_same (cfg : Cfg) (dest dmax : Nat) (destbos : Bos)
    (hd : dest ≠ 0) (hpos : 0 < dmax) (hle : dmax ≤ RSIZE_MAX_WSTR)
    (hb : ∀ b, destbos = some b → dmax * SIZEOF_WCHAR_T ≤ b) :
    wcscpy_s cfg dest dmax dest destbos = pure EOK := by
  unfold wcscpy_s
  rw [if_neg hd, if_neg (Nat.ne_of_gt hpos), chkDmaxClearW_pass cfg dest dmax destbos _ hle hb, if_neg hd, if_pos rfl]

theorem strncpyG_eq_body (max : Nat) (cfg : Cfg) (dest dmax src slen : Nat) (destbos srcbos : Bos)
    (hd : dest ≠ 0) (hs : src ≠ 0) (hpos : 0 < dmax) (hle : dmax ≤ max) (hslen : 0 < slen) (hslenle : slen ≤ max)
    (hb : ∀ b, destbos = some b → dmax ≤ b) (hsb : ∀ sb, srcbos = some sb → slen ≤ sb) :
    strncpyG max cfg dest dmax src slen destbos srcbos = cpyBody cfg true dest dmax dmax dest src slen := by
  unfold strncpyG cpyBody chkDmaxClear chkSlenMaxClear
  rw [if_neg (fun h => Nat.ne_of_gt hslen h.1), if_neg hd, if_neg (Nat.ne_of_gt hpos),
    chkDmaxClearG_pass _ cfg dest dmax destbos max _ hle hb, if_neg hs, if_neg (Nat.not_lt.2 hslenle)]
  cases srcbos with
  | none => rfl
  | some sb => exact if_neg (Nat.not_lt.2 (hsb sb rfl))

theorem wcsncpy_s_eq_body (cfg : Cfg) (dest dmax src slen : Nat) (destbos srcbos : Bos)
    (hd : dest ≠ 0) (hs : src ≠ 0) (hpos : 0 < dmax) (hle : dmax ≤ RSIZE_MAX_WSTR)
    (hslen : 0 < slen) (hslenle : slen ≤ RSIZE_MAX_WSTR)
    (hb : ∀ b, destbos = some b → dmax * SIZEOF_WCHAR_T ≤ b)
    (hsb : ∀ sb, srcbos = some sb → slen * SIZEOF_WCHAR_T ≤ sb) :
    wcsncpy_s cfg dest dmax src slen destbos srcbos = cpyBody cfg true dest dmax dmax dest src slen := by
  unfold wcsncpy_s cpyBody
  rw [if_neg (fun h => Nat.ne_of_gt hslen h.1), if_neg hd, if_neg (Nat.ne_of_gt hpos),
    chkDmaxClearW_pass cfg dest dmax destbos _ hle hb, if_neg hs, if_neg (Nat.not_lt.2 hslenle)]
  cases srcbos with
  | none => rfl
  | some sb => exact if_neg (Nat.not_lt.2 (hsb sb rfl))

/-- `slen == 0` of the two bounded copies: one NUL is stored, nothing else is looked at -/
theorem strncpyG_slen0 (max : Nat) (cfg : Cfg) (dest dmax src : Nat) (destbos srcbos : Bos)
    (hd : dest ≠ 0) (hpos : 0 < dmax) :
    strncpyG max cfg dest dmax src 0 destbos srcbos = (do store dest 0; pure EOK) := by
  unfold strncpyG
  rw [if_pos ⟨rfl, hd, by omega⟩]

theorem wcsncpy_s_slen0 (cfg : Cfg) (dest dmax src : Nat) (destbos srcbos : Bos)
    (hd : dest ≠ 0) (hpos : 0 < dmax) :
    wcsncpy_s cfg dest dmax src 0 destbos srcbos = (do store dest 0; pure EOK) := by
  unfold wcsncpy_s
  rw [if_pos ⟨rfl, hd, by omega⟩]

theorem strcatG_eq_body (max : Nat) (cfg : Cfg) (dest dmax src : Nat) (destbos : Bos)
    (hd : dest ≠ 0) (hs : src ≠ 0) (hpos : 0 < dmax) (hle : dmax ≤ max)
    (hb : ∀ b, destbos = some b → dmax ≤ b) :
    strcatG max cfg dest dmax src destbos = catBody cfg false dest dmax src 0 := by
  unfold strcatG catBody chkDmaxClear
  rw [if_neg hd, if_neg (Nat.ne_of_gt hpos), chkDmaxClearG_pass _ cfg dest dmax destbos max _ hle hb, if_neg hs]
  rfl

theorem wcscat_s_eq_body (cfg : Cfg) (dest dmax src : Nat) (destbos : Bos)
    (hd : dest ≠ 0) (hs : src ≠ 0) (hpos : 0 < dmax) (hle : dmax ≤ RSIZE_MAX_WSTR)
    (hb : ∀ b, destbos = some b → dmax * SIZEOF_WCHAR_T ≤ b) :
    wcscat_s cfg dest dmax src destbos = catBody cfg false dest dmax src 0 := by
  unfold wcscat_s catBody
  rw [if_neg hd, if_neg (Nat.ne_of_gt hpos), chkDmaxW_pass dmax destbos _ hle hb, if_neg hs]
  rfl

theorem strncatG_eq_body (max : Nat) (cfg : Cfg) (dest dmax src slen : Nat) (destbos srcbos : Bos)
    (hd : dest ≠ 0) (hs : src ≠ 0) (hpos : 0 < dmax) (hle : dmax ≤ max) (hslen : 0 < slen) (hslenle : slen ≤ max)
    (hb : ∀ b, destbos = some b → dmax ≤ b) (hsb : ∀ sb, srcbos = some sb → slen ≤ sb) :
    strncatG max cfg dest dmax src slen destbos srcbos = catBody cfg true dest dmax src slen := by
  unfold strncatG catBody chkDmaxClear chkSlenMaxClear
  rw [if_neg (fun h => Nat.ne_of_gt hslen h.1), if_neg hd, if_neg (Nat.ne_of_gt hpos),
    chkDmaxClearG_pass _ cfg dest dmax destbos max _ hle hb, if_neg hs, if_neg (Nat.not_lt.2 hslenle),
    if_neg (Nat.ne_of_gt hslen)]
  cases srcbos with
  | none => rfl
  | some sb => exact if_neg (Nat.not_lt.2 (hsb sb rfl))

theorem wcsncat_s_eq_body (cfg : Cfg) (dest dmax src slen : Nat) (destbos srcbos : Bos)
    (hd : dest ≠ 0) (hs : src ≠ 0) (hpos : 0 < dmax) (hle : dmax ≤ RSIZE_MAX_WSTR)
    (hslen : 0 < slen) (hslenle : slen ≤ RSIZE_MAX_WSTR)
    (hb : ∀ b, destbos = some b → dmax * SIZEOF_WCHAR_T ≤ b)
    (hsb : ∀ sb, srcbos = some sb → slen * SIZEOF_WCHAR_T ≤ sb) :
    wcsncat_s cfg dest dmax src slen destbos srcbos = catBody cfg true dest dmax src slen := by
  unfold wcsncat_s catBody
  rw [if_neg (fun h => Nat.ne_of_gt hslen h.1), if_neg hd, if_neg (Nat.ne_of_gt hpos),
    chkDmaxW_pass dmax destbos _ hle hb, if_neg hs, if_neg (Nat.not_lt.2 hslenle)]
  cases srcbos with
  | none => exact if_neg (Nat.ne_of_gt hslen)
  | some sb => exact (if_neg (Nat.not_lt.2 (hsb sb rfl))).trans (if_neg (Nat.ne_of_gt hslen))

end SafeC
