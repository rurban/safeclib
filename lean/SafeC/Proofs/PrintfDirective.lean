import SafeC.Proofs.PrintfParse
/-!
# C11: one conversion specification end to end — `directive` (parser + conversion) = `Spec.parseDir` + `Spec.render`
-/
namespace SafeC.Printf
open SafeC.Printf.Spec

/-- what the end-to-end theorem asks of one conversion specification: width and precision numerals below 2^32 (the
    engine's `unsigned int` accumulator), and for the numeric conversions the 32-byte digit buffer bound `IntOK` -/
def DirOK (d : Dir) : Prop :=
  d.width < 2 ^ 32 ∧ d.prec.getD 0 < 2 ^ 32 ∧
  ((d.conv = 'd' ∨ d.conv = 'i' ∨ d.conv = 'u' ∨ d.conv = 'o' ∨ d.conv = 'x' ∨ d.conv = 'X') → IntOK d)

instance (d : Dir) : Decidable (DirOK d) := by unfold DirOK; infer_instance

theorem render_conv (d : Dir) (a : List Arg) (t : Str) (a' : List Arg) (h : render d a = some (t, a')) :
    (d.conv = 'd' ∨ d.conv = 'i' ∨ d.conv = 'u' ∨ d.conv = 'o' ∨ d.conv = 'x' ∨ d.conv = 'X') ∨
    (d.conv = 'c' ∧ d.len = .none ∧ ∃ v, a = .int v :: a' ∧ t = padField d [Char.ofNat (wrapU 8 v)]) ∨
    (d.conv = 's' ∧ d.len = .none ∧ ∃ p, a = .str (some p) :: a' ∧ t = padField d (strCore d p)) := by
  unfold render at h
  by_cases h1 : d.conv = 'd' ∨ d.conv = 'i'
  · left; rcases h1 with h1 | h1 <;> simp [h1]
  · by_cases h2 : d.conv = 'u'
    · left; simp [h2]
    · by_cases h3 : d.conv = 'o'
      · left; simp [h3]
      · by_cases h4 : d.conv = 'x' ∨ d.conv = 'X'
        · left; rcases h4 with h4 | h4 <;> simp [h4]
        · right
          simp only [h1, h2, h3, h4, if_false] at h
          by_cases h5 : d.conv = 'c'
          · left
            simp only [h5, if_true] at h
            split at h
            · cases h
            · rename_i hc
              split at h
              · obtain ⟨rfl, rfl⟩ := h
                refine ⟨h5, ?_, _, rfl, rfl⟩
                simp at hc; exact hc.2.2.2
              · cases h
          · right
            simp only [h5, if_false] at h
            by_cases h6 : d.conv = 's'
            · simp only [h6, if_true] at h
              split at h
              · cases h
              · rename_i hc
                split at h
                · obtain ⟨rfl, rfl⟩ := h
                  refine ⟨h6, ?_, _, rfl, rfl⟩
                  simp at hc; exact hc.2.2
                · cases h
            · simp [h6] at h

/-- the repairs the end-to-end theorems are stated for (all but `lcMemcpy`/`sprintfExact`, which these directives do not reach) -/
def Repaired (fx : Fixes) : Prop := fx.minusPrec = true ∧ fx.hash = true ∧ fx.negStarPrec = true ∧ fx.strPrec0 = true

theorem sLen_pres (d : Dir) (f : Str) : (sLen d f).1.width = d.width ∧ (sLen d f).1.prec = d.prec := by
  unfold sLen; split <;> exact ⟨rfl, rfl⟩

/-- **one conversion specification, parser included.**  If `Spec.parseDir` reads a specification `d` at `f` and
    `Spec.render` defines its text, the repaired engine's `directive` emits exactly that text, leaves the same rest of the
    format and the same remaining arguments. -/
theorem directive_eq (fx : Fixes) (hfx : Repaired fx) (sk : Sink) (m : Nat) (f : Str) (args : List Arg) (s : St)
    (d : Dir) (r' : Str) (a0 : List Arg) (text : Str) (a' : List Arg)
    (hp : parseDir f args = some (d, r', a0)) (hr : render d a0 = some (text, a')) (hok : DirOK d)
    (hroom : (sk = .buffer ∧ s.idx ≤ m) ∨ s.idx + text.length ≤ m) :
    directive fx sk m f args s = (emitAll sk m text s).map (fun s' => (r', a', s')) := by
  obtain ⟨hm, hx, hn, hs0⟩ := hfx
  rw [parseDir_stages] at hp
  obtain ⟨⟨d1, f1, a1⟩, hw, hp⟩ := Option.bind_eq_some_iff.mp hp
  obtain ⟨⟨d2, f2, a2⟩, hpr, hp⟩ := Option.bind_eq_some_iff.mp hp
  simp only [stage3] at hp
  have hd0 : (setFlags {} (f.takeWhile isFlag)).len = .none ∧ (setFlags {} (f.takeWhile isFlag)).prec = Option.none :=
    setFlags_len _ _
  have hf := parseFlags_eq f {} rfl
  have hcfl0 : cfl ({} : Dir) = ({} : Flags) := rfl
  rw [hcfl0] at hf
  cases hl3 : sLen d2 f2 with
  | mk d3 f3 =>
    rw [hl3] at hp
    cases f3 with
    | nil => cases hp
    | cons c r3 =>
      simp only [Option.pure_def, Option.some.injEq, Prod.mk.injEq] at hp
      obtain ⟨hd, rfl, rfl⟩ := hp
      have hconv : d.conv = c := by rw [← hd]
      have hrc := render_conv d a2 text a' hr
      have hL : f2.head? ≠ some 'L' := by
        intro hh
        cases f2 with
        | nil => cases hh
        | cons c2 t =>
          simp only [List.head?_cons, Option.some.injEq] at hh
          subst hh
          have : sLen d2 ('L' :: t) = (d2, 'L' :: t) := rfl
          rw [this] at hl3
          simp only [Prod.mk.injEq, List.cons.injEq] at hl3
          have hcL : d.conv = 'L' := by rw [hconv, ← hl3.2.1]
          rcases hrc with h | h | h
          · rcases h with h | h | h | h | h | h <;> rw [hcL] at h <;> exact absurd h (by decide)
          · rw [hcL] at h; exact absurd h.1 (by decide)
          · rw [hcL] at h; exact absurd h.1 (by decide)
      obtain ⟨hok1, hok2, hok3⟩ := hok
      have hd1 := parseWidth_eq _ hd0.1 _ args d1 f1 a1 hw
      have hlen1 : d1.len = .none ∧ d1.prec = Option.none := by
        unfold sWidth at hw
        split at hw
        · cases hs : starArg args with
          | none => simp [hs] at hw
          | some p =>
            simp only [hs, Option.bind_eq_bind, Option.bind_some, Option.pure_def, Option.some.injEq, Prod.mk.injEq] at hw
            rw [← hw.1]; split <;> exact hd0
        · simp only [Option.pure_def, Option.some.injEq, Prod.mk.injEq] at hw
          rw [← hw.1]; exact hd0
      have h3 := sLen_pres d2 f2
      rw [hl3] at h3
      have hdw : d.width = d3.width := by rw [← hd]
      have hdp : d.prec = d3.prec := by rw [← hd]
      have hP := parsePrec_eq fx hn d1 hlen1.1 hlen1.2 f1 a1 d2 f2 a2 hpr (by rw [← h3.2, ← hdp]; exact hok2)
      obtain ⟨hP1, hP2, hP3⟩ := hP
      have hW1 := hd1 (by rw [← hP3, ← h3.1, ← hdw]; exact hok1)
      have hLn := parseLength_eq d2 (by rw [hP2]; exact hlen1.1) f2 hL
      rw [hl3] at hLn
      have hcfl : cfl d3 = cfl d := by rw [← hd]; rfl
      unfold directive
      simp only [hf, hW1, hP1, hLn, bind, Except.bind, hcfl]
      rw [show d1.width = d.width by rw [← hP3, ← h3.1, ← hdw], show d2.prec.getD 0 = d.prec.getD 0 by rw [← h3.2, ← hdp]]
      rw [← hconv]
      rcases hrc with h6 | ⟨hc, hln, v, rfl, rfl⟩ | ⟨hc, hln, p, rfl, rfl⟩
      · have hif : d.conv = 'd' ∨ d.conv = 'i' ∨ d.conv = 'u' ∨ d.conv = 'x' ∨ d.conv = 'X' ∨ d.conv = 'o' ∨ d.conv = 'b' := by
          rcases h6 with h | h | h | h | h | h <;> simp [h]
        rw [if_pos hif, convInt_eq fx hm hx sk m d h6 a2 s text a' hr (hok3 h6)]
        cases emitAll sk m text s <;> rfl
      · simp (config := {decide := true}) only [hc, if_false, if_true]
        rw [convChar_eq fx sk m d hln v a' s]
        cases emitAll sk m _ s <;> rfl
      · simp (config := {decide := true}) only [hc, if_false, if_true]
        rw [convStr_eq fx hs0 sk m d hln p a' s hroom]
        cases emitAll sk m _ s <;> rfl

end SafeC.Printf
