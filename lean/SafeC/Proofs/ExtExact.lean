import SafeC.Proofs.StpAll
import SafeC.Proofs.CopyDisjoint
/-!
# Exact results on valid, non-overlapping operands: `wcsncat_s`, `stpcpy_s`, `stpncpy_s`

Setting of `Proofs/CopyDisjoint.lean`: only the declared extents are mapped / readable / writable;
`exec … = .ok …` says nothing faulted, `st'.strays = st.strays` that nothing undeclared was touched.
The stp pair returns what the copy body returns there (`CpyDisjPost` for the code, `CopyAll.disjoint`) and the pointer (`StpExact`).
-/
namespace SafeC
open Gen

/-- wcsncat_s, object sizes unknown, `0 < slen ≤ RSIZE_MAX_WSTR`: dest holds a string of length `dl`,
`m` = number of source characters appended (the source string is shorter than slen and `m` its length,
or `m = slen`) -/
theorem wcsncat_s_disjoint (cfg : Cfg) (dest dmax src slen dl m : Nat) (st : St)
    (hd : dest ≠ 0) (hs : src ≠ 0) (hpos : 0 < dmax) (hle : dmax ≤ RSIZE_MAX_WSTR)
    (hslen : 0 < slen) (hslenle : slen ≤ RSIZE_MAX_WSTR)
    (hrw : RW st dest dmax)
    (hnz : ∀ j, j < m → st.data (src+j) ≠ 0)
    (hrd : ∀ j, j < m → st.mapped (src+j) = true ∧ st.rd (src+j) = true)
    (hfin : (m < slen ∧ st.data (src+m) = 0 ∧ st.mapped (src+m) = true ∧ st.rd (src+m) = true) ∨ slen = m)
    (hdisj : dest + dmax ≤ src ∨ src + m < dest)
    (hdl : dl < dmax) (hdnz : ∀ j, j < dl → st.data (dest+j) ≠ 0) (hdnul : st.data (dest+dl) = 0) :
    ∃ code st', exec (wcsncat_s cfg dest dmax src slen none none) st = .ok (code, st') ∧
      CatDisjPost cfg dest dmax dl src m st st' code := by
  rw [wcsncat_s_eq_body cfg dest dmax src slen none none hd hs hpos hle hslen hslenle (fun _ h => nomatch h)
    (fun _ h => nomatch h)]
  exact catBody_disjoint cfg true dest dmax src slen dl m st hrw hnz hrd
    (hfin.imp (fun h => ⟨fun _ => h.1, h.2⟩) (fun h => ⟨rfl, h⟩)) hdisj hdl hdnz hdnul

def StpExact (cfg : Cfg) (dest dmax src m : Nat) (st st' : St) (r : Nat × Nat) : Prop :=
  CpyDisjPost cfg dest dmax src m st st' r.2 ∧ r.1 = if r.2 = EOK then dest + m else 0

/-- the body shared by both entry points, on non-overlapping operands: the success or the no-room case of `stpBody_cases` -/
theorem stpBody_disjoint (cfg : Cfg) (isN : Bool) (dest dmax src m slen : Nat) (srcbos : Bos) (st : St)
    (hpos : 0 < dmax) (hrw : RW st dest dmax)
    (hnz : ∀ j, j < m → st.data (src+j) ≠ 0)
    (hrd : ∀ j, j < m → st.mapped (src+j) = true ∧ st.rd (src+j) = true)
    (hfin : ((isN = true → m < slen) ∧ st.data (src+m) = 0 ∧ st.mapped (src+m) = true ∧
              st.rd (src+m) = true) ∨ (isN = true ∧ slen = m))
    (hdisj : dest + dmax ≤ src ∨ src + m < dest)
    (hun : ∀ i, i < m → untermB srcbos (if isN then slen - (i+1) else slen + (i+1)) = false) :
    ∃ r st', exec (stpBody cfg isN dest dmax src slen srcbos) st = .ok (r, st') ∧
      StpExact cfg dest dmax src m st st' r := by
  obtain ⟨g, hg⟩ := gap_of_ne dest src (by omega)
  obtain ⟨r, st', he, hp⟩ := stpBody_cases cfg isN dest dmax src m g slen srcbos st hrd hpos hrw hg hnz hfin hun
  exact ⟨r, st', he, hp.1.disjoint (exec_perm _ _ he) (by omega), hp.2⟩

/-- **stpcpy_s on valid non-overlapping operands** (object sizes unknown, or known with dmax inside dest's
and the source string inside the source's): `n` = length of the source string -/
theorem stpcpy_s_disjoint (cfg : Cfg) (dest dmax src n : Nat) (destbos srcbos : Bos) (st : St)
    (hd : dest ≠ 0) (hs : src ≠ 0) (hpos : 0 < dmax) (hle : dmax ≤ RSIZE_MAX_STR)
    (hb : ∀ b, destbos = some b → dmax ≤ b) (hsb : ∀ sb, srcbos = some sb → n < sb)
    (hrw : RW st dest dmax) (hsrc : SrcStr st src n) (hdisj : Disjoint dest dmax src n) :
    ∃ r st', exec (stpcpy_s cfg dest dmax src destbos srcbos) st = .ok (r, st') ∧
      StpExact cfg dest dmax src n st st' r := by
  unfold stpcpy_s
  have hz : dmax ≠ 0 := by omega
  rw [if_neg hd, if_neg hz]
  rw [chkDmaxClearG_pass _ cfg dest dmax destbos _ _ hle hb, if_neg hs]
  exact stpBody_disjoint cfg false dest dmax src n 0 srcbos st hpos hrw hsrc.nz
    (fun j hj => hsrc.rd j (by omega))
    (Or.inl ⟨fun h => absurd h (by decide), hsrc.nul, (hsrc.rd n (Nat.le_refl _)).1, (hsrc.rd n (Nat.le_refl _)).2⟩)
    hdisj
    (by
      intro i hi
      simp only [Bool.false_eq_true, if_false]
      exact untermB_false _ _ (fun sb h => by have := hsb sb h; omega))

/-- **stpncpy_s on valid non-overlapping operands** (`slen ≤ RSIZE_MAX_STR`, object sizes unknown, or
known with dmax / slen inside them): `m` = characters copied (the source string is shorter than slen and
`m` its length, or `m = slen`) -/
theorem stpncpy_s_disjoint (cfg : Cfg) (dest dmax src slen m : Nat) (destbos srcbos : Bos) (st : St)
    (hd : dest ≠ 0) (hs : src ≠ 0) (hpos : 0 < dmax) (hle : dmax ≤ RSIZE_MAX_STR)
    (hslenle : slen ≤ RSIZE_MAX_STR)
    (hb : ∀ b, destbos = some b → dmax ≤ b) (hsb : ∀ sb, srcbos = some sb → slen ≤ sb)
    (hrw : RW st dest dmax)
    (hnz : ∀ j, j < m → st.data (src+j) ≠ 0)
    (hrd : ∀ j, j < m → st.mapped (src+j) = true ∧ st.rd (src+j) = true)
    (hfin : (m < slen ∧ st.data (src+m) = 0 ∧ st.mapped (src+m) = true ∧ st.rd (src+m) = true) ∨ slen = m)
    (hdisj : dest + dmax ≤ src ∨ src + m < dest) :
    ∃ r st', exec (stpncpy_s cfg dest dmax src slen destbos srcbos) st = .ok (r, st') ∧
      StpExact cfg dest dmax src m st st' r := by
  unfold stpncpy_s
  have hz : dmax ≠ 0 := by omega
  rw [if_neg hd, if_neg hz]
  have hbody := stpBody_disjoint cfg true dest dmax src m slen srcbos st hpos hrw hnz hrd
    (hfin.elim (fun h => Or.inl ⟨fun _ => h.1, h.2⟩) (fun h => Or.inr ⟨rfl, h⟩)) hdisj
    (by
      intro i hi
      simp only [if_true]
      exact untermB_false _ _ (fun sb h => by have := hsb sb h; omega))
  rw [chkDmaxClearG_pass _ cfg dest dmax destbos _ _ hle hb, if_neg hs, if_neg (Nat.not_lt.mpr hslenle)]
  cases srcbos with
  | none => exact hbody
  | some sb => simp only; rw [if_neg (Nat.not_lt.mpr (hsb sb rfl))]; exact hbody

end SafeC
