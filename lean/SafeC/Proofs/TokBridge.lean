import SafeC.Proofs.TokSeq
import SafeC.Proofs.TokList
import SafeC.Props.C10ListSpec
/-! C14: from the memory-level call description (`callSpec`) to the list-level reference (`TokSpec.refSeq`).  `cstr m p n` is the
C string at `p` as a list; the two scan positions are `takeWhile` lengths on it; `callSpec_eq_ref`: one call, as described by
`callSpec` on the memory, is the head of `refSeq` on the list, and the string left for the next call is the list `refSeq`
continues with. -/
namespace SafeC.Props.C14
open SafeC Gen SafeC.TokSpec

def cstr (m : Nat → Nat) (p : Nat) : Nat → List Nat
  | 0 => []
  | n+1 => if m p = 0 then [] else m p :: cstr m (p+1) n

/-- the string of C10's list view (`SafeC.cstr`: the cells up to the first NUL) is the same list: the list equations of
`Props/C10ListSpec.lean` hold of it -/
theorem cstr_eq (m : Nat → Nat) (p n : Nat) : cstr m p n = SafeC.cstr m p n := by
  induction n generalizing p with
  | zero => rfl
  | succ n ih =>
    simp only [cstr, SafeC.cstr, cells, List.takeWhile_cons, ih (p+1)]
    by_cases h0 : m p = 0 <;> simp [h0]

theorem cstr_length (m : Nat → Nat) (p n : Nat) : (cstr m p n).length = scanLen m p n := by
  rw [cstr_eq, ← C10.scanLen_eq_list]

theorem cstr_cells (m : Nat → Nat) (p n : Nat) : cstr m p n = cells m p (scanLen m p n) := by
  rw [cstr_eq, C10.cstr_eq_cells]

theorem cstr_getElem (m : Nat → Nat) (p n i : Nat) (hi : i < (cstr m p n).length) : (cstr m p n)[i] = m (p+i) := by
  have := cells_getElem? m p (scanLen m p n) i (by rwa [cstr_length] at hi)
  rw [← cstr_cells, List.getElem?_eq_getElem hi] at this
  exact Option.some.inj this

theorem cstr_nonzero (m : Nat → Nat) (p n : Nat) : ∀ c ∈ cstr m p n, c ≠ 0 := by
  intro c hc
  obtain ⟨i, hi, rfl⟩ := List.getElem_of_mem hc
  rw [cstr_getElem]
  exact scanLen_nonzero m p n i (by rwa [cstr_length] at hi)

theorem cstr_congr (m m' : Nat → Nat) (p n : Nat) (h : ∀ j, j < n → m (p+j) = m' (p+j)) : cstr m p n = cstr m' p n := by
  have := scanLen_le m p n
  rw [cstr_cells, cstr_cells, ← scanLen_congr m m' p n h]
  exact cells_ext _ _ _ _ _ fun j hj => h j (by omega)

theorem cstr_drop (m : Nat → Nat) (p n j : Nat) (hj : j ≤ scanLen m p n) :
    cstr m (p+j) (n-j) = (cstr m p n).drop j := by
  have := scanLen_from m p n (p+j) (Nat.le_add_right _ _) (by omega)
  rw [cstr_cells, cstr_cells, cells_drop]
  congr 1
  rw [Nat.add_sub_cancel_left] at this; omega

def delimsAt (m : Nat → Nat) (dl : Nat) : List Nat := cstr m dl STRTOK_DELIM_MAX_LEN

theorem isDelim_eq (m : Nat → Nat) (dl : Nat) : isDelim m dl = fun c => (delimsAt m dl).contains c := by
  funext c; rw [delimsAt, cstr_eq]; exact C10.inSet_eq_list m c dl _

theorem skipD_eq (m : Nat → Nat) (dl n p : Nat) :
    skipD m dl n p = p + ((cstr m p n).takeWhile (isDelim m dl)).length := by
  rw [skipD_eq_span, C10.spanLen_eq_list, cstr_eq]
  congr 3; funext x; simp [isDelim, C10.inSet_eq_list]

theorem findE_eq (m : Nat → Nat) (dl n p : Nat) :
    findE m dl n p = p + ((cstr m p n).takeWhile (fun c => !isDelim m dl c)).length := by
  rw [findE_eq_span, C10.spanLen_eq_list, cstr_eq]
  congr 3; funext x; simp [isDelim, C10.inSet_eq_list]

/-- a call of the reference (offsets into the original string) as a `CallSpec` on addresses: `base` is the
address of offset 0, `lim` the end of the declared extent -/
def refCallSpec (base lim : Nat) (r : RefCall) : CallSpec :=
  { ret := match r.tok with
      | none => 0
      | some (o, _) => base + o
    ptr := base + r.next
    rem := lim - (base + r.next)
    cut := r.cut.map (fun c => base + c) }

theorem cstr_nul (m : Nat → Nat) (a k : Nat) (h : m a = 0) : cstr m a k = [] := by
  cases k <;> simp [cstr, h]

theorem cstr_dropWhile (m : Nat → Nat) (g : Nat → Bool) (p n q : Nat) (hq : p ≤ q)
    (hl : ((cstr m p n).takeWhile g).length = q - p) :
    (cstr m p n).dropWhile g = cstr m q (p + n - q) := by
  rw [dropWhile_eq_drop, hl, ← cstr_drop m p n _ (by rw [← cstr_length, ← hl]; exact (List.takeWhile_sublist _).length_le)]
  congr 1 <;> omega

theorem cstr_lead (m : Nat → Nat) (dl p n a : Nat) (hs : skipD m dl n p = a) :
    ((cstr m p n).takeWhile (isDelim m dl)).length = a - p ∧
    (cstr m p n).dropWhile (isDelim m dl) = cstr m a (p + n - a) := by
  have hl : ((cstr m p n).takeWhile (isDelim m dl)).length = a - p := by
    have := skipD_eq m dl n p; omega
  exact ⟨hl, cstr_dropWhile m _ p n a (by have := skipD_bounds m dl n p; omega) hl⟩

theorem cstr_cons (m : Nat → Nat) (a k : Nat) (h : m a ≠ 0) : cstr m a (k + 1) = m a :: cstr m (a + 1) k := by
  simp [cstr, h]

theorem cstr_token (m : Nat → Nat) (dl p n a b : Nat) (h1 : p ≤ a) (h2 : a < b) (h3 : b < p + n)
    (hf : findE m dl (n - (a - p) - 1) (a + 1) = b) (h0 : m a ≠ 0) (hd : isDelim m dl (m a) = false) :
    ((cstr m a (p + n - a)).takeWhile (fun c => !isDelim m dl c)).length = b - a ∧
    (cstr m a (p + n - a)).dropWhile (fun c => !isDelim m dl c) = cstr m b (p + n - b) ∧
    cstr m a (p + n - a) ≠ [] := by
  have e : p + n - a = n - (a - p) - 1 + 1 := by omega
  have e2 : a + (n - (a - p) - 1 + 1) - b = p + n - b := by omega
  have hab : a ≤ b := Nat.le_of_lt h2
  have hl := findE_eq m dl (n - (a - p) - 1 + 1) a
  rw [e]
  simp only [findE, h0, hd, if_false, Bool.false_eq_true, hf] at hl
  have hl' : ((cstr m a (n - (a - p) - 1 + 1)).takeWhile (fun c => !isDelim m dl c)).length = b - a :=
    (Nat.sub_eq_of_eq_add (by rw [Nat.add_comm]; exact hl)).symm
  exact ⟨hl', by rw [cstr_dropWhile m _ a _ b hab hl', e2], by rw [cstr_cons m a _ h0]; exact List.cons_ne_nil _ _⟩

/-- **one call, as `callSpec` describes it on the memory, is the head of the reference on the string**, and the string left
for the next call is the one the reference continues with: in each case of `CallCase` the two `takeWhile`s of `refHead`
have the lengths `a - p` and `b - a` -/
theorem callSpec_eq_ref (m : Nat → Nat) (dl p n base off : Nat) (hz : scanLen m p n < n) (hp : p = base + off) :
    callSpec m dl p n = refCallSpec base (p + n) (refHead (isDelim m dl) off (cstr m p n)) ∧
    cstr (afterCall m (callSpec m dl p n)) (callSpec m dl p n).ptr (callSpec m dl p n).rem
      = refRest (isDelim m dl) (cstr m p n) := by
  have h := callSpec_cases m dl p n hz
  generalize callSpec m dl p n = c at h ⊢
  unfold refHead refRest refCallSpec
  cases h with
  | nul a hs h1 h2 _ h0 =>
    have ea : base + (off + (a - p)) = a := by omega
    obtain ⟨l1, l2⟩ := cstr_lead m dl p n a hs
    simp only [l1, l2, if_true, Option.map_none, afterCall, cstr_nul m a _ h0, List.dropWhile_nil, List.drop_nil, ea,
      and_self]
  | last a b hs hf h1 h2 h3 _ htok h0 =>
    have ea : base + (off + (a - p)) = a := by omega
    have eb : base + (off + (a - p) + (b - a)) = b := by omega
    obtain ⟨l1, l2⟩ := cstr_lead m dl p n a hs
    obtain ⟨t1, t2, hne⟩ := cstr_token m dl p n a b h1 h2 h3 hf (htok a (Nat.le_refl _) h2).1 (htok a (Nat.le_refl _) h2).2
    simp only [l1, l2, hne, if_false, t2, cstr_nul m b _ h0, if_true, t1, Option.map_none, afterCall, List.drop_nil,
      ea, eb, and_self]
  | cut a b hs hf h1 h2 h3 _ htok h0 hd =>
    have ea : base + (off + (a - p)) = a := by omega
    have ec : base + (off + (a - p) + (b - a)) = b := by omega
    have eb : base + (off + (a - p) + (b - a) + 1) = b + 1 := by rw [← Nat.add_assoc, ec]
    have e : p + n - b = p + n - (b + 1) + 1 := by omega
    obtain ⟨l1, l2⟩ := cstr_lead m dl p n a hs
    obtain ⟨t1, t2, hne⟩ := cstr_token m dl p n a b h1 h2 h3 hf (htok a (Nat.le_refl _) h2).1 (htok a (Nat.le_refl _) h2).2
    rw [e, cstr_cons m b _ h0] at t2
    simp only [l1, l2, hne, if_false, t2, List.cons_ne_nil, t1, Option.map_some, List.drop_succ_cons, List.drop_zero,
      ea, eb, ec, true_and]
    -- the next call sees the memory behind the cut
    exact (cstr_congr m _ _ _ fun j _ => by simp [afterCall]; omega).symm

end SafeC.Props.C14
