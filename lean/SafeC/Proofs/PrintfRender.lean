import SafeC.Proofs.PrintfFormat
/-!
# C11: the number `safec_ntoa_long` + `safec_ntoa_format` + `safec_out_rev` write = `Spec.renderInt`

Both sides are one field: the engine's buffer is `digits ++ zeros ++ affix` (affix = sign, or `x0` / `0`), written in reverse
(`outRevText_field`); the standard's text is `affix ++ zero fill ++ digit block`, padded (`renderInt_field`, every flag word).
`ntoaLong_renderInt_nohash`: flags without `#` (repaired `-`/precision code, `Fixes.minusPrec`), every 64-bit value,
bases 8/10/16, precision ≤ 31, zero-padded width ≤ 31.
-/
namespace SafeC.Printf
open SafeC.Printf.Spec

/-- the conversion specification (flags, width, precision) the engine's flag word stands for -/
def dirOf (fl : Flags) (width prec : Nat) : Dir :=
  { minus := fl.left, plus := fl.plus, space := fl.space, hash := fl.hash, zero := fl.zeropad, width := width,
    prec := if fl.precision then some prec else none }

/-- the standard's digit characters of `v` -/
def numStr (base : Nat) (upper : Bool) (v : Nat) : Str := (digits base v).map (digitSym upper)

theorem numStr_length_pos (b : Nat) (up : Bool) (v : Nat) (hb : 2 ≤ b) (hv : v ≠ 0) : 0 < (numStr b up v).length := by
  unfold numStr; rw [List.length_map]; exact List.length_pos_iff.2 (digits_ne_nil b v hb hv)

theorem numStr_zero (b : Nat) (up : Bool) : numStr b up 0 = [] := by unfold numStr; rw [digits_zero]; rfl

/-- the digit buffer `safec_ntoa_long` hands to `safec_ntoa_format` -/
def digitBuf (base : Nat) (upper precision : Bool) (v : Nat) : Str :=
  if !precision || v != 0 then ntoaDigits base upper NTOA v [] else []

theorem digitBuf_eq (base : Nat) (up pr : Bool) (v : Nat) (hb : 8 ≤ base) (hb16 : base ≤ 16) (hv : v < 2 ^ 64) :
    digitBuf base up pr v = if v = 0 then (if pr then [] else ['0']) else (numStr base up v).reverse := by
  unfold digitBuf numStr
  by_cases h0 : v = 0
  · subst h0; cases pr <;> simp [ntoaDigits_spec base up 0 hb hb16 (by omega)]
  · simp [h0, ntoaDigits_spec base up v hb hb16 hv]

theorem digitBuf_length_le (base : Nat) (up pr : Bool) (v : Nat) (hb : 8 ≤ base) (hb16 : base ≤ 16) (hv : v < 2 ^ 64) :
    (digitBuf base up pr v).length ≤ 22 := by
  have h22 := revDigits_length_64 base v hb hv
  have hN : NTOA = 32 := rfl
  unfold digitBuf
  split
  · rw [ntoaDigits_eq base up (by omega) NTOA v [] (by omega) (by simp; omega)]
    simp; exact h22
  · simp

/-- precision zeros ++ digits, as the standard writes them (`ds` of `Spec.renderInt` before `#`) -/
def precDigits (base : Nat) (upper : Bool) (prec : Option Nat) (v : Nat) : Str :=
  List.replicate (prec.getD 1 - (numStr base upper v).length) '0' ++ numStr base upper v

theorem digitBuf_block (base : Nat) (up pr : Bool) (prec v : Nat) (hb : 8 ≤ base) (hb16 : base ≤ 16) (hv : v < 2 ^ 64)
    (hp0 : pr = false → prec = 0) :
    List.replicate (prec - (digitBuf base up pr v).length) '0' ++ (digitBuf base up pr v).reverse =
      precDigits base up (if pr then some prec else none) v := by
  rw [digitBuf_eq base up pr v hb hb16 hv]
  unfold precDigits
  by_cases h0 : v = 0
  · subst h0
    cases pr
    · have := hp0 rfl; subst this; simp [numStr_zero]
    · simp [numStr_zero]
  · have hpos := numStr_length_pos base up v (by omega) h0
    simp only [h0, if_false, List.length_reverse, List.reverse_reverse]
    cases pr
    · have := hp0 rfl; subst this
      simp only [Bool.false_eq_true, if_false, Option.getD_none]
      have h1 : 0 - (numStr base up v).length = 0 := by omega
      have h2 : 1 - (numStr base up v).length = 0 := by omega
      rw [h1, h2]
    · simp

theorem digitBuf_block_length (base : Nat) (up pr : Bool) (prec v : Nat) (hb : 8 ≤ base) (hb16 : base ≤ 16) (hv : v < 2 ^ 64)
    (hp0 : pr = false → prec = 0) :
    (precDigits base up (if pr then some prec else none) v).length =
      (digitBuf base up pr v).length + (prec - (digitBuf base up pr v).length) := by
  rw [← digitBuf_block base up pr prec v hb hb16 hv hp0]; simp; omega

/-- a field of C11 7.21.6.1 §6: affix (sign or prefix), zeros to the width (`0` flag), digit block; padded with spaces -/
def fieldText (left zp : Bool) (width : Nat) (A D : Str) : Str :=
  let core := A ++ (if zp = true ∧ ¬ left = true then List.replicate (width - (A.length + D.length)) '0' else []) ++ D
  if left then core ++ List.replicate (width - core.length) ' ' else List.replicate (width - core.length) ' ' ++ core

theorem rep_congr {a b : Nat} (c : Char) (h : a = b) : List.replicate a c = List.replicate b c := by rw [h]

theorem outRevText_field (E P : Str) (k width : Nat) (fl : Flags) (hk : fl.left = false → fl.zeropad = true → k = 0) :
    outRevText (E ++ List.replicate (k + (if !fl.left && fl.zeropad then width - (E.length + P.length) else 0)) '0' ++ P) width fl =
      fieldText fl.left fl.zeropad width P.reverse (List.replicate k '0' ++ E.reverse) := by
  have hc : width - (E.length + (k + P.length)) = width - (P.length + (k + E.length)) := by omega
  unfold outRevText fieldText
  -- the four combinations of the `-` and `0` flags, in the order (no, no), (no, yes), (yes, no), (yes, yes); after the
  -- list identities have been applied the two sides differ only in how the width of a padding is written
  cases hl : fl.left <;> cases hz : fl.zeropad <;>
    simp only [List.reverse_append, List.reverse_replicate, List.length_append, List.length_replicate, List.length_reverse,
      Bool.not_false, Bool.not_true, Bool.and_false, Bool.and_true, Bool.false_eq_true, if_false, if_true,
      Nat.add_zero, and_false, and_true, List.append_nil, List.nil_append, not_false_eq_true, not_true_eq_false, and_self, List.append_assoc]
  · rw [rep_congr ' ' hc]
  · have hk0 := hk hl hz; subst hk0
    simp only [Nat.zero_add, List.replicate_zero, List.nil_append]
    rw [rep_congr ' ' (show width - (P.length + (width - (P.length + E.length) + E.length)) = 0 by omega)]
    rw [rep_congr '0' (show width - (E.length + P.length) = width - (P.length + E.length) by omega)]
    rfl
  · rw [rep_congr ' ' hc]
  · rw [rep_congr ' ' hc]

/-- what the standard puts in front of the digit block: sign, `0x`, or the `0` that `#` forces for `o` -/
def affixOf (d : Dir) (signed neg : Bool) (mag base : Nat) (upper : Bool) : Str :=
  (if signed then (if neg then ['-'] else if d.plus then ['+'] else if d.space then [' '] else []) else []) ++
  (if d.hash ∧ base = 16 ∧ mag ≠ 0 then ['0', if upper then 'X' else 'x'] else []) ++
  (if d.hash ∧ base = 8 ∧ (precDigits base upper d.prec mag).head? ≠ some '0' then ['0'] else [])

theorem zeros_comm (n : Nat) : List.replicate n '0' ++ ['0'] = '0' :: List.replicate n '0' := by
  rw [← List.replicate_succ', List.replicate_succ]

theorem renderInt_field (d : Dir) (signed neg : Bool) (mag base : Nat) (upper : Bool) :
    renderInt d signed neg mag base upper =
      fieldText d.minus (decide (d.zero = true ∧ d.prec = Option.none)) d.width (affixOf d signed neg mag base upper)
        (precDigits base upper d.prec mag) := by
  unfold renderInt affixOf fieldText padField precDigits numStr
  simp only []
  generalize (if signed = true then (if neg = true then ['-'] else if d.plus = true then ['+'] else if d.space = true then [' '] else []) else [] : Str) = S
  generalize List.replicate (d.prec.getD 1 - (List.map (digitSym upper) (digits base mag)).length) '0' ++ List.map (digitSym upper) (digits base mag) = D
  generalize (if d.hash = true ∧ base = 16 ∧ mag ≠ 0 then ['0', if upper = true then 'X' else 'x'] else [] : Str) = X
  have hzc : (decide (d.zero = true ∧ d.prec = Option.none) = true ∧ ¬d.minus = true) ↔ (d.zero = true ∧ ¬d.minus = true ∧ d.prec = Option.none) := by
    simp only [decide_eq_true_eq]; constructor <;> (intro h; simp [h])
  simp only [hzc]
  -- the `0` of `%#o` stands behind the fill in the standard's text and in front of it in the field: both are zeros
  have core : ∀ n : Nat, (S ++ X ++ List.replicate n '0') ++ '0' :: D = ((S ++ X ++ ['0']) ++ List.replicate n '0') ++ D := by
    intro n; simp only [List.append_assoc, List.cons_append, List.nil_append]
    rw [← List.singleton_append (l := D), ← List.append_assoc (List.replicate n '0'), zeros_comm]; rfl
  by_cases ho : d.hash = true ∧ base = 8 ∧ D.head? ≠ some '0' <;> by_cases hz : d.zero = true ∧ ¬d.minus = true ∧ d.prec = Option.none
  · simp only [if_pos ho, if_pos hz, core, List.length_append, List.length_cons, List.length_nil, Nat.add_assoc, Nat.add_comm 1]
  · simp only [if_pos ho, if_neg hz, List.append_nil, List.append_assoc, List.cons_append, List.nil_append]
  · simp only [if_neg ho, if_pos hz, List.append_nil, List.length_append, Nat.add_assoc]
  · simp only [if_neg ho, if_neg hz, List.append_nil]

theorem signChars_eq (neg : Bool) (fl : Flags) (signed : Bool) (hs : signed = false → neg = false ∧ fl.plus = false ∧ fl.space = false) :
    (if signed then (if neg then ['-'] else if fl.plus then ['+'] else if fl.space then [' '] else []) else ([] : Str)) = signChars neg fl := by
  unfold signChars
  cases signed
  · obtain ⟨h1, h2, h3⟩ := hs rfl; simp [h1, h2, h3]
  · simp

theorem signChars_shape (neg : Bool) (fl : Flags) :
    (signChars neg fl = [] ∧ (neg || fl.plus || fl.space) = false) ∨ (∃ c, signChars neg fl = [c] ∧ (neg || fl.plus || fl.space) = true) := by
  unfold signChars
  cases neg <;> cases fl.plus <;> cases fl.space <;> simp

/-- `safec_out_rev` is handed the decremented width, but where it pads `width1Of` is the width -/
theorem outRevText_width1 (buf : Str) (neg : Bool) (width : Nat) (fl : Flags) :
    outRevText buf (width1Of neg width fl) fl = outRevText buf width fl := by
  unfold outRevText width1Of
  cases fl.left <;> cases fl.zeropad <;> simp

/-- with the `0` flag the zeros fill what sign and digits leave of the original width -/
theorem width1Of_fill (n : Nat) (neg : Bool) (width : Nat) (fl : Flags) (hl : fl.left = false) (hz : fl.zeropad = true) :
    width1Of neg width fl - n = width - (n + (signChars neg fl).length) := by
  unfold width1Of
  rcases signChars_shape neg fl with ⟨h, hs⟩ | ⟨c, h, hs⟩ <;>
    simp only [h, hl, hz, hs, Bool.not_false, Bool.true_and, Bool.and_true, Bool.and_false, Bool.false_eq_true, if_false,
      List.length_nil, List.length_singleton, Nat.add_zero]
  split <;> rename_i h <;> simp at h <;> omega

/-! the flag words the parser builds: a precision clears the `0` flag, no precision means `prec = 0` -/

theorem noPrec_of_zeropad {fl : Flags} (hpz : fl.precision = true → fl.zeropad = false) (hz : fl.zeropad = true) :
    fl.precision = false := by
  cases h : fl.precision
  · rfl
  · rw [hpz h] at hz; cases hz

theorem precZeros_zero {fl : Flags} {prec : Nat} (hpz : fl.precision = true → fl.zeropad = false)
    (hp0 : fl.precision = false → prec = 0) (n : Nat) (_ : fl.left = false) (hz : fl.zeropad = true) : prec - n = 0 := by
  rw [hp0 (noPrec_of_zeropad hpz hz)]; omega

theorem dirOf_zeropad {fl : Flags} (hpz : fl.precision = true → fl.zeropad = false) (width prec : Nat) :
    decide ((dirOf fl width prec).zero = true ∧ (dirOf fl width prec).prec = Option.none) = fl.zeropad := by
  simp only [dirOf]
  rcases Bool.eq_false_or_eq_true fl.zeropad with hz | hz
  · simp [hz, noPrec_of_zeropad hpz hz]
  · simp [hz]

/-- **layout = `Spec.renderInt`, flags without `#`.**  For every 64-bit value, base 8/10/16, and flag word without `#`
    whose precision is at most 31 and whose zero-padded width is at most 31 (the 32-byte digit buffer), the repaired
    `safec_ntoa_long` hands the sink exactly the characters C11 7.21.6.1 prescribes. -/
theorem ntoaLong_renderInt_nohash (fx : Fixes) (hm : fx.minusPrec = true) (sk : Sink) (m : Nat) (v : Nat) (neg : Bool)
    (base prec width : Nat) (fl : Flags) (s : St) (signed : Bool)
    (hb : base = 8 ∨ base = 10 ∨ base = 16) (hv : v < 2 ^ 64) (hh : fl.hash = false)
    (hpz : fl.precision = true → fl.zeropad = false) (hp0 : fl.precision = false → prec = 0)
    (hs : signed = false → neg = false ∧ fl.plus = false ∧ fl.space = false)
    (hp : prec ≤ 31) (hw : fl.left = false → fl.zeropad = true → width ≤ 31) (hwmax : width ≤ 2147483614) :
    ntoaLong fx sk m v neg base prec width fl s =
      emitAll sk m (renderInt (dirOf fl width prec) signed neg v base fl.upper) s := by
  have hb8 : 8 ≤ base := by omega
  have hb16 : base ≤ 16 := by omega
  unfold ntoaLong
  have hfl : (if (v == 0 && !(fx.hash && base == 8 && fl.precision)) = true then { fl with hash := false } else fl) = fl := by
    split
    · cases fl; simp only at hh; subst hh; rfl
    · rfl
  simp only [hfl]
  change ntoaFormat fx sk m (digitBuf base fl.upper fl.precision v) neg base prec width fl s = _
  have hE := digitBuf_length_le base fl.upper fl.precision v hb8 hb16 hv
  have hblk := digitBuf_block base fl.upper fl.precision prec v hb8 hb16 hv hp0
  generalize digitBuf base fl.upper fl.precision v = E at hE hblk
  unfold ntoaFormat
  rw [ntoaPrep_nohash fx E neg base prec width fl hh (by omega) hp hw]
  have hw1 : width1Of neg width fl ≤ width := by unfold width1Of; split <;> omega
  have : ¬ (width1Of neg width fl > 2147483614) := by omega
  simp only [this, if_false, outRev_eq, outRevText_width1]
  congr 1
  have hk := precZeros_zero hpz hp0 E.length
  have hzeros : zPrec fx E prec fl + zWidth fx E neg prec width fl =
      (prec - E.length) + (if !fl.left && fl.zeropad then width - (E.length + (signChars neg fl).length) else 0) := by
    unfold zWidth zPrec; simp only [hm, Bool.or_true, if_true]
    cases hl : fl.left <;> cases hz : fl.zeropad <;> try rfl
    simp only [Bool.not_false, Bool.and_true, if_true, hk hl hz, Nat.add_zero]
    exact congrArg _ (width1Of_fill E.length neg width fl hl hz)
  have hA : affixOf (dirOf fl width prec) signed neg v base fl.upper = signChars neg fl := by
    unfold affixOf; simp only [dirOf, hh, Bool.false_eq_true, false_and, if_false, List.append_nil]
    exact signChars_eq neg fl signed hs
  rw [hzeros, outRevText_field E _ _ width fl hk, signChars_rev, renderInt_field, hA, dirOf_zeropad hpz]
  simp only [dirOf, ← hblk]

end SafeC.Printf
