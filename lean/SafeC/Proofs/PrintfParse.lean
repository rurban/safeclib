import SafeC.Proofs.PrintfStr
/-!
# C11: the directive parser of `safec_vsnprintf_s` reads a conversion specification as `Spec.parseDir` does
-/
namespace SafeC.Printf
open SafeC.Printf.Spec

/-! ### `Spec.parseDir` cut into its stages (text of `parseDir`) -/

def sWidth (d : Dir) (f : Str) (args : List Arg) : Option (Dir × Str × List Arg) :=
    match f with
    | '*' :: r => do
      let (w, as) ← starArg args
      pure (if w < 0 then { d with minus := true, width := (-w).toNat } else { d with width := w.toNat }, r, as)
    | _ => pure ({ d with width := decVal (f.takeWhile Char.isDigit) }, f.dropWhile Char.isDigit, args)

def sPrec (d : Dir) (f : Str) (args : List Arg) : Option (Dir × Str × List Arg) :=
    match f with
    | '.' :: '*' :: r => do
      let (p, as) ← starArg args
      pure (if p < 0 then d else { d with prec := some p.toNat }, r, as)
    | '.' :: r => pure ({ d with prec := some (decVal (r.takeWhile Char.isDigit)) }, r.dropWhile Char.isDigit, args)
    | _ => pure (d, f, args)

def sLen (d : Dir) (f : Str) : Dir × Str :=
    match f with
    | 'h' :: 'h' :: r => ({ d with len := .hh }, r)
    | 'h' :: r => ({ d with len := .h }, r)
    | 'l' :: 'l' :: r => ({ d with len := .ll }, r)
    | 'l' :: r => ({ d with len := .l }, r)
    | 'j' :: r => ({ d with len := .j }, r)
    | 'z' :: r => ({ d with len := .z }, r)
    | 't' :: r => ({ d with len := .t }, r)
    | _ => (d, f)

def stage3 (x : Dir × Str × List Arg) : Option (Dir × Str × List Arg) :=
  match x with
  | (d, f, args) =>
    match sLen d f with
    | (d, f) =>
      match f with
      | [] => none
      | c :: r => pure ({ d with conv := c }, r, args)

def stage2 (x : Dir × Str × List Arg) : Option (Dir × Str × List Arg) :=
  match x with
  | (d, f, args) => sPrec d f args >>= stage3

theorem parseDir_stages (f : Str) (args : List Arg) :
    parseDir f args = sWidth (setFlags {} (f.takeWhile isFlag)) (f.dropWhile isFlag) args >>= stage2 := by
  unfold parseDir
  extract_lets d0 f0 jp3 jp2
  have h3 : jp3 = stage3 := by
    funext x
    rfl
  have h2 : jp2 = stage2 := by
    funext x
    obtain ⟨d, f, args⟩ := x
    simp only [jp2, stage2, h3]
    split
    · rw [sPrec]
      cases starArg args <;> rfl
    · rw [sPrec]; assumption
    · rw [sPrec] <;> assumption
  rw [h2]
  -- `split` cannot generalise a discriminant that is a `let` variable
  show _ = sWidth d0 f0 args >>= stage2
  clear_value f0
  split
  · rw [sWidth]
    cases starArg args <;> rfl
  · rw [sWidth]; assumption

theorem cfl_of_none (d : Dir) (hl : d.len = .none) :
    cfl d = { zeropad := d.zero, left := d.minus, plus := d.plus, space := d.space, hash := d.hash, precision := d.prec.isSome } := by
  unfold cfl lenFlags; rw [hl]

theorem setFlags_len : ∀ (cs : Str) (d : Dir), (setFlags d cs).len = d.len ∧ (setFlags d cs).prec = d.prec := by
  intro cs
  induction cs with
  | nil => intro d; exact ⟨rfl, rfl⟩
  | cons c r ih =>
    intro d
    unfold setFlags
    rw [(ih _).1, (ih _).2]
    -- no branch of the flag switch touches these two fields
    simp only [apply_ite Dir.len, apply_ite Dir.prec, ite_self, and_self]

theorem cfl_set_zero (d : Dir) (hl : d.len = .none) : { cfl d with zeropad := true } = cfl { d with zero := true } := by
  rw [cfl_of_none d hl, cfl_of_none { d with zero := true } hl]
theorem cfl_set_minus (d : Dir) (hl : d.len = .none) : { cfl d with left := true } = cfl { d with minus := true } := by
  rw [cfl_of_none d hl, cfl_of_none { d with minus := true } hl]
theorem cfl_set_plus (d : Dir) (hl : d.len = .none) : { cfl d with plus := true } = cfl { d with plus := true } := by
  rw [cfl_of_none d hl, cfl_of_none { d with plus := true } hl]
theorem cfl_set_space (d : Dir) (hl : d.len = .none) : { cfl d with space := true } = cfl { d with space := true } := by
  rw [cfl_of_none d hl, cfl_of_none { d with space := true } hl]
theorem cfl_set_hash (d : Dir) (hl : d.len = .none) : { cfl d with hash := true } = cfl { d with hash := true } := by
  rw [cfl_of_none d hl, cfl_of_none { d with hash := true } hl]

theorem parseFlags_eq : ∀ (f : Str) (d : Dir), d.len = .none →
    parseFlags f (cfl d) = (cfl (setFlags d (f.takeWhile isFlag)), f.dropWhile isFlag) := by
  intro f
  induction f with
  | nil => intro d _; rfl
  | cons c r ih =>
    intro d hl
    unfold parseFlags
    by_cases h0 : c = '0'
    · subst h0
      rw [cfl_set_zero d hl]; exact ih _ hl
    · by_cases h1 : c = '-'
      · subst h1
        rw [cfl_set_minus d hl]; exact ih _ hl
      · by_cases h2 : c = '+'
        · subst h2
          rw [cfl_set_plus d hl]; exact ih _ hl
        · by_cases h3 : c = ' '
          · subst h3
            rw [cfl_set_space d hl]; exact ih _ hl
          · by_cases h4 : c = '#'
            · subst h4
              rw [cfl_set_hash d hl]; exact ih _ hl
            · have hf : isFlag c = false := by simp [isFlag, h0, h1, h2, h3, h4]
              simp only [h0, h1, h2, h3, h4, if_false, List.takeWhile_cons, List.dropWhile_cons, hf, Bool.false_eq_true, setFlags]

/-- `decVal` continued from an accumulator -/
def decFrom (i : Nat) (s : Str) : Nat := s.foldl (fun a c => a * 10 + (c.toNat - 48)) i

theorem decFrom_ge : ∀ (s : Str) (i : Nat), i ≤ decFrom i s := by
  intro s
  induction s with
  | nil => intro i; exact Nat.le_refl _
  | cons c r ih =>
    intro i
    simp only [decFrom, List.foldl_cons]
    have := ih (i * 10 + (c.toNat - 48))
    simp only [decFrom] at this
    omega

/-- `safec_atoi` reads the numeral exactly as long as it stays below 2^32 (finding printf-width-numeral-wraps otherwise) -/
theorem atoi_eq : ∀ (f : Str) (i : Nat), decFrom i (f.takeWhile Char.isDigit) < 2 ^ 32 →
    atoi f i = (decFrom i (f.takeWhile Char.isDigit), f.dropWhile Char.isDigit) := by
  intro f
  induction f with
  | nil => intro i _; rfl
  | cons c r ih =>
    intro i h
    unfold atoi
    by_cases hc : c.isDigit = true
    · simp only [hc, if_true, List.takeWhile_cons, List.dropWhile_cons] at h ⊢
      simp only [decFrom, List.foldl_cons] at h ⊢
      have hge := decFrom_ge (r.takeWhile Char.isDigit) (i * 10 + (c.toNat - 48))
      simp only [decFrom] at hge
      have hmod : (i * 10 + (c.toNat - 48)) % 2 ^ 32 = i * 10 + (c.toNat - 48) := Nat.mod_eq_of_lt (by omega)
      rw [hmod]
      exact ih _ h
    · simp only [hc, Bool.false_eq_true, if_false, List.takeWhile_cons, List.dropWhile_cons, decFrom, List.foldl_nil]

theorem decVal_eq (s : Str) : decVal s = decFrom 0 s := rfl

theorem starArg_some (args : List Arg) (w : Int) (as : List Arg) (h : starArg args = some (w, as)) :
    ∃ v, args = .int v :: as ∧ w = wrapS 32 v := by
  unfold starArg at h
  split at h
  · simp at h; exact ⟨_, by rw [h.2], h.1.symm⟩
  · cases h

theorem parseWidth_eq (d : Dir) (hl : d.len = .none) (f : Str) (args : List Arg) (d1 : Dir) (f1 : Str) (a1 : List Arg)
    (h : sWidth d f args = some (d1, f1, a1)) (hw : d1.width < 2 ^ 32) :
    parseWidth f (cfl d) args = .ok (cfl d1, d1.width, f1, a1) := by
  unfold sWidth at h
  split at h
  · -- '*'
    cases hs : starArg args with
    | none => simp [hs] at h
    | some p =>
      obtain ⟨w, as⟩ := p
      obtain ⟨v, rfl, rfl⟩ := starArg_some _ _ _ hs
      simp only [hs, Option.bind_eq_bind, Option.bind_some, Option.pure_def, Option.some.injEq, Prod.mk.injEq] at h
      obtain ⟨h1, rfl, rfl⟩ := h
      subst h1
      unfold parseWidth
      simp only [show ('*' : Char).isDigit = false from by decide, Bool.false_eq_true, if_false, if_true, nextInt, bind, Except.bind]
      by_cases hneg : wrapS 32 v < 0
      · simp only [hneg, if_true]
        rw [cfl_set_minus d hl, wrapU32_neg v hneg]; rfl
      · simp only [hneg, if_false]
        rfl
  · rename_i hns
    simp only [Option.pure_def, Option.some.injEq, Prod.mk.injEq] at h
    obtain ⟨h1, rfl, rfl⟩ := h
    subst h1
    unfold parseWidth
    cases f with
    | nil => rfl
    | cons c r =>
      by_cases hc : c.isDigit = true
      · simp only [hc, if_true]
        rw [atoi_eq (c :: r) 0 hw]; rfl
      · have hstar : c ≠ '*' := fun hh => hns r (by rw [hh])
        simp only [hc, Bool.false_eq_true, if_false, hstar, List.takeWhile_cons, List.dropWhile_cons, decVal, List.foldl_nil]
        rfl

theorem cfl_set_prec (d : Dir) (hl : d.len = .none) (n : Nat) : { cfl d with precision := true } = cfl { d with prec := some n } := by
  rw [cfl_of_none d hl, cfl_of_none { d with prec := some n } hl]; rfl

theorem cfl_prec_false (d : Dir) (hl : d.len = .none) (hp : d.prec = Option.none) : { cfl d with precision := false } = cfl d := by
  rw [cfl_of_none d hl, hp]; rfl

theorem parsePrec_eq (fx : Fixes) (hn : fx.negStarPrec = true) (d : Dir) (hl : d.len = .none) (hp : d.prec = Option.none)
    (f : Str) (args : List Arg) (d2 : Dir) (f2 : Str) (a2 : List Arg)
    (h : sPrec d f args = some (d2, f2, a2)) (hpb : d2.prec.getD 0 < 2 ^ 32) :
    parsePrec fx f (cfl d) args = .ok (cfl d2, d2.prec.getD 0, f2, a2) ∧ d2.len = d.len ∧ d2.width = d.width := by
  unfold sPrec at h
  split at h
  · cases hs : starArg args with
    | none => simp [hs] at h
    | some p =>
      obtain ⟨w, as⟩ := p
      obtain ⟨v, rfl, rfl⟩ := starArg_some _ _ _ hs
      simp only [hs, Option.bind_eq_bind, Option.bind_some, Option.pure_def, Option.some.injEq, Prod.mk.injEq] at h
      obtain ⟨h1, rfl, rfl⟩ := h
      subst h1
      unfold parsePrec
      simp only [show ('*' : Char).isDigit = false from by decide, Bool.false_eq_true, if_false, if_true, nextInt, bind, Except.bind, hn, Bool.true_and]
      by_cases hneg : wrapS 32 v < 0
      · simp only [hneg, if_true, decide_true]
        refine ⟨?_, by simp⟩
        rw [hp]; simp only [Option.getD_none]
        have := cfl_prec_false d hl hp
        rw [← this]
      · simp only [hneg, if_false, decide_false, Bool.false_eq_true]
        refine ⟨?_, by simp⟩
        rw [cfl_set_prec d hl (wrapS 32 v).toNat]
        simp only [Option.getD_some]
        have : (if wrapS 32 v > 0 then (wrapS 32 v).toNat else 0) = (wrapS 32 v).toNat := by split <;> omega
        rw [this]
  · rename_i r hns
    simp only [Option.pure_def, Option.some.injEq, Prod.mk.injEq] at h
    obtain ⟨h1, rfl, rfl⟩ := h
    subst h1
    refine ⟨?_, rfl, rfl⟩
    simp only [Option.getD_some] at hpb ⊢
    unfold parsePrec
    simp only [if_true]
    rw [cfl_set_prec d hl (decVal (List.takeWhile Char.isDigit r))]
    cases r with
    | nil => rfl
    | cons c r' =>
      by_cases hc : c.isDigit = true
      · simp only [hc, if_true]
        rw [decVal_eq] at hpb ⊢
        rw [atoi_eq (c :: r') 0 hpb]
      · have hstar : c ≠ '*' := fun hh => hns r' (by rw [hh])
        simp only [hc, Bool.false_eq_true, if_false, hstar, List.takeWhile_cons, List.dropWhile_cons, decVal, List.foldl_nil]
  · rename_i h1 h2
    obtain ⟨rfl, rfl, rfl⟩ := h
    refine ⟨?_, rfl, rfl⟩
    rw [hp]; simp only [Option.getD_none]
    unfold parsePrec
    cases f with
    | nil => rfl
    | cons c r =>
      have hdot : c ≠ '.' := fun hh => h2 r (by rw [hh])
      simp only [hdot, if_false]

theorem parseLength_eq (d : Dir) (hl : d.len = .none) (f : Str) (hL : f.head? ≠ some 'L') :
    parseLength f (cfl d) = (cfl (sLen d f).1, (sLen d f).2) := by
  rw [cfl_of_none d hl]
  unfold sLen
  split
  · simp (config := {decide := true}) only [parseLength, if_true, if_false]; rfl
  · unfold parseLength
    simp (config := {decide := true}) only [if_false, if_true]
    rfl
  · simp (config := {decide := true}) only [parseLength, if_true, if_false]; rfl
  · unfold parseLength
    simp (config := {decide := true}) only [if_true]
    rfl
  · simp (config := {decide := true}) only [parseLength, if_true, if_false]; rfl
  · simp (config := {decide := true}) only [parseLength, if_true, if_false]; rfl
  · simp (config := {decide := true}) only [parseLength, if_true, if_false]; rfl
  · rename_i h1 h2 h3 h4 h5 h6 h7
    cases f with
    | nil => show parseLength [] _ = (cfl d, []); rw [cfl_of_none d hl]; rfl
    | cons c r =>
      show parseLength (c :: r) _ = (cfl d, c :: r)
      rw [cfl_of_none d hl]
      have hl' : c ≠ 'l' := fun hh => h4 r (by rw [hh])
      have hh' : c ≠ 'h' := fun hh => h2 r (by rw [hh])
      have hj : c ≠ 'j' := fun hh => h5 r (by rw [hh])
      have hz : c ≠ 'z' := fun hh => h6 r (by rw [hh])
      have ht : c ≠ 't' := fun hh => h7 r (by rw [hh])
      have hLL : c ≠ 'L' := fun hh => hL (by rw [hh]; rfl)
      simp only [parseLength, hl', hh', hj, hz, ht, hLL, if_false, or_self]

end SafeC.Printf
