import SafeC.Proofs.AccS
/-!
# `strljustify_s`: where it loads and stores, and what it leaves in dest — one walk

The scans shared by `strljustify_s` and `strremovews_s`, and `strljustify_s` itself.  The walk of the body (`justifyBody_accs`) has the readable and
writable sets arbitrary and the post `JQ` (a NUL stays in dest; ESUNTERM clears dest): the footprint theorem `strljustify_s_accs` forgets the post, C03
(`strljustify_s_nul`, `Proofs/ExtInplace.lean`) reads it through `AccS.exec_all`.  `while (*dest) { if (dmax == 0) … }` finds the terminator `e` reading at most `dest[dmax]`; the whitespace skip and the
shift loop then stay between `dest` and `e` because `*e == 0` stops both, and every store lands strictly below `e`.
-/
namespace SafeC
open Gen

variable {R W : Nat → Prop} {d : Nat → Nat}

theorem AccS_zeroLoop_zeros (n p : Nat) (hw : ∀ a, Cells p n a → W a) :
    AccS R W d (zeroLoop n p) (fun _ d' => ∀ a, Cells p n a ∨ d a = 0 → d' a = 0) := by
  induction n generalizing p d with
  | zero => exact AccS.pure _ (fun a h => h.elim (fun ⟨c1, c2⟩ => by omega) id)
  | succ n ih =>
    refine AccS.storeBind (hw p ⟨Nat.le_refl _, by omega⟩) ?_
    refine (ih (p+1) (fun a h => hw a h.within)).conseq (fun _ d' hq a ha => hq a ?_)
    by_cases e : a = p
    · right; rw [e]; exact updF_same
    · exact ha.imp (fun ⟨c1, c2⟩ => ⟨by omega, by omega⟩) (updF_ne e).trans

/-- the termination scan: `some e` = the terminator, nothing written, no NUL in front of it; `none` = none within `dmax` cells, the original
dest cleared -/
theorem AccS_termScan (oD oM dmax dest : Nat) (hr : ∀ a, Str d dest (dmax+1) a → R a) (hwo : ∀ a, Cells oD oM a → W a) :
    AccS R W d (termScan oD oM dmax dest) (fun r d' => match r with
      | none => ∀ a, Cells oD oM a → d' a = 0
      | some e => d' = d ∧ dest ≤ e ∧ e ≤ dest + dmax ∧ d e = 0 ∧ ∀ j, dest ≤ j → j < e → ¬ d j = 0) := by
  induction dmax generalizing dest with
  | zero =>
    have h0 : R dest := Str.first hr
    refine AccS.loadBind h0 ?_
    refine AccS.ite (fun hz => ?_) (fun _ => ?_)
    · exact AccS.pure _ ⟨rfl, Nat.le_refl _, by omega, hz, fun j h1 h2 => by omega⟩
    · exact AccS.bind (AccS_zeroLoop_zeros oM oD hwo) (fun _ _ hq => AccS.handlerSBind _ (AccS.pure _ fun a ha => hq a (.inl ha)))
  | succ n ih =>
    have h0 : R dest := Str.first hr
    refine AccS.loadBind h0 ?_
    refine AccS.ite (fun hz => ?_) (fun hne => ?_)
    · exact AccS.pure _ ⟨rfl, Nat.le_refl _, by omega, hz, fun j h1 h2 => by omega⟩
    · refine (ih (dest+1) (Str.rest hne hr)).conseq (fun r d' hq => ?_)
      cases r with
      | none => exact hq
      | some e =>
        obtain ⟨g1, g2, g3, g4, g5⟩ := hq
        refine ⟨g1, by omega, by omega, g4, fun j h1 h2 => ?_⟩
        by_cases ej : j = dest
        · subst ej; exact hne
        · exact g5 j (by omega) h2

def IsWs (c : Nat) : Prop := c = 0x20 ∨ c = 0x09

theorem AccD_skipWs_stop (e fuel p : Nat) (hpe : p ≤ e) (hf : e < p + fuel) (he : d e = 0)
    (hr : ∀ a, p ≤ a → a ≤ e → R a) : AccD d R (skipWs fuel p) (fun r => p ≤ r ∧ r ≤ e ∧ ¬ IsWs (d r)) := by
  induction fuel generalizing p with
  | zero => omega
  | succ n ih =>
    have h0 : R p := hr p (Nat.le_refl _) hpe
    have next : d p ≠ 0 → AccD d R (skipWs n (p+1)) (fun r => p ≤ r ∧ r ≤ e ∧ ¬ IsWs (d r)) := fun hne => by
      have hpe' : p ≠ e := fun h => by rw [h] at hne; exact hne he
      exact (ih (p+1) (by omega) (by omega) (fun a h1 h2 => hr a (by omega) h2)).conseq
        (fun r ⟨g1, g2, g3⟩ => ⟨by omega, g2, g3⟩)
    refine AccD.loadBind h0 ?_
    refine AccD.ite (fun hc => ?_) (fun hc1 => ?_)
    · exact next (by omega)
    · refine AccD.loadBind h0 ?_
      refine AccD.ite (fun hc => ?_) (fun hc2 => ?_)
      · exact next (by omega)
      · exact AccD.pure _ ⟨Nat.le_refl _, hpe, fun h => h.elim hc1 hc2⟩

/-- `shiftLoop` below a terminator at `e`: loads in `[p, e]`, stores in `[od, e)`; the source pointer ends in `[p, e]`, cells
below `od` keep their contents, and the first character moved stays at `od` -/
theorem AccS_shiftLoop_first (e fuel od p : Nat) (hod : od < p) (hpe : p ≤ e) (hf : e < p + fuel) (he : d e = 0)
    (hr : ∀ a, p ≤ a → a ≤ e → R a) (hw : ∀ a, od ≤ a → a < e → W a) :
    AccS R W d (shiftLoop fuel od p) (fun r d' => od ≤ r.1 ∧ r.1 < e ∧ p ≤ r.2 ∧ r.2 ≤ e ∧
      (∀ a, a < od → d' a = d a) ∧ (d p ≠ 0 → d' od = d p)) := by
  induction fuel generalizing od p d with
  | zero => omega
  | succ n ih =>
    have h0 : R p := hr p (Nat.le_refl _) hpe
    refine AccS.loadBind h0 ?_
    refine AccS.ite (fun hz => ?_) (fun hne => ?_)
    · exact AccS.pure _ ⟨Nat.le_refl _, by omega, Nat.le_refl _, hpe, fun _ _ => rfl, fun h => absurd hz h⟩
    · have hpe' : p ≠ e := fun h => by rw [h] at hne; exact hne he
      refine AccS.loadBind h0 ?_
      refine AccS.storeBind (hw od (Nat.le_refl _) (by omega)) ?_
      refine AccS.storeBind (hw p (by omega) (by omega)) ?_
      refine (ih (od+1) (p+1) (by omega) (by omega) (by omega)
        (by rw [updF_ne (by omega), updF_ne (by omega), he])
        (fun a h1 h2 => hr a (by omega) h2) (fun a h1 h2 => hw a (by omega) h2)).conseq
          (fun r d' ⟨g1, g2, g3, g4, g5, _⟩ => ⟨by omega, g2, by omega, g4, fun a ha => ?_, fun _ => ?_⟩)
      · rw [g5 a (by omega), updF_ne (by omega), updF_ne (by omega)]
      · rw [g5 od (by omega), updF_ne (by omega), updF_same]

/-- what `strljustify_s` / `strremovews_s` leave behind once the entry checks have passed -/
def JQ (d : Nat → Nat) (dest dmax r : Nat) (d' : Nat → Nat) : Prop :=
  (r = EOK ∨ r = ESUNTERM) ∧ (r = ESUNTERM → ∀ i, i < dmax → d' (dest + i) = 0) ∧
  (((∃ i, i < dmax ∧ d (dest + i) = 0) ∨ d (dest + dmax) ≠ 0) → ∃ i, i < dmax ∧ d' (dest + i) = 0)

theorem JQ.nul0 {dest dmax : Nat} {d' : Nat → Nat} (hpos : 0 < dmax) (h : d' dest = 0) : JQ d dest dmax EOK d' :=
  ⟨.inl rfl, fun h => absurd h (by decide), fun _ => ⟨0, hpos, h⟩⟩

theorem JQ.nulE {dest dmax e : Nat} {d' : Nat → Nat} (g2 : dest ≤ e) (g3 : e ≤ dest + dmax) (g4 : d e = 0)
    (g5 : ∀ j, dest ≤ j → j < e → ¬ d j = 0) (h : d' e = 0) : JQ d dest dmax EOK d' := by
  refine ⟨.inl rfl, fun h => absurd h (by decide), fun H => ⟨e - dest, ?_, by rw [Nat.add_sub_cancel' g2]; exact h⟩⟩
  rcases H with ⟨i, hi, h0⟩ | h
  · exact Nat.lt_of_not_le fun hge => g5 (dest + i) (by omega) (by omega) h0
  · have : e ≠ dest + dmax := fun e' => h (e' ▸ g4)
    omega

/-- the part of `strljustify_s` behind the entry checks -/
def justifyBody (dest dmax : Nat) : Prog Nat :=
    if dmax ≤ 1 then do store dest 0; pure EOK
    else do
      let c ← load dest
      if c = 0 then pure EOK
      else do
        match ← termScan dest dmax dmax dest with
        | none => pure ESUNTERM
        | some e => do
          let d ← skipWs (e - dest + 1) dest
          if dest ≠ d then do
            let (od, _) ← shiftLoop (e - d + 1) dest d
            store od 0
            pure EOK
          else pure EOK

/-- the body: footprint and outcome in one walk.  The shift loop stores non-zero characters; the NUL at `e` survives because of WHERE it stores
(`AccS_shiftLoop_first` with `W := [dest, e)`, read as a frame fact). -/
theorem justifyBody_accs (dest dmax : Nat) (hpos : 0 < dmax)
    (hr : ∀ a, Str d dest (dmax+1) a → R a) (hw : ∀ a, Cells dest dmax a → W a) :
    AccS R W d (justifyBody dest dmax) (JQ d dest dmax) := by
  have w0 : W dest := hw _ ⟨Nat.le_refl _, by omega⟩
  have h0 : R dest := Str.first hr
  refine AccS.ite (fun _ => AccS.storeBind w0 (AccS.pure _ (JQ.nul0 hpos updF_same))) fun _ => ?_
  refine AccS.loadBind h0 ?_
  refine AccS.ite (fun hc => AccS.pure _ (JQ.nul0 hpos hc)) fun _ => ?_
  refine AccS.bind (AccS_termScan dest dmax dmax dest hr hw) (fun r d' hq => ?_)
  cases r with
  | none =>
    have hz : ∀ i, i < dmax → d' (dest + i) = 0 := fun i hi => hq _ ⟨by omega, by omega⟩
    exact AccS.pure _ ⟨.inr rfl, fun _ => hz, fun _ => ⟨0, hpos, hz 0 hpos⟩⟩
  | some e =>
    obtain ⟨rfl, g2, g3, g4, g5⟩ := hq
    have hre : ∀ a, dest ≤ a → a ≤ e → R a := fun a h1 h2 =>
      hr a ⟨h1, by omega, fun j hj1 hj2 => g5 j hj1 (by omega)⟩
    refine AccS.bind (AccS.of_AccD (AccD_skipWs_stop e (e - dest + 1) dest g2 (by omega) g4 hre)) (fun p d' hq => ?_)
    obtain ⟨rfl, q1, q2, _⟩ := hq
    refine AccS.ite (fun _ => ?_) (fun _ => AccS.pure _ (JQ.nulE g2 g3 g4 g5 g4))
    refine AccS.bind ((AccS_shiftLoop_first (W := fun a => dest ≤ a ∧ a < e) e (e - p + 1) dest p (by omega) q2 (by omega) g4
      (fun a h1 h2 => hre a (by omega) h2) (fun a h1 h2 => ⟨h1, h2⟩)).frame.mono (fun _ h => h)
        (fun a ⟨h1, h2⟩ => hw a ⟨h1, by omega⟩)) (fun r d' hq => ?_)
    obtain ⟨r1, r2⟩ := r
    obtain ⟨⟨s1, s2, _⟩, hfr⟩ := hq
    refine AccS.storeBind (hw r1 ⟨s1, by omega⟩) (AccS.pure _ (JQ.nulE g2 g3 g4 g5 (updF_of_eq ?_)))
    rw [hfr e (fun h => Nat.lt_irrefl _ h.2), g4]

theorem strljustify_s_accs (cfg : Cfg) (dest dmax : Nat) (b : Bos)
    (hr : dest ≠ 0 → ∀ a, Str d dest (dmax+1) a → R a) (hw : dest ≠ 0 → ∀ a, Cells dest dmax a → W a) :
    AccS R W d (strljustify_s cfg dest dmax b) (fun _ _ => True) := by
  exact AccS_destChecks fun hd hm => AccS_chkDmax _ _ _ ((justifyBody_accs dest dmax (by omega) (hr hd) (hw hd)).conseq fun _ _ _ => trivial)

end SafeC
