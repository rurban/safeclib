import SafeC.Proofs.AccS
import SafeC.Models.Tok
import SafeC.Proofs.AccQuery
/-!
# Footprint of the tokenizers `strtok_s` / `wcstok_s` (value-aware, with the terminator they store)

Both scans are `while (*dest != '\0' …) { if (dlen == 0) <error>; … }`: `*dest` is evaluated before the
counter, so `dest[dmax]` is read when no terminator precedes it — and the ESUNTERM exit then STORES `'\0'` there.
Reads and writes of dest therefore lie in `Str d dest (dmax+1)`; the delimiter string is read up to its terminator
within `STRTOK_DELIM_MAX_LEN + 1` cells.
-/
namespace SafeC
open Gen

variable {R W : Nat → Prop} {d : Nat → Nat}

theorem AccD_delimScan1 (dest slen pt : Nat) (tok : Bool) (hd0 : R dest) (hp : ∀ a, Str d pt (slen+1) a → R a) :
    AccD d R (delimScan1 dest slen pt tok) (fun _ => True) := by
  induction slen generalizing pt tok with
  | zero =>
    unfold delimScan1
    accd_walk
  | succ n ih =>
    unfold delimScan1
    accd_walk using ih _ _ (Str.rest (by omega) hp)

theorem AccD_delimScan2 (dest slen pt : Nat) (hd0 : R dest) (hp : ∀ a, Str d pt (slen+1) a → R a) :
    AccD d R (delimScan2 dest slen pt) (fun _ => True) := by
  induction slen generalizing pt with
  | zero =>
    unfold delimScan2
    accd_walk
  | succ n ih =>
    unfold delimScan2
    accd_walk using ih _ (Str.rest (by omega) hp)

theorem AccS_tokUnterm (dest : Nat) (h : W dest) : AccS R W d (tokUnterm dest) (fun _ _ => True) := by
  exact AccS.storeBind h (AccS.handlerSBind _ (AccS.pure _ trivial))

/-- what the first scan hands to the second: the rest of the buffer, still inside the footprint, contents untouched -/
def Scan1Post (R W : Nat → Prop) (d : Nat → Nat) : Scan1 → (Nat → Nat) → Prop
  | .out _, _ => True
  | .exit _ p l, d' => d' = d ∧ (∀ a, Str d p (l+1) a → R a) ∧ (∀ a, Str d p (l+1) a → W a)

theorem AccS_scan1 (wide : Bool) (delim dlen dest : Nat)
    (hr : ∀ a, Str d dest (dlen+1) a → R a) (hw : ∀ a, Str d dest (dlen+1) a → W a)
    (hdl : ∀ a, Str d delim (STRTOK_DELIM_MAX_LEN+1) a → R a) :
    AccS R W d (scan1 wide delim dlen dest) (Scan1Post R W d) := by
  induction dlen generalizing dest with
  | zero =>
    have h0 : R dest := Str.first hr
    have w0 : W dest := Str.first hw
    refine AccS.loadBind h0 ?_
    refine AccS.ite (fun _ => AccS.pure _ ⟨rfl, hr, hw⟩) fun _ => ?_
    exact AccS.ite (fun _ => AccS.bind (AccS_tokUnterm dest w0) (fun _ _ _ => AccS.pure _ trivial)) fun _ =>
      AccS.handlerSBind _ (AccS.pure _ trivial)
  | succ n ih =>
    have h0 : R dest := Str.first hr
    have w0 : W dest := Str.first hw
    refine AccS.loadBind h0 ?_
    refine AccS.ite (fun _ => AccS.pure _ ⟨rfl, hr, hw⟩) fun hne => ?_
    refine AccS.bind (AccS.of_AccD (AccD_delimScan1 dest _ delim false h0 hdl)) (fun r d' hq => ?_)
    obtain ⟨rfl, _⟩ := hq
    cases r with
    | tooLong => exact AccS.bind (AccS_tokUnterm dest w0) (fun _ _ _ => AccS.pure _ trivial)
    | done tok =>
      cases tok with
      | true =>
        have h1 : R (dest+1) := hr _ (Str.succ hne (Str.head (by omega)))
        exact AccS.loadBind h1 (AccS.pure _ ⟨rfl, fun a h => hr a (Str.succ hne h), fun a h => hw a (Str.succ hne h)⟩)
      | false => exact ih (dest+1) (Str.rest hne hr) (Str.rest hne hw)

theorem AccS_scan2 (delim ptoken dlen dest : Nat)
    (hr : ∀ a, Str d dest (dlen+1) a → R a) (hw : ∀ a, Str d dest (dlen+1) a → W a)
    (hdl : ∀ a, Str d delim (STRTOK_DELIM_MAX_LEN+1) a → R a) :
    AccS R W d (scan2 delim ptoken dlen dest) (fun _ _ => True) := by
  induction dlen generalizing dest with
  | zero =>
    have h0 : R dest := Str.first hr
    have w0 : W dest := Str.first hw
    refine AccS.loadBind h0 ?_
    exact AccS.ite (fun _ => AccS.pure _ trivial) fun _ => AccS_tokUnterm dest w0
  | succ n ih =>
    have h0 : R dest := Str.first hr
    have w0 : W dest := Str.first hw
    refine AccS.loadBind h0 ?_
    refine AccS.ite (fun _ => AccS.pure _ trivial) fun hne => ?_
    refine AccS.bind (AccS.of_AccD (AccD_delimScan2 dest _ delim h0 hdl)) (fun r d' hq => ?_)
    obtain ⟨rfl, _⟩ := hq
    cases r with
    | tooLong => exact AccS_tokUnterm dest w0
    | hit => exact AccS.storeBind w0 (AccS.pure _ trivial)
    | miss => exact ih (dest+1) (Str.rest hne hr) (Str.rest hne hw)

theorem AccS_tokBody (wide : Bool) (delim dest dlen : Nat)
    (hr : ∀ a, Str d dest (dlen+1) a → R a) (hw : ∀ a, Str d dest (dlen+1) a → W a)
    (hdl : ∀ a, Str d delim (STRTOK_DELIM_MAX_LEN+1) a → R a) :
    AccS R W d (tokBody wide delim dest dlen) (fun _ _ => True) := by
  refine AccS.bind (AccS_scan1 wide delim dlen dest hr hw hdl) (fun r d' hq => ?_)
  cases r with
  | out o => exact AccS.pure _ trivial
  | exit ptoken p l =>
    obtain ⟨rfl, g1, g2⟩ := hq
    exact AccS.ite (fun _ => AccS.pure _ trivial) fun _ => AccS_scan2 delim ptoken l p g1 g2 hdl

theorem AccS_tokFail (c : Nat) : AccS R W d (tokFail c) (fun _ _ => True) := by
  unfold tokFail; exact AccS.handlerSBind _ (AccS.pure _ trivial)

/-- the buffer a call scans: `dest`, or the saved `*ptr` when `dest` is NULL -/
def tokBuf (dest pv : Nat) : Nat := if dest = 0 then pv else dest

theorem strtok_s_accs (dest : Nat) (dmaxp : Option Nat) (delim : Nat) (ptr : Option Nat) (b : Bos)
    (hr : ∀ dmax pv, dmaxp = some dmax → ptr = some pv → tokBuf dest pv ≠ 0 → ∀ a, Str d (tokBuf dest pv) (dmax+1) a → R a)
    (hw : ∀ dmax pv, dmaxp = some dmax → ptr = some pv → tokBuf dest pv ≠ 0 → ∀ a, Str d (tokBuf dest pv) (dmax+1) a → W a)
    (hdl : delim ≠ 0 → ∀ a, Str d delim (STRTOK_DELIM_MAX_LEN+1) a → R a) :
    AccS R W d (strtok_s dest dmaxp delim ptr b) (fun _ _ => True) := by
  cases dmaxp with
  | none => exact AccS_tokFail _
  | some dmax =>
    refine AccS.ite (fun _ => AccS_tokFail _) fun _ => AccS.ite (fun _ => AccS_tokFail _) fun hdn => ?_
    cases ptr with
    | none => exact AccS_tokFail _
    | some pv =>
      refine AccS.ite (fun _ => AccS_tokFail _) fun hp => ?_
      have body := AccS_tokBody false delim (tokBuf dest pv) dmax (hr dmax pv rfl rfl hp) (hw dmax pv rfl rfl hp) (hdl hdn)
      exact AccS.bos (fun _ => AccS.ite (fun _ => AccS_tokFail _) fun _ => body)
        (fun _ _ => AccS.ite (fun _ => AccS_tokFail _) fun _ => body)

theorem wcstok_s_accs (dest : Nat) (dmaxp : Option Nat) (delim : Nat) (ptr : Option Nat) (b : Bos)
    (hr : ∀ dmax pv, dmaxp = some dmax → ptr = some pv → tokBuf dest pv ≠ 0 → ∀ a, Str d (tokBuf dest pv) (dmax+1) a → R a)
    (hw : ∀ dmax pv, dmaxp = some dmax → ptr = some pv → tokBuf dest pv ≠ 0 → ∀ a, Str d (tokBuf dest pv) (dmax+1) a → W a)
    (hdl : delim ≠ 0 → ∀ a, Str d delim (STRTOK_DELIM_MAX_LEN+1) a → R a) :
    AccS R W d (wcstok_s dest dmaxp delim ptr b) (fun _ _ => True) := by
  cases dmaxp with
  | none => exact AccS_tokFail _
  | some dmax =>
    refine AccS.ite (fun _ => AccS_tokFail _) fun _ => AccS.ite (fun _ => AccS_tokFail _) fun _ =>
      AccS.ite (fun _ => AccS_tokFail _) fun hdn => ?_
    cases ptr with
    | none => exact AccS_tokFail _
    | some pv =>
      refine AccS.ite (fun _ => AccS_tokFail _) fun hp => ?_
      have body := AccS_tokBody true delim (tokBuf dest pv) dmax (hr dmax pv rfl rfl hp) (hw dmax pv rfl rfl hp) (hdl hdn)
      exact AccS.bos (fun _ => body) (fun _ _ => AccS.ite (fun _ => AccS_tokFail _) fun _ => body)

end SafeC
