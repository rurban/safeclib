import SafeC.Proofs.NormComposeSpec
import SafeC.Proofs.NormCompositeStarter
import SafeC.Proofs.NormSpec
import SafeC.Proofs.NormPairMap
/-! C17 — `wcsnorm_s` in NFC mode = the Canonical Composition Algorithm (D117) applied to the NFD, for all inputs -/
namespace SafeC.Norm
open SafeC.Gen

attribute [local irreducible] cell UniCanon.main UniCanon.planes UniCanon.rows UniCombin.main UniCombin.planes UniCombin.rows
  UniCanon.tbl1 UniCanon.tbl2 UniCanon.tbl3 UniCanon.tbl4 UniCompos.main UniCompos.planes UniCompos.rows UniCompos.pairs

theorem pcOf_class0 {fx : Fixes} {a b c : Nat} (h : pcOf fx a b = some c) : kcc c = 0 ∧ UCD.ccc c = 0 := by
  unfold pcOf at h
  dsimp only at h
  split at h
  · rename_i hc
    have e : compositeCp fx a b = c := by injection h
    rw [← e]
    exact compositeCp_class0 fx a b hc.1
  · cases h

/-- NFC as the model computes it, sizes aside: D117 over the tree's classes and pair map, on the model's NFD -/
def nfcPure (fx : Fixes) (xs : List Nat) : List Nat := d117 kcc (pcOf fx) (nfdPure xs)

theorem nfcPure_eq_composePure (fx : Fixes) (xs : List Nat) : nfcPure fx xs = composePure kcc (pcOf fx) (nfdPure xs) := by
  unfold nfcPure
  exact (composePure_eq_d117 (fun a b c h _ => (pcOf_class0 h).1)
    (by unfold nfdPure; exact reorderPure_canonOrdered _ _)).symm

theorem wcsnormS_nfc_call (fx : Fixes) (dmax : Nat) (src : List Nat) (h0 : ∀ c ∈ src, c ≠ 0) :
    NormCall src dmax (nfcPure fx src) (wcsnormS fx 1 dmax src) := by
  rcases decomposeS_call dmax src h0 (nfcPure fx src) with ⟨hret, h⟩ | ⟨hdec, h1, h2, h3⟩
  · rw [wcsnormS_of_failed fx 1 dmax src hret]; exact h
  · rw [wcsnormS_of_decomposed fx 1 dmax src h0 rfl h3 hdec, if_neg (by decide)]
    split
    · next h => exact .big _ (.inr (.inr h))
    · rw [if_neg (by decide), show ((1 : Nat) == 3) = false from rfl,
        composeS_eq_pure_kcc fx _ dmax (nfdPure_le h3) h1 h2, ← nfcPure_eq_composePure]
      exact .ok h1 h2 h3

/-- **`wcsnorm_s(…, WCSNORM_NFC, …)`, every input (any cells, any dmax), unrepaired and repaired: whenever it returns EOK, dest holds
the Canonical Composition (D117: last starter, not blocked, primary composite ⇒ replace and delete) of the NFD, with the tree's
classes and pair map, and `*lenp` is its length** -/
theorem wcsnormS_nfc_spec (fx : Fixes) (dmax : Nat) (src : List Nat) (h0 : ∀ c ∈ src, c ≠ 0)
    (hret : (wcsnormS fx 1 dmax src).ret = 0) :
    (wcsnormS fx 1 dmax src).out = nfcPure fx src ∧ (wcsnormS fx 1 dmax src).len = (nfcPure fx src).length ∧
    (nfcPure fx src).length < dmax ∧ ∀ c ∈ src, c ≤ UniCompos.unicodeMax := by
  obtain ⟨e, h1, _, h3⟩ := (wcsnormS_nfc_call fx dmax src h0).of_ret hret
  have := d117_length_le kcc (pcOf fx) (nfdPure src)
  rw [e]
  exact ⟨rfl, rfl, by unfold nfcPure; omega, h3⟩

theorem uaxNfd_assigned {xs : List Nat} (h : ∀ c ∈ xs, UCD.assigned c = true ∧ c ≠ 0x37E) {d : Nat}
    (hd : d ∈ reorderPure UCD.ccc (UCD.decompose xs)) : UCD.assigned d = true := by
  have hd' := reorderPure_mem.mp hd
  unfold UCD.decompose at hd'
  simp only [List.mem_flatMap] at hd'
  obtain ⟨c, hc, hdc⟩ := hd'
  exact fullDecomp_assigned (h c hc).1 hdc

/-- **NFC of the model = UAX #15 NFC over UCD 14.0's classes** — D117 run with `Canonical_Combining_Class` of UCD 14.0 on the
standard's NFD (D68 + D109 over UCD 14.0) — for every string of code points assigned in Unicode 14.0 other than U+037E.  The pair
map is still the tree's (`pcOf`); `nfc_pairs_table` is its entry-by-entry equality with UCD 14.0's primary composites. -/
theorem nfcPure_is_uax15 (fx : Fixes) (xs : List Nat) (h : ∀ c ∈ xs, UCD.assigned c = true ∧ c ≠ 0x37E) :
    nfcPure fx xs = d117 UCD.ccc (pcOf fx) (reorderPure UCD.ccc (UCD.decompose xs)) := by
  obtain ⟨h1, _⟩ := nfdPure_is_uax15 xs h
  unfold nfcPure
  rw [h1]
  apply d117_congr_k
  · intro d hd
    unfold kcc
    rw [ccc_matches_ucd (uaxNfd_assigned h hd)]; rfl
  · intro a b c hp
    have := pcOf_class0 hp
    rw [this.1, this.2]

end SafeC.Norm

namespace SafeC.UAX15
open SafeC.Norm
/-- NFD: D68 full canonical decomposition of every character, then the canonical ordering (D109; unique by
`canonicalOrdering_unique`, computed by `reorderPure`) — all over UCD 14.0 -/
def nfd (xs : List Nat) : List Nat := reorderPure UCD.ccc (UCD.decompose xs)
/-- NFC: the Canonical Composition Algorithm D117 (classes and primary composites D114 of UCD 14.0) applied to the NFD -/
def nfc (xs : List Nat) : List Nat := d117 UCD.ccc UCD.primaryComposite (nfd xs)
end SafeC.UAX15

namespace SafeC.Norm
open SafeC.Gen

theorem nfdPure_eq_uax15 (xs : List Nat) (h : ∀ c ∈ xs, UCD.assigned c = true ∧ c ≠ 0x37E) : nfdPure xs = UAX15.nfd xs :=
  (nfdPure_is_uax15 xs h).1

theorem comp_bmp_check : allBelow (fun i => decide (0x10000 ≤ (UCD.compEntry i).1) || decide ((UCD.compEntry i).2.2 < 0x10000)) UCD14.compN = true := by
  decide +kernel

attribute [local irreducible] cell UniCompos.main UniCompos.planes UniCompos.rows UniCompos.pairs UniCompos.listOff UniCompos.listLen
  UCD14.compP UniCanon.main UniCanon.planes UniCanon.rows UniCanon.tbl1 UniCanon.tbl2 UniCanon.tbl3 UniCanon.tbl4

/-- the `(uint16_t)` cast is harmless when the second character is in the BMP -/
theorem pcOf_unrepaired_bmp {a b : Nat} (hb : b < 0x10000) : pcOf unrepaired a b = pcOf allFixed a b := by
  unfold pcOf
  rw [compositeCp_cast fun _ => hb]

theorem primaryComposite_bmp {a b c : Nat} (ha : a < 0x10000) (h : UCD.primaryComposite a b = some c) : c < 0x10000 := by
  unfold UCD.primaryComposite at h
  cases hh : UCD.hangulCompose a b with
  | some s =>
    rw [hh] at h
    cases h
    rcases hangulCompose_cases hh with ⟨l, v, hl, hv, rfl, rfl, rfl⟩ | ⟨l, v, t, hl, hv, ht0, ht, rfl, rfl, rfl⟩ <;> omega
  | none =>
    rw [hh] at h
    obtain ⟨m, hm, e1, e2, e3⟩ := tableCompose_sound a b _ _ _ _ h
    have := allBelow_spec comp_bmp_check m hm
    simp only [Bool.or_eq_true, decide_eq_true_eq] at this
    omega

end SafeC.Norm
