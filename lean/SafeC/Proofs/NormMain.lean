import SafeC.Proofs.NormNFD
/-! C17 — `wcsnorm_s` behind its decomposition pass (every canonical mode), and what it returns in NFD mode, for all inputs -/
namespace SafeC.Norm
open SafeC.Gen

attribute [local irreducible] cell UniCanon.main UniCanon.planes UniCanon.rows UniCombin.main UniCombin.planes UniCombin.rows
  UniCanon.tbl1 UniCanon.tbl2 UniCanon.tbl3 UniCanon.tbl4

/-- the tree's combining class as a total function (0 where the lookup would be out of bounds) -/
def kcc (c : Nat) : Nat := (combinClass c).getD 0

/-- NFD as the model computes it, sizes aside: decompose every cell, then canonical ordering by the tree's classes -/
def nfdPure (xs : List Nat) : List Nat := reorderPure kcc (xs.flatMap decompose1)

theorem kcc_spec {c : Nat} (h : c ≤ UniCompos.unicodeMax) : combinClass c = some (kcc c) := by
  unfold kcc
  cases hc : combinClass c with
  | none => exact absurd hc (combinClass_ne_none h)
  | some k => rfl

theorem flatMap_decompose1_le {xs : List Nat} (h : ∀ c ∈ xs, c ≤ UniCompos.unicodeMax ∧ c ≠ 0) :
    ∀ d ∈ xs.flatMap decompose1, d ≤ UniCompos.unicodeMax ∧ d ≠ 0 := by
  intro d hd
  simp only [List.mem_flatMap] at hd
  obtain ⟨c, hc, hdc⟩ := hd
  exact (decompose1_le (h c hc).1 hdc).imp_right fun h' => h' (h c hc).2

theorem flatMap_decompose1_fixed {xs : List Nat} : ∀ d ∈ xs.flatMap decompose1, decompose1 d = [d] := by
  intro d hd
  simp only [List.mem_flatMap] at hd
  obtain ⟨c, _, hdc⟩ := hd
  exact decompose1_fixed hdc

theorem nfdPure_le {xs : List Nat} (h : ∀ c ∈ xs, c ≤ UniCompos.unicodeMax) : ∀ d ∈ nfdPure xs, d ≤ UniCompos.unicodeMax := by
  intro d hd
  unfold nfdPure at hd
  have hd' := reorderPure_mem.mp hd
  simp only [List.mem_flatMap] at hd'
  obtain ⟨c, hc, hdc⟩ := hd'
  exact (decompose1_le (h c hc) hdc).1

/-- **NFD is idempotent, for every string** (model level, any cells) -/
theorem nfdPure_idem (xs : List Nat) : nfdPure (nfdPure xs) = nfdPure xs := by
  unfold nfdPure
  have hfix : ∀ d ∈ reorderPure kcc (xs.flatMap decompose1), decompose1 d = [d] := by
    intro d hd
    exact flatMap_decompose1_fixed d (reorderPure_mem.mp hd)
  rw [flatMap_fixed hfix, reorderPure_idem]

/-- what a call of `wcsnorm_s` in NFD or NFC mode can do (any string without embedded terminator, any `dmax`; `result` = `nfdPure src`
resp. `nfcPure fx src`): five outcomes, each with a condition that is necessary
for it, as `Fold.FcCall` does for `wcsfc_s`.  The conditions are not exclusive: `nospc` and `ok` overlap on `len < dmax < len + 5`, and the relation
does not say which of the two happens there (hence the margin in the `…_succeeds_partial` statements) -/
inductive NormCall (src : List Nat) (dmax : Nat) (result : List Nat) : Res → Prop
  | zero : dmax = 0 → NormCall src dmax result ⟨ESZEROL, 0, [], false, false⟩
  | small : dmax < 5 → NormCall src dmax result ⟨ESLEMIN, 0, [], false, false⟩
  | big (l : Nat) : (RSIZE_MAX_WSTR < dmax ∨ (∃ c ∈ src, UniCompos.unicodeMax < c) ∨ RSIZE_MAX_WSTR < (nfdPure src).length + 2) →
      NormCall src dmax result ⟨ESLEMAX, l, [], false, false⟩
  | nospc (l : Nat) : dmax < (nfdPure src).length + 5 → NormCall src dmax result ⟨ESNOSPC, l, [], false, false⟩
  | ok : (nfdPure src).length < dmax → dmax ≤ RSIZE_MAX_WSTR → (∀ c ∈ src, c ≤ UniCompos.unicodeMax) →
      NormCall src dmax result ⟨0, result.length, result, false, false⟩

theorem err_ne_zero : (ESZEROL : Int) ≠ 0 ∧ (ESLEMIN : Int) ≠ 0 ∧ (ESLEMAX : Int) ≠ 0 ∧ (ESNOSPC : Int) ≠ 0 := by decide

theorem NormCall.safe {src : List Nat} {dmax : Nat} {result : List Nat} {r : Res} (h : NormCall src dmax result r) :
    r.oob = false ∧ r.overrun = false := by
  cases h <;> exact ⟨rfl, rfl⟩

theorem NormCall.of_ret {src : List Nat} {dmax : Nat} {result : List Nat} {r : Res} (h : NormCall src dmax result r)
    (hret : r.ret = 0) : r = ⟨0, result.length, result, false, false⟩ ∧ (nfdPure src).length < dmax ∧
      dmax ≤ RSIZE_MAX_WSTR ∧ ∀ c ∈ src, c ≤ UniCompos.unicodeMax := by
  cases h with
  | zero => exact absurd hret err_ne_zero.1
  | small => exact absurd hret err_ne_zero.2.1
  | big => exact absurd hret err_ne_zero.2.2.1
  | nospc => exact absurd hret err_ne_zero.2.2.2
  | ok h1 h2 h3 => exact ⟨rfl, h1, h2, h3⟩

theorem NormCall.of_room {src : List Nat} {dmax : Nat} {result : List Nat} {r : Res} (h : NormCall src dmax result r)
    (hs : ∀ c ∈ src, c ≤ UniCompos.unicodeMax) (hmax : dmax ≤ RSIZE_MAX_WSTR) (hroom : (nfdPure src).length + 5 ≤ dmax) :
    r = ⟨0, result.length, result, false, false⟩ := by
  cases h with
  | zero | small | nospc => omega
  | big _ h =>
    rcases h with h | ⟨c, hc, h⟩ | h
    · omega
    · have := hs c hc; omega
    · omega
  | ok => rfl

theorem nfdPure_length (src : List Nat) : (nfdPure src).length = (src.flatMap decompose1).length := reorderPure_length _ _

/-- the decomposition entry point fails as the whole call does, or hands on the decomposed text -/
theorem decomposeS_call (dmax : Nat) (src : List Nat) (h0 : ∀ c ∈ src, c ≠ 0) (result : List Nat) :
    ((decomposeS dmax src false).ret ≠ 0 ∧ NormCall src dmax result (decomposeS dmax src false)) ∨
    (decomposeS dmax src false = ⟨0, (nfdPure src).length, src.flatMap decompose1, false, false⟩ ∧
      (nfdPure src).length < dmax ∧ dmax ≤ RSIZE_MAX_WSTR ∧ ∀ c ∈ src, c ≤ UniCompos.unicodeMax) := by
  rw [decomposeS]
  split
  · next h => exact .inl ⟨err_ne_zero.1, .zero h⟩
  split
  · next h => exact .inl ⟨err_ne_zero.2.1, .small h⟩
  split
  · next h => exact .inl ⟨err_ne_zero.2.2.1, .big _ (.inl h)⟩
  rw [if_neg (by decide)]
  have hp := decLoop_spec dmax src dmax h0
  cases hr : decLoop dmax src dmax with rw [hr] at hp
  | ok out d =>
    obtain ⟨rfl, e2, e3, e4⟩ := hp
    rw [← nfdPure_length] at e2
    exact .inr ⟨by rw [Res.ofStep, show dmax - d = (nfdPure src).length by omega], by omega, by omega, e4⟩
  | fail r n =>
    rcases hp with ⟨rfl, hc⟩ | ⟨rfl, hlt⟩
    · exact .inl ⟨err_ne_zero.2.2.1, .big _ (.inr (.inl hc))⟩
    · exact .inl ⟨err_ne_zero.2.2.2, .nospc _ (by rw [nfdPure_length]; exact hlt)⟩
  | oob => exact hp.elim
  | overrun => exact hp.elim

/-- the reorder step as `wcsnorm_s` calls it: on cells that are code points, with two cells of slack -/
theorem reorderS_stage (fx : Fixes) (out : List Nat) (len : Nat) (hle : ∀ c ∈ out, c ≤ UniCompos.unicodeMax)
    (hlen : out.length = len) :
    reorderS fx (len + 2) out =
      if len + 2 > RSIZE_MAX_WSTR then ⟨ESLEMAX, 0, [], false, false⟩ else ⟨0, len, reorderPure kcc out, false, false⟩ := by
  unfold reorderS
  split
  · rfl
  · have hpure := reorderLoop_eq_pure fx kcc out (len + 2) (fun c hc => kcc_spec (hle c hc)) (fun _ => hle) (by omega)
    rw [hpure]
    simp only [Res.ofStep, Res.mk.injEq, and_self, and_true, true_and]
    omega

/-- `wcsnorm_s` behind a successful decomposition pass (canonical modes): the reorder pass always succeeds on what the
decomposition wrote, with its two cells of slack, so the outcome is decided by the mode, `RSIZE_MAX_WSTR` and the compose pass -/
theorem wcsnormS_of_decomposed (fx : Fixes) (mode dmax : Nat) (src : List Nat) (h0 : ∀ c ∈ src, c ≠ 0)
    (hmode : (mode / 4 % 2 == 1) = false) (hle : ∀ c ∈ src, c ≤ UniCompos.unicodeMax)
    (hdec : decomposeS dmax src false = ⟨0, (nfdPure src).length, src.flatMap decompose1, false, false⟩) :
    wcsnormS fx mode dmax src =
      if mode = 2 then ⟨0, (nfdPure src).length, src.flatMap decompose1, false, false⟩
      else if (nfdPure src).length + 2 > RSIZE_MAX_WSTR then ⟨ESLEMAX, (nfdPure src).length, [], false, false⟩
      else if mode = 0 ∨ mode = 4 then ⟨0, (nfdPure src).length, nfdPure src, false, false⟩
      else
        let c := composeS fx dmax (nfdPure src) (mode == 3)
        if c.oob || c.overrun then c
        else if c.ret ≠ 0 then { c with len := (nfdPure src).length, out := [] }
        else c := by
  have hst := reorderS_stage fx (src.flatMap decompose1) (nfdPure src).length
    (fun c hc => (flatMap_decompose1_le (fun c hc => ⟨hle c hc, h0 c hc⟩) c hc).1) (nfdPure_length src).symm
  unfold wcsnormS
  rw [hmode, hdec]
  dsimp only
  rw [hst]
  by_cases hm2 : mode = 2
  · rw [if_pos hm2, if_pos hm2]; rfl
  rw [if_neg hm2, if_neg hm2]
  by_cases hbig : (nfdPure src).length + 2 > RSIZE_MAX_WSTR
  · rw [if_pos hbig, if_pos hbig]; rfl
  · rw [if_neg hbig, if_neg hbig]; rfl

theorem wcsnormS_of_failed (fx : Fixes) (mode dmax : Nat) (src : List Nat)
    (h : (decomposeS dmax src (mode / 4 % 2 == 1)).ret ≠ 0) :
    wcsnormS fx mode dmax src = decomposeS dmax src (mode / 4 % 2 == 1) := by
  unfold wcsnormS
  simp [h]

theorem wcsnormS_nfd_call (fx : Fixes) (dmax : Nat) (src : List Nat) (h0 : ∀ c ∈ src, c ≠ 0) :
    NormCall src dmax (nfdPure src) (wcsnormS fx 0 dmax src) := by
  rcases decomposeS_call dmax src h0 (nfdPure src) with ⟨hret, h⟩ | ⟨hdec, h1, h2, h3⟩
  · rw [wcsnormS_of_failed fx 0 dmax src hret]; exact h
  · rw [wcsnormS_of_decomposed fx 0 dmax src h0 rfl h3 hdec, if_neg (by decide)]
    split
    · next h => exact .big _ (.inr (.inr h))
    · exact .ok h1 h2 h3

end SafeC.Norm
