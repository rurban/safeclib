import SafeC.Proofs.ExtWide
/-! `stpcpy_s` / `stpncpy_s` (they return `(pointer, *errp)`): the loops and the body behind the entry checks, every placement,
every content.  An EOK exit returns the address of the terminator, every cell the loop stored in front of it is non-zero, with
null-slack everything from the terminator to the end of dest is zero; ESOVRLP / ESNOSPC clear dest; the `src unterminated`
exit (only with a known source size) reports, and clears dest only with the repair `cfg.fixStpUnterm` (/repo commit e5bca6e).  The whole-call
theorems are in `Proofs/ExtNarrow.lean`. -/
namespace SafeC
open Gen

/-- `do (if c then a else b); rest` is elaborated with `rest` inside both branches: back to one bind -/
theorem ite_bind {α β : Type} (c : Prop) [Decidable c] (a b : Prog α) (f : α → Prog β) :
    (if c then a >>= f else b >>= f) = ((if c then a else b) >>= f) := by
  split <;> rfl

/-- the closing block of an EOK exit at `d` with `k` cells left: with null-slack they are nulled, otherwise the terminator
is stored (`isN`) or is there already -/
theorem stpEok_ok (cfg : Cfg) (isN : Bool) (d k : Nat) (st : St) (hw : RW st d k) (hk : 0 < k)
    (h0 : cfg.slack = true ∨ isN = true ∨ st.data d = 0) :
    ∃ st', exec (stpEok cfg isN d k) st = .ok ((d, EOK), st') ∧ EokAt cfg d k st st' := by
  have hp : cfg.slack = false → (if isN then store d 0 else pure ()) = store d 0 ∨
      ((if isN then store d 0 else pure ()) = pure () ∧ st.data d = 0) := by
    intro hs
    cases hn : isN with
    | true => exact Or.inl rfl
    | false => exact Or.inr ⟨rfl, (h0.resolve_left (by simp [hs])).resolve_left (by simp [hn])⟩
  obtain ⟨st', he, h⟩ := eokBlock_ok cfg d k st hw hk _ hp
  refine ⟨st', ?_, h⟩
  show exec (if cfg.slack = true then nullSlack d k >>= fun _ => pure (d, EOK)
    else if isN = true then store d 0 >>= fun _ => pure (d, EOK)
    else (pure () : Prog Unit) >>= fun _ => pure (d, EOK)) st = _
  rw [ite_bind (isN = true), ite_bind, exec_bind, he]
  rfl

/-- what every exit of the stp loops guarantees -/
structure StpPost (cfg : Cfg) (oD oM d k : Nat) (st st' : St) (r : Nat × Nat) : Prop where
  frame : FramePost oD oM st st'
  ok : r.2 = EOK → ShapeAt cfg d k r.1 st st'
  fail_ptr : r.2 ≠ EOK → r.1 = 0
  fail : r.2 ≠ EOK → (r.2 ≠ ESUNTERM ∨ cfg.fixStpUnterm = true) → StrPost cfg oD oM st' r.2

theorem StpPost.of_cleared {cfg : Cfg} {oD oM d k code : Nat} {st st' : St} (hoM : 0 < oM)
    (hf : FramePost oD oM st st') (hne : code ≠ EOK)
    (h : ClearedPost cfg oD oM code st st') : StpPost cfg oD oM d k st st' (0, code) :=
  ⟨hf, fun hc => absurd hc hne, fun _ => rfl,
    fun _ _ => StrPost.of_clear hoM h.first h.slack⟩

/-- the `slen >= srcbos` test of the stp loops (`srcbos` unknown: never true) -/
def untermB (srcbos : Bos) (n : Nat) : Bool :=
  match srcbos with
  | none => false
  | some sb => decide (n ≥ sb)

theorem untermB_iff (srcbos : Bos) (n : Nat) :
    untermB srcbos n = true ↔ ∃ sb, srcbos = some sb ∧ sb ≤ n := by
  cases srcbos <;> simp [untermB]

theorem untermB_false (srcbos : Bos) (x : Nat) (h : ∀ sb, srcbos = some sb → x < sb) :
    untermB srcbos x = false := by
  cases hb : untermB srcbos x with
  | false => rfl
  | true =>
    obtain ⟨sb, h1, h2⟩ := (untermB_iff _ _).1 hb
    have := h sb h1; omega

/-- the `slen` the loop carries after `j` iterations -/
def stpSlen (isN : Bool) (slen j : Nat) : Nat := if isN then slen - j else slen + j

theorem stpSlen_zero (isN : Bool) (slen : Nat) : stpSlen isN slen 0 = slen := by
  cases isN with
  | true => rfl
  | false => rfl

/-- one more iteration: `stpncpy_s` counts `slen` down, `stpcpy_s` up -/
theorem stpSlen_succ (isN : Bool) (slen j : Nat) :
    (if isN then stpSlen isN slen j - 1 else stpSlen isN slen j + 1) = stpSlen isN slen (j + 1) := by
  cases isN with
  | true => rfl
  | false => rfl

theorem stpLoop_succ (cfg : Cfg) (isN onDest : Bool) (B oD oM : Nat) (srcbos : Bos) (k d s slen : Nat) :
    stpLoop cfg isN onDest B oD oM srcbos (k+1) d s slen =
      (if (if onDest then d else s) = B then do
        handleError cfg oD oM ESOVRLP
        pure (0, ESOVRLP)
      else if isN ∧ slen = 0 then stpEok cfg isN d (k+1)
      else do
        let c ← load s
        store d c
        if c = 0 then stpEok cfg isN d (k+1)
        else
          if untermB srcbos (if isN then slen - 1 else slen + 1) then do
            (if cfg.fixStpUnterm then handleError cfg oD oM ESUNTERM else handlerS ESUNTERM)
            pure (0, ESUNTERM)
          else stpLoop cfg isN onDest B oD oM srcbos k (d+1) (s+1) (if isN then slen - 1 else slen + 1)) := by
  cases srcbos <;> rfl

/-- **`j0` continuing iterations of the stp loops, any placement** (as `copyLoop_run`; here also the `src unterminated` test
must not fire) -/
theorem stpLoop_run (cfg : Cfg) (isN onDest : Bool) (B oD oM : Nat) (srcbos : Bos) (k d s slen : Nat) (st : St) (j0 : Nat)
    (hrd : ∀ j, j < j0 → st.mapped (s+j) = true ∧ st.rd (s+j) = true) (hrw : RW st d j0) (hk : j0 ≤ k)
    (hnz : ∀ j, j < j0 → (st.copied d s j).data (s+j) ≠ 0)
    (hb : ∀ j, j < j0 → (if onDest then d + j else s + j) ≠ B)
    (hsl : isN = true → j0 ≤ slen)
    (hun : ∀ i, i < j0 → untermB srcbos (stpSlen isN slen (i+1)) = false) :
    exec (stpLoop cfg isN onDest B oD oM srcbos k d s slen) st =
      exec (stpLoop cfg isN onDest B oD oM srcbos (k - j0) (d + j0) (s + j0) (stpSlen isN slen j0)) (st.copied d s j0) := by
  have h0 := copy_iter (fun i => stpLoop cfg isN onDest B oD oM srcbos (k - i) (d + i) (s + i) (stpSlen isN slen i))
    d s st j0 fun i hi => ?_
  · rw [← h0]
    show _ = exec (stpLoop cfg isN onDest B oD oM srcbos k d s (stpSlen isN slen 0)) st
    rw [stpSlen_zero]
  obtain ⟨k', hk'⟩ : ∃ k', k - i = k' + 1 := ⟨k - i - 1, by omega⟩
  have hsl0 : ¬ (isN = true ∧ stpSlen isN slen i = 0) := by
    intro ⟨h, h'⟩; have := hsl h; simp only [stpSlen, h, if_true] at h'; omega
  have hm := hrd i hi
  obtain ⟨hdm, hdw, _⟩ := hrw i hi
  rw [hk', stpLoop_succ, if_neg (hb i hi), if_neg hsl0]
  simp only [exec_bind, exec_load_ok (s + i) (st.copied d s i) hm.1 hm.2,
    exec_store_ok (d + i) _ (st.copied d s i) hdm hdw]
  rw [if_neg (hnz i hi), stpSlen_succ, hun i hi, if_neg Bool.false_ne_true, show k - (i + 1) = k' from by omega]
  rfl

/-- **The exits of the stp loops**: one of the five exit tests fires at once.  No room or the bumper: `handle_error` on the
whole of dest; `slen` used up or a NUL read: the EOK block at `d`, which is the pointer returned; `src unterminated` (after the
character was stored): reports, and clears dest only with the repair `fixStpUnterm`. -/
theorem stpLoop_exit (cfg : Cfg) (isN onDest : Bool) (B oD oM : Nat) (srcbos : Bos) (k d s slen : Nat) (st : St)
    (hstop : k = 0 ∨ (if onDest then d else s) = B ∨ (isN = true ∧ slen = 0) ∨
      (st.mapped s = true ∧ st.rd s = true ∧
        (st.data s = 0 ∨ untermB srcbos (if isN then slen - 1 else slen + 1) = true))) :
    (k = 0 ∨ (if onDest then d else s) = B → 0 < oM → RW st oD oM →
      ∃ st', exec (stpLoop cfg isN onDest B oD oM srcbos k d s slen) st =
          .ok ((0, if k = 0 then ESNOSPC else ESOVRLP), st') ∧
        ClearedPost cfg oD oM (if k = 0 then ESNOSPC else ESOVRLP) st st') ∧
    (0 < k → (if onDest then d else s) ≠ B → (isN = true ∧ slen = 0) ∨ st.data s = 0 → RW st d k →
      ∃ st', exec (stpLoop cfg isN onDest B oD oM srcbos k d s slen) st = .ok ((d, EOK), st') ∧ EokAt cfg d k st st') ∧
    (0 < k → (if onDest then d else s) ≠ B → ¬ (isN = true ∧ slen = 0) → st.data s ≠ 0 → 0 < oM → RW st oD oM →
        oD ≤ d ∧ d < oD + oM →
      ∃ st', exec (stpLoop cfg isN onDest B oD oM srcbos k d s slen) st = .ok ((0, ESUNTERM), st') ∧
        FramePost oD oM st st' ∧ (cfg.fixStpUnterm = true → StrPost cfg oD oM st' ESUNTERM)) := by
  cases k with
  | zero =>
    refine ⟨fun _ hoM hrw => ?_, fun h => absurd h (Nat.lt_irrefl 0), fun h => absurd h (Nat.lt_irrefl 0)⟩
    exact handleError_pure cfg oD oM ESNOSPC (0, ESNOSPC) st hrw hoM
  | succ k =>
    rw [stpLoop_succ, if_neg (Nat.succ_ne_zero k)]
    refine ⟨fun hb hoM hrw => ?_, fun _ hb hz hsub => ?_, fun _ hb hsl hc hoM hrw hin => ?_⟩
    · rw [if_pos (hb.resolve_left (Nat.succ_ne_zero k))]
      exact handleError_pure cfg oD oM ESOVRLP (0, ESOVRLP) st hrw hoM
    · rw [if_neg hb]
      by_cases hsl : isN = true ∧ slen = 0
      · rw [if_pos hsl]
        exact stpEok_ok cfg isN d (k+1) st hsub (by omega) (Or.inr (Or.inl hsl.1))
      rw [if_neg hsl]
      obtain ⟨hsm, hsr, _⟩ := ((hstop.resolve_left (Nat.succ_ne_zero k)).resolve_left hb).resolve_left hsl
      obtain ⟨hdm, hdw, _⟩ := hsub.head
      have hc := hz.resolve_left hsl
      simp only [exec_bind, exec_load_ok _ _ hsm hsr, exec_store_ok _ _ _ hdm hdw, hc, if_true]
      obtain ⟨st', he, h⟩ := stpEok_ok cfg isN d (k+1) (st.upd d 0)
        (RW.of_sameMeta (SameMeta.upd _ _ _) hsub) (by omega) (Or.inr (Or.inr (by simp)))
      exact ⟨st', he, h.upd (by omega)⟩
    · rw [if_neg hb, if_neg hsl]
      obtain ⟨hsm, hsr, hu⟩ := ((hstop.resolve_left (Nat.succ_ne_zero k)).resolve_left hb).resolve_left hsl
      obtain ⟨hdm, hdw, _⟩ := hrw (d - oD) (by omega)
      rw [show oD + (d - oD) = d from by omega] at hdm hdw
      simp only [exec_bind, exec_load_ok _ _ hsm hsr, exec_store_ok _ _ _ hdm hdw, hc, if_false]
      rw [if_pos (hu.resolve_left hc)]
      cases hfx : cfg.fixStpUnterm with
      | false =>
        exact ⟨{ st.upd d (st.data s) with events := (st.upd d (st.data s)).events ++ [.handler .str ESUNTERM] },
          by simp [handlerS, exec_bind], ⟨rfl, rfl, rfl, rfl, fun a ha => St.upd_data_ne _ _ _ _ (by omega)⟩,
          fun h => nomatch h⟩
      | true =>
        obtain ⟨st', he, hf, hp⟩ := herr_clear cfg oD oM ESUNTERM (st.upd d (st.data s))
          (RW.of_sameMeta (SameMeta.upd _ _ _) hrw) hoM
        exact ⟨st', by simp [exec_bind, he], (FramePost.upd oD oM d _ st hin).trans hf, fun _ => hp⟩

/-- **Every run of the stp loops**, any placement, content and length: the run to the first iteration at which an exit test
fires, then that exit -/
theorem stpLoop_ok (cfg : Cfg) (isN onDest : Bool) (B oD oM : Nat) (hoM : 0 < oM) (srcbos : Bos)
    (k d s slen : Nat) (st : St)
    (hall : ∀ a, st.mapped a = true ∧ st.rd a = true)
    (hrw : RW st oD oM) (hinv : oD ≤ d ∧ d + k = oD + oM) :
    ∃ r st', exec (stpLoop cfg isN onDest B oD oM srcbos k d s slen) st = .ok (r, st') ∧
      StpPost cfg oD oM d k st st' r ∧
      (r.2 = ESUNTERM → ∃ sb, srcbos = some sb ∧ (isN = true → sb < slen)) := by
  obtain ⟨j, hjk, hP, hmin⟩ := least_of (fun j => j = k ∨ (if onDest then d + j else s + j) = B ∨
    (isN = true ∧ slen = j) ∨ (st.copied d s j).data (s + j) = 0 ∨ untermB srcbos (stpSlen isN slen (j+1)) = true)
    k (Or.inl rfl)
  have hsl : isN = true → j ≤ slen := fun h =>
    Nat.le_of_not_lt fun hlt => hmin slen hlt (Or.inr (Or.inr (Or.inl ⟨h, rfl⟩)))
  rw [stpLoop_run cfg isN onDest B oD oM srcbos k d s slen st j (fun _ _ => hall _) (hrw.sub (by omega) (by omega)) hjk
    (fun i hi h => hmin i hi (Or.inr (Or.inr (Or.inr (Or.inl h))))) (fun i hi h => hmin i hi (Or.inr (Or.inl h))) hsl
    (fun i hi => by
      cases h : untermB srcbos (stpSlen isN slen (i+1)) with
      | false => rfl
      | true => exact absurd (Or.inr (Or.inr (Or.inr (Or.inr h)))) (hmin i hi))]
  have hrw1 : RW (st.copied d s j) oD oM := RW.of_sameMeta (st.copied_sameMeta d s j) hrw
  have hfr : FramePost oD oM st (st.copied d s j) :=
    ⟨rfl, rfl, rfl, rfl, fun a ha => copyN_out _ _ _ _ _ (by omega)⟩
  have hex := stpLoop_exit cfg isN onDest B oD oM srcbos (k - j) (d + j) (s + j) (stpSlen isN slen j) (st.copied d s j)
    (by
      rw [stpSlen_succ]
      rcases hP with h | h | h | h | h
      · exact Or.inl (by omega)
      · exact Or.inr (Or.inl h)
      · exact Or.inr (Or.inr (Or.inl ⟨h.1, by simp only [stpSlen, h.1, if_true]; omega⟩))
      · exact Or.inr (Or.inr (Or.inr ⟨(hall _).1, (hall _).2, Or.inl h⟩))
      · exact Or.inr (Or.inr (Or.inr ⟨(hall _).1, (hall _).2, Or.inr h⟩)))
  by_cases hf : k - j = 0 ∨ (if onDest then d + j else s + j) = B
  · obtain ⟨st', he, hp⟩ := hex.1 hf hoM hrw1
    exact ⟨_, st', he,
      StpPost.of_cleared hoM (hfr.trans (FramePost.of_cleared he hp)) (by split <;> decide) (hp.of_run ⟨hinv.1, by omega⟩),
      fun h => absurd (show (if k - j = 0 then ESNOSPC else ESOVRLP) = ESUNTERM from h) (by split <;> decide)⟩
  have hk : 0 < k - j := Nat.pos_of_ne_zero fun h => hf (Or.inl h)
  have hb : (if onDest then d + j else s + j) ≠ B := fun h => hf (Or.inr h)
  by_cases he0 : (isN = true ∧ stpSlen isN slen j = 0) ∨ (st.copied d s j).data (s + j) = 0
  · obtain ⟨st', he, h⟩ := hex.2.1 hk hb he0 (hrw1.sub (by omega) (by omega))
    exact ⟨(d + j, EOK), st', he,
      ⟨hfr.trans ⟨h.1.mapped, h.1.rd, h.1.wr, h.1.strays, fun a ha => h.2.2.1 a (by omega)⟩,
        fun _ => ShapeAt.of_run (by omega) (fun i hi hh => hmin i hi (Or.inr (Or.inr (Or.inr (Or.inl hh))))) h,
        fun h => absurd rfl h, fun h => absurd rfl h⟩,
      fun h => absurd (show EOK = ESUNTERM from h) (by decide)⟩
  · obtain ⟨st', he, hf', hs⟩ := hex.2.2 hk hb (fun h => he0 (Or.inl h)) (fun h => he0 (Or.inr h)) hoM hrw1
      ⟨by omega, by omega⟩
    refine ⟨(0, ESUNTERM), st', he, ⟨hfr.trans hf', fun h => absurd h (by decide), fun _ => rfl,
      fun _ h => hs (h.resolve_left fun h => h rfl)⟩, fun _ => ?_⟩
    have hu : untermB srcbos (stpSlen isN slen (j+1)) = true := by
      rcases hP with h | h | h | h | h
      · omega
      · exact absurd h hb
      · exact absurd (Or.inl ⟨h.1, by simp only [stpSlen, h.1, if_true]; omega⟩) he0
      · exact absurd (Or.inr h) he0
      · exact h
    obtain ⟨sb, h1, h2⟩ := (untermB_iff _ _).1 hu
    refine ⟨sb, h1, fun hn => ?_⟩
    have := hsl hn
    have hne : slen ≠ j := fun e => he0 (Or.inl ⟨hn, by simp only [stpSlen, hn, if_true]; omega⟩)
    simp only [stpSlen, hn, if_true] at h2
    omega

/-- on a cell that already holds the terminator: without null-slack the memory is unchanged, also when `stpncpy_s` stores
its NUL over the NUL -/
theorem stpEok_exact (cfg : Cfg) (isN : Bool) (d k : Nat) (st : St) (hw : RW st d k) (hk : 0 < k)
    (h0 : st.data d = 0) :
    ∃ st', exec (stpEok cfg isN d k) st = .ok ((d, EOK), st') ∧ SameMeta st' st ∧
      (∀ a, st'.data a = if cfg.slack = true ∧ d ≤ a ∧ a < d + k then 0 else st.data a) := by
  unfold stpEok
  cases hcs : cfg.slack with
  | true =>
    obtain ⟨st', he, hm, hd⟩ := nullSlack_ok d k st hw
    refine ⟨st', by simp [exec_bind, he], hm, fun a => ?_⟩
    rw [hd a]; simp
  | false =>
    have hh := hw 0 hk
    simp only [Nat.add_zero] at hh
    cases hn : isN with
    | true =>
      refine ⟨st.upd d 0, by simp [exec_bind, exec_store_ok _ _ _ hh.1 hh.2.1], SameMeta.upd _ _ _, fun a => ?_⟩
      simp only [Bool.false_eq_true, false_and, if_false]
      by_cases ha : a = d
      · subst ha; simp [h0]
      · exact St.upd_data_ne _ _ _ _ ha
    | false => exact ⟨st, by simp, SameMeta.refl _, fun a => by simp⟩

theorem stpSameWalk_exact (cfg : Cfg) (isN : Bool) (oD oM : Nat) (hoM : 0 < oM) (n : Nat) :
    ∀ (k d : Nat) (st : St), RW st oD oM → (oD ≤ d ∧ d + k = oD + oM) →
    (∀ j, j < n → j < k → st.data (d+j) ≠ 0) → (n < k → st.data (d+n) = 0) →
    ∃ r st', exec (stpSameWalk cfg isN oD oM k d) st = .ok (r, st') ∧
      (n < k → r = (d + n, EOK) ∧ SameMeta st' st ∧
        ∀ a, st'.data a = if cfg.slack = true ∧ d + n ≤ a ∧ a < d + k then 0 else st.data a) ∧
      (k ≤ n → r = (0, ESNOSPC) ∧ ClearedPost cfg oD oM ESNOSPC st st') := by
  intro k
  induction k generalizing n with
  | zero =>
    intro d st hrw _ _ _
    rw [stpSameWalk]
    obtain ⟨st', he, hp⟩ := handleError_pure cfg oD oM ESNOSPC (0, ESNOSPC) st hrw hoM
    exact ⟨_, st', he, fun h => absurd h (Nat.not_lt_zero n), fun _ => ⟨rfl, hp⟩⟩
  | succ k ih =>
    intro d st hrw hinv hnz hz
    have hsub : RW st d (k+1) := hrw.sub hinv.1 (Nat.le_of_eq hinv.2)
    obtain ⟨hm, _, hr⟩ := hsub.head
    rw [stpSameWalk]
    simp only [exec_bind, exec_load_ok _ _ hm hr]
    cases n with
    | zero =>
      have h0 : st.data d = 0 := hz (Nat.succ_pos k)
      rw [if_pos h0]
      obtain ⟨st', he, hmeta, hd⟩ := stpEok_exact cfg isN d (k+1) st hsub (Nat.succ_pos k) h0
      exact ⟨_, st', he, fun _ => ⟨rfl, hmeta, hd⟩, fun h => absurd h (Nat.not_succ_le_zero k)⟩
    | succ n =>
      have hc : st.data d ≠ 0 := hnz 0 (Nat.succ_pos n) (Nat.succ_pos k)
      rw [if_neg hc]
      have e : ∀ j, d + 1 + j = d + (j + 1) := fun j => Nat.add_right_comm d 1 j
      obtain ⟨r, st', he, hok, hfail⟩ := ih n (d+1) st hrw ⟨Nat.le_succ_of_le hinv.1, by rw [e]; exact hinv.2⟩
        (fun j hj hjk => by rw [e]; exact hnz (j+1) (Nat.succ_lt_succ hj) (Nat.succ_lt_succ hjk))
        (fun h => by rw [e]; exact hz (Nat.succ_lt_succ h))
      rw [e n, e k] at hok
      exact ⟨r, st', he, fun h => hok (Nat.lt_of_succ_lt_succ h), fun h => hfail (Nat.le_of_succ_le_succ h)⟩

/-- every walk of `stpcpy_s(dest, …, dest)`: to the first NUL, or through all of dest -/
theorem stpSameWalk_ok (cfg : Cfg) (isN : Bool) (oD oM : Nat) (hoM : 0 < oM)
    (k d : Nat) (st : St)
    (hrw : RW st oD oM) (hinv : oD ≤ d ∧ d + k = oD + oM) :
    ∃ r st', exec (stpSameWalk cfg isN oD oM k d) st = .ok (r, st') ∧
      StpPost cfg oD oM d k st st' r ∧ r.2 ≠ ESUNTERM := by
  obtain ⟨n, hnk, hP, hmin⟩ := least_of (fun n => n = k ∨ st.data (d + n) = 0) k (Or.inl rfl)
  obtain ⟨r, st', he, hok, hfail⟩ := stpSameWalk_exact cfg isN oD oM hoM n k d st hrw hinv
    (fun j hj _ h => hmin j hj (Or.inr h)) (fun h => hP.resolve_left (Nat.ne_of_lt h))
  refine ⟨r, st', he, ?_⟩
  by_cases hlt : n < k
  · obtain ⟨rfl, hm, hd⟩ := hok hlt
    have h0 : st.data (d + n) = 0 := hP.resolve_left (Nat.ne_of_lt hlt)
    refine ⟨⟨⟨hm.mapped, hm.rd, hm.wr, hm.strays, fun a ha => by rw [hd a, if_neg (by omega)]⟩, fun _ =>
      ⟨Nat.le_add_right _ _, by omega, fun a ha => by rw [hd a, if_neg (by omega)], fun a h1 h2 => ?_, ?_,
        fun hs a h1 h2 => by rw [hd a, if_pos ⟨hs, h1, h2⟩]⟩, fun h => absurd rfl h, fun h => absurd rfl h⟩,
      fun h => absurd (show EOK = ESUNTERM from h) (by decide)⟩
    · rw [hd a, if_neg (by omega)]
      exact fun h => hmin (a - d) (by omega) (Or.inr (by rwa [show d + (a - d) = a from by omega]))
    · rw [hd (d + n)]
      split
      · rfl
      · exact h0
  · obtain ⟨rfl, hp⟩ := hfail (Nat.le_of_not_lt hlt)
    exact ⟨StpPost.of_cleared hoM (FramePost.of_cleared he hp) ne_ESNOSPC hp, fun h => absurd (show ESNOSPC = ESUNTERM from h) (by decide)⟩

/-- what `stpcpy_s` / `stpncpy_s` guarantee for a usable dest -/
structure StpQ (cfg : Cfg) (dest dmax : Nat) (st st' : St) (r : Nat × Nat) : Prop where
  ok : r.2 = EOK → ShapeAt cfg dest dmax r.1 st st'
  fail_ptr : r.2 ≠ EOK → r.1 = 0
  post : (r.2 ≠ ESUNTERM ∨ cfg.fixStpUnterm = true) → StrPost cfg dest dmax st' r.2

theorem StpQ.of_post {cfg : Cfg} {dest dmax : Nat} {st st' : St} {r : Nat × Nat}
    (h : StpPost cfg dest dmax dest dmax st st' r) : StpQ cfg dest dmax st st' r := by
  refine ⟨h.ok, h.fail_ptr, fun hne => ?_⟩
  by_cases hc : r.2 = EOK
  · obtain ⟨h1, h2, _, _, h5, _⟩ := h.ok hc
    refine ⟨⟨r.1 - dest, by omega, ?_⟩, fun hx => absurd hc hx, fun hx => ?_⟩
    · have e : dest + (r.1 - dest) = r.1 := by omega
      rw [e]; exact h5
    · rw [hc] at hx
      rcases hx with hx | hx | hx | hx <;> exact absurd hx (by decide)
  · exact h.fail hc hne

theorem stpBody_ok (cfg : Cfg) (isN : Bool) (dest dmax src slen : Nat) (srcbos : Bos) (st : St)
    (hall : ∀ a, st.mapped a = true ∧ st.rd a = true) (hrw : RW st dest dmax) (hpos : 0 < dmax) :
    Outcome dest dmax st (stpBody cfg isN dest dmax src slen srcbos)
      (fun r st' => StpQ cfg dest dmax st st' r ∧
        (r.2 = ESUNTERM → ∃ sb, srcbos = some sb ∧ (isN = true → sb < slen))) := by
  unfold stpBody
  by_cases hsame : dest = src
  · rw [if_pos hsame]
    obtain ⟨r, st', he, hp, hne⟩ := stpSameWalk_ok cfg isN dest dmax hpos dmax dest st hrw ⟨Nat.le_refl _, rfl⟩
    exact ⟨r, st', he, hp.frame, StpQ.of_post hp, fun h => absurd h hne⟩
  rw [if_neg hsame]
  by_cases hlt : dest < src
  · rw [if_pos hlt]
    obtain ⟨r, st', he, hp, hun⟩ :=
      stpLoop_ok cfg isN true src dest dmax hpos srcbos dmax dest src slen st hall hrw ⟨Nat.le_refl _, rfl⟩
    exact ⟨r, st', he, hp.frame, StpQ.of_post hp, hun⟩
  · rw [if_neg hlt]
    obtain ⟨r, st', he, hp, hun⟩ :=
      stpLoop_ok cfg isN false dest dest dmax hpos srcbos dmax dest src slen st hall hrw ⟨Nat.le_refl _, rfl⟩
    exact ⟨r, st', he, hp.frame, StpQ.of_post hp, hun⟩

theorem nullSrcP_outcome (cfg : Cfg) (dest dmax : Nat) (st : St) (srcbos : Bos) (isN : Bool) (slen : Nat)
    (hrw : RW st dest dmax) (hpos : 0 < dmax) :
    Outcome dest dmax st (do handleError cfg dest dmax ESNULLP; pure (0, ESNULLP) : Prog (Nat × Nat))
      (fun r st' => dmax ≤ RSIZE_MAX_STR → StpQ cfg dest dmax st st' r ∧
        (r.2 = ESUNTERM → ∃ sb, srcbos = some sb ∧ (isN = true → sb < slen))) := by
  obtain ⟨st', he, hp⟩ := handleError_pure cfg dest dmax ESNULLP (0, ESNULLP) st hrw hpos
  have hq : StpPost cfg dest dmax dest dmax st st' (0, ESNULLP) :=
    StpPost.of_cleared hpos (FramePost.of_cleared he hp) ne_ESNULLP hp
  exact ⟨_, st', he, hq.frame, fun _ => ⟨StpQ.of_post hq, fun h => absurd h (by decide)⟩⟩

end SafeC
