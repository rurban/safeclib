import SafeC.Models.Sort
/-!
# Bit-level specification of the two-word vector `p[2]` of smoothsort (`Models/Sort.lean`)

`PV.bit p i` = bit `i` of `p[1]:p[0]`; `shl`/`shr` (with the x86 count masking, including the `n = 64` case
where `64 - n1` is executed as a shift by 0), `|= 1`, `^= 7`, `& 3`, `= {1,0}` and `pntz` in terms of it.

`pntz_spec64` (whole-word `ntz` and the repaired `pntz`, `Fixes.pntzGap`): `pntz` = distance to the next set bit, for every
distance.  Without the `pntz` repair (`pntz_spec64_partial`) the statement carries `t ≠ 64`: for `p[0] = 1`, `p[1]` odd the
code computes `r = 64 + 0` and takes it for "nothing found" (`pntz_at64`: the result is 0, not 64);
`pntz_spec64_unrestricted_false` is the refutation of the statement without that hypothesis for that code.
-/
namespace SafeC.Sort

def PV.bit (p : PV) (i : Nat) : Bool :=
  if i < 64 then p.lo.toNat.testBit i else p.hi.toNat.testBit (i - 64)

theorem PV.bit_lo (p : PV) {j : Nat} (h : j < 64) : p.bit j = p.lo.toNat.testBit j := if_pos h

theorem PV.bit_hi (p : PV) (j : Nat) : p.bit (j + 64) = p.hi.toNat.testBit j := by
  unfold PV.bit; rw [if_neg (by omega), Nat.add_sub_cancel]

theorem tb_ge (x : UInt64) {j : Nat} (h : 64 ≤ j) : x.toNat.testBit j = false :=
  Nat.testBit_lt_two_pow (Nat.lt_of_lt_of_le x.toNat_lt (Nat.pow_le_pow_right (by decide) h))

theorem PV.bit_ge (p : PV) {i : Nat} (h : 128 ≤ i) : p.bit i = false := by
  unfold PV.bit
  rw [if_neg (by omega)]
  exact tb_ge _ (by omega)

theorem count_mod (k : Nat) : (k.toUInt64).toNat % 64 = k % 64 := by simp

theorem tb_shr (x : UInt64) (k j : Nat) :
    (x >>> k.toUInt64).toNat.testBit j = x.toNat.testBit (j + k % 64) := by
  rw [UInt64.toNat_shiftRight, count_mod, Nat.testBit_shiftRight, Nat.add_comm]

theorem tb_shl (x : UInt64) (k j : Nat) :
    (x <<< k.toUInt64).toNat.testBit j =
      (decide (k % 64 ≤ j ∧ j < 64) && x.toNat.testBit (j - k % 64)) := by
  rw [UInt64.toNat_shiftLeft, count_mod, Nat.testBit_mod_two_pow, Nat.testBit_shiftLeft]
  by_cases h1 : k % 64 ≤ j <;> by_cases h2 : j < 64 <;> simp [h1, h2]

theorem tb_zero (j : Nat) : (0 : UInt64).toNat.testBit j = false := Nat.zero_testBit j

theorem eq_zero_of_tb {x : UInt64} (h : ∀ j, j < 64 → x.toNat.testBit j = false) : x = 0 :=
  UInt64.toBitVec_inj.mp (BitVec.eq_of_getLsbD_eq fun i hi => (h i hi).trans (Nat.zero_testBit i).symm)

theorem shr_bit (p : PV) {n : Nat} (h0 : 0 < n) (h : n < 128) (i : Nat) :
    (shr p n).bit i = p.bit (i + n) := by
  by_cases hn : n ≥ 64
  · have e : shr p n = ⟨p.hi >>> (n - 64).toUInt64 ||| ((0 : UInt64) <<< (64 - (n - 64)).toUInt64),
        (0 : UInt64) >>> (n - 64).toUInt64⟩ := by
      simp [shr, hn]
    rw [e]
    unfold PV.bit
    by_cases hi : i < 64
    · rw [if_pos hi, if_neg (by omega)]
      simp only [UInt64.toNat_or, Nat.testBit_or]
      rw [tb_shr, tb_shl, tb_zero, Bool.and_false, Bool.or_false]
      congr 1; omega
    · rw [if_neg hi, if_neg (by omega), tb_shr, tb_zero]
      exact (tb_ge _ (by omega)).symm
  · have e : shr p n = ⟨p.lo >>> n.toUInt64 ||| (p.hi <<< (64 - n).toUInt64),
        p.hi >>> n.toUInt64⟩ := by
      simp [shr, hn]
    rw [e]
    unfold PV.bit
    have e1 : n % 64 = n := by omega
    by_cases hi : i < 64
    · rw [if_pos hi]
      simp only [UInt64.toNat_or, Nat.testBit_or]
      rw [tb_shr, tb_shl]
      have e2 : (64 - n) % 64 = 64 - n := by omega
      rw [e1, e2]
      by_cases hc : i + n < 64
      · rw [if_pos hc]
        have : ¬ (64 - n ≤ i ∧ i < 64) := by omega
        rw [decide_eq_false this, Bool.false_and, Bool.or_false]
      · rw [if_neg hc, tb_ge _ (by omega : 64 ≤ i + n)]
        have : (64 - n ≤ i ∧ i < 64) := by omega
        rw [decide_eq_true this, Bool.true_and, Bool.false_or]
        congr 1; omega
    · rw [if_neg hi, if_neg (by omega), tb_shr, e1]
      congr 1; omega

theorem shl_bit (p : PV) {n : Nat} (h0 : 0 < n) (h : n < 128) (i : Nat) :
    (shl p n).bit i = (decide (n ≤ i ∧ i < 128) && p.bit (i - n)) := by
  by_cases hn : n ≥ 64
  · have e : shl p n = ⟨(0 : UInt64) <<< (n - 64).toUInt64,
        p.lo <<< (n - 64).toUInt64 ||| ((0 : UInt64) >>> (64 - (n - 64)).toUInt64)⟩ := by
      simp [shl, hn]
    rw [e]
    unfold PV.bit
    by_cases hi : i < 64
    · rw [if_pos hi, tb_shl, tb_zero, Bool.and_false]
      have : ¬ (n ≤ i ∧ i < 128) := by omega
      rw [decide_eq_false this, Bool.false_and]
    · rw [if_neg hi]
      simp only [UInt64.toNat_or, Nat.testBit_or]
      rw [tb_shl, tb_shr, tb_zero, Bool.or_false]
      have e1 : (n - 64) % 64 = n - 64 := by omega
      rw [e1]
      by_cases hc : n ≤ i ∧ i < 128
      · rw [decide_eq_true hc, if_pos (by omega),
          decide_eq_true (by omega : n - 64 ≤ i - 64 ∧ i - 64 < 64)]
        congr 2; omega
      · rw [decide_eq_false hc,
          decide_eq_false (by omega : ¬ (n - 64 ≤ i - 64 ∧ i - 64 < 64))]
        rfl
  · have e : shl p n = ⟨p.lo <<< n.toUInt64,
        p.hi <<< n.toUInt64 ||| (p.lo >>> (64 - n).toUInt64)⟩ := by
      simp [shl, hn]
    rw [e]
    unfold PV.bit
    have e1 : n % 64 = n := by omega
    have e2 : (64 - n) % 64 = 64 - n := by omega
    by_cases hi : i < 64
    · rw [if_pos hi, if_pos (by omega), tb_shl, e1]
      by_cases hc : n ≤ i
      · rw [decide_eq_true (by omega : n ≤ i ∧ i < 64), decide_eq_true (by omega : n ≤ i ∧ i < 128)]
      · rw [decide_eq_false (by omega : ¬ (n ≤ i ∧ i < 64)),
          decide_eq_false (by omega : ¬ (n ≤ i ∧ i < 128))]
    · rw [if_neg hi]
      simp only [UInt64.toNat_or, Nat.testBit_or]
      rw [tb_shl, tb_shr, e1, e2]
      by_cases h128 : i < 128
      · rw [decide_eq_true (by omega : n ≤ i ∧ i < 128), Bool.true_and]
        by_cases hc : i - n < 64
        · rw [if_pos hc, decide_eq_false (by omega : ¬ (n ≤ i - 64 ∧ i - 64 < 64)),
            Bool.false_and, Bool.false_or]
          congr 1; omega
        · rw [if_neg hc, decide_eq_true (by omega : n ≤ i - 64 ∧ i - 64 < 64), Bool.true_and,
            tb_ge p.lo (by omega : 64 ≤ i - 64 + (64 - n)), Bool.or_false]
          congr 1; omega
      · rw [decide_eq_false (by omega : ¬ (n ≤ i ∧ i < 128)),
          decide_eq_false (by omega : ¬ (n ≤ i - 64 ∧ i - 64 < 64)),
          tb_ge p.lo (by omega : 64 ≤ i - 64 + (64 - n))]
        rfl

theorem tb_one (i : Nat) : (1 : Nat).testBit i = decide (i = 0) := by
  cases i with
  | zero => rfl
  | succ j => rw [Nat.testBit_succ]; simp

theorem or1_bit (p : PV) (i : Nat) :
    (⟨p.lo ||| 1, p.hi⟩ : PV).bit i = (decide (i = 0) || p.bit i) := by
  unfold PV.bit
  by_cases hi : i < 64
  · simp only [if_pos hi, UInt64.toNat_or, Nat.testBit_or]
    rw [show (1 : UInt64).toNat = 1 from rfl, tb_one, Bool.or_comm]
  · simp only [if_neg hi]
    rw [decide_eq_false (by omega : ¬ i = 0), Bool.false_or]

theorem xor7_bit (p : PV) (i : Nat) :
    (⟨p.lo ^^^ 7, p.hi⟩ : PV).bit i = (p.bit i ^^ decide (i < 3)) := by
  unfold PV.bit
  by_cases hi : i < 64
  · simp only [if_pos hi, UInt64.toNat_xor, Nat.testBit_xor]
    exact congrArg _ (Nat.testBit_two_pow_sub_one 3 i)
  · simp only [if_neg hi]
    rw [decide_eq_false (by omega : ¬ i < 3), Bool.xor_false]

theorem and3_iff (p : PV) : p.lo &&& 3 = 3 ↔ (p.bit 0 = true ∧ p.bit 1 = true) := by
  unfold PV.bit
  rw [if_pos (by decide), if_pos (by decide), ← UInt64.toNat_inj, UInt64.toNat_and,
    show (3 : UInt64).toNat = 3 from rfl, Nat.testBit_zero, Nat.testBit_succ, Nat.testBit_zero]
  have e : p.lo.toNat &&& 3 = p.lo.toNat % 4 := Nat.and_two_pow_sub_one_eq_mod _ 2
  rw [e]
  simp only [decide_eq_true_eq]
  omega

theorem eq_one_iff (p : PV) : p = PV.one ↔ ∀ i, p.bit i = decide (i = 0) := by
  constructor
  · intro h i
    subst h
    unfold PV.bit PV.one
    by_cases hi : i < 64
    · rw [if_pos hi]; exact tb_one i
    · rw [if_neg hi, tb_zero, decide_eq_false (by omega : ¬ i = 0)]
  · intro h
    have hlo : p.lo = 1 := by
      apply UInt64.toNat_inj.mp
      apply Nat.eq_of_testBit_eq
      intro i
      rw [show (1 : UInt64).toNat = 1 from rfl, tb_one]
      by_cases hi : i < 64
      · rw [← p.bit_lo hi, h i]
      · rw [tb_ge _ (by omega), decide_eq_false (by omega : ¬ i = 0)]
    have hhi : p.hi = 0 := eq_zero_of_tb fun j _ => by
      rw [← p.bit_hi, h (j + 64), decide_eq_false (by omega : ¬ j + 64 = 0)]
    cases p
    subst hlo hhi
    rfl

theorem ctzAux_spec : ∀ (f x t : Nat), x < 2 ^ f → x.testBit t = true →
    (∀ j, j < t → x.testBit j = false) → ctzAux f x = t := by
  intro f
  induction f with
  | zero =>
    intro x t hx hb _
    have : x = 0 := by omega
    subst this
    simp at hb
  | succ f ih =>
    intro x t hx hb hmin
    unfold ctzAux
    cases t with
    | zero =>
      rw [Nat.testBit_zero, decide_eq_true_eq] at hb
      rw [if_pos hb]
    | succ t =>
      have h0 := hmin 0 (by omega)
      rw [Nat.testBit_zero, decide_eq_false_iff_not] at h0
      rw [if_neg h0, ih (x / 2) t (by rw [Nat.pow_succ] at hx; omega)
        (by rw [← Nat.testBit_succ]; exact hb)
        (fun j hj => by rw [← Nat.testBit_succ]; exact hmin (j + 1) (by omega))]
      omega

theorem tb_pred_odd {x : Nat} (hx : x % 2 = 1) (j : Nat) :
    (x - 1).testBit j = (decide (j ≠ 0) && x.testBit j) := by
  cases j with
  | zero =>
    rw [Nat.testBit_zero, decide_eq_false (by omega : ¬ (x - 1) % 2 = 1)]
    rfl
  | succ j =>
    rw [Nat.testBit_succ, Nat.testBit_succ, (by omega : (x - 1) / 2 = x / 2),
      decide_eq_true (by omega : j + 1 ≠ 0), Bool.true_and]

theorem lo_odd {p : PV} (h0 : p.bit 0 = true) : p.lo.toNat % 2 = 1 :=
  Nat.mod_two_eq_one_iff_testBit_zero.mpr h0

theorem toNat_lo_pred {p : PV} (h0 : p.bit 0 = true) : (p.lo - 1).toNat = p.lo.toNat - 1 := by
  have ho := lo_odd h0
  rw [UInt64.toNat_sub_of_le _ _ (by rw [UInt64.le_iff_toNat_le]; show 1 ≤ p.lo.toNat; omega)]
  rfl

theorem tb_lo_pred {p : PV} (h0 : p.bit 0 = true) (j : Nat) :
    (p.lo - 1).toNat.testBit j = (decide (j ≠ 0) && p.lo.toNat.testBit j) := by
  rw [toNat_lo_pred h0, tb_pred_odd (lo_odd h0)]

theorem ne_zero_of_tb {x : UInt64} {j : Nat} (h : x.toNat.testBit j = true) : x ≠ 0 := by
  intro e
  subst e
  rw [tb_zero] at h
  exact Bool.false_ne_true h

theorem ctz64_spec {x : UInt64} {t : Nat} (hb : x.toNat.testBit t = true)
    (hmin : ∀ j, j < t → x.toNat.testBit j = false) : ctz64 x = t := by
  unfold ctz64
  rw [if_neg (ne_zero_of_tb hb)]
  exact ctzAux_spec 64 _ t x.toNat_lt hb hmin

theorem lo_pred_low {p : PV} {t : Nat} (h0 : p.bit 0 = true) (ht : t ≤ 64)
    (hmin : ∀ j, 0 < j → j < t → p.bit j = false) (j : Nat) (hj : j < t) : (p.lo - 1).toNat.testBit j = false := by
  rw [tb_lo_pred h0, ← p.bit_lo (by omega)]
  by_cases hj0 : j = 0
  · rw [decide_eq_false (by omega : ¬ j ≠ 0)]; rfl
  · rw [hmin j (by omega) hj, Bool.and_false]

theorem ntz64_lo {fx : Fixes} (hfx : fx.ctz64 = true) {p : PV} {t : Nat} (h0 : p.bit 0 = true)
    (ht : 0 < t) (ht64 : t < 64) (hb : p.bit t = true)
    (hmin : ∀ j, 0 < j → j < t → p.bit j = false) : ntz fx (p.lo - 1) = t := by
  unfold ntz
  rw [hfx, if_pos rfl]
  apply ctz64_spec
  · rw [tb_lo_pred h0, decide_eq_true (by omega : t ≠ 0), Bool.true_and, ← p.bit_lo ht64, hb]
  · exact lo_pred_low h0 (by omega) hmin

theorem lo_pred_eq_zero {p : PV} {t : Nat} (h0 : p.bit 0 = true) (ht64 : 64 ≤ t)
    (hmin : ∀ j, 0 < j → j < t → p.bit j = false) : p.lo - 1 = 0 :=
  eq_zero_of_tb (lo_pred_low h0 (Nat.le_refl _) fun j h1 h2 => hmin j h1 (by omega))

theorem ctz64_hi {p : PV} {t : Nat} (ht64 : 64 ≤ t) (hb : p.bit t = true)
    (hmin : ∀ j, 0 < j → j < t → p.bit j = false) : ctz64 p.hi = t - 64 := by
  apply ctz64_spec
  · rw [← p.bit_hi, Nat.sub_add_cancel ht64, hb]
  · intro j hj
    rw [← p.bit_hi, hmin (j + 64) (by omega) (by omega)]

theorem ntz64_zero {fx : Fixes} (hfx : fx.ctz64 = true) : ntz fx 0 = 0 := by
  unfold ntz; rw [hfx, if_pos rfl]; rfl

/-- repaired `ntz`, the next set bit at distance `t`: `pntz` answers `t` — except that the code without the `pntz`
    repair, sent to its second half by `p[0] - 1 = 0`, takes `64 + ntz(p[1]) = 64 + 0` for "nothing found" -/
theorem pntz_next (fx : Fixes) (hfx : fx.ctz64 = true) (p : PV) (t : Nat) (h0 : p.bit 0 = true) (ht : 0 < t)
    (hb : p.bit t = true) (hmin : ∀ j, 0 < j → j < t → p.bit j = false) :
    pntz fx p = if fx.pntzGap = false ∧ t = 64 then 0 else t := by
  by_cases ht64 : t < 64
  · unfold pntz
    simp only [ntz64_lo hfx h0 ht ht64 hb hmin]
    rw [if_pos (by omega), if_neg (by omega)]
  · have e2 : ntz fx p.hi = t - 64 := by
      unfold ntz; rw [hfx, if_pos rfl]; exact ctz64_hi (by omega) hb hmin
    have hne : p.hi ≠ 0 := ne_zero_of_tb (j := t - 64) (by rw [← p.bit_hi, Nat.sub_add_cancel (by omega), hb])
    unfold pntz
    simp only [lo_pred_eq_zero h0 (by omega : 64 ≤ t) hmin, ntz64_zero hfx, e2]
    rw [if_neg (by omega)]
    cases fx.pntzGap with
    | true => rw [if_pos rfl, if_pos hne, if_neg (by simp)]; omega
    | false =>
      rw [if_neg (by decide)]
      by_cases h64 : t = 64
      · rw [if_neg (by omega), if_pos ⟨rfl, h64⟩]
      · rw [if_pos (by omega), if_neg (by simp [h64])]; omega

/-- `pntz` = distance from bit 0 to the next set bit (repaired `ntz`: whole 64-bit word, 0 for 0), with or without the
    `pntz` repair; NOT for `t = 64` when `pntzGap = false`: see `pntz_at64` -/
theorem pntz_spec64_partial (fx : Fixes) (hfx : fx.ctz64 = true) (p : PV) (t : Nat) (h0 : p.bit 0 = true)
    (ht : 0 < t) (h64 : t ≠ 64) (hb : p.bit t = true)
    (hmin : ∀ j, 0 < j → j < t → p.bit j = false) : pntz fx p = t := by
  rw [pntz_next fx hfx p t h0 ht hb hmin, if_neg fun h => h64 h.2]

/-- repaired `pntz` (`p[1] != 0` tested itself) and repaired `ntz`: `pntz` = distance from bit 0 to the next set bit of the
    two-word vector, for EVERY distance (1 … 127; a set bit `t` has `t < 128`) -/
theorem pntz_spec64 (fx : Fixes) (hfx : fx.ctz64 = true) (hgap : fx.pntzGap = true) (p : PV) (t : Nat) (h0 : p.bit 0 = true)
    (ht : 0 < t) (hb : p.bit t = true)
    (hmin : ∀ j, 0 < j → j < t → p.bit j = false) : pntz fx p = t := by
  rw [pntz_next fx hfx p t h0 ht hb hmin, if_neg (by simp [hgap])]

theorem pntz_none (fx : Fixes) (hfx : fx.ctz64 = true) (p : PV) (h0 : p.bit 0 = true)
    (hmin : ∀ j, 0 < j → p.bit j = false) : pntz fx p = 0 := by
  have hz := lo_pred_eq_zero (t := 64) h0 (Nat.le_refl 64) (fun j hj _ => hmin j hj)
  have hhi : p.hi = 0 := eq_zero_of_tb fun j _ => by rw [← p.bit_hi, hmin (j + 64) (by omega)]
  unfold pntz
  simp only [hz, hhi, ntz64_zero hfx]
  cases fx.pntzGap <;> rfl

/-- WITHOUT the `pntz` repair, the next set bit exactly 64 away (`p[0] = 1`, `p[1]` odd): `r = 64 + 0` is taken for
    "nothing found" -/
theorem pntz_at64 (fx : Fixes) (hfx : fx.ctz64 = true) (hgap : fx.pntzGap = false) (p : PV) (h0 : p.bit 0 = true)
    (hb : p.bit 64 = true) (hmin : ∀ j, 0 < j → j < 64 → p.bit j = false) : pntz fx p = 0 := by
  rw [pntz_next fx hfx p 64 h0 (by decide) hb hmin, if_pos ⟨hgap, rfl⟩]

theorem one_one_low (j : Nat) (hj0 : 0 < j) (hj : j < 64) : (⟨1, 1⟩ : PV).bit j = false := by
  rw [PV.bit_lo _ hj, show (1 : UInt64).toNat = 1 from rfl, tb_one, decide_eq_false (by omega : ¬ j = 0)]

/-- the statement without `t ≠ 64` does not hold of the code without the `pntz` repair: `p = {1, 1}` -/
theorem pntz_spec64_unrestricted_false :
    ¬ (∀ (fx : Fixes) (_ : fx.ctz64 = true) (p : PV) (t : Nat) (_ : p.bit 0 = true) (_ : 0 < t)
        (_ : p.bit t = true) (_ : ∀ j, 0 < j → j < t → p.bit j = false), pntz fx p = t) := by
  intro h
  have hb0 : (⟨1, 1⟩ : PV).bit 0 = true := by decide
  have hb64 : (⟨1, 1⟩ : PV).bit 64 = true := by decide
  have h1 := h ntzOvfFixed rfl ⟨1, 1⟩ 64 hb0 (by decide) hb64 one_one_low
  have h2 := pntz_at64 ntzOvfFixed rfl rfl ⟨1, 1⟩ hb0 hb64 one_one_low
  omega

theorem ctz32_spec {x : UInt64} {t : Nat} (ht : t < 32) (hb : x.toNat.testBit t = true)
    (hmin : ∀ j, j < t → x.toNat.testBit j = false) : ctz32 x = t := by
  unfold ctz32
  have hby : (x.toNat % 2 ^ 32).testBit t = true := by
    rw [Nat.testBit_mod_two_pow, decide_eq_true ht, Bool.true_and]; exact hb
  have hy : x.toNat % 2 ^ 32 ≠ 0 := by
    intro e
    rw [e] at hby
    simp at hby
  simp only [if_neg hy]
  apply ctzAux_spec 32 _ t (Nat.mod_lt _ (by decide)) hby
  intro j hj
  rw [Nat.testBit_mod_two_pow, hmin j hj, Bool.and_false]

theorem ctz32_zero {x : UInt64} (hmin : ∀ j, j < 32 → x.toNat.testBit j = false) : ctz32 x = 32 := by
  unfold ctz32
  have hy : x.toNat % 2 ^ 32 = 0 := by
    apply Nat.eq_of_testBit_eq
    intro i
    rw [Nat.testBit_mod_two_pow, Nat.zero_testBit]
    by_cases hi : i < 32
    · rw [hmin i hi, Bool.and_false]
    · rw [decide_eq_false hi, Bool.false_and]
  simp only [if_pos hy]

/-- `ntz` as the `int` builtin (`__builtin_ctz` on the low 32 bits, compiled to `tzcnt`: 32 for 0): `pntz` is right
    as long as the next set bit is at most 32 away; `pntz_witness` (Props/C16.lean) has it wrong at 33 -/
theorem pntz_spec32 (fx : Fixes) (hfx : fx.ctz64 = false) (p : PV) (t : Nat) (h0 : p.bit 0 = true)
    (ht : 0 < t) (ht32 : t ≤ 32) (hb : p.bit t = true)
    (hmin : ∀ j, 0 < j → j < t → p.bit j = false) : pntz fx p = t := by
  have hq := lo_pred_low h0 (by omega) hmin
  have e : ntz fx (p.lo - 1) = t := by
    unfold ntz
    rw [hfx, if_neg (by decide)]
    by_cases h32 : t < 32
    · apply ctz32_spec h32 _ hq
      rw [tb_lo_pred h0, decide_eq_true (by omega : t ≠ 0), Bool.true_and, ← p.bit_lo (by omega), hb]
    · have : t = 32 := by omega
      subst this
      exact ctz32_zero hq
  unfold pntz
  simp only [e]
  rw [if_pos (by omega)]

end SafeC.Sort
