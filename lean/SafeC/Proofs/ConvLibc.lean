import SafeC.Models.Conv
/-! C15: shape facts about the libc models: count vs. cells stored, never more than the limit -/
namespace SafeC.Conv.Libc

/-- count and cells stored: either (size_t)-1, or count ≤ |cells| ≤ count + 1 (the terminator is stored but not counted) -/
theorem mbsrtowcs_shape (loc : Locale) (mem : List Nat) (n : Nat) (ps : List Nat) :
    (mbsrtowcs loc false mem n ps).ret = SIZE_MAX ∨
      ((mbsrtowcs loc false mem n ps).ret ≤ (mbsrtowcs loc false mem n ps).out.length ∧
       (mbsrtowcs loc false mem n ps).out.length ≤ (mbsrtowcs loc false mem n ps).ret + 1) := by
  simp only [mbsrtowcs, Bool.false_eq_true, ↓reduceIte]
  generalize mbsLoop loc (mem.length + 1) mem 0 n ps [] Status.full = t
  obtain ⟨out, off, st, status⟩ := t
  simp only
  split
  · left; rfl
  · split
    · rename_i h
      right
      cases out with
      | nil => simp at h
      | cons x xs => simp
    · right; simp

theorem wcsrtombs_shape (loc : Locale) (mem : List Nat) (n : Nat) :
    (wcsrtombs loc false mem n).ret = SIZE_MAX ∨
      ((wcsrtombs loc false mem n).ret ≤ (wcsrtombs loc false mem n).out.length ∧
       (wcsrtombs loc false mem n).out.length ≤ (wcsrtombs loc false mem n).ret + 1) := by
  simp only [wcsrtombs, Bool.false_eq_true, ↓reduceIte]
  generalize gconvWc loc (List.take (strnlen mem n + 1) mem) n = g
  split
  · left; rfl
  · split
    · rename_i h
      right
      cases ho : g.out with
      | nil => simp [ho] at h
      | cons x xs => simp
    · right; simp

theorem mbMain_out_le (loc : Locale) (fuel : Nat) (inp : List Nat) (space : Nat) :
    (mbMain loc fuel inp space).out.length ≤ space := by
  induction fuel generalizing inp space with
  | zero => simp [mbMain]
  | succ fuel ih =>
    unfold mbMain
    split
    · simp
    · split
      · simp
      · split
        next ch n hb =>
          simp only [List.length_cons]
          have := ih (inp.drop n) (space - 1)
          omega
        · simp
        · simp

theorem gconvMb_out_le (loc : Locale) (pend inp : List Nat) (space : Nat) :
    (gconvMb loc pend inp space).out.length ≤ space := by
  unfold gconvMb
  split
  · exact mbMain_out_le _ _ _ _
  · split
    · simp
    · dsimp only
      split
      next ch n hb =>
        simp only [List.length_cons]
        have := mbMain_out_le loc (inp.length + 1) (inp.drop (n - pend.length)) (space - 1)
        omega
      · simp
      · simp

theorem mbsLoop_out_le (loc : Locale) (fuel : Nat) (rest : List Nat) (off len : Nat) (st out : List Nat) (status : Status) :
    (mbsLoop loc fuel rest off len st out status).1.length ≤ out.length + len := by
  induction fuel generalizing rest off len st out status with
  | zero => simp [mbsLoop]
  | succ fuel ih =>
    unfold mbsLoop
    split
    · simp
    · simp only
      have hg := gconvMb_out_le loc st (rest.take (strnlen rest len + 1)) len
      generalize gconvMb loc st (rest.take (strnlen rest len + 1)) len = g at hg
      split
      · have := ih (rest.drop g.used) (off + g.used) (len - g.out.length) g.st (out ++ g.out) g.status
        simp only [List.length_append] at this
        omega
      · simp only [List.length_append]; omega

theorem mbsrtowcs_out_le (loc : Locale) (mem : List Nat) (n : Nat) (ps : List Nat) :
    (mbsrtowcs loc false mem n ps).out.length ≤ n := by
  simp only [mbsrtowcs, Bool.false_eq_true, ↓reduceIte]
  have := mbsLoop_out_le loc (mem.length + 1) mem 0 n ps [] Status.full
  generalize mbsLoop loc (mem.length + 1) mem 0 n ps [] Status.full = t at this
  obtain ⟨out, off, st, status⟩ := t
  simp only [List.length_nil, Nat.zero_add] at this
  simp only
  split
  · exact this
  · split <;> exact this

theorem gconvWc_out_le (loc : Locale) (inp : List Nat) (space : Nat) : (gconvWc loc inp space).out.length ≤ space := by
  induction inp generalizing space with
  | nil => simp [gconvWc]
  | cons c cs ih =>
    unfold gconvWc
    split
    · simp
    · split
      · simp
      · split
        · simp
        next bs hb hfit =>
          simp only [List.length_append]
          have := ih (space - bs.length)
          omega

theorem wcsrtombs_out_le (loc : Locale) (mem : List Nat) (n : Nat) : (wcsrtombs loc false mem n).out.length ≤ n := by
  simp only [wcsrtombs, Bool.false_eq_true, ↓reduceIte]
  have := gconvWc_out_le loc (mem.take (strnlen mem n + 1)) n
  split
  · exact this
  · split <;> exact this

end SafeC.Conv.Libc
