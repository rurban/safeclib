import SafeC.Proofs.ExtStp
/-! The stp copy loops after a run known in advance, as `copySteps_fail` / `copySteps_done` for the bumper copy loops:
`stpLoop_run`, then `stpLoop_exit` — bumper ESOVRLP or no room ESNOSPC with dest cleared; terminator / `slen` used up EOK with
pointer `d + m`.  Only the source cells the loop gets to need be readable. -/
namespace SafeC
open Gen

/-- the run when no source cell is read after a store reached it: the values are the original ones -/
theorem stpLoop_steps (cfg : Cfg) (isN onDest : Bool) (B oD oM : Nat) (srcbos : Bos) (j0 : Nat) :
    ∀ (k d s slen : Nat) (st : St),
    (∀ a, st.mapped a = true ∧ st.rd a = true) → RW st d j0 → j0 ≤ k →
    (∀ j, j < j0 → st.data (s+j) ≠ 0) →
    (∀ i j, i < j → j < j0 → s + j ≠ d + i) →
    (∀ j, j < j0 → (if onDest then d + j else s + j) ≠ B) →
    (isN = true → j0 ≤ slen) →
    (∀ i, i < j0 → untermB srcbos (stpSlen isN slen (i+1)) = false) →
    ∃ st1, CopiedN st st1 d s j0 ∧
      ∀ k' d' s' slen', k' + j0 = k → d' = d + j0 → s' = s + j0 → slen' = stpSlen isN slen j0 →
        exec (stpLoop cfg isN onDest B oD oM srcbos k d s slen) st =
          exec (stpLoop cfg isN onDest B oD oM srcbos k' d' s' slen') st1 := by
  intro k d s slen st hall hrw hk hnz hcl hb hsl hun
  refine ⟨_, copiedN_copyN st d s j0 hcl, fun k' d' s' slen' h1 h2 h3 h4 => ?_⟩
  subst h2 h3 h4
  rw [stpLoop_run cfg isN onDest B oD oM srcbos k d s slen st j0 (fun _ _ => hall _) hrw hk
    (fun j hj => by rw [St.copied_data, copyN_src _ _ _ _ (fun i hi => hcl i j hi hj)]; exact hnz j hj) hb hsl hun,
    show k - j0 = k' from by omega]

/-- the failing exits: `g` continuing iterations, then the pointer compared equals the bumper (`g < k`: ESOVRLP)
or the `k` cells are used up (`g = k`: ESNOSPC) -/
theorem stpLoop_fail (cfg : Cfg) (isN onDest : Bool) (B oD oM : Nat) (hoM : 0 < oM) (srcbos : Bos)
    (k d s g slen : Nat) (st : St)
    (hrd : ∀ j, j < g → st.mapped (s+j) = true ∧ st.rd (s+j) = true)
    (hrw : RW st oD oM) (hinv : oD ≤ d ∧ d + k = oD + oM) (hgk : g ≤ k)
    (hnz : ∀ j, j < g → st.data (s+j) ≠ 0)
    (hcl : ∀ i j, i < j → j < g → s + j ≠ d + i)
    (hb : ∀ j, j < g → (if onDest then d + j else s + j) ≠ B)
    (hbg : g < k → (if onDest then d + g else s + g) = B)
    (hsl : isN = true → g ≤ slen)
    (hun : ∀ i, i < g → untermB srcbos (stpSlen isN slen (i+1)) = false) :
    ∃ st', exec (stpLoop cfg isN onDest B oD oM srcbos k d s slen) st =
        .ok ((0, if g < k then ESOVRLP else ESNOSPC), st') ∧
      ClearedPost cfg oD oM (if g < k then ESOVRLP else ESNOSPC) st st' := by
  have hst : k - g = 0 ∨ (if onDest then d + g else s + g) = B := by
    by_cases h : g < k
    · exact Or.inr (hbg h)
    · exact Or.inl (by omega)
  rw [stpLoop_run cfg isN onDest B oD oM srcbos k d s slen st g hrd (hrw.sub (by omega) (by omega)) hgk
    (fun j hj => by rw [St.copied_data, copyN_src _ _ _ _ (fun i hi => hcl i j hi hj)]; exact hnz j hj) hb hsl hun]
  obtain ⟨st', he, hp⟩ := (stpLoop_exit cfg isN onDest B oD oM srcbos (k - g) (d + g) (s + g) (stpSlen isN slen g)
    (st.copied d s g) (hst.imp id Or.inl)).1 hst hoM (RW.of_sameMeta (st.copied_sameMeta d s g) hrw)
  have hc : (if k - g = 0 then ESNOSPC else ESOVRLP) = if g < k then ESOVRLP else ESNOSPC := by
    by_cases h : g < k
    · rw [if_neg (by omega), if_pos h]
    · rw [if_pos (by omega), if_neg h]
  rw [hc] at he hp
  exact ⟨st', he, hp.of_run ⟨hinv.1, by omega⟩⟩

/-- the success exit: `m` continuing iterations, then the terminator is read (not overwritten before) or `slen` is
used up; the bumper is not met in these `m + 1` tests -/
theorem stpLoop_done (cfg : Cfg) (isN onDest : Bool) (B oD oM : Nat) (srcbos : Bos)
    (k d s m slen : Nat) (st : St)
    (hrd : ∀ j, j < m → st.mapped (s+j) = true ∧ st.rd (s+j) = true)
    (hrw : RW st d k) (hmk : m < k)
    (hnz : ∀ j, j < m → st.data (s+j) ≠ 0)
    (hcl : ∀ i j, i < j → j ≤ m → s + j ≠ d + i)
    (hb : ∀ j, j ≤ m → (if onDest then d + j else s + j) ≠ B)
    (hfin : ((isN = true → m < slen) ∧ st.data (s+m) = 0 ∧ st.mapped (s+m) = true ∧ st.rd (s+m) = true) ∨
      (isN = true ∧ slen = m))
    (hun : ∀ i, i < m → untermB srcbos (stpSlen isN slen (i+1)) = false) :
    ∃ st', exec (stpLoop cfg isN onDest B oD oM srcbos k d s slen) st = .ok ((d + m, EOK), st') ∧
      StpDone cfg d k s m st st' := by
  have hsl : isN = true → m ≤ slen := fun h => by
    rcases hfin with h1 | h1
    · have := h1.1 h; omega
    · omega
  have hcp := copiedN_copyN st d s m (fun i j h1 h2 => hcl i j h1 (by omega))
  have hsrc : (st.copied d s m).data (s + m) = st.data (s + m) :=
    copyN_src _ _ _ _ (fun i hi => hcl i m hi (Nat.le_refl _))
  rw [stpLoop_run cfg isN onDest B oD oM srcbos k d s slen st m hrd (fun i hi => hrw i (by omega)) (by omega)
    (fun j hj => by rw [St.copied_data, copyN_src _ _ _ _ (fun i hi => hcl i j hi (by omega))]; exact hnz j hj)
    (fun j hj => hb j (by omega)) hsl hun]
  have hz : (isN = true ∧ stpSlen isN slen m = 0) ∨ (st.copied d s m).data (s + m) = 0 :=
    hfin.elim (fun h => Or.inr (hsrc.trans h.2.1))
      (fun h => Or.inl ⟨h.1, by simp only [stpSlen, h.1, if_true]; omega⟩)
  obtain ⟨st', he, h⟩ := (stpLoop_exit cfg isN onDest B oD oM srcbos (k - m) (d + m) (s + m) (stpSlen isN slen m)
    (st.copied d s m) (hfin.elim (fun h => Or.inr (Or.inr (Or.inr ⟨h.2.2.1, h.2.2.2, Or.inl (hsrc.trans h.2.1)⟩)))
      (fun h => Or.inr (Or.inr (Or.inl ⟨h.1, by simp only [stpSlen, h.1, if_true]; omega⟩))))).2.1 (by omega)
    (hb m (Nat.le_refl _)) hz ((RW.of_sameMeta hcp.1 hrw).sub (by omega) (by omega))
  exact ⟨st', he, StpDone.of_eokAt hcp hmk h⟩

end SafeC
