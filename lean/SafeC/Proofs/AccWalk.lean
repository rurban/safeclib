import SafeC.Proofs.AccD
import SafeC.Proofs.Query
import SafeC.Models.Query
import SafeC.Models.Query2
import SafeC.Models.Inplace
import SafeC.Models.Timing
/-! `Acc` footprints of the shared checks and clearing primitives, and of the loops whose counter is tested before the cell is
read (`strnlen_s wcsnlen_s strrchr_s memchr_s memrchr_s`, the `memcmp` family, `wmemcmp_s`, `timingsafe_*`, the case mappers,
`strnterminate_s`).  Footprints are parameters (`hr : ∀ a, Cells p n a → R a`). -/
namespace SafeC
open Gen


variable {R W : Nat → Prop}

theorem Acc_failS {Q : Nat → Prop} (c : Nat) (h : Q c) : Acc R W (failS c) Q := by
  unfold failS; exact Acc.handlerSBind _ (Acc.pure _ h)
theorem Acc_failM {Q : Nat → Prop} (c : Nat) (h : Q c) : Acc R W (failM c) Q := by
  unfold failM; exact Acc.handlerMBind _ (Acc.pure _ h)

theorem Acc_memsetP (v n p : Nat) (hw : ∀ a, Cells p n a → W a) : Acc R W (memsetP v n p) (fun _ => True) := by
  induction n generalizing p with
  | zero => exact Acc.pure _ trivial
  | succ n ih =>
    exact Acc.storeBind (hw _ ⟨by omega, by omega⟩) (ih _ (fun a ha => hw a ha.within))

theorem Acc_zeroLoop (n p : Nat) (hw : ∀ a, Cells p n a → W a) : Acc R W (zeroLoop n p) (fun _ => True) := by
  rw [zeroLoop_eq_memsetP]; exact Acc_memsetP 0 n p hw

theorem Acc_nullSlack (dest dmax : Nat) (hw : ∀ a, Cells dest dmax a → W a) :
    Acc R W (nullSlack dest dmax) (fun _ => True) := by
  exact Acc.ite (fun _ => Acc_memsetP _ _ _ hw) fun _ => Acc_zeroLoop _ _ hw

/-- `handle_error`: the `len` cells at `p` with null-slack, the first cell without -/
theorem Acc_handleError (cfg : Cfg) (p len code : Nat) (hw : ∀ a, Cells p len a → W a) (h0 : W p) :
    Acc R W (handleError cfg p len code) (fun _ => True) := by
  unfold handleError
  exact Acc.ite (fun _ => Acc.bind (Acc_memsetP 0 len p hw) (fun _ _ => Acc.handlerSBind _ (Acc.pure _ trivial)))
    fun _ => Acc.storeBind h0 (Acc.handlerSBind _ (Acc.pure _ trivial))

theorem Acc_strnlenLoop_le (smax str count : Nat) (b : Bos) (hr : ∀ a, Cells str smax a → R a) :
    Acc R W (strnlenLoop smax str count b) (fun r => r ≤ count + smax) := by
  induction smax generalizing str count b with
  | zero => unfold strnlenLoop; exact Acc.pure _ (by omega)
  | succ n ih =>
    have h0 : R str := hr _ ⟨by omega, by omega⟩
    have tail : ∀ cnt bb, cnt = count + 1 → Acc R W (strnlenLoop n (str+1) cnt bb) (fun r => r ≤ count + (n+1)) :=
      fun cnt bb e => (ih (str+1) cnt bb (fun a ha => hr a ha.within)).conseq (fun r hr => by omega)
    refine Acc.loadBind h0 fun c => Acc.ite (fun _ => Acc.pure _ (by omega)) fun _ => ?_
    cases b with
    | none => exact tail _ _ rfl
    | some b => exact Acc.ite (fun _ => Acc.pure _ (by omega)) fun _ => tail _ _ rfl

theorem Acc_wcsnlenLoop_le (smax str count : Nat) (hr : ∀ a, Cells str smax a → R a) :
    Acc R W (wcsnlenLoop smax str count) (fun r => r ≤ count + smax) := by
  induction smax generalizing str count with
  | zero => unfold wcsnlenLoop; exact Acc.pure _ (by omega)
  | succ n ih =>
    refine Acc.loadBind (hr _ ⟨by omega, by omega⟩) (fun c => ?_)
    exact Acc.ite (fun _ => Acc.pure _ (by omega)) fun _ =>
      (ih (str+1) (count+1) (fun a ha => hr a ha.within)).conseq (fun r h => by omega)

theorem Acc_strnlen_s_le (str smax : Nat) (b : Bos) (hr : str ≠ 0 → ∀ a, Cells str smax a → R a) :
    Acc R W (strnlen_s str smax b) (fun r => r ≤ smax) := by
  have fail : ∀ c, Acc R W (do handlerS c; pure 0 : Prog Nat) (fun r => r ≤ smax) :=
    fun _ => Acc.handlerSBind _ (Acc.pure _ (Nat.zero_le _))
  exact Acc.ite (fun _ => fail _) fun hs => Acc.ite (fun _ => fail _) fun _ => Acc.ite (fun _ => fail _) fun _ =>
    (Acc_strnlenLoop_le smax str 0 b (hr hs)).conseq (fun r h => by omega)

theorem Acc_handleStrBosOverflow (cfg : Cfg) (p n : Nat) (hr : ∀ a, Cells p n a → R a)
    (hw : ∀ a, Cells p (max n 1) a → W a) : Acc R W (handleStrBosOverflow cfg p n) (fun _ => True) := by
  have h0 : W p := hw _ ⟨by omega, by omega⟩
  refine Acc.bind (Acc_strnlen_s_le p n none (fun _ => hr)) (fun len hlen => ?_)
  exact Acc.ite (fun _ => Acc.thenPure (Acc_handleError cfg p 1 _ (fun a ha => hw a ha.within) h0)) fun _ =>
    Acc.thenPure (Acc_handleError cfg p len _ (fun a ha => hw a ha.within) h0)

theorem Acc_memrchrP (c s n : Nat) (hr : ∀ a, Cells s n a → R a) : Acc R W (memrchrP c s n) (fun _ => True) := by
  induction n with
  | zero => exact Acc.pure _ trivial
  | succ n ih =>
    exact Acc.loadBind (hr _ ⟨by omega, by omega⟩) fun _ => Acc.ite (fun _ => Acc.pure _ trivial) fun _ =>
      ih (fun a ha => hr a ha.within)

theorem Acc_qChkM (dest dmax : Nat) (b : Bos) :
    Acc R W (qChkM dest dmax b) (fun r => r = none → dest ≠ 0) := by
  have fail : ∀ c, Acc R W (qFailM c) (fun r => r = none → dest ≠ 0) := fun c => by
    unfold qFailM; exact Acc.handlerMBind _ (Acc.pure _ (fun h => by cases h))
  refine Acc.ite (fun _ => fail _) fun hd => Acc.ite (fun _ => fail _) fun _ => ?_
  have ok : Acc R W (pure none : Prog (Option Nat)) (fun r => r = none → dest ≠ 0) := Acc.pure _ (fun _ => hd)
  exact Acc.bos (fun _ => Acc.ite (fun _ => fail _) fun _ => ok)
    (fun _ _ => Acc.ite (fun _ => Acc.ite (fun _ => fail _) fun _ => fail _) fun _ => ok)

theorem Acc_memrchr_s (dest dmax : Nat) (ch : Int) (b : Bos) (hr : dest ≠ 0 → ∀ a, Cells dest dmax a → R a) :
    Acc R W (memrchr_s dest dmax ch b) (fun _ => True) := by
  refine Acc.bind (Acc_qChkM dest dmax b) (fun x hx => ?_)
  cases x with
  | some e => exact Acc.pure _ trivial
  | none =>
    exact Acc.ite (fun _ => Acc.handlerSBind _ (Acc.pure _ trivial)) fun _ =>
      Acc.bind (Acc_memrchrP _ dest dmax (hr (hx rfl)))
        (fun r _ => Acc.ite (fun _ => Acc.pure _ trivial) fun _ => Acc.pure _ trivial)

theorem Acc_qChkS (dest dmax : Nat) (b : Bos) (src : Option Nat) :
    Acc R W (qChkS dest dmax b src)
      (fun r => r = none → dest ≠ 0 ∧ src ≠ some 0 ∧ dmax ≠ 0 ∧ (b = none → dmax ≤ RSIZE_MAX_STR)) := by
  rcases qChkS_cases dest dmax b src with ⟨h, hd, hs, hz, hn, _⟩ | ⟨c, _, h⟩ <;> rw [h]
  · exact Acc.pure _ fun _ => ⟨hd, hs, hz, hn⟩
  · unfold qFailS; exact Acc.handlerSBind _ (Acc.pure _ (fun h => by cases h))

/-- `strnlen_s` bounded by `dmax`, then `memrchr` over at most `dmax` cells -/
theorem Acc_strrchr_s (dest dmax : Nat) (ch : Int) (b : Bos) (hr : dest ≠ 0 → ∀ a, Cells dest dmax a → R a) :
    Acc R W (strrchr_s dest dmax ch b) (fun _ => True) := by
  refine Acc.bind (Acc_qChkS dest dmax b none) (fun x hx => ?_)
  cases x with
  | some e => exact Acc.pure _ trivial
  | none =>
    have fail : ∀ c, Acc R W (do handlerS c; pure (c, 0) : Prog (Nat × Nat)) (fun _ => True) :=
      fun _ => Acc.handlerSBind _ (Acc.pure _ trivial)
    refine Acc.ite (fun _ => fail _) fun _ => Acc.ite (fun _ => fail _) fun _ =>
      Acc.bind (Acc_strnlen_s_le dest dmax none hr) fun len hlen => Acc.ite (fun _ => ?_) fun _ => Acc.pure _ trivial
    refine Acc_memrchr_s dest _ ch none (fun h a ⟨h1, h2⟩ => hr h a ⟨h1, ?_⟩)
    split at h2 <;> omega

theorem Acc_qFailM (c : Nat) : Acc R W (qFailM c) (fun r => r ≠ none) := by
  exact Acc.bind (Acc.handlerM c) (fun _ _ => Acc.pure _ (by simp))

theorem Acc_wcsnlenBosLoop (orig smax str count b : Nat) (hr : ∀ a, Cells str smax a → R a) :
    Acc R W (wcsnlenBosLoop orig smax str count b) (fun _ => True) := by
  induction smax generalizing str count b with
  | zero => exact Acc.pure _ trivial
  | succ n ih =>
    exact Acc.loadBind (hr _ ⟨Nat.le_refl _, by omega⟩) fun c => Acc.ite (fun _ => Acc.pure _ trivial) fun _ =>
      Acc.ite (fun _ => Acc.pure _ trivial) fun _ => ih (str+1) _ _ (fun a ha => hr a ha.within)

theorem Acc_memchrP (c n s : Nat) (hr : ∀ a, Cells s n a → R a) : Acc R W (memchrP c n s) (fun _ => True) := by
  induction n generalizing s with
  | zero => exact Acc.pure _ trivial
  | succ n ih =>
    exact Acc.loadBind (hr _ ⟨Nat.le_refl _, by omega⟩) fun v => Acc.ite (fun _ => Acc.pure _ trivial) fun _ =>
      ih (s+1) (fun a ha => hr a ha.within)

theorem Acc_memcmpLoopQ (f : Nat → Nat → Int) (dmax slen dp sp : Nat)
    (hd : ∀ a, Cells dp (min dmax slen) a → R a) (hs : ∀ a, Cells sp (min dmax slen) a → R a) :
    Acc R W (memcmpLoopQ f dmax slen dp sp) (fun _ => True) := by
  induction dmax generalizing slen dp sp with
  | zero => unfold memcmpLoopQ; exact Acc.pure _ trivial
  | succ n ih =>
    cases slen with
    | zero => unfold memcmpLoopQ; exact Acc.pure _ trivial
    | succ m =>
      have hmin : min (n+1) (m+1) = min n m + 1 := by omega
      rw [hmin] at hd hs
      exact Acc.loadBind (hd _ ⟨Nat.le_refl _, by omega⟩) fun a => Acc.loadBind (hs _ ⟨Nat.le_refl _, by omega⟩) fun b =>
        Acc.ite (fun _ => Acc.pure _ trivial) fun _ =>
          ih m (dp+1) (sp+1) (fun a ha => hd a ha.within) (fun a ha => hs a ha.within)

theorem Acc_memcmpChecks (max dlen slen dB sB dL dL' : Nat) (db sb : Bos) :
    Acc R W (memcmpChecks max dlen slen dB sB dL dL' db sb) (fun r => r = none → slen ≤ dlen) := by
  have fail : ∀ c (P : Prop), Acc R W (qFailM c) (fun r => r = none → P) :=
    fun c P => (Acc_qFailM c).conseq (fun r hr h => absurd h hr)
  have failT : ∀ c, Acc R W (qFailM c) (fun _ => True) := fun c => (Acc_qFailM c).conseq (fun _ _ => trivial)
  -- one size against the limit or the known object size
  have chk : ∀ (b : Bos) (x y z : Nat), Acc R W (match b with
      | none => if x > max then qFailM ESLEMAX else pure none
      | some bos => if y > bos then (if z > max then qFailM ESLEMAX else qFailM EOVERFLOW) else pure none : Prog (Option Nat))
      (fun _ => True) := fun b x y z =>
    Acc.bos (fun _ => Acc.ite (fun _ => failT _) fun _ => Acc.pure _ trivial)
      (fun _ _ => Acc.ite (fun _ => Acc.ite (fun _ => failT _) fun _ => failT _) fun _ => Acc.pure _ trivial)
  refine Acc.bind (chk db dL dB dL') (fun x _ => ?_)
  cases x with
  | some e => exact Acc.pure _ (by simp)
  | none =>
    refine Acc.ite (fun _ => fail _ _) fun _ => Acc.bind (chk sb slen sB slen) (fun y _ => ?_)
    cases y with
    | some e => exact Acc.pure _ (by simp)
    | none => exact Acc.ite (fun _ => fail _ _) fun hle => Acc.pure _ (fun _ => by omega)

theorem Acc_wmemcmpLoop (dlen slen dp sp : Nat)
    (hd : ∀ a, Cells dp (min dlen slen) a → R a) (hs : ∀ a, Cells sp (min dlen slen) a → R a) :
    Acc R W (wmemcmpLoop dlen slen dp sp) (fun _ => True) := by
  induction dlen generalizing slen dp sp with
  | zero => unfold wmemcmpLoop; exact Acc.pure _ trivial
  | succ n ih =>
    refine Acc.ite (fun _ => Acc.pure _ trivial) fun _ => ?_
    exact Acc.loadBind (hd _ ⟨by omega, by omega⟩) fun _ => Acc.loadBind (hs _ ⟨by omega, by omega⟩) fun _ =>
      Acc.ite (fun _ => Acc.pure _ trivial) fun _ =>
        ih _ _ _ (fun a ha => hd a ha.within) (fun a ha => hs a ha.within)

theorem Acc_wmemcmp_s (dest dlen src slen : Nat) (db sb : Bos)
    (hd : dest ≠ 0 → slen ≤ dlen → ∀ a, Cells dest slen a → R a) (hs : src ≠ 0 → ∀ a, Cells src slen a → R a) :
    Acc R W (wmemcmp_s dest dlen src slen db sb) (fun _ => True) := by
  unfold wmemcmp_s
  extract_lets fail dmax smax rest2 rest
  have fail : ∀ e, Acc R W (fail e) (fun _ => True) := fun e => Acc.handlerMBind _ (Acc.pure _ trivial)
  refine Acc.ite (fun _ => fail _) fun h1 => Acc.ite (fun _ => fail _) fun h2 => Acc.ite (fun _ => fail _) fun _ => ?_
  have rest2 : Acc R W rest2 (fun _ => True) := by
    refine Acc.ite (fun _ => fail _) fun hle => Acc.ite (fun _ => Acc.pure _ trivial) fun _ => ?_
    have hm : min dlen slen = slen := by omega
    exact Acc.bind (Acc_wmemcmpLoop dlen slen dest src (by rw [hm]; exact hd h1 (by omega)) (by rw [hm]; exact hs h2))
      (fun _ _ => Acc.pure _ trivial)
  have rest : Acc R W rest (fun _ => True) :=
    Acc.ite (fun _ => fail _) fun _ => Acc.bos (fun _ => Acc.ite (fun _ => fail _) fun _ => rest2)
      (fun _ _ => Acc.ite (fun _ => fail _) fun _ => rest2)
  exact Acc.bos (fun _ => Acc.ite (fun _ => fail _) fun _ => rest)
    (fun _ _ => Acc.ite (fun _ => Acc.ite (fun _ => fail _) fun _ => fail _) fun _ => rest)

theorem Acc_bcmpLoop (n p1 p2 ret : Nat) (h1 : ∀ a, Cells p1 n a → R a) (h2 : ∀ a, Cells p2 n a → R a) :
    Acc R W (bcmpLoop n p1 p2 ret) (fun _ => True) := by
  induction n generalizing p1 p2 ret with
  | zero => unfold bcmpLoop br; exact Acc.emitBind _ (Acc.pure _ trivial)
  | succ n ih =>
    exact Acc.emitBind _ <| Acc.loadBind (h1 _ ⟨by omega, by omega⟩) fun _ => Acc.loadBind (h2 _ ⟨by omega, by omega⟩) fun _ =>
      ih _ _ _ (fun a ha => h1 a ha.within) (fun a ha => h2 a ha.within)

theorem Acc_memcmpLoop (n p1 p2 : Nat) (res done : Int32) (h1 : ∀ a, Cells p1 n a → R a) (h2 : ∀ a, Cells p2 n a → R a) :
    Acc R W (memcmpLoop n p1 p2 res done) (fun _ => True) := by
  induction n generalizing p1 p2 res done with
  | zero => unfold memcmpLoop br; exact Acc.emitBind _ (Acc.pure _ trivial)
  | succ n ih =>
    exact Acc.emitBind _ <| Acc.loadBind (h1 _ ⟨by omega, by omega⟩) fun _ => Acc.loadBind (h2 _ ⟨by omega, by omega⟩) fun _ =>
      ih _ _ _ _ (fun a ha => h1 a ha.within) (fun a ha => h2 a ha.within)

theorem Acc_tsChecks (n : Nat) (db sb : Bos) : Acc R W (tsChecks n db sb) (fun _ => True) := by
  unfold tsChecks br
  have fail : Acc R W (do handlerM ESLEMAX; pure (some (-(ESLEMAX : Int))) : Prog (Option Int)) (fun _ => True) :=
    Acc.handlerMBind _ (Acc.pure _ trivial)
  extract_lets c1 c2 rest
  have hrest : ∀ u, Acc R W (rest u) (fun _ => True) := fun _ => Acc.ite (fun _ => fail) fun _ => Acc.pure _ trivial
  refine Acc.emitBind _ (Acc.ite (fun _ => fail) fun _ => ?_)
  cases sb with
  | none => exact hrest ()
  | some _ => exact Acc.emitBind _ (hrest ())

theorem Acc_timingsafe_bcmp (b1 b2 n : Nat) (db sb : Bos) (h1 : ∀ a, Cells b1 n a → R a) (h2 : ∀ a, Cells b2 n a → R a) :
    Acc R W (timingsafe_bcmp b1 b2 n db sb) (fun _ => True) := by
  refine Acc.bind (Acc_tsChecks n db sb) (fun x _ => ?_)
  cases x with
  | some r => exact Acc.pure _ trivial
  | none => exact Acc.bind (Acc_bcmpLoop n b1 b2 0 h1 h2) (fun _ _ => Acc.pure _ trivial)

theorem Acc_timingsafe_memcmp (b1 b2 n : Nat) (db sb : Bos) (h1 : ∀ a, Cells b1 n a → R a) (h2 : ∀ a, Cells b2 n a → R a) :
    Acc R W (timingsafe_memcmp b1 b2 n db sb) (fun _ => True) := by
  refine Acc.bind (Acc_tsChecks n db sb) (fun x _ => ?_)
  cases x with
  | some r => exact Acc.pure _ trivial
  | none => exact Acc.bind (Acc_memcmpLoop n b1 b2 0 0 h1 h2) (fun _ _ => Acc.pure _ trivial)

theorem Acc_caseLoop (lo' hi' : Nat) (f : Nat → Nat) (dmax dest : Nat)
    (hr : ∀ a, Cells dest dmax a → R a) (hw : ∀ a, Cells dest dmax a → W a) :
    Acc R W (caseLoop lo' hi' f dmax dest) (fun _ => True) := by
  induction dmax generalizing dest with
  | zero => exact Acc.pure _ trivial
  | succ k ih =>
    have hin : Cells dest (k+1) dest := ⟨Nat.le_refl _, by omega⟩
    have tail := ih (dest+1) (fun a ha => hr a ha.within) (fun a ha => hw a ha.within)
    -- `*dest` is loaded afresh for each test; the store happens only for a character in the range
    refine Acc.loadBind (hr _ hin) fun c => Acc.ite (fun _ => Acc.pure _ trivial) fun _ => ?_
    refine Acc.loadBind (hr _ hin) fun c1 => Acc.ite (fun _ => ?_) fun _ => tail
    refine Acc.loadBind (hr _ hin) fun c2 => Acc.ite (fun _ => ?_) fun _ => tail
    exact Acc.loadBind (hr _ hin) fun c3 => Acc.storeBind (hw _ hin) tail

theorem Acc_ntermLoop (k dest count : Nat) (hr : ∀ a, Cells dest k a → R a) :
    Acc R W (ntermLoop k dest count) (fun r => dest ≤ r.1 ∧ r.1 ≤ dest + k) := by
  induction k generalizing dest count with
  | zero => unfold ntermLoop; exact Acc.pure _ ⟨by omega, by omega⟩
  | succ n ih =>
    have h0 : R dest := hr _ ⟨by omega, by omega⟩
    refine Acc.loadBind h0 fun c => Acc.ite (fun _ => ?_) fun _ => Acc.pure _ ⟨by omega, by omega⟩
    exact (ih (dest+1) (count+1) (fun a ha => hr a ha.within)).conseq (fun r ⟨h1, h2⟩ => ⟨by omega, by omega⟩)

theorem Acc_strnterminate_s (cfg : Cfg) (dest dmax : Nat) (b : Bos)
    (hr : dest ≠ 0 → ∀ a, Cells dest (dmax-1) a → R a) (hw : dest ≠ 0 → ∀ a, Cells dest dmax a → W a) :
    Acc R W (strnterminate_s cfg dest dmax b) (fun _ => True) := by
  have fail : ∀ c, Acc R W (do handlerS c; pure 0 : Prog Nat) (fun _ => True) :=
    fun _ => Acc.handlerSBind _ (Acc.pure _ trivial)
  refine Acc.ite (fun _ => fail _) fun h1 => Acc.ite (fun _ => fail _) fun h2 => ?_
  extract_lets body
  have body : Acc R W body (fun _ => True) := by
    refine Acc.bind (Acc_ntermLoop (dmax-1) dest 0 (hr h1)) (fun r hr' => ?_)
    obtain ⟨r1, r2⟩ := r
    obtain ⟨g1, g2⟩ := hr'
    exact Acc.storeBind (hw h1 _ ⟨g1, by simp only at g2; omega⟩) (Acc.pure _ trivial)
  exact Acc.bos (fun _ => Acc.ite (fun _ => fail _) fun _ => body) (fun _ _ => Acc.ite (fun _ => fail _) fun _ => body)

end SafeC
