import SafeC.Proofs.WW
import SafeC.Proofs.Footprint
/-!
# `SW lo hi p Q`: the SEMANTIC store-address judgement of C01

On every memory where all cells are mapped and readable (with ARBITRARY contents) and `[lo, hi)` is writable, `p` runs to
completion, returns a value satisfying `Q`, keeps mapping and permissions, records no stray WRITE and leaves every cell outside
`[lo, hi)` bit-identical.  It is what a footprint theorem gives when loads are allowed anywhere and stores in the window
`Win lo hi`, for every content (`SW.of_AccS`, `SW.of_Acc`, `SW.of_WW`), and it composes like a Hoare triple (`SW.bind`, `SW.ite`,
`SW.conseq`).  The C01 statements do not pass through it: they are read off the footprint theorems directly (`holds_of_AccS` in
`Props/C01.lean`).
-/
namespace SafeC

def SW (lo hi : Nat) {α : Type} (p : Prog α) (Q : α → Prop) : Prop :=
  ∀ st : St, (∀ a, st.mapped a = true ∧ st.rd a = true) → (∀ a, lo ≤ a → a < hi → st.wr a = true) →
    ∃ r st', exec p st = .ok (r, st') ∧ Q r ∧ st'.mapped = st.mapped ∧ st'.wr = st.wr ∧ st'.rd = st.rd ∧
      (∀ x ∈ st'.strays, x ∈ st.strays ∨ x.isWrite = false) ∧
      (∀ a, ¬ (lo ≤ a ∧ a < hi) → st'.data a = st.data a)

def Win (lo hi a : Nat) : Prop := lo ≤ a ∧ a < hi

theorem Win.of_cells {lo hi p n a : Nat} (h : Cells p n a) (hlo : lo ≤ p := by omega) (hhi : p + n ≤ hi := by omega) :
    Win lo hi a := ⟨Nat.le_trans hlo h.1, Nat.lt_of_lt_of_le h.2 hhi⟩

namespace SW

/-- introduction and elimination: the definition is sealed at the end of the file, an `SW` fact is used through `elim` -/
theorem mk {lo hi : Nat} {α} {p : Prog α} {Q : α → Prop}
    (h : ∀ st : St, (∀ a, st.mapped a = true ∧ st.rd a = true) → (∀ a, lo ≤ a → a < hi → st.wr a = true) →
      ∃ r st', exec p st = .ok (r, st') ∧ Q r ∧ st'.mapped = st.mapped ∧ st'.wr = st.wr ∧ st'.rd = st.rd ∧
        (∀ x ∈ st'.strays, x ∈ st.strays ∨ x.isWrite = false) ∧
        (∀ a, ¬ (lo ≤ a ∧ a < hi) → st'.data a = st.data a)) : SW lo hi p Q := h

theorem elim {lo hi : Nat} {α} {p : Prog α} {Q : α → Prop} (h : SW lo hi p Q) (st : St)
    (hall : ∀ a, st.mapped a = true ∧ st.rd a = true) (hw : ∀ a, lo ≤ a → a < hi → st.wr a = true) :
    ∃ r st', exec p st = .ok (r, st') ∧ Q r ∧ st'.mapped = st.mapped ∧ st'.wr = st.wr ∧ st'.rd = st.rd ∧
      (∀ x ∈ st'.strays, x ∈ st.strays ∨ x.isWrite = false) ∧
      (∀ a, ¬ (lo ≤ a ∧ a < hi) → st'.data a = st.data a) := h st hall hw

theorem of_AccS {lo hi : Nat} {α} {p : Prog α} {Q : α → Prop}
    (h : ∀ d, AccS (fun _ => True) (Win lo hi) d p (fun r _ => Q r)) : SW lo hi p Q := by
  refine mk fun st hall hw => ?_
  obtain ⟨r, st', he, ⟨hq, hf⟩, hs⟩ := (h st.data).frame.sound st rfl (fun a _ => hall a)
    (fun a ha => ⟨(hall a).1, hw a ha.1 ha.2⟩)
  obtain ⟨p1, p2, p3⟩ := exec_perm _ _ he
  exact ⟨r, st', he, hq, p1, p3, p2, fun x hx => Or.inl (hs ▸ hx), hf⟩

theorem of_Acc {lo hi : Nat} {α} {p : Prog α} {Q : α → Prop} (h : Acc (fun _ => True) (Win lo hi) p Q) : SW lo hi p Q :=
  of_AccS fun d => AccS.of_Acc h d

theorem of_WW {lo hi : Nat} {α} {p : Prog α} {Q : α → Prop} (h : WW lo hi p Q) : SW lo hi p Q := of_Acc h.toAcc

theorem ret {lo hi : Nat} {α} {Q : α → Prop} (x : α) (h : Q x) : SW lo hi (Prog.ret x : Prog α) Q :=
  of_WW (WW.ret x h)

theorem bind {lo hi : Nat} {α β} {p : Prog α} {f : α → Prog β} {Q : α → Prop} {R : β → Prop}
    (hp : SW lo hi p Q) (hf : ∀ x, Q x → SW lo hi (f x) R) : SW lo hi (p >>= f) R := by
  intro st hall hw
  obtain ⟨r, s1, he, hq, m1, w1, r1, y1, d1⟩ := hp st hall hw
  obtain ⟨r2, s2, he2, hq2, m2, w2, r2', y2, d2⟩ := hf r hq s1 (by rw [m1, r1]; exact hall) (by rw [w1]; exact hw)
  refine ⟨r2, s2, by rw [exec_bind, he]; exact he2, hq2, m2.trans m1, w2.trans w1, r2'.trans r1, ?_, ?_⟩
  · intro x hx
    rcases y2 x hx with h | h
    · exact y1 x h
    · exact Or.inr h
  · intro a ha; rw [d2 a ha, d1 a ha]

theorem conseq {lo hi : Nat} {α} {p : Prog α} {Q Q' : α → Prop} (hp : SW lo hi p Q) (h : ∀ x, Q x → Q' x) :
    SW lo hi p Q' := by
  intro st hall hw
  obtain ⟨r, s1, he, hq, rest⟩ := hp st hall hw
  exact ⟨r, s1, he, h r hq, rest⟩

theorem mono {lo hi lo' hi' : Nat} {α} {p : Prog α} {Q : α → Prop} (hp : SW lo hi p Q) (h1 : lo' ≤ lo) (h2 : hi ≤ hi') :
    SW lo' hi' p Q := by
  intro st hall hw
  obtain ⟨r, s1, he, hq, m1, w1, r1, y1, d1⟩ := hp st hall (fun a ha hb => hw a (by omega) (by omega))
  exact ⟨r, s1, he, hq, m1, w1, r1, y1, fun a ha => d1 a (by omega)⟩

theorem ite {lo hi : Nat} {α} {Q : α → Prop} {c : Prop} [Decidable c] {p q : Prog α}
    (hp : c → SW lo hi p Q) (hq : ¬ c → SW lo hi q Q) : SW lo hi (if c then p else q) Q := by
  split
  · exact hp ‹_›
  · exact hq ‹_›

theorem weaken {lo hi : Nat} {α} {p : Prog α} {Q : α → Prop} (hp : SW lo hi p Q) : SW lo hi p (fun _ => True) :=
  hp.conseq (fun _ _ => trivial)

theorem emitP {lo hi : Nat} (e : Event) : SW lo hi (SafeC.emit e) (fun _ => True) := of_WW (WW.emitP e)
theorem nullSlack {lo hi : Nat} (d n : Nat) (h : n = 0 ∨ (lo ≤ d ∧ d + n ≤ hi)) :
    SW lo hi (SafeC.nullSlack d n) (fun _ => True) := by
  rcases h with rfl | ⟨h1, h2⟩
  · unfold SafeC.nullSlack
    exact of_WW (WW.ite (fun _ => WW.pure _ trivial) fun _ => by rw [zeroLoop_eq_memsetP]; exact WW.pure _ trivial)
  · exact of_WW (WW.nullSlack d n h1 h2)
/-- `handle_error`: `len` cells with null-slack, `dest[0]` without -/
theorem handleError {lo hi : Nat} (cfg : Cfg) (d len code : Nat) (h1 : lo ≤ d) (h2 : d + len ≤ hi) (h3 : d < hi) :
    SW lo hi (SafeC.handleError cfg d len code) (fun _ => True) := of_WW (WW.handleError cfg d len code h1 h2 h3)

end SW

attribute [irreducible] SW

end SafeC
