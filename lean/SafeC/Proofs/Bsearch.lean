import SafeC.Models.Sort
/-! # bsearch_s loop: found iff present (partitioned array), probes in range, probe count -/
namespace SafeC.Sort

/-- worst-case number of probes of the loop for a window of `m` elements (the right branch keeps `m - m/2`) -/
def steps : Nat → Nat → Nat
  | 0, _ => 0
  | f + 1, m => if m = 0 then 0 else if m = 1 then 1 else 1 + steps f (m - m / 2)

theorem steps_bound : ∀ (f m : Nat), 2 ≤ m → 2 ^ (steps f m - 1) ≤ 2 * (m - 1)
  | 0, m, h => by simp [steps]; omega
  | f + 1, m, h => by
    unfold steps
    have h0 : m ≠ 0 := by omega
    have h1 : m ≠ 1 := by omega
    simp only [h0, h1, if_false]
    by_cases h2 : m - m / 2 = 1
    · have : steps f 1 ≤ 1 := by cases f <;> simp [steps]
      have h3 : 1 + steps f (m - m / 2) - 1 ≤ 1 := by rw [h2]; omega
      calc 2 ^ (1 + steps f (m - m / 2) - 1) ≤ 2 ^ 1 := Nat.pow_le_pow_right (by omega) h3
        _ ≤ 2 * (m - 1) := by omega
    · have hm : 2 ≤ m - m / 2 := by omega
      have ih := steps_bound f (m - m / 2) hm
      have hs : 1 ≤ steps f (m - m / 2) ∨ steps f (m - m / 2) = 0 := by omega
      rcases hs with hs | hs
      · have : 1 + steps f (m - m / 2) - 1 = (steps f (m - m / 2) - 1) + 1 := by omega
        rw [this, Nat.pow_succ]
        omega
      · rw [hs]; simp; omega

/-- the comparator is a function of the probed element only (consistent), ignoring call number and position -/
def BCmp.pureOf (f : α → Int) (ctx : Nat) : BCmp α := ⟨fun _ _ x => f x, ctx, true⟩

/-- partition: once the key compares less than an element it compares less than all later ones, and
    once it compares greater it compares greater than all earlier ones -/
structure Partitioned (f : α → Int) (a : Array α) (n : Nat) : Prop where
  neg : ∀ i j (hi : i < a.size) (hj : j < a.size), i ≤ j → j < n → f a[i] < 0 → f a[j] < 0
  pos : ∀ i j (hi : i < a.size) (hj : j < a.size), i ≤ j → j < n → f a[j] > 0 → f a[i] > 0

theorem steps_mono : ∀ (g a b : Nat), a ≤ b → b ≤ g → steps g a ≤ steps g b := by
  intro g
  induction g with
  | zero =>
    intro a b hab hb
    exact Nat.le_refl _
  | succ g ihg =>
    intro a b hab hb
    unfold steps
    by_cases ha0 : a = 0
    · simp [ha0]
    · by_cases ha1 : a = 1
      · have hb0 : b ≠ 0 := by omega
        simp only [ha1, hb0, if_false]
        by_cases hb1 : b = 1
        · simp [hb1]
        · simp [hb1]
      · have hb0 : b ≠ 0 := by omega
        have hb1 : b ≠ 1 := by omega
        simp only [ha0, ha1, hb0, hb1, if_false]
        have := ihg (a - a / 2) (b - b / 2) (by omega) (by omega)
        omega

def St.probed (c : BCmp α) (s : St α) (i : Nat) : St α :=
  { s with log := if c.trace then ⟨i, i, c.ctx⟩ :: s.log else s.log, ncmp := s.ncmp + 1 }

theorem probe_eq (c : BCmp α) (s : St α) (i : Nat) (h : i < s.a.size) :
    probe c s i = .ok (c.cmp s.ncmp i s.a[i], s.probed c i) := by
  simp [probe, h, St.probed]

/-- what a run over the window `[b, b+m)` with at most `k` probes guarantees, whatever the comparator answers -/
structure BsRun (c : BCmp α) (s : St α) (b m k : Nat) (r : Option Nat × St α) : Prop where
  arr : r.2.a = s.a
  mono : s.ncmp ≤ r.2.ncmp
  cnt : r.2.ncmp - s.ncmp ≤ k
  pos : ∀ j, r.1 = some j → b ≤ j ∧ j < b + m
  log : ∃ l, r.2.log = l ++ s.log ∧ (∀ ev ∈ l, b ≤ ev.i ∧ ev.i < b + m ∧ ev.j = ev.i ∧ ev.ctx = c.ctx) ∧
    (c.trace = true → l.length = r.2.ncmp - s.ncmp)

theorem BsRun.here {c : BCmp α} {s : St α} {b m : Nat} (o : Option Nat) (ho : ∀ j, o = some j → b ≤ j ∧ j < b + m) :
    BsRun c s b m 0 (o, s) :=
  ⟨rfl, Nat.le_refl _, by simp, ho, [], by simp⟩

theorem BsRun.probe {c : BCmp α} {s : St α} {b m b' m' k k' i : Nat} {r : Option Nat × St α}
    (h : BsRun c (s.probed c i) b' m' k r) (hb : b ≤ b') (hw : b' + m' ≤ b + m) (hi : b ≤ i ∧ i < b + m)
    (hk : k + 1 ≤ k') : BsRun c s b m k' r := by
  obtain ⟨h1, h2, h3, h4, l, el, pl, nl⟩ := h
  have hn : (s.probed c i).ncmp = s.ncmp + 1 := rfl
  refine ⟨h1, by omega, by omega, fun j hj => by have := h4 j hj; omega, ?_⟩
  by_cases ht : c.trace = true
  · refine ⟨l ++ [⟨i, i, c.ctx⟩], by simp [el, St.probed, ht], fun ev hev => ?_, fun _ => by simp [nl ht]; omega⟩
    rcases List.mem_append.mp hev with h | h
    · have := pl ev h; omega
    · simp at h; subst h; exact ⟨hi.1, hi.2, rfl, rfl⟩
  · exact ⟨l, by simp [el, St.probed, ht], fun ev hev => by have := pl ev hev; omega, fun h => absurd h ht⟩

/-- EVERY comparator (inconsistent ones included): the loop returns, probes only positions of its window,
    makes at most `steps` probes and leaves the array alone -/
theorem bsearchLoop_any (c : BCmp α) :
    ∀ (fuel : Nat) (s : St α) (b m : Nat), m ≤ fuel → b + m ≤ s.a.size →
      ∃ r, bsearchLoop c fuel s b m = .ok r ∧ BsRun c s b m (steps fuel m) r := by
  intro fuel
  induction fuel with
  | zero =>
    intro s b m hm hb
    have : m = 0 := by omega
    subst this
    exact ⟨(none, s), by simp [bsearchLoop], .here _ (by simp)⟩
  | succ fuel ih =>
    intro s b m hm hb
    unfold bsearchLoop
    by_cases hm0 : m = 0
    · subst hm0
      exact ⟨(none, s), by simp, .here _ (by simp)⟩
    · have hi : b + m / 2 < s.a.size := by omega
      simp only [hm0, if_false]
      rw [probe_eq c s _ hi]
      simp only [bind, Except.bind]
      have hst : 0 + 1 ≤ steps (fuel + 1) m := by unfold steps; simp only [hm0, if_false]; split <;> omega
      generalize c.cmp s.ncmp (b + m / 2) s.a[b + m / 2] = sign
      by_cases hz : sign = 0
      · simp only [hz, if_true]
        exact ⟨_, rfl, (BsRun.here _ (by intro j hj; cases hj; omega)).probe (Nat.le_refl _) (Nat.le_refl _) (by omega) hst⟩
      · simp only [hz, if_false]
        by_cases hm1 : m = 1
        · simp only [hm1, if_true]
          exact ⟨_, rfl, (BsRun.here _ (by simp)).probe (Nat.le_refl _) (Nat.le_refl _) (by omega) (hm1 ▸ hst)⟩
        · simp only [hm1, if_false]
          have hstep : steps (fuel + 1) m = steps fuel (m - m / 2) + 1 := by simp [steps, hm0, hm1]; omega
          by_cases hneg : sign < 0
          · simp only [hneg, if_true]
            obtain ⟨r, hr, h⟩ := ih (s.probed c (b + m / 2)) b (m / 2) (by omega) (by show _ ≤ s.a.size; omega)
            -- the left half is the shorter one
            have := steps_mono fuel (m / 2) (m - m / 2) (by omega) (by omega)
            exact ⟨r, hr, h.probe (Nat.le_refl _) (by omega) (by omega) (by omega)⟩
          · simp only [hneg, if_false]
            obtain ⟨r, hr, h⟩ := ih (s.probed c (b + m / 2)) (b + m / 2) (m - m / 2) (by omega) (by show _ ≤ s.a.size; omega)
            exact ⟨r, hr, h.probe (by omega) (by omega) (by omega) (by omega)⟩

/-- partitioned array, consistent comparator: the answer of the loop is right.  The window invariant: everything
    left of `[b, b+m)` compares greater, everything right of it (below `n`) less. -/
theorem bsearchLoop_spec (f : α → Int) (ctx n : Nat) (a : Array α) (hp : Partitioned f a n) :
    ∀ (fuel : Nat) (s : St α) (b m : Nat) (r : Option Nat × St α), s.a = a → b + m ≤ n → n ≤ a.size →
      (∀ j (h : j < a.size), j < b → f a[j] > 0) →
      (∀ j (h : j < a.size), b + m ≤ j → j < n → f a[j] < 0) →
      bsearchLoop (BCmp.pureOf f ctx) fuel s b m = .ok r →
      (∀ j, r.1 = some j → ∃ h : j < a.size, f a[j] = 0) ∧
        (r.1 = none → ∀ j (h : j < a.size), j < n → f a[j] ≠ 0) := by
  intro fuel
  induction fuel with
  | zero =>
    intro s b m r ha hbn hn hl hr he
    unfold bsearchLoop at he
    split at he
    · cases he
      refine ⟨by simp, fun _ j h hj => ?_⟩
      rcases Nat.lt_or_ge j b with hjb | hjb
      · have := hl j h hjb; omega
      · have := hr j h (by omega) hj; omega
    · cases he
  | succ fuel ih =>
    intro s b m r ha hbn hn hl hr he
    subst ha
    have out : ∀ j (h : j < s.a.size), j < n → (b ≤ j → j < b + m → f s.a[j] ≠ 0) → f s.a[j] ≠ 0 := by
      intro j h hj hw
      rcases Nat.lt_or_ge j b with hjb | hjb
      · have := hl j h hjb; omega
      · rcases Nat.lt_or_ge j (b + m) with hjm | hjm
        · exact hw hjb hjm
        · have := hr j h hjm hj; omega
    unfold bsearchLoop at he
    by_cases hm0 : m = 0
    · simp only [hm0, if_true] at he
      cases he
      exact ⟨by simp, fun _ j h hj => out j h hj (by omega)⟩
    · have hi : b + m / 2 < s.a.size := by omega
      simp only [hm0, if_false] at he
      rw [probe_eq _ s _ hi] at he
      simp only [bind, Except.bind] at he
      simp only [show ∀ k i x, (BCmp.pureOf f ctx).cmp k i x = f x from fun _ _ _ => rfl] at he
      by_cases hz : f s.a[b + m / 2] = 0
      · simp only [hz, if_true] at he
        cases he
        exact ⟨fun j hj => by simp at hj; subst hj; exact ⟨hi, hz⟩, by simp⟩
      · simp only [hz, if_false] at he
        by_cases hm1 : m = 1
        · simp only [hm1, if_true] at he
          cases he
          refine ⟨by simp, fun _ j h hj => out j h hj fun h1 h2 => ?_⟩
          have : j = b + m / 2 := by omega
          subst this; exact hz
        · simp only [hm1, if_false] at he
          by_cases hneg : f s.a[b + m / 2] < 0
          · simp only [hneg, if_true] at he
            exact ih (s.probed _ _) b (m / 2) r rfl (by omega) hn hl
              (fun j h hj1 hj2 => hp.neg (b + m / 2) j hi h hj1 hj2 hneg) he
          · simp only [hneg, if_false] at he
            exact ih (s.probed _ _) (b + m / 2) (m - m / 2) r rfl (by omega) hn
              (fun j h hj => hp.pos j (b + m / 2) h hi (by omega) (by omega) (by omega))
              (fun j h hj1 hj2 => hr j h (by omega) hj2) he

end SafeC.Sort
