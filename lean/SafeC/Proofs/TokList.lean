import SafeC.Proofs.ListFacts
/-!
# The tokenizing specification on lists (C14)

Pure reference for `strtok_s` / `wcstok_s`, independent of the machine and of the models:

* `tokens ds s` (`tokensP d s` for a predicate `d`) — the maximal delimiter-free substrings of `s` (delimiter set `ds`), in
  order; its meaning is fixed by the four parsing equations `tokens_nil`, `tokens_delim`, `tokens_last`, `tokens_cons` (every
  string over delimiters / non-delimiters is parsed by exactly one chain of them) and by `tokens_sound`;
* `refSeq dss off s` — what successive calls hand back, ONE DELIMITER SET PER CALL (`dss`), on the string `s`
  that starts at offset `off` of the original string: per call the token with its offset (or none), the
  offset of the continuation point, and the offset of the delimiter that is overwritten (or none).
-/
namespace SafeC.TokSpec

/-- `cur`: the characters of the token being collected -/
def tokensFrom (d : Nat → Bool) : List Nat → List Nat → List (List Nat)
  | cur, [] => if cur = [] then [] else [cur]
  | cur, c :: s =>
    if d c then (if cur = [] then tokensFrom d [] s else cur :: tokensFrom d [] s)
    else tokensFrom d (cur ++ [c]) s

def tokensP (d : Nat → Bool) (s : List Nat) : List (List Nat) := tokensFrom d [] s

def Free (d : Nat → Bool) (t : List Nat) : Prop := ∀ c ∈ t, d c = false

theorem tokensFrom_free (d : Nat → Bool) (cur t rest : List Nat) (ht : Free d t) :
    tokensFrom d cur (t ++ rest) = tokensFrom d (cur ++ t) rest := by
  induction t generalizing cur with
  | nil => simp
  | cons c t ih =>
    have hc : d c = false := ht c (by simp)
    simp only [List.cons_append, tokensFrom, hc, Bool.false_eq_true, if_false]
    rw [ih _ (fun x hx => ht x (by simp [hx]))]
    simp

@[simp] theorem tokensP_nil (d : Nat → Bool) : tokensP d [] = [] := by simp [tokensP, tokensFrom]

theorem tokensP_delim (d : Nat → Bool) (x : Nat) (s : List Nat) (hd : d x = true) :
    tokensP d (x :: s) = tokensP d s := by
  simp [tokensP, tokensFrom, hd]

theorem tokensP_last (d : Nat → Bool) (t : List Nat) (hne : t ≠ []) (ht : Free d t) : tokensP d t = [t] := by
  have := tokensFrom_free d [] t [] ht
  simp only [List.append_nil, List.nil_append] at this
  simp [tokensP, this, tokensFrom, hne]

theorem tokensP_cons (d : Nat → Bool) (t : List Nat) (x : Nat) (s : List Nat) (hne : t ≠ []) (ht : Free d t)
    (hd : d x = true) : tokensP d (t ++ x :: s) = t :: tokensP d s := by
  have := tokensFrom_free d [] t (x :: s) ht
  simp [tokensP, this, tokensFrom, hd, hne]

theorem free_takeWhile (d : Nat → Bool) (s : List Nat) : Free d (s.takeWhile (fun c => !d c)) := by
  intro c hc
  have := takeWhile_all (fun c => !d c) s c hc
  simpa using this

theorem tokensP_dropWhile (d : Nat → Bool) (s : List Nat) : tokensP d (s.dropWhile d) = tokensP d s := by
  induction s with
  | nil => rfl
  | cons c s ih =>
    by_cases hc : d c = true
    · rw [List.dropWhile_cons_of_pos hc, ih, tokensP_delim d c s hc]
    · rw [List.dropWhile_cons_of_neg hc]

theorem tokensP_step (d : Nat → Bool) (s : List Nat) (hne : s.dropWhile d ≠ []) :
    tokensP d s =
      (s.dropWhile d).takeWhile (fun c => !d c) ::
        tokensP d (((s.dropWhile d).dropWhile (fun c => !d c)).drop 1) := by
  rw [← tokensP_dropWhile d s]
  generalize hs1 : s.dropWhile d = s1 at hne ⊢
  have hhead : ∀ c rest, s1 = c :: rest → d c = false := by
    intro c rest h
    exact dropWhile_head_false d s c rest (hs1.trans h)
  have hsplit := List.takeWhile_append_dropWhile (p := fun c => !d c) (l := s1)
  have hfree := free_takeWhile d s1
  have htne : s1.takeWhile (fun c => !d c) ≠ [] := by
    cases s1 with
    | nil => exact absurd rfl hne
    | cons c rest => simp [hhead c rest rfl]
  cases h2 : s1.dropWhile (fun c => !d c) with
  | nil =>
    rw [h2, List.append_nil] at hsplit
    rw [hsplit]
    simp [tokensP_last d s1 hne (hsplit ▸ hfree)]
  | cons x rest =>
    have hd : d x = true := by
      have := dropWhile_head_false (fun c => !d c) s1 x rest h2
      simpa using this
    conv => lhs; rw [← hsplit, h2]
    rw [tokensP_cons d _ x rest htne hfree hd]
    simp

theorem tokensP_sound (d : Nat → Bool) (s : List Nat) :
    (∀ t ∈ tokensP d s, t ≠ [] ∧ Free d t) ∧
    (tokensP d s).flatten = s.filter (fun c => !d c) := by
  suffices h : ∀ cur, Free d cur →
      (∀ t ∈ tokensFrom d cur s, t ≠ [] ∧ Free d t) ∧
      (tokensFrom d cur s).flatten = cur ++ s.filter (fun c => !d c) by
    simpa [tokensP] using h [] (by intro c hc; simp at hc)
  induction s with
  | nil =>
    intro cur hcur
    by_cases h : cur = []
    · simp [tokensFrom, h]
    · simp [tokensFrom, h, hcur]
  | cons c s ih =>
    intro cur hcur
    by_cases hc : d c = true
    · have ih0 := ih [] (by intro x hx; simp at hx)
      by_cases h : cur = []
      · simp only [tokensFrom, hc, h, if_true]
        simpa [List.filter_cons, hc] using ih0
      · simp only [tokensFrom, hc, h, if_true, if_false]
        refine ⟨?_, ?_⟩
        · intro t ht
          rcases List.mem_cons.mp ht with rfl | ht
          · exact ⟨h, hcur⟩
          · exact ih0.1 t ht
        · simp [hc, ih0.2]
    · have hc' : d c = false := by simpa using hc
      have ih1 := ih (cur ++ [c]) (by
        intro x hx
        rcases List.mem_append.mp hx with hx | hx
        · exact hcur x hx
        · simp at hx; subst hx; exact hc')
      simp only [tokensFrom, hc', Bool.false_eq_true, if_false]
      simpa [List.filter_cons, hc'] using ih1

/-- **the specification**: the maximal substrings of `s` that contain no character of `ds`, in order -/
def tokens (ds s : List Nat) : List (List Nat) := tokensP (fun c => ds.contains c) s

theorem tokens_nil (ds : List Nat) : tokens ds [] = [] := tokensP_nil _

theorem tokens_delim (ds : List Nat) (x : Nat) (s : List Nat) (hx : x ∈ ds) : tokens ds (x :: s) = tokens ds s :=
  tokensP_delim _ x s (by simpa using hx)

theorem tokens_last (ds t : List Nat) (hne : t ≠ []) (ht : ∀ c ∈ t, c ∉ ds) : tokens ds t = [t] :=
  tokensP_last _ t hne (fun c hc => by simpa using ht c hc)

theorem tokens_cons (ds t : List Nat) (x : Nat) (s : List Nat) (hne : t ≠ []) (ht : ∀ c ∈ t, c ∉ ds) (hx : x ∈ ds) :
    tokens ds (t ++ x :: s) = t :: tokens ds s :=
  tokensP_cons _ t x s hne (fun c hc => by simpa using ht c hc) (by simpa using hx)

/-- every token is non-empty and delimiter-free; the tokens are exactly the non-delimiter characters of `s`,
in order, each once -/
theorem tokens_sound (ds s : List Nat) :
    (∀ t ∈ tokens ds s, t ≠ [] ∧ ∀ c ∈ t, c ∉ ds) ∧
    (tokens ds s).flatten = s.filter (fun c => !ds.contains c) := by
  obtain ⟨h1, h2⟩ := tokensP_sound (fun c => ds.contains c) s
  refine ⟨fun t ht => ⟨(h1 t ht).1, fun c hc => ?_⟩, h2⟩
  have := (h1 t ht).2 c hc
  simpa using this

/-- no delimiter in the string: the whole string is the one token -/
example : tokens [44, 59] [97, 98] = [[97, 98]] := by decide
/-- leading, repeated and trailing delimiters produce no empty token -/
example : tokens [44, 59] [44, 97, 98, 59, 44, 99, 44] = [[97, 98], [99]] := by decide
example : tokens [44] [44, 44] = [] := by decide
/-- the empty delimiter set: one token (the C code returns none: `tok-empty-delim-no-token`) -/
example : tokens [] [97, 98] = [[97, 98]] := by decide

/-- what one call hands back, as offsets into the ORIGINAL string -/
structure RefCall where
  tok : Option (Nat × List Nat)   -- offset and characters of the returned token, `none` = NULL returned
  next : Nat                      -- offset of the continuation point stored through `ptr`
  cut : Option Nat                -- offset of the cell overwritten with NUL
  deriving Repr, DecidableEq

def refSeq : List (Nat → Bool) → Nat → List Nat → List RefCall
  | [], _, _ => []
  | d :: rest, off, s =>
    let lead := (s.takeWhile d).length
    let s1 := s.dropWhile d
    let t := s1.takeWhile (fun c => !d c)
    let s2 := s1.dropWhile (fun c => !d c)
    if s1 = [] then
      { tok := none, next := off + lead, cut := none } :: refSeq rest (off + lead) []
    else if s2 = [] then
      { tok := some (off + lead, t), next := off + lead + t.length, cut := none } ::
        refSeq rest (off + lead + t.length) []
    else
      { tok := some (off + lead, t), next := off + lead + t.length + 1, cut := some (off + lead + t.length) } ::
        refSeq rest (off + lead + t.length + 1) (s2.drop 1)

theorem refSeq_nil (dss : List (Nat → Bool)) (off : Nat) :
    refSeq dss off [] = dss.map (fun _ => { tok := none, next := off, cut := none }) := by
  induction dss with
  | nil => rfl
  | cons d rest ih => simp [refSeq, ih]

theorem lead_len (d : Nat → Bool) (s : List Nat) :
    (s.takeWhile d).length + (s.dropWhile d).length = s.length := by
  have := congrArg List.length (List.takeWhile_append_dropWhile (p := d) (l := s))
  rwa [List.length_append] at this

theorem take_pad {α : Type} (l : List (Option α)) (k : Nat) :
    (l ++ none :: List.replicate k none).take k = (l ++ List.replicate k none).take k := by
  have : (none : Option α) :: List.replicate k none = List.replicate k none ++ [none] := by
    rw [← List.replicate_succ, List.replicate_succ']
  rw [this, ← List.append_assoc, List.take_append_of_le_length (by simp)]

def toksOf (rs : List RefCall) : List (Option (List Nat)) := rs.map (fun r => r.tok.map Prod.snd)

/-- **with one delimiter set throughout: exactly the maximal delimiter-free substrings, in order, each once,
then NULL forever** (for any number `k` of calls) -/
theorem refSeq_replicate (d : Nat → Bool) (k off : Nat) (s : List Nat) :
    toksOf (refSeq (List.replicate k d) off s) =
      ((tokensP d s).map some ++ List.replicate k none).take k := by
  induction k generalizing off s with
  | zero => simp [toksOf, refSeq]
  | succ k ih =>
    simp only [List.replicate_succ, refSeq]
    by_cases h1 : s.dropWhile d = []
    · have ht : tokensP d s = [] := by rw [← tokensP_dropWhile, h1]; rfl
      simp only [h1, if_true, toksOf, List.map_cons, Option.map_none, ht, List.map_nil, List.nil_append]
      have := ih (off + (s.takeWhile d).length) []
      simp only [toksOf, tokensP_nil, List.map_nil, List.nil_append] at this
      rw [this]
      simp [List.take_replicate]
    · simp only [h1, if_false]
      rw [tokensP_step d s h1]
      by_cases h2 : (s.dropWhile d).dropWhile (fun c => !d c) = []
      · simp only [h2, if_true, toksOf, List.map_cons, Option.map_some, List.drop_nil, tokensP_nil,
          List.map_nil, List.cons_append, List.nil_append, List.take_succ_cons]
        have := ih (off + (s.takeWhile d).length +
          ((s.dropWhile d).takeWhile (fun c => !d c)).length) []
        simp only [toksOf, tokensP_nil, List.map_nil, List.nil_append] at this
        rw [this]
        exact congrArg _ (take_pad [] k).symm
      · simp only [h2, if_false, toksOf, List.map_cons, Option.map_some, List.cons_append, List.take_succ_cons]
        have := ih (off + (s.takeWhile d).length +
          ((s.dropWhile d).takeWhile (fun c => !d c)).length + 1)
          (((s.dropWhile d).dropWhile (fun c => !d c)).drop 1)
        simp only [toksOf] at this
        rw [this]
        -- one more `none` at the end makes no difference within the first k
        exact congrArg _ (take_pad _ k).symm

theorem dropWhile_eq_drop (d : Nat → Bool) (l : List Nat) : l.dropWhile d = l.drop (l.takeWhile d).length := by
  induction l with
  | nil => rfl
  | cons a l ih =>
    by_cases ha : d a = true
    · rw [List.dropWhile_cons_of_pos ha, List.takeWhile_cons_of_pos ha, ih]; rfl
    · rw [List.dropWhile_cons_of_neg ha, List.takeWhile_cons_of_neg ha]; rfl

def refHead (d : Nat → Bool) (off : Nat) (s : List Nat) : RefCall :=
  let lead := (s.takeWhile d).length
  let s1 := s.dropWhile d
  let t := s1.takeWhile (fun c => !d c)
  let s2 := s1.dropWhile (fun c => !d c)
  if s1 = [] then { tok := none, next := off + lead, cut := none }
  else if s2 = [] then { tok := some (off + lead, t), next := off + lead + t.length, cut := none }
  else { tok := some (off + lead, t), next := off + lead + t.length + 1, cut := some (off + lead + t.length) }

def refRest (d : Nat → Bool) (s : List Nat) : List Nat :=
  ((s.dropWhile d).dropWhile (fun c => !d c)).drop 1

theorem refSeq_cons (d : Nat → Bool) (rest : List (Nat → Bool)) (off : Nat) (s : List Nat) :
    refSeq (d :: rest) off s = refHead d off s :: refSeq rest (refHead d off s).next (refRest d s) := by
  simp only [refSeq, refHead, refRest]
  by_cases h1 : s.dropWhile d = []
  · simp [h1]
  · by_cases h2 : (s.dropWhile d).dropWhile (fun c => !d c) = []
    · simp [h1, h2]
    · simp [h1, h2]


theorem refSeq_length (dss : List (Nat → Bool)) (off : Nat) (s : List Nat) : (refSeq dss off s).length = dss.length := by
  induction dss generalizing off s with
  | nil => rfl
  | cons d rest ih => rw [refSeq_cons, List.length_cons, ih, List.length_cons]

theorem getD_of_drop (l : List Nat) (k x : Nat) (r : List Nat) (h : l.drop k = x :: r) : l.getD k 0 = x := by
  have : (l.drop k)[0]? = some x := by rw [h]; rfl
  rw [List.getElem?_drop] at this
  simp only [Nat.add_zero] at this
  simp [this]

/-- everything the sequence lemmas need to know about ONE reference call -/
theorem refHead_facts (d : Nat → Bool) (off : Nat) (s : List Nat) :
    off ≤ (refHead d off s).next ∧ (refHead d off s).next ≤ off + s.length ∧
    refRest d s = s.drop ((refHead d off s).next - off) ∧
    (∀ c, (refHead d off s).cut = some c →
      off ≤ c ∧ c + 1 = (refHead d off s).next ∧ c - off < s.length ∧ d (s.getD (c - off) 0) = true) ∧
    (∀ o t, (refHead d off s).tok = some (o, t) →
      off ≤ o ∧ t ≠ [] ∧ (s.drop (o - off)).take t.length = t ∧ o + t.length ≤ (refHead d off s).next ∧
      ((refHead d off s).cut = some (o + t.length) ∨
        ((refHead d off s).cut = none ∧ o + t.length = off + s.length))) := by
  have hl := lead_len d s
  have ht := lead_len (fun c => !d c) (s.dropWhile d)
  have hs1 := dropWhile_eq_drop d s
  have hs2 := dropWhile_eq_drop (fun c => !d c) (s.dropWhile d)
  unfold refHead refRest
  by_cases h1 : s.dropWhile d = []
  · simp only [h1, if_true, List.length_nil] at hl ⊢
    refine ⟨by omega, by omega, ?_, by simp, by simp⟩
    simp only [List.dropWhile_nil, List.drop_nil]
    rw [List.drop_eq_nil_of_le (by omega)]
  · have htne : (s.dropWhile d).takeWhile (fun c => !d c) ≠ [] := by
      cases hc : s.dropWhile d with
      | nil => exact absurd hc h1
      | cons c rest' =>
        have := dropWhile_head_false d s c rest' hc
        simp [this]
    have htake : (s.drop (s.takeWhile d).length).take ((s.dropWhile d).takeWhile (fun c => !d c)).length
        = (s.dropWhile d).takeWhile (fun c => !d c) := by
      rw [← hs1]
      conv => lhs; arg 2; rw [← List.takeWhile_append_dropWhile (p := fun c => !d c) (l := s.dropWhile d)]
      exact List.take_left' rfl
    simp only [h1, if_false]
    by_cases h2 : (s.dropWhile d).dropWhile (fun c => !d c) = []
    · simp only [h2, if_true, List.length_nil] at ht ⊢
      refine ⟨by omega, by omega, ?_, by simp, ?_⟩
      · rw [List.drop_nil, List.drop_eq_nil_of_le (by omega)]
      · intro o t hx
        obtain ⟨rfl, rfl⟩ := hx
        refine ⟨by omega, htne, ?_, by omega, Or.inr ⟨trivial, by omega⟩⟩
        rw [Nat.add_sub_cancel_left]; exact htake
    · simp only [h2, if_false]
      have h2pos : 0 < ((s.dropWhile d).dropWhile (fun c => !d c)).length := List.length_pos_iff.mpr h2
      refine ⟨by omega, by omega, ?_, ?_, ?_⟩
      · rw [hs2, hs1, List.drop_drop, List.drop_drop]
        congr 1; omega
      · intro c hc
        simp only [Option.some.injEq] at hc
        subst hc
        refine ⟨by omega, by omega, by omega, ?_⟩
        cases h2c : (s.dropWhile d).dropWhile (fun c => !d c) with
        | nil => exact absurd h2c h2
        | cons x rest2 =>
          have hx := dropWhile_head_false (fun c => !d c) _ x rest2 h2c
          have hdrop : s.drop ((s.takeWhile d).length +
              ((s.dropWhile d).takeWhile (fun c => !d c)).length) = x :: rest2 := by
            rw [← h2c, hs2, hs1, List.drop_drop]
          have := getD_of_drop s _ x rest2 hdrop
          have e : off + (s.takeWhile d).length + ((s.dropWhile d).takeWhile (fun c => !d c)).length - off
              = (s.takeWhile d).length + ((s.dropWhile d).takeWhile (fun c => !d c)).length := by omega
          rw [e, this]; simpa using hx
      · intro o t hx
        obtain ⟨rfl, rfl⟩ := hx
        refine ⟨by omega, htne, ?_, by omega, Or.inl rfl⟩
        rw [Nat.add_sub_cancel_left]; exact htake

theorem refSeq_bounds (dss : List (Nat → Bool)) (off : Nat) (s : List Nat) :
    ∀ r ∈ refSeq dss off s,
      r.next ≤ off + s.length ∧
      (∀ c, r.cut = some c → off ≤ c) ∧
      (∀ o t, r.tok = some (o, t) → o + t.length ≤ off + s.length) := by
  induction dss generalizing off s with
  | nil => intro r hr; simp [refSeq] at hr
  | cons d rest ih =>
    intro r hr
    obtain ⟨f1, f2, f3, f4, f5⟩ := refHead_facts d off s
    rw [refSeq_cons] at hr
    rcases List.mem_cons.mp hr with rfl | hr
    · refine ⟨f2, fun c hc => (f4 c hc).1, fun o t ht => ?_⟩
      obtain ⟨_, _, _, g3, _⟩ := f5 o t ht
      omega
    · -- the rest of the sequence works on the string behind `next`
      obtain ⟨b, c, e⟩ := ih _ _ r hr
      rw [f3, List.length_drop] at b e
      refine ⟨by omega, fun x hx => ?_, fun o t hx => ?_⟩
      · have := c x hx; omega
      · have := e o t hx; omega

/-- **each returned token is a substring of the original string at its offset, no call cuts inside it, and the
position behind it is cut (by the call that returned it) or is the end of the string** -/
theorem refSeq_tok_isolated (dss : List (Nat → Bool)) (off : Nat) (s : List Nat) :
    ∀ r ∈ refSeq dss off s, ∀ o t, r.tok = some (o, t) →
      off ≤ o ∧ (s.drop (o - off)).take t.length = t ∧
      (∀ r' ∈ refSeq dss off s, ∀ c, r'.cut = some c → c < o ∨ o + t.length ≤ c) ∧
      (o + t.length = off + s.length ∨ ∃ r' ∈ refSeq dss off s, r'.cut = some (o + t.length)) := by
  induction dss generalizing off s with
  | nil => intro r hr; simp [refSeq] at hr
  | cons d rest ih =>
    intro r hr o t htok
    obtain ⟨f1, f2, f3, f4, f5⟩ := refHead_facts d off s
    rw [refSeq_cons] at hr ⊢
    have hb := refSeq_bounds rest (refHead d off s).next (refRest d s)
    have hrl : (refHead d off s).next + (refRest d s).length = off + s.length := by
      rw [f3, List.length_drop]; omega
    rcases List.mem_cons.mp hr with rfl | hr
    · obtain ⟨g1, _, g3, g5, g6⟩ := f5 o t htok
      refine ⟨g1, g3, ?_, ?_⟩
      · intro r' hr' c hc
        rcases List.mem_cons.mp hr' with rfl | hr'
        · rcases g6 with g | g
          · rw [g] at hc; cases hc; exact Or.inr (Nat.le_refl _)
          · rw [g.1] at hc; cases hc
        · have := (hb r' hr').2.1 c hc
          exact Or.inr (by omega)
      · rcases g6 with g | g
        · exact Or.inr ⟨_, List.mem_cons_self, g⟩
        · exact Or.inl g.2
    · obtain ⟨i1, i2, i3, i4⟩ := ih _ _ r hr o t htok
      refine ⟨by omega, ?_, ?_, ?_⟩
      · rw [f3, List.drop_drop] at i2
        have e : (refHead d off s).next - off + (o - (refHead d off s).next) = o - off := by omega
        rw [e] at i2; exact i2
      · intro r' hr' c hc
        rcases List.mem_cons.mp hr' with rfl | hr'
        · have := f4 c hc
          exact Or.inl (by omega)
        · exact i3 r' hr' c hc
      · rcases i4 with i | ⟨r', hr', hc⟩
        · exact Or.inl (by omega)
        · exact Or.inr ⟨r', List.mem_cons_of_mem _ hr', hc⟩

/-- **only delimiter positions are cut**: the cell a call overwrites lies inside the string and holds a character of
one of the delimiter sets of the sequence -/
theorem refSeq_cut_delim (dss : List (Nat → Bool)) (off : Nat) (s : List Nat) :
    ∀ r ∈ refSeq dss off s, ∀ c, r.cut = some c →
      off ≤ c ∧ c - off < s.length ∧ ∃ d ∈ dss, d (s.getD (c - off) 0) = true := by
  induction dss generalizing off s with
  | nil => intro r hr; simp [refSeq] at hr
  | cons d rest ih =>
    intro r hr c hc
    obtain ⟨f1, f2, f3, f4, _⟩ := refHead_facts d off s
    rw [refSeq_cons] at hr
    rcases List.mem_cons.mp hr with rfl | hr
    · obtain ⟨a, _, b, c'⟩ := f4 c hc
      exact ⟨a, b, d, List.mem_cons_self, c'⟩
    · obtain ⟨a, b, d', hd', c'⟩ := ih _ _ r hr c hc
      rw [f3, List.length_drop] at b
      rw [f3, List.getD_eq_getElem?_getD, List.getElem?_drop,
        show (refHead d off s).next - off + (c - (refHead d off s).next) = c - off by omega,
        ← List.getD_eq_getElem?_getD] at c'
      exact ⟨by omega, by omega, d', List.mem_cons_of_mem _ hd', c'⟩

end SafeC.TokSpec
