/-! Two facts about `List.takeWhile` / `List.dropWhile` that proofs of several areas use. -/
namespace SafeC

theorem takeWhile_all {α : Type} (p : α → Bool) (l : List α) : ∀ d ∈ l.takeWhile p, p d = true :=
  List.all_eq_true.mp List.all_takeWhile

theorem dropWhile_head_false {α : Type} (p : α → Bool) (l : List α) (c : α) (r : List α)
    (h : l.dropWhile p = c :: r) : p c = false := by
  have := List.head_dropWhile_not p (l := l) (by rw [h]; exact List.cons_ne_nil _ _)
  simpa [h] using this

end SafeC
