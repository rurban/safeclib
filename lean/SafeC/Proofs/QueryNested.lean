import SafeC.Proofs.QueryScan
/-!
# Loop lemmas for C10: nested loops and the password scan

`strstr_s strcasestr_s wcsstr_s strpbrk_s strispassword_s`.  Same conventions as `QueryScan.lean`.  The three
substring searches share one round of their inner loops (`subAt_step`) and of their outer loops (`findSub_step`).
-/
namespace SafeC
open Gen

theorem scanLen_pos (d : Nat → Nat) (p n : Nat) (hn : 0 < n) (h : d p ≠ 0) : 0 < scanLen d p n := by
  cases n with
  | zero => omega
  | succ n => rw [scanLen_succ_of_ne _ _ _ h]; omega

/-! The inner loops of the three substring searches return `true` exactly when the remaining needle — the `scanLen (src+i) len` cells before
its terminator or the end of `slen` — fits into the `dlen` cells left and equals them. -/

theorem scanLen_of_stop (d : Nat → Nat) (p l : Nat) (h : d p = 0 ∨ l = 0) : scanLen d p l = 0 := by
  cases l with
  | zero => rfl
  | succ l => exact scanLen_succ_of_eq _ _ _ (h.resolve_right (Nat.succ_ne_zero l))

/-- the common tail of one round of the three inner loops, on a non-NUL needle cell: compare (after `f`), look at
the next needle cell, go on with `next` -/
theorem subAt_step {st : St} (h : AllRd st) (f : Nat → Nat) (dest src i l n : Nat) (hs : st.data (src+i) ≠ 0)
    (next : Prog Bool)
    (hnext : st.data (src+(i+1)) ≠ 0 → 0 < l → exec next st =
      .ok (decide (scanLen st.data (src+(i+1)) l ≤ n) &&
           subAt f st.data (dest+(i+1)) (src+(i+1)) (scanLen st.data (src+(i+1)) l), st)) :
    exec (if f (st.data (dest+i)) ≠ f (st.data (src+i)) then pure false
          else do
            let s2 ← load (src+i+1)
            if s2 = 0 ∨ l + 1 - 1 = 0 then pure true else next) st =
      .ok (decide (scanLen st.data (src+i) (l+1) ≤ n+1) &&
           subAt f st.data (dest+i) (src+i) (scanLen st.data (src+i) (l+1)), st) := by
  rw [scanLen_succ_of_ne _ _ _ hs]
  by_cases he : f (st.data (dest+i)) = f (st.data (src+i))
  · simp only [he, ne_eq, not_true_eq_false, if_false, Nat.add_sub_cancel, subAt, beq_self_eq_true,
      Bool.true_and, exec_bind, exec_load_all h]
    by_cases hstop : st.data (src+i+1) = 0 ∨ l = 0
    · simp [hstop, scanLen_of_stop _ _ _ hstop, subAt]
    · simp only [hstop, if_false]
      rw [hnext (fun hh => hstop (Or.inl hh)) (by omega), ← Nat.add_assoc src, ← Nat.add_assoc dest]
      congr 2
      simp
  · have hb : (f (st.data (dest+i)) == f (st.data (src+i))) = false := by simpa using he
    simp [he, subAt, hb]

theorem strstrInner_eq {st : St} (h : AllRd st) (dest src dlen i len : Nat)
    (hlen : 0 < len) (hs : st.data (src+i) ≠ 0) :
    exec (strstrInner dest src dlen i len) st =
      .ok (decide (scanLen st.data (src+i) len ≤ dlen) &&
           subAt id st.data (dest+i) (src+i) (scanLen st.data (src+i) len), st) := by
  induction dlen generalizing i len with
  | zero =>
    have := scanLen_pos st.data (src+i) len hlen hs
    unfold strstrInner
    simp only [exec_bind, exec_load_all h, hs, if_false, exec_pure]
    have hd : ¬ scanLen st.data (src+i) len ≤ 0 := by omega
    simp [hd]
  | succ n ih =>
    unfold strstrInner
    simp only [exec_bind, exec_load_all h, hs, if_false]
    obtain ⟨l, rfl⟩ : ∃ l, len = l + 1 := ⟨len - 1, by omega⟩
    exact subAt_step h id dest src i l n hs _ (fun h2 hl => ih (i+1) l hl h2)

theorem wcsstrInner_eq {st : St} (h : AllRd st) (dest src dlen i len : Nat)
    (hlen : 0 < len) (hs : st.data (src+i) ≠ 0) :
    exec (wcsstrInner dest src dlen i len) st =
      .ok (decide (scanLen st.data (src+i) len ≤ dlen) &&
           subAt id st.data (dest+i) (src+i) (scanLen st.data (src+i) len), st) := by
  induction dlen generalizing i len with
  | zero =>
    have := scanLen_pos st.data (src+i) len hlen hs
    simp only [wcsstrInner, exec_bind, exec_load_all h, exec_pure]
    have hd : ¬ scanLen st.data (src+i) len ≤ 0 := by omega
    simp [hd]
  | succ n ih =>
    simp only [wcsstrInner, exec_bind, exec_load_all h, hs, if_false]
    obtain ⟨l, rfl⟩ : ∃ l, len = l + 1 := ⟨len - 1, by omega⟩
    exact subAt_step h id dest src i l n hs _ (fun h2 hl => ih (i+1) l hl h2)

theorem strcasestrInner_eq {st : St} (h : AllRd st) (dest src dlen i len : Nat)
    (hlen : 0 < len) (hs : st.data (src+i) ≠ 0) :
    exec (strcasestrInner dest src dlen i len) st =
      .ok (decide (scanLen st.data (src+i) len ≤ dlen) &&
           subAt toUpperC st.data (dest+i) (src+i) (scanLen st.data (src+i) len), st) := by
  induction dlen generalizing i len with
  | zero =>
    have := scanLen_pos st.data (src+i) len hlen hs
    unfold strcasestrInner
    have hd : ¬ scanLen st.data (src+i) len ≤ 0 := by omega
    simp only [exec_bind, exec_load_all h]
    split <;> simp [hd]
  | succ n ih =>
    unfold strcasestrInner
    simp only [exec_bind, exec_load_all h]
    obtain ⟨l, rfl⟩ : ∃ l, len = l + 1 := ⟨len - 1, by omega⟩
    by_cases hd0 : st.data (dest+i) = 0
    · -- the haystack ends here: no match, as `toupper` keeps NUL apart from the non-NUL needle cell
      have hus : toUpperC (st.data (src+i)) ≠ 0 := fun hh => hs ((toUpperC_eq_zero _).1 hh)
      have hb : (toUpperC 0 == toUpperC (st.data (src+i))) = false := by
        have : toUpperC 0 = 0 := by decide
        rw [this]; simpa using fun hh => hus hh.symm
      rw [scanLen_succ_of_ne _ _ _ hs]
      simp [hd0, subAt, hb]
    · simp only [hd0, if_false, exec_bind, exec_load_all h]
      exact subAt_step h toUpperC dest src i l n hs _ (fun h2 hl => ih (i+1) l hl h2)

theorem subAt_nul_false (f : Nat → Nat) (hf : ∀ c, f c = 0 ↔ c = 0) (d : Nat → Nat) (p q m : Nat)
    (hm : 0 < m) (hp : d p = 0) (hq : d q ≠ 0) : subAt f d p q m = false := by
  cases m with
  | zero => omega
  | succ m =>
    have : (f (d p) == f (d q)) = false := by
      have h1 : f (d p) = 0 := (hf _).2 hp
      have h2 : f (d q) ≠ 0 := fun hh => hq ((hf _).1 hh)
      rw [h1]; simpa using fun hh => h2 hh.symm
    simp [subAt, this]

theorem findSub_step {st : St} (f : Nat → Nat) (src m dest n : Nat) (inner : Prog Bool) (rest : Prog (Nat × Nat))
    (h0 : st.data dest ≠ 0)
    (hin : exec inner st = .ok (decide (m ≤ n + 1) && subAt f st.data dest src m, st))
    (hrest : exec rest st = .ok ((match findSub f st.data src m (dest+1) n with
      | some i => (EOK, dest + 1 + i) | none => (ESNOTFND, 0)), st)) :
    exec (do if ← inner then pure (EOK, dest) else rest) st =
      .ok ((match findSub f st.data src m dest (n+1) with
            | some i => (EOK, dest + i) | none => (ESNOTFND, 0)), st) := by
  rw [exec_bind, hin]
  simp only [findSub, h0, if_false]
  by_cases hmatch : m ≤ n + 1 ∧ subAt f st.data dest src m = true
  · simp [hmatch]
  · have : (decide (m ≤ n + 1) && subAt f st.data dest src m) = false := by simpa using hmatch
    simp only [this, hmatch, Bool.false_eq_true, if_false]
    rw [hrest]
    cases findSub f st.data src m (dest+1) n <;> simp <;> omega

theorem strstrOuter_eq {st : St} (h : AllRd st) (src slen dmax dest : Nat)
    (hlen : 0 < slen) (hs : st.data src ≠ 0) :
    exec (strstrOuter src slen dmax dest) st =
      .ok ((match findSub id st.data src (scanLen st.data src slen) dest dmax with
            | some i => (EOK, dest + i) | none => (ESNOTFND, 0)), st) := by
  have hm := scanLen_pos st.data src slen hlen hs
  induction dmax generalizing dest with
  | zero =>
    unfold strstrOuter
    simp only [exec_bind, exec_load_all h, findSub]
    split <;> simp
  | succ n ih =>
    unfold strstrOuter
    simp only [exec_bind, exec_load_all h]
    by_cases h0 : st.data dest = 0
    · have := subAt_nul_false id (fun c => Iff.rfl) st.data dest src _ hm h0 hs
      simp [h0, this, findSub]
    · simp only [h0, if_false]
      have hin := strstrInner_eq h dest src (n+1) 0 slen hlen (by simpa using hs)
      exact findSub_step id src _ dest n _ _ h0 hin (ih _)

theorem strcasestrOuter_eq {st : St} (h : AllRd st) (src slen dmax dest : Nat)
    (hlen : 0 < slen) (hs : st.data src ≠ 0) :
    exec (strcasestrOuter src slen dmax dest) st =
      .ok ((match findSub toUpperC st.data src (scanLen st.data src slen) dest dmax with
            | some i => (EOK, dest + i) | none => (ESNOTFND, 0)), st) := by
  have hm := scanLen_pos st.data src slen hlen hs
  induction dmax generalizing dest with
  | zero =>
    unfold strcasestrOuter
    simp only [exec_bind, exec_load_all h, findSub]
    split <;> simp
  | succ n ih =>
    unfold strcasestrOuter
    simp only [exec_bind, exec_load_all h]
    by_cases h0 : st.data dest = 0
    · have := subAt_nul_false toUpperC toUpperC_eq_zero st.data dest src _ hm h0 hs
      simp [h0, this, findSub]
    · simp only [h0, if_false]
      have hin := strcasestrInner_eq h dest src (n+1) 0 slen hlen (by simpa using hs)
      exact findSub_step toUpperC src _ dest n _ _ h0 hin (ih _)

theorem wcsstrOuter_eq {st : St} (h : AllRd st) (src slen dmax dest : Nat)
    (hlen : 0 < slen) (hs : st.data src ≠ 0) :
    exec (wcsstrOuter src slen dmax dest) st =
      .ok ((match findSub id st.data src (scanLen st.data src slen) dest dmax with
            | some i => (EOK, dest + i) | none => (ESNOTFND, 0)), st) := by
  have hm := scanLen_pos st.data src slen hlen hs
  induction dmax generalizing dest with
  | zero => simp [wcsstrOuter, exec_bind, exec_load_all h, findSub]
  | succ n ih =>
    simp only [wcsstrOuter, exec_bind, exec_load_all h]
    by_cases h0 : st.data dest = 0
    · have := subAt_nul_false id (fun c => Iff.rfl) st.data dest src _ hm h0 hs
      simp [h0, this, findSub]
    · simp only [h0, if_false]
      have hin := wcsstrInner_eq h dest src (n+1) 0 slen hlen (by simpa using hs)
      exact findSub_step id src _ dest n _ _ h0 hin (ih _)

/-! What the code of `strpbrk_s` computes on ANY memory (the `len` test FOLLOWS the compare). -/

/-- the inner loop as a pure function: `none` = fell out at the set's NUL, `some true` = hit,
`some false` = `len` ran out (the C returns ESNOTFND for the WHOLE search there) -/
def pbrkInnerF (d : Nat → Nat) (c ps : Nat) : Nat → Option Bool
  | 0 => if d ps = 0 then none else if c = d ps then some true else some false
  | len+1 => if d ps = 0 then none else if c = d ps then some true else pbrkInnerF d c (ps+1) len

def pbrkOuterF (d : Nat → Nat) (src slen p : Nat) : Nat → Option Nat
  | 0 => none
  | n+1 =>
    if d p = 0 then none
    else match pbrkInnerF d (d p) src slen with
      | some true => some 0
      | some false => none
      | none => (pbrkOuterF d src slen (p+1) n).map (· + 1)

theorem strpbrkInner_code_eq {st : St} (h : AllRd st) (dest len ps : Nat) :
    exec (strpbrkInner dest len ps) st = .ok (pbrkInnerF st.data (st.data dest) ps len, st) := by
  induction len generalizing ps with
  | zero =>
    unfold strpbrkInner
    simp only [exec_bind, exec_load_all h, pbrkInnerF]
    by_cases h0 : st.data ps = 0
    · simp [h0]
    · simp only [h0, if_false, exec_bind, exec_load_all h]
      by_cases he : st.data dest = st.data ps <;> simp [he]
  | succ n ih =>
    unfold strpbrkInner
    simp only [exec_bind, exec_load_all h, pbrkInnerF]
    by_cases h0 : st.data ps = 0
    · simp [h0]
    · simp only [h0, if_false, exec_bind, exec_load_all h]
      by_cases he : st.data dest = st.data ps
      · simp [he]
      · simp only [he, if_false]; exact ih _

theorem strpbrkOuter_code_eq {st : St} (h : AllRd st) (src slen dmax dest : Nat) :
    exec (strpbrkOuter src slen dmax dest) st =
      .ok ((match pbrkOuterF st.data src slen dest dmax with
            | some i => (EOK, dest + i) | none => (ESNOTFND, 0)), st) := by
  induction dmax generalizing dest with
  | zero =>
    unfold strpbrkOuter
    simp only [exec_bind, exec_load_all h, pbrkOuterF]
    split <;> simp
  | succ n ih =>
    unfold strpbrkOuter
    simp only [exec_bind, exec_load_all h, pbrkOuterF]
    by_cases h0 : st.data dest = 0
    · simp [h0]
    · simp only [h0, if_false, exec_bind, strpbrkInner_code_eq h]
      cases hi : pbrkInnerF st.data (st.data dest) src slen with
      | none =>
        rw [ih]
        cases pbrkOuterF st.data src slen (dest+1) n <;> simp <;> omega
      | some b => cases b <;> simp

/-- when the set string ends in time (a NUL among its first `len` cells, or exactly at index `len`) the
inner loop is a plain membership test -/
theorem pbrkInnerF_term (d : Nat → Nat) (c ps len : Nat) (hz : d (ps + scanLen d ps len) = 0) :
    pbrkInnerF d c ps len = if inSet d c ps len = true then some true else none := by
  induction len generalizing ps with
  | zero =>
    have h0 : d ps = 0 := by simpa [scanLen] using hz
    simp [pbrkInnerF, h0, inSet]
  | succ n ih =>
    simp only [pbrkInnerF, inSet]
    by_cases h0 : d ps = 0
    · simp [h0]
    · simp only [h0, if_false]
      rw [scanLen_succ_of_ne _ _ _ h0] at hz
      by_cases he : c = d ps
      · simp [he]
      · simp only [he, if_false]
        exact ih (ps+1) (by rw [← hz]; congr 1; omega)

theorem pbrkOuterF_term (d : Nat → Nat) (src slen p n : Nat) (hz : d (src + scanLen d src slen) = 0) :
    pbrkOuterF d src slen p n = firstIn d src slen p n := by
  induction n generalizing p with
  | zero => rfl
  | succ n ih =>
    simp only [pbrkOuterF, firstIn, pbrkInnerF_term d _ src slen hz, ih]
    by_cases h0 : d p = 0
    · simp [h0]
    · by_cases hin : inSet d (d p) src slen = true <;> simp [h0, hin]

theorem subAt_self (f : Nat → Nat) (d : Nat → Nat) (p m : Nat) : subAt f d p p m = true := by
  induction m generalizing p with
  | zero => rfl
  | succ m ih => simp [subAt, ih]

/-- the shortcut `*src == 0 || dest == src` of the substring searches: an empty needle, or the needle
itself when it fits, is found at offset 0 -/
theorem findSub_shortcut (f : Nat → Nat) (d : Nat → Nat) (src slen dest n : Nat)
    (hc : d src = 0 ∨ dest = src) (hfit : dest = src → scanLen d src slen ≤ n + 1) :
    findSub f d src (scanLen d src slen) dest (n+1) = some 0 := by
  rcases hc with h0 | rfl
  · simp [findSub, scanLen_of_stop d src slen (Or.inl h0), subAt]
  · simp [findSub, hfit rfl, subAt_self]

theorem findSub_short_haystack (d : Nat → Nat) (q m p n : Nat)
    (hq : ∀ j, j < m → d (q+j) ≠ 0) (hl : scanLen d p n < m) :
    findSub id d q m p n = none := by
  induction n generalizing p with
  | zero => rfl
  | succ n ih =>
    simp only [findSub]
    have hno : ¬ (m ≤ n+1 ∧ subAt id d p q m = true) := by
      rintro ⟨hm, hs⟩
      have hlt : scanLen d p (n+1) < n+1 := by omega
      have hz := scanLen_zero d p (n+1) hlt
      have := (subAt_iff id d p q m).1 hs (scanLen d p (n+1)) hl
      simp only [id] at this
      exact hq _ hl (by rw [← this]; exact hz)
    simp only [hno, if_false]
    by_cases h0 : d p = 0
    · simp [h0]
    · simp only [h0, if_false]
      rw [scanLen_succ_of_ne _ _ _ h0] at hl
      rw [ih (p+1) (by omega)]; rfl

/-- the punctuation ranges the password scan accepts -/
def isSpecialC (c : Nat) : Bool :=
  (33 ≤ c && c ≤ 47) || (58 ≤ c && c ≤ 64) || (91 ≤ c && c ≤ 94) || (95 ≤ c && c ≤ 96) || (123 ≤ c && c ≤ 126)

def isPwC (c : Nat) : Bool := isDigitC c || isLowerC c || isUpperC c || isSpecialC c

/-- `pwFinal` on the five counters (the loop lemma adds to each counter separately, which the record hides) -/
def pwFinal' (all lower upper numbers specials : Nat) : Bool :=
  all < SAFE_STR_PASSWORD_MAX_LENGTH && numbers ≥ SAFE_STR_MIN_NUMBERS &&
  lower ≥ SAFE_STR_MIN_LOWERCASE && upper ≥ SAFE_STR_MIN_UPPERCASE &&
  specials ≥ SAFE_STR_MIN_SPECIALS

theorem pwFinal_eq (n : PwCnt) : pwFinal n = pwFinal' n.all n.lower n.upper n.numbers n.specials := rfl

def pwBump (c : Nat) (n : PwCnt) : PwCnt :=
  let n := { n with all := n.all + 1 }
  if isDigitC c then { n with numbers := n.numbers + 1 }
  else if isLowerC c then { n with lower := n.lower + 1 }
  else if isUpperC c then { n with upper := n.upper + 1 }
  else { n with specials := n.specials + 1 }

/-- one round of the password scan: the four class tests are `isPwC` and `pwBump` -/
theorem pwLoop_succ (m dest : Nat) (n : PwCnt) :
    pwLoop (m+1) dest n = (do
      let c ← load dest
      if c = 0 then pure (pwFinal n) else if isPwC c then pwLoop m (dest+1) (pwBump c n) else pure false) := by
  rw [pwLoop]; congr 1; funext c
  by_cases h0 : c = 0
  · simp only [h0, if_true]
  · simp only [h0, if_false, pwBump, isPwC, isSpecialC]
    by_cases h1 : isDigitC c = true
    · simp only [h1, if_true, Bool.true_or]
    · by_cases h2 : isLowerC c = true
      · simp only [h1, h2, if_true, Bool.false_eq_true, if_false, Bool.true_or, Bool.or_true]
      · by_cases h3 : isUpperC c = true
        · simp only [h1, h2, h3, if_true, Bool.false_eq_true, if_false, Bool.true_or, Bool.or_true]
        · simp only [h1, h2, h3, Bool.false_eq_true, if_false, Bool.false_or]

/-- the four classes are pairwise disjoint, so a character of the alphabet moves exactly the counter of its class -/
theorem pwBump_fields (c : Nat) (n : PwCnt) (hc : isPwC c = true) :
    (pwBump c n).all = n.all + 1 ∧
    (pwBump c n).lower = n.lower + (if isLowerC c then 1 else 0) ∧
    (pwBump c n).upper = n.upper + (if isUpperC c then 1 else 0) ∧
    (pwBump c n).numbers = n.numbers + (if isDigitC c then 1 else 0) ∧
    (pwBump c n).specials = n.specials + (if isSpecialC c then 1 else 0) := by
  have hdisj : (isDigitC c = true → isLowerC c = false ∧ isUpperC c = false ∧ isSpecialC c = false) ∧
      (isLowerC c = true → isUpperC c = false ∧ isSpecialC c = false) ∧ (isUpperC c = true → isSpecialC c = false) := by
    simp only [isDigitC, isLowerC, isUpperC, isSpecialC, Bool.and_eq_true, Bool.or_eq_false_iff,
      Bool.and_eq_false_iff, decide_eq_true_eq, decide_eq_false_iff_not]
    omega
  unfold pwBump
  by_cases h1 : isDigitC c = true
  · simp [h1, hdisj.1 h1]
  · by_cases h2 : isLowerC c = true
    · simp [h1, h2, hdisj.2.1 h2]
    · by_cases h3 : isUpperC c = true
      · simp [h1, h2, h3, hdisj.2.2 h3]
      · have h4 : isSpecialC c = true := by simpa [isPwC, h1, h2, h3] using hc
        simp [h1, h2, h3, h4]

/-- **the password scan on ANY memory**, `L` = the characters before the first NUL among the first `dmax`: it gives up
(ESUNTERM, one report) exactly when all `dmax` characters are of the alphabet and the cell `dest[dmax]` it reads then is
no NUL; otherwise the answer is the rule on the `L` characters -/
theorem pwLoop_run {st : St} (h : AllRd st) (dmax dest : Nat) (n : PwCnt) :
    exec (pwLoop dmax dest n) st =
      if allCells isPwC st.data dest (scanLen st.data dest dmax) = true ∧ scanLen st.data dest dmax = dmax ∧
          st.data (dest + dmax) ≠ 0 then
        .ok (false, { st with events := st.events ++ [.handler .str ESUNTERM] })
      else
        .ok (allCells isPwC st.data dest (scanLen st.data dest dmax) &&
           pwFinal' (n.all + scanLen st.data dest dmax)
             (n.lower + countCells isLowerC st.data dest (scanLen st.data dest dmax))
             (n.upper + countCells isUpperC st.data dest (scanLen st.data dest dmax))
             (n.numbers + countCells isDigitC st.data dest (scanLen st.data dest dmax))
             (n.specials + countCells isSpecialC st.data dest (scanLen st.data dest dmax)), st) := by
  induction dmax generalizing dest n with
  | zero =>
    simp only [pwLoop, exec_bind, exec_load_all h, scanLen, allCells, countCells, Nat.add_zero, true_and]
    by_cases h0 : st.data dest = 0
    · simp [h0, pwFinal_eq]
    · simp [h0, handlerS, exec_bind]
  | succ m ih =>
    rw [pwLoop_succ]
    simp only [exec_bind, exec_load_all h]
    by_cases h0 : st.data dest = 0
    · simp [h0, scanLen, allCells, countCells, pwFinal_eq]
    · rw [scanLen_succ_of_ne _ _ _ h0]
      by_cases hc : isPwC (st.data dest) = true
      · obtain ⟨b1, b2, b3, b4, b5⟩ := pwBump_fields (st.data dest) n hc
        simp only [h0, hc, if_false, if_true, ih, b1, b2, b3, b4, b5, allCells, countCells, Bool.true_and,
          Nat.add_right_cancel_iff, Nat.add_assoc, Nat.add_comm 1]
      · simp [h0, hc, allCells]

end SafeC
