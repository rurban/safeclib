import SafeC.Proofs.SortSift
/-!
# qsort_s model: what `trinkle` does

`trinkle_run`: for EVERY comparator `trinkle` on a forest inside the array returns and keeps the size — the walk over the stepsons
is a `Chain` (positions fixed by the forest alone, at most one per tree, so `ar[]` is not overrun).  Behind `Consistent e.cmp le →`:
the walk is a `Steps` (the chain with what each comparison established), so on a forest whose trees are heap-ordered (the first one
possibly except for its root) and whose roots, from the second tree on, ascend, `trinkle` makes every tree heap-ordered and all
roots ascending; it touches only `[0, head]`.
-/
namespace SafeC.Sort.Trk
variable {α : Type}

/-- why the loop stopped at the tree of order `o0` rooted at `head` (first tree of `os`) -/
def StopCond (le : α → α → Prop) (g : Nat → α) (x : α) : List Nat → Nat → Prop
  | [], _ => False
  | [_], _ => True
  | o0 :: _ :: _, head => leo o0 ≤ head ∧ (le (g (head - leo o0)) x ∨
      ∃ k, o0 = k + 2 ∧ (le (g (head - leo o0)) (g (head - 1)) ∨ le (g (head - leo o0)) (g (head - 1 - leo k))))

/-- the stepsons `Q` taken from the forest `os` rooted at `head`, with what each step and the stop established -/
def Steps (le : α → α → Prop) (g : Nat → α) (x : α) : List Nat → Nat → List Nat → Prop
  | os, head, [] => StopCond le g x os head
  | os, head, q :: Q =>
    match os with
    | o0 :: o1 :: rest => q = head - leo o0 ∧ leo o0 ≤ head ∧ ¬ le (g q) x ∧
        (∀ k, o0 = k + 2 → le (g (head - 1)) (g q) ∧ le (g (head - 1 - leo k)) (g q)) ∧ Steps le g x (o1 :: rest) q Q
    | _ => False

/-- order and root of the tree the walk ends in -/
def lastTree : List Nat → Nat → List Nat → Nat × Nat
  | os, head, [] => (os.headD 0, head)
  | os, _, q :: Q => lastTree os.tail q Q

/-- the stepsons `Q` of the forest `os` rooted at `head`, positions only -/
def Chain : List Nat → Nat → List Nat → Prop
  | _, _, [] => True
  | o0 :: o1 :: rest, head, q :: Q => q = head - leo o0 ∧ leo o0 ≤ head ∧ Chain (o1 :: rest) q Q
  | _, _, _ :: _ => False

theorem chain_facts : ∀ (Q os : List Nat) (head : Nat), os ≠ [] → Chain os head Q →
    (∀ y ∈ head :: Q, (lastTree os head Q).2 ≤ y ∧ y ≤ head) ∧ Q.length + 1 ≤ os.length
  | [], os, head, hne, _ => by
    refine ⟨by simp [lastTree], ?_⟩
    cases os with
    | nil => exact absurd rfl hne
    | cons _ _ => simp
  | q :: Q, os, head, _, h => by
    match os, h with
    | o0 :: o1 :: rest, h =>
      obtain ⟨hq, hle, hS⟩ := h
      obtain ⟨h2, h3⟩ := chain_facts Q (o1 :: rest) q (by simp) hS
      show (∀ y ∈ head :: q :: Q, (lastTree (o1 :: rest) q Q).2 ≤ y ∧ y ≤ head) ∧ _
      refine ⟨?_, by simp at h3 ⊢; omega⟩
      intro y hy
      rcases List.mem_cons.mp hy with rfl | hy
      · have := h2 q (by simp); omega
      · have := h2 y hy; omega
    | [], h => exact False.elim h
    | [_], h => exact False.elim h

theorem Steps.chain {le : α → α → Prop} {g : Nat → α} {x : α} : ∀ (Q os : List Nat) (head : Nat),
    Steps le g x os head Q → os ≠ [] ∧ Chain os head Q
  | [], os, _, h => ⟨fun e => by subst e; exact h, by simp [Chain]⟩
  | q :: Q, os, head, h => by
    match os, h with
    | o0 :: o1 :: rest, h => exact ⟨by simp, h.1, h.2.1, (Steps.chain Q _ _ h.2.2.2.2).2⟩
    | [], h => exact False.elim h
    | [_], h => exact False.elim h

theorem steps_facts {le : α → α → Prop} {g : Nat → α} {x : α} (Q os : List Nat) (head : Nat) (h : Steps le g x os head Q) :
    (∀ y ∈ head :: Q, (lastTree os head Q).2 ≤ y ∧ y ≤ head) ∧ Q.length + 1 ≤ os.length :=
  chain_facts Q os head (Steps.chain Q os head h).1 (Steps.chain Q os head h).2

theorem last_sub {le : α → α → Prop} {g : Nat → α} {x : α} : ∀ (Q : List Nat) (o0 : Nat) (tl : List Nat) (head : Nat),
    Steps le g x (o0 :: tl) head Q → SubHeaps le g o0 head → Heaps le g tl (head - leo o0) →
    SubHeaps le g (lastTree (o0 :: tl) head Q).1 (lastTree (o0 :: tl) head Q).2
  | [], _, _, _, _, hsub, _ => hsub
  | q :: Q, o0, tl, head, h, _, hH => by
    match tl, h, hH with
    | o1 :: rest, h, hH =>
      obtain ⟨hq, _, _, _, hS⟩ := h
      subst hq
      exact last_sub Q o1 rest _ hS (Heap.of_sub hH.1) hH.2
    | [], h, _ => exact False.elim h

theorem Roots_tail {le : α → α → Prop} {g : Nat → α} : ∀ {os : List Nat} {o r : Nat}, Roots le g (o :: os) r →
    Roots le g os (r - leo o)
  | [], _, _, _ => trivial
  | _ :: _, _, _, h => h.2

theorem heap_first {le : α → α → Prop} {g gf : Nat → α} {o0 head : Nat} {v : α} (hsub : SubHeaps le g o0 head)
    (hle : leo o0 ≤ head) (hmid : ∀ j, head - leo o0 < j → j < head → gf j = g j)
    (hch : ∀ k, o0 = k + 2 → le (g (head - 1)) v ∧ le (g (head - 1 - leo k)) v) (hv : gf head = v) : Heap le gf o0 head := by
  match o0, hsub, hle, hmid, hch with
  | 0, _, _, _, _ => trivial
  | 1, _, _, _, _ => trivial
  | k + 2, hsub, hle, hmid, hch =>
    have N := node (Nat.le_succ_of_le hle)
    -- a position of either subtree lies strictly between the left neighbour's root and `head`
    have mid : ∀ {j}, InTree (k + 1) (head - 1 - leo k) j ∨ InTree k (head - 1) j → gf j = g j := fun {j} hj =>
      hmid j (by have := ((N.split j).2 (.inr hj)).1; omega) (N.below hj)
    obtain ⟨c1, c2⟩ := hch k rfl
    refine ⟨?_, ?_, Heap.congr_tree N.fitR (fun j hj => mid (.inr hj)) hsub.1,
      Heap.congr_tree N.fitL (fun j hj => mid (.inl hj)) hsub.2⟩
    · rw [mid (.inr (.root ..)), hv]; exact c1
    · rw [mid (.inl (.root ..)), hv]; exact c2

/-- the tree the walk stopped in, after `sift`: the whole forest from there on is heap-ordered with ascending roots -/
theorem lastL {le : α → α → Prop} {g gc gf : Nat → α} {x : α}
    {o0 : Nat} {tl : List Nat} {head : Nat} (hst : StopCond le g x (o0 :: tl) head)
    (hH : Heaps le g tl (head - leo o0)) (hR : Roots le g tl (head - leo o0))
    (hlt : ∀ j, j < head → gc j = g j) (hx : gc head = x) (heap : Heap le gf o0 head)
    (out : ∀ j, j ≤ head → ¬ InTree o0 head j → gf j = gc j)
    (dom : ∀ y j, InTree o0 head j → le y (gc j) → le y (gf head)) :
    Heaps le gf (o0 :: tl) head ∧ Roots le gf (o0 :: tl) head := by
  match tl, hst, hH, hR with
  | [], _, _, _ => exact ⟨⟨heap, trivial⟩, trivial⟩
  | o1 :: rest, ⟨hle, hstop⟩, hH, hR =>
    have hlow : ∀ j, j ≤ head - leo o0 → gf j = g j := fun j hj => by
      have p0 := leo_pos o0
      rw [out j (by omega) (InTree.not_of_le hle hj), hlt j (by omega)]
    refine ⟨⟨heap, Heaps.congr_le hlow hH⟩, ?_, Roots.congr_le hlow hR⟩
    rw [hlow _ (Nat.le_refl _)]
    rcases hstop with h | ⟨k, rfl, h⟩
    · exact dom _ head (.root ..) (by rw [hx]; exact h)
    · have N := node (Nat.le_succ_of_le hle)
      rcases h with h | h
      · exact dom _ _ (N.inR (.root ..)) (by rw [hlt _ (N.below (.inr (.root ..)))]; exact h)
      · exact dom _ _ (N.inL (.root ..)) (by rw [hlt _ (N.below (.inl (.root ..)))]; exact h)

/-- MAIN pure lemma: `gc` = the array after the rotation along `head :: Q`, `gf` = after the `sift` in the last tree -/
theorem tailL {cmp : Nat → Nat → Nat → α → α → Int} {le : α → α → Prop} (hc : Consistent cmp le) (g gc gf : Nat → α) (x : α)
    (om rm : Nat) (heap : Heap le gf om rm)
    (perm : ∀ j, InTree om rm j → ∃ j', InTree om rm j' ∧ gf j = gc j')
    (dom : ∀ y j, InTree om rm j → le y (gc j) → le y (gf rm)) :
    ∀ (Q : List Nat) (o0 : Nat) (tl : List Nat) (head : Nat), Steps le g x (o0 :: tl) head Q →
    ((o0 :: tl).map leo).sum ≤ head + 1 → SubHeaps le g o0 head → Heaps le g tl (head - leo o0) →
    Roots le g tl (head - leo o0) → lastTree (o0 :: tl) head Q = (om, rm) →
    (∀ j, j ≤ head → gc j = Cyc.rotF g x (head :: Q) j) →
    (∀ j, j ≤ head → ¬ InTree om rm j → gf j = gc j) →
    Heaps le gf (o0 :: tl) head ∧ Roots le gf (o0 :: tl) head ∧
      (Heap le g o0 head → le x (g head) → Roots le g (o0 :: tl) head → le (gf head) (g head))
  | [], o0, tl, head, hS, hsum, hsub, hH, hR, hlast, hagree, out => by
    have hom : o0 = om := congrArg Prod.fst hlast
    have hrm : head = rm := congrArg Prod.snd hlast
    subst hom; subst hrm
    have hlt : ∀ j, j < head → gc j = g j := by
      intro j hj
      rw [hagree j (by omega)]
      exact Cyc.upd_ne _ _ (by omega)
    have hx : gc head = x := by
      rw [hagree head (Nat.le_refl _)]
      exact Cyc.upd_same ..
    obtain ⟨r1, r2⟩ := lastL hS hH hR hlt hx heap out dom
    refine ⟨r1, r2, fun hHp hxle _ => ?_⟩
    obtain ⟨j', hj', e⟩ := perm head (.root ..)
    rw [e]
    by_cases hjh : j' = head
    · rw [hjh, hx]; exact hxle
    · rw [hlt j' (Nat.lt_of_le_of_ne hj'.2 hjh)]
      simp only [List.map_cons, List.sum_cons] at hsum
      exact Heap.root_max hc.refl hc.trans (by omega) hHp hj'
  | q :: Q, o0, tl, head, hS, hsum, hsub, hH, hR, hlast, hagree, out => by
    match tl, hS, hsum, hH, hR, hlast with
    | [], hS, _, _, _, _ => exact False.elim hS
    | o1 :: rest, hS, hsum, hH, hR, hlast =>
      obtain ⟨hq, hle, hnle, hch, hS'⟩ := hS
      subst hq
      have p0 := leo_pos o0
      simp only [List.map_cons, List.sum_cons] at hsum
      obtain ⟨f2, _⟩ := steps_facts Q (o1 :: rest) _ hS'
      have hlast' : lastTree (o1 :: rest) (head - leo o0) Q = (om, rm) := hlast
      rw [hlast'] at f2
      have f1 := (f2 _ (List.mem_cons_self ..)).1
      have hnot : head ∉ (head - leo o0) :: Q := by
        intro hm
        have := f2 _ hm; omega
      have hxq : le x (g (head - leo o0)) := by
        rcases hc.total x (g (head - leo o0)) with h | h
        · exact h
        · exact absurd h hnle
      have hagree' : ∀ j, j ≤ head - leo o0 → gc j = Cyc.rotF g x ((head - leo o0) :: Q) j := by
        intro j hj
        rw [hagree j (by omega), Cyc.rotF_cons_notin x g _ _ _ hnot]
        exact Cyc.upd_ne _ _ (by omega)
      obtain ⟨r1, r2, r3⟩ := tailL hc g gc gf x om rm heap perm dom Q o1 rest (head - leo o0) hS'
        (by simp only [List.map_cons, List.sum_cons]; omega) (Heap.of_sub hH.1) hH.2 (Roots_tail hR) hlast' hagree'
        (fun j hj => out j (by omega))
      have hhead : gf head = g (head - leo o0) := by
        rw [out head (Nat.le_refl _) (InTree.not_of_lt (by omega)), hagree head (Nat.le_refl _), Cyc.rotF_cons_notin x g _ _ _ hnot, Cyc.upd_same]
      have hmid : ∀ j, head - leo o0 < j → j < head → gf j = g j := by
        intro j h1 h2
        rw [out j (by omega) (InTree.not_of_lt (by omega)), hagree j (by omega)]
        apply Cyc.rotF_notin
        intro hm
        rcases List.mem_cons.mp hm with h | h
        · omega
        · have := f2 _ h; omega
      refine ⟨⟨heap_first hsub hle hmid hch hhead, r1⟩, ⟨?_, r2⟩, fun _ _ hRg => ?_⟩
      · rw [hhead]; exact r3 hH.1 hxq hR
      · rw [hhead]; exact hRg.1

theorem assemble {cmp : Nat → Nat → Nat → α → α → Int} {le : α → α → Prop} (hc : Consistent cmp le) (g gf : Nat → α) {x : α}
    {o0 : Nat} {tl : List Nat} {head : Nat} {Q : List Nat} {om rm : Nat} (hx : g head = x)
    (hS : Steps le g x (o0 :: tl) head Q) (hsum : ((o0 :: tl).map leo).sum ≤ head + 1) (hsub : SubHeaps le g o0 head)
    (hH : Heaps le g tl (head - leo o0)) (hR : Roots le g tl (head - leo o0))
    (hlast : lastTree (o0 :: tl) head Q = (om, rm)) (heap : Heap le gf om rm)
    (out : ∀ j, ¬ InTree om rm j → gf j = rot g (head :: Q) j)
    (perm : ∀ j, InTree om rm j → ∃ j', InTree om rm j' ∧ gf j = rot g (head :: Q) j')
    (dom : ∀ y j, InTree om rm j → le y (rot g (head :: Q) j) → le y (gf rm)) :
    Heaps le gf (o0 :: tl) head ∧ Roots le gf (o0 :: tl) head ∧ (∀ j, head < j → gf j = g j) ∧
      (∀ j, j ≤ head → ∃ j', j' ≤ head ∧ gf j = g j') := by
  obtain ⟨r1, r2, _⟩ := tailL hc g (rot g (head :: Q)) gf x om rm heap perm dom Q o0 tl head hS hsum hsub hH hR hlast
    (fun j _ => by rw [rot_eq_rotF, hx]) (fun j _ => out j)
  obtain ⟨f2, _⟩ := steps_facts Q _ _ hS
  rw [hlast] at f2
  have f1 := (f2 _ (List.mem_cons_self ..)).1
  have hval : ∀ j, j ≤ head → ∃ j', j' ≤ head ∧ rot g (head :: Q) j = g j' := by
    intro j hj
    rcases rot_val g (head :: Q) j with h | ⟨y, hy, h⟩
    · exact ⟨j, hj, h⟩
    · exact ⟨y, (f2 _ hy).2, h⟩
  refine ⟨r1, r2, fun j hj => ?_, fun j hj => ?_⟩
  · rw [out j (InTree.not_of_lt (by omega))]
    apply rot_notin
    intro hm
    have := f2 _ hm; omega
  · by_cases hin : InTree om rm j
    · obtain ⟨j', hj', e⟩ := perm j hin
      rw [e]
      exact hval j' (Nat.le_trans hj'.2 f1)
    · rw [out j hin]
      exact hval j hj

theorem sub_after_rot {le : α → α → Prop} {g : Nat → α} {x : α} {o0 : Nat} {tl : List Nat} {head : Nat} {Q : List Nat}
    {om rm : Nat} (hS : Steps le g x (o0 :: tl) head Q) (hsub : SubHeaps le g o0 head) (hH : Heaps le g tl (head - leo o0))
    (hlast : lastTree (o0 :: tl) head Q = (om, rm)) (hfit : leo om ≤ rm + 1) : SubHeaps le (rot g (head :: Q)) om rm := by
  have h := last_sub Q o0 tl head hS hsub hH
  obtain ⟨f2, _⟩ := steps_facts Q _ _ hS
  rw [hlast] at h f2
  refine SubHeaps.congr_lt hfit (fun j hj => ?_) h
  apply rot_notin
  intro hm
  have := f2 _ hm; omega

theorem iter_run [Inhabited α] (e : Env α) (le : α → α → Prop) {n K : Nat} (hlp : LpOk e.lp K)
    (s0 s : St α) (ar0 head pshift : Nat) (trusty : Bool) (hs0 : s0.a.size = n) (hs : s.a = s0.a) (h0 : ar0 < n) (hh : head < n)
    (hpK : pshift ≤ K) (hl : leo pshift ≤ head) :
    Tot (trinkleIter e s ar0 head pshift trusty) (fun r => r.1.a = s0.a ∧
      ((r.2 = none ∧ (Consistent e.cmp le → le (s0.g (head - leo pshift)) (s0.g ar0) ∨ ∃ k, pshift = k + 2 ∧
          (le (s0.g (head - leo pshift)) (s0.g (head - 1)) ∨ le (s0.g (head - leo pshift)) (s0.g (head - 1 - leo k))))) ∨
       (r.2 = some (head - leo pshift) ∧ (Consistent e.cmp le → ¬ le (s0.g (head - leo pshift)) (s0.g ar0) ∧
          (trusty = false → ∀ k, pshift = k + 2 →
            le (s0.g (head - 1)) (s0.g (head - leo pshift)) ∧ le (s0.g (head - 1 - leo k)) (s0.g (head - leo pshift))))))) := by
  unfold trinkleIter
  refine Tot.bind _ (lpAt_tot hlp hpK) fun l hl' => ?_
  subst hl'
  refine Tot.bind _ (sub_tot hl) fun st hst => ?_
  subst hst
  refine Tot.bind _ (cmpAt_g e hs (by omega) (by omega)) fun ⟨c, s1⟩ ⟨h1, n1, hc1⟩ => ?_
  subst hc1
  refine Tot.ite (fun hle => Tot.ok ⟨h1, .inl ⟨rfl, fun hc => .inl ((hc.nonpos ..).1 hle)⟩⟩) (fun hnle => ?_)
  have hnle' : ∀ hc : Consistent e.cmp le, ¬ le (s0.g (head - leo pshift)) (s0.g ar0) := fun hc h => hnle ((hc.nonpos ..).2 h)
  refine Tot.bind (fun r => r.2.a = s0.a ∧ ∀ hc : Consistent e.cmp le,
      (r.1 = true → ∃ k, pshift = k + 2 ∧
        (le (s0.g (head - leo pshift)) (s0.g (head - 1)) ∨ le (s0.g (head - leo pshift)) (s0.g (head - 1 - leo k)))) ∧
      (r.1 = false → trusty = false → ∀ k, pshift = k + 2 →
        le (s0.g (head - 1)) (s0.g (head - leo pshift)) ∧ le (s0.g (head - 1 - leo k)) (s0.g (head - leo pshift)))) ?_
    (fun ⟨brk, s2⟩ ⟨h2, hf⟩ => ?_)
  · refine Tot.ite (fun hcnd => ?_) (fun hcnd => Tot.ok ⟨h1, fun _ => ⟨fun h => (by cases h), fun _ htr k hk => ?_⟩⟩)
    · obtain ⟨k, rfl⟩ : ∃ k, pshift = k + 2 := ⟨pshift - 2, by omega⟩
      have hleo := leo_succ_succ k
      simp only [Nat.add_sub_cancel]
      refine Tot.bind _ (sub_tot (by omega)) fun rt hrt => ?_
      subst hrt
      refine Tot.bind _ (lpAt_tot hlp (by omega)) fun l2 hl2 => ?_
      subst hl2
      refine Tot.bind _ (sub_tot (by omega)) fun lf hlf => ?_
      subst hlf
      refine Tot.bind _ (cmpAt_g e h1 (by omega) (by omega)) fun ⟨c1, s2⟩ ⟨h2, n2, hc2⟩ => ?_
      subst hc2
      refine Tot.ite (fun c1 => Tot.ok ⟨h2, fun hc => ⟨fun _ => ⟨k, rfl, .inl ((hc.nonneg ..).1 c1)⟩, fun h => (by cases h)⟩⟩)
        (fun c1 => ?_)
      refine Tot.bind _ (cmpAt_g e h2 (by omega) (by omega)) fun ⟨c2, s3⟩ ⟨h3, n3, hc3⟩ => ?_
      subst hc3
      refine Tot.ok ⟨h3, fun hc => ⟨fun hb => ⟨k, rfl, .inr ((hc.nonneg ..).1 (by simpa using hb))⟩, fun hb _ k' hk' => ?_⟩⟩
      have : k' = k := by omega
      subst this
      have c2 : ¬ 0 ≤ e.cmp n3 (head - 1 - leo k') (head - leo (k' + 2)) (s0.g (head - 1 - leo k')) (s0.g (head - leo (k' + 2))) := by
        simpa using hb
      exact ⟨(hc.total _ _).resolve_right fun h => c1 ((hc.nonneg ..).2 h), (hc.total _ _).resolve_right fun h => c2 ((hc.nonneg ..).2 h)⟩
    · exact absurd ⟨by simpa using htr, by omega⟩ hcnd
  · cases brk with
    | true => exact Tot.ok ⟨h2, .inl ⟨rfl, fun hc => .inr ((hf hc).1 rfl)⟩⟩
    | false => exact Tot.ok ⟨h2, .inr ⟨rfl, fun hc => ⟨hnle' hc, (hf hc).2 rfl⟩⟩⟩

theorem loop_run [Inhabited α] (e : Env α) (le : α → α → Prop) {n K G : Nat} (C : Ctx e n K G)
    (s0 : St α) (hs0 : s0.a.size = n) (ar0 : Nat) (h0 : ar0 < n) :
    ∀ (room : Nat) (os : List Nat) (s : St α) (head : Nat) (p : PV) (pshift : Nat) (trusty : Bool) (acc : List Nat),
    s.a = s0.a → head < n → Forest os p pshift head → os.length ≤ room + 1 →
    Tot (trinkleLoop e room s ar0 head p pshift trusty acc) (fun r =>
      r.1.a = s0.a ∧ r.2.1 < n ∧ leo r.2.2.1 ≤ r.2.1 + 1 ∧ r.2.2.1 ≤ K ∧
      ∃ Q, r.2.2.2.2 = Q.reverse ++ acc ∧ Chain os head Q ∧ lastTree os head Q = (r.2.2.1, r.2.1) ∧
        (r.2.2.2.1 = true → Q = [] ∧ trusty = true) ∧
        (Consistent e.cmp le →
          (trusty = true → ∀ k, pshift = k + 2 → le (s0.g (head - 1)) (s0.g ar0) ∧ le (s0.g (head - 1 - leo k)) (s0.g ar0)) →
          Steps le s0.g (s0.g ar0) os head Q)) := by
  intro room
  induction room with
  | zero =>
    intro os s head p pshift trusty acc hs hh hF hlen
    obtain ⟨tl, rfl⟩ := hF.cons_of
    cases tl with
    | cons _ _ => simp at hlen
    | nil =>
      rw [hF.single, trinkleLoop_one]
      exact Tot.ok ⟨hs, hh, hF.fits, hF.le_K C hh (by simp), [], rfl, trivial, rfl, fun h => ⟨rfl, h⟩, fun _ _ => trivial⟩
  | succ room ih =>
    intro os s head p pshift trusty acc hs hh hF hlen
    obtain ⟨tl, rfl⟩ := hF.cons_of
    cases tl with
    | nil =>
      rw [hF.single, trinkleLoop_one]
      exact Tot.ok ⟨hs, hh, hF.fits, hF.le_K C hh (by simp), [], rfl, trivial, rfl, fun h => ⟨rfl, h⟩, fun _ _ => trivial⟩
    | cons o1 rest =>
      unfold trinkleLoop
      obtain ⟨hlt, hne, hpn, hle, _, hF'⟩ := hF.next C hh
      simp only [hne, if_false]
      refine Tot.bind _ (iter_run e le C.lp s0 s ar0 head pshift trusty hs0 hs h0 hh (hF.le_K C hh (by simp)) hle)
        (fun ⟨s1, step⟩ h1 => ?_)
      obtain ⟨hs1, hstep⟩ := h1
      rcases hstep with ⟨hstep, hstop⟩ | ⟨hstep, hfacts⟩
      · have : step = none := hstep
        subst this
        exact Tot.ok ⟨hs1, hh, hF.fits, hF.le_K C hh (by simp), [], rfl, trivial, rfl, fun h => ⟨rfl, h⟩,
          fun hc _ => ⟨hle, hstop hc⟩⟩
      · have : step = some (head - leo pshift) := hstep
        subst this
        show Tot (trinkleLoop e room s1 ar0 (head - leo pshift) (shr p (pntz e.fx p)) (pshift + pntz e.fx p) false
          ((head - leo pshift) :: acc)) _
        rw [hpn]
        have e1 : pshift + (o1 - pshift) = o1 := by omega
        rw [e1]
        obtain ⟨r, hr, q1, q2, q3, q4, Q, q5, q6, q7, q8, q9⟩ := ih (o1 :: rest) s1 (head - leo pshift) (shr p (o1 - pshift)) o1 false
          ((head - leo pshift) :: acc) hs1 (by omega) hF' (by simp at hlen ⊢; omega)
        refine ⟨r, hr, q1, q2, q3, q4, (head - leo pshift) :: Q, by rw [q5]; simp, ⟨rfl, hle, q6⟩, q7,
          fun h => (by have := (q8 h).2; cases this), fun hc htr => ?_⟩
        obtain ⟨hnle, hch⟩ := hfacts hc
        have hxq : le (s0.g ar0) (s0.g (head - leo pshift)) := (hc.total _ _).resolve_right hnle
        refine ⟨rfl, hle, hnle, ?_, q9 hc (fun h => by cases h)⟩
        cases htrv : trusty with
        | false => exact hch htrv
        | true =>
          intro k hk
          obtain ⟨c1, c2⟩ := htr htrv k hk
          exact ⟨hc.trans c1 hxq, hc.trans c2 hxq⟩


end SafeC.Sort.Trk

namespace SafeC.Sort
variable {α : Type}

theorem trinkle_run [Inhabited α] (e : Env α) (le : α → α → Prop) {n K G : Nat} (C : Ctx e n K G)
    (s : St α) (os : List Nat) (head : Nat) (p : PV) (pshift : Nat) (trusty : Bool) (hs : s.a.size = n) (hh : head < n)
    (hF : Forest os p pshift head) :
    Tot (trinkle e s head p pshift trusty) (fun r => r.a.size = n ∧ (Consistent e.cmp le →
      (if trusty then Heap le s.g pshift head else SubHeaps le s.g pshift head) →
      Heaps le s.g os.tail (head - leo pshift) → Roots le s.g os.tail (head - leo pshift) →
      Heaps le r.g os head ∧ Roots le r.g os head ∧
      (∀ j, head < j → r.g j = s.g j) ∧ (∀ j, j ≤ head → ∃ j', j' ≤ head ∧ r.g j = s.g j'))) := by
  unfold trinkle
  have hK95 := C.K95
  have hlen := hF.length_le C hh
  obtain ⟨tl, rfl⟩ := hF.cons_of
  refine Tot.bind _ (Trk.loop_run e le C s hs head hh 112 _ s head p pshift trusty [head] rfl hh hF (by omega))
    (fun ⟨s1, hd1, ps1, tr1, acc1⟩ h1 => ?_)
  obtain ⟨q1, q2, q3, q4, Q, q5, q6, q7, q8, q9⟩ := h1
  simp only at q1 q2 q3 q4 q5 q6 q7 q8 q9
  have hg1 : s1.g = s.g := g_congr q1
  obtain ⟨f2, f3⟩ := Trk.chain_facts Q _ _ (by simp) q6
  rw [q7] at f2
  have content : ∀ (hc : Consistent e.cmp le) (hfirst : if trusty then Heap le s.g pshift head else SubHeaps le s.g pshift head),
      SubHeaps le s.g pshift head ∧ Trk.Steps le s.g (s.g head) (pshift :: tl) head Q := by
    intro hc hfirst
    refine ⟨?_, q9 hc fun ht k hk => ?_⟩
    · cases trusty with
      | true => exact Heap.of_sub hfirst
      | false => exact hfirst
    · subst ht; subst hk
      exact ⟨hfirst.1, hfirst.2.1⟩
  have hsum : ((pshift :: tl).map leo).sum ≤ head + 1 := Nat.le_of_eq hF.sum
  cases tr1 with
  | true =>
    obtain ⟨hQ, htt⟩ := q8 rfl
    subst hQ; subst htt
    have hom : pshift = ps1 := congrArg Prod.fst q7
    have hrm : head = hd1 := congrArg Prod.snd q7
    subst hom; subst hrm
    refine Tot.ok ⟨by rw [q1]; exact hs, fun hc hfirst hrest hroots => ?_⟩
    obtain ⟨hsub, hS⟩ := content hc hfirst
    have hheap : Heap le s.g pshift head := hfirst
    rw [hg1]
    exact Trk.assemble hc s.g s.g rfl hS hsum hsub hrest hroots q7 hheap (fun _ _ => rfl) (fun j hj => ⟨j, hj, rfl⟩)
      (fun y j hj hy => hc.trans hy (Heap.root_max hc.refl hc.trans q3 hheap hj))
  | false =>
    have hrev : acc1.reverse = head :: Q := by rw [q5]; simp
    have hs1 : s1.a.size = n := by rw [q1]; exact hs
    refine Tot.bind _ (cycle_fn s1 acc1.reverse (by
        rw [hrev, hs1]
        intro y hy
        have := f2 _ hy; omega) (by rw [hrev]; simp at f3 hlen ⊢; omega)) (fun s2 h2 => ?_)
    obtain ⟨h2s, h2g⟩ := h2
    rw [hrev, hg1] at h2g
    refine (sift_run e le C.lp (by omega) s2 hd1 ps1 (by rw [h2s]; exact hs1) q2 q3 q4).mono fun r hr => ⟨hr.1, ?_⟩
    intro hc hfirst hrest hroots
    obtain ⟨hsub, hS⟩ := content hc hfirst
    obtain ⟨r2, r3, r4, r5⟩ := hr.2 hc (by rw [h2g]; exact Trk.sub_after_rot hS hsub hrest q7 q3)
    rw [h2g] at r3 r4 r5
    exact Trk.assemble hc s.g r.g rfl hS hsum hsub hrest hroots q7 r2 r3 r4 r5

end SafeC.Sort
