import SafeC.Proofs.Fmt
import SafeC.Proofs.FmtGram
/-!
# The `%n` pre-scan against the format grammars (C09)

`look p fmt` (Proofs/Fmt.lean, with its one-step lemma `look_step`) is the pre-scan with the character in front of the format
made explicit, so that it can be followed through a format piece by piece (`look_skip`, `look_pct`, `look_pct_n`, `look_walk`);
`prescan fmt = look p fmt` for every `p ≠ '%'` (`prescan_eq_look`).

* `look_sound` / `slook_sound`: a grammatical format the scanner rejects contains an `n` conversion
  (scanf: provided no scan set has `%` as a member);
* `prescan_of_infix`: the scanner rejects whenever the characters `%n` occur and `%%n` does not;
* `PRej` with `look_of_PRej` / `PRej_of_look`: the exact set of grammatical printf formats the scanner rejects.
-/
namespace SafeC.Fmt.Gram
open SafeC.Fmt

theorem look_nil (p : Char) : look p [] = false := rfl

theorem look_skip (p : Char) {c : Char} (r : Str) (h : c ≠ '%') : look p (c :: r) = look c r :=
  look_step p c r (fun hh => h hh.1)

theorem look_pct (p : Char) {r : Str} (h : r.head? ≠ some 'n') : look p ('%' :: r) = look '%' r :=
  look_step p '%' r (fun hh => h hh.2)

theorem look_walk (p : Char) : ∀ (l : Str) (c : Char) (r : Str), (∀ x ∈ l, x ≠ '%') → c ≠ '%' →
    look p (l ++ c :: r) = look c r := by
  intro l
  induction l generalizing p with
  | nil => intro c r _ hc; exact look_skip p r hc
  | cons a t ih =>
    intro c r hl hc
    have ha : a ≠ '%' := hl a (by simp)
    rw [List.cons_append, look_skip p _ ha]
    exact ih a c r (fun x hx => hl x (by simp [hx])) hc

theorem look_indep (p q : Char) : ∀ (f : Str), ¬ (∃ t, f = '%' :: 'n' :: t) → look p f = look q f := by
  intro f h
  cases f with
  | nil => rfl
  | cons c r =>
    have hs : ¬ (c = '%' ∧ r.head? = some 'n') := by
      intro ⟨h1, h2⟩
      obtain ⟨t, ht⟩ := List.head?_eq_some_iff.mp h2
      exact h ⟨t, by rw [h1, ht]⟩
    rw [look_step p c r hs, look_step q c r hs]

theorem head_n_of_decor {t : Str} (ht : ∀ x ∈ t, isDecorChar x = true) {c : Char} {r : Str}
    (h : (t ++ c :: r).head? = some 'n') : t = [] ∧ c = 'n' := by
  cases t with
  | nil => simpa using h
  | cons a t =>
    have ha : a = 'n' := by simpa using h
    exact absurd ha (decorChar_ne_n (ht a (by simp)))

theorem look_esc {p : Char} {r : Str} (hp : look p ('%' :: '%' :: r) = true) : look '%' r = true ∧ r.head? ≠ some 'n' := by
  rw [look_pct p (by simp)] at hp
  by_cases hn : r.head? = some 'n'
  · obtain ⟨t, rfl⟩ := List.head?_eq_some_iff.mp hn
    rw [look_pct_n] at hp; simp at hp
  · rw [look_pct '%' hn] at hp; exact ⟨hp, hn⟩

theorem look_conv (p : Char) {t : Str} (ht : ∀ x ∈ t, isDecorChar x = true) {c : Char} (hc : c ≠ '%') (r : Str)
    (hn : ¬ (t = [] ∧ c = 'n')) : look p ('%' :: (t ++ c :: r)) = look c r := by
  rw [look_pct p (fun h => hn (head_n_of_decor ht h))]
  exact look_walk '%' t c r (fun x hx => decorChar_ne_pct (ht x hx)) hc

theorem look_sound {f : Str} {b : Bool} (h : PParse f b) : ∀ p, look p f = true → b = true := by
  induction h with
  | nil => intro p hp; simp [look_nil] at hp
  | lit hc _ ih => intro p hp; rw [look_skip p _ hc] at hp; exact ih _ hp
  | esc _ ih => intro p hp; exact ih _ (look_esc hp).1
  | @conv d c r b hd hc _ ih =>
    intro p hp
    by_cases hn : d.text = [] ∧ c = 'n'
    · simp [hn.2]
    · rw [look_conv p (decor_chars hd) (conv_ne_pct hc) r hn] at hp
      simp [ih _ hp]

theorem prescan_of_infix {fmt : Str} (h : ['%', 'n'] <:+: fmt) (hesc : ¬ ['%', '%', 'n'] <:+: fmt) : prescan fmt = true := by
  cases hp : prescan fmt with
  | true => rfl
  | false => exact absurd h (prescan_false_no_pctn hp hesc)

/-- the format has a conversion specification written exactly `%n` -/
def PHasBareN (fmt : Str) : Prop := ∃ pre post a b, PParse pre a ∧ PParse post b ∧ fmt = pre ++ '%' :: 'n' :: post

theorem PHasBareN.hasN {fmt : Str} (h : PHasBareN fmt) : PHasN fmt := by
  obtain ⟨pre, post, a, b, h1, h2, rfl⟩ := h
  exact pparse_n_anywhere Decor.none (by decide) h1 h2

theorem PHasBareN.infix {fmt : Str} (h : PHasBareN fmt) : ['%', 'n'] <:+: fmt := by
  obtain ⟨pre, post, _, _, _, _, rfl⟩ := h
  exact ⟨pre, post, by simp⟩

/-- grammatical formats with a bare `%n` that stands in front of every `%%n` and is not itself behind a `%%` -/
inductive PRej : Str → Prop
  | lit {c : Char} {r : Str} : c ≠ '%' → PRej r → PRej (c :: r)
  | bare {r : Str} {b : Bool} : PParse r b → PRej ('%' :: 'n' :: r)
  | conv {d : Decor} {c : Char} {r : Str} : d.ok = true → c ∈ convs → ¬ (d.text = [] ∧ c = 'n') → PRej r →
      PRej ('%' :: (d.text ++ c :: r))
  | esc {r : Str} : r.head? ≠ some 'n' → ¬ (∃ t, r = '%' :: 'n' :: t) → PRej r → PRej ('%' :: '%' :: r)

theorem PRej.hasN {f : Str} (h : PRej f) : PHasN f := by
  induction h with
  | lit hc _ ih => exact PParse.lit hc ih
  | bare h => exact pparse_n_anywhere (pre := []) Decor.none (by decide) PParse.nil h
  | conv hd hc _ _ ih => have := PParse.conv hd hc ih; simpa using this
  | esc _ _ _ ih => exact PParse.esc ih

theorem look_of_PRej {f : Str} (h : PRej f) : ∀ p, p ≠ '%' → look p f = true := by
  induction h with
  | lit hc _ ih => intro p _; rw [look_skip p _ hc]; exact ih _ hc
  | bare _ => intro p hp; rw [look_pct_n]; simpa using hp
  | conv hd hc hn _ ih => intro p _; rw [look_conv p (decor_chars hd) (conv_ne_pct hc) _ hn]; exact ih _ (conv_ne_pct hc)
  | @esc r hn hpn _ ih =>
    intro p _
    rw [look_pct p (by simp), look_pct '%' hn, look_indep '%' 'x' r hpn]
    exact ih 'x' (by decide)

theorem PRej_of_look {f : Str} {b : Bool} (h : PParse f b) : ∀ p, look p f = true → PRej f := by
  induction h with
  | nil => intro p hl; simp [look_nil] at hl
  | lit hc _ ih => intro p hl; rw [look_skip p _ hc] at hl; exact PRej.lit hc (ih _ hl)
  | @esc r b _ ih =>
    intro p hl
    obtain ⟨hl, hn⟩ := look_esc hl
    by_cases hpn : ∃ t, r = '%' :: 'n' :: t
    · obtain ⟨t, rfl⟩ := hpn
      rw [look_pct_n] at hl; simp at hl
    · rw [look_indep '%' 'x' r hpn] at hl
      exact PRej.esc hn hpn (ih 'x' hl)
  | @conv d c r b hd hc hr ih =>
    intro p hl
    by_cases hn : d.text = [] ∧ c = 'n'
    · rw [hn.1, hn.2]; exact PRej.bare hr
    · rw [look_conv p (decor_chars hd) (conv_ne_pct hc) r hn] at hl
      exact PRej.conv hd hc hn (ih _ hl)

theorem sdecor_text_nil {d : SDecor} (h : d.text = []) : d.sup = false := by
  cases hs : d.sup with
  | false => rfl
  | true => simp [SDecor.text, hs] at h

theorem sconv_ne_pct {c : Char} (h : c ∈ sconvs) : c ≠ '%' := by
  intro e; subst e; revert h; decide

theorem setBody_no_pct {s : SetBody} (h : s.first ≠ '%' ∧ '%' ∉ s.rest) : ∀ x ∈ s.text, x ≠ '%' := by
  intro x hx
  simp only [SetBody.text, List.mem_append, List.mem_cons] at hx
  rcases hx with hx | hx | hx
  · split at hx
    · simp at hx; subst hx; decide
    · simp at hx
  · subst hx; exact h.1
  · intro e; subst e; exact h.2 hx

theorem slook_sound {f : Str} {b : Bool} (h : SParseNoPct f b) : ∀ p, look p f = true → b = true := by
  induction h with
  | nil => intro p hp; simp [look_nil] at hp
  | lit hc _ ih => intro p hp; rw [look_skip p _ hc] at hp; exact ih _ hp
  | esc _ ih => intro p hp; exact ih _ (look_esc hp).1
  | @conv d c r b hd hc _ ih =>
    intro p hp
    by_cases hn : d.text = [] ∧ c = 'n'
    · simp [hn.2, sdecor_text_nil hn.1]
    · rw [look_conv p (sdecor_chars hd) (sconv_ne_pct hc) r hn] at hp
      simp [ih _ hp]
  | @set d s r b hd hs hP _ ih =>
    intro p hp
    rw [look_conv p (sdecor_chars hd) (by decide) _ (fun h => absurd h.2 (by decide)),
      look_walk '[' s.text ']' r (setBody_no_pct hP) (by decide)] at hp
    exact ih _ hp

/-- the scanf format has a conversion specification written exactly `%n` -/
def SHasBareN (fmt : Str) : Prop := ∃ pre post a b, SParseAll pre a ∧ SParseAll post b ∧ fmt = pre ++ '%' :: 'n' :: post

theorem SHasBareN.hasN {fmt : Str} (h : SHasBareN fmt) : SParseAll fmt true := by
  obtain ⟨pre, post, a, b, h1, h2, rfl⟩ := h
  have := SParse.append h1 (SParse.conv (d := ⟨false, [], []⟩) (c := 'n') (by decide) (by decide) h2)
  simpa [SDecor.text] using this

theorem SHasBareN.infix {fmt : Str} (h : SHasBareN fmt) : ['%', 'n'] <:+: fmt := by
  obtain ⟨pre, post, _, _, _, _, rfl⟩ := h
  exact ⟨pre, post, by simp⟩

end SafeC.Fmt.Gram
