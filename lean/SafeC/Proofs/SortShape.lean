import SafeC.Proofs.SortBits
import SafeC.Proofs.SortLp
/-!
# qsort_s model: the smoothsort forest-shape invariant, and the rounds of the two loops that keep it

`Forest os p pshift head`: the set bits of the two-word vector `p`, bit `i` standing for the order `pshift + i`, are
exactly the orders `os` (strictly ascending) of Leonardo trees that tile `[0, head]`: the smallest, of order `pshift`,
is rooted at `head`, the next at `head - leo pshift`, ….  `Shape` adds what the two loops of `qsort_musl` keep: from the
second order on, consecutive orders are at least 2 apart (so a merge never meets a tree of the merged order).

The transitions (`Forest.next`, `Shape.merge_cons`, `single`, `drop`, `split`) are about `p`, `pshift`, `head` alone.
`mainStep_inv` / `dismantleStep_inv`: one round of either loop keeps `Shape`, and any property of the array that the calls of
`sift` / `trinkle` in it hand over (used with the heap invariants in Proofs/SortSorted.lean).  `Ctx` collects what is assumed of
the table and of `pntz` (discharged in Proofs/SortWhole.lean).
-/
namespace SafeC.Sort

def Rep (p : PV) (pshift : Nat) (os : List Nat) : Prop := ∀ i, p.bit i = decide (pshift + i ∈ os)

/-- `zero`: a tree of order 0 only ever stands next to one of order 1 (it is created from `pshift = 1` by `shl 1`), so
    the distance `pntz` has to find from it is 1 -/
structure Forest (os : List Nat) (p : PV) (pshift head : Nat) : Prop where
  hd : os.head? = some pshift
  asc : os.Pairwise (· < ·)
  rep : Rep p pshift os
  sum : (os.map leo).sum = head + 1
  zero : pshift = 0 → 1 ∈ os

structure Shape (os : List Nat) (p : PV) (pshift head : Nat) : Prop extends Forest os p pshift head where
  gap : os.tail.Pairwise (fun a b => a + 2 ≤ b)

/-- what the proof needs to know about the table and about `pntz`, for arrays of `n` elements: `lp[0..K]` are the
    Leonardo numbers and every tree that fits has order `≤ K`; `pntz` is right for every distance `≤ G`, and `hG` bounds
    the distance from an order `≥ 1` to the next order of a forest on `n` elements by `G` (from order 0 the next order is
    1, `Forest.zero`, and `G1` covers that distance) -/
structure Ctx (e : Env α) (n K G : Nat) : Prop where
  lp : LpOk e.lp K
  hK : ∀ o, leo o ≤ n → o ≤ K
  K95 : K ≤ 95
  G1 : 1 ≤ G
  hG : ∀ o, leo o + 1 ≤ n → o ≤ G + 1
  pntz : ∀ (p : PV) (t : Nat), p.bit 0 = true → 0 < t → t ≤ G → p.bit t = true →
    (∀ j, 0 < j → j < t → p.bit j = false) → pntz e.fx p = t

theorem le_sum_of_mem {l : List Nat} {a : Nat} (h : a ∈ l) : a ≤ l.sum := by
  induction l with
  | nil => cases h
  | cons x l ih =>
    simp only [List.sum_cons]
    rcases List.mem_cons.mp h with rfl | h
    · omega
    · have := ih h; omega

theorem asc_length : ∀ (l : List Nat) (K b : Nat), l.Pairwise (· < ·) → (∀ x ∈ l, b ≤ x ∧ x ≤ K) → l.length ≤ K + 1 - b
  | [], _, _, _, _ => by simp
  | x :: l, K, b, hp, hb => by
    rw [List.pairwise_cons] at hp
    have hx := hb x (by simp)
    have := asc_length l K (b + 1) hp.2 (fun y hy => by
      have h1 := hp.1 y hy
      have h2 := hb y (by simp [hy])
      omega)
    simp only [List.length_cons]
    omega

namespace Forest
variable {os : List Nat} {p : PV} {pshift head : Nat}

theorem leo_le (h : Forest os p pshift head) {o : Nat} (ho : o ∈ os) : leo o ≤ head + 1 := by
  have := le_sum_of_mem (List.mem_map_of_mem (f := leo) ho)
  rw [h.sum] at this; exact this

theorem cons_of (h : Forest os p pshift head) : ∃ tl, os = pshift :: tl := by
  have := h.hd
  cases os with
  | nil => simp at this
  | cons x tl => simp at this; exact ⟨tl, by rw [this]⟩

theorem mem_pshift (h : Forest os p pshift head) : pshift ∈ os := by
  obtain ⟨tl, rfl⟩ := h.cons_of
  simp

theorem pshift_le (h : Forest os p pshift head) {o : Nat} (ho : o ∈ os) : pshift ≤ o := by
  obtain ⟨tl, rfl⟩ := h.cons_of
  have hp := h.asc
  rw [List.pairwise_cons] at hp
  rcases List.mem_cons.mp ho with rfl | h'
  · exact Nat.le_refl _
  · exact Nat.le_of_lt (hp.1 o h')

theorem bit0 (h : Forest os p pshift head) : p.bit 0 = true := by
  rw [h.rep 0]; simpa using h.mem_pshift

theorem fits (h : Forest os p pshift head) : leo pshift ≤ head + 1 := h.leo_le h.mem_pshift

theorem le_K {e : Env α} {n K G : Nat} (C : Ctx e n K G) (h : Forest os p pshift head) (hh : head < n) {o : Nat} (ho : o ∈ os) :
    o ≤ K := C.hK o (by have := h.leo_le ho; omega)

theorem length_le {e : Env α} {n K G : Nat} (C : Ctx e n K G) (h : Forest os p pshift head) (hh : head < n) :
    os.length ≤ K + 1 :=
  asc_length os K 0 h.asc (fun _ hx => ⟨Nat.zero_le _, h.le_K C hh hx⟩)

theorem single (h : Forest [pshift] p pshift head) : p = PV.one := by
  rw [eq_one_iff]
  intro i
  rw [h.rep i]
  apply decide_eq_decide.mpr
  simp

/-- the step of `trinkle` to the stepson: `pntz` is the distance to the next order, and shifting it out gives the forest
    without its first tree, which ends at the stepson `head - leo pshift` -/
theorem next {e : Env α} {n K G : Nat} (C : Ctx e n K G) {o0 o1 : Nat} {rest : List Nat}
    (h : Forest (o0 :: o1 :: rest) p o0 head) (hh : head < n) :
    o0 < o1 ∧ p ≠ PV.one ∧ pntz e.fx p = o1 - o0 ∧ leo o0 ≤ head ∧ o1 ≤ K ∧
      Forest (o1 :: rest) (shr p (o1 - o0)) o1 (head - leo o0) := by
  have hasc := h.asc
  rw [List.pairwise_cons, List.pairwise_cons] at hasc
  obtain ⟨h01, h1r, hrr⟩ := hasc
  have hlt : o0 < o1 := h01 o1 (by simp)
  have hsum := h.sum
  simp only [List.map_cons, List.sum_cons] at hsum
  have p0 := leo_pos o0
  have p1 := leo_pos o1
  have ho1K : o1 ≤ K := h.le_K C hh (by simp)
  have hK95 := C.K95
  have hbt : p.bit (o1 - o0) = true := by
    rw [h.rep]; simp; omega
  have hmin : ∀ j, 0 < j → j < o1 - o0 → p.bit j = false := by
    intro j hj0 hj
    rw [h.rep]
    simp only [decide_eq_false_iff_not, List.mem_cons, not_or]
    refine ⟨by omega, by omega, fun hm => ?_⟩
    have := h1r _ hm
    omega
  have htG : o1 - o0 ≤ G := by
    by_cases hz : o0 = 0
    · have := h.zero hz
      simp only [List.mem_cons] at this
      rcases this with h' | h' | h'
      · omega
      · have := C.G1; omega
      · have := h1r _ h'; omega
    · have := C.hG o1 (by omega)
      omega
  have hpn : pntz e.fx p = o1 - o0 := C.pntz p _ h.bit0 (by omega) htG hbt hmin
  refine ⟨hlt, ?_, hpn, by omega, ho1K, ?_⟩
  · intro hp1
    rw [eq_one_iff] at hp1
    have := hp1 (o1 - o0)
    rw [hbt] at this
    simp at this
    omega
  · refine ⟨by simp, List.pairwise_cons.mpr ⟨h1r, hrr⟩, ?_, ?_, by intro h0; omega⟩
    · intro i
      rw [shr_bit p (by omega) (by omega), h.rep]
      apply decide_eq_decide.mpr
      have e1 : o0 + (i + (o1 - o0)) = o1 + i := by omega
      rw [e1]
      simp only [List.mem_cons]
      constructor
      · rintro (h' | h')
        · omega
        · exact h'
      · intro h'; exact Or.inr h'
    · simp only [List.map_cons, List.sum_cons]
      omega

end Forest

namespace Shape
variable {os : List Nat} {p : PV} {pshift head : Nat}

/-- `(p[0] & 3) == 3`: the two smallest trees have consecutive orders -/
theorem two_of_bit1 (h : Forest os p pshift head) (h1 : p.bit 1 = true) : ∃ rest, os = pshift :: (pshift + 1) :: rest := by
  obtain ⟨tl, rfl⟩ := h.cons_of
  rw [h.rep] at h1
  simp only [decide_eq_true_eq, List.mem_cons] at h1
  have hasc := h.asc
  rw [List.pairwise_cons] at hasc
  cases tl with
  | nil => simp at h1
  | cons o1 rest =>
    have hp := hasc.2
    rw [List.pairwise_cons] at hp
    have h01 := hasc.1 o1 (by simp)
    rcases h1 with h1 | h1
    · omega
    · rcases List.mem_cons.mp h1 with h1 | h1
      · exact ⟨rest, by rw [← h1]⟩
      · have := hp.1 _ h1; omega

theorem merge_cons {rest : List Nat} (h : Shape (pshift :: (pshift + 1) :: rest) p pshift head) :
    Shape ((pshift + 2) :: rest) ⟨(shr p 2).lo ||| 1, (shr p 2).hi⟩ (pshift + 2) (head + 1) := by
  have hasc := h.asc
  rw [List.pairwise_cons, List.pairwise_cons] at hasc
  have hgap := h.gap
  simp only [List.tail_cons] at hgap
  rw [List.pairwise_cons] at hgap
  have hsum := h.sum
  simp only [List.map_cons, List.sum_cons] at hsum
  refine ⟨⟨by simp, List.pairwise_cons.mpr ⟨fun x hx => by have := hgap.1 x hx; omega, hasc.2.2⟩,
    ?_, ?_, by intro h0; omega⟩, by simpa using hgap.2⟩
  · intro i
    rw [or1_bit, shr_bit p (by omega) (by omega), h.rep, Bool.eq_iff_iff]
    simp only [Bool.or_eq_true, decide_eq_true_eq, List.mem_cons]
    have e : pshift + 2 + i = pshift + (i + 2) := by omega
    constructor
    · rintro (h' | h' | h' | h')
      · left; omega
      · omega
      · omega
      · right; rw [e]; exact h'
    · rintro (h' | h')
      · left; omega
      · right; right; right
        rw [← e]; exact h'
  · simp only [List.map_cons, List.sum_cons]
    have := leo_succ_succ pshift
    omega

/-- `(p[0] & 3) != 3`: the smallest tree has no neighbour of the next order, and its order is not 0 -/
theorem of_not_bit1 (h : Forest os p pshift head) (h1 : p.bit 1 = false) : pshift ≠ 0 ∧ pshift + 1 ∉ os := by
  rw [h.rep] at h1
  simp only [decide_eq_false_iff_not] at h1
  refine ⟨fun h0 => ?_, h1⟩
  have := h.zero h0
  subst h0
  exact h1 (by simpa using this)

/-- `(p[0] & 3) != 3`: all orders of the forest are at least 2 apart -/
theorem gap_all (h : Shape os p pshift head) (hnot : pshift + 1 ∉ os) : os.Pairwise (fun a b => a + 2 ≤ b) := by
  obtain ⟨tl, rfl⟩ := h.cons_of
  have hasc := h.asc
  rw [List.pairwise_cons] at hasc
  refine List.pairwise_cons.mpr ⟨fun x hx => ?_, by simpa using h.gap⟩
  have h2 := hasc.1 x hx
  have h3 : x ≠ pshift + 1 := fun hx' => hnot (by rw [← hx']; exact List.mem_cons_of_mem _ hx)
  omega

/-- a new tree of one element, of order `q` = 0 (when `pshift = 1`) or 1 (when `pshift ≥ 2`) -/
theorem single {e : Env α} {n K G : Nat} (C : Ctx e n K G) (h : Shape os p pshift head) (hh : head < n) (h1 : p.bit 1 = false)
    (q : Nat) (hq : q ≤ 1) (hqp : q < pshift) (hq0 : q = 0 → pshift = 1) :
    Shape (q :: os) ⟨(shl p (pshift - q)).lo ||| 1, (shl p (pshift - q)).hi⟩ q (head + 1) := by
  obtain ⟨hp0, hnot⟩ := of_not_bit1 h.toForest h1
  obtain ⟨tl, rfl⟩ := h.cons_of
  have hK95 := C.K95
  have hpK := h.toForest.le_K C hh (o := pshift) (by simp)
  have hlq : leo q = 1 := leo_le_one hq
  refine ⟨⟨by simp, List.pairwise_cons.mpr ⟨fun x hx => by have := h.toForest.pshift_le hx; omega, h.asc⟩, ?_, ?_, ?_⟩, ?_⟩
  · intro i
    rw [or1_bit, shl_bit p (by omega) (by omega), h.rep, Bool.eq_iff_iff]
    simp only [Bool.or_eq_true, Bool.and_eq_true, decide_eq_true_eq]
    constructor
    · rintro (h' | ⟨⟨h1', h2'⟩, h'⟩)
      · subst h'; simp
      · have : pshift + (i - (pshift - q)) = q + i := by omega
        rw [this] at h'
        exact List.mem_cons_of_mem _ h'
    · intro h'
      rcases List.mem_cons.mp h' with h' | h'
      · left; omega
      · right
        have hle := h.toForest.pshift_le h'
        have hK := h.toForest.le_K C hh h'
        refine ⟨⟨by omega, by omega⟩, ?_⟩
        have : pshift + (i - (pshift - q)) = q + i := by omega
        rw [this]; exact h'
  · have := h.sum
    simp only [List.map_cons, List.sum_cons] at this ⊢
    omega
  · intro h0
    have := hq0 h0
    subst this
    simp
  · simp only [List.tail_cons]
    exact h.gap_all hnot

end Shape

/-- one round of the main loop keeps the shape, and with it any property `Q` of (array, forest, order of the smallest tree)
    that the `sift` of the merge case, and the `trinkle`-or-`sift` in front of a new one-element tree (of order `q` = 0 or 1), hand over -/
theorem mainStep_inv (e : Env α) {n K G : Nat} (C : Ctx e n K G) (k : Nat) (s : St α) (os : List Nat) (head : Nat) (p : PV)
    (pshift : Nat) (hh : head + 1 < n) (hS : Shape os p pshift head) (Q : St α → List Nat → Nat → Prop)
    (hmerge : ∀ rest, os = pshift :: (pshift + 1) :: rest →
      Tot (sift e s head pshift) (fun s1 => s1.a.size = n ∧ Q s1 ((pshift + 2) :: rest) (pshift + 2)))
    (hnew : pshift ≠ 0 → pshift + 1 ∉ os →
      Tot (if leo (pshift - 1) ≥ k + 1 then trinkle e s head p pshift false else sift e s head pshift)
        (fun s1 => s1.a.size = n ∧ ∀ q, q ≤ 1 → Q s1 (q :: os) q)) :
    Tot (mainStep e k s head p pshift)
      (fun r => r.1.a.size = n ∧ ∃ os', Shape os' r.2.1 r.2.2 (head + 1) ∧ Q r.1 os' r.2.2) := by
  unfold mainStep
  have hpK := hS.toForest.le_K C (by omega : head < n) hS.toForest.mem_pshift
  refine Tot.bind (fun r => r.1.a.size = n ∧ ∃ os', Shape os' ⟨r.2.1.lo ||| 1, r.2.1.hi⟩ r.2.2 (head + 1) ∧ Q r.1 os' r.2.2) ?_
    (fun ⟨s1, p1, ps1⟩ h1 => Tot.ok h1)
  refine Tot.ite (fun h3 => ?_) (fun h3 => ?_)
  · rw [and3_iff] at h3
    obtain ⟨rest, rfl⟩ := Shape.two_of_bit1 hS.toForest h3.2
    exact Tot.bind _ (hmerge rest rfl) (fun s1 h1 => Tot.ok ⟨h1.1, _, hS.merge_cons, h1.2⟩)
  · have hb1 : p.bit 1 = false := by
      rw [and3_iff] at h3
      have := hS.toForest.bit0
      cases hb : p.bit 1 with
      | false => rfl
      | true => exact absurd ⟨this, hb⟩ h3
    obtain ⟨hp0, hnot⟩ := Shape.of_not_bit1 hS.toForest hb1
    refine Tot.bind _ (sub_mapError_tot (by omega) _) (fun i hi => ?_)
    subst hi
    refine Tot.bind _ (lpAt_tot C.lp (by omega)) (fun l hl => ?_)
    subst hl
    have hjp : ∀ s1 : St α, (s1.a.size = n ∧ ∀ q, q ≤ 1 → Q s1 (q :: os) q) →
        Tot (if pshift = 1 then pure (s1, shl p 1, 0) else pure (s1, shl p (pshift - 1), 1) : M (St α × PV × Nat))
          (fun r => r.1.a.size = n ∧ ∃ os', Shape os' ⟨r.2.1.lo ||| 1, r.2.1.hi⟩ r.2.2 (head + 1) ∧ Q r.1 os' r.2.2) := by
      intro s1 h1
      refine Tot.ite (fun hp1 => ?_) (fun hp1 => ?_)
      · subst hp1
        exact Tot.ok ⟨h1.1, _, hS.single C (by omega) hb1 0 (by omega) (by omega) (fun _ => rfl), h1.2 0 (by omega)⟩
      · exact Tot.ok ⟨h1.1, _, hS.single C (by omega) hb1 1 (by omega) (by omega) (fun h => by omega), h1.2 1 (by omega)⟩
    exact Tot.ite_bind (hnew hp0 hnot) hjp

namespace Shape
variable {os : List Nat} {p : PV} {pshift head : Nat}

theorem two_of_small (h : Shape os p pshift head) (hp : pshift ≤ 1) (hne : ¬(pshift = 1 ∧ p = PV.one)) :
    ∃ o1 rest, os = pshift :: o1 :: rest := by
  obtain ⟨tl, rfl⟩ := h.cons_of
  cases tl with
  | cons o1 rest => exact ⟨o1, rest, rfl⟩
  | nil =>
    exfalso
    have h1 := h.toForest.single
    have : pshift = 0 := by
      have : pshift ≠ 1 := fun h' => hne ⟨h', h1⟩
      omega
    have := h.zero this
    simp at this
    omega

theorem drop {e : Env α} {n K G : Nat} (C : Ctx e n K G) {o0 o1 : Nat} {rest : List Nat}
    (h : Shape (o0 :: o1 :: rest) p o0 head) (hh : head < n) :
    pntz e.fx p = o1 - o0 ∧ o0 < o1 ∧ leo o0 ≤ head ∧ Shape (o1 :: rest) (shr p (o1 - o0)) o1 (head - leo o0) := by
  obtain ⟨hlt, _, hpn, hle, _, hF⟩ := h.toForest.next C hh
  refine ⟨hpn, hlt, hle, hF, ?_⟩
  have := h.gap
  exact (List.pairwise_cons.mp this).2

theorem split {e : Env α} {n K G : Nat} (C : Ctx e n K G) {k : Nat} {rest : List Nat}
    (h : Shape ((k + 2) :: rest) p (k + 2) head) (hh : head < n) :
    leo k + 1 ≤ head ∧
    Forest ((k + 1) :: rest) (shr ⟨(shl p 2).lo ^^^ 7, (shl p 2).hi⟩ 1) (k + 1) (head - leo k - 1) ∧
    Shape (k :: (k + 1) :: rest)
      ⟨(shl (shr ⟨(shl p 2).lo ^^^ 7, (shl p 2).hi⟩ 1) 1).lo ||| 1, (shl (shr ⟨(shl p 2).lo ^^^ 7, (shl p 2).hi⟩ 1) 1).hi⟩
      k (head - 1) := by
  have hK95 := C.K95
  have hasc := h.asc
  rw [List.pairwise_cons] at hasc
  have hsum := h.sum
  simp only [List.map_cons, List.sum_cons] at hsum
  have hleo := leo_succ_succ k
  have q1 := leo_pos (k + 1)
  have hK : ∀ x ∈ rest, x ≤ K := fun x hx => h.toForest.le_K C hh (List.mem_cons_of_mem _ hx)
  have hrep1 : Rep (shr ⟨(shl p 2).lo ^^^ 7, (shl p 2).hi⟩ 1) (k + 1) ((k + 1) :: rest) := by
    intro i
    rw [shr_bit _ (by omega) (by omega), xor7_bit, shl_bit p (by omega) (by omega), h.rep]
    have hnot : k + 2 ∉ rest := fun hm => by have := hasc.1 _ hm; omega
    by_cases hi0 : i = 0
    · subst hi0; simp
    · by_cases hi1 : i = 1
      · subst hi1
        simp [hnot]
      · have e1 : k + 2 + (i + 1 - 2) = k + 1 + i := by omega
        rw [e1]
        have e2 : decide (i + 1 < 3) = false := by simp; omega
        rw [e2, Bool.xor_false, Bool.eq_iff_iff]
        simp only [Bool.and_eq_true, decide_eq_true_eq, List.mem_cons]
        constructor
        · rintro ⟨_, h' | h'⟩
          · omega
          · exact Or.inr h'
        · rintro (h' | h')
          · omega
          · have := hK _ h'
            exact ⟨⟨by omega, by omega⟩, Or.inr h'⟩
  have hF1 : Forest ((k + 1) :: rest) (shr ⟨(shl p 2).lo ^^^ 7, (shl p 2).hi⟩ 1) (k + 1) (head - leo k - 1) := by
    refine ⟨by simp, List.pairwise_cons.mpr ⟨fun x hx => by have := hasc.1 x hx; omega, hasc.2⟩, hrep1, ?_, by omega⟩
    simp only [List.map_cons, List.sum_cons]
    omega
  refine ⟨by omega, hF1, ⟨⟨by simp, ?_, ?_, ?_, ?_⟩, ?_⟩⟩
  · refine List.pairwise_cons.mpr ⟨fun x hx => ?_, hF1.asc⟩
    rcases List.mem_cons.mp hx with rfl | hx
    · omega
    · have := hasc.1 x hx; omega
  · intro i
    rw [or1_bit, shl_bit _ (by omega) (by omega), hrep1, Bool.eq_iff_iff]
    simp only [Bool.or_eq_true, Bool.and_eq_true, decide_eq_true_eq, List.mem_cons]
    constructor
    · rintro (h' | ⟨⟨h1', h2'⟩, h' | h'⟩)
      · left; omega
      · right; left; omega
      · right; right
        have : k + 1 + (i - 1) = k + i := by omega
        rw [← this]; exact h'
    · rintro (h' | h' | h')
      · left; omega
      · right; exact ⟨⟨by omega, by omega⟩, Or.inl (by omega)⟩
      · have h1' := hK _ h'
        have h2' := hasc.1 _ h'
        right
        refine ⟨⟨by omega, by omega⟩, Or.inr ?_⟩
        have : k + 1 + (i - 1) = k + i := by omega
        rw [this]; exact h'
  · simp only [List.map_cons, List.sum_cons]
    omega
  · intro h0; subst h0; simp
  · simp only [List.tail_cons]
    refine List.pairwise_cons.mpr ⟨fun x hx => by have := hasc.1 x hx; omega, by simpa using h.gap⟩

/-- `head = 0`: the forest is the single tree of order 1, i.e. the loop condition is false -/
theorem done_of_zero (h : Shape os p pshift 0) : pshift = 1 ∧ p = PV.one := by
  obtain ⟨tl, rfl⟩ := h.cons_of
  have hsum := h.sum
  simp only [List.map_cons, List.sum_cons] at hsum
  have q0 := leo_pos pshift
  cases tl with
  | cons o1 rest =>
    simp only [List.map_cons, List.sum_cons] at hsum
    have := leo_pos o1
    omega
  | nil =>
    refine ⟨?_, h.toForest.single⟩
    have h2 : ¬ 2 ≤ pshift := by
      intro h2
      have := leo_mono h2
      have e : leo 2 = 3 := by decide
      omega
    have h0 : pshift ≠ 0 := by
      intro h0
      have := h.zero h0
      simp at this
      omega
    omega

end Shape

/-- one round of the dismantling loop keeps the shape, and with it any property `Q` of (array, forest) that survives
    dropping a one-element tree and that the two `trinkle` calls behind a split establish (`R` = what the first hands
    to the second) -/
theorem dismantleStep_inv (e : Env α) {n K G : Nat} (C : Ctx e n K G) (s : St α) (os : List Nat) (head : Nat) (p : PV)
    (pshift : Nat) (hs : s.a.size = n) (hh : head < n) (hS : Shape os p pshift head) (hne : ¬(pshift = 1 ∧ p = PV.one))
    (Q : St α → List Nat → Prop)
    (hdrop : ∀ o1 rest, os = pshift :: o1 :: rest → leo pshift = 1 → 1 ≤ head → Q s (o1 :: rest))
    (hsplit : ∀ k rest p1 p2, pshift = k + 2 → os = (k + 2) :: rest → leo k + 1 ≤ head →
      Forest ((k + 1) :: rest) p1 (k + 1) (head - leo k - 1) → Shape (k :: (k + 1) :: rest) p2 k (head - 1) →
      ∃ R : St α → Prop, Tot (trinkle e s (head - leo k - 1) p1 (k + 1) true) R ∧
        ∀ s1, R s1 → Tot (trinkle e s1 (head - 1) p2 k true) (fun s2 => s2.a.size = n ∧ Q s2 (k :: (k + 1) :: rest))) :
    1 ≤ head ∧ Tot (dismantleStep e s head p pshift)
      (fun r => r.1.a.size = n ∧ ∃ os', Shape os' r.2.1 r.2.2 (head - 1) ∧ Q r.1 os') := by
  unfold dismantleStep
  by_cases hp : pshift ≤ 1
  · obtain ⟨o1, rest, rfl⟩ := hS.two_of_small hp hne
    obtain ⟨hpn, hlt, hle, hS'⟩ := hS.drop C hh
    have hl1 : leo pshift = 1 := leo_le_one hp
    simp only [hp, if_true]
    refine ⟨by omega, Tot.ok ⟨hs, o1 :: rest, ?_, hdrop o1 rest rfl hl1 (by omega)⟩⟩
    show Shape (o1 :: rest) (shr p (pntz e.fx p)) (pshift + pntz e.fx p) (head - 1)
    rw [hpn]
    have e1 : pshift + (o1 - pshift) = o1 := by omega
    rw [e1, ← hl1]
    exact hS'
  · simp only [hp, if_false]
    obtain ⟨k, rfl⟩ : ∃ k, pshift = k + 2 := ⟨pshift - 2, by omega⟩
    obtain ⟨rest, rfl⟩ : ∃ rest, os = (k + 2) :: rest := hS.cons_of
    obtain ⟨hle, hF1, hS2⟩ := hS.split C hh
    have hkK : k + 2 ≤ K := hS.toForest.le_K C hh (by simp)
    obtain ⟨R, t1, t2⟩ := hsplit k rest _ _ rfl rfl hle hF1 hS2
    refine ⟨by omega, ?_⟩
    simp only [Nat.add_sub_cancel]
    refine Tot.bind _ (lpAt_tot C.lp (by omega)) (fun l hl => ?_)
    subst hl
    refine Tot.bind _ (sub_tot (by omega)) (fun h1 hh1 => ?_)
    subst hh1
    refine Tot.bind _ (sub_tot (by omega)) (fun h1 hh1 => ?_)
    subst hh1
    refine Tot.bind _ t1 (fun s1 hs1 => ?_)
    refine Tot.bind _ (sub_tot (by omega)) (fun h2 hh2 => ?_)
    subst hh2
    exact Tot.bind _ (t2 s1 hs1) (fun s2 hs2 => Tot.ok ⟨hs2.1, _, hS2, hs2.2⟩)

theorem Shape.init : Shape [1] PV.one 1 0 := by
  refine ⟨⟨rfl, by simp, ?_, by simp [leo], by omega⟩, by simp⟩
  intro i
  rw [(eq_one_iff PV.one).mp rfl i]
  apply decide_eq_decide.mpr
  simp

end SafeC.Sort
