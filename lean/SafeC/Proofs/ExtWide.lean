import SafeC.Proofs.ExtCopy
import SafeC.Proofs.CopyWrappers
import SafeC.Proofs.Query
/-!
# What the wide and the narrow copy family share (the parts of a call as `Outcome`s), and the wide twins
`wcsncpy_s`, `wcscat_s`, `wcsncat_s`: every call, every placement, every content, object size unknown or known
(`destbos` in bytes), source size unknown or known

Same loops as the narrow family (`copyLoop`, `findEnd`), different entry checks (`chkDmaxClearW`,
`chkDmaxW`) and an inner `wcsnlen_s` on the `slen` exits; what the two families have in common (the loop, the
concatenation body, the null-source and `slen` exits as `Outcome`s, stated over the family's limit and length scan)
is here and used by `Proofs/ExtNarrow.lean` as well.  The theorems give, for ALL arguments, that
the call returns and changes nothing outside `dest[0..dmax)`; and for a usable dest (non-null,
`0 < dmax ≤ RSIZE_MAX_WSTR`, `dmax` wide characters inside the known object) the C03 / C04 / C08
facts collected in `StrPost` and `Clean`.
-/
namespace SafeC
open Gen

/-- what a string producer leaves in a usable dest: a NUL within dmax (C03); dest[0] = 0 after any
failure, and in the null-slack build all dmax cells zero when the failure was met after copying
began or the source is null (C04) -/
structure StrPost (cfg : Cfg) (dest dmax : Nat) (st' : St) (code : Nat) : Prop where
  term : ∃ i, i < dmax ∧ st'.data (dest + i) = 0
  fail_first : code ≠ EOK → st'.data dest = 0
  fail_clear : code = ESNOSPC ∨ code = ESOVRLP ∨ code = ESUNTERM ∨ code = ESNULLP →
    cfg.slack = true → ∀ i, i < dmax → st'.data (dest + i) = 0

theorem StrPost.of_first {cfg : Cfg} {dest dmax code : Nat} {st' : St} (hpos : 0 < dmax)
    (h0 : st'.data dest = 0)
    (hc : code ≠ ESNOSPC ∧ code ≠ ESOVRLP ∧ code ≠ ESUNTERM ∧ code ≠ ESNULLP) :
    StrPost cfg dest dmax st' code :=
  ⟨⟨0, hpos, by simpa using h0⟩, fun _ => h0, fun h => by
    rcases h with h | h | h | h
    · exact absurd h hc.1
    · exact absurd h hc.2.1
    · exact absurd h hc.2.2.1
    · exact absurd h hc.2.2.2⟩

theorem StrPost.of_clear {cfg : Cfg} {dest dmax code : Nat} {st' : St} (hpos : 0 < dmax)
    (h0 : st'.data dest = 0) (hcl : cfg.slack = true → ∀ i, i < dmax → st'.data (dest + i) = 0) :
    StrPost cfg dest dmax st' code :=
  ⟨⟨0, hpos, by simpa using h0⟩, fun _ => h0, fun _ => hcl⟩

theorem herr_clear (cfg : Cfg) (dest dmax code : Nat) (st : St) (hrw : RW st dest dmax) (hpos : 0 < dmax) :
    ∃ st', exec (handleError cfg dest dmax code) st = .ok ((), st') ∧ FramePost dest dmax st st' ∧
      StrPost cfg dest dmax st' code := by
  obtain ⟨st', he, hp⟩ := handleError_cleared cfg dest dmax code st hrw hpos
  exact ⟨st', he, FramePost.of_cleared he hp, StrPost.of_clear hpos hp.first hp.slack⟩

theorem handleError_frame (cfg : Cfg) (dest len ext code : Nat) (st : St) (hw : RW st dest ext)
    (hpos : 0 < ext) (hle : len ≤ ext) :
    ∃ st', exec (handleError cfg dest len code) st = .ok ((), st') ∧ FramePost dest ext st st' ∧
      (0 < len ∨ cfg.slack = false ∨ st.data dest = 0 → st'.data dest = 0) := by
  obtain ⟨st', he, hm, hr, hwr, hst, _, hd0, hfr, _⟩ := handleError_within cfg dest len ext code st hw hpos hle
  exact ⟨st', he, ⟨hm, hr, hwr, hst, hfr⟩, hd0⟩

/-- what the library's own length scans (`strnlen_s`, `wcsnlen_s`) do for ANY arguments: a length `≤ smax`; memory,
permissions, strays unchanged (possibly one handler event); exact when the arguments pass the scan's checks (`max` its limit) -/
def LenScan (p : Prog Nat) (str smax max : Nat) (st : St) : Prop :=
  ∃ len st', exec p st = .ok (len, st') ∧
    st'.data = st.data ∧ st'.mapped = st.mapped ∧ st'.rd = st.rd ∧ st'.wr = st.wr ∧ st'.strays = st.strays ∧
    len ≤ smax ∧ (str ≠ 0 → 0 < smax → smax ≤ max → st' = st ∧ (len < smax → st.data (str + len) = 0))

theorem wcsnlen_s_any (str smax : Nat) (st : St) (hall : ∀ a, st.mapped a = true ∧ st.rd a = true) :
    LenScan (wcsnlen_s str smax) str smax RSIZE_MAX_WSTR st := by
  unfold wcsnlen_s
  by_cases hs : str = 0
  · rw [if_pos hs]
    exact ⟨0, st, rfl, rfl, rfl, rfl, rfl, rfl, Nat.zero_le _, fun h => absurd hs h⟩
  rw [if_neg hs]
  by_cases hz : smax = 0
  · rw [if_pos hz]
    exact ⟨0, { st with events := st.events ++ [.handler .str ESZEROL] }, by simp [handlerS, exec_bind],
      rfl, rfl, rfl, rfl, rfl, Nat.zero_le _, fun _ h => by omega⟩
  rw [if_neg hz]
  by_cases hx : smax > RSIZE_MAX_WSTR
  · rw [if_pos hx]
    exact ⟨0, { st with events := st.events ++ [.handler .str ESLEMAX] }, by simp [handlerS, exec_bind],
      rfl, rfl, rfl, rfl, rfl, Nat.zero_le _, fun _ _ h => by omega⟩
  rw [if_neg hx]
  exact ⟨_, st, by rw [wcsnlenLoop_eq hall, Nat.zero_add], rfl, rfl, rfl, rfl, rfl, scanLen_le _ _ _,
    fun _ _ _ => ⟨rfl, scanLen_zero _ _ _⟩⟩

/-- the `slen` exits of both families: `handle_error(dest, <length of dest>, code)`, then `r` is returned -/
theorem lenExit_ok {α : Type} (cfg : Cfg) (dest dmax code max : Nat) (r : α) (p : Prog Nat) (st : St)
    (hp : LenScan p dest dmax max st) (hrw : RW st dest dmax) (hpos : 0 < dmax) :
    ∃ st', exec (do let l ← p
                    handleError cfg dest l code
                    pure r : Prog α) st = .ok (r, st') ∧
      FramePost dest dmax st st' ∧ (dest ≠ 0 → dmax ≤ max → st'.data dest = 0) := by
  obtain ⟨len, s1, he1, hd, hm, hr, hw, hst, hle, hex⟩ := hp
  have hrw1 : RW s1 dest dmax := by
    intro i hi; rw [hm, hw, hr]; exact hrw i hi
  obtain ⟨st', he2, hf, h0⟩ := handleError_frame cfg dest len dmax code s1 hrw1 hpos hle
  refine ⟨st', by simp [exec_bind, he1, he2], ?_, fun hdz hmx => h0 ?_⟩
  · exact ⟨hf.mapped.trans hm, hf.rd.trans hr, hf.wr.trans hw, hf.strays.trans hst,
      fun a ha => (hf.frame a ha).trans (by rw [hd])⟩
  · -- a length 0 means `dest[0]` is the NUL the scan stopped at
    by_cases hl : 0 < len
    · exact Or.inl hl
    · obtain rfl : len = 0 := by omega
      exact Or.inr (Or.inr (by rw [hd]; simpa using (hex hdz hpos hmx).2 hpos))

/-- outcome of a whole call: returns, frame for all arguments, `Q` for a usable dest -/
def Outcome {α : Type} (dest dmax : Nat) (st : St) (p : Prog α) (Q : α → St → Prop) : Prop :=
  ∃ r st', exec p st = .ok (r, st') ∧ FramePost dest dmax st st' ∧ Q r st'

/-- a failing exit that only reports (`failS code` is the case `r = code`) -/
theorem handler_outcome {α : Type} (dest dmax code : Nat) (r : α) (st : St) (Q : α → St → Prop)
    (hq : ∀ st', Q r st') : Outcome dest dmax st (do handlerS code; pure r : Prog α) Q :=
  ⟨r, { st with events := st.events ++ [.handler .str code] }, by simp [handlerS, exec_bind],
    ⟨rfl, rfl, rfl, rfl, fun _ _ => rfl⟩, hq _⟩

theorem Outcome.imp {α : Type} {dest dmax : Nat} {st : St} {p : Prog α} {Q Q' : α → St → Prop}
    (h : Outcome dest dmax st p Q) (hq : ∀ c s, Q c s → Q' c s) : Outcome dest dmax st p Q' := by
  obtain ⟨c, s, he, hf, hq'⟩ := h
  exact ⟨c, s, he, hf, hq c s hq'⟩

-- `WQ` below, the post every string producer proves, ends in the C08 conclusion: so C08's vocabulary stands here
namespace Props.C08Ext
/-- the C08 conclusion: terminator at `t`, nothing but zeros behind it in the null-slack build -/
def Clean (cfg : Cfg) (dest dmax : Nat) (st' : St) : Prop :=
  ∃ t, t < dmax ∧ (∀ i, i < t → st'.data (dest + i) ≠ 0) ∧ st'.data (dest + t) = 0 ∧
    (cfg.slack = true → ∀ i, t ≤ i → i < dmax → st'.data (dest + i) = 0)
end Props.C08Ext

/-- what the string producers of both families guarantee for a usable dest: `StrPost`, and the terminator with nothing stale
behind it (`Clean`) under the condition `shape` under which the function promises it (`slen ≠ 0` for the bounded copies) -/
def WQ (cfg : Cfg) (dest dmax : Nat) (shape : Prop) (code : Nat) (st' : St) : Prop :=
  StrPost cfg dest dmax st' code ∧ (shape → code = EOK → Props.C08Ext.Clean cfg dest dmax st')

theorem WQ.of_fail {cfg : Cfg} {dest dmax code : Nat} {shape : Prop} {st' : St}
    (h : StrPost cfg dest dmax st' code) (hne : code ≠ EOK) : WQ cfg dest dmax shape code st' :=
  ⟨h, fun _ hc => absurd hc hne⟩

theorem WQ.of_copy {cfg : Cfg} {dest dmax d k code : Nat} {shape : Prop} {st st' : St} (hpos : 0 < dmax)
    (hp : CopyPost cfg dest dmax st st' code) (hs : code = EOK → ShapeOk cfg d k st st')
    (hd : dest ≤ d) (hk : d + k = dest + dmax) (hpre : ∀ a, dest ≤ a → a < d → st.data a ≠ 0) :
    WQ cfg dest dmax shape code st' := by
  refine ⟨⟨?_, hp.fail_first, fun h => ?_⟩, fun _ hc => ?_⟩
  · by_cases hc : code = EOK
    · exact hp.ok_term hc
    · exact ⟨0, hpos, hp.fail_first hc⟩
  · apply hp.fail_clear
    rcases h with h | h | h | h <;> subst h <;> decide
  · obtain ⟨t, g1, g2, g3, g4, g5, g6⟩ := hs hc
    refine ⟨t - dest, by omega, fun i hi => ?_, ?_, fun hsl i hi1 hi2 => g6 hsl (dest+i) (by omega) (by omega)⟩
    · by_cases hlt : dest + i < d
      · rw [g3 _ hlt]; exact hpre _ (by omega) hlt
      · exact g4 (dest+i) (by omega) (by omega)
    · rw [show dest + (t - dest) = t by omega]; exact g5

/-- the copy loop started at the beginning of dest (`P`: the family's limit on `dmax`, which the loop does not need) -/
theorem copy_outcome (cfg : Cfg) (onDest bounded : Bool) (B dest dmax src slen : Nat) (shape P : Prop) (st : St)
    (hall : ∀ a, st.mapped a = true ∧ st.rd a = true) (hrw : RW st dest dmax) (hpos : 0 < dmax) :
    Outcome dest dmax st (copyLoop cfg onDest bounded B dest dmax dmax dest src slen)
      (fun c s => (c = EOK ∨ c = ESOVRLP ∨ c = ESNOSPC) ∧ (P → WQ cfg dest dmax shape c s)) := by
  obtain ⟨code, st', he, hp, hs⟩ :=
    copyLoop_full cfg onDest bounded B dest dmax hpos dmax dest src slen st hall hrw ⟨Nat.le_refl _, rfl⟩
  exact ⟨code, st', he, FramePost.of_copy hp, hp.code_cases,
    fun _ => WQ.of_copy hpos hp hs (Nat.le_refl _) rfl (fun a h1 h2 => absurd h2 (Nat.not_lt.mpr h1))⟩

theorem copyTwin_outcome (cfg : Cfg) (bounded : Bool) (dest dmax src slen : Nat) (shape P : Prop) (st : St)
    (hall : ∀ a, st.mapped a = true ∧ st.rd a = true) (hrw : RW st dest dmax) (hpos : 0 < dmax) :
    Outcome dest dmax st (cpyBody cfg bounded dest dmax dmax dest src slen)
      (fun c s => (c = EOK ∨ c = ESOVRLP ∨ c = ESNOSPC) ∧ (P → WQ cfg dest dmax shape c s)) := by
  unfold cpyBody
  split
  · exact copy_outcome cfg true bounded src dest dmax src slen shape P st hall hrw hpos
  · exact copy_outcome cfg false bounded dest dest dmax src slen shape P st hall hrw hpos

theorem cat_outcome (cfg : Cfg) (chk onDest bounded : Bool) (B dest dmax src slen : Nat) (P : Prop) (st : St)
    (hall : ∀ a, st.mapped a = true ∧ st.rd a = true)
    (hrw : RW st dest dmax) (hpos : 0 < dmax)
    (f : Nat ⊕ (Nat × Nat) → Prog Nat) (hf1 : ∀ c, f (.inl c) = pure c)
    (hf2 : ∀ d m, f (.inr (d, m)) = copyLoop cfg onDest bounded B dest dmax m d src slen) :
    Outcome dest dmax st (findEnd cfg chk B dest dmax dmax dest >>= f)
      (fun c s => P → WQ cfg dest dmax True c s) := by
  rcases cat_exec cfg chk onDest bounded B dest dmax src slen st hall hpos f hf1 hf2 with
    ⟨code, hne, he⟩ | ⟨d, k, he, h1, h2, h3⟩
  · obtain ⟨st', he', hfr, hsp⟩ := herr_clear cfg dest dmax code st hrw hpos
    exact ⟨code, st', he st' he', hfr, fun _ => WQ.of_fail hsp hne⟩
  · obtain ⟨code, st', he2, hp, hs⟩ :=
      copyLoop_full cfg onDest bounded B dest dmax hpos k d src slen st hall hrw ⟨h1, h2⟩
    exact ⟨code, st', he.trans he2, FramePost.of_copy hp, fun _ => WQ.of_copy hpos hp hs h1 h2 h3⟩

theorem catTwin_outcome (cfg : Cfg) (bounded : Bool) (dest dmax src slen : Nat) (P : Prop) (st : St)
    (hall : ∀ a, st.mapped a = true ∧ st.rd a = true) (hrw : RW st dest dmax) (hpos : 0 < dmax) :
    Outcome dest dmax st (catBody cfg bounded dest dmax src slen) (fun c s => P → WQ cfg dest dmax True c s) := by
  unfold catBody
  split
  · exact cat_outcome cfg true true bounded src dest dmax src slen P st hall hrw hpos _ (fun _ => rfl) (fun _ _ => rfl)
  · exact cat_outcome cfg false false bounded dest dest dmax src slen P st hall hrw hpos _ (fun _ => rfl) (fun _ _ => rfl)

theorem lenExit_outcome (cfg : Cfg) (dest dmax code max : Nat) (p : Prog Nat) (shape : Prop) (st : St)
    (hp : LenScan p dest dmax max st) (hrw : RW st dest dmax) (hd : dest ≠ 0) (hpos : 0 < dmax)
    (hne : code ≠ EOK) (hc : code ≠ ESNOSPC ∧ code ≠ ESOVRLP ∧ code ≠ ESUNTERM ∧ code ≠ ESNULLP) :
    Outcome dest dmax st (do let l ← p
                             handleError cfg dest l code
                             pure code : Prog Nat)
      (fun c s => dmax ≤ max → WQ cfg dest dmax shape c s) := by
  obtain ⟨st', he, hf, h0⟩ := lenExit_ok cfg dest dmax code max code p st hp hrw hpos
  exact ⟨code, st', he, hf, fun hmx => WQ.of_fail (StrPost.of_first hpos (h0 hd hmx) hc) hne⟩

/-- the `slen == 0` shortcut of the bounded copies: `*dest = 0`, EOK, the slack is not nulled -/
theorem storeNul_outcome (cfg : Cfg) (dest dmax slen : Nat) (U : Prop) (st : St) (hrw : RW st dest dmax) (hpos : 0 < dmax)
    (hs0 : slen = 0) :
    Outcome dest dmax st (do store dest 0; pure EOK : Prog Nat) (fun c s => U → WQ cfg dest dmax (slen ≠ 0) c s) := by
  have hh := hrw 0 hpos
  rw [Nat.add_zero] at hh
  refine ⟨EOK, st.upd dest 0, by simp [exec_bind, exec_store_ok _ _ _ hh.1 hh.2.1],
    ⟨rfl, rfl, rfl, rfl, fun a ha => St.upd_data_ne _ _ _ _ (by omega)⟩,
    fun _ => ⟨⟨⟨0, hpos, by simp⟩, fun h => absurd rfl h, fun h => ?_⟩, fun h => absurd hs0 h⟩⟩
  rcases h with h | h | h | h <;> exact absurd h (by decide)

theorem nullSrc_outcome (cfg : Cfg) (dest dmax : Nat) (shape P : Prop) (st : St)
    (hrw : RW st dest dmax) (hpos : 0 < dmax) :
    Outcome dest dmax st (do handleError cfg dest dmax ESNULLP; pure ESNULLP : Prog Nat)
      (fun c s => P → WQ cfg dest dmax shape c s) := by
  obtain ⟨st', he, hf, hp⟩ := herr_clear cfg dest dmax ESNULLP st hrw hpos
  exact ⟨ESNULLP, st', by simp [exec_bind, he], hf, fun _ => WQ.of_fail hp ne_ESNULLP⟩

/-- the `slen == 0` branch of the bounded concatenations: `handle_error(dest, dmax, …, l < dmax ? EOK : ESZEROL)`
with `l` from the family's length scan `p` -/
theorem slen0_outcome (cfg : Cfg) (dest dmax max : Nat) (p : Prog Nat) (P : Prop) (st : St)
    (hp : LenScan p dest dmax max st) (hrw : RW st dest dmax) (hpos : 0 < dmax) :
    Outcome dest dmax st (do
        let l ← p
        let error := if l < dmax then EOK else ESZEROL
        handleError cfg dest dmax error
        pure error : Prog Nat)
      (fun c s => P → WQ cfg dest dmax True c s) := by
  obtain ⟨len, s1, he1, hd, hm, hr, hw, hst, hle, _⟩ := hp
  have hrw1 : RW s1 dest dmax := by
    intro i hi; rw [hm, hw, hr]; exact hrw i hi
  obtain ⟨st', he2, hp⟩ := handleError_cleared cfg dest dmax (if len < dmax then EOK else ESZEROL) s1 hrw1 hpos
  have hf := FramePost.of_cleared he2 hp
  exact ⟨if len < dmax then EOK else ESZEROL, st', by simp [exec_bind, he1, he2],
    ⟨hf.mapped.trans hm, hf.rd.trans hr, hf.wr.trans hw, hf.strays.trans hst, fun a ha => (hf.frame a ha).trans (by rw [hd])⟩,
    fun _ => ⟨StrPost.of_clear hpos hp.first hp.slack, fun _ _ => ⟨0, hpos, fun i hi => by omega, by simpa using hp.first,
      fun hsl i _ hi => hp.slack hsl i hi⟩⟩⟩

/-- `CHK_DEST_NULL; CHK_DMAX_ZERO` in front of the rest `k` of the entry checks; `U`: the family's usable dest, `mk`: how the
family returns a code (`id`, or `(NULL, ·)` for the stp pair) -/
theorem entry_outcome {α : Type} (mk : Nat → α) (dest dmax : Nat) (st : St) (k : Prog α) (U : Prop) (Q : α → St → Prop)
    (hU : U → dest ≠ 0 ∧ 0 < dmax)
    (hk : dest ≠ 0 → 0 < dmax → Outcome dest dmax st k (fun c s => U → Q c s)) :
    Outcome dest dmax st
      (if dest = 0 then do handlerS ESNULLP; pure (mk ESNULLP)
       else if dmax = 0 then do handlerS ESZEROL; pure (mk ESZEROL) else k)
      (fun c s => U → Q c s) := by
  by_cases hd : dest = 0
  · rw [if_pos hd]; exact handler_outcome _ _ _ _ _ _ (fun _ h => absurd hd (hU h).1)
  rw [if_neg hd]
  by_cases hz : dmax = 0
  · rw [if_pos hz]; exact handler_outcome _ _ _ _ _ _ (fun _ h => absurd hz (Nat.pos_iff_ne_zero.mp (hU h).2))
  rw [if_neg hz]
  exact hk hd (Nat.pos_of_ne_zero hz)

/-- `dmax` counts wide characters, `destbos` bytes -/
def UsableW (dest dmax : Nat) (destbos : Bos) : Prop :=
  dest ≠ 0 ∧ 0 < dmax ∧ dmax ≤ RSIZE_MAX_WSTR ∧ ∀ b, destbos = some b → dmax * SIZEOF_WCHAR_T ≤ b

/-- `CHK_DEST_NULL; CHK_DMAX_ZERO; CHK_DMAX_MAX / CHK_DESTW_OVR_CLEAR` in front of a body -/
theorem entryClearW (cfg : Cfg) (dest dmax : Nat) (destbos : Bos) (st : St) (k : Prog Nat)
    (Q : Nat → St → Prop) (hrw : dest ≠ 0 → RW st dest dmax)
    (hk : dest ≠ 0 → 0 < dmax → Outcome dest dmax st k (fun c s => dmax ≤ RSIZE_MAX_WSTR → Q c s)) :
    Outcome dest dmax st
      (if dest = 0 then failS ESNULLP else if dmax = 0 then failS ESZEROL
       else chkDmaxClearW cfg dest dmax destbos k)
      (fun c s => UsableW dest dmax destbos → Q c s) := by
  refine entry_outcome id dest dmax st _ _ _ (fun h => ⟨h.1, h.2.1⟩) (fun hd hpos => ?_)
  obtain ⟨code, st', he, hf, hq⟩ := hk hd hpos
  unfold chkDmaxClearW
  cases destbos with
  | none =>
    simp only
    by_cases hx : dmax > RSIZE_MAX_WSTR
    · rw [if_pos hx]; exact handler_outcome _ _ _ _ _ _ (fun _ h => by have := h.2.2.1; omega)
    · rw [if_neg hx]; exact ⟨code, st', he, hf, fun h => hq h.2.2.1⟩
  | some b =>
    simp only
    have hw : SIZEOF_WCHAR_T = 4 := rfl
    by_cases hb : dmax * SIZEOF_WCHAR_T > b
    · rw [if_pos hb]
      have hlen : b / SIZEOF_WCHAR_T ≤ dmax := by rw [hw] at hb ⊢; omega
      have hq' : ∀ c s, UsableW dest dmax (some b) → Q c s := by
        intro c s h; have := h.2.2.2 b rfl; omega
      by_cases hx : dmax > RSIZE_MAX_WSTR
      · rw [if_pos hx]
        obtain ⟨s1, he1, hf1, _⟩ := handleError_frame cfg dest (b / SIZEOF_WCHAR_T) dmax ESLEMAX st (hrw hd) hpos hlen
        exact ⟨ESLEMAX, s1, by simp [exec_bind, he1], hf1, hq' _ _⟩
      · rw [if_neg hx]
        obtain ⟨s1, he1, hf1, _⟩ := handleError_frame cfg dest (b / SIZEOF_WCHAR_T) dmax EOVERFLOW st (hrw hd) hpos hlen
        exact ⟨EOVERFLOW, s1, by simp [exec_bind, he1], hf1, hq' _ _⟩
    · rw [if_neg hb]; exact ⟨code, st', he, hf, fun h => hq h.2.2.1⟩

/-- the non-clearing variant `CHK_DESTW_OVR` of the concatenations -/
theorem entryW (dest dmax : Nat) (destbos : Bos) (st : St) (k : Prog Nat)
    (Q : Nat → St → Prop)
    (hk : dest ≠ 0 → 0 < dmax → Outcome dest dmax st k (fun c s => dmax ≤ RSIZE_MAX_WSTR → Q c s)) :
    Outcome dest dmax st
      (if dest = 0 then failS ESNULLP else if dmax = 0 then failS ESZEROL
       else chkDmaxW dmax destbos k)
      (fun c s => UsableW dest dmax destbos → Q c s) := by
  refine entry_outcome id dest dmax st _ _ _ (fun h => ⟨h.1, h.2.1⟩) (fun hd hpos => ?_)
  obtain ⟨code, st', he, hf, hq⟩ := hk hd hpos
  unfold chkDmaxW
  cases destbos with
  | none =>
    simp only
    by_cases hx : dmax > RSIZE_MAX_WSTR
    · rw [if_pos hx]; exact handler_outcome _ _ _ _ _ _ (fun _ h => by have := h.2.2.1; omega)
    · rw [if_neg hx]; exact ⟨code, st', he, hf, fun h => hq h.2.2.1⟩
  | some b =>
    simp only
    by_cases hb : dmax * SIZEOF_WCHAR_T > b
    · rw [if_pos hb]
      have hq' : ∀ c s, UsableW dest dmax (some b) → Q c s := by
        intro c s h; have := h.2.2.2 b rfl; omega
      by_cases hx : dmax > RSIZE_MAX_WSTR
      · rw [if_pos hx]; exact handler_outcome _ _ _ _ _ _ (fun s => hq' _ s)
      · rw [if_neg hx]; exact handler_outcome _ _ _ _ _ _ (fun s => hq' _ s)
    · rw [if_neg hb]; exact ⟨code, st', he, hf, fun h => hq h.2.2.1⟩

theorem wcsncpy_s_ext (cfg : Cfg) (dest dmax src slen : Nat) (destbos srcbos : Bos) (st : St)
    (hall : ∀ a, st.mapped a = true ∧ st.rd a = true) (hrw : dest ≠ 0 → RW st dest dmax) :
    Outcome dest dmax st (wcsncpy_s cfg dest dmax src slen destbos srcbos)
      (fun code st' => UsableW dest dmax destbos → WQ cfg dest dmax (slen ≠ 0) code st') := by
  unfold wcsncpy_s
  by_cases h0 : slen = 0 ∧ dest ≠ 0 ∧ dmax ≠ 0
  · rw [if_pos h0]
    exact storeNul_outcome cfg dest dmax slen _ st (hrw h0.2.1) (Nat.pos_of_ne_zero h0.2.2) h0.1
  rw [if_neg h0]
  apply entryClearW cfg dest dmax destbos st _ _ hrw
  intro hd hpos
  have hrw' := hrw hd
  by_cases hs : src = 0
  · rw [if_pos hs]; exact nullSrc_outcome cfg dest dmax _ _ st hrw' hpos
  rw [if_neg hs]
  have hscan := wcsnlen_s_any dest dmax st hall
  by_cases hsl : slen > RSIZE_MAX_WSTR
  · rw [if_pos hsl]
    exact lenExit_outcome cfg dest dmax ESLEMAX _ _ _ st hscan hrw' hd hpos ne_ESLEMAX (by decide)
  rw [if_neg hsl]
  have body := (copyTwin_outcome cfg true dest dmax src slen (slen ≠ 0) (dmax ≤ RSIZE_MAX_WSTR) st hall hrw' hpos).imp
    fun _ _ h => h.2
  cases srcbos with
  | none => exact body
  | some sb =>
    simp only
    by_cases hb : slen * SIZEOF_WCHAR_T > sb
    · rw [if_pos hb]
      exact lenExit_outcome cfg dest dmax EOVERFLOW _ _ _ st hscan hrw' hd hpos ne_EOVERFLOW (by decide)
    · rw [if_neg hb]; exact body

theorem wcscat_s_ext (cfg : Cfg) (dest dmax src : Nat) (destbos : Bos) (st : St)
    (hall : ∀ a, st.mapped a = true ∧ st.rd a = true) (hrw : dest ≠ 0 → RW st dest dmax) :
    Outcome dest dmax st (wcscat_s cfg dest dmax src destbos)
      (fun code st' => UsableW dest dmax destbos → WQ cfg dest dmax True code st') := by
  unfold wcscat_s
  apply entryW dest dmax destbos st _ _
  intro hd hpos
  have hrw' := hrw hd
  by_cases hs : src = 0
  · rw [if_pos hs]; exact nullSrc_outcome cfg dest dmax _ _ st hrw' hpos
  rw [if_neg hs]
  exact catTwin_outcome cfg false dest dmax src 0 _ st hall hrw' hpos

theorem wcsncat_s_ext (cfg : Cfg) (dest dmax src slen : Nat) (destbos srcbos : Bos) (st : St)
    (hall : ∀ a, st.mapped a = true ∧ st.rd a = true) (hrw : dest ≠ 0 → RW st dest dmax) :
    Outcome dest dmax st (wcsncat_s cfg dest dmax src slen destbos srcbos)
      (fun code st' => UsableW dest dmax destbos → WQ cfg dest dmax True code st') := by
  unfold wcsncat_s
  by_cases h0 : slen = 0 ∧ dest = 0 ∧ dmax = 0
  · rw [if_pos h0]
    exact ⟨EOK, st, rfl, FramePost.refl _ _ _, fun h => absurd h0.2.1 h.1⟩
  rw [if_neg h0]
  apply entryW dest dmax destbos st _ _
  intro hd hpos
  have hrw' := hrw hd
  by_cases hs : src = 0
  · rw [if_pos hs]; exact nullSrc_outcome cfg dest dmax _ _ st hrw' hpos
  rw [if_neg hs]
  have hscan := wcsnlen_s_any dest dmax st hall
  by_cases hsl : slen > RSIZE_MAX_WSTR
  · rw [if_pos hsl]
    exact lenExit_outcome cfg dest dmax ESLEMAX _ _ _ st hscan hrw' hd hpos ne_ESLEMAX (by decide)
  rw [if_neg hsl]
  -- behind the `slen > srcbos` check both arms of `srcbos` run the same rest: the `slen == 0` branch or the twin bodies
  cases srcbos with
  | none =>
    split
    · exact slen0_outcome cfg dest dmax _ _ _ st hscan hrw' hpos
    · exact catTwin_outcome cfg true dest dmax src slen _ st hall hrw' hpos
  | some sb =>
    simp only
    by_cases hb : slen * SIZEOF_WCHAR_T > sb
    · rw [if_pos hb]
      exact lenExit_outcome cfg dest dmax EOVERFLOW _ _ _ st hscan hrw' hd hpos ne_EOVERFLOW (by decide)
    · rw [if_neg hb]
      split
      · exact slen0_outcome cfg dest dmax _ _ _ st hscan hrw' hpos
      · exact catTwin_outcome cfg true dest dmax src slen _ st hall hrw' hpos

end SafeC
