import SafeC.Lemmas
import SafeC.Models.Query
import SafeC.Models.Query2
/-!
# Helper lemmas for the read-only query functions (C10)

* `NoStore p`: the program contains no `store` node; `exec_noStore`: such a run leaves the memory
  contents exactly as they were, whatever it read and whatever handler it invoked.
* `AllRd st`: every cell mapped and readable, the setting of the C10 answer theorems;
* the entry checks and the common body `memcmpG` on valid operands (`qChkS_ok` …, `memcmpG_ok` …);
* specs of the standard counterparts as recursive functions over the memory contents (`scanLen`, `firstIdx`,
  `lastIdx`, `firstDiff`, `inSet`, `spanLen`, `stopIdx`; `scanLen`, `firstIdx`, `firstDiff` are instances of
  `least` / `leastO`, the least index below a bound with a property), what they mean, and the exact runs of the C loops
  in their terms.

One property statement, `Props.C10.strnlen_s_C10` at the end (`Proofs/ExtFld.lean` needs it); the others are in
`SafeC/Props/C10*.lean`.
-/
namespace SafeC
open Gen

inductive NoStore : Prog α → Prop where
  | ret (x : α) : NoStore (.ret x)
  | load (a : Nat) (k : Nat → Prog α) : (∀ v, NoStore (k v)) → NoStore (.load a k)
  | emit (e : Event) (k : Prog α) : NoStore k → NoStore (.emit e k)

theorem NoStore.pure (x : α) : NoStore (pure x : Prog α) := .ret x

theorem NoStore.bind {p : Prog α} {f : α → Prog β} (hp : NoStore p) (hf : ∀ x, NoStore (f x)) :
    NoStore (p >>= f) := by
  induction hp with
  | ret x => exact hf x
  | load a k _ ih => exact .load a _ (fun v => ih v)
  | emit e k _ ih => exact .emit e _ ih

theorem NoStore.loadP (a : Nat) : NoStore (SafeC.load a) := .load a _ (fun v => .ret v)

theorem exec_noStore {p : Prog α} (hp : NoStore p) (s : St) {r : α} {s' : St}
    (h : exec p s = .ok (r, s')) : s'.data = s.data := by
  induction hp generalizing s with
  | ret x => simp [exec] at h; obtain ⟨_, rfl⟩ := h; rfl
  | load a k _ ih =>
    simp only [exec] at h
    split at h
    · have := ih _ _ h
      rw [this, St.noteRd_data]
    · cases h
  | emit e k _ ih =>
    have := ih _ h
    simpa using this

/-- all of memory is mapped and declared readable (the C10 setting: the answer, not the access
pattern, is the subject; the access pattern is C02) -/
def AllRd (st : St) : Prop := ∀ a, st.mapped a = true ∧ st.rd a = true

theorem exec_load_all {st : St} (h : AllRd st) (a : Nat) : exec (load a) st = .ok (st.data a, st) :=
  exec_load_ok a st (h a).1 (h a).2

theorem qChkS_ok {dest dmax : Nat} {src : Option Nat} (hd : dest ≠ 0) (hs : src ≠ some 0) (hpos : 0 < dmax)
    (hle : dmax ≤ RSIZE_MAX_STR) : qChkS dest dmax none src = pure none := by
  unfold qChkS
  rw [if_neg hd, if_neg hs, if_neg (Nat.ne_of_gt hpos), if_neg (Nat.not_lt.mpr hle)]

/-- what `qChkS` is on every input: `pure none` with its operands in order, or one failing exit (read by `Acc_qChkS`) -/
theorem qChkS_cases (dest dmax : Nat) (db : Bos) (src : Option Nat) :
    (qChkS dest dmax db src = pure none ∧ dest ≠ 0 ∧ src ≠ some 0 ∧ dmax ≠ 0 ∧
        (db = none → dmax ≤ RSIZE_MAX_STR) ∧ ∀ b, db = some b → dmax ≤ b) ∨
    ∃ c, c ≠ EOK ∧ qChkS dest dmax db src = qFailS c := by
  unfold qChkS
  by_cases hd : dest = 0
  · exact .inr ⟨_, ne_ESNULLP, if_pos hd⟩
  by_cases hs : src = some 0
  · exact .inr ⟨_, ne_ESNULLP, by rw [if_neg hd, if_pos hs]⟩
  by_cases hz : dmax = 0
  · exact .inr ⟨_, ne_ESZEROL, by rw [if_neg hd, if_neg hs, if_pos hz]⟩
  rw [if_neg hd, if_neg hs, if_neg hz]
  cases db with
  | none =>
    by_cases hm : dmax > RSIZE_MAX_STR
    · exact .inr ⟨_, ne_ESLEMAX, if_pos hm⟩
    · exact .inl ⟨if_neg hm, hd, hs, hz, fun _ => Nat.not_lt.mp hm, fun _ h => nomatch h⟩
  | some b =>
    by_cases hb : dmax > b
    · by_cases hm : dmax > RSIZE_MAX_STR
      · exact .inr ⟨_, ne_ESLEMAX, by simp only [if_pos hb, if_pos hm]⟩
      · exact .inr ⟨_, ne_EOVERFLOW, by simp only [if_pos hb, if_neg hm]⟩
    · exact .inl ⟨if_neg hb, hd, hs, hz, (fun h => nomatch h), fun _ h => by cases h; exact Nat.not_lt.mp hb⟩

theorem qChkM_ok {dest dmax : Nat} (hd : dest ≠ 0) (hpos : 0 < dmax) (hle : dmax ≤ RSIZE_MAX_MEM) :
    qChkM dest dmax none = pure none := by
  unfold qChkM
  rw [if_neg hd, if_neg (Nat.ne_of_gt hpos), if_neg (Nat.not_lt.mpr hle)]

theorem qChkSlenS_ok {slen : Nat} (hle : slen ≤ RSIZE_MAX_STR) : qChkSlenS slen none = pure none := by
  unfold qChkSlenS
  rw [if_neg (Nat.not_lt.mpr hle)]

theorem chkDmaxQ_ok {α : Type} (mk : Nat → α) {dmax max : Nat} (k : Prog α) (hle : dmax ≤ max) :
    chkDmaxQ mk dmax none max k = k := by
  unfold chkDmaxQ
  rw [if_neg (Nat.not_lt.mpr hle)]

theorem chkDestDmaxBool_ok {dest dmax max : Nat} (k : Prog Bool) (hd : dest ≠ 0) (hpos : 0 < dmax)
    (hle : dmax ≤ max) : chkDestDmaxBool dest dmax none max k = k := by
  unfold chkDestDmaxBool
  rw [if_neg hd, if_neg (Nat.ne_of_gt hpos), chkDmaxQ_ok _ _ hle]

theorem memcmpG_destbos {max : Nat} {f : Nat → Nat → Int} {dest dlen src slen dB sB dL dL' b : Nat} {srcbos : Bos}
    (hb : dB ≤ b) (hle : dL ≤ max) :
    memcmpG max f dest dlen src slen dB sB dL dL' (some b) srcbos =
      memcmpG max f dest dlen src slen dB sB dL dL' none srcbos := by
  unfold memcmpG memcmpChecks
  simp only [Nat.not_lt.mpr hb, Nat.not_lt.mpr hle, gt_iff_lt, if_false]

theorem memcmpG_srcbos {max : Nat} {f : Nat → Nat → Int} {dest dlen src slen dB sB dL dL' sb : Nat} {destbos : Bos}
    (hb : sB ≤ sb) (hle : slen ≤ max) :
    memcmpG max f dest dlen src slen dB sB dL dL' destbos (some sb) =
      memcmpG max f dest dlen src slen dB sB dL dL' destbos none := by
  unfold memcmpG memcmpChecks
  simp only [Nat.not_lt.mpr hb, Nat.not_lt.mpr hle, gt_iff_lt, if_false]

theorem memcmpG_srcbos_small {max : Nat} {f : Nat → Nat → Int} {dest dlen src slen dB sB dL dL' sb : Nat} {st : St}
    (hd : dest ≠ 0) (hs : src ≠ 0) (hpos : 0 < dlen) (hs0 : 0 < slen) (hl : dL ≤ max) (hsl : slen ≤ max)
    (hsb : sb < sB) :
    exec (memcmpG max f dest dlen src slen dB sB dL dL' none (some sb)) st =
      .ok ((EOVERFLOW, -1), { st with events := st.events ++ [.handler .mem EOVERFLOW] }) := by
  unfold memcmpG memcmpChecks qFailM
  simp [hd, hs, Nat.ne_of_gt hpos, Nat.ne_of_gt hs0, Nat.not_lt.mpr hl, Nat.not_lt.mpr hsl, hsb, exec_bind, exec_pure,
    handlerM]

def least (P : Nat → Bool) : Nat → Nat
  | 0 => 0
  | n+1 => if P 0 then 0 else least (fun i => P (i+1)) n + 1

theorem least_spec (P : Nat → Bool) (n : Nat) :
    least P n ≤ n ∧ (∀ j, j < least P n → P j = false) ∧ (least P n < n → P (least P n) = true) := by
  induction n generalizing P with
  | zero => exact ⟨Nat.le_refl _, fun j hj => absurd hj (Nat.not_lt_zero _), fun h => absurd h (Nat.not_lt_zero _)⟩
  | succ n ih =>
    obtain ⟨i1, i2, i3⟩ := ih (fun i => P (i+1))
    simp only [least]
    cases h0 : P 0
    · refine ⟨by simp; omega, fun j hj => ?_, fun h => ?_⟩
      · cases j with
        | zero => exact h0
        | succ j => exact i2 j (by simpa using hj)
      · simpa using i3 (by simpa using h)
    · exact ⟨by simp, fun j hj => by simp at hj, fun _ => by simpa using h0⟩

theorem least_unique {P : Nat → Bool} {n r : Nat} (h1 : r ≤ n) (h2 : ∀ j, j < r → P j = false)
    (h3 : r < n → P r = true) : least P n = r := by
  obtain ⟨l1, l2, l3⟩ := least_spec P n
  apply Nat.le_antisymm
  · apply Nat.le_of_not_lt; intro h
    by_cases hr : r < n
    · have := l2 r h; rw [h3 hr] at this; cases this
    · omega
  · apply Nat.le_of_not_lt; intro h
    have := h2 _ h; rw [l3 (by omega)] at this; cases this

/-- the option-valued searches: the least index if it is below the bound. The recursion equation `leastO_succ` is the
shape in which `firstIdx`, `firstDiff`, `firstIn`, `pairFirst` are written; `leastO_some` / `leastO_none` is what each of them means. -/
def leastO (P : Nat → Bool) (n : Nat) : Option Nat := if least P n < n then some (least P n) else none

theorem leastO_zero (P : Nat → Bool) : leastO P 0 = none := rfl

theorem leastO_succ (P : Nat → Bool) (n : Nat) :
    leastO P (n+1) = if P 0 then some 0 else (leastO (fun i => P (i+1)) n).map (· + 1) := by
  unfold leastO
  simp only [least]
  by_cases h0 : P 0 = true
  · simp [h0]
  · by_cases h : least (fun i => P (i+1)) n < n <;> simp [h0, h]

theorem leastO_some {P : Nat → Bool} {n i : Nat} (h : leastO P n = some i) :
    i < n ∧ P i = true ∧ ∀ j, j < i → P j = false := by
  unfold leastO at h
  obtain ⟨_, l2, l3⟩ := least_spec P n
  split at h
  · cases h; exact ⟨by assumption, l3 (by assumption), l2⟩
  · cases h

theorem leastO_none {P : Nat → Bool} {n : Nat} (h : leastO P n = none) : ∀ j, j < n → P j = false := by
  unfold leastO at h
  obtain ⟨_, l2, _⟩ := least_spec P n
  split at h
  · cases h
  · intro j hj; exact l2 j (by omega)

/-- number of non-zero cells before the first zero among the `n` cells at `p` (`n` if none):
`strnlen(p, n)` / `wcsnlen(p, n)` -/
def scanLen (d : Nat → Nat) (p : Nat) : Nat → Nat
  | 0 => 0
  | n+1 => if d p = 0 then 0 else 1 + scanLen d (p+1) n

theorem scanLen_succ_of_ne (d : Nat → Nat) (p n : Nat) (h : d p ≠ 0) :
    scanLen d p (n+1) = scanLen d (p+1) n + 1 := by
  simp [scanLen, h, Nat.add_comm]

theorem scanLen_succ_of_eq (d : Nat → Nat) (p n : Nat) (h : d p = 0) : scanLen d p (n+1) = 0 := by
  simp [scanLen, h]

theorem scanLen_le (d : Nat → Nat) (p n : Nat) : scanLen d p n ≤ n := by
  induction n generalizing p with
  | zero => simp [scanLen]
  | succ n ih =>
    simp only [scanLen]
    split
    · omega
    · have := ih (p+1); omega

theorem scanLen_nonzero (d : Nat → Nat) (p n i : Nat) (hi : i < scanLen d p n) : d (p+i) ≠ 0 := by
  induction n generalizing p i with
  | zero => simp [scanLen] at hi
  | succ n ih =>
    simp only [scanLen] at hi
    split at hi
    · omega
    · cases i with
      | zero => simpa
      | succ i =>
        have := ih (p+1) i (by omega)
        simpa [Nat.add_assoc, Nat.add_comm 1 i] using this

theorem scanLen_zero (d : Nat → Nat) (p n : Nat) (h : scanLen d p n < n) : d (p + scanLen d p n) = 0 := by
  induction n generalizing p with
  | zero => simp [scanLen] at h
  | succ n ih =>
    simp only [scanLen] at h ⊢
    split
    · simpa
    · rename_i hne
      simp only [hne, if_false] at h
      have := ih (p+1) (by omega)
      simpa [Nat.add_assoc, Nat.add_comm 1] using this

/-- so whatever satisfies the three clauses of `scanLen` IS `scanLen` (`least_unique`) -/
theorem scanLen_eq_least (d : Nat → Nat) (p n : Nat) : scanLen d p n = least (fun i => d (p+i) == 0) n := by
  induction n generalizing p with
  | zero => rfl
  | succ n ih => simp only [scanLen, least, Nat.add_zero, beq_iff_eq, ih (p+1), Nat.add_assoc, Nat.add_comm 1]

def firstIdx (d : Nat → Nat) (c p : Nat) : Nat → Option Nat
  | 0 => none
  | n+1 => if d p = c then some 0 else (firstIdx d c (p+1) n).map (· + 1)

theorem firstIdx_eq_leastO (d : Nat → Nat) (c p n : Nat) : firstIdx d c p n = leastO (fun i => d (p+i) == c) n := by
  induction n generalizing p with
  | zero => rfl
  | succ n ih => simp only [firstIdx, leastO_succ, Nat.add_zero, beq_iff_eq, ih (p+1), Nat.add_assoc, Nat.add_comm 1]

def lastIdx (d : Nat → Nat) (c p : Nat) : Nat → Option Nat
  | 0 => none
  | n+1 => if d (p+n) = c then some n else lastIdx d c p n

theorem lastIdx_some (d : Nat → Nat) (c p n i : Nat) (h : lastIdx d c p n = some i) :
    i < n ∧ d (p+i) = c ∧ ∀ j, i < j → j < n → d (p+j) ≠ c := by
  induction n with
  | zero => simp [lastIdx] at h
  | succ n ih =>
    simp only [lastIdx] at h
    split at h
    · cases h; exact ⟨by omega, by assumption, fun j h1 h2 => by omega⟩
    · rename_i hne
      obtain ⟨h1, h2, h3⟩ := ih h
      refine ⟨by omega, h2, fun j hj1 hj2 => ?_⟩
      by_cases hjn : j = n
      · subst hjn; exact hne
      · exact h3 j hj1 (by omega)

theorem lastIdx_none (d : Nat → Nat) (c p n : Nat) (h : lastIdx d c p n = none) :
    ∀ j, j < n → d (p+j) ≠ c := by
  induction n with
  | zero => intro j hj; omega
  | succ n ih =>
    simp only [lastIdx] at h
    split at h
    · cases h
    · rename_i hne
      intro j hj
      by_cases hjn : j = n
      · subst hjn; exact hne
      · exact ih h j (by omega)

def firstDiff (d : Nat → Nat) (p q : Nat) : Nat → Option Nat
  | 0 => none
  | n+1 => if d p ≠ d q then some 0 else (firstDiff d (p+1) (q+1) n).map (· + 1)

theorem firstDiff_eq_leastO (d : Nat → Nat) (p q n : Nat) :
    firstDiff d p q n = leastO (fun i => d (p+i) != d (q+i)) n := by
  induction n generalizing p q with
  | zero => rfl
  | succ n ih =>
    simp only [firstDiff, leastO_succ, Nat.add_zero, bne_iff_ne, ih (p+1) (q+1), Nat.add_assoc, Nat.add_comm 1]

theorem firstDiff_self (d : Nat → Nat) (p n : Nat) : firstDiff d p p n = none := by
  induction n generalizing p with
  | zero => rfl
  | succ n ih => simp [firstDiff, ih (p+1)]

/-- a known object size of at least `smax` characters never ends the loop early -/
theorem strnlenLoop_eq {st : St} (h : AllRd st) (smax str count : Nat) (b : Bos) (hb : ∀ v, b = some v → smax ≤ v) :
    exec (strnlenLoop smax str count b) st = .ok (count + scanLen st.data str smax, st) := by
  induction smax generalizing str count b with
  | zero => simp [strnlenLoop, scanLen]
  | succ n ih =>
    simp only [strnlenLoop, exec_bind, exec_load_all h, scanLen]
    by_cases hc : st.data str = 0
    · simp [hc]
    · simp only [hc, if_false]
      cases b with
      | none => rw [ih _ _ none nofun]; congr 2; omega
      | some v =>
        have := hb v rfl
        by_cases hb1 : v - 1 = 0
        · have hn : n = 0 := by omega
          subst hn
          simp [hb1, scanLen]
        · simp only [hb1, if_false]
          rw [ih _ _ _ (fun w hw => by cases hw; omega)]; congr 2; omega

theorem wcsnlenLoop_eq {st : St} (h : AllRd st) (smax str count : Nat) :
    exec (wcsnlenLoop smax str count) st = .ok (count + scanLen st.data str smax, st) := by
  induction smax generalizing str count with
  | zero => simp [wcsnlenLoop, scanLen]
  | succ n ih =>
    simp only [wcsnlenLoop, exec_bind, exec_load_all h, scanLen]
    by_cases hc : st.data str = 0
    · simp [hc]
    · simp only [hc, if_false]; rw [ih]; congr 2; omega

theorem memchrP_eq {st : St} (h : AllRd st) (c n s : Nat) :
    exec (memchrP c n s) st = .ok ((match firstIdx st.data c s n with | some i => s + i | none => 0), st) := by
  induction n generalizing s with
  | zero => simp [memchrP, firstIdx]
  | succ n ih =>
    simp only [memchrP, exec_bind, exec_load_all h, firstIdx]
    by_cases hc : st.data s = c
    · simp [hc]
    · simp only [hc, if_false]; rw [ih]
      cases firstIdx st.data c (s+1) n <;> simp <;> omega

theorem memrchrP_eq {st : St} (h : AllRd st) (c s n : Nat) :
    exec (memrchrP c s n) st = .ok ((match lastIdx st.data c s n with | some i => s + i | none => 0), st) := by
  induction n with
  | zero => simp [memrchrP, lastIdx]
  | succ n ih =>
    simp only [memrchrP, exec_bind, exec_load_all h, lastIdx]
    by_cases hc : st.data (s+n) = c
    · simp [hc]
    · simp only [hc, if_false]; rw [ih]

theorem memcmpLoopQ_eq {st : St} (h : AllRd st) (f : Nat → Nat → Int) (dmax slen dp sp : Nat) (hle : slen ≤ dmax) :
    exec (memcmpLoopQ f dmax slen dp sp) st =
      .ok ((match firstDiff st.data dp sp slen with
            | some i => f (st.data (dp+i)) (st.data (sp+i)) | none => 0), st) := by
  induction slen generalizing dmax dp sp with
  | zero => cases dmax <;> simp [memcmpLoopQ, firstDiff]
  | succ n ih =>
    cases dmax with
    | zero => omega
    | succ m =>
      simp only [memcmpLoopQ, exec_bind, exec_load_all h, firstDiff]
      by_cases hc : st.data dp = st.data sp
      · simp only [hc, ne_eq, not_true_eq_false, if_false]
        rw [ih m (dp+1) (sp+1) (by omega)]
        cases firstDiff st.data (dp+1) (sp+1) n <;> simp [Nat.add_assoc, Nat.add_comm 1]
      · simp [hc]

theorem memcmpG_ok {st : St} (h : AllRd st) {max : Nat} {f : Nat → Nat → Int} {dest dlen src slen dB sB dL dL' : Nat}
    (hd : dest ≠ 0) (hs : src ≠ 0) (hpos : 0 < dlen) (hle : dL ≤ max) (hspos : 0 < slen) (hsmax : slen ≤ max)
    (hsle : slen ≤ dlen) :
    exec (memcmpG max f dest dlen src slen dB sB dL dL' none none) st =
      .ok ((EOK, match firstDiff st.data dest src slen with
                 | some i => f (st.data (dest+i)) (st.data (src+i)) | none => 0), st) := by
  unfold memcmpG memcmpChecks
  simp only [hd, hs, Nat.ne_of_gt hpos, Nat.ne_of_gt hspos, Nat.not_lt.mpr hle, Nat.not_lt.mpr hsmax,
    Nat.not_lt.mpr hsle, if_false, exec_bind, exec_pure]
  by_cases hsame : dest = src
  · subst hsame
    simp [firstDiff_self]
  · simp only [hsame, if_false, exec_bind, memcmpLoopQ_eq h _ _ _ _ _ hsle]
    rfl

theorem wmemcmpLoop_eq {st : St} (h : AllRd st) (dlen slen dp sp : Nat) (hle : slen ≤ dlen) :
    exec (wmemcmpLoop dlen slen dp sp) st =
      .ok ((match firstDiff st.data dp sp slen with
            | some i => (if toS32 (st.data (dp+i)) < toS32 (st.data (sp+i)) then -1 else 1) | none => 0), st) := by
  induction slen generalizing dlen dp sp with
  | zero => cases dlen <;> simp [wmemcmpLoop, firstDiff]
  | succ n ih =>
    cases dlen with
    | zero => omega
    | succ m =>
      simp only [wmemcmpLoop, Nat.succ_ne_zero, if_false, exec_bind, exec_load_all h, firstDiff, Nat.add_sub_cancel]
      by_cases hc : st.data dp = st.data sp
      · simp only [hc, ne_eq, not_true_eq_false, if_false]
        rw [ih m (dp+1) (sp+1) (by omega)]
        cases firstDiff st.data (dp+1) (sp+1) n <;> simp [Nat.add_assoc, Nat.add_comm 1]
      · simp [hc]


/-- is `c` among the characters of the string at `p` (at most `n` of them)? -/
def inSet (d : Nat → Nat) (c p : Nat) : Nat → Bool
  | 0 => false
  | n+1 => if d p = 0 then false else if c = d p then true else inSet d c (p+1) n

theorem inSet_succ_of_ne (d : Nat → Nat) (c p n : Nat) (h0 : d p ≠ 0) (hc : c ≠ d p) :
    inSet d c p (n+1) = inSet d c (p+1) n := by
  simp [inSet, h0, hc]

theorem inSet_iff (d : Nat → Nat) (c p n : Nat) :
    inSet d c p n = true ↔ ∃ j, j < scanLen d p n ∧ d (p+j) = c := by
  induction n generalizing p with
  | zero => simp [inSet, scanLen]
  | succ n ih =>
    simp only [inSet, scanLen]
    by_cases h0 : d p = 0
    · simp [h0]
    · simp only [h0, if_false]
      by_cases hc : c = d p
      · simp only [hc, if_true, true_iff]; exact ⟨0, by omega, by simp⟩
      · simp only [hc, if_false]
        rw [ih (p+1)]
        constructor
        · rintro ⟨j, hj, he⟩
          exact ⟨j+1, by omega, by simpa [Nat.add_assoc, Nat.add_comm 1 j] using he⟩
        · rintro ⟨j, hj, he⟩
          cases j with
          | zero => exact absurd (by simpa using he.symm) hc
          | succ j => exact ⟨j, by omega, by simpa [Nat.add_assoc, Nat.add_comm 1 j] using he⟩

/-- `strspn` (`want = true`) / `strcspn` (`want = false`) restricted to the first `n` cells of the
string at `p`, the set being the string at `src` (at most `slen` characters) -/
def spanLen (d : Nat → Nat) (want : Bool) (src slen p : Nat) : Nat → Nat
  | 0 => 0
  | n+1 => if d p = 0 then 0 else if inSet d (d p) src slen = want then 1 + spanLen d want src slen (p+1) n else 0

theorem spanLen_facts (d : Nat → Nat) (want : Bool) (src slen p n : Nat) :
    spanLen d want src slen p n ≤ n ∧
    (∀ i, i < spanLen d want src slen p n → d (p+i) ≠ 0 ∧ inSet d (d (p+i)) src slen = want) ∧
    (spanLen d want src slen p n < n →
      d (p + spanLen d want src slen p n) = 0 ∨ inSet d (d (p + spanLen d want src slen p n)) src slen ≠ want) := by
  induction n generalizing p with
  | zero => simp [spanLen]
  | succ n ih =>
    obtain ⟨i1, i2, i3⟩ := ih (p+1)
    simp only [spanLen]
    by_cases h0 : d p = 0
    · simp [h0]
    · simp only [h0, if_false]
      by_cases hw : inSet d (d p) src slen = want
      · simp only [hw, if_true]
        refine ⟨by omega, ?_, ?_⟩
        · intro i hi
          cases i with
          | zero => exact ⟨by simpa using h0, by simpa using hw⟩
          | succ i =>
            have := i2 i (by omega)
            simpa [Nat.add_assoc, Nat.add_comm 1 i] using this
        · intro hlt
          have := i3 (by omega)
          simpa [Nat.add_assoc, Nat.add_comm 1] using this
      · simp only [hw, if_false]
        exact ⟨by omega, fun i hi => by omega, fun _ => Or.inr (by simpa using hw)⟩

theorem spanLen_congr (m m' : Nat → Nat) (want : Bool) (src slen p n : Nat)
    (hs : ∀ c, inSet m c src slen = inSet m' c src slen) (h : ∀ j, j < n → m (p+j) = m' (p+j)) :
    spanLen m want src slen p n = spanLen m' want src slen p n := by
  induction n generalizing p with
  | zero => rfl
  | succ n ih =>
    have h0 := h 0 (by omega)
    simp only [Nat.add_zero] at h0
    simp only [spanLen, h0, hs, ih (p+1) fun j hj => by
      have := h (j+1) (by omega); simpa [Nat.add_assoc, Nat.add_comm 1 j] using this]

theorem spanInner_eq {st : St} (h : AllRd st) (dest smax scan2 : Nat) :
    exec (spanInner dest smax scan2) st = .ok (inSet st.data (st.data dest) scan2 smax, st) := by
  induction smax generalizing scan2 with
  | zero =>
    simp only [spanInner, exec_bind, exec_load_all h, inSet]
    split <;> simp
  | succ n ih =>
    simp only [spanInner, exec_bind, exec_load_all h, inSet]
    by_cases h0 : st.data scan2 = 0
    · simp [h0]
    · simp only [h0, if_false, exec_bind, exec_load_all h]
      by_cases hc : st.data dest = st.data scan2
      · simp [hc]
      · simp only [hc, if_false]; exact ih _

theorem spanOuter_eq {st : St} (h : AllRd st) (want : Bool) (src slen dmax dest count : Nat) :
    exec (spanOuter want src slen dmax dest count) st =
      .ok (count + spanLen st.data want src slen dest dmax, st) := by
  induction dmax generalizing dest count with
  | zero =>
    simp only [spanOuter, exec_bind, exec_load_all h, spanLen]
    split <;> simp
  | succ n ih =>
    simp only [spanOuter, exec_bind, exec_load_all h, spanLen]
    by_cases h0 : st.data dest = 0
    · simp [h0]
    · simp only [h0, if_false, exec_bind, spanInner_eq h]
      by_cases hw : inSet st.data (st.data dest) src slen = want
      · simp only [hw, if_true]; rw [ih]; congr 2; omega
      · simp [hw]


/-- where `strcmp` stops among the first `n` positions: the first index at which either string
ends or the two differ (`n` if there is none) -/
def stopIdx (d : Nat → Nat) (p q : Nat) : Nat → Nat
  | 0 => 0
  | n+1 => if d p = 0 ∨ d q = 0 ∨ d p ≠ d q then 0 else 1 + stopIdx d (p+1) (q+1) n

/-- the loop of `strcmp_s` on ANY memory, source object size known or not: it stops at `k = stopIdx` computed over `dmax`
positions. It gives up (ESUNTERM, one report) exactly when a known size `sb` is reached by the matching prefix (`0 < k`,
`sb ≤ slen + k`); otherwise it subtracts the two cells found at `k` as plain `char`s — also when `k = dmax`, one past the
compared extent -/
theorem strcmpLoop_run {st : St} (h : AllRd st) (srcbos : Bos) (dmax dest src slen : Nat) :
    exec (strcmpLoop srcbos dmax dest src slen) st =
      if srcbos.any (fun sb => decide (0 < stopIdx st.data dest src dmax ∧ sb ≤ slen + stopIdx st.data dest src dmax)) then
        .ok ((ESUNTERM, 0), { st with events := st.events ++ [.handler .str ESUNTERM] })
      else
        .ok ((EOK, schar (st.data (dest + stopIdx st.data dest src dmax)) -
                   schar (st.data (src + stopIdx st.data dest src dmax))), st) := by
  induction dmax generalizing dest src slen with
  | zero =>
    unfold strcmpLoop
    simp only [exec_bind, exec_load_all h, stopIdx, Nat.add_zero, Nat.lt_irrefl, false_and, decide_false,
      Option.any_eq_true, Bool.false_eq_true, and_false, exists_false, if_false]
    by_cases h0 : st.data dest = 0
    · simp [h0, strcmpTail, exec_bind, exec_load_all h]
    · simp only [h0, if_false, exec_bind, exec_load_all h]
      by_cases h1 : st.data src = 0 <;> simp [h1, strcmpTail, exec_bind, exec_load_all h]
  | succ n ih =>
    unfold strcmpLoop
    simp only [exec_bind, exec_load_all h, stopIdx]
    by_cases hstop : st.data dest = 0 ∨ st.data src = 0 ∨ st.data dest ≠ st.data src
    · -- the comparison stops here: `k = 0`, no give-up
      by_cases h0 : st.data dest = 0
      · simp [h0, strcmpTail, exec_bind, exec_load_all h]
      · by_cases h1 : st.data src = 0
        · simp [h0, h1, strcmpTail, exec_bind, exec_load_all h]
        · have h2 : st.data dest ≠ st.data src := by simpa [h0, h1] using hstop
          simp [h0, h1, h2, strcmpTail, exec_bind, exec_load_all h]
    · have h0 : st.data dest ≠ 0 := fun e => hstop (.inl e)
      have h1 : st.data src ≠ 0 := fun e => hstop (.inr (.inl e))
      have h2 : st.data dest = st.data src := Classical.byContradiction fun e => hstop (.inr (.inr e))
      simp only [h1, h2, or_self, if_false, exec_bind, exec_load_all h, ne_eq, not_true_eq_false]
      cases srcbos with
      | none => simp only [Bool.false_eq_true, if_false, Option.any_none]; rw [ih]; simp [Nat.add_assoc, Nat.add_comm 1]
      | some sb =>
        by_cases hge : slen + 1 ≥ sb
        · have : 0 < 1 + stopIdx st.data (dest+1) (src+1) n ∧ sb ≤ slen + (1 + stopIdx st.data (dest+1) (src+1) n) :=
            ⟨by omega, by omega⟩
          simp [hge, this, handlerS, exec_bind]
        · simp only [hge, decide_false, Bool.false_eq_true, if_false]
          rw [ih]
          by_cases hc : 0 < stopIdx st.data (dest+1) (src+1) n ∧ sb ≤ slen + 1 + stopIdx st.data (dest+1) (src+1) n
          · rw [if_pos (by simpa using hc), if_pos (by simp only [Option.any_some, decide_eq_true_eq]; omega)]
          · rw [if_neg (by simpa using hc), if_neg (by simp only [Option.any_some, decide_eq_true_eq]; omega)]
            simp [Nat.add_assoc, Nat.add_comm 1]

end SafeC

namespace SafeC.Props.C10
open SafeC Gen

/-- **strnlen_s**, object size unknown: the number of characters before the first NUL among the
first `smax`, `smax` if there is none; nothing reported, nothing changed. -/
theorem strnlen_s_C10 (str smax : Nat) (st : St) (hall : AllRd st)
    (hs : str ≠ 0) (hpos : 0 < smax) (hle : smax ≤ RSIZE_MAX_STR) :
    exec (strnlen_s str smax none) st = .ok (scanLen st.data str smax, st) := by
  unfold strnlen_s
  rw [if_neg hs, if_neg (Nat.ne_of_gt hpos), if_neg (Nat.not_lt.mpr hle), strnlenLoop_eq hall _ _ _ none nofun,
    Nat.zero_add]

end SafeC.Props.C10
