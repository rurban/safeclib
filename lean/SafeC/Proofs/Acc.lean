import SafeC.Lemmas
/-!
# `Acc R W p Q`: every load of `p` is at an address in `R`, every store at an address in `W`,
whatever values the loads return

The access-footprint judgement of the counter-bounded functions, from which their C01, C02 and C12 theorems are read: on a
memory in which ONLY `R ∪ W` is mapped (`R` readable, `W` writable), such a program cannot fault and
records no stray access — for every content of memory (`Acc.sound`, in `Footprint.lean`).
-/
namespace SafeC

inductive Acc (R W : Nat → Prop) : {α : Type} → Prog α → (α → Prop) → Prop where
  | ret {α} {Q : α → Prop} (x : α) : Q x → Acc R W (.ret x) Q
  | load {α} {Q : α → Prop} (a : Nat) (k : Nat → Prog α) : R a → (∀ v, Acc R W (k v) Q) → Acc R W (.load a k) Q
  | store {α} {Q : α → Prop} (a v : Nat) (k : Prog α) : W a → Acc R W k Q → Acc R W (.store a v k) Q
  | emit {α} {Q : α → Prop} (e : Event) (k : Prog α) : Acc R W k Q → Acc R W (.emit e k) Q

namespace Acc

theorem pure {R W : Nat → Prop} {α} {Q : α → Prop} (x : α) (h : Q x) : Acc R W (Pure.pure x : Prog α) Q := .ret x h

theorem bind {R W : Nat → Prop} {α β} {p : Prog α} {f : α → Prog β} {Q : α → Prop} {S : β → Prop}
    (hp : Acc R W p Q) (hf : ∀ x, Q x → Acc R W (f x) S) : Acc R W (p >>= f) S := by
  induction hp with
  | ret x hx => exact hf x hx
  | load a k ha _ ih => exact .load a _ ha (fun v => ih v hf)
  | store a v k ha _ ih => exact .store a v _ ha (ih hf)
  | emit e k _ ih => exact .emit e _ (ih hf)

theorem thenPure {R W : Nat → Prop} {α β} {p : Prog α} {Q : α → Prop} {x : β} (hp : Acc R W p Q) :
    Acc R W (p >>= fun _ => Pure.pure x) (fun _ => True) := bind hp (fun _ _ => pure _ trivial)

theorem conseq {R W : Nat → Prop} {α} {p : Prog α} {Q Q' : α → Prop} (hp : Acc R W p Q) (h : ∀ x, Q x → Q' x) :
    Acc R W p Q' := by
  induction hp with
  | ret x hx => exact .ret x (h x hx)
  | load a k ha _ ih => exact .load a _ ha (fun v => ih v h)
  | store a v k ha _ ih => exact .store a v _ ha (ih h)
  | emit e k _ ih => exact .emit e _ (ih h)

theorem mono {R W R' W' : Nat → Prop} {α} {p : Prog α} {Q : α → Prop} (hp : Acc R W p Q)
    (hr : ∀ a, R a → R' a) (hw : ∀ a, W a → W' a) : Acc R' W' p Q := by
  induction hp with
  | ret x hx => exact .ret x hx
  | load a k ha _ ih => exact .load a _ (hr a ha) (fun v => ih v)
  | store a v k ha _ ih => exact .store a v _ (hw a ha) ih
  | emit e k _ ih => exact .emit e _ ih

theorem ite {R W : Nat → Prop} {α} {Q : α → Prop} {c : Prop} [Decidable c] {p q : Prog α}
    (hp : c → Acc R W p Q) (hq : ¬ c → Acc R W q Q) : Acc R W (if c then p else q) Q := by
  split
  · exact hp ‹_›
  · exact hq ‹_›

theorem bos {R W : Nat → Prop} {α} {Q : α → Prop} {b : Bos} {p : Prog α} {q : Nat → Prog α}
    (hp : b = none → Acc R W p Q) (hq : ∀ x, b = some x → Acc R W (q x) Q) :
    Acc R W (match b with | none => p | some x => q x) Q := by
  cases b
  · exact hp rfl
  · exact hq _ rfl

theorem loadP {R W : Nat → Prop} (a : Nat) (h : R a) : Acc R W (SafeC.load a) (fun _ => True) :=
  .load a _ h (fun v => .ret v trivial)
theorem storeP {R W : Nat → Prop} (a v : Nat) (h : W a) : Acc R W (SafeC.store a v) (fun _ => True) :=
  .store a v _ h (.ret () trivial)
theorem emitP {R W : Nat → Prop} (e : Event) : Acc R W (SafeC.emit e) (fun _ => True) := .emit e _ (.ret () trivial)
theorem handlerS {R W : Nat → Prop} (c : Nat) : Acc R W (SafeC.handlerS c) (fun _ => True) := emitP _
theorem handlerM {R W : Nat → Prop} (c : Nat) : Acc R W (SafeC.handlerM c) (fun _ => True) := emitP _

theorem loadBind {R W : Nat → Prop} {α} {f : Nat → Prog α} {Q : α → Prop} {a : Nat} (ha : R a) (h : ∀ v, Acc R W (f v) Q) :
    Acc R W (SafeC.load a >>= f) Q := .load a _ ha h
theorem storeBind {R W : Nat → Prop} {α} {f : Unit → Prog α} {Q : α → Prop} {a v : Nat} (ha : W a) (h : Acc R W (f ()) Q) :
    Acc R W (SafeC.store a v >>= f) Q := .store a v _ ha h
theorem emitBind {R W : Nat → Prop} {α} {f : Unit → Prog α} {Q : α → Prop} (e : Event) (h : Acc R W (f ()) Q) :
    Acc R W (SafeC.emit e >>= f) Q := .emit e _ h
theorem handlerSBind {R W : Nat → Prop} {α} {f : Unit → Prog α} {Q : α → Prop} (c : Nat) (h : Acc R W (f ()) Q) :
    Acc R W (SafeC.handlerS c >>= f) Q := .emit _ _ h
theorem handlerMBind {R W : Nat → Prop} {α} {f : Unit → Prog α} {Q : α → Prop} (c : Nat) (h : Acc R W (f ()) Q) :
    Acc R W (SafeC.handlerM c >>= f) Q := .emit _ _ h

theorem bindT {R W : Nat → Prop} {α β} {p : Prog α} {f : α → Prog β} {S : β → Prop}
    (hp : Acc R W p (fun _ => True)) (hf : ∀ x, Acc R W (f x) S) : Acc R W (p >>= f) S :=
  bind hp (fun x _ => hf x)

end Acc
end SafeC
