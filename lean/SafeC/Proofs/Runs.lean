import SafeC.Lemmas
/-!
# The judgement `Runs`: a run returns, and result and final state satisfy a postcondition

`Runs p st Q` unfolds to `∃ r st', exec p st = .ok (r, st') ∧ Q r st'`, the shape of the exec-level statements of the library,
so such a statement IS a `Runs` statement; the rules below compose them along `>>=`.
-/
namespace SafeC

def Runs {α : Type} (p : Prog α) (st : St) (Q : α → St → Prop) : Prop := ∃ r st', exec p st = .ok (r, st') ∧ Q r st'

namespace Runs

theorem pure {α} {Q : α → St → Prop} {st : St} (x : α) (h : Q x st) : Runs (Pure.pure x : Prog α) st Q := ⟨x, st, rfl, h⟩

theorem bind {α β} {p : Prog α} {f : α → Prog β} {st : St} {Q : β → St → Prop}
    (h : Runs p st (fun a s1 => Runs (f a) s1 Q)) : Runs (p >>= f) st Q := by
  obtain ⟨a, s1, he, r, s2, he2, hq⟩ := h
  exact ⟨r, s2, by simp only [exec_bind, he, he2], hq⟩

theorem conseq {α} {p : Prog α} {st : St} {Q Q' : α → St → Prop} (h : Runs p st Q) (hq : ∀ r s, Q r s → Q' r s) :
    Runs p st Q' := by
  obtain ⟨r, s, he, h1⟩ := h
  exact ⟨r, s, he, hq r s h1⟩

theorem of_exec {α} {p : Prog α} {st : St} {Q : α → St → Prop} {r : α} {s : St} (he : exec p st = .ok (r, s)) (h : Q r s) :
    Runs p st Q := ⟨r, s, he, h⟩

theorem bind_pure {α β} {p : Prog α} {f : α → Prog β} {st : St} {Q : β → St → Prop} {P : α → Prop}
    (h : Runs p st (fun a s => s = st ∧ P a)) (k : ∀ a, P a → Runs (f a) st Q) : Runs (p >>= f) st Q :=
  bind (h.conseq fun a _ ⟨hs, ha⟩ => hs ▸ k a ha)

theorem loadP {st : St} (a : Nat) (hm : st.mapped a = true) (hr : st.rd a = true) :
    Runs (load a) st (fun v s => v = st.data a ∧ s = st) := ⟨_, _, exec_load_ok a st hm hr, rfl, rfl⟩

theorem storeP {st : St} (a v : Nat) (hm : st.mapped a = true) (hw : st.wr a = true) :
    Runs (store a v) st (fun _ s => s = st.upd a v) := ⟨_, _, exec_store_ok a v st hm hw, rfl⟩

theorem of_unit {p : Prog Unit} {st : St} {R : St → Prop} (h : ∃ st', exec p st = .ok ((), st') ∧ R st') :
    Runs p st (fun _ => R) :=
  let ⟨st', he, hr⟩ := h; ⟨(), st', he, hr⟩

theorem emit {st : St} {Q : Unit → St → Prop} (e : Event) (h : Q () (st.emit e)) : Runs (SafeC.emit e) st Q :=
  ⟨(), _, exec_emit e st, h⟩

theorem failS {st : St} {Q : Nat → St → Prop} (c : Nat) (h : Q c (st.emit (.handler .str c))) : Runs (SafeC.failS c) st Q :=
  bind (emit _ (pure _ h))

theorem failM {st : St} {Q : Nat → St → Prop} (c : Nat) (h : Q c (st.emit (.handler .mem c))) : Runs (SafeC.failM c) st Q :=
  bind (emit _ (pure _ h))

/-- an entry check `if c then <handler; return e> else k`: what the failing exit contributes, and the rest under `¬ c` -/
theorem guardS {c : Prop} [Decidable c] {e : Nat} {k : Prog Nat} {st : St} {Q : Nat → St → Prop}
    (hfail : c → Q e (st.emit (.handler .str e))) (hk : ¬ c → Runs k st Q) : Runs (if c then SafeC.failS e else k) st Q := by
  split
  · exact failS e (hfail ‹_›)
  · exact hk ‹_›

theorem guardM {c : Prop} [Decidable c] {e : Nat} {k : Prog Nat} {st : St} {Q : Nat → St → Prop}
    (hfail : c → Q e (st.emit (.handler .mem e))) (hk : ¬ c → Runs k st Q) : Runs (if c then SafeC.failM e else k) st Q := by
  split
  · exact failM e (hfail ‹_›)
  · exact hk ‹_›

end Runs

end SafeC
