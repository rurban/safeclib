import SafeC.Proofs.MemMove
import SafeC.Proofs.Erase
/-!
# `memcpy_s` / `memmove_s`: the entry checks pass, the copying paths, the overlap rejection

Helper lemmas for `SafeC/Props/C06Mem.lean` and `SafeC/Props/C07Mem.lean`.  The 16/32-bit and `wmem*` entry points are taken
through their checks inside those two files, with `size_facts`, `destChecks_pass`, `srcChecks_pass`, `moveEntry_ok` from here.
-/
namespace SafeC
open Gen Mem

/-- `n` elements of `k` bytes fit a destination of `dmax` bytes that is within a limit below 2^32: the
consequences the entry points use -/
theorem size_facts {n k dmax max : Nat} (hpos : 0 < n) (hk : 0 < k) (hle : n * k ≤ dmax)
    (hmax : dmax ≤ max) (hlt : max < U32) : n < U32 ∧ dmax ≠ 0 ∧ n * k < U64 ∧ dmax < U64 := by
  have hu : U32 < U64 := by decide
  have h1 : n ≤ dmax := Nat.le_trans (Nat.le_mul_of_pos_right n hk) hle
  have h2 : dmax < U32 := Nat.lt_of_le_of_lt hmax hlt
  exact ⟨Nat.lt_of_le_of_lt h1 h2, Nat.ne_of_gt (Nat.lt_of_lt_of_le hpos h1),
    Nat.lt_trans (Nat.lt_of_le_of_lt hle h2) hu, Nat.lt_trans h2 hu⟩

/-! ## the entry checks, as equations between programs

Every copying entry point is a chain of argument tests in front of one primitive.  On valid arguments
each test is an `if` whose condition is false, so the entry point EQUALS `do prim; pure EOK`; what it does
is then what the primitive does. -/

theorem chkDmaxMemB_none {dmax max : Nat} (k : Option Nat → Prog Nat) (h : dmax ≤ max) :
    chkDmaxMemB dmax none max k = k none :=
  if_neg (Nat.not_lt.2 h)

theorem chkDmaxMemB_pass {dmax : Nat} {b : Bos} (k : Option Nat → Prog Nat) (h : memDmaxOk dmax b) :
    chkDmaxMemB dmax b RSIZE_MAX_MEM k = k b := by
  cases b with
  | none => exact chkDmaxMemB_none k h
  | some b => exact if_neg (Nat.not_lt.2 h)

/-- the tests on the length, on `dest` and on `dmax` that open every entry point -/
theorem destChecks_pass {α : Type} {slen dest dmax : Nat} (a b c rest : Prog α)
    (hpos : 0 < slen) (hd : dest ≠ 0) (hd0 : dmax ≠ 0) :
    (if slen = 0 then a else if dest = 0 then b else if dmax = 0 then c else rest) = rest := by
  rw [if_neg (Nat.ne_of_gt hpos), if_neg hd, if_neg hd0]

/-- the tests on `src` and on the source size `smax` -/
theorem srcChecks_pass {α : Type} {src smax dmax : Nat} {sb : Bos} (a b c d : Prog α)
    (hs : src ≠ 0) (hle : smax ≤ dmax) (hsb : exceeds smax sb = false) :
    (if src = 0 then a else if smax > dmax then b else if exceeds smax sb then c else d) = d := by
  rw [if_neg hs, if_neg (Nat.not_lt.2 hle), hsb]
  rfl

theorem moveEntry_ok {p : Prog Nat} {mv : Prog Unit} {st : St} {d s n : Nat}
    (hp : p = (do mv; pure EOK)) (hmv : ∃ st', exec mv st = .ok ((), st') ∧ Moved st st' d s n) :
    ∃ st', exec p st = .ok (EOK, st') ∧ Moved st st' d s n := by
  obtain ⟨st', he, hm⟩ := hmv
  refine ⟨st', ?_, hm⟩
  rw [hp, exec_bind, he]
  rfl

theorem mem_prim_move_lt {dest src n : Nat} {st : St} (hn : n < U32) (hpos : 0 < n)
    (hw : RW st dest n) (hr : RD st src n) :
    ∃ st', exec (mem_prim_move dest src n) st = .ok ((), st') ∧ Moved st st' dest src n := by
  have h := mem_prim_move_ok dest src n st
  rw [Nat.mod_eq_of_lt hn] at h
  exact h hpos hw hr

theorem primMoveElems_lt {dest src n : Nat} {st : St} (hn : n < U32)
    (hw : RW st dest n) (hr : RD st src n) :
    ∃ st', exec (primMoveElems dest src n) st = .ok ((), st') ∧ Moved st st' dest src n := by
  have h := primMoveElems_ok dest src n st
  rw [Nat.mod_eq_of_lt hn] at h
  exact h hw hr

/-- `CHK_OVRLP_BUTSAME` on `w`-byte elements whose byte addresses do not wrap around 2^64 -/
theorem ovrlpButSame_iff {w : Nat} (dp dlen sp slen : Nat) (hw : 0 < w)
    (h1 : sp * w + slen * w < U64) (h2 : dp * w + dlen * w < U64) :
    ovrlpButSame w dp dlen sp slen = true ↔ (sp < dp ∧ dp < sp + slen) ∨ (dp < sp ∧ sp < dp + dlen) := by
  simp only [ovrlpButSame]
  rw [Nat.mod_eq_of_lt h1, Nat.mod_eq_of_lt h2, ← Nat.add_mul, ← Nat.add_mul]
  simp only [Bool.or_eq_true, Bool.and_eq_true, decide_eq_true_eq, gt_iff_lt, Nat.mul_lt_mul_right hw]

theorem ovrlpButSame_one (dp dlen sp slen : Nat) (h1 : sp + slen < U64) (h2 : dp + dlen < U64) :
    ovrlpButSame 1 dp dlen sp slen = true ↔ (sp < dp ∧ dp < sp + slen) ∨ (dp < sp ∧ sp < dp + dlen) :=
  ovrlpButSame_iff dp dlen sp slen Nat.one_pos (by rwa [Nat.mul_one, Nat.mul_one])
    (by rwa [Nat.mul_one, Nat.mul_one])

/-- `memmove_s` with any object-size knowledge: `dmax` within the limit / the known dest object, `slen` within
the known source object -/
theorem memmove_s_ok_bos (dest dmax src slen : Nat) (destbos srcbos : Bos) (st : St)
    (hd : dest ≠ 0) (hs : src ≠ 0) (hpos : 0 < slen) (hle : slen ≤ dmax) (hmax : dmax ≤ RSIZE_MAX_MEM)
    (hdb : memDmaxOk dmax destbos) (hsb : exceeds slen srcbos = false)
    (hw : RW st dest dmax) (hr : RD st src slen) :
    ∃ st', exec (memmove_s dest dmax src slen destbos srcbos) st = .ok (EOK, st') ∧
      Moved st st' dest src slen := by
  refine moveEntry_ok ?_ (mem_prim_move_lt (Nat.lt_of_le_of_lt (Nat.le_trans hle hmax) RSIZE_MAX_MEM_lt_U32) hpos
    (hw.sub (Nat.le_refl _) (Nat.add_le_add_left hle _)) hr)
  unfold memmove_s
  rw [destChecks_pass _ _ _ _ hpos hd (Nat.ne_of_gt (Nat.lt_of_lt_of_le hpos hle)),
    chkDmaxMemB_pass _ hdb]
  exact srcChecks_pass _ _ _ _ hs hle hsb

/-- `memmove_s`, valid arguments, any placement of the operands: EOK and `memmove` semantics -/
theorem memmove_s_ok (dest dmax src slen : Nat) (st : St)
    (hd : dest ≠ 0) (hs : src ≠ 0) (hpos : 0 < slen) (hle : slen ≤ dmax) (hmax : dmax ≤ RSIZE_MAX_MEM)
    (hw : RW st dest dmax) (hr : RD st src slen) :
    ∃ st', exec (memmove_s dest dmax src slen none none) st = .ok (EOK, st') ∧
      Moved st st' dest src slen :=
  memmove_s_ok_bos dest dmax src slen none none st hd hs hpos hle hmax hmax rfl hw hr

/-- `memcpy_s`, valid arguments, operands that do not overlap (or coincide): EOK and the copy -/
theorem memcpy_s_ok (dest dmax src slen : Nat) (st : St)
    (hd : dest ≠ 0) (hs : src ≠ 0) (hpos : 0 < slen) (hle : slen ≤ dmax) (hmax : dmax ≤ RSIZE_MAX_MEM)
    (hw : RW st dest dmax) (hr : RD st src slen)
    (ha1 : src + slen < U64) (ha2 : dest + dmax < U64)
    (hno : ¬ ((src < dest ∧ dest < src + slen) ∨ (dest < src ∧ src < dest + dmax))) :
    ∃ st', exec (memcpy_s dest dmax src slen none none) st = .ok (EOK, st') ∧
      Moved st st' dest src slen := by
  refine moveEntry_ok ?_ (mem_prim_move_lt (Nat.lt_of_le_of_lt (Nat.le_trans hle hmax) RSIZE_MAX_MEM_lt_U32) hpos
    (hw.sub (Nat.le_refl _) (Nat.add_le_add_left hle _)) hr)
  unfold memcpy_s
  rw [destChecks_pass _ _ _ _ hpos hd (Nat.ne_of_gt (Nat.lt_of_lt_of_le hpos hle)),
    chkDmaxMemB_none _ hmax,
    srcChecks_pass (sb := none) _ _ _ _ hs hle rfl]
  exact if_neg (mt (ovrlpButSame_one dest dmax src slen ha1 ha2).1 hno)

end SafeC
