import SafeC.Models.Conv
/-! C15: the UTF-8 and ASCII codecs, encode then decode.  The encoder is `mb (nbytes c) c` (lead byte and the base-64
digits `conts`), and `accum` and `conts` are mutually inverse.  The table of the five multibyte forms is stated in powers of two,
`Row` for the lead byte and `fits` for the value: row `n` holds the values below `2 ^ (5 n + 1)` that are not below `minOf n`,
and `minOf n = 2 ^ (5 n - 4)` is the bound of row `n - 1`, so the rows are disjoint (`fits_le`) for every `n` at once; the payload
of the lead byte fits its `7 - n` bits exactly when the value fits the row (`pay_lt`).  `lead_iff` (the 256 lead bytes,
evaluated), `nbytes_fits` and the two statements about the encoder's output (`utf8Enc_eq`; `utf8Enc_length` in ConvDecode.lean) go
through the rows one by one; the facts that relate rows do not. -/
namespace SafeC.Conv.Libc

theorem lead_none {b : Nat} (h : 256 ≤ b) : lead b = none := by
  have : ¬ b < 0xE0 ∧ b / 16 ≠ 0xE ∧ b / 8 ≠ 0x1E ∧ b / 4 ≠ 0x3E ∧ b / 2 ≠ 0x7E := by omega
  simp [lead, this]

/-- row `n` of the table: lead byte `b` = `n` ones, a zero, and the `7 - n` payload bits `hi` (`C0`, `C1` are overlong) -/
abbrev Row (n hi b : Nat) : Prop := 2 ≤ n ∧ n ≤ 6 ∧ b = 256 - 2 ^ (8 - n) + hi ∧ hi < 2 ^ (7 - n) ∧ (n = 2 → 2 ≤ hi)

theorem lead_iff {b n hi : Nat} : lead b = some (n, hi) ↔ Row n hi b := by
  constructor
  · intro h
    by_cases hb : b < 256
    · exact (by decide +kernel : ∀ b < 256, ∀ p ∈ lead b, Row p.1 p.2 b) b hb _ h
    · rw [lead_none (by omega)] at h; cases h
  · rintro ⟨h2, h6, rfl, hh, hk⟩
    exact (by decide +kernel : ∀ n < 7, ∀ hi < 2 ^ (7 - n), 2 ≤ n ∧ (n = 2 → 2 ≤ hi) →
      lead (256 - 2 ^ (8 - n) + hi) = some (n, hi)) n (by omega) hi hh ⟨h2, hk⟩

theorem lead2 (k : Nat) (h : 2 ≤ k) (h2 : k < 32) : lead (0xC0 + k) = some (2, k) :=
  lead_iff.2 ⟨by decide, by decide, rfl, h2, fun _ => h⟩
theorem lead3 (k : Nat) (h2 : k < 16) : lead (0xE0 + k) = some (3, k) :=
  lead_iff.2 ⟨by decide, by decide, rfl, h2, nofun⟩
theorem lead4 (k : Nat) (h2 : k < 8) : lead (0xF0 + k) = some (4, k) :=
  lead_iff.2 ⟨by decide, by decide, rfl, h2, nofun⟩
theorem lead5 (k : Nat) (h2 : k < 4) : lead (0xF8 + k) = some (5, k) :=
  lead_iff.2 ⟨by decide, by decide, rfl, h2, nofun⟩
theorem lead6 (k : Nat) (h2 : k < 2) : lead (0xFC + k) = some (6, k) :=
  lead_iff.2 ⟨by decide, by decide, rfl, h2, nofun⟩

theorem isCont_mk (x : Nat) : isCont (0x80 + x % 64) = true := by
  unfold isCont; simp; omega

theorem isCont_iff (x : Nat) : isCont x = true ↔ 0x80 ≤ x ∧ x < 0xC0 := by
  unfold isCont; simp; omega

theorem isSurr_false_of_ge {c : Nat} (h : 0x10000 ≤ c) : isSurr c = false := by
  unfold isSurr; simp; omega
theorem isSurr_false_of_lt {c : Nat} (h : c < 0x800) : isSurr c = false := by
  unfold isSurr; simp; omega

/-- the `n` continuation bytes of `c`: its low `n` base-64 digits, most significant first, each tagged `0x80` -/
def conts : Nat → Nat → List Nat
  | 0, _ => []
  | n + 1, c => (0x80 + c / 64 ^ n % 64) :: conts n c

/-- the `n`-byte form (`2 ≤ n ≤ 6`): lead byte `11…10` with the top digits, then `n - 1` continuation bytes -/
def mb (n c : Nat) : List Nat := (256 - 2 ^ (8 - n) + c / 64 ^ (n - 1)) :: conts (n - 1) c

/-- the number of bytes `internal_utf8_loop` chooses for a value that is not ASCII -/
def nbytes (c : Nat) : Nat :=
  if c < 0x800 then 2 else if c < 0x10000 then 3 else if c < 0x200000 then 4 else if c < 0x4000000 then 5 else 6

theorem utf8Enc_eq (c : Nat) : utf8Enc c =
    if c > 0x7fffffff || isSurr c then none else if c < 0x80 then some [c] else some (mb (nbytes c) c) := by
  unfold nbytes
  simp only [apply_ite (fun n => some (mb n c))]
  simp only [utf8Enc, mb, conts, Nat.reducePow, Nat.reduceSub, Nat.div_one]

theorem conts_length (n c : Nat) : (conts n c).length = n := by
  induction n with
  | zero => rfl
  | succ n ih => simp [conts, ih]

theorem conts_cont (n c : Nat) : (conts n c).all isCont = true := by
  induction n with
  | zero => rfl
  | succ n ih => simp only [conts, List.all_cons, isCont_mk, ih, Bool.and_self]

theorem accum_conts (n c : Nat) : accum (c / 64 ^ n) (conts n c) = c := by
  induction n with
  | zero => simp [conts, accum]
  | succ n ih =>
    have : c / 64 ^ (n + 1) * 64 + (0x80 + c / 64 ^ n % 64) % 64 = c / 64 ^ n := by
      rw [Nat.pow_succ, ← Nat.div_div_eq_div_mul]; omega
    simp only [conts, accum, List.foldl_cons] at ih ⊢
    rw [this, ih]

theorem conts_accum (hi : Nat) (cs : List Nat) (h : cs.all isCont = true) :
    conts cs.length (accum hi cs) = cs ∧ accum hi cs / 64 ^ cs.length = hi := by
  induction cs generalizing hi with
  | nil => simp [conts, accum]
  | cons x cs ih =>
    simp only [List.all_cons, Bool.and_eq_true, isCont_iff] at h
    obtain ⟨ih1, ih2⟩ := ih (hi * 64 + x % 64) h.2
    simp only [accum, List.foldl_cons, List.length_cons, conts] at ih1 ih2 ⊢
    rw [ih1, ih2, Nat.pow_succ, ← Nat.div_div_eq_div_mul, ih2]
    refine ⟨?_, by omega⟩
    congr 1
    omega

theorem utf8Enc_range {c : Nat} {e : List Nat} (h : utf8Enc c = some e) : c ≤ 0x7fffffff ∧ isSurr c = false := by
  rw [utf8Enc_eq] at h
  split at h
  · cases h
  · rename_i hbad
    simpa only [Bool.or_eq_true, decide_eq_true_eq, not_or, Nat.not_lt, Bool.not_eq_true] using hbad

theorem pay_lt {n c : Nat} (h2 : 2 ≤ n) (h6 : n ≤ 6) : c / 64 ^ (n - 1) < 2 ^ (7 - n) ↔ c < 2 ^ (5 * n + 1) := by
  rw [Nat.div_lt_iff_lt_mul (Nat.pow_pos (by decide)), show 64 = 2 ^ 6 from rfl, ← Nat.pow_mul, ← Nat.pow_add,
    show 7 - n + 6 * (n - 1) = 5 * n + 1 by omega]

/-- the values of the `n`-byte form: `5 n + 1` bits, and for `n > 2` not representable in `n - 1` bytes -/
def fits (n c : Nat) : Prop := 2 ≤ n ∧ n ≤ 6 ∧ (2 < n → minOf n ≤ c) ∧ c < 2 ^ (5 * n + 1)

theorem nbytes_fits {c : Nat} (h : c ≤ 0x7fffffff) : fits (nbytes c) c := by
  unfold nbytes fits minOf
  repeat' split
  all_goals omega

theorem fits_le {n m c : Nat} (hn : fits n c) (hm : fits m c) : m ≤ n := by
  refine Decidable.byContradiction fun hlt => ?_
  have := Nat.pow_le_pow_right (n := 2) (by decide) (show 5 * n + 1 ≤ 5 * m - 4 by omega)
  have := hm.2.2.1 (by have := hn.1; omega)
  have := hn.2.2.2
  unfold minOf at *
  omega

theorem fits_max {n c : Nat} (h : fits n c) : c ≤ 0x7fffffff := by
  have := Nat.pow_le_pow_right (n := 2) (by decide) (show 5 * n + 1 ≤ 31 by have := h.2.1; omega)
  have := h.2.2.2
  omega

theorem nbytes_eq {n c : Nat} (h : fits n c) : nbytes c = n :=
  Nat.le_antisymm (fits_le h (nbytes_fits (fits_max h))) (fits_le (nbytes_fits (fits_max h)) h)

theorem utf8Enc_shape {c : Nat} {e : List Nat} (h : utf8Enc c = some e) :
    c < 0x80 ∧ e = [c] ∨
    ∃ b rest hi, e = b :: rest ∧ ¬ b < 0x80 ∧ lead b = some (rest.length + 1, hi) ∧ rest.all isCont = true ∧
      accum hi rest = c ∧ (rest.length + 1 > 2 → minOf (rest.length + 1) ≤ c) := by
  rw [utf8Enc_eq] at h
  split at h
  · cases h
  rename_i hbad
  simp only [Bool.or_eq_true, decide_eq_true_eq, not_or, Nat.not_lt] at hbad
  split at h
  · exact .inl ⟨‹_›, (Option.some.inj h).symm⟩
  cases h
  obtain ⟨h2, h6, hmin, hlt⟩ := nbytes_fits hbad.1
  refine .inr ⟨_, _, _, rfl, ?_, ?_, conts_cont _ c, accum_conts _ c, ?_⟩
  · have := Nat.pow_le_pow_right (n := 2) (by decide) (show 8 - nbytes c ≤ 6 by omega)
    generalize c / 64 ^ (nbytes c - 1) = x
    omega
  · rw [conts_length, Nat.sub_add_cancel (by omega)]
    exact lead_iff.2 ⟨h2, h6, rfl, (pay_lt h2 h6).2 hlt, fun h => by rw [h]; change 2 ≤ c / 64; omega⟩
  · rwa [conts_length, Nat.sub_add_cancel (by omega)]

theorem utf8Body_enc (c : Nat) (e tail : List Nat) (h : utf8Enc c = some e) :
    utf8Body (e ++ tail) = .ok c e.length := by
  obtain ⟨_, hsur⟩ := utf8Enc_range h
  rcases utf8Enc_shape h with ⟨h1, rfl⟩ | ⟨b, rest, hi, rfl, hb, hl, hall, hacc, hmin⟩
  · simp [utf8Body, h1]
  · simp only [List.cons_append, utf8Body, hb, hl, Nat.add_sub_cancel, List.take_left, hall, hacc, hsur, List.length_cons]
    by_cases h2 : rest.length + 1 > 2
    · have := hmin h2
      simp [h2]; omega
    · simp [h2]

theorem utf8Enc_isSome {c : Nat} (h1 : c ≤ 0x7fffffff) (h2 : isSurr c = false) : (utf8Enc c).isSome = true := by
  rw [utf8Enc_eq, h2, if_neg (by simp; omega)]
  split <;> rfl

theorem body_enc (loc : Locale) (c : Nat) (e tail : List Nat) (h : enc loc c = some e) : body loc (e ++ tail) = .ok c e.length := by
  cases loc
  · simp only [enc, asciiEnc] at h
    split at h
    · cases h; simp [body, asciiBody, *]
    · cases h
  · exact utf8Body_enc c e tail h

theorem enc_length_pos (loc : Locale) (c : Nat) (e : List Nat) (h : enc loc c = some e) : 0 < e.length := by
  cases loc
  · simp only [enc, asciiEnc] at h; split at h <;> cases h; simp
  · rcases utf8Enc_shape h with ⟨_, rfl⟩ | ⟨b, rest, _, rfl, _⟩ <;> exact Nat.succ_pos _

theorem enc_length_le (loc : Locale) (c : Nat) (e : List Nat) (h : enc loc c = some e) : e.length ≤ 6 := by
  cases loc
  · simp only [enc, asciiEnc] at h; split at h <;> cases h; simp
  · rcases utf8Enc_shape h with ⟨_, rfl⟩ | ⟨b, rest, hi, rfl, _, hl, _⟩
    · simp
    · exact (lead_iff.1 hl).2.1

/-- C15 round trip: decoding the encoding of any list of encodable wide characters gives the list back -/
theorem decodeAll_encodeAll (loc : Locale) (ws : List Nat) (bs : List Nat) (h : encodeAll loc ws = some bs) (fuel : Nat)
    (hf : bs.length ≤ fuel) : decodeAll loc fuel bs = some ws := by
  induction ws generalizing bs fuel with
  | nil => simp [encodeAll] at h; subst h; cases fuel <;> simp [decodeAll]
  | cons c cs ih =>
    simp only [encodeAll] at h
    split at h
    · rename_i a b ha hb
      cases h
      have hpos := enc_length_pos loc c a ha
      cases fuel with
      | zero => simp only [List.length_append] at hf; omega
      | succ fuel =>
        have hne : (a ++ b).isEmpty = false := by
          cases a with
          | nil => simp at hpos
          | cons x xs => simp
        simp only [decodeAll, hne, body_enc loc c a b ha, List.drop_left]
        rw [ih b hb fuel (by simp only [List.length_append] at hf; omega)]
        simp
    · cases h

end SafeC.Conv.Libc
