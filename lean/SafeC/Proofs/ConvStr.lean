import SafeC.Proofs.ConvDecode
/-! C15: string-level facts shared by the window-loop proofs: `encodeAll` over `++`/`take`, encodings of non-zero
characters contain no zero byte, `strnlen`/`strlen` of a terminated string. -/
namespace SafeC.Conv.Libc

theorem encodeAll_cons (loc : Locale) (c : Nat) (cs : List Nat) (a b : List Nat) (ha : enc loc c = some a)
    (hb : encodeAll loc cs = some b) : encodeAll loc (c :: cs) = some (a ++ b) := by
  simp [encodeAll, ha, hb]

theorem encodeAll_cons_inv (loc : Locale) (c : Nat) (cs : List Nat) (e : List Nat) (h : encodeAll loc (c :: cs) = some e) :
    ∃ a b, enc loc c = some a ∧ encodeAll loc cs = some b ∧ e = a ++ b := by
  simp only [encodeAll] at h
  split at h
  · rename_i a b ha hb; cases h; exact ⟨a, b, ha, hb, rfl⟩
  · cases h

theorem encodeAll_append (loc : Locale) (a b ea eb : List Nat) (ha : encodeAll loc a = some ea)
    (hb : encodeAll loc b = some eb) : encodeAll loc (a ++ b) = some (ea ++ eb) := by
  induction a generalizing ea with
  | nil => cases ha; simpa using hb
  | cons c cs ih =>
    obtain ⟨x, y, hx, hy, rfl⟩ := encodeAll_cons_inv loc c cs ea ha
    rw [List.cons_append, encodeAll_cons loc c (cs ++ b) x (y ++ eb) hx (ih y hy), List.append_assoc]

theorem encodeAll_append_inv (loc : Locale) (a b e : List Nat) (h : encodeAll loc (a ++ b) = some e) :
    ∃ ea eb, encodeAll loc a = some ea ∧ encodeAll loc b = some eb ∧ e = ea ++ eb := by
  induction a generalizing e with
  | nil => exact ⟨[], e, rfl, by simpa using h, rfl⟩
  | cons c cs ih =>
    obtain ⟨x, y, hx, hy, rfl⟩ := encodeAll_cons_inv loc c _ e h
    obtain ⟨ea, eb, h1, h2, rfl⟩ := ih y hy
    exact ⟨x ++ ea, eb, encodeAll_cons loc c cs x ea hx h1, h2, by simp⟩

theorem encodeAll_take (loc : Locale) (ws E : List Nat) (h : encodeAll loc ws = some E) (k : Nat) :
    ∃ p q, encodeAll loc (ws.take k) = some p ∧ encodeAll loc (ws.drop k) = some q ∧ E = p ++ q := by
  rw [← List.take_append_drop k ws] at h
  exact encodeAll_append_inv loc _ _ E h

theorem enc_zero (loc : Locale) : enc loc 0 = some [0] := by cases loc <;> rfl

theorem encodeAll_snoc_zero (loc : Locale) (ws E : List Nat) (hE : encodeAll loc ws = some E) :
    encodeAll loc (ws ++ [0]) = some (E ++ [0]) :=
  encodeAll_append loc ws [0] E [0] hE (encodeAll_cons loc 0 [] [0] [] (enc_zero loc) rfl)

theorem enc_no_zero (loc : Locale) (c : Nat) (e : List Nat) (h : enc loc c = some e) (hc : c ≠ 0) : ∀ b ∈ e, b ≠ 0 := by
  cases loc
  · simp only [enc, asciiEnc] at h; split at h <;> cases h; simpa using hc
  · rcases utf8Enc_shape h with ⟨_, rfl⟩ | ⟨b, rest, _, rfl, hb, _, hall, _⟩
    · simpa using hc
    · intro x hx
      rcases List.mem_cons.mp hx with rfl | hx
      · omega
      · have := (isCont_iff x).mp (List.all_eq_true.mp hall x hx)
        omega

theorem encodeAll_no_zero (loc : Locale) (ws E : List Nat) (h : encodeAll loc ws = some E) (hz : ∀ c ∈ ws, c ≠ 0) :
    ∀ b ∈ E, b ≠ 0 := by
  induction ws generalizing E with
  | nil => cases h; simp
  | cons c cs ih =>
    obtain ⟨x, y, hx, hy, rfl⟩ := encodeAll_cons_inv loc c cs E h
    intro b hb
    rcases List.mem_append.mp hb with hb | hb
    · exact enc_no_zero loc c x hx (hz c (by simp)) b hb
    · exact ih y hy (fun d hd => hz d (by simp [hd])) b hb

theorem encodeAll_length_ge (loc : Locale) (ws E : List Nat) (h : encodeAll loc ws = some E) : ws.length ≤ E.length := by
  induction ws generalizing E with
  | nil => simp
  | cons c cs ih =>
    obtain ⟨x, y, hx, hy, rfl⟩ := encodeAll_cons_inv loc c cs E h
    have := enc_length_pos loc c x hx
    have := ih y hy
    simp only [List.length_cons, List.length_append]; omega

theorem encodeAll_length_le (loc : Locale) (ws E : List Nat) (h : encodeAll loc ws = some E) : E.length ≤ 6 * ws.length := by
  induction ws generalizing E with
  | nil => cases h; simp
  | cons c cs ih =>
    obtain ⟨x, y, hx, hy, rfl⟩ := encodeAll_cons_inv loc c cs E h
    have := enc_length_le loc c x hx
    have := ih y hy
    simp only [List.length_cons, List.length_append]; omega

/-- unique decodability: whole characters whose bytes are a prefix of a valid string are a prefix of its characters -/
theorem encodeAll_split_unique {loc : Locale} {cs B out p z : List Nat} (hB : encodeAll loc cs = some B) (h1 : encodeAll loc out = some p)
    (h : B = p ++ z) : out = cs.take out.length ∧ out.length ≤ cs.length ∧ encodeAll loc (cs.drop out.length) = some z := by
  induction out generalizing cs B p with
  | nil => cases h1; exact ⟨rfl, Nat.zero_le _, by simpa [h] using hB⟩
  | cons c out ih =>
    obtain ⟨a, p', ha, hp', rfl⟩ := encodeAll_cons_inv loc c out p h1
    have hapos := enc_length_pos loc c a ha
    cases cs with
    | nil =>
      cases hB
      have := congrArg List.length h
      simp only [List.length_nil, List.length_append] at this; omega
    | cons d cs =>
      obtain ⟨a', B', ha', hB', rfl⟩ := encodeAll_cons_inv loc d cs B hB
      have e1 := body_enc loc c a (p' ++ z) ha
      rw [← List.append_assoc, ← h, body_enc loc d a' B' ha'] at e1
      injection e1 with hc _
      subst hc
      rw [ha] at ha'; cases ha'
      obtain ⟨i1, i2, i3⟩ := ih hB' hp' (List.append_cancel_left (by rwa [List.append_assoc] at h))
      exact ⟨by rw [List.length_cons, List.take_succ_cons, ← i1], by simpa using i2, by simpa using i3⟩

theorem takeWhile_nz (s tail : List Nat) (hz : ∀ b ∈ s, b ≠ 0) : (s ++ 0 :: tail).takeWhile (· != 0) = s := by
  rw [List.takeWhile_append_of_pos fun b hb => bne_iff_ne.mpr (hz b hb), List.takeWhile_cons_of_neg (by decide), List.append_nil]

theorem strlen_term (s tail : List Nat) (hz : ∀ b ∈ s, b ≠ 0) : strlen (s ++ 0 :: tail) = s.length := by
  rw [strlen, takeWhile_nz s tail hz]

theorem strnlen_term (s tail : List Nat) (hz : ∀ b ∈ s, b ≠ 0) (n : Nat) :
    strnlen (s ++ 0 :: tail) n = min n s.length := by
  rw [strnlen, ← List.take_takeWhile, takeWhile_nz s tail hz, List.length_take]

theorem take_term (s tail : List Nat) (k : Nat) (hk : k ≤ s.length) :
    (s ++ 0 :: tail).take (k + 1) = (s ++ [0]).take (k + 1) := by
  rw [List.append_cons, List.take_append_of_le_length (by simp; omega)]

theorem take_strlen_term (s tail : List Nat) (hz : ∀ b ∈ s, b ≠ 0) :
    (s ++ 0 :: tail).take (strlen (s ++ 0 :: tail) + 1) = s ++ [0] := by
  rw [strlen_term s tail hz, take_term s tail _ (Nat.le_refl _), List.take_of_length_le (by simp)]

end SafeC.Conv.Libc
