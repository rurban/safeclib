import SafeC.Proofs.EV
import SafeC.Models.Inplace
/-!
# Event walks of the in-place family

The exits every family shares, with the reported code among `S` (`failS_in`, `failM_in`, `chkDmax_in`, …), the loops that report nothing,
and ONE `EV` fact per function, post `OnceIn S .str`.  `Props/C05Ev.lean` reads them as the C05 statement.
-/
namespace SafeC.Props.C05Ev
open SafeC Gen SafeC.Props.C05Docs

theorem failS_in {S : List Nat} (c : Nat) (hS : c ∈ S := by decide) (hc : c ≠ EOK := by decide) : EV (failS c) (OnceIn S .str) :=
  (EV.failS c).conseq (fun r es ⟨h1, h2⟩ => by subst h1; exact Or.inr ⟨hS, hc, h2⟩)

theorem failM_in {S : List Nat} (c : Nat) (hS : c ∈ S := by decide) (hc : c ≠ EOK := by decide) : EV (failM c) (OnceIn S .mem) :=
  (EV.failM c).conseq (fun r es ⟨h1, h2⟩ => by subst h1; exact Or.inr ⟨hS, hc, h2⟩)

theorem eok_in {S : List Nat} {k : Kind} : EV (pure EOK : Prog Nat) (OnceIn S k) := EV.pure _ (Or.inl ⟨rfl, rfl⟩)

theorem handleError_ret_in {S : List Nat} (cfg : Cfg) (d len code : Nat) (hS : code ∈ S := by decide)
    (hc : code ≠ EOK := by decide) :
    EV (do handleError cfg d len code; pure code : Prog Nat) (OnceIn S .str) :=
  EV.bind (EV.handleError cfg d len code)
    (fun _ es he => by subst he; exact EV.pure _ (Or.inr ⟨hS, hc, by simp⟩))

theorem chkDmax_in {S : List Nat} (dmax : Nat) (destbos : Bos) (max : Nat) {k : Prog Nat}
    (hk : (∀ b, destbos = some b → dmax ≤ b) → (destbos = none → dmax ≤ max) → EV k (OnceIn S .str))
    (h1 : ESLEMAX ∈ S := by decide) (h2 : EOVERFLOW ∈ S := by decide) : EV (chkDmax dmax destbos max k) (OnceIn S .str) :=
  match destbos, hk with
  | none, hk => .iteH (fun _ => failS_in _ h1) fun h => hk nofun fun _ => Nat.not_lt.mp h
  | some _, hk =>
    .iteH (fun _ => .ite (failS_in _ h1) (failS_in _ h2)) fun h => hk (fun _ e => Option.some.inj e ▸ Nat.not_lt.mp h) nofun

theorem chkDmaxClearW_in {S : List Nat} (cfg : Cfg) (dest dmax : Nat) (destbos : Bos) {k : Prog Nat} (hk : EV k (OnceIn S .str))
    (h1 : ESLEMAX ∈ S := by decide) (h2 : EOVERFLOW ∈ S := by decide) :
    EV (chkDmaxClearW cfg dest dmax destbos k) (OnceIn S .str) := by
  exact EV.optMatch _ (EV.ite (failS_in _ h1) hk) fun _ =>
    EV.ite (EV.ite (handleError_ret_in _ _ _ _ h1) (handleError_ret_in _ _ _ _ h2)) hk

theorem q_setLoop (v k d : Nat) : Quiet (setLoop v k d) := by
  induction k generalizing d with
  | zero => exact Quiet.pure _
  | succ k ih => unfold setLoop; quiet using ih

theorem q_slackTail (cfg : Cfg) (d n : Nat) : Quiet (slackTail cfg d n) := by
  unfold slackTail; quiet

theorem q_caseLoop (lo hi : Nat) (f : Nat → Nat) (n d : Nat) : Quiet (caseLoop lo hi f n d) := by
  induction n generalizing d with
  | zero => exact Quiet.pure _
  | succ n ih => unfold caseLoop; quiet using ih

theorem q_ntermLoop (k d c : Nat) : Quiet (ntermLoop k d c) := by
  induction k generalizing d c with
  | zero => exact Quiet.pure _
  | succ k ih => unfold ntermLoop; quiet using ih

theorem q_skipWs (fuel d : Nat) : Quiet (skipWs fuel d) := by
  induction fuel generalizing d with
  | zero => exact Quiet.pure _
  | succ k ih => unfold skipWs; quiet using ih

theorem q_shiftLoop (fuel od d : Nat) : Quiet (shiftLoop fuel od d) := by
  induction fuel generalizing od d with
  | zero => exact Quiet.pure _
  | succ k ih => unfold shiftLoop; quiet using ih

theorem q_stripTrailing (fuel d : Nat) : Quiet (stripTrailing fuel d) := by
  induction fuel generalizing d with
  | zero => exact Quiet.pure _
  | succ k ih => unfold stripTrailing; quiet using ih

theorem termScan_ev {β} {R : β → List Event → Prop} (od om n d : Nat) {f : Option Nat → Prog β}
    (hnone : EV (f none) (fun y es => R y ([.handler .str ESUNTERM] ++ es)))
    (hsome : ∀ e, EV (f (some e)) R) : EV (termScan od om n d >>= f) R := by
  have scan : EV (termScan od om n d) (fun r es => (r = none ∧ es = [.handler .str ESUNTERM]) ∨ (r ≠ none ∧ es = [])) := by
    have found : ∀ d : Nat, EV (pure (some d) : Prog (Option Nat))
        (fun r es => (r = none ∧ es = [.handler .str ESUNTERM]) ∨ (r ≠ none ∧ es = [])) :=
      fun d => .pure _ (.inr ⟨nofun, rfl⟩)
    induction n generalizing d with
    | zero =>
      exact Quiet.then_ (.loadP d) fun _ => .ite (found d) <| Quiet.then_ (.zeroLoop om od) fun _ =>
        .emit _ _ (.ret _ (.inl ⟨rfl, rfl⟩))
    | succ n ih => exact Quiet.then_ (.loadP d) fun _ => .ite (found d) (ih _)
  exact scan.bind fun r es h => by
    rcases h with ⟨rfl, rfl⟩ | ⟨hr, rfl⟩
    · exact hnone
    · cases r with
      | none => exact absurd rfl hr
      | some e => exact hsome e

theorem strset_s_ev (cfg : Cfg) (dest dmax value : Nat) (destbos : Bos) :
    EV (strset_s cfg dest dmax value destbos) (OnceIn SChk .str) :=
  .ite (failS_in _) <| .ite (failS_in _) <| chkDmax_in _ _ _ fun _ _ => .ite (failS_in _) <|
    Quiet.then_ (q_setLoop ..) fun _ => Quiet.then_ (q_slackTail ..) fun _ => eok_in

theorem strnset_s_ev (cfg : Cfg) (dest dmax value n : Nat) (destbos : Bos) :
    EV (strnset_s cfg dest dmax value n destbos) (OnceIn SChkNospc .str) :=
  .ite (failS_in _) <| .ite (failS_in _) <| chkDmax_in _ _ _ fun _ _ => .ite (failS_in _) <| .ite (failS_in _) <|
    Quiet.then_ (q_setLoop ..) fun _ => Quiet.then_ (q_slackTail ..) fun _ => eok_in

theorem strzero_s_ev (cfg : Cfg) (dest dmax : Nat) (destbos : Bos) :
    EV (strzero_s cfg dest dmax destbos) (OnceIn SChk .str) :=
  .ite (failS_in _) <| .ite (failS_in _) <| chkDmax_in _ _ _ fun _ _ =>
    Quiet.then_ (q_setLoop ..) fun _ => Quiet.then_ (q_slackTail ..) fun _ => eok_in

theorem strtolowercase_s_ev (cfg : Cfg) (dest dmax : Nat) (destbos : Bos) :
    EV (strtolowercase_s cfg dest dmax destbos) (OnceIn SChk .str) :=
  .ite (failS_in _) <| .ite (failS_in _) <| chkDmax_in _ _ _ fun _ _ => Quiet.then_ (q_caseLoop ..) fun _ => eok_in

theorem strtouppercase_s_ev (cfg : Cfg) (dest dmax : Nat) (destbos : Bos) :
    EV (strtouppercase_s cfg dest dmax destbos) (OnceIn SChk .str) :=
  .ite (failS_in _) <| .ite (failS_in _) <| chkDmax_in _ _ _ fun _ _ => Quiet.then_ (q_caseLoop ..) fun _ => eok_in

theorem strljustify_s_ev (cfg : Cfg) (dest dmax : Nat) (destbos : Bos) :
    EV (strljustify_s cfg dest dmax destbos) (OnceIn SChkUnterm .str) :=
  .ite (failS_in _) <| .ite (failS_in _) <| chkDmax_in _ _ _ fun _ _ =>
    .ite (Quiet.then_ (.storeP ..) fun _ => eok_in) <| Quiet.then_ (.loadP _) fun _ => .ite eok_in <|
      termScan_ev _ _ _ _ (.pure _ (.inr ⟨by decide, by decide, rfl⟩)) fun _ => Quiet.then_ (q_skipWs ..) fun _ =>
        .ite (Quiet.then_ (q_shiftLoop ..) fun _ => Quiet.then_ (.storeP ..) fun _ => eok_in) eok_in

theorem strremovews_s_ev (cfg : Cfg) (dest dmax : Nat) (destbos : Bos) :
    EV (strremovews_s cfg dest dmax destbos) (OnceIn SChkUnterm .str) :=
  .ite (failS_in _) <| .ite (failS_in _) <| chkDmax_in _ _ _ fun _ _ => Quiet.then_ (.loadP _) fun _ =>
    .ite (Quiet.then_ (.storeP ..) fun _ => eok_in) <|
      termScan_ev _ _ _ _ (.pure _ (.inr ⟨by decide, by decide, rfl⟩)) fun e =>
        -- the closing `stripTrailing …; pure EOK` is elaborated into each branch of the two `if`s in front of it
        have strip : EV (do stripTrailing (e - 1 + 1) (e - 1); pure EOK : Prog Nat) (OnceIn SChkUnterm .str) :=
          Quiet.then_ (q_stripTrailing ..) fun _ => eok_in
        Quiet.then_ (q_skipWs ..) fun _ => Quiet.then_ (.loadP _) fun _ => .ite (Quiet.then_ (.storeP ..) fun _ => eok_in) <|
          .ite (Quiet.then_ (.loadP _) fun _ =>
            .ite (Quiet.then_ (q_shiftLoop ..) fun _ => Quiet.then_ (.storeP ..) fun _ => strip) strip) strip

theorem wcsset_s_ev (cfg : Cfg) (dest dmax value : Nat) (destbos : Bos) :
    EV (wcsset_s cfg dest dmax value destbos) (OnceIn SChk .str) :=
  .ite (failS_in _) <| .ite (failS_in _) <| .ite (failS_in _) <| chkDmaxClearW_in _ _ _ _ <|
    Quiet.then_ (q_setLoop ..) fun _ => Quiet.then_ (q_slackTail ..) fun _ => eok_in

theorem wcsnset_s_ev (cfg : Cfg) (dest dmax value n : Nat) (destbos : Bos) :
    EV (wcsnset_s cfg dest dmax value n destbos) (OnceIn SChkNospc .str) :=
  .ite (failS_in _) <| .ite (failS_in _) <| .ite (failS_in _) <| chkDmaxClearW_in _ _ _ _ <|
    .ite (handleError_ret_in ..) <| Quiet.then_ (q_setLoop ..) fun _ => Quiet.then_ (q_slackTail ..) fun _ => eok_in

end SafeC.Props.C05Ev
