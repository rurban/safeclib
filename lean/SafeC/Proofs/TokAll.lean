import SafeC.Proofs.Tok
/-!
# The two tokenizer loops on EVERY string (terminated inside `dlen`, terminated exactly at `dest[dlen]`, or not at all)

`scan1_all` / `scan2_all` describe the loops with no hypothesis on where the string ends: by the scan position
(`skipD` / `findE`) and a three-way case distinction on the cell it stops at:

* it holds NUL — possibly the cell `dest[dlen]`, one past the declared extent (`tok-nul-at-dmax-accepted`,
  `tok-read-before-bound`);
* it is the cell `dest[dlen]` and holds no NUL — the "unterminated" exit, whose `*dest = 0` lands on `dest[dlen]`
  (`tok-unterm-exit-writes-dest-dmax`);
* otherwise the loop ends as for a terminated string.

The only hypotheses: every cell mapped and readable, the delimiter string has 1..`STRTOK_DELIM_MAX_LEN` characters
(`tok_call_all`: and the string pointer is not NULL).
Stores are left as `exec (store ..)` so that no writability assumption is needed.  `tokFn wide` is the entry point
(`strtok_s` / `wcstok_s`): with valid arguments both the first call (string given) and a continuation call (`dest == NULL`, saved pointer and remaining length) are
`tokBody` (`tokFn_first` / `tokFn_next`).
-/
namespace SafeC
open Gen

/-- what `scan1` does when it runs out of length on a non-NUL cell -/
def scan1Unterm (wide : Bool) (a : Nat) : Prog Scan1 :=
  if wide then do
    let o ← tokUnterm a
    pure (.out o)
  else do
    handlerS ESUNTERM
    pure (.out { ret := 0, ptrv := some 0 })

theorem scan1_all {st : St} (h : AllRd st) (wide : Bool) (dl dlen dest : Nat) (hd : DelimOK st.data dl) :
    exec (scan1 wide dl dlen dest) st =
      (let a := skipD st.data dl dlen dest
       if st.data a = 0 then .ok (Scan1.exit 0 a (dlen - (a - dest)), st)
       else if a = dest + dlen then exec (scan1Unterm wide a) st
       else .ok (Scan1.exit a (a+1) (dlen - (a - dest) - 1), st)) := by
  induction dlen generalizing dest with
  | zero =>
    simp only [scan1, exec_bind, exec_load_all h, skipD, Nat.add_zero, if_true]
    by_cases h0 : st.data dest = 0
    · simp [h0]
    · cases wide <;> simp [h0, scan1Unterm]
  | succ n ih =>
    simp only [scan1, exec_bind, exec_load_all h, skipD]
    by_cases h0 : st.data dest = 0
    · simp [h0]
    · simp only [h0, if_false, exec_bind, delimScan1_eq h dest dl hd]
      by_cases hdl : isDelim st.data dl (st.data dest) = true
      · simp only [hdl, Bool.not_true, if_true]
        rw [ih (dest+1)]
        have hb := skipD_bounds st.data dl n (dest+1)
        have e1 : n + 1 - (skipD st.data dl n (dest+1) - dest) = n - (skipD st.data dl n (dest+1) - (dest+1)) := by omega
        have e2 : dest + 1 + n = dest + (n + 1) := by omega
        simp only [e1, e2]
      · have hdl' : isDelim st.data dl (st.data dest) = false := by simpa using hdl
        simp [hdl', h0, exec_bind, exec_load_all h]

/-- the "token ended by a delimiter" exit of `scan2` -/
def scan2Cut (ptoken b dlen' : Nat) : Prog TokOut := do
  store b 0
  pure { ret := ptoken, dmaxv := some dlen', ptrv := some (b+1) }

theorem exec_scan2Cut (a b r : Nat) (st : St) (hm : st.mapped b = true) (hw : st.wr b = true) :
    exec (scan2Cut a b r) st = .ok ({ ret := a, dmaxv := some r, ptrv := some (b + 1) }, st.upd b 0) := by
  simp [scan2Cut, exec_bind, exec_store_ok _ _ _ hm hw]

theorem scan2_all {st : St} (h : AllRd st) (dl ptoken dlen dest : Nat) (hd : DelimOK st.data dl) :
    exec (scan2 dl ptoken dlen dest) st =
      (let b := findE st.data dl dlen dest
       if st.data b = 0 then .ok ({ ret := ptoken, dmaxv := some (dlen - (b - dest)), ptrv := some b }, st)
       else if b = dest + dlen then exec (tokUnterm b) st
       else exec (scan2Cut ptoken b (dlen - (b - dest) - 1)) st) := by
  induction dlen generalizing dest with
  | zero =>
    simp only [scan2, exec_bind, exec_load_all h, findE, Nat.add_zero, if_true]
    by_cases h0 : st.data dest = 0 <;> simp [h0]
  | succ n ih =>
    simp only [scan2, exec_bind, exec_load_all h, findE]
    by_cases h0 : st.data dest = 0
    · simp [h0]
    · simp only [h0, if_false, exec_bind, delimScan2_eq h dest dl hd]
      by_cases hdl : isDelim st.data dl (st.data dest) = true
      · simp [hdl, h0, scan2Cut, exec_bind]
      · have hdl' : isDelim st.data dl (st.data dest) = false := by simpa using hdl
        simp only [hdl', Bool.false_eq_true, if_false]
        rw [ih (dest+1)]
        have hb := findE_bounds st.data dl n (dest+1)
        have e1 : n + 1 - (findE st.data dl n (dest+1) - dest) = n - (findE st.data dl n (dest+1) - (dest+1)) := by omega
        have e2 : dest + 1 + n = dest + (n + 1) := by omega
        simp only [e1, e2]

end SafeC

namespace SafeC.Props.C14
open SafeC Gen

/-- the "ran out of length while skipping delimiters" exit: `wcstok_s` clears `*dmaxp` and stores `*dest = 0`,
`strtok_s` only stores `*ptr = NULL` -/
def untermSkip (wide : Bool) (a : Nat) : Prog TokOut :=
  if wide then tokUnterm a
  else do
    handlerS ESUNTERM
    pure { ret := 0, ptrv := some 0 }

theorem tok_call_all (wide : Bool) (dl p n : Nat) (st : St) (hall : AllRd st) (hd : DelimOK st.data dl) (hp : p ≠ 0) :
    exec (tokBody wide dl p n) st =
      (let a := skipD st.data dl n p
       if st.data a = 0 then .ok ({ ret := 0, dmaxv := some (n - (a - p)), ptrv := some a }, st)
       else if a = p + n then exec (untermSkip wide a) st
       else
         let n' := n - (a - p) - 1
         let b := findE st.data dl n' (a+1)
         if st.data b = 0 then .ok ({ ret := a, dmaxv := some (n' - (b - (a+1))), ptrv := some b }, st)
         else if b = p + n then exec (tokUnterm b) st
         else exec (scan2Cut a b (n' - (b - (a+1)) - 1)) st) := by
  have hb := skipD_bounds st.data dl n p
  unfold tokBody
  simp only [exec_bind, scan1_all hall wide dl n p hd]
  by_cases h0 : st.data (skipD st.data dl n p) = 0
  · simp [h0]
  · simp only [h0, if_false]
    by_cases hend : skipD st.data dl n p = p + n
    · simp only [hend, if_true]
      cases wide <;>
        simp [scan1Unterm, untermSkip, tokUnterm, exec_bind, exec_store, (hall _).1, handlerS]
    · simp only [hend, if_false]
      have hp0 : ¬ skipD st.data dl n p = 0 := by omega
      simp only [hp0, if_false]
      rw [scan2_all hall dl _ _ _ hd]
      have e : (findE st.data dl (n - (skipD st.data dl n p - p) - 1) (skipD st.data dl n p + 1)
          = skipD st.data dl n p + 1 + (n - (skipD st.data dl n p - p) - 1)) =
          (findE st.data dl (n - (skipD st.data dl n p - p) - 1) (skipD st.data dl n p + 1) = p + n) := by
        apply propext; omega
      simp only [e]

theorem exec_tokUnterm (a : Nat) (st : St) (hm : st.mapped a = true) (hw : st.wr a = true) :
    exec (tokUnterm a) st = .ok ({ ret := 0, dmaxv := some 0, ptrv := some 0 },
      { st.upd a 0 with events := st.events ++ [.handler .str ESUNTERM] }) := by
  simp [tokUnterm, exec_bind, exec_store_ok _ _ _ hm hw, handlerS]

def tokFn (wide : Bool) : Nat → Option Nat → Nat → Option Nat → Bos → Prog TokOut :=
  if wide then wcstok_s else strtok_s

def tokLimit (wide : Bool) : Nat := if wide then RSIZE_MAX_WSTR else RSIZE_MAX_STR

/-- cell size in bytes (the object size handed to `_chk` is in bytes) -/
def cellSize (wide : Bool) : Nat := if wide then SIZEOF_WCHAR_T else 1

/-- continuation call: `tok(NULL, &rem, delim, &ptr)`; the object-size argument is ignored -/
theorem tokFn_next (wide : Bool) (rem dl pv : Nat) (db : Bos) (hpv : pv ≠ 0) (hdl : dl ≠ 0) (hpos : 0 < rem)
    (hle : rem ≤ tokLimit wide) :
    tokFn wide 0 (some rem) dl (some pv) db = tokBody wide dl pv rem := by
  have h1 : ¬ rem = 0 := by omega
  cases wide
  · have h2 : ¬ rem > RSIZE_MAX_STR := Nat.not_lt.mpr hle
    simp [tokFn, strtok_s, h1, h2, hpv, hdl]
  · have h2 : ¬ rem > RSIZE_MAX_WSTR := Nat.not_lt.mpr hle
    simp [tokFn, wcstok_s, h1, h2, hpv, hdl]

/-- first call: `tok(dest, &dmax, delim, &ptr)`, object size unknown or at least `dmax` cells -/
theorem tokFn_first (wide : Bool) (dest dmax dl pv : Nat) (bos : Bos) (hd : dest ≠ 0) (hdl : dl ≠ 0) (hpos : 0 < dmax)
    (hle : dmax ≤ tokLimit wide) (hbos : ∀ b, bos = some b → dmax * cellSize wide ≤ b) :
    tokFn wide dest (some dmax) dl (some pv) bos = tokBody wide dl dest dmax := by
  have h1 : ¬ dmax = 0 := by omega
  cases wide
  · simp only [tokLimit, Bool.false_eq_true, if_false] at hle
    have h2 : ¬ dmax > RSIZE_MAX_STR := by omega
    cases bos with
    | none => simp [tokFn, strtok_s, h1, h2, hd, hdl]
    | some b =>
      have := hbos b rfl
      simp only [cellSize, Bool.false_eq_true, if_false, Nat.mul_one] at this
      have h3 : ¬ dmax > b := by omega
      simp [tokFn, strtok_s, h1, h3, hd, hdl]
  · simp only [tokLimit, if_true] at hle
    have h2 : ¬ dmax > RSIZE_MAX_WSTR := by omega
    cases bos with
    | none => simp [tokFn, wcstok_s, h1, h2, hd, hdl]
    | some b =>
      have := hbos b rfl
      simp only [cellSize, if_true] at this
      have h3 : ¬ dmax * SIZEOF_WCHAR_T > b := by omega
      simp [tokFn, wcstok_s, h1, h2, h3, hd, hdl]

/-! ## one call on a string terminated inside the remaining length, as a pure function of the memory: `callSpec`, `tok_call` -/

structure CallSpec where
  ret : Nat            -- returned pointer, 0 = NULL
  ptr : Nat            -- value stored through `ptr`
  rem : Nat            -- value stored through `dmaxp`
  cut : Option Nat     -- the cell overwritten with NUL, if any
  deriving Repr, DecidableEq

def callSpec (m : Nat → Nat) (dl p n : Nat) : CallSpec :=
  let a := skipD m dl n p
  if m a = 0 then { ret := 0, ptr := a, rem := n - (a - p), cut := none }
  else
    let n' := n - (a - p) - 1
    let b := findE m dl n' (a+1)
    if m b = 0 then { ret := a, ptr := b, rem := n' - (b - (a+1)), cut := none }
    else { ret := a, ptr := b+1, rem := n' - (b - (a+1)) - 1, cut := some b }

/-- **what one call on a terminated string can be**: nothing but delimiters in front of the NUL (`nul`), a last token ended by
the NUL (`last`), a token cut at a delimiter (`cut`) — each with the token start `a` and end `b` it rests on, the cells in
front of, inside and at the end of the token, and the remaining length written as `p + n - ptr` -/
inductive CallCase (m : Nat → Nat) (dl p n : Nat) : CallSpec → Prop
  | nul (a : Nat) (hs : skipD m dl n p = a) (h1 : p ≤ a) (h2 : a < p + n)
      (hlead : ∀ j, p ≤ j → j < a → m j ≠ 0 ∧ isDelim m dl (m j) = true) (h0 : m a = 0) :
      CallCase m dl p n ⟨0, a, p + n - a, none⟩
  | last (a b : Nat) (hs : skipD m dl n p = a) (hf : findE m dl (n - (a - p) - 1) (a + 1) = b)
      (h1 : p ≤ a) (h2 : a < b) (h3 : b < p + n)
      (hlead : ∀ j, p ≤ j → j < a → m j ≠ 0 ∧ isDelim m dl (m j) = true)
      (htok : ∀ j, a ≤ j → j < b → m j ≠ 0 ∧ isDelim m dl (m j) = false) (h0 : m b = 0) :
      CallCase m dl p n ⟨a, b, p + n - b, none⟩
  | cut (a b : Nat) (hs : skipD m dl n p = a) (hf : findE m dl (n - (a - p) - 1) (a + 1) = b)
      (h1 : p ≤ a) (h2 : a < b) (h3 : b < p + n)
      (hlead : ∀ j, p ≤ j → j < a → m j ≠ 0 ∧ isDelim m dl (m j) = true)
      (htok : ∀ j, a ≤ j → j < b → m j ≠ 0 ∧ isDelim m dl (m j) = false)
      (h0 : m b ≠ 0) (hd : isDelim m dl (m b) = true) :
      CallCase m dl p n ⟨a, b + 1, p + n - (b + 1), some b⟩

/-- each of the two scans of `callSpec` is a span that ends in front of the NUL (`span_inside`); the one-call theorems below read `callSpec` through this case table -/
theorem callSpec_cases (m : Nat → Nat) (dl p n : Nat) (hz : scanLen m p n < n) :
    CallCase m dl p n (callSpec m dl p n) := by
  obtain ⟨a1, a2, a3⟩ := span_inside m true dl p n p n hz (fun j h1 h2 => by omega)
  have hs := skipD_eq_span m dl n p
  unfold callSpec
  generalize hA : p + spanLen m true dl STRTOK_DELIM_MAX_LEN p n = a at *
  rw [hs]
  by_cases h0 : m a = 0
  · simp only [h0, if_true]
    have h1 : p ≤ a := by omega
    rw [rem_nul h1]
    exact .nul _ hs h1 a1 a2 h0
  · have hnd : isDelim m dl (m a) = false := by simpa using (a3 (by omega)).resolve_left h0
    obtain ⟨b1, b2, b3⟩ := span_inside m false dl p n (a + 1) (n - (a - p) - 1) hz
      (fun j h1 h2 => if hj : j < a then (a2 j h1 hj).1 else by rw [show j = a by omega]; exact h0)
    have hf := findE_eq_span m dl (n - (a - p) - 1) (a + 1)
    simp only [h0, if_false]
    generalize hB : findE m dl (n - (a - p) - 1) (a + 1) = b at hf ⊢
    rw [← hf] at b1 b2 b3
    have htok : ∀ j, a ≤ j → j < b → m j ≠ 0 ∧ isDelim m dl (m j) = false := fun j h1 h2 =>
      if hj : j = a then hj ▸ ⟨h0, hnd⟩ else b2 j (by omega) h2
    have h1 : p ≤ a := by omega
    have h2 : a < b := by omega
    by_cases hb0 : m b = 0
    · simp only [hb0, if_true]
      rw [rem_last h1 h2 b1]
      exact .last _ _ hs hB h1 h2 b1 a2 htok hb0
    · simp only [hb0, if_false]
      rw [rem_cut h1 h2 b1]
      exact .cut _ _ hs hB h1 h2 b1 a2 htok hb0 (by simpa using (b3 (by omega)).resolve_left hb0)

theorem tok_call (wide : Bool) (dl p n : Nat) (st : St) (hall : AllRd st) (hd : DelimOK st.data dl)
    (hp : p ≠ 0) (hz : scanLen st.data p n < n) (hw : ∀ a, p ≤ a → a < p + n → st.wr a = true) :
    exec (tokBody wide dl p n) st =
      .ok ({ ret := (callSpec st.data dl p n).ret, dmaxv := some (callSpec st.data dl p n).rem,
             ptrv := some (callSpec st.data dl p n).ptr },
           match (callSpec st.data dl p n).cut with
           | none => st
           | some b => st.upd b 0) := by
  have h := callSpec_cases st.data dl p n hz
  rw [tok_call_all wide dl p n st hall hd hp]
  generalize callSpec st.data dl p n = c at h ⊢
  cases h with
  | nul a hs h1 _ _ h0 =>
    simp only [hs, h0, if_true]
    rw [rem_nul h1]
  | last a b hs hf h1 h2 h3 _ htok h0 =>
    simp only [hs, hf, (htok a (Nat.le_refl _) h2).1, h0, Nat.ne_of_lt (Nat.lt_trans h2 h3), if_true, if_false]
    rw [rem_last h1 h2 h3]
  | cut a b hs hf h1 h2 h3 _ htok h0 _ =>
    -- with a NUL inside the remaining length neither scan runs to the end of the extent
    simp only [hs, hf, (htok a (Nat.le_refl _) h2).1, h0, Nat.ne_of_lt (Nat.lt_trans h2 h3), Nat.ne_of_lt h3, if_false]
    rw [rem_cut h1 h2 h3]
    exact exec_scan2Cut _ _ _ st (hall _).1 (hw _ (by omega) h3)

/-- **only a delimiter position is overwritten**: the cell `(callSpec …).cut` — by `tok_call` the one cell a call changes, and it
stores NUL there — lies inside the extent and holds a (non-NUL) delimiter before the call. -/
theorem tok_only_delim_overwritten (m : Nat → Nat) (dl p n b : Nat) (hz : scanLen m p n < n)
    (hc : (callSpec m dl p n).cut = some b) :
    p ≤ b ∧ b < p + n ∧ m b ≠ 0 ∧ isDelim m dl (m b) = true := by
  have h := callSpec_cases m dl p n hz
  generalize callSpec m dl p n = c at h hc
  cases h <;> cases hc
  exact ⟨by omega, by assumption, by assumption, by assumption⟩

end SafeC.Props.C14
