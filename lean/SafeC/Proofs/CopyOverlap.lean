import SafeC.Proofs.Strcpy
import SafeC.Proofs.CopyAll
/-!
# The overlap bumper fires: the copies detect every real overlap

`OvrlpPost` is what the ESOVRLP exit leaves, the shape the C07 statements mention; it is `ClearedPost` at that code (`ClearedPost.ovrlp`).
-/
namespace SafeC
open Gen

/-- `g` = the distance between the pointers: the first `g` source characters are non-NUL, `g < dmax`, bounded: `g ≤ slen`.
The bumper is met after exactly `g` iterations: the reads in them are at cells the loop has not written (`copyLoop_noterm`).  In
the bounded loop the bumper test precedes the `slen == 0` test, so `g ≤ slen` suffices — also `g = slen`, when the `slen` source
characters END exactly at the bumper (`bounded-copy-src-ends-at-dest`). -/
theorem cpyBody_overlap (cfg : Cfg) (bounded : Bool) (dest dmax src slen : Nat) (st : St)
    (hall : ∀ a, st.mapped a = true ∧ st.rd a = true) (hpos : 0 < dmax) (hrw : RW st dest dmax)
    (hnz : ∀ j, j < (if dest < src then src - dest else dest - src) → st.data (src+j) ≠ 0)
    (hg : bounded = true → (if dest < src then src - dest else dest - src) ≤ slen)
    (hgd : (if dest < src then src - dest else dest - src) < dmax) :
    ∃ st', exec (cpyBody cfg bounded dest dmax dmax dest src slen) st = .ok (ESOVRLP, st') ∧
      ClearedPost cfg dest dmax ESOVRLP st st' := by
  obtain ⟨g, hgap⟩ := gap_of dest src
  have e : (if dest < src then src - dest else dest - src) = g := by split <;> omega
  rw [e] at hnz hg hgd
  obtain ⟨code, st', he, hc, hp⟩ := cpyBody_noterm cfg bounded dest dmax hpos dmax dest src g slen st hall hrw ⟨Nat.le_refl _, rfl⟩ hgap
    (fun j hj _ => hnz j hj) (fun h => ⟨fun _ => hg h, fun h' => absurd hgd (Nat.not_lt.2 h')⟩)
  rw [if_pos hgd] at hc; subst hc
  exact ⟨st', he, hp⟩

def OvrlpPost (cfg : Cfg) (dest dmax : Nat) (st st' : St) : Prop :=
  st'.strays = st.strays ∧
  st'.events = st.events ++ [.handler .str ESOVRLP] ∧
  st'.data dest = 0 ∧
  (cfg.slack = true → ∀ i, i < dmax → st'.data (dest + i) = 0) ∧
  (∀ a, ¬ (dest ≤ a ∧ a < dest + dmax) → st'.data a = st.data a)

theorem ClearedPost.ovrlp {cfg : Cfg} {dest dmax : Nat} {st st' : St} (h : ClearedPost cfg dest dmax ESOVRLP st st') :
    OvrlpPost cfg dest dmax st st' := h

/-- **strcpy_s / wcscpy_s detect every real overlap.** `n` = length of the source string in the
initial state; `g` = distance between the two pointers. If the characters strcpy would write
(`dest[0..n]`) and the characters it would read (`src[0..n]`) intersect — i.e. `g ≤ n` — and the
meeting point is inside dest (`g < dmax`), the call returns ESOVRLP, invokes the handler exactly
once with ESOVRLP, leaves `dest[0] = 0`, with null-slack all of dest zero, and changes nothing
outside `dest[0..dmax)`. -/
theorem strcpyG_overlap (max : Nat) (cfg : Cfg) (dest dmax src n : Nat) (st : St)
    (hall : ∀ a, st.mapped a = true ∧ st.rd a = true)
    (hd : dest ≠ 0) (hs : src ≠ 0) (hne : dest ≠ src) (hpos : 0 < dmax) (hle : dmax ≤ max)
    (hrw : RW st dest dmax)
    (hnz : ∀ j, j < n → st.data (src+j) ≠ 0)
    (hg : (if dest < src then src - dest else dest - src) ≤ n)
    (hgd : (if dest < src then src - dest else dest - src) < dmax) :
    ∃ st', exec (strcpyG max cfg dest dmax src none) st = .ok (ESOVRLP, st') ∧
      OvrlpPost cfg dest dmax st st' := by
  rw [strcpyG_eq_body max cfg dest dmax src none hd hs hne hpos hle (fun _ h => nomatch h)]
  exact cpyBody_overlap cfg false dest dmax src 0 st hall hpos hrw (fun j hj => hnz j (Nat.lt_of_lt_of_le hj hg))
    (fun h => nomatch h) hgd

/-- **strncpy_s / (via `max`) the shape of wcsncpy_s detect every overlap**: `g` = distance between the pointers; the
first `g` source characters are non-NUL, `g ≤ slen` and the meeting point lies inside dest (`g < dmax`) -/
theorem strncpyG_overlap (max : Nat) (cfg : Cfg) (dest dmax src slen : Nat) (st : St)
    (hall : ∀ a, st.mapped a = true ∧ st.rd a = true)
    (hd : dest ≠ 0) (hs : src ≠ 0) (hpos : 0 < dmax) (hle : dmax ≤ max) (hslen : 0 < slen) (hslenle : slen ≤ max)
    (hrw : RW st dest dmax)
    (hnz : ∀ j, j < (if dest < src then src - dest else dest - src) → st.data (src+j) ≠ 0)
    (hg : (if dest < src then src - dest else dest - src) ≤ slen)
    (hgd : (if dest < src then src - dest else dest - src) < dmax) :
    ∃ st', exec (strncpyG max cfg dest dmax src slen none none) st = .ok (ESOVRLP, st') ∧
      OvrlpPost cfg dest dmax st st' := by
  rw [strncpyG_eq_body max cfg dest dmax src slen none none hd hs hpos hle hslen hslenle (fun _ h => nomatch h)
    (fun _ h => nomatch h)]
  exact cpyBody_overlap cfg true dest dmax src slen st hall hpos hrw hnz (fun _ => hg) hgd

theorem wcsncpy_s_eq (cfg : Cfg) (dest dmax src slen : Nat) (h : slen ≤ RSIZE_MAX_WSTR) :
    wcsncpy_s cfg dest dmax src slen none none = strncpyG RSIZE_MAX_WSTR cfg dest dmax src slen none none := by
  have h' : ¬ slen > RSIZE_MAX_WSTR := by omega
  unfold wcsncpy_s strncpyG chkDmaxClearW chkDmaxClear chkDmaxClearG chkSlenMaxClear failS
  simp only [h', if_false]
  rfl

end SafeC
