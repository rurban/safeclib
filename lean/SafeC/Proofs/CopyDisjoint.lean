import SafeC.Proofs.Strcpy
import SafeC.Proofs.CopyAll
import SafeC.Proofs.CatAll
/-!
# Entry points of the copy family on valid, non-overlapping operands

Only the declared extents are mapped/readable here (no "everything readable" hypothesis):
`exec … = .ok …` says that nothing faulted, `st'.strays = st.strays` that nothing outside the
declared extents was touched.
-/
namespace SafeC
open Gen

structure SrcStr (st : St) (s n : Nat) : Prop where
  nz : ∀ j, j < n → st.data (s+j) ≠ 0
  nul : st.data (s+n) = 0
  rd : ∀ j, j ≤ n → st.mapped (s+j) = true ∧ st.rd (s+j) = true

/-- operands do not overlap: the whole dest extent lies below src, or the source string
(including its NUL) lies below dest -/
def Disjoint (dest dmax src n : Nat) : Prop := dest + dmax ≤ src ∨ src + n < dest

/-- a copy on valid non-overlapping operands (`m` = number of non-NUL characters the call would copy): it fits and is exact,
or ESNOSPC with dest cleared -/
def CpyDisjPost (cfg : Cfg) (dest dmax src m : Nat) (st st' : St) (code : Nat) : Prop :=
  st'.mapped = st.mapped ∧ st'.rd = st.rd ∧ st'.wr = st.wr ∧ st'.strays = st.strays ∧
  (∀ a, ¬ (dest ≤ a ∧ a < dest + dmax) → st'.data a = st.data a) ∧
  (m < dmax → code = EOK ∧ st'.events = st.events ∧
    (∀ i, i < m → st'.data (dest+i) = st.data (src+i)) ∧ st'.data (dest+m) = 0 ∧
    (cfg.slack = true → ∀ i, m ≤ i → i < dmax → st'.data (dest+i) = 0)) ∧
  (dmax ≤ m → code = ESNOSPC ∧ st'.events = st.events ++ [.handler .str ESNOSPC] ∧ st'.data dest = 0 ∧
    (cfg.slack = true → ∀ i, i < dmax → st'.data (dest+i) = 0))

theorem eok_iff_fits {code a b : Nat} {P Q : Prop} (hok : a < b → code = EOK ∧ P) (hfail : b ≤ a → code = ESNOSPC ∧ Q) :
    code = EOK ↔ a < b := by
  refine ⟨fun hc => Nat.lt_of_not_le fun h => ?_, fun h => (hok h).1⟩
  rw [(hfail h).1] at hc
  exact absurd hc (by decide)

theorem ne_ovrlp_of_fits {code a b : Nat} {P Q : Prop} (hok : a < b → code = EOK ∧ P)
    (hfail : b ≤ a → code = ESNOSPC ∧ Q) : code ≠ ESOVRLP := by
  rcases Nat.lt_or_ge a b with h | h
  · rw [(hok h).1]; decide
  · rw [(hfail h).1]; decide

/-- the two outcomes left of a complete analysis when the operands are further apart than the copy reaches -/
theorem CopyAll.disjoint {cfg : Cfg} {dest dmax src m g : Nat} {st st' : St} {code : Nat}
    (hp : CopyAll cfg dest dmax dest dmax src m g st st' code)
    (hx : st'.mapped = st.mapped ∧ st'.rd = st.rd ∧ st'.wr = st.wr) (hg : m < g ∨ dmax ≤ g) :
    CpyDisjPost cfg dest dmax src m st st' code := by
  refine ⟨hx.1, hx.2.1, hx.2.2, ?_, ?_, fun h => ?_, fun h => ?_⟩
  · rcases Nat.lt_or_ge m dmax with h | h
    · exact (hp.done h (by omega)).2.1.strays
    · exact (hp.full h (by omega)).2.strays
  · rcases Nat.lt_or_ge m dmax with h | h
    · exact (hp.done h (by omega)).2.2.2.2.2
    · exact (hp.full h (by omega)).2.frame
  · obtain ⟨hc, hm, hcp, h0, hsl, _⟩ := hp.done h (by omega)
    exact ⟨hc, hm.events, hcp, h0, hsl⟩
  · obtain ⟨hc, hcl⟩ := hp.full h (by omega)
    exact ⟨hc, hcl.events, hcl.first, hcl.slack⟩

theorem cpyBody_disjoint (cfg : Cfg) (bounded : Bool) (dest dmax src slen m : Nat) (st : St)
    (hpos : 0 < dmax) (hrw : RW st dest dmax)
    (hnz : ∀ j, j < m → st.data (src+j) ≠ 0)
    (hrd : ∀ j, j < m → st.mapped (src+j) = true ∧ st.rd (src+j) = true)
    (hfin : ((bounded = true → m < slen) ∧ st.data (src+m) = 0 ∧ st.mapped (src+m) = true ∧
              st.rd (src+m) = true) ∨ (bounded = true ∧ slen = m))
    (hdisj : dest + dmax ≤ src ∨ src + m < dest) :
    ∃ code st', exec (cpyBody cfg bounded dest dmax dmax dest src slen) st = .ok (code, st') ∧
      CpyDisjPost cfg dest dmax src m st st' code := by
  obtain ⟨g, hg⟩ := gap_of dest src
  obtain ⟨code, st', he, hp⟩ := cpyBody_cases cfg bounded dest dmax hpos dmax dest src m g slen st hrd hrw ⟨Nat.le_refl _, rfl⟩ hg hnz hfin
  exact ⟨code, st', he, hp.disjoint (exec_perm _ _ he) (by omega)⟩

/-- strcpy_s / wcscpy_s (via `max`), object size unknown, valid non-overlapping operands -/
theorem strcpyG_disjoint (max : Nat) (cfg : Cfg) (dest dmax src n : Nat) (st : St)
    (hd : dest ≠ 0) (hs : src ≠ 0) (hpos : 0 < dmax) (hle : dmax ≤ max)
    (hrw : RW st dest dmax) (hsrc : SrcStr st src n) (hdisj : Disjoint dest dmax src n) :
    ∃ code st', exec (strcpyG max cfg dest dmax src none) st = .ok (code, st') ∧
      CpyDisjPost cfg dest dmax src n st st' code := by
  unfold Disjoint at hdisj
  rw [strcpyG_eq_body max cfg dest dmax src none hd hs (by omega) hpos hle (fun _ h => nomatch h)]
  exact cpyBody_disjoint cfg false dest dmax src 0 n st hpos hrw hsrc.nz
    (fun j hj => hsrc.rd j (Nat.le_of_lt hj)) (Or.inl ⟨fun h => (nomatch h), hsrc.nul, hsrc.rd n (Nat.le_refl _)⟩) hdisj

/-- strncpy_s / (the narrow instance; wcsncpy_s has different entry checks), object sizes unknown,
`0 < slen ≤ max`; `m` = number of characters that get copied: either the source string is shorter
than `slen` (`m = n`, NUL read at `src+n`) or `slen` runs out first (`m = slen ≤ n`), and then the
cell `src+slen` is never read. For the second case disjointness is required for one more cell
(`src + m < dest` rather than `src + m ≤ dest`): the loop tests the bumper before `slen == 0`
(recorded finding `bounded-copy-src-ends-at-dest`). -/
theorem strncpyG_disjoint (max : Nat) (cfg : Cfg) (dest dmax src slen m : Nat) (st : St)
    (hd : dest ≠ 0) (hs : src ≠ 0) (hpos : 0 < dmax) (hle : dmax ≤ max)
    (hslen : 0 < slen) (hslenle : slen ≤ max)
    (hrw : RW st dest dmax)
    (hnz : ∀ j, j < m → st.data (src+j) ≠ 0)
    (hrd : ∀ j, j < m → st.mapped (src+j) = true ∧ st.rd (src+j) = true)
    (hfin : (m < slen ∧ st.data (src+m) = 0 ∧ st.mapped (src+m) = true ∧ st.rd (src+m) = true) ∨ slen = m)
    (hdisj : dest + dmax ≤ src ∨ src + m < dest) :
    ∃ code st', exec (strncpyG max cfg dest dmax src slen none none) st = .ok (code, st') ∧
      CpyDisjPost cfg dest dmax src m st st' code := by
  rw [strncpyG_eq_body max cfg dest dmax src slen none none hd hs hpos hle hslen hslenle (fun _ h => nomatch h)
    (fun _ h => nomatch h)]
  exact cpyBody_disjoint cfg true dest dmax src slen m st hpos hrw hnz hrd
    (hfin.imp (fun h => ⟨fun _ => h.1, h.2⟩) (fun h => ⟨rfl, h⟩)) hdisj

def CatDisjPost (cfg : Cfg) (dest dmax dl src m : Nat) (st st' : St) (code : Nat) : Prop :=
  st'.mapped = st.mapped ∧ st'.rd = st.rd ∧ st'.wr = st.wr ∧ st'.strays = st.strays ∧
  (∀ a, ¬ (dest ≤ a ∧ a < dest + dmax) → st'.data a = st.data a) ∧
  (dl + m < dmax → code = EOK ∧ st'.events = st.events ∧
    (∀ i, i < dl → st'.data (dest+i) = st.data (dest+i)) ∧
    (∀ i, i < m → st'.data (dest+dl+i) = st.data (src+i)) ∧ st'.data (dest+dl+m) = 0 ∧
    (cfg.slack = true → ∀ i, dl + m ≤ i → i < dmax → st'.data (dest+i) = 0)) ∧
  (dmax ≤ dl + m → code = ESNOSPC ∧ st'.events = st.events ++ [.handler .str ESNOSPC] ∧ st'.data dest = 0 ∧
    (cfg.slack = true → ∀ i, i < dmax → st'.data (dest+i) = 0))

/-- the source lies behind dest or ends in front of it: it is not met, neither by the scan for the end of dest nor by the
copy; the success or the no-room case of `catBody_cases` -/
theorem catBody_disjoint (cfg : Cfg) (bounded : Bool) (dest dmax src slen dl m : Nat) (st : St)
    (hrw : RW st dest dmax)
    (hnz : ∀ j, j < m → st.data (src+j) ≠ 0)
    (hrd : ∀ j, j < m → st.mapped (src+j) = true ∧ st.rd (src+j) = true)
    (hfin : ((bounded = true → m < slen) ∧ st.data (src+m) = 0 ∧ st.mapped (src+m) = true ∧
              st.rd (src+m) = true) ∨ (bounded = true ∧ slen = m))
    (hdisj : dest + dmax ≤ src ∨ src + m < dest)
    (hdl : dl < dmax) (hdnz : ∀ j, j < dl → st.data (dest+j) ≠ 0) (hdnul : st.data (dest+dl) = 0) :
    ∃ code st', exec (catBody cfg bounded dest dmax src slen) st = .ok (code, st') ∧
      CatDisjPost cfg dest dmax dl src m st st' code := by
  obtain ⟨code, st', he, hp⟩ := catBody_cases cfg bounded dest dmax src dl m slen st hrd hrw hdl hdnz hdnul hnz hfin
  obtain ⟨pm, pr, pw⟩ := exec_perm _ _ he
  have hfr : st'.strays = st.strays ∧ ∀ a, ¬ (dest ≤ a ∧ a < dest + dmax) → st'.data a = st.data a := by
    rcases Nat.lt_or_ge (dl + m) dmax with h | h
    · obtain ⟨_, hm, _, _, _, hf⟩ := hp.done h (by omega)
      exact ⟨hm.strays, fun a ha => hf a (by omega)⟩
    · exact ⟨(hp.full h (by omega)).2.strays, (hp.full h (by omega)).2.frame⟩
  refine ⟨code, st', he, pm, pr, pw, hfr.1, hfr.2, fun h => ?_, fun h => ?_⟩
  · obtain ⟨hc, hm, hcp, h0, hsl, hf⟩ := hp.done h (by omega)
    refine ⟨hc, hm.events, fun i hi => hf _ (by omega), hcp, h0, fun hs i h1 h2 => ?_⟩
    have := hsl hs (i - dl) (by omega) (by omega)
    rwa [show dest + dl + (i - dl) = dest + i from by omega] at this
  · obtain ⟨hc, hcl⟩ := hp.full h (by omega)
    exact ⟨hc, hcl.events, hcl.first, hcl.slack⟩

/-- strcat_s / wcscat_s: dest holds a string of length `dl < dmax`; the source string does not
overlap dest's extent -/
theorem strcatG_disjoint (max : Nat) (cfg : Cfg) (dest dmax src dl n : Nat) (st : St)
    (hd : dest ≠ 0) (hs : src ≠ 0) (hpos : 0 < dmax) (hle : dmax ≤ max)
    (hrw : RW st dest dmax) (hsrc : SrcStr st src n) (hdisj : Disjoint dest dmax src n)
    (hdl : dl < dmax) (hdnz : ∀ j, j < dl → st.data (dest+j) ≠ 0) (hdnul : st.data (dest+dl) = 0) :
    ∃ code st', exec (strcatG max cfg dest dmax src none) st = .ok (code, st') ∧
      CatDisjPost cfg dest dmax dl src n st st' code := by
  rw [strcatG_eq_body max cfg dest dmax src none hd hs hpos hle (fun _ h => nomatch h)]
  exact catBody_disjoint cfg false dest dmax src 0 dl n st hrw hsrc.nz (fun j hj => hsrc.rd j (Nat.le_of_lt hj))
    (Or.inl ⟨fun h => (nomatch h), hsrc.nul, hsrc.rd n (Nat.le_refl _)⟩) hdisj hdl hdnz hdnul

/-- strncat_s: dest holds a string of length `dl < dmax`; `m` = number of source characters appended (the source
string is shorter than `slen`, or `slen = m` runs out first and the cell `src+m` is not read) -/
theorem strncatG_disjoint (max : Nat) (cfg : Cfg) (dest dmax src slen dl m : Nat) (st : St)
    (hd : dest ≠ 0) (hs : src ≠ 0) (hpos : 0 < dmax) (hle : dmax ≤ max)
    (hslen : 0 < slen) (hslenle : slen ≤ max)
    (hrw : RW st dest dmax)
    (hnz : ∀ j, j < m → st.data (src+j) ≠ 0)
    (hrd : ∀ j, j < m → st.mapped (src+j) = true ∧ st.rd (src+j) = true)
    (hfin : (m < slen ∧ st.data (src+m) = 0 ∧ st.mapped (src+m) = true ∧ st.rd (src+m) = true) ∨ slen = m)
    (hdisj : dest + dmax ≤ src ∨ src + m < dest)
    (hdl : dl < dmax) (hdnz : ∀ j, j < dl → st.data (dest+j) ≠ 0) (hdnul : st.data (dest+dl) = 0) :
    ∃ code st', exec (strncatG max cfg dest dmax src slen none none) st = .ok (code, st') ∧
      CatDisjPost cfg dest dmax dl src m st st' code := by
  rw [strncatG_eq_body max cfg dest dmax src slen none none hd hs hpos hle hslen hslenle (fun _ h => nomatch h)
    (fun _ h => nomatch h)]
  exact catBody_disjoint cfg true dest dmax src slen dl m st hrw hnz hrd
    (hfin.imp (fun h => ⟨fun _ => h.1, h.2⟩) (fun h => ⟨rfl, h⟩)) hdisj hdl hdnz hdnul

theorem wcsncat_s_eq (cfg : Cfg) (dest dmax src slen : Nat) (hle : dmax ≤ RSIZE_MAX_WSTR) (hsl : slen ≤ RSIZE_MAX_WSTR)
    (hs0 : slen ≠ 0) :
    wcsncat_s cfg dest dmax src slen none none = strncatG RSIZE_MAX_WSTR cfg dest dmax src slen none none := by
  have hmx : ¬ dmax > RSIZE_MAX_WSTR := by omega
  have hsx : ¬ slen > RSIZE_MAX_WSTR := by omega
  unfold wcsncat_s strncatG chkDmaxW chkDmaxClear chkDmaxClearG chkSlenMaxClear
  simp only [hmx, hsx, hs0, if_false]

end SafeC
