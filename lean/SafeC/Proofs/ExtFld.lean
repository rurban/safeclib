import SafeC.Proofs.ExtCopy
import SafeC.Proofs.CopySteps
import SafeC.Proofs.Query
import SafeC.Models.Fld
/-!
# The field copies `strcpyfld_s`, `strcpyfldin_s`, `strcpyfldout_s`: every exit of the body the three entry points share

The loop: one round kind by kind (`fldLoop_stop/step/bump`), `n` rounds (`fldLoop_iter`).  The twin loops behind `if (dest < src)`
meet their bumper at round `fldGap dest src = |dest - src|` exactly, and below that round no round reads a cell an earlier one wrote,
whatever the placement: `fldCall_exit` runs them to the round that decides and reads the exit off its test — it holds at the bumper
(overlap exit) or it fails (the loop is left).  `fldBody_exit` is that behind the `src` and `slen ≤ dmax` checks, generic in the kind,
every exit with all the entry points guarantee (`FldPost`) and the exact memory on success (`FldOk`); the per-kind instances are in
`Proofs/FldSteps.lean`.
-/
namespace SafeC
open Gen

/-- the arithmetic part of the three `while` conditions: `slen` (fld), `dmax && slen` (fldin), `dmax > 1 && slen` (fldout) -/
def FldCont : FldKind → Nat → Nat → Prop
  | .fld, _, sl => sl ≠ 0
  | .fldin, m, sl => m ≠ 0 ∧ sl ≠ 0
  | .fldout, m, sl => 1 < m ∧ sl ≠ 0

/-- the whole loop condition in state `st`: `strcpyfldin_s` also asks for `*src` -/
def FldGo (kind : FldKind) (st : St) (s m sl : Nat) : Prop :=
  FldCont kind m sl ∧ (kind = .fldin → st.data s ≠ 0)

theorem fldLoop_stop (cfg : Cfg) (kind : FldKind) (onDest : Bool) (B oD oM f d s m sl : Nat) (st : St)
    (hs : st.mapped s = true ∧ st.rd s = true) (h : ¬ FldGo kind st s m sl) :
    exec (fldLoop cfg kind onDest B oD oM (f+1) d s m sl) st = .ok (.inr (d, m), st) := by
  unfold FldGo at h
  cases kind
  all_goals unfold fldLoop
  all_goals simp only [FldCont] at h
  · have : sl = 0 := by simpa using h
    simp [this, exec_bind]
  · by_cases h1 : m = 0 ∨ sl = 0
    · simp [h1, exec_bind]
    · have : st.data s = 0 := by
        have h2 : m ≠ 0 ∧ sl ≠ 0 := by omega
        simpa [h2] using h
      simp [h1, exec_bind, exec_load_ok _ _ hs.1 hs.2, this]
  · have : ¬ (m > 1 ∧ sl ≠ 0) := by simpa using h
    simp [this, exec_bind]

theorem fldLoop_step (cfg : Cfg) (kind : FldKind) (onDest : Bool) (B oD oM f d s m sl : Nat) (st : St)
    (hs : st.mapped s = true ∧ st.rd s = true) (hd : st.mapped d = true ∧ st.wr d = true)
    (h : FldGo kind st s m sl) (hb : (if onDest then d else s) ≠ B) :
    exec (fldLoop cfg kind onDest B oD oM (f+1) d s m sl) st =
      exec (fldLoop cfg kind onDest B oD oM f (d+1) (s+1) (m-1) (sl-1)) (st.upd d (st.data s)) := by
  unfold FldGo at h
  cases kind
  all_goals (conv => lhs; unfold fldLoop)
  all_goals simp only [FldCont] at h
  · simp [h.1, exec_bind, hb, exec_load_ok _ _ hs.1 hs.2, exec_store_ok _ _ _ hd.1 hd.2]
  · have h1 : ¬ (m = 0 ∨ sl = 0) := by omega
    simp [h1, h.2, exec_bind, hb, exec_load_ok _ _ hs.1 hs.2, exec_store_ok _ _ _ hd.1 hd.2]
  · simp [h.1, exec_bind, hb, exec_load_ok _ _ hs.1 hs.2, exec_store_ok _ _ _ hd.1 hd.2]

theorem fldLoop_bump (cfg : Cfg) (kind : FldKind) (onDest : Bool) (B oD oM f d s m sl : Nat) (st : St)
    (hs : st.mapped s = true ∧ st.rd s = true)
    (h : FldGo kind st s m sl) (hb : (if onDest then d else s) = B) :
    exec (fldLoop cfg kind onDest B oD oM (f+1) d s m sl) st =
      exec (do handleError cfg oD oM ESOVRLP; pure (.inl ESOVRLP) : Prog (Nat ⊕ (Nat × Nat))) st := by
  unfold FldGo at h
  cases kind
  all_goals unfold fldLoop
  all_goals simp only [FldCont] at h
  · simp [h.1, exec_bind, hb]
  · have h1 : ¬ (m = 0 ∨ sl = 0) := by omega
    simp [h1, h.2, exec_bind, hb, exec_load_ok _ _ hs.1 hs.2]
  · simp [h.1, exec_bind, hb]

theorem fldLoop_zero (cfg : Cfg) (kind : FldKind) (onDest : Bool) (B oD oM d s m sl : Nat) :
    fldLoop cfg kind onDest B oD oM 0 d s m sl = pure (.inr (d, m)) := by
  rfl

/-- `hcl`: no round reads a cell an earlier round wrote, so the `n` cells stored are those `st` held (`CopiedN`) and the
loop condition of round `j` can be asked of `st` -/
theorem fldLoop_iter (cfg : Cfg) (kind : FldKind) (onDest : Bool) (B oD oM : Nat) (n : Nat)
    (fuel d s m sl : Nat) (st : St)
    (hall : ∀ a, st.mapped a = true ∧ st.rd a = true) (hrw : RW st d n)
    (hcl : ∀ i j, i < j → j < n → s + j ≠ d + i)
    (hbump : ∀ j, j < n → (if onDest then d + j else s + j) ≠ B)
    (hgo : ∀ j, j < n → FldCont kind (m - j) (sl - j) ∧ (kind = .fldin → st.data (s + j) ≠ 0)) :
    ∃ st1, CopiedN st st1 d s n ∧
      exec (fldLoop cfg kind onDest B oD oM (fuel + n) d s m sl) st =
        exec (fldLoop cfg kind onDest B oD oM fuel (d + n) (s + n) (m - n) (sl - n)) st1 := by
  obtain ⟨st1, hcp, he⟩ := copied_steps
    (fun j => fldLoop cfg kind onDest B oD oM (fuel + n - j) (d + j) (s + j) (m - j) (sl - j)) d s st n hcl
    fun j st1 hj hcp => by
      have hw := hrw j hj
      rw [show fuel + n - j = fuel + n - (j + 1) + 1 by omega,
        fldLoop_step cfg kind onDest B oD oM _ _ _ _ _ st1 (by rw [hcp.1.mapped, hcp.1.rd]; exact hall _)
          (by rw [hcp.1.mapped, hcp.1.wr]; exact ⟨hw.1, hw.2.1⟩)
          ⟨(hgo j hj).1, fun hk => by rw [hcp.next (fun i hi => hcl i j hi hj)]; exact (hgo j hj).2 hk⟩ (hbump j hj)]
      rfl
  exact ⟨st1, hcp, by simpa using he⟩

/-- fuel of the loop: each iteration consumes one of `slen` (fld) or `dmax` (fldin, fldout) -/
def fldFuel (kind : FldKind) (dmax slen : Nat) : Nat :=
  match kind with | .fld => slen | _ => dmax

/-- the twin loops behind `if (dest < src)` -/
def fldCall (kind : FldKind) (cfg : Cfg) (dest dmax src slen : Nat) : Prog (Nat ⊕ (Nat × Nat)) :=
  if dest < src then fldLoop cfg kind true src dest dmax (fldFuel kind dmax slen) dest src dmax slen
  else fldLoop cfg kind false dest dest dmax (fldFuel kind dmax slen) dest src dmax slen

def fldTail : Nat ⊕ (Nat × Nat) → Prog Nat
  | .inl code => pure code
  | .inr (d, m) => do
    nullSlack d m
    pure EOK

/-- what `fldG` runs once `slen`, `dest`, `dmax` have passed the entry checks -/
def fldBody (kind : FldKind) (cfg : Cfg) (dest dmax src slen : Nat) : Prog Nat :=
  if src = 0 then do handleError cfg dest dmax ESNULLP; pure ESNULLP
  else chkSlenNospcClear cfg dest dmax slen RSIZE_MAX_STR (fldCall kind cfg dest dmax src slen >>= fldTail)

theorem fldBody_fits (kind : FldKind) (cfg : Cfg) (dest dmax src slen : Nat) (hs : src ≠ 0) (hle2 : slen ≤ dmax) :
    fldBody kind cfg dest dmax src slen = (fldCall kind cfg dest dmax src slen >>= fldTail) := by
  simp only [fldBody, hs, if_false, chkSlenNospcClear, Nat.not_lt.mpr hle2]

theorem chkDmaxClear_within (cfg : Cfg) (dest dmax b max : Nat) (k : Prog Nat) (hb : dmax ≤ b) (hm : dmax ≤ max) :
    chkDmaxClear cfg dest dmax (some b) max k = chkDmaxClear cfg dest dmax none max k := by
  have h1 : ¬ dmax > b := by omega
  have h2 : ¬ dmax > max := by omega
  simp only [chkDmaxClear, chkDmaxClearG, h1, h2, if_false]

theorem chkDmax_within (dmax b max : Nat) (k : Prog Nat) (hb : dmax ≤ b) (hm : dmax ≤ max) :
    chkDmax dmax (some b) max k = chkDmax dmax none max k := by
  have h1 : ¬ dmax > b := by omega
  have h2 : ¬ dmax > max := by omega
  simp only [chkDmax, h1, h2, if_false]

theorem fldG_entry (kind : FldKind) (cfg : Cfg) (dest dmax src slen : Nat) (destbos : Bos)
    (hsl : slen ≠ 0) (hd : dest ≠ 0) (hpos : 0 < dmax) (hle : dmax ≤ RSIZE_MAX_STR)
    (hbos : ∀ b, destbos = some b → dmax ≤ b) :
    fldG kind cfg dest dmax src slen destbos = fldBody kind cfg dest dmax src slen := by
  unfold fldG
  rw [if_neg hsl, if_neg hd, if_neg (Nat.pos_iff_ne_zero.mp hpos)]
  cases kind
  · exact chkDmaxClearG_pass id cfg dest dmax destbos _ _ hle hbos
  · exact chkDmax_pass dmax destbos _ _ hle hbos
  · exact chkDmax_pass dmax destbos _ _ hle hbos

/-- `slen = 0` is the documented no-op -/
theorem fldG_slen0 (kind : FldKind) (cfg : Cfg) (dest dmax src : Nat) (destbos : Bos) (st : St) :
    exec (fldG kind cfg dest dmax src 0 destbos) st = .ok (EOK, st) := by
  simp [fldG]

/-- a failing exit through `handle_error(dest, len, code)` described exactly -/
structure FldFail (cfg : Cfg) (dest len : Nat) (st st' : St) (code : Nat) : Prop where
  mapped : st'.mapped = st.mapped
  rd : st'.rd = st.rd
  wr : st'.wr = st.wr
  strays : st'.strays = st.strays
  events : st'.events = st.events ++ [.handler .str code]
  first : st'.data dest = 0
  slack : cfg.slack = true → ∀ a, st'.data a = if dest ≤ a ∧ a < dest + len then 0 else st.data a
  noslack : cfg.slack = false → ∀ a, a ≠ dest → st'.data a = st.data a

/-- `handle_error` with a clear length `len ≤ ext` that may be 0 (then `dest[0]` is already 0): exact effect -/
theorem handleError_exact (cfg : Cfg) (dest len ext code : Nat) (st : St) (hw : RW st dest ext)
    (hpos : 0 < ext) (hle : len ≤ ext) (h0 : len = 0 → st.data dest = 0) :
    ∃ st', exec (handleError cfg dest len code) st = .ok ((), st') ∧ FldFail cfg dest len st st' code := by
  refine ⟨_, exec_handleError cfg dest len ext code st hw hpos hle, ?_⟩
  cases hcs : cfg.slack with
  | true =>
    refine ⟨rfl, rfl, rfl, rfl, rfl, ?_, fun _ _ => rfl, fun h => nomatch hcs.symm.trans h⟩
    by_cases hl : 0 < len
    · exact if_pos (by omega)
    · exact (if_neg (by omega)).trans (h0 (by omega))
  | false =>
    exact ⟨rfl, rfl, rfl, rfl, rfl, St.upd_data_same _ _ _, (fun h => nomatch hcs.symm.trans h),
      fun _ a ha => St.upd_data_ne _ _ _ _ ha⟩
theorem FldFail.frame_in {cfg : Cfg} {dest len ext code : Nat} {st st' : St} (h : FldFail cfg dest len st st' code)
    (hle : len ≤ ext) (hpos : 0 < ext) : ∀ a, ¬ (dest ≤ a ∧ a < dest + ext) → st'.data a = st.data a := by
  intro a ha
  cases hcs : cfg.slack with
  | true => rw [h.slack hcs a, if_neg (by omega)]
  | false => exact h.noslack hcs a (by omega)

theorem FldFail.safePost {cfg : Cfg} {dest len dmax : Nat} {st st' : St} {code : Nat}
    (h : FldFail cfg dest len st st' code) (hle : len ≤ dmax) (hpos : 0 < dmax) (hne : code ≠ EOK) :
    SafePost cfg dest dmax st st' code :=
  ⟨h.mapped, h.rd, h.wr, h.strays, h.frame_in hle hpos, fun hc => absurd hc hne, fun _ => h.events⟩

def StrLenIn (st : St) (dest dmax len : Nat) : Prop :=
  len ≤ dmax ∧ (len < dmax → st.data (dest + len) = 0) ∧ ∀ j, j < len → st.data (dest + j) ≠ 0

theorem strnlen_s_first (str smax : Nat) (st : St)
    (hall : ∀ a, st.mapped a = true ∧ st.rd a = true)
    (hs : str ≠ 0) (hpos : 0 < smax) (hle : smax ≤ RSIZE_MAX_STR) :
    ∃ len, exec (strnlen_s str smax none) st = .ok (len, st) ∧ StrLenIn st str smax len :=
  ⟨_, Props.C10.strnlen_s_C10 str smax st hall hs hpos hle, scanLen_le _ _ _, scanLen_zero _ _ _, scanLen_nonzero _ _ _⟩

theorem fldBody_srcnull (kind : FldKind) (cfg : Cfg) (dest dmax slen : Nat) (st : St)
    (hrw : RW st dest dmax) (hpos : 0 < dmax) :
    ∃ st', exec (fldBody kind cfg dest dmax 0 slen) st = .ok (ESNULLP, st') ∧
      FldFail cfg dest dmax st st' ESNULLP := by
  obtain ⟨st', he, hf⟩ := handleError_exact cfg dest dmax dmax ESNULLP st hrw hpos (Nat.le_refl _) (by omega)
  exact ⟨st', by simp [fldBody, exec_bind, he], hf⟩

/-- the code of the `slen > dmax` exit -/
def fldNospcCode (slen : Nat) : Nat := if slen > RSIZE_MAX_STR then ESLEMAX else ESNOSPC

theorem fldNospcCode_ne (slen : Nat) : fldNospcCode slen ≠ EOK := by
  unfold fldNospcCode; split <;> decide

theorem fldNospcCode_ne_ovrlp (slen : Nat) : fldNospcCode slen ≠ ESOVRLP := by
  unfold fldNospcCode; split <;> decide

/-- **exit `slen > dmax`** (`CHK_SLEN_MAX_NOSPC_CLEAR`): clears the `len = strnlen_s(dest, dmax)` cells of the
string that was in dest, nothing else -/
theorem fldBody_nospc (kind : FldKind) (cfg : Cfg) (dest dmax src slen : Nat) (st : St)
    (hall : ∀ a, st.mapped a = true ∧ st.rd a = true) (hrw : RW st dest dmax)
    (hd : dest ≠ 0) (hpos : 0 < dmax) (hle : dmax ≤ RSIZE_MAX_STR) (hs : src ≠ 0) (hgt : dmax < slen) :
    ∃ len st', exec (fldBody kind cfg dest dmax src slen) st = .ok (fldNospcCode slen, st') ∧
      StrLenIn st dest dmax len ∧ FldFail cfg dest len st st' (fldNospcCode slen) := by
  obtain ⟨len, he, hlen⟩ := strnlen_s_first dest dmax st hall hd hpos hle
  obtain ⟨st', he2, hf⟩ := handleError_exact cfg dest len dmax (fldNospcCode slen) st hrw hpos hlen.1
    (by intro h; subst h; simpa using hlen.2.1 hpos)
  refine ⟨len, st', ?_, hlen, hf⟩
  have hgt' : slen > dmax := hgt
  simp only [fldBody, hs, if_false, chkSlenNospcClear, hgt', if_true, exec_bind, he]
  unfold fldNospcCode at he2
  simp only [he2]
  rfl

/-- everything the entry points guarantee after the dest/dmax checks, whatever `src`, `slen` and the memory -/
structure FldPost (kind : FldKind) (cfg : Cfg) (dest dmax src slen : Nat) (st st' : St) (code : Nat) : Prop where
  safe : SafePost cfg dest dmax st st' code
  fail_first : code ≠ EOK → st'.data dest = 0
  fail_clear : code = ESNULLP ∨ code = ESOVRLP → cfg.slack = true → ∀ i, i < dmax → st'.data (dest + i) = 0
  term : kind = .fldout ∨ slen < dmax ∨ code ≠ EOK → ∃ i, i < dmax ∧ st'.data (dest + i) = 0
  srcnull : src = 0 → code = ESNULLP
  nospc : src ≠ 0 → dmax < slen → code = fldNospcCode slen
  fits : src ≠ 0 → slen ≤ dmax → code = EOK ∨ code = ESOVRLP

theorem ESNULLP_ne_ESOVRLP : ESNULLP ≠ ESOVRLP := by decide

theorem fldBody_srcnull_post (kind : FldKind) (cfg : Cfg) (dest dmax slen : Nat) (st : St)
    (hrw : RW st dest dmax) (hpos : 0 < dmax) :
    ∃ st', exec (fldBody kind cfg dest dmax 0 slen) st = .ok (ESNULLP, st') ∧
      FldPost kind cfg dest dmax 0 slen st st' ESNULLP := by
  obtain ⟨st', he, hf⟩ := fldBody_srcnull kind cfg dest dmax slen st hrw hpos
  refine ⟨st', he, hf.safePost (Nat.le_refl _) hpos ne_ESNULLP, fun _ => hf.first, ?_,
    fun _ => ⟨0, hpos, by simpa using hf.first⟩, fun _ => rfl, fun h => absurd rfl h, fun h => absurd rfl h⟩
  intro _ hcs i hi
  rw [hf.slack hcs (dest + i), if_pos (by omega)]

theorem fldBody_nospc_post (kind : FldKind) (cfg : Cfg) (dest dmax src slen : Nat) (st : St)
    (hall : ∀ a, st.mapped a = true ∧ st.rd a = true) (hrw : RW st dest dmax)
    (hd : dest ≠ 0) (hpos : 0 < dmax) (hle : dmax ≤ RSIZE_MAX_STR) (hs : src ≠ 0) (hgt : dmax < slen) :
    ∃ st', exec (fldBody kind cfg dest dmax src slen) st = .ok (fldNospcCode slen, st') ∧
      FldPost kind cfg dest dmax src slen st st' (fldNospcCode slen) := by
  obtain ⟨len, st', he, hlen, hf⟩ := fldBody_nospc kind cfg dest dmax src slen st hall hrw hd hpos hle hs hgt
  have hne := fldNospcCode_ne slen
  refine ⟨st', he, hf.safePost hlen.1 hpos hne, fun _ => hf.first, ?_,
    fun _ => ⟨0, hpos, by simpa using hf.first⟩, fun h => absurd h hs, fun _ _ => rfl, fun _ h => by omega⟩
  intro h
  exfalso
  unfold fldNospcCode at h
  split at h <;> rcases h with h | h <;> exact absurd h (by decide)

theorem FldPost.of_ovrlp {kind : FldKind} {cfg : Cfg} {dest dmax src slen : Nat} {st st' : St} (hs : src ≠ 0)
    (hle2 : slen ≤ dmax) (hpos : 0 < dmax) (hx : st'.mapped = st.mapped ∧ st'.rd = st.rd ∧ st'.wr = st.wr)
    (hp : ClearedPost cfg dest dmax ESOVRLP st st') :
    FldPost kind cfg dest dmax src slen st st' ESOVRLP :=
  ⟨⟨hx.1, hx.2.1, hx.2.2, hp.strays, hp.frame, fun h => absurd h ne_ESOVRLP, fun _ => hp.events⟩,
    fun _ => hp.first, fun _ => hp.slack, fun _ => ⟨0, hpos, hp.first⟩,
    fun h => absurd h hs, fun _ h => by omega, fun _ _ => Or.inr rfl⟩

/-- exact final memory of a successful call that copied `n` cells -/
def FldOk (dest dmax src n : Nat) (st st' : St) : Prop :=
  SameMeta st' st ∧
  ∀ a, st'.data a = if dest ≤ a ∧ a < dest + n then st.data (src + (a - dest))
                    else if dest ≤ a ∧ a < dest + dmax then 0 else st.data a

theorem FldOk.copied {dest dmax src n : Nat} {st st' : St} (h : FldOk dest dmax src n st st') :
    ∀ i, i < n → st'.data (dest + i) = st.data (src + i) := by
  intro i hi
  rw [h.2 (dest + i)]
  have h1 : dest ≤ dest + i ∧ dest + i < dest + n := by omega
  have e : dest + i - dest = i := by omega
  rw [if_pos h1, e]

theorem FldOk.filled {dest dmax src n : Nat} {st st' : St} (h : FldOk dest dmax src n st st') :
    ∀ i, n ≤ i → i < dmax → st'.data (dest + i) = 0 := by
  intro i hi hi2
  rw [h.2 (dest + i)]
  have h1 : ¬ (dest ≤ dest + i ∧ dest + i < dest + n) := by omega
  have h2 : dest ≤ dest + i ∧ dest + i < dest + dmax := by omega
  rw [if_neg h1, if_pos h2]

theorem FldOk.frame {dest dmax src n : Nat} {st st' : St} (h : FldOk dest dmax src n st st') (hn : n ≤ dmax) :
    ∀ a, ¬ (dest ≤ a ∧ a < dest + dmax) → st'.data a = st.data a := by
  intro a ha
  rw [h.2 a]
  have h1 : ¬ (dest ≤ a ∧ a < dest + n) := by omega
  rw [if_neg h1, if_neg ha]

theorem FldOk.post {kind : FldKind} {cfg : Cfg} {dest dmax src slen n : Nat} {st st' : St}
    (h : FldOk dest dmax src n st st') (hs : src ≠ 0) (hle2 : slen ≤ dmax) (hn : n ≤ dmax)
    (hterm : kind = .fldout ∨ slen < dmax → n < dmax) :
    FldPost kind cfg dest dmax src slen st st' EOK where
  safe := ⟨h.1.mapped, h.1.rd, h.1.wr, h.1.strays, h.frame hn, fun _ => h.1.events, fun hc => absurd rfl hc⟩
  fail_first := fun hc => absurd rfl hc
  fail_clear := fun hc => by rcases hc with hc | hc <;> exact absurd hc (by decide)
  term := fun ht =>
    have hlt := hterm (ht.elim .inl fun ht => ht.elim .inr fun hc => absurd rfl hc)
    ⟨n, hlt, h.filled n (Nat.le_refl _) hlt⟩
  srcnull := fun h0 => absurd h0 hs
  nospc := fun _ hgt => absurd hle2 (Nat.not_le.mpr hgt)
  fits := fun _ _ => .inl rfl

/-- the overlap exit taken after `j0` cells were copied inside dest (`st1`): `handle_error` on the whole dest, seen from the
state `st` the copying started in -/
theorem fldLoop_bump_post (cfg : Cfg) (kind : FldKind) (onDest : Bool) (B oD oM : Nat) (hoM : 0 < oM) (f d s m sl : Nat)
    {d0 s0 j0 : Nat} {st st1 : St} (hall : ∀ a, st.mapped a = true ∧ st.rd a = true) (hrw : RW st oD oM)
    (hcp : CopiedN st st1 d0 s0 j0) (hin : oD ≤ d0 ∧ d0 + j0 ≤ oD + oM)
    (hg : FldGo kind st1 s m sl) (hb : (if onDest then d else s) = B) :
    ∃ st', exec (fldLoop cfg kind onDest B oD oM (f+1) d s m sl) st1 = .ok (.inl ESOVRLP, st') ∧
      ClearedPost cfg oD oM ESOVRLP st st' := by
  rw [fldLoop_bump cfg kind onDest B oD oM f _ _ _ _ st1 (by rw [hcp.1.mapped, hcp.1.rd]; exact hall _) hg hb]
  obtain ⟨st', he', hp⟩ := handleError_cleared cfg oD oM ESOVRLP st1 (RW.of_sameMeta hcp.1 hrw) hoM
  exact ⟨st', by simp [exec_bind, he'], .of_copied hcp hin hp⟩

/-- the round at which the twin loops meet their bumper -/
def fldGap (dest src : Nat) : Nat := if dest < src then src - dest else dest - src

theorem fldGap_spec (dest src : Nat) :
    (dest < src ∧ fldGap dest src = src - dest) ∨ (src ≤ dest ∧ fldGap dest src = dest - src) := by
  unfold fldGap; split <;> omega

theorem FldCont.lt {kind : FldKind} {dmax slen j : Nat} (h : FldCont kind (dmax - j) (slen - j))
    (hf : kind = .fld → slen ≤ dmax) : j < fldFuel kind dmax slen ∧ j < dmax ∧ j < slen ∧ (kind = .fldout → j + 1 < dmax) := by
  cases kind <;> simp only [FldCont, fldFuel] at h ⊢
  · have := hf rfl
    exact ⟨by omega, by omega, by omega, nofun⟩
  · exact ⟨by omega, by omega, by omega, nofun⟩
  · exact ⟨by omega, by omega, by omega, fun _ => by omega⟩

/-- **The twin loops, run to their exit.**  `n` rounds in which the condition holds and the bumper is not met (`n ≤ fldGap`:
up to there no round reads a cell an earlier one wrote, whatever the placement); then the test of round `n`, on the
memory `st1` the `n` copies left, decides: it holds at the bumper — the overlap exit —, or it fails — the loop is left. -/
theorem fldCall_exit (kind : FldKind) (cfg : Cfg) (dest dmax src slen n : Nat) (st : St)
    (hall : ∀ a, st.mapped a = true ∧ st.rd a = true) (hrw : RW st dest dmax) (hpos : 0 < dmax)
    (hfld : kind = .fld → slen ≤ dmax) (hg : n ≤ fldGap dest src)
    (hgo : ∀ j, j < n → FldCont kind (dmax - j) (slen - j) ∧ (kind = .fldin → st.data (src + j) ≠ 0)) :
    ∃ st1, CopiedN st st1 dest src n ∧
      (FldGo kind st1 (src + n) (dmax - n) (slen - n) → n = fldGap dest src →
        ∃ st', exec (fldCall kind cfg dest dmax src slen) st = .ok (.inl ESOVRLP, st') ∧
          ClearedPost cfg dest dmax ESOVRLP st st') ∧
      (¬ FldGo kind st1 (src + n) (dmax - n) (slen - n) →
        exec (fldCall kind cfg dest dmax src slen) st = .ok (.inr (dest + n, dmax - n), st1)) := by
  have hnd : n ≤ dmax := by
    cases n with
    | zero => omega
    | succ k => have := ((hgo k (by omega)).1.lt hfld).2.1; omega
  -- the same for both twins: `onDest`, `B` with the bumper met at round `fldGap` exactly
  have key : ∀ (onDest : Bool) (B : Nat), (∀ j, (if onDest then dest + j else src + j) = B ↔ j = fldGap dest src) →
      ∃ st1, CopiedN st st1 dest src n ∧
      (FldGo kind st1 (src + n) (dmax - n) (slen - n) → n = fldGap dest src →
        ∃ st', exec (fldLoop cfg kind onDest B dest dmax (fldFuel kind dmax slen) dest src dmax slen) st =
            .ok (.inl ESOVRLP, st') ∧
          ClearedPost cfg dest dmax ESOVRLP st st') ∧
      (¬ FldGo kind st1 (src + n) (dmax - n) (slen - n) →
        exec (fldLoop cfg kind onDest B dest dmax (fldFuel kind dmax slen) dest src dmax slen) st =
          .ok (.inr (dest + n, dmax - n), st1)) := by
    intro onDest B hB
    have hfuel : n ≤ fldFuel kind dmax slen := by
      cases n with
      | zero => omega
      | succ k => have := ((hgo k (by omega)).1.lt hfld).1; omega
    obtain ⟨f, hf⟩ : ∃ f, fldFuel kind dmax slen = f + n := ⟨_, (Nat.sub_add_cancel hfuel).symm⟩
    obtain ⟨st1, hcp, he⟩ := fldLoop_iter cfg kind onDest B dest dmax n f dest src dmax slen st hall
      (fun i hi => hrw i (by omega)) (fun i j hij hj => by have := fldGap_spec dest src; omega)
      (fun j hj h => by have := (hB j).1 h; omega) hgo
    rw [hf, he]
    have hrd1 : st1.mapped (src + n) = true ∧ st1.rd (src + n) = true := by rw [hcp.1.mapped, hcp.1.rd]; exact hall _
    refine ⟨st1, hcp, fun hgo1 hn => ?_, fun hstop => ?_⟩
    · obtain ⟨f', rfl⟩ : ∃ f', f = f' + 1 := ⟨f - 1, by have := (hgo1.1.lt hfld).1; omega⟩
      exact fldLoop_bump_post cfg kind onDest B dest dmax hpos f' _ _ _ _ hall hrw hcp ⟨Nat.le_refl _, by omega⟩ hgo1
        ((hB n).2 hn)
    · cases f with
      | zero => rw [fldLoop_zero]; rfl
      | succ f => exact fldLoop_stop cfg kind onDest B dest dmax f _ _ _ _ st1 hrd1 hstop
  unfold fldCall
  by_cases hlt : dest < src
  · rw [if_pos hlt]
    exact key true src fun j => by simp only [if_true, fldGap, if_pos hlt]; omega
  · rw [if_neg hlt]
    exact key false dest fun j => by simp only [Bool.false_eq_true, if_false, fldGap, if_neg hlt]; omega

theorem fldTail_ok (dest dmax src n : Nat) (st st1 : St) (hrw : RW st dest dmax) (hn : n ≤ dmax)
    (hcp : CopiedN st st1 dest src n) :
    ∃ st', exec (fldTail (.inr (dest + n, dmax - n))) st1 = .ok (EOK, st') ∧ FldOk dest dmax src n st st' := by
  have hrw1 : RW st1 (dest + n) (dmax - n) := (RW.of_sameMeta hcp.1 hrw).sub (by omega) (by omega)
  obtain ⟨st2, he2, hm2, hd2⟩ := nullSlack_ok (dest + n) (dmax - n) st1 hrw1
  refine ⟨st2, by simp [fldTail, exec_bind, he2], hm2.trans hcp.1, fun a => ?_⟩
  rw [hd2 a, hcp.2 a]
  by_cases h1 : dest ≤ a ∧ a < dest + n
  · rw [if_neg (by omega), if_pos h1, if_pos h1]
  · rw [if_neg h1, if_neg h1]
    by_cases h2 : dest + n ≤ a ∧ a < dest + n + (dmax - n)
    · rw [if_pos h2, if_pos (by omega)]
    · rw [if_neg h2, if_neg (by omega)]

/-- **Every exit of the body behind the `slen ≤ dmax` check**, generic in the kind: `n` rounds go on, then the test of round
`n` (on `st1`) holds at the bumper — ESOVRLP — or fails — EOK with the exact memory. -/
theorem fldBody_exit (kind : FldKind) (cfg : Cfg) (dest dmax src slen n : Nat) (st : St)
    (hall : ∀ a, st.mapped a = true ∧ st.rd a = true) (hrw : RW st dest dmax) (hpos : 0 < dmax)
    (hs : src ≠ 0) (hle2 : slen ≤ dmax) (hg : n ≤ fldGap dest src)
    (hgo : ∀ j, j < n → FldCont kind (dmax - j) (slen - j) ∧ (kind = .fldin → st.data (src + j) ≠ 0)) :
    ∃ st1, CopiedN st st1 dest src n ∧
      (FldGo kind st1 (src + n) (dmax - n) (slen - n) → n = fldGap dest src →
        ∃ st', exec (fldBody kind cfg dest dmax src slen) st = .ok (ESOVRLP, st') ∧
          FldPost kind cfg dest dmax src slen st st' ESOVRLP) ∧
      (¬ FldGo kind st1 (src + n) (dmax - n) (slen - n) →
        ∃ st', exec (fldBody kind cfg dest dmax src slen) st = .ok (EOK, st') ∧
          FldPost kind cfg dest dmax src slen st st' EOK ∧ FldOk dest dmax src n st st') := by
  obtain ⟨st1, hcp, hov, hok⟩ := fldCall_exit kind cfg dest dmax src slen n st hall hrw hpos (fun _ => hle2) hg hgo
  have hn : n ≤ slen ∧ n ≤ dmax ∧ (kind = .fldout → n < dmax) := by
    cases n with
    | zero => exact ⟨by omega, by omega, fun _ => hpos⟩
    | succ k => have := (hgo k (by omega)).1.lt (fun _ => hle2); exact ⟨by omega, by omega, fun h => by have := this.2.2.2 h; omega⟩
  rw [fldBody_fits kind cfg dest dmax src slen hs hle2]
  refine ⟨st1, hcp, fun h1 h2 => ?_, fun h => ?_⟩
  · obtain ⟨st', he, hp⟩ := hov h1 h2
    exact ⟨st', by rw [exec_bind, he]; rfl, .of_ovrlp hs hle2 hpos (exec_perm _ _ he) hp⟩
  · obtain ⟨st', he, hfo⟩ := fldTail_ok dest dmax src n st st1 hrw hn.2.1 hcp
    exact ⟨st', by rw [exec_bind, hok h]; exact he,
      hfo.post hs hle2 hn.2.1 (fun h => h.elim hn.2.2 fun h => by omega), hfo⟩

end SafeC
