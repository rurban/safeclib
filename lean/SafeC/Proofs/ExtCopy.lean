import SafeC.Proofs.Strcpy
/-!
# What the extension files share about a copying call: its frame (`FramePost`)

Where the terminator of the result is, is `ShapeAt` of `Proofs/CopySteps.lean` (delivered by `copyLoop_full`, seen from the loop's start).
-/
namespace SafeC

structure FramePost (dest ext : Nat) (st st' : St) : Prop where
  mapped : st'.mapped = st.mapped
  rd : st'.rd = st.rd
  wr : st'.wr = st.wr
  strays : st'.strays = st.strays
  frame : ∀ a, ¬ (dest ≤ a ∧ a < dest + ext) → st'.data a = st.data a

theorem FramePost.refl (dest ext : Nat) (st : St) : FramePost dest ext st st :=
  ⟨rfl, rfl, rfl, rfl, fun _ _ => rfl⟩

theorem FramePost.upd (oD oM d v : Nat) (st : St) (h : oD ≤ d ∧ d < oD + oM) : FramePost oD oM st (st.upd d v) :=
  ⟨rfl, rfl, rfl, rfl, fun a ha => St.upd_data_ne _ _ _ _ (by omega)⟩

theorem FramePost.of_safe {cfg : Cfg} {dest ext code : Nat} {st st' : St}
    (h : SafePost cfg dest ext st st' code) : FramePost dest ext st st' :=
  ⟨h.mapped, h.rd, h.wr, h.strays, h.frame⟩

theorem FramePost.of_copy {cfg : Cfg} {dest ext code : Nat} {st st' : St}
    (h : CopyPost cfg dest ext st st' code) : FramePost dest ext st st' :=
  ⟨h.mapped, h.rd, h.wr, h.strays, h.frame⟩

theorem FramePost.of_cleared {α : Type} {p : Prog α} {r : α} {cfg : Cfg} {dest ext code : Nat} {st st' : St}
    (he : exec p st = .ok (r, st')) (h : ClearedPost cfg dest ext code st st') : FramePost dest ext st st' :=
  ⟨(exec_perm _ _ he).1, (exec_perm _ _ he).2.1, (exec_perm _ _ he).2.2, h.strays, h.frame⟩

theorem FramePost.mono {dest ext ext' : Nat} {st st' : St} (h : FramePost dest ext st st') (hle : ext ≤ ext') :
    FramePost dest ext' st st' :=
  ⟨h.mapped, h.rd, h.wr, h.strays, fun a ha => h.frame a (by omega)⟩

theorem FramePost.trans {dest ext : Nat} {a b c : St} (h1 : FramePost dest ext a b) (h2 : FramePost dest ext b c) :
    FramePost dest ext a c :=
  ⟨h2.mapped.trans h1.mapped, h2.rd.trans h1.rd, h2.wr.trans h1.wr, h2.strays.trans h1.strays,
   fun x hx => (h2.frame x hx).trans (h1.frame x hx)⟩

end SafeC
