import SafeC.Proofs.AccCopyEntry
/-!
# Footprint of `stpcpy_s` / `stpncpy_s` (same bumper loop as the copy family, plus the `srcbos` countdown and the
same-pointer walk)
-/
namespace SafeC
open Gen

variable {R W : Nat → Prop} {d : Nat → Nat}

theorem AccS_stpEok (cfg : Cfg) (isN : Bool) (dest dmax : Nat) (hpos : 0 < dmax) (hw : ∀ a, Cells dest dmax a → W a) :
    AccS R W d (stpEok cfg isN dest dmax) (fun _ _ => True) := by
  unfold stpEok
  refine AccS.ite (fun _ => AccS.thenPure (AccS_nullSlack dest dmax hw)) fun _ => ?_
  exact AccS.ite (fun _ => AccS.storeBind (hw _ ⟨Nat.le_refl _, by omega⟩) (AccS.pure _ trivial)) fun _ =>
    AccS.pure _ trivial

theorem AccS_stpLoop (cfg : Cfg) (isN onDest : Bool) (bumper oD oM : Nat) (sb : Bos) :
    ∀ (dmax dest src slen : Nat) (d : Nat → Nat), Sep onDest bumper dest src →
    (∀ a, (onDest = false → a < bumper) → Str d src (copyCut isN dmax slen) a → R a) →
    oD ≤ dest → dest + dmax ≤ oD + oM → (∀ a, Cells oD oM a → W a) → W oD →
    AccS R W d (stpLoop cfg isN onDest bumper oD oM sb dmax dest src slen) (fun _ _ => True) := by
  intro dmax
  induction dmax with
  | zero =>
    intro dest src slen d _ _ _ _ hwo hw0
    exact AccS_errRet cfg oD oM _ _ hwo hw0
  | succ n ih =>
    intro dest src slen d hsep hr hlo hhi hwo hw0
    have hwd : ∀ a, Cells dest (n+1) a → W a := fun a ha => hwo a ha.within
    refine AccS.ite (fun _ => AccS_errRet cfg oD oM _ _ hwo hw0) fun hb =>
      AccS.ite (fun _ => AccS_stpEok cfg isN dest (n+1) (by omega) hwd) fun hs => ?_
    refine AccS.loadBind (hr src (hsep.src_lt hb) (Str.head (copyCut_pos hs))) ?_
    refine AccS.storeBind (hwd _ ⟨by omega, by omega⟩) ?_
    refine AccS.ite (fun _ => AccS_stpEok cfg isN dest (n+1) (by omega) hwd) fun hc => ?_
    have unt : AccS R W (updF d dest (d src)) (do
        (if cfg.fixStpUnterm then handleError cfg oD oM ESUNTERM else handlerS ESUNTERM)
        pure (0, ESUNTERM) : Prog (Nat × Nat)) (fun _ _ => True) :=
      AccS.thenPure (AccS.ite (fun _ => AccS_handleError cfg oD oM _ hwo hw0) fun _ => AccS.handlerSBind _ (AccS.pure _ trivial))
    have hrec : AccS R W (updF d dest (d src)) (stpLoop cfg isN onDest bumper oD oM sb n (dest+1) (src+1)
        (if isN = true then slen - 1 else slen + 1)) (fun _ _ => True) :=
      ih (dest+1) (src+1) _ _ (hsep.next hb)
        (hsep.str_rest hc (copyCut_step hs fun h => by rw [if_pos h]) hr) (by omega) (by omega) hwo hw0
    generalize (if isN = true then slen - 1 else slen + 1) = s' at hrec ⊢
    cases sb with
    | none => simp only [Bool.false_eq_true, if_false]; exact hrec
    | some b => exact AccS.ite (fun _ => unt) fun _ => hrec

/-- `dest == src`: walk to the terminator inside `dmax` -/
theorem AccS_stpSameWalk (cfg : Cfg) (isN : Bool) (oD oM : Nat) :
    ∀ (dmax dest : Nat) (d : Nat → Nat), (∀ a, Cells dest dmax a → R a) →
    oD ≤ dest → dest + dmax ≤ oD + oM → (∀ a, Cells oD oM a → W a) → W oD →
    AccS R W d (stpSameWalk cfg isN oD oM dmax dest) (fun _ _ => True) := by
  intro dmax
  induction dmax with
  | zero =>
    intro dest d _ _ _ hwo hw0
    exact AccS_errRet cfg oD oM _ _ hwo hw0
  | succ n ih =>
    intro dest d hr hlo hhi hwo hw0
    refine AccS.loadBind (hr _ ⟨Nat.le_refl _, by omega⟩) ?_
    exact AccS.ite (fun _ => AccS_stpEok cfg isN dest (n+1) (by omega) (fun a ha => hwo a ha.within)) fun _ =>
      ih (dest+1) d (fun a ha => hr a ha.within) (by omega) (by omega) hwo hw0

theorem AccS_stpBody (cfg : Cfg) (isN : Bool) (dest dmax src slen : Nat) (sb : Bos)
    (hrs : ∀ a, Str d src (copyCut isN dmax slen) a → R a)
    (hrd : ∀ a, Cells dest dmax a → R a) (hw : ∀ a, Cells dest dmax a → W a) (hw0 : W dest) :
    AccS R W d (stpBody cfg isN dest dmax src slen sb) (fun _ _ => True) := by
  refine AccS.ite (fun _ => AccS_stpSameWalk cfg isN dest dmax dmax dest d hrd (Nat.le_refl _) (Nat.le_refl _) hw hw0) fun _ => ?_
  refine AccS.ite (fun _ => ?_) (fun _ => ?_)
  · exact AccS_stpLoop cfg isN true src dest dmax sb dmax dest src slen d (Or.inl ⟨rfl, by omega, Nat.le_refl _⟩)
      (fun a _ h => hrs a h) (Nat.le_refl _) (Nat.le_refl _) hw hw0
  · exact AccS_stpLoop cfg isN false dest dest dmax sb dmax dest src slen d (Or.inr ⟨rfl, by omega, Nat.le_refl _⟩)
      (fun a _ h => hrs a h) (Nat.le_refl _) (Nat.le_refl _) hw hw0

theorem stpcpy_s_accs (cfg : Cfg) (dest dmax src : Nat) (db sb : Bos)
    (hrs : src ≠ 0 → ∀ a, Str d src dmax a → R a)
    (hrd : dest ≠ 0 → ∀ a, Cells dest dmax a → R a) (hw : dest ≠ 0 → ∀ a, Cells dest dmax a → W a) :
    AccS R W d (stpcpy_s cfg dest dmax src db sb) (fun _ _ => True) := by
  refine AccS.ite (fun _ => AccS.handlerSBind _ (AccS.pure _ trivial)) fun hd => ?_
  refine AccS.ite (fun _ => AccS.handlerSBind _ (AccS.pure _ trivial)) fun hm => ?_
  have h0 : W dest := hw hd _ ⟨Nat.le_refl _, by omega⟩
  refine AccS_chkDmaxClearG _ cfg dest dmax db _ hm (hrd hd) (hw hd) fun _ => ?_
  refine AccS.ite (fun _ => AccS_errRet cfg dest dmax _ _ (hw hd) h0) fun hs => ?_
  exact AccS_stpBody cfg false dest dmax src 0 sb (hrs hs) (hrd hd) (hw hd) h0

/-- `hob`: as for `strncpy_s`, the `slen > srcbos` exit works on `destbos` cells -/
theorem stpncpy_s_accs (cfg : Cfg) (dest dmax src slen : Nat) (db sb : Bos)
    (hob : dest ≠ 0 → ∀ b s, db = some b → sb = some s → s < slen → (∀ a, Cells dest b a → R a) ∧ (∀ a, Cells dest b a → W a))
    (hrs : src ≠ 0 → ∀ a, Str d src (min dmax slen) a → R a)
    (hrd : dest ≠ 0 → ∀ a, Cells dest dmax a → R a) (hw : dest ≠ 0 → ∀ a, Cells dest dmax a → W a) :
    AccS R W d (stpncpy_s cfg dest dmax src slen db sb) (fun _ _ => True) := by
  refine AccS.ite (fun _ => AccS.handlerSBind _ (AccS.pure _ trivial)) fun hd => ?_
  refine AccS.ite (fun _ => AccS.handlerSBind _ (AccS.pure _ trivial)) fun hm => ?_
  have h0 : W dest := hw hd _ ⟨Nat.le_refl _, by omega⟩
  refine AccS_chkDmaxClearG _ cfg dest dmax db _ hm (hrd hd) (hw hd) (fun hle => ?_)
  refine AccS.ite (fun _ => AccS_errRet cfg dest dmax _ _ (hw hd) h0) fun hs => ?_
  refine AccS.ite (fun _ => AccS_lenClear cfg dest dmax _ _ hm (hrd hd) (hw hd)) fun _ => ?_
  have body := AccS_stpBody (d := d) cfg true dest dmax src slen sb (hrs hs) (hrd hd) (hw hd) h0
  cases sb with
  | none => exact body
  | some s =>
    exact AccS.ite (fun hgt => AccS.bind (AccS_bosOverflow cfg dest dmax db hm (fun b hb => hob hd b s hb rfl hgt) hle (hw hd))
      (fun _ _ _ => AccS.pure _ trivial)) fun _ => body

end SafeC
