import SafeC.Proofs.SortShape
import SafeC.Proofs.SortRot
/-!
# qsort_s model: heap order of the Leonardo trees (definitions and frame lemmas for `qsort_sorted`)

On top of the forest shape (`Forest`/`Shape`, Proofs/SortShape.lean): `Heap` = one Leonardo tree is heap-ordered, `Heaps` = every
tree of the forest is, `Roots` = the roots ascend from left to right (the "trinkle" invariant).  The array is viewed as a total
function `St.g`; `rot` is what `cycle` does to that function (Proofs/SortRot.lean).
-/
namespace SafeC.Sort
variable {α : Type}

/-- the comparator is a total preorder `le`, whatever the call number and the positions of its arguments -/
structure Consistent (cmp : Nat → Nat → Nat → α → α → Int) (le : α → α → Prop) : Prop where
  total : ∀ x y, le x y ∨ le y x
  trans : ∀ {x y z}, le x y → le y z → le x z
  nonneg : ∀ k i j x y, 0 ≤ cmp k i j x y ↔ le y x
  nonpos : ∀ k i j x y, cmp k i j x y ≤ 0 ↔ le x y

theorem Consistent.refl {cmp : Nat → Nat → Nat → α → α → Int} {le : α → α → Prop} (h : Consistent cmp le) (x : α) : le x x := by
  rcases h.total x x with h' | h' <;> exact h'

/-- position `j` belongs to the tree of order `k` rooted at `r` (which occupies `(r - leo k, r]`) -/
def InTree (k r j : Nat) : Prop := r < j + leo k ∧ j ≤ r

theorem InTree.root (k r : Nat) : InTree k r r := ⟨by have := leo_pos k; omega, Nat.le_refl _⟩

theorem InTree.le_one {k r j : Nat} (hk : k ≤ 1) : InTree k r j ↔ j = r := by
  unfold InTree; rw [leo_le_one hk]; omega

theorem InTree.not_of_lt {k r j : Nat} (h : r < j) : ¬ InTree k r j := fun h' => Nat.not_lt.2 h'.2 h

theorem InTree.not_of_le {k r j : Nat} (hr : leo k ≤ r) (h : j ≤ r - leo k) : ¬ InTree k r j := fun h' => by
  have := h'.1; omega

/-- the tree of order `k + 2` at `r` that fits = its root, the right subtree (order `k`, at `r - 1`) and the left subtree (order
    `k + 1`, at `r - 1 - leo k`); both fit, lie below `r`, and are disjoint -/
structure Node (k r : Nat) : Prop where
  fitR : leo k ≤ r - 1 + 1
  fitL : leo (k + 1) ≤ r - 1 - leo k + 1
  split : ∀ j, InTree (k + 2) r j ↔ j = r ∨ InTree (k + 1) (r - 1 - leo k) j ∨ InTree k (r - 1) j
  ltL : ∀ {j}, InTree (k + 1) (r - 1 - leo k) j → j < r - leo k
  gtR : ∀ {j}, InTree k (r - 1) j → r - 1 - leo k < j ∧ j < r

theorem node {k r : Nat} (hfit : leo (k + 2) ≤ r + 1) : Node k r := by
  have := leo_succ_succ k
  have := leo_pos (k + 1)
  exact ⟨by omega, by omega, fun j => by unfold InTree; omega, fun {j} h => by unfold InTree at h; omega,
    fun {j} h => by unfold InTree at h; omega⟩

namespace Node
variable {k r : Nat} (N : Node k r)
include N
theorem inL {j : Nat} (h : InTree (k + 1) (r - 1 - leo k) j) : InTree (k + 2) r j := (N.split j).2 (.inr (.inl h))
theorem inR {j : Nat} (h : InTree k (r - 1) j) : InTree (k + 2) r j := (N.split j).2 (.inr (.inr h))
theorem below {j : Nat} (h : InTree (k + 1) (r - 1 - leo k) j ∨ InTree k (r - 1) j) : j < r := by
  rcases h with h | h
  · have := N.ltL h; omega
  · exact (N.gtR h).2
theorem disj {j : Nat} (h : InTree (k + 1) (r - 1 - leo k) j) : ¬ InTree k (r - 1) j := fun h' => by
  have := N.ltL h; have := (N.gtR h').1; omega
end Node

/-- the tree of order `k` rooted at `r` is heap-ordered: right child (order `k-2`) at `r-1`, left child (order `k-1`) at
    `r-1-leo (k-2)` -/
def Heap (le : α → α → Prop) (g : Nat → α) : Nat → Nat → Prop
  | 0, _ => True
  | 1, _ => True
  | k + 2, r => le (g (r - 1)) (g r) ∧ le (g (r - 1 - leo k)) (g r) ∧ Heap le g k (r - 1) ∧ Heap le g (k + 1) (r - 1 - leo k)

def SubHeaps (le : α → α → Prop) (g : Nat → α) : Nat → Nat → Prop
  | k + 2, r => Heap le g k (r - 1) ∧ Heap le g (k + 1) (r - 1 - leo k)
  | _, _ => True

/-- every tree of the forest `os` (smallest first, rooted at `r`, the next at `r - leo o`, …) is heap-ordered -/
def Heaps (le : α → α → Prop) (g : Nat → α) : List Nat → Nat → Prop
  | [], _ => True
  | o :: os, r => Heap le g o r ∧ Heaps le g os (r - leo o)

def Roots (le : α → α → Prop) (g : Nat → α) : List Nat → Nat → Prop
  | o :: o' :: os, r => le (g (r - leo o)) (g r) ∧ Roots le g (o' :: os) (r - leo o)
  | _, _ => True

theorem Heap.of_sub {le : α → α → Prop} {g : Nat → α} {k r : Nat} (h : Heap le g k r) : SubHeaps le g k r := by
  match k with
  | 0 => trivial
  | 1 => trivial
  | k + 2 => exact ⟨h.2.2.1, h.2.2.2⟩

theorem Heap.congr_le {le : α → α → Prop} {g g' : Nat → α} : ∀ {k r : Nat}, (∀ j, j ≤ r → g' j = g j) → Heap le g k r → Heap le g' k r
  | 0, _, _, _ => trivial
  | 1, _, _, _ => trivial
  | k + 2, r, hg, h => by
    obtain ⟨h1, h2, h3, h4⟩ := h
    refine ⟨?_, ?_, Heap.congr_le (fun j hj => hg j (by omega)) h3, Heap.congr_le (fun j hj => hg j (by omega)) h4⟩
    · rw [hg _ (by omega), hg _ (Nat.le_refl _)]; exact h1
    · rw [hg _ (by omega), hg _ (Nat.le_refl _)]; exact h2

theorem Heap.congr_tree {le : α → α → Prop} {g g' : Nat → α} : ∀ {k r : Nat}, leo k ≤ r + 1 →
    (∀ j, InTree k r j → g' j = g j) → Heap le g k r → Heap le g' k r
  | 0, _, _, _, _ => trivial
  | 1, _, _, _, _ => trivial
  | k + 2, r, hfit, hg, ⟨h1, h2, h3, h4⟩ => by
    have N := node hfit
    refine ⟨?_, ?_, Heap.congr_tree N.fitR (fun j hj => hg j (N.inR hj)) h3,
      Heap.congr_tree N.fitL (fun j hj => hg j (N.inL hj)) h4⟩
    · rw [hg _ (N.inR (.root ..)), hg _ (.root ..)]; exact h1
    · rw [hg _ (N.inL (.root ..)), hg _ (.root ..)]; exact h2

theorem SubHeaps.congr_lt {le : α → α → Prop} {g g' : Nat → α} {k r : Nat} (hfit : leo k ≤ r + 1) (hg : ∀ j, j < r → g' j = g j)
    (h : SubHeaps le g k r) : SubHeaps le g' k r := by
  match k, h with
  | 0, _ => trivial
  | 1, _ => trivial
  | k + 2, ⟨h3, h4⟩ =>
    have N := node hfit
    exact ⟨Heap.congr_tree N.fitR (fun j hj => hg j (N.below (.inr hj))) h3,
      Heap.congr_tree N.fitL (fun j hj => hg j (N.below (.inl hj))) h4⟩

theorem Heap.root_max {le : α → α → Prop} {g : Nat → α} (hrefl : ∀ x, le x x) (htrans : ∀ {x y z}, le x y → le y z → le x z) :
    ∀ {k r j : Nat}, leo k ≤ r + 1 → Heap le g k r → InTree k r j → le (g j) (g r)
  | 0, r, j, _, _, hj => by rw [(InTree.le_one (by decide)).1 hj]; exact hrefl _
  | 1, r, j, _, _, hj => by rw [(InTree.le_one (by decide)).1 hj]; exact hrefl _
  | k + 2, r, j, hfit, ⟨h1, h2, h3, h4⟩, hj => by
    have N := node hfit
    rcases (N.split j).1 hj with rfl | hl | hr
    · exact hrefl _
    · exact htrans (Heap.root_max hrefl htrans N.fitL h4 hl) h2
    · exact htrans (Heap.root_max hrefl htrans N.fitR h3 hr) h1

theorem Heaps.congr_le {le : α → α → Prop} {g g' : Nat → α} : ∀ {os : List Nat} {r : Nat}, (∀ j, j ≤ r → g' j = g j) →
    Heaps le g os r → Heaps le g' os r
  | [], _, _, _ => trivial
  | _ :: _, _, hg, h => ⟨Heap.congr_le hg h.1, Heaps.congr_le (fun j hj => hg j (by omega)) h.2⟩

theorem Roots.congr_le {le : α → α → Prop} {g g' : Nat → α} : ∀ {os : List Nat} {r : Nat}, (∀ j, j ≤ r → g' j = g j) →
    Roots le g os r → Roots le g' os r
  | [], _, _, _ => trivial
  | [_], _, _, _ => trivial
  | _ :: _ :: _, _, hg, h => by
    refine ⟨?_, Roots.congr_le (fun j hj => hg j (by omega)) h.2⟩
    rw [hg _ (by omega), hg _ (Nat.le_refl _)]; exact h.1

theorem forest_max {le : α → α → Prop} {g : Nat → α} (hrefl : ∀ x, le x x) (htrans : ∀ {x y z}, le x y → le y z → le x z) :
    ∀ (os : List Nat) (r : Nat), (os.map leo).sum = r + 1 → Heaps le g os r → Roots le g os r → ∀ j, j ≤ r → le (g j) (g r)
  | [], _, hs, _, _, _, _ => by simp at hs
  | [o], r, hs, hh, _, j, hj => by
    simp at hs
    exact Heap.root_max hrefl htrans (by omega) hh.1 ⟨by omega, hj⟩
  | o :: o' :: os, r, hs, hh, hr, j, hj => by
    simp only [List.map_cons, List.sum_cons] at hs
    by_cases hjt : r < j + leo o
    · exact Heap.root_max hrefl htrans (by omega) hh.1 ⟨hjt, hj⟩
    · have := forest_max hrefl htrans (o' :: os) (r - leo o) (by simp only [List.map_cons, List.sum_cons]; omega) hh.2 hr.2 j (by omega)
      exact htrans this hr.1

end SafeC.Sort
