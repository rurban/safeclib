import SafeC.Models.Printf
import SafeC.Proofs.Fmt
/-!
# The full printf engine model against its directive-parser abstraction (C09)

`SafeC.Printf` (Models/Printf.lean) is the executable model of `safec_vsnprintf_s` with arguments, output and run-time
failures; `SafeC.Fmt.engLoop` (Models/Fmt.lean) is the format-only abstraction the C09 correspondence run compares
with the C.  Here: whenever the full engine gets through a conversion specification, the abstraction reads the same
characters and says `next` (`directive_ok_next`); by induction over the loop, whenever the full engine returns
normally the abstraction did not stop (`engLoop_ok_none`).  Hence a format on which the abstraction stops — every format
with an `n` conversion — makes the full engine take an error exit, for EVERY argument list, sink, buffer size and start
state (`engine_error_of_rejects`).
-/
namespace SafeC.Printf
open SafeC.Gen

theorem bind_ok {α β : Type} {x : M α} {f : α → M β} {b : β} (h : x >>= f = .ok b) : ∃ a, x = .ok a ∧ f a = .ok b := by
  cases x with
  | error e => cases h
  | ok a => exact ⟨a, rfl, h⟩

/-- a conversion that ends in `pure (r0, …)` hands back the rest `r0` -/
theorem bind_pure_rest {α : Type} {x : M α} {g : α → List Arg × St} {r0 r : Str} {a' : List Arg} {s' : St}
    (h : (x >>= fun y => pure (r0, g y)) = .ok (r, a', s')) : r0 = r := by
  obtain ⟨y, _, h⟩ := bind_ok h
  exact (Prod.mk.inj (Except.ok.inj h)).1

theorem parseFlags_abs : ∀ (f : Str) (fl : Flags),
    (parseFlags f fl).2 = f.dropWhile SafeC.Fmt.engIsFlag ∧ (parseFlags f fl).1.longDouble = fl.longDouble := by
  intro f
  induction f with
  | nil => intro fl; exact ⟨rfl, rfl⟩
  | cons c r ih =>
    intro fl
    unfold parseFlags
    by_cases h0 : c = '0'
    · subst h0; simpa [SafeC.Fmt.engIsFlag] using ih { fl with zeropad := true }
    by_cases h1 : c = '-'
    · subst h1; simpa [SafeC.Fmt.engIsFlag] using ih { fl with left := true }
    by_cases h2 : c = '+'
    · subst h2; simpa [SafeC.Fmt.engIsFlag] using ih { fl with plus := true }
    by_cases h3 : c = ' '
    · subst h3; simpa [SafeC.Fmt.engIsFlag] using ih { fl with space := true }
    by_cases h4 : c = '#'
    · subst h4; simpa [SafeC.Fmt.engIsFlag] using ih { fl with hash := true }
    simp [h0, h1, h2, h3, h4, SafeC.Fmt.engIsFlag]

theorem atoi_abs : ∀ (f : Str) (i : Nat), (atoi f i).2 = SafeC.Fmt.skipDigits f := by
  intro f
  induction f with
  | nil => intro i; rfl
  | cons c r ih =>
    intro i
    unfold atoi
    by_cases hd : c.isDigit = true
    · simp only [hd, if_true, ih, SafeC.Fmt.skipDigits_cons]
    · simp only [hd, SafeC.Fmt.skipDigits_cons]; rfl

theorem parseWidth_abs {f : Str} {fl : Flags} {args : List Arg} {fl' : Flags} {w : Nat} {f' : Str} {a' : List Arg}
    (h : parseWidth f fl args = .ok (fl', w, f', a')) : f' = SafeC.Fmt.engWidth f ∧ fl'.longDouble = fl.longDouble := by
  cases f with
  | nil => simp only [parseWidth, Except.ok.injEq, Prod.mk.injEq] at h; obtain ⟨rfl, _, rfl, _⟩ := h; exact ⟨rfl, rfl⟩
  | cons c r =>
    unfold parseWidth at h
    by_cases hd : c.isDigit = true
    · simp only [hd, if_true, Except.ok.injEq, Prod.mk.injEq] at h
      obtain ⟨rfl, _, rfl, _⟩ := h
      exact ⟨by simp [SafeC.Fmt.engWidth, hd, atoi_abs], rfl⟩
    · by_cases hs : c = '*'
      · subst hs
        simp only [hd, if_true] at h
        obtain ⟨⟨v, as⟩, _, h⟩ := bind_ok h
        split at h <;> (simp only [Except.ok.injEq, Prod.mk.injEq] at h; obtain ⟨rfl, _, rfl, _⟩ := h)
        · exact ⟨by simp [SafeC.Fmt.engWidth, hd], rfl⟩
        · exact ⟨by simp [SafeC.Fmt.engWidth, hd], rfl⟩
      · simp only [hd, hs, if_false] at h
        obtain ⟨rfl, _, rfl, _⟩ := h
        exact ⟨by simp [SafeC.Fmt.engWidth, hd, hs], rfl⟩

theorem parsePrec_abs {fx : Fixes} {f : Str} {fl : Flags} {args : List Arg} {fl' : Flags} {p : Nat} {f' : Str} {a' : List Arg}
    (h : parsePrec fx f fl args = .ok (fl', p, f', a')) : f' = SafeC.Fmt.engPrec f ∧ fl'.longDouble = fl.longDouble := by
  cases f with
  | nil => simp only [parsePrec, Except.ok.injEq, Prod.mk.injEq] at h; obtain ⟨rfl, _, rfl, _⟩ := h; exact ⟨rfl, rfl⟩
  | cons c r =>
    unfold parsePrec at h
    by_cases hc : c = '.'
    · subst hc
      simp only [if_true] at h
      cases r with
      | nil => simp only [Except.ok.injEq, Prod.mk.injEq] at h; obtain ⟨rfl, _, rfl, _⟩ := h; exact ⟨rfl, rfl⟩
      | cons c' r' =>
        by_cases hd : c'.isDigit = true
        · simp only [hd, if_true, Except.ok.injEq, Prod.mk.injEq] at h
          obtain ⟨rfl, _, rfl, _⟩ := h
          exact ⟨by simp [SafeC.Fmt.engPrec, SafeC.Fmt.engWidth, hd, atoi_abs], rfl⟩
        · by_cases hs : c' = '*'
          · subst hs
            obtain ⟨⟨v, as⟩, _, h⟩ := bind_ok h
            split at h <;> (simp only [Except.ok.injEq, Prod.mk.injEq] at h; obtain ⟨rfl, _, rfl, _⟩ := h)
            · exact ⟨by simp [SafeC.Fmt.engPrec, SafeC.Fmt.engWidth, hd], rfl⟩
            · exact ⟨by simp [SafeC.Fmt.engPrec, SafeC.Fmt.engWidth, hd], rfl⟩
          · simp only [hd, hs, if_false] at h
            obtain ⟨rfl, _, rfl, _⟩ := h
            exact ⟨by simp [SafeC.Fmt.engPrec, SafeC.Fmt.engWidth, hd, hs], rfl⟩
    · simp only [hc, if_false, Except.ok.injEq, Prod.mk.injEq] at h
      obtain ⟨rfl, _, rfl, _⟩ := h
      exact ⟨by simp [SafeC.Fmt.engPrec, hc], rfl⟩

theorem parseLength_abs (f : Str) (fl : Flags) :
    (parseLength f fl).2 = (SafeC.Fmt.engLength f).2 ∧
    (parseLength f fl).1.longDouble = (fl.longDouble || (SafeC.Fmt.engLength f).1) := by
  cases f with
  | nil => simp [parseLength, SafeC.Fmt.engLength]
  | cons c r =>
    unfold parseLength SafeC.Fmt.engLength
    by_cases h1 : c = 'l'
    · subst h1
      simp only [if_true]
      cases r with
      | nil => simp
      | cons c2 r2 =>
        by_cases h : c2 = 'l'
        · subst h; simp
        · simp only [List.head?_cons, Option.some.injEq, h, if_false, Bool.or_false]
          split
          · rename_i heq; simp at heq; exact absurd heq.1 h
          · simp
    by_cases h2 : c = 'L'
    · subst h2; simp
    by_cases h3 : c = 'h'
    · subst h3
      simp only [h1, if_false, h2, if_true]
      cases r with
      | nil => simp
      | cons c2 r2 =>
        by_cases h : c2 = 'h'
        · subst h; simp
        · simp only [List.head?_cons, Option.some.injEq, h, if_false, Bool.or_false]
          split
          · rename_i heq; simp at heq; exact absurd heq.1 h
          · simp
    by_cases h4 : c = 't' ∨ c = 'j' ∨ c = 'z'
    · simp [h1, h2, h3, h4]
    · simp [h1, h2, h3, h4]

theorem convInt_ok_noL {fx : Fixes} {sk : Sink} {m : Nat} {c : Char} {fl : Flags} {w p : Nat} {args : List Arg} {s : St}
    {x : St × List Arg} (h : convInt fx sk m c fl w p args s = .ok x) : fl.longDouble = false := by
  unfold convInt at h
  cases hl : fl.longDouble with
  | false => rfl
  | true => simp [hl] at h

theorem directive_ok_next {fx : Fixes} {sk : Sink} {m : Nat} {f : Str} {args : List Arg} {s : St}
    {r : Str} {a' : List Arg} {s' : St} (h : directive fx sk m f args s = .ok (r, a', s')) :
    SafeC.Fmt.engDirective f = .next r := by
  unfold directive at h
  have hF := parseFlags_abs f {}
  cases hpf : parseFlags f {} with
  | mk fl0 f0 =>
    simp only at h hF
    obtain ⟨⟨fl1, w, f1, a1⟩, hw, h⟩ := bind_ok h
    have hW := parseWidth_abs hw
    obtain ⟨⟨fl2, p, f2, a2⟩, hp, h⟩ := bind_ok h
    have hP := parsePrec_abs hp
    have hL := parseLength_abs f2 fl2
    cases hpl : parseLength f2 fl2 with
    | mk fl3 f3 =>
      rw [hpl] at h hL
      simp only at h hL
      have hld : fl3.longDouble = (SafeC.Fmt.engLength f2).1 := by
        rw [hL.2, hP.2, hW.2, hF.2]; rfl
      have hE : SafeC.Fmt.engDirective f = SafeC.Fmt.engSpec fl3.longDouble f3 := by
        simp only [SafeC.Fmt.engDirective]
        rw [← hF.1, ← hW.1, ← hP.1, hld, hL.1]
      rw [hE]
      cases f3 with
      | nil => cases h
      | cons c r3 =>
        simp only at h
        by_cases hi : c = 'd' ∨ c = 'i' ∨ c = 'u' ∨ c = 'x' ∨ c = 'X' ∨ c = 'o' ∨ c = 'b'
        · rw [if_pos hi] at h
          obtain ⟨⟨s1, as⟩, hc, h⟩ := bind_ok h
          have hnl := convInt_ok_noL hc
          obtain ⟨rfl, _, _⟩ := h
          have : SafeC.Fmt.engIsIntConv c = true := by
            rcases hi with h | h | h | h | h | h | h <;> subst h <;> decide
          simp [SafeC.Fmt.engSpec, this, hnl]
        · rw [if_neg hi] at h
          by_cases hf : c = 'f' ∨ c = 'F' ∨ c = 'e' ∨ c = 'E' ∨ c = 'g' ∨ c = 'G' ∨ c = 'a' ∨ c = 'A'
          · rw [if_pos hf] at h; cases h
          · rw [if_neg hf] at h
            by_cases hcc : c = 'c'
            · subst hcc
              obtain rfl := bind_pure_rest (g := fun (y : St × List Arg) => (y.2, y.1)) h
              simp [SafeC.Fmt.engSpec, SafeC.Fmt.engIsIntConv, SafeC.Fmt.engIsOtherConv]
            rw [if_neg hcc] at h
            by_cases hcs : c = 's'
            · subst hcs
              obtain rfl := bind_pure_rest (g := fun (y : St × List Arg) => (y.2, y.1)) h
              simp [SafeC.Fmt.engSpec, SafeC.Fmt.engIsIntConv, SafeC.Fmt.engIsOtherConv]
            rw [if_neg hcs] at h
            by_cases hcp : c = 'p'
            · subst hcp
              rw [if_pos rfl] at h
              split at h
              · obtain rfl := bind_pure_rest (g := fun y => (_, y)) h
                simp [SafeC.Fmt.engSpec, SafeC.Fmt.engIsIntConv, SafeC.Fmt.engIsOtherConv]
              · cases h
            rw [if_neg hcp] at h
            by_cases hpc : c = '%'
            · subst hpc
              obtain rfl := bind_pure_rest (g := fun y => (_, y)) h
              simp [SafeC.Fmt.engSpec, SafeC.Fmt.engIsIntConv, SafeC.Fmt.engIsOtherConv]
            · rw [if_neg hpc] at h; cases h

theorem engLoop_ok_none (fx : Fixes) (sk : Sink) (m : Nat) : ∀ (k : Nat) (fmt : Str) (args : List Arg) (s s' : St),
    engLoop fx sk m k fmt args s = .ok s' → SafeC.Fmt.engLoop k fmt = none := by
  intro k
  induction k with
  | zero => intro fmt args s s' _; rfl
  | succ k ih =>
    intro fmt args s s' h
    cases fmt with
    | nil => rfl
    | cons c r =>
      unfold engLoop at h
      by_cases hc : c = '%'
      · subst hc
        obtain ⟨⟨r', a', s1⟩, hd, h⟩ := bind_ok h
        simp only [SafeC.Fmt.engLoop, ne_eq, not_true_eq_false, if_false, directive_ok_next hd]
        exact ih r' a' s1 s' h
      · simp only [ne_eq, hc, not_false_eq_true, if_true] at h
        obtain ⟨s1, _, h⟩ := bind_ok h
        simp only [SafeC.Fmt.engLoop, ne_eq, hc, not_false_eq_true, if_true]
        exact ih r args s1 s' h

theorem engine_error_of_rejects (fx : Fixes) (sk : Sink) (m : Nat) (fmt : Str) (args : List Arg) (s : St)
    (h : SafeC.Fmt.engineRejects fmt = true) : ∃ e, engine fx sk m fmt args s = .error e := by
  cases hl : engLoop fx sk m fmt.length fmt args s with
  | error e => exact ⟨e, by simp [engine, hl, bind, Except.bind]⟩
  | ok s' =>
    have := engLoop_ok_none fx sk m _ _ _ _ _ hl
    simp [SafeC.Fmt.engineRejects, SafeC.Fmt.engine, this] at h

end SafeC.Printf
