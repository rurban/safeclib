import SafeC.Proofs.NormComposeSpec
/-!
# C17 — decomposing and reordering the output of the Canonical Composition Algorithm gives its input back

Core Lean only.  Generic in the class function `k`, the pair map `pc` and the (full) decomposition `dec`; the only fact about
the data is **`pc a b = some c → dec c = dec a ++ dec b`** (on a set `S` closed under `pc`): the full decomposition of a primary
composite is the full decomposition of its first constituent followed by that of the second.  It is a table fact, kernel-checked
for the tree's tables and for UCD 14.0 in `NormIdemTables.lean`.
-/
namespace SafeC.Norm

theorem SwapStep.append_right {k : Nat → Nat} {l l' : List Nat} (r : List Nat) (h : SwapStep k l l') :
    SwapStep k (l ++ r) (l' ++ r) := by
  cases h with
  | swap p a b q hr =>
    have := SwapStep.swap p a b (q ++ r) hr
    simpa using this

theorem swaps_append_right {k : Nat → Nat} {l l' : List Nat} (r : List Nat) (h : ReflTransGen (SwapStep k) l l') :
    ReflTransGen (SwapStep k) (l ++ r) (l' ++ r) := by
  induction h with
  | refl => exact .refl
  | tail _ s ih => exact .tail ih (s.append_right r)

theorem swaps_append_left {k : Nat → Nat} (p : List Nat) {l l' : List Nat} (h : ReflTransGen (SwapStep k) l l') :
    ReflTransGen (SwapStep k) (p ++ l) (p ++ l') := by
  induction p with
  | nil => exact h
  | cons x p ih => exact swaps_cons x ih

theorem swaps_past {k : Nat → Nat} {c : Nat} : ∀ (pend : List Nat), (∀ m ∈ pend, Reorderable k c m) →
    ReflTransGen (SwapStep k) (c :: pend) (pend ++ [c]) := by
  intro pend
  induction pend with
  | nil => intro _; exact .refl
  | cons m pend ih =>
    intro h
    have h1 : SwapStep k (c :: m :: pend) (m :: c :: pend) := SwapStep.swap [] c m pend (h m (by simp))
    exact (ReflTransGen.single h1).trans (swaps_cons m (ih (fun x hx => h x (by simp [hx]))))

theorem reorderPure_append_reorder_right (k : Nat → Nat) (a b : List Nat) :
    reorderPure k (a ++ reorderPure k b) = reorderPure k (a ++ b) := by
  induction a with
  | nil => exact reorderPure_idem k b
  | cons c a ih => simp only [List.cons_append, reorderPure, ih]

theorem reorderPure_append_reorder_left (k : Nat → Nat) (a b : List Nat) :
    reorderPure k (reorderPure k a ++ b) = reorderPure k (a ++ b) :=
  (reorderPure_swaps_eq (swaps_append_right b (reorderPure_swaps k a))).symm

/-- **one composition step is undone by decomposition and canonical reordering.**  `s` the last starter, `pend` the marks
since `s` that were not composed (classes non-zero and `≤ pre`), `c` the next character, not blocked in the sense of the
algorithm (`¬ ((k c ≠ 0 ∧ pre = k c) ∨ pre > k c)`, D115), `p` the composite, whose full decomposition is that of `s`
followed by `c`: replacing `s` by `p` and deleting `c` is invisible after decomposition and reordering. -/
theorem composeStep_undone {k : Nat → Nat} {dec : Nat → List Nat} {s c p pre : Nat} {pend : List Nat} (rest : List Nat)
    (hpend : ∀ b ∈ pend, k b ≠ 0 ∧ k b ≤ pre) (hnb : ¬ ((k c ≠ 0 ∧ pre = k c) ∨ pre > k c))
    (hdec : dec p = dec s ++ [c]) :
    reorderPure k (dec p ++ pend ++ rest) = reorderPure k (dec s ++ pend ++ c :: rest) := by
  have hsw : ReflTransGen (SwapStep k) (c :: pend) (pend ++ [c]) := by
    apply swaps_past
    intro m hm
    have := hpend m hm
    unfold Reorderable
    omega
  have h2 := swaps_append_left (dec s) (swaps_append_right rest hsw)
  have := reorderPure_swaps_eq h2
  rw [hdec]
  simpa using this

section roundtrip
variable {k : Nat → Nat} {pc : Nat → Nat → Option Nat} {dec : Nat → List Nat} {S : Nat → Prop}

/-- the invariant of the streaming algorithm (`composeGo`, state: last starter `s`, class `pre` of the last uncomposed mark,
the uncomposed marks `pend`): whatever it outputs from here decomposes and reorders to the same string as
`dec s ++ pend ++ rest` -/
theorem composeGo_roundtrip (hpc : ∀ a b c, S a → S b → pc a b = some c → S c ∧ dec c = dec a ++ dec b) :
    ∀ (rest : List Nat) (s pre : Nat) (pend : List Nat) (lo : Nat), S s →
      (∀ b ∈ pend, k b ≠ 0 ∧ k b ≤ pre) → (∀ b ∈ pend, dec b = [b]) → (∀ c ∈ rest, S c ∧ dec c = [c]) →
      pre ≤ lo → OrdFrom k lo rest →
      reorderPure k ((composeGo k pc rest s pre pend).flatMap dec) = reorderPure k (dec s ++ pend ++ rest) := by
  intro rest
  induction rest with
  | nil =>
    intro s pre pend lo _ _ hfix _ _ _
    simp only [composeGo, List.flatMap_cons, flatMap_fixed hfix, List.append_nil]
  | cons c rest ih =>
    intro s pre pend lo hs hpend hfix hrest hlo hord
    obtain ⟨hc, hord'⟩ := hord
    have hcS := (hrest c (by simp)).1
    have hcd := (hrest c (by simp)).2
    have hrest' : ∀ x ∈ rest, S x ∧ dec x = [x] := fun x hx => hrest x (by simp [hx])
    -- the two continuations when `c` is not composed
    have hkeep : reorderPure k ((if k c = 0 then s :: pend ++ composeGo k pc rest c 0 []
          else composeGo k pc rest s (k c) (pend ++ [c])).flatMap dec) = reorderPure k (dec s ++ pend ++ c :: rest) := by
      by_cases hz : k c = 0
      · have := ih c 0 [] 0 hcS (by simp) (by simp) hrest' (Nat.le_refl _) (hz ▸ hord')
        simp only [hz, if_true, List.flatMap_cons, List.flatMap_append, flatMap_fixed hfix]
        rw [← reorderPure_append_reorder_right, this, reorderPure_append_reorder_right, hcd]
        simp
      · have := ih s (k c) (pend ++ [c]) (k c) hs
          (by
            intro b hb
            rcases List.mem_append.1 hb with h | h
            · have := hpend b h; omega
            · simp only [List.mem_singleton] at h; rw [h]; omega)
          (by
            intro b hb
            rcases List.mem_append.1 hb with h | h
            · exact hfix b h
            · simp only [List.mem_singleton] at h; rw [h]; exact hcd)
          hrest' (Nat.le_refl _) hord'
        simp only [hz, if_false]
        simpa using this
    unfold composeGo
    by_cases hb : (k c ≠ 0 ∧ pre = k c) ∨ pre > k c
    · simp only [if_pos hb]
      exact hkeep
    · simp only [if_neg hb]
      cases hp : pc s c with
      | none => exact hkeep
      | some p =>
        obtain ⟨hpS, hpd⟩ := hpc s c p hs hcS hp
        rw [hcd] at hpd
        have := ih p pre pend (k c) hpS hpend hfix hrest' (by omega) hord'
        rw [this]
        exact composeStep_undone rest hpend hb hpd

/-- **decomposition + canonical reordering undoes the Canonical Composition Algorithm**: for every canonically ordered
string `ys` of fully decomposed characters, `reorder (flatMap dec (composePure k pc ys)) = ys` — the NFD of the NFC is the NFD -/
theorem composePure_roundtrip (hpc : ∀ a b c, S a → S b → pc a b = some c → S c ∧ dec c = dec a ++ dec b)
    {ys : List Nat} (hys : ∀ c ∈ ys, S c ∧ dec c = [c]) (hord : CanonOrdered k ys) :
    reorderPure k ((composePure k pc ys).flatMap dec) = ys := by
  have key : ∀ (ys : List Nat) (lo : Nat), (∀ c ∈ ys, S c ∧ dec c = [c]) → OrdFrom k lo ys →
      reorderPure k ((composePure k pc ys).flatMap dec) = reorderPure k ys := by
    intro ys
    induction ys with
    | nil => intro _ _ _; rfl
    | cons c rest ih =>
      intro lo hys hord
      obtain ⟨_, hord'⟩ := hord
      have hcS := (hys c (by simp)).1
      have hcd := (hys c (by simp)).2
      have hrest : ∀ x ∈ rest, S x ∧ dec x = [x] := fun x hx => hys x (by simp [hx])
      unfold composePure
      by_cases hz : k c = 0
      · have := composeGo_roundtrip hpc rest c 0 [] 0 hcS (by simp) (by simp) hrest (Nat.le_refl _) (hz ▸ hord')
        simp only [hz, if_true]
        rw [this, hcd]
        simp
      · simp only [hz, if_false, List.flatMap_cons, hcd, List.singleton_append, reorderPure]
        rw [ih (k c) hrest hord']
  rw [key ys 0 hys (ordFrom_of_canonOrdered hord), reorderPure_of_canonOrdered hord]

end roundtrip

#print axioms composeStep_undone
#print axioms composePure_roundtrip

end SafeC.Norm
