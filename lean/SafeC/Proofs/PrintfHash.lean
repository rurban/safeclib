import SafeC.Proofs.PrintfRender
/-!
# C11: the `#` class of `safec_ntoa_format` (repaired code: `Fixes.hash`, `Fixes.minusPrec`) = `Spec.renderInt`

`ntoaPrep` is cut into its blocks (`ntoaPrep_stages`, by `rfl`), each block is characterised on buffers of the form
`digits ++ zeros`, and the result is rewritten into `Spec.renderInt` (`ntoaLong_renderInt_hash`).
-/
namespace SafeC.Printf
open SafeC.Printf.Spec

/-- making room for the prefix: `len--` (twice for base 16) -/
def stripBlock (fx : Fixes) (unpadded base : Nat) (buf2 : Str) : Str :=
  if fx.hash then
    let b1 := if unpadded < buf2.length then buf2.dropLast else buf2
    if b1.length != 0 && base == 16 && unpadded < b1.length then b1.dropLast else b1
  else
    let b1 := buf2.dropLast
    if b1.length != 0 && base == 16 then b1.dropLast else b1

/-- appending `x`/`X`/`b` and `0` -/
def prefixBlock (base : Nat) (upper : Bool) (b : Str) : Str :=
  push (if base == 16 && !upper && b.length < NTOA then b ++ ['x']
        else if base == 16 && upper && b.length < NTOA then b ++ ['X']
        else if base == 2 && b.length < NTOA then b ++ ['b']
        else b) '0'

/-- the `// handle hash` block of `safec_ntoa_format` (text of `ntoaPrep`) -/
def prepHashed (fx : Fixes) (unpadded base prec width1 : Nat) (fl : Flags) (buf2 : Str) : Str :=
  if fl.hash then
    prefixBlock base fl.upper
      (if !fl.precision && buf2.length != 0 && (buf2.length == prec || buf2.length == width1) then stripBlock fx unpadded base buf2 else buf2)
  else buf2

/-- the sign block -/
def prepSigned (negative : Bool) (fl : Flags) (buf3 : Str) : Str :=
    if buf3.length < NTOA then
      if negative then buf3 ++ ['-'] else if fl.plus then buf3 ++ ['+'] else if fl.space then buf3 ++ [' '] else buf3
    else buf3

theorem ntoaPrep_stages (fx : Fixes) (buf : Str) (negative : Bool) (base prec width : Nat) (fl : Flags) :
    ntoaPrep fx buf negative base prec width fl =
      (let width1 := width1Of negative width fl
       let buf1 := if !fl.left || fx.minusPrec then padZeros prec buf else buf
       let fl' := if fx.hash && base == 8 && buf1.length > buf.length then { fl with hash := false } else fl
       let buf2 := if !fl'.left && fl'.zeropad then padZeros width1 buf1 else buf1
       (prepSigned negative fl' (prepHashed fx buf.length base prec width1 fl' buf2), width1, fl')) := rfl

theorem dropLast_app (a : Nat) (E : Str) (h : 0 < a) : (E ++ List.replicate a '0').dropLast = E ++ List.replicate (a - 1) '0' := by
  obtain ⟨b, rfl⟩ : ∃ b, a = b + 1 := ⟨a - 1, by omega⟩
  rw [List.replicate_succ', ← List.append_assoc, List.dropLast_concat]
  rfl

theorem stripBlock_eq (fx : Fixes) (hx : fx.hash = true) (E : Str) (a base : Nat) (hb : base = 8 ∨ base = 16) :
    stripBlock fx E.length base (E ++ List.replicate a '0') = E ++ List.replicate (if base = 16 then a - 2 else a - 1) '0' := by
  unfold stripBlock
  simp only [hx, if_true, List.length_append, List.length_replicate]
  rcases hb with rfl | rfl
  · simp only [show ((8:Nat) == 16) = false from rfl, show ((8:Nat) = 16) = False from by simp, Bool.and_false, Bool.false_and,
      Bool.false_eq_true, if_false]
    by_cases ha : 0 < a
    · rw [if_pos (by omega), dropLast_app a E ha]
    · have h0 : a = 0 := by omega
      subst h0; simp
  · simp only [show ((16:Nat) == 16) = true from rfl, Bool.and_true, if_true]
    by_cases ha : 0 < a
    · have h1 : E.length < E.length + a := by omega
      simp only [h1, if_true, dropLast_app a E ha, List.length_append, List.length_replicate]
      by_cases ha2 : 1 < a
      · have h2 : (E.length + (a - 1) != 0 && decide (E.length < E.length + (a - 1))) = true := by
          simp only [Bool.and_eq_true, bne_iff_ne, ne_eq, decide_eq_true_eq]; omega
        simp only [h2, if_true, dropLast_app (a - 1) E (by omega)]
        rw [show a - 1 - 1 = a - 2 by omega]
      · have h1 : a = 1 := by omega
        subst h1
        have h2 : (E.length + (1 - 1) != 0 && decide (E.length < E.length + (1 - 1))) = false := by
          simp
        simp only [h2, Bool.false_eq_true, if_false]
    · have h0 : a = 0 := by omega
      subst h0; simp

theorem prefixBlock_eq (base : Nat) (upper : Bool) (b : Str) (hb : base = 8 ∨ base = 16)
    (hlen : b.length + (if base = 16 then 2 else 1) ≤ NTOA) :
    prefixBlock base upper b = b ++ (if base = 16 then [if upper then 'X' else 'x', '0'] else ['0']) := by
  unfold prefixBlock push
  rcases hb with rfl | rfl
  · simp only [show ((8:Nat) == 16) = false from rfl, show ((8:Nat) == 2) = false from rfl, show ((8:Nat) = 16) = False from by simp,
      Bool.false_and, Bool.false_eq_true, if_false] at hlen ⊢
    rw [if_pos (by omega)]
  · simp only [show ((16:Nat) == 16) = true from rfl, Bool.true_and, if_true] at hlen ⊢
    have h1 : decide (b.length < NTOA) = true := by simp; omega
    cases upper
    · simp only [Bool.not_false, Bool.true_and, h1, if_true, List.length_append, List.length_singleton, Bool.false_eq_true, if_false]
      rw [if_pos (by omega)]; simp
    · simp only [Bool.not_true, Bool.false_and, Bool.false_eq_true, if_false, h1, Bool.true_and, if_true, List.length_append, List.length_singleton]
      rw [if_pos (by omega)]; simp

/-- zeros left after the `#` block has made room for the prefix (repaired code) -/
def stripCount (E : Str) (a base prec width1 : Nat) (fl : Flags) : Nat :=
  if !fl.precision && (E.length + a != 0) && (E.length + a == prec || E.length + a == width1)
  then (if base = 16 then a - 2 else a - 1) else a

theorem prepHashed_eq (fx : Fixes) (hx : fx.hash = true) (E : Str) (a base prec width1 : Nat) (fl : Flags)
    (hb : base = 8 ∨ base = 16) (hh : fl.hash = true)
    (hlen : E.length + stripCount E a base prec width1 fl + (if base = 16 then 2 else 1) ≤ NTOA) :
    prepHashed fx E.length base prec width1 fl (E ++ List.replicate a '0') =
      E ++ List.replicate (stripCount E a base prec width1 fl) '0' ++
        (if base = 16 then [if fl.upper then 'X' else 'x', '0'] else ['0']) := by
  unfold prepHashed stripCount at *
  simp only [hh, if_true, List.length_append, List.length_replicate]
  by_cases hc : (!fl.precision && (E.length + a != 0) && (E.length + a == prec || E.length + a == width1)) = true
  · simp only [hc, if_true] at hlen ⊢
    rw [stripBlock_eq fx hx E a base hb, prefixBlock_eq base fl.upper _ hb (by simpa using hlen)]
  · simp only [hc, Bool.false_eq_true, if_false] at hlen ⊢
    rw [prefixBlock_eq base fl.upper _ hb (by simpa using hlen)]

theorem prec_of_pos {fl : Flags} {prec : Nat} (hp0 : fl.precision = false → prec = 0) (h : 0 < prec) : fl.precision = true := by
  cases h' : fl.precision
  · have := hp0 h'; omega
  · rfl

theorem width1Of_unsigned (width : Nat) (fl : Flags) (hpl : fl.plus = false) (hsp : fl.space = false) : width1Of false width fl = width := by
  unfold width1Of; simp [hpl, hsp]

theorem prepSigned_unsigned (fl : Flags) (hpl : fl.plus = false) (hsp : fl.space = false) (b : Str) : prepSigned false fl b = b := by
  unfold prepSigned; simp [hpl, hsp]

theorem ntoaPrep_hash (fx : Fixes) (hm : fx.minusPrec = true) (hx : fx.hash = true) (E : Str) (base prec width : Nat) (fl : Flags)
    (hb : base = 8 ∨ base = 16) (hh : fl.hash = true) (hpl : fl.plus = false) (hsp : fl.space = false)
    (hpz : fl.precision = true → fl.zeropad = false) (hp0 : fl.precision = false → prec = 0)
    (hE : E.length ≤ 22)
    (hp : prec ≤ 30) (hw : fl.left = false → fl.zeropad = true → width ≤ 32) :
    ntoaPrep fx E false base prec width fl =
      if base = 8 ∧ E.length < prec then (E ++ List.replicate (prec - E.length) '0', width, { fl with hash := false })
      else (E ++ List.replicate ((prec - E.length) +
                (if !fl.left && fl.zeropad then width - (E.length + (if base = 16 then 2 else 1)) else 0)) '0' ++
              (if base = 16 then [if fl.upper then 'X' else 'x', '0'] else ['0']), width, fl) := by
  have hN : NTOA = 32 := rfl
  rw [ntoaPrep_stages]
  simp only [width1Of_unsigned width fl hpl hsp, hm, hx, Bool.or_true, if_true, Bool.true_and]
  rw [padZeros_small prec E (by omega)]
  simp only [List.length_append, List.length_replicate]
  by_cases hc : base = 8 ∧ E.length < prec
  · -- %#.Po with P > digits: the precision zeros are the leading 0
    obtain ⟨rfl, hlt⟩ := hc
    have hz := hpz (prec_of_pos hp0 (by omega))
    have h1 : (((8:Nat) == 8) && decide (E.length + (prec - E.length) > E.length)) = true := by simp; omega
    simp only [h1, if_true, hz, Bool.and_false, Bool.false_eq_true, if_false, hlt, and_self]
    unfold prepSigned prepHashed
    simp [hpl, hsp]
  · rw [if_neg hc]
    have h1 : ((base == 8) && decide (E.length + (prec - E.length) > E.length)) = false := by
      rcases hb with rfl | rfl
      · simp at hc ⊢; omega
      · rfl
    simp only [h1, Bool.false_eq_true, if_false]
    rw [prepSigned_unsigned _ hpl hsp]
    by_cases hzp : (!fl.left && fl.zeropad) = true
    · have hl : fl.left = false := by cases h : fl.left <;> simp [h] at hzp ⊢
      have hz : fl.zeropad = true := by cases h : fl.zeropad <;> simp [h] at hzp ⊢
      have hpr := noPrec_of_zeropad hpz hz
      have hp00 := hp0 hpr; subst hp00
      have hwd := hw hl hz
      simp only [hzp, if_true, Nat.zero_sub, Nat.zero_add]
      rw [padZeros_small width _ (by omega), List.append_assoc, List.replicate_append_replicate, List.length_append, List.length_replicate]
      have hsc : stripCount E (0 + (width - (E.length + 0))) base 0 width fl = width - (E.length + (if base = 16 then 2 else 1)) := by
        unfold stripCount
        simp only [hpr, Bool.not_false, Bool.true_and]
        rcases hb with rfl | rfl <;> simp <;> split <;> omega
      rw [prepHashed_eq fx hx E _ base 0 width fl hb hh (by rw [hsc]; rcases hb with rfl | rfl <;> simp <;> omega), hsc]
    · simp only [hzp, Bool.false_eq_true, if_false, Nat.add_zero]
      have hsc : stripCount E (prec - E.length) base prec width fl = prec - E.length := by
        unfold stripCount
        cases hpr : fl.precision
        · have := hp0 hpr; subst this
          simp only [Nat.zero_sub]; split <;> (try split) <;> rfl
        · simp
      rw [prepHashed_eq fx hx E _ base prec width fl hb hh (by rw [hsc]; rcases hb with rfl | rfl <;> simp <;> omega), hsc]

theorem digitSym_zero : ∀ (up : Bool) (d : Nat), d < 16 → digitSym up d = '0' → d = 0 := by decide

theorem numStr_head (b : Nat) (up : Bool) (v : Nat) (hb : 2 ≤ b) (hb16 : b ≤ 16) : (numStr b up v).head? ≠ some '0' := by
  unfold numStr
  have h1 := digits_head_ne_zero b hb v
  have h2 := digits_lt b hb v
  cases hd : digits b v with
  | nil => simp
  | cons a l =>
    rw [hd] at h1 h2
    simp only [List.map_cons, List.head?_cons, ne_eq, Option.some.injEq] at h1 ⊢
    intro h
    exact h1 (digitSym_zero up a (by have := h2 a (by simp); omega) h)

/-- for the value 0 the `#` flag changes nothing, except for `%#.Po` -/
theorem renderInt_hash_zero (d : Dir) (base : Nat) (upper : Bool) (h : base = 16 ∨ (base = 8 ∧ d.prec = Option.none)) :
    renderInt d false false 0 base upper = renderInt { d with hash := false } false false 0 base upper := by
  unfold renderInt
  rw [digits_zero]
  rcases h with rfl | ⟨rfl, hp⟩
  · simp [padField]
  · simp [hp, padField]

/-- **the `#` class = `Spec.renderInt`.**  Repaired code (`Fixes.hash`, `Fixes.minusPrec`), conversions `o x X` with `#`,
    every 64-bit value, precision at most 30 and zero-padded width at most 31 (the 32-byte buffer must also hold `0x`):
    the characters handed to the sink are the standard's. -/
theorem ntoaLong_renderInt_hash (fx : Fixes) (hm : fx.minusPrec = true) (hx : fx.hash = true) (sk : Sink) (m : Nat) (v : Nat)
    (base prec width : Nat) (fl : Flags) (s : St)
    (hb : base = 8 ∨ base = 16) (hv : v < 2 ^ 64) (hh : fl.hash = true) (hpl : fl.plus = false) (hsp : fl.space = false)
    (hpz : fl.precision = true → fl.zeropad = false) (hp0 : fl.precision = false → prec = 0)
    (hp : prec ≤ 30) (hw : fl.left = false → fl.zeropad = true → width ≤ 31) (hwmax : width ≤ 2147483614) :
    ntoaLong fx sk m v false base prec width fl s =
      emitAll sk m (renderInt (dirOf fl width prec) false false v base fl.upper) s := by
  have hb8 : 8 ≤ base := by omega
  have hb16 : base ≤ 16 := by omega
  by_cases hz : (v == 0 && !(fx.hash && base == 8 && fl.precision)) = true
  · -- the engine drops `#` for the value 0
    have h1 : ntoaLong fx sk m v false base prec width fl s = ntoaLong fx sk m v false base prec width { fl with hash := false } s := by
      unfold ntoaLong; simp only [hz, if_true]
    rw [h1, ntoaLong_renderInt_nohash fx hm sk m v false base prec width { fl with hash := false } s false (by omega) hv rfl hpz hp0
      (fun _ => ⟨rfl, hpl, hsp⟩) (by omega) hw hwmax]
    have hv0 : v = 0 := by simp at hz; exact hz.1
    subst hv0
    have hd : dirOf { fl with hash := false } width prec = { dirOf fl width prec with hash := false } := rfl
    rw [hd, ← renderInt_hash_zero]
    rcases hb with rfl | rfl
    · right; refine ⟨rfl, ?_⟩
      simp only [hx, Bool.true_and, show ((8:Nat) == 8) = true from rfl] at hz
      cases hpr : fl.precision
      · simp [dirOf, hpr]
      · simp [hpr] at hz
    · left; rfl
  · have hcase : v ≠ 0 ∨ (base = 8 ∧ fl.precision = true) := by
      by_cases h0 : v = 0
      · right; subst h0; simp [hx] at hz; exact hz
      · left; exact h0
    unfold ntoaLong
    simp only [hz, Bool.false_eq_true, if_false]
    change ntoaFormat fx sk m (digitBuf base fl.upper fl.precision v) false base prec width fl s = _
    have hE := digitBuf_length_le base fl.upper fl.precision v hb8 hb16 hv
    have hblk := digitBuf_block base fl.upper fl.precision prec v hb8 hb16 hv hp0
    have hEq := digitBuf_eq base fl.upper fl.precision v hb8 hb16 hv
    have hhead : (digitBuf base fl.upper fl.precision v).reverse.head? ≠ some '0' := by
      rw [hEq]
      by_cases hv0 : v = 0
      · have hpr : fl.precision = true := by
          rcases hcase with h | ⟨_, h⟩
          · exact absurd hv0 h
          · exact h
        simp [hv0, hpr]
      · rw [if_neg hv0, List.reverse_reverse]; exact numStr_head base fl.upper v (by omega) hb16
    have hv16 : base = 16 → v ≠ 0 := by
      intro h16
      rcases hcase with h | ⟨h, _⟩
      · exact h
      · omega
    generalize digitBuf base fl.upper fl.precision v = E at hE hblk hhead
    unfold ntoaFormat
    rw [ntoaPrep_hash fx hm hx E base prec width fl hb hh hpl hsp hpz hp0 hE hp (fun a b => by have := hw a b; omega)]
    have hk := precZeros_zero hpz hp0 E.length
    rw [renderInt_field, dirOf_zeropad hpz]
    -- the standard's affix, by cases as the engine decides them
    unfold affixOf
    simp only [dirOf, ← hblk, hh, true_and, Bool.false_eq_true, if_false, List.nil_append]
    by_cases hc : base = 8 ∧ E.length < prec
    · -- `%#.Po` with P > digits: the precision zeros are the leading 0, and `ntoaPrep` has dropped `#`
      obtain ⟨rfl, hlt⟩ := hc
      have hzpf := hpz (prec_of_pos hp0 (by omega))
      have hhd : (List.replicate (prec - E.length) '0' ++ E.reverse).head? = some '0' := by
        obtain ⟨k, hk⟩ := Nat.exists_eq_add_one_of_ne_zero (Nat.sub_ne_zero_of_lt hlt)
        rw [hk, List.replicate_succ]; rfl
      simp only [hlt, and_self, if_true]
      rw [if_neg (by omega), outRev_eq]
      congr 1
      have := outRevText_field E [] (prec - E.length) width { fl with hash := false } (fun _ h => by rw [hzpf] at h; cases h)
      simp only [hzpf, Bool.and_false, Bool.false_eq_true, if_false, Nat.add_zero, List.append_nil, List.reverse_nil] at this
      simp only [this, hhd, hzpf, ne_eq, not_true_eq_false, and_false, false_and, if_false, show ((8:Nat) = 16) = False from by simp, List.append_nil]
    · rw [if_neg hc]
      simp only []
      rw [if_neg (by omega), outRev_eq]
      congr 1
      rcases hb with rfl | rfl
      · -- octal, `#` adds the leading 0
        have hk0 : prec - E.length = 0 := by omega
        have := outRevText_field E ['0'] (prec - E.length) width fl hk
        simp only [List.length_singleton, List.reverse_cons, List.reverse_nil, List.nil_append, hk0, List.replicate_zero] at this
        simp only [show ((8:Nat) = 16) = False from by simp, if_false, false_and, List.nil_append, hk0, List.replicate_zero,
          hhead, ne_eq, not_false_eq_true, and_self, if_true, this]
      · -- hex
        have := outRevText_field E [if fl.upper = true then 'X' else 'x', '0'] (prec - E.length) width fl hk
        simp only [List.length_cons, List.length_nil, List.reverse_cons, List.reverse_nil, List.nil_append, List.singleton_append] at this
        simp only [if_true, true_and, hv16 rfl, ne_eq, not_false_eq_true, show ((16:Nat) = 8) = False from by simp, false_and, if_false,
          List.append_nil, this]

end SafeC.Printf
