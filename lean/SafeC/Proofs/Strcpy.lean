import SafeC.Proofs.CopySteps
/-! `SafePost`, the outcome summary of the field copies (`Proofs/ExtFld.lean`); the wide `wcscpy_s` / `wcscat_s` with the object
size unknown as the narrow models at the limit `RSIZE_MAX_WSTR`; the `dest == src` shortcut of `strcpyG` (`strcpy_s`: its instance at `RSIZE_MAX_STR`). -/
namespace SafeC
open Gen

/-- outcome summary of an errno-returning string producer on the extent `[dest, dest+ext)` -/
structure SafePost (cfg : Cfg) (dest ext : Nat) (st st' : St) (code : Nat) : Prop where
  mapped : st'.mapped = st.mapped
  rd : st'.rd = st.rd
  wr : st'.wr = st.wr
  strays : st'.strays = st.strays
  frame : ∀ a, ¬ (dest ≤ a ∧ a < dest + ext) → st'.data a = st.data a
  ok_events : code = EOK → st'.events = st.events
  fail_events : code ≠ EOK → st'.events = st.events ++ [.handler .str code]

theorem wcscpy_eq (cfg : Cfg) (dest dmax src : Nat) :
    wcscpy_s cfg dest dmax src none = strcpyG RSIZE_MAX_WSTR cfg dest dmax src none := by
  rfl

theorem wcscat_s_eq (cfg : Cfg) (dest dmax src : Nat) :
    wcscat_s cfg dest dmax src none = strcatG RSIZE_MAX_WSTR cfg dest dmax src none := by
  rfl

/-- `dest == src` passes the entry checks and returns at once; the limit `max` is consulted only when the object size is unknown -/
theorem strcpyG_same (max : Nat) (cfg : Cfg) (dest dmax : Nat) (destbos : Bos)
    (hd : dest ≠ 0) (hpos : 0 < dmax) (hle : destbos = none → dmax ≤ max)
    (hb : ∀ b, destbos = some b → dmax ≤ b) :
    strcpyG max cfg dest dmax dest destbos = pure EOK := by
  unfold strcpyG chkDmaxClear chkDmaxClearG
  rw [if_neg hd, if_neg (Nat.ne_of_gt hpos)]
  cases destbos with
  | none => exact (if_neg (Nat.not_lt.2 (hle rfl))).trans ((if_neg hd).trans (if_pos rfl))
  | some b => exact (if_neg (Nat.not_lt.2 (hb b rfl))).trans ((if_neg hd).trans (if_pos rfl))

theorem strcpy_same (cfg : Cfg) (dest dmax : Nat) (db : Bos) (hd : dest ≠ 0) (hz : dmax ≠ 0)
    (hb : ∀ b, db = some b → dmax ≤ b) (hn : db = none → dmax ≤ RSIZE_MAX_STR) :
    strcpy_s cfg dest dmax dest db = pure EOK :=
  strcpyG_same _ cfg dest dmax db hd (Nat.pos_of_ne_zero hz) hn hb

end SafeC
