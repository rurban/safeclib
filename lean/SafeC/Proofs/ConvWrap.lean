import SafeC.Models.Conv
/-! C15: the destination object and what libc stores into it; `Delivered` / `Reported` / `NoOverflow`, the three outcomes
the C15 theorems speak of, shown of the wrappers' common tails (`tailW` wide destination, `tailB` byte destination) for an
arbitrary libc result. -/
namespace SafeC.Conv
open SafeC.Gen

theorem overlay_length (old new : List Nat) : (overlay old new).length = old.length := by
  simp only [overlay, List.length_append, List.length_take, List.length_drop]; omega

theorem D.write_length (d : D) (off : Nat) (vs : List Nat) : (d.write off vs).cells.length = d.cells.length := by
  unfold D.write
  split
  · rfl
  · simp only [List.length_append, List.length_take, overlay_length, List.length_drop]; omega

theorem D.write_cells (d : D) (off : Nat) (vs : List Nat) (h : off + vs.length ≤ d.cells.length) :
    (d.write off vs).cells = d.cells.take off ++ vs ++ d.cells.drop (off + vs.length) := by
  unfold D.write
  split
  · rename_i he
    have : vs = [] := by simpa using he
    subst this; simp
  · simp only [overlay, List.length_drop]
    have : List.take (d.cells.length - off) vs = vs := by
      apply List.take_of_length_le; omega
    rw [this, List.drop_drop]
    simp [List.append_assoc]

theorem D.zero_length (d : D) (off n : Nat) : (d.zero off n).cells.length = d.cells.length := by
  unfold D.zero; exact D.write_length d off _

theorem D.zero_cells (d : D) (off n : Nat) (h : off + n ≤ d.cells.length) :
    (d.zero off n).cells = d.cells.take off ++ List.replicate n 0 ++ d.cells.drop (off + n) := by
  unfold D.zero
  rw [D.write_cells d off _ (by simpa using h)]; simp

/-- an object of `L` cells used without fault and only below `n` -/
structure D.Within (L n : Nat) (d : D) : Prop where
  fault : d.fault = false
  hi : d.hi ≤ n
  len : d.cells.length = L

theorem D.Within.mk0 (cells : List Nat) (n : Nat) : D.Within cells.length n { cells := cells } := ⟨rfl, Nat.zero_le _, rfl⟩

theorem D.Within.write {L n : Nat} {d : D} (h : d.Within L n) (off : Nat) (vs : List Nat) (hn : off + vs.length ≤ n) (hL : n ≤ L) :
    (d.write off vs).Within L n := by
  unfold D.write
  split
  · exact h
  · exact ⟨by simp [h.fault, h.len]; omega, by have := h.hi; simp; omega,
      by simp only [List.length_append, List.length_take, overlay_length, List.length_drop, h.len]; omega⟩

theorem D.Within.zero {L n : Nat} {d : D} (h : d.Within L n) (off k : Nat) (hn : off + k ≤ n) (hL : n ≤ L) :
    (d.zero off k).Within L n :=
  h.write off _ (by simpa using hn) hL

theorem D.Within.clear {L n : Nat} {d : D} (h : d.Within L n) (slack : Bool) (h0 : 0 < n) (hL : n ≤ L) :
    (clearCells slack d n).Within L n := by
  cases slack
  · exact h.zero 0 1 (by omega) hL
  · exact h.zero 0 n (by omega) hL

/-- cells after "libc stored `out` at dest[0..), then the wrapper zeroed `n ≥ 1` cells from index `k`" -/
theorem stored_then_zeroed (cells out : List Nat) (k n m : Nat) (hk : k ≤ out.length) (ho : out.length ≤ k + 1)
    (hn : 1 ≤ n) (hfit : k + n ≤ m) (hm : m ≤ cells.length) :
    let d := (({ cells := cells } : D).write 0 out).zero k n
    d.Within cells.length m ∧ d.cells.take k = out.take k ∧ (∀ i, k ≤ i → i < k + n → d.cells[i]? = some 0) := by
  intro d
  have hw := (D.Within.mk0 cells m).write 0 out (by omega) hm
  have hc := D.write_cells { cells := cells } 0 out (by simp; omega)
  have hz := D.zero_cells _ k n (by rw [hw.len]; omega)
  refine ⟨hw.zero k n hfit hm, ?_, fun i hi1 hi2 => ?_⟩
  · rw [hz, hc]
    simp only [List.take_zero, List.nil_append, Nat.zero_add]
    rw [List.append_assoc, List.take_append_of_le_length (by simp; omega), List.take_take, Nat.min_self,
      List.take_append_of_le_length hk]
  · have hl : (List.take k (({ cells := cells } : D).write 0 out).cells).length = k := by
      rw [List.length_take, hw.len]; omega
    rw [hz, List.append_assoc, List.getElem?_append_right (by omega), hl,
      List.getElem?_append_left (by simp; omega), List.getElem?_replicate, if_pos (by omega)]

theorem D.zero_prefix (d : D) (k : Nat) (hk : k ≤ d.cells.length) (i : Nat) (hi : i < k) :
    (d.zero 0 k).cells[i]? = some 0 := by
  rw [D.zero_cells d 0 k (by omega)]
  simp only [List.take_zero, List.nil_append]
  rw [List.getElem?_append_left (by simpa using hi), List.getElem?_replicate]
  simp [hi]

/-- cells after "libc stored `out` (possibly beyond the object), then the wrapper cleared": all `dmax` cells in the slack
build, the first one otherwise -/
theorem stored_then_cleared (slack : Bool) (cells out : List Nat) (dmax : Nat) (h0 : 0 < dmax) (hfit : dmax ≤ cells.length) :
    let d := clearCells slack (({ cells := cells } : D).write 0 out) dmax
    d.cells.length = cells.length ∧ d.cells[0]? = some 0 ∧ (slack = true → ∀ i, i < dmax → d.cells[i]? = some 0) := by
  intro d
  have hwl := D.write_length { cells := cells } 0 out
  have hlen : cells.length = (({ cells := cells } : D).write 0 out).cells.length := hwl.symm
  cases slack with
  | true =>
    have hz := D.zero_prefix (({ cells := cells } : D).write 0 out) dmax (by omega)
    exact ⟨(D.zero_length _ 0 dmax).trans hwl, hz 0 h0, fun _ => hz⟩
  | false =>
    have hz := D.zero_prefix (({ cells := cells } : D).write 0 out) 1 (by omega)
    exact ⟨(D.zero_length _ 0 1).trans hwl, hz 0 (by decide), fun h => by cases h⟩

/-- `Delivered o cells dmax r term`: the call succeeded and dest holds exactly what libc produced, terminated if `term`, nothing
stored outside `dest[0..dmax)` -/
structure Delivered (o : Out) (cells : List Nat) (dmax : Nat) (r : Libc.LR) (term : Bool) : Prop where
  ret : o.ret = EOK
  retval : o.retval = some r.ret
  noHandler : o.ev = []
  dest : ∃ d, o.dest = some d ∧ d.fault = false ∧ d.hi ≤ dmax ∧ d.cells.length = cells.length ∧
    d.cells.take r.ret = r.out.take r.ret ∧ (term = true → d.cells[r.ret]? = some 0)

/-- `Reported o cells dmax slack`: handler called once with the code returned, dest cleared.  The code itself is not constrained
(without the repair `fx.rc` such a call can return EOK: `mbsrtowcs_s_invalid_reported_witness`); the `*_reported` theorems say which
code it is in a conjunct of their own -/
structure Reported (o : Out) (cells : List Nat) (dmax : Nat) (slack : Bool) : Prop where
  handler : o.ev = [o.ret]
  cleared : ∃ d, o.dest = some d ∧ d.cells.length = cells.length ∧ d.cells[0]? = some 0 ∧
    (slack = true → ∀ i, i < dmax → d.cells[i]? = some 0)

theorem Delivered.of_zeroed {o : Out} {cells : List Nat} {dmax k : Nat} {r : Libc.LR} {term : Bool}
    (h1 : o.ret = EOK) (h2 : o.retval = some r.ret) (h3 : o.ev = [])
    (h4 : o.dest = some ((({ cells := cells } : D).write 0 r.out).zero r.ret k))
    (hge : r.ret ≤ r.out.length) (hle : r.out.length ≤ r.ret + 1) (hk : 1 ≤ k) (hfit : r.ret + k ≤ dmax)
    (hdm : dmax ≤ cells.length) : Delivered o cells dmax r term :=
  have ⟨w, ht, hz⟩ := stored_then_zeroed cells r.out r.ret k dmax hge hle hk hfit hdm
  ⟨h1, h2, h3, _, h4, w.fault, w.hi, w.len, ht, fun _ => hz r.ret (Nat.le_refl _) (by omega)⟩

/-- success without a terminator (`wcstombs_s`/`wctomb_s` in the build without slack): `out` stored, nothing else -/
theorem Delivered.of_stored {o : Out} {cells : List Nat} {dmax : Nat} {r : Libc.LR}
    (h1 : o.ret = EOK) (h2 : o.retval = some r.ret) (h3 : o.ev = [])
    (h4 : o.dest = some (({ cells := cells } : D).write 0 r.out))
    (hge : r.ret ≤ r.out.length) (hfit : r.out.length ≤ dmax) (hdm : dmax ≤ cells.length) : Delivered o cells dmax r false := by
  have w := (D.Within.mk0 cells dmax).write 0 r.out (by omega) hdm
  refine ⟨h1, h2, h3, _, h4, w.fault, w.hi, w.len, ?_, nofun⟩
  rw [D.write_cells _ 0 r.out (by simp; omega)]
  simp only [List.take_zero, List.nil_append, Nat.zero_add]
  rw [List.take_append_of_le_length hge]

theorem Reported.of_cleared {o : Out} {cells w : List Nat} {dmax : Nat} {slack : Bool} (h1 : o.ev = [o.ret])
    (h4 : o.dest = some (clearCells slack (({ cells := cells } : D).write 0 w) dmax)) (h0 : 0 < dmax)
    (hdm : dmax ≤ cells.length) : Reported o cells dmax slack :=
  have key := stored_then_cleared slack cells w dmax h0 hdm
  ⟨h1, _, h4, key.1, key.2.1, key.2.2⟩

/-- the wide tail when libc's count leaves room for the terminator: `Delivered`, `*srcp` and `*ps` as libc left them -/
theorem tailW_ok (cfg : Cfg) (a : SArgs) (r : Libc.LR) (e : Nat) (q : Unit → Nat × Bool) (cells : List Nat)
    (hd : a.dest = some cells) (hdm : a.dmax ≤ cells.length) (hlt : r.ret < a.dmax)
    (hge : r.ret ≤ r.out.length) (hle : r.out.length ≤ r.ret + 1) :
    Delivered (tailW cfg a r e q) cells a.dmax r true ∧ (tailW cfg a r e q).src = r.src ∧ (tailW cfg a r e q).st = r.st := by
  have hmk : mkD a = some { cells := cells } := by simp [mkD, hd]
  have htail : tailW cfg a r e q =
      { ret := EOK, retval := some r.ret, src := r.src, st := r.st,
        dest := some ((({ cells := cells } : D).write 0 r.out).zero r.ret (if cfg.slack then a.dmax - r.ret else 1)) } := by
    cases hs : cfg.slack <;> simp [tailW, hlt, hmk, hs]
  rw [htail]
  exact ⟨.of_zeroed rfl rfl rfl rfl hge hle (by split <;> omega) (by split <;> omega) hdm, rfl, rfl⟩

/-- the wide tail otherwise: `Reported`, libc's count through `retvalp`, and the code under the `rc` repair -/
theorem tailW_err (cfg : Cfg) (a : SArgs) (r : Libc.LR) (e : Nat) (q : Unit → Nat × Bool) (cells : List Nat)
    (hd : a.dest = some cells) (h0 : 0 < a.dmax) (hdm : a.dmax ≤ cells.length) (hlt : ¬ r.ret < a.dmax) :
    Reported (tailW cfg a r e q) cells a.dmax cfg.slack ∧ (tailW cfg a r e q).retval = some r.ret ∧
      (cfg.fx.rc = true → (tailW cfg a r e q).ret = if r.ret = SIZE_MAX then EILSEQ else ESNOSPC) := by
  have hmk : mkD a = some { cells := cells } := by simp [mkD, hd]
  obtain ⟨rc, hrc, hfx⟩ : ∃ rc, tailW cfg a r e q =
      { ret := rc, retval := some r.ret, src := r.src, st := r.st, ev := [rc],
        dest := some (clearCells cfg.slack (({ cells := cells } : D).write 0 r.out) a.dmax) } ∧
      (cfg.fx.rc = true → rc = if r.ret = SIZE_MAX then EILSEQ else ESNOSPC) := by
    refine ⟨_, by simp only [tailW, hlt, ↓reduceIte, hmk, Option.map_some]; rfl, ?_⟩
    intro h; simp [h]
  rw [hrc]
  exact ⟨.of_cleared rfl rfl h0 hdm, rfl, hfx⟩

/-- the byte tail on success (a count of 0 only with the `zero` repair); terminated in the slack build or with `term` -/
theorem tailB_ok (cfg : Cfg) (a : SArgs) (r : Libc.LR) (term : Bool) (cells : List Nat)
    (hd : a.dest = some cells) (hdm : a.dmax ≤ cells.length) (hlt : r.ret < a.dmax) (hpos : 0 < r.ret ∨ cfg.fx.zero = true)
    (hge : r.ret ≤ r.out.length) (hle : r.out.length ≤ r.ret + 1) :
    Delivered (tailB cfg a r term) cells a.dmax r (cfg.slack || term) ∧ (tailB cfg a r term).src = r.src := by
  have hmk : mkD a = some { cells := cells } := by simp [mkD, hd]
  have hc : (decide (r.ret > 0) || cfg.fx.zero) = true := by
    cases hpos with
    | inl h => simp [h]
    | inr h => simp [h]
  by_cases hz : (cfg.slack || term) = true
  · have htail : tailB cfg a r term =
        { ret := EOK, retval := some r.ret, src := r.src, st := [],
          dest := some ((({ cells := cells } : D).write 0 r.out).zero r.ret (if cfg.slack then a.dmax - r.ret else 1)) } := by
      cases hs : cfg.slack <;> cases ht : term <;> simp_all [tailB]
    rw [htail]
    exact ⟨.of_zeroed rfl rfl rfl rfl hge hle (by split <;> omega) (by split <;> omega) hdm, rfl⟩
  · have hs : cfg.slack = false := by cases h : cfg.slack <;> simp_all
    have ht : term = false := by cases h : term <;> simp_all
    have htail : tailB cfg a r term =
        { ret := EOK, retval := some r.ret, src := r.src, st := [], dest := some (({ cells := cells } : D).write 0 r.out) } := by
      simp [tailB, hlt, hc, hmk, hs, ht]
    rw [htail, hs, ht]
    exact ⟨.of_stored rfl rfl rfl rfl hge (by omega) hdm, rfl⟩

theorem tailB_err (cfg : Cfg) (a : SArgs) (r : Libc.LR) (term : Bool) (cells : List Nat)
    (hd : a.dest = some cells) (h0 : 0 < a.dmax) (hdm : a.dmax ≤ cells.length)
    (hlt : ¬ ((0 < r.ret ∨ cfg.fx.zero = true) ∧ r.ret < a.dmax)) :
    Reported (tailB cfg a r term) cells a.dmax cfg.slack ∧ (tailB cfg a r term).retval = some r.ret ∧
      (cfg.fx.rc = true → (tailB cfg a r term).ret = if r.ret = SIZE_MAX then EILSEQ else ESNOSPC) := by
  have hmk : mkD a = some { cells := cells } := by simp [mkD, hd]
  have hc : ((decide (r.ret > 0) || cfg.fx.zero) && decide (r.ret < a.dmax)) = false := by
    cases hb : ((decide (r.ret > 0) || cfg.fx.zero) && decide (r.ret < a.dmax)) with
    | false => rfl
    | true =>
      exfalso; apply hlt
      simp only [Bool.and_eq_true, Bool.or_eq_true, decide_eq_true_eq] at hb
      exact ⟨hb.1, hb.2⟩
  obtain ⟨rc, hrc, hfx⟩ : ∃ rc, tailB cfg a r term =
      { ret := rc, retval := some r.ret, src := r.src, ev := [rc],
        dest := some (clearCells cfg.slack (({ cells := cells } : D).write 0 r.out) a.dmax) } ∧
      (cfg.fx.rc = true → rc = if r.ret = SIZE_MAX then EILSEQ else ESNOSPC) := by
    refine ⟨_, by simp only [tailB, hc, Bool.false_eq_true, ↓reduceIte, hmk, Option.map_some]; rfl, ?_⟩
    intro h; simp [h]
  rw [hrc]
  exact ⟨.of_cleared rfl rfl h0 hdm, rfl, hfx⟩

/-- nothing stored outside `dest[0..dmax)`, no fault -/
def NoOverflow (o : Out) (dmax : Nat) : Prop := ∃ d, o.dest = some d ∧ d.fault = false ∧ d.hi ≤ dmax

/-- `NoOverflow` reads only `dest` (the `…tombs_s`/`…towcs_s` results are a tail with `src`/`st` overwritten); stated about
variables so that the two results are not compared as wholes -/
theorem NoOverflow.of_dest {o o' : Out} {dmax : Nat} (h : NoOverflow o dmax) (h4 : o'.dest = o.dest) : NoOverflow o' dmax := by
  unfold NoOverflow; rw [h4]; exact h

theorem NoOverflow.of_within {o : Out} {L n : Nat} {d : D} (h4 : o.dest = some d) (h : d.Within L n) : NoOverflow o n :=
  ⟨d, h4, h.fault, h.hi⟩

theorem tailW_safe (cfg : Cfg) (a : SArgs) (r : Libc.LR) (e : Nat) (q : Unit → Nat × Bool) (cells : List Nat)
    (hd : a.dest = some cells) (h0 : 0 < a.dmax) (hdm : a.dmax ≤ cells.length) (hout : r.out.length ≤ a.dmax) :
    NoOverflow (tailW cfg a r e q) a.dmax := by
  have hmk : mkD a = some { cells := cells } := by simp [mkD, hd]
  have hw := (D.Within.mk0 cells a.dmax).write 0 r.out (by omega) hdm
  by_cases hlt : r.ret < a.dmax
  · cases hs : cfg.slack
    · exact .of_within (by simp [tailW, hlt, hmk, hs]) (hw.zero r.ret 1 (by omega) hdm)
    · exact .of_within (by simp [tailW, hlt, hmk, hs]) (hw.zero r.ret (a.dmax - r.ret) (by omega) hdm)
  · exact .of_within (by simp only [tailW, hlt, ↓reduceIte, hmk, Option.map_some]) (hw.clear cfg.slack h0 hdm)

theorem tailB_safe (cfg : Cfg) (a : SArgs) (r : Libc.LR) (term : Bool) (cells : List Nat)
    (hd : a.dest = some cells) (h0 : 0 < a.dmax) (hdm : a.dmax ≤ cells.length) (hout : r.out.length ≤ a.dmax) :
    NoOverflow (tailB cfg a r term) a.dmax := by
  have hmk : mkD a = some { cells := cells } := by simp [mkD, hd]
  have hw := (D.Within.mk0 cells a.dmax).write 0 r.out (by omega) hdm
  by_cases hc : ((decide (r.ret > 0) || cfg.fx.zero) && decide (r.ret < a.dmax)) = true
  · have hlt : r.ret < a.dmax := by
      simp only [Bool.and_eq_true, decide_eq_true_eq] at hc; exact hc.2
    cases hs : cfg.slack with
    | true =>
      exact .of_within (by simp only [tailB, hc, ↓reduceIte, hmk, Option.map_some, hs]) (hw.zero r.ret (a.dmax - r.ret) (by omega) hdm)
    | false =>
      cases ht : term with
      | true =>
        exact .of_within (by simp only [tailB, hc, ↓reduceIte, hmk, Option.map_some, hs, Bool.false_eq_true]) (hw.zero r.ret 1 (by omega) hdm)
      | false =>
        exact .of_within (by simp only [tailB, hc, ↓reduceIte, hmk, Option.map_some, hs, Bool.false_eq_true]) hw
  · exact .of_within (by simp only [tailB, hc, Bool.false_eq_true, ↓reduceIte, hmk, Option.map_some]) (hw.clear cfg.slack h0 hdm)


theorem entryC_eq_none (a : CArgs) {cells : List Nat} (hdest : a.dest = some cells) (h0 : 0 < a.dmax)
    (hle : a.dmax ≤ RSIZE_MAX_WSTR) (hb : a.bos = none) : entryC a = none := by
  have h1 : ¬ a.dmax = 0 := by omega
  have h2 : ¬ a.dmax > RSIZE_MAX_WSTR := by omega
  simp [entryC, hdest, h1, hb, h2]

/-- `wcrtomb_s` past its entry checks, in closed form: libc's bytes stored and zeroed behind when the count fits, else (the bytes, or
nothing with the `stage` repair) stored and dest cleared -/
theorem wcrtomb_s_eq (cfg : Cfg) (a : CArgs) {cells : List Nat} (hrv : a.retvalNull = false) (hps : a.psNull = false)
    (hen : entryC a = none) (hdest : a.dest = some cells) (bs : List Nat) (n : Nat) (e : Bool)
    (hl : Libc.wcrtomb cfg.loc false a.wc = (bs, n, e)) :
    wcrtomb_s cfg a =
      if n < a.dmax then
        { ret := EOK, retval := some n,
          dest := some ((({ cells := cells } : D).write 0 bs).zero n (if cfg.slack then a.dmax - n else 1)) }
      else
        let rc := if cfg.fx.rc then (if n = SIZE_MAX then EILSEQ else ESNOSPC)
                  else (if n ≤ RSIZE_MAX_STR then ESNOSPC else (if e then EILSEQ else a.errno0))
        { ret := rc, retval := some n, ev := [rc],
          dest := some (clearCells cfg.slack (({ cells := cells } : D).write 0 (if cfg.fx.stage then [] else bs)) a.dmax) } := by
  have hmk : a.dest.map (fun c => ({ cells := c } : D)) = some { cells := cells } := by simp [hdest]
  have hd : a.dest.isNone = false := by simp [hdest]
  simp only [wcrtomb_s, hrv, hps, hen, hd, hl, hmk, Bool.false_eq_true, ↓reduceIte, Option.map_some]
  by_cases hlt : n < a.dmax
  · cases hsl : cfg.slack <;> simp [hlt]
  · cases hst : cfg.fx.stage <;> simp [hlt, D.write]

/-- `wctomb_s` past its entry checks, in closed form (`match (generalizing := false)`: otherwise `hl` is abstracted into the
statement and it cannot be rewritten with) -/
theorem wctomb_s_eq (cfg : Cfg) (a : CArgs) {cells : List Nat} (hrv : a.retvalNull = false) (hen : entryC a = none)
    (hdest : a.dest = some cells) (bs : List Nat) (n? : Option Nat) (e : Bool)
    (hl : Libc.wctomb cfg.loc false a.wc = (bs, n?, e)) :
    wctomb_s cfg a =
      if (match (generalizing := false) n? with | some l => decide (l > 0) && decide (l < a.dmax) | none => false) = true then
        { ret := EOK, retval := some (n?.getD SIZE_MAX),
          dest := some (if cfg.slack then (({ cells := cells } : D).write 0 bs).zero (n?.getD SIZE_MAX) (a.dmax - n?.getD SIZE_MAX)
                        else ({ cells := cells } : D).write 0 bs) }
      else
        let rc := if cfg.fx.rc then (match (generalizing := false) n? with | none => EILSEQ | some l => if l = 0 && a.dest.isNone then EOK else ESNOSPC)
                  else (match (generalizing := false) n? with | some l => if l > 0 then ESNOSPC else (if e then EILSEQ else a.errno0) | none => (if e then EILSEQ else a.errno0))
        { ret := rc, retval := some (n?.getD SIZE_MAX), ev := [rc],
          dest := some (clearCells cfg.slack (({ cells := cells } : D).write 0 (if cfg.fx.stage then [] else bs)) a.dmax) } := by
  have hmk : a.dest.map (fun c => ({ cells := c } : D)) = some { cells := cells } := by simp [hdest]
  have hd : a.dest.isNone = false := by simp [hdest]
  simp only [wctomb_s, hrv, hen, hd, hl, hmk, Bool.false_eq_true, ↓reduceIte, Option.map_some]
  cases n? with
  | none => cases hst : cfg.fx.stage <;> simp [D.write]
  | some l =>
    by_cases hf : (decide (l > 0) && decide (l < a.dmax)) = true
    · cases hsl : cfg.slack <;> simp [hf]
    · cases hst : cfg.fx.stage <;> simp [hf, D.write]

end SafeC.Conv
