import SafeC.Proofs.Fmt
import SafeC.Proofs.FmtGram
/-!
# The engine's directive parser on the printf grammar (C09)

`engDirective_gram`: on a conversion specification of the grammar, `% flags width .prec length c`, the four phases
of `safec_vsnprintf_s` in front of the specifier switch (flag loop, width, precision, length switch) consume exactly the
decoration and arrive at the specifier switch with `c`, FLAGS_LONG_DOUBLE set iff the length modifier is `L`.

`engLoop_gram`: by induction over the format — the whole loop on a format of the grammar stops in `case 'n'`
iff the format has an `n` conversion, unless it has stopped before on `%L` + integer conversion; it never reaches
the `default:` exit on a format of the grammar.
-/
namespace SafeC.Fmt.Gram
open SafeC.Fmt

structure Plain (c : Char) : Prop where
  nd : c.isDigit = false
  nstar : c ≠ '*'
  ndot : c ≠ '.'
  nflag : engIsFlag c = false
  nl : c ≠ 'l'
  nL : c ≠ 'L'
  nh : c ≠ 'h'
  nt : c ≠ 't'
  nj : c ≠ 'j'
  nz : c ≠ 'z'

theorem engFlag_eq (c : Char) : engIsFlag c = isFlag c := by
  simp only [engIsFlag, isFlag]
  cases c == '0' <;> cases c == '-' <;> cases c == '+' <;> cases c == ' ' <;> cases c == '#' <;> rfl

theorem plain_of_not_decor {c : Char} (h : isDecorChar c = false) : Plain c := by
  simp only [isDecorChar, Bool.or_eq_false_iff, beq_eq_false_iff_ne] at h
  obtain ⟨⟨⟨⟨⟨⟨⟨⟨⟨h0, h1⟩, h2⟩, h3⟩, h4⟩, h5⟩, h6⟩, h7⟩, h8⟩, h9⟩ := h
  exact ⟨h1, h2, h3, by rw [engFlag_eq]; exact h0, h5, h9, h4, h8, h6, h7⟩

theorem engWidth_digits (ds : Str) (hds : ∀ d ∈ ds, d.isDigit = true) (x : Char) (t : Str)
    (hx : x.isDigit = false) (hs : x ≠ '*') : engWidth (ds ++ x :: t) = x :: t := by
  cases ds with
  | nil => simp [engWidth, hx, hs]
  | cons d ds' =>
    have hd : d.isDigit = true := hds d (by simp)
    have := skipDigits_run (d :: ds') hds x hx t
    simpa [engWidth, hd] using this

theorem engWidth_star (s : Str) : engWidth ('*' :: s) = s := by
  have : ('*' : Char).isDigit = false := by decide
  simp [engWidth, this]

theorem engWidth_gram {w : Str} (hw : isWidth w = true) (x : Char) (t : Str) (hx : x.isDigit = false) (hs : x ≠ '*') :
    engWidth (w ++ x :: t) = x :: t := by
  simp only [isWidth, Bool.or_eq_true, beq_iff_eq] at hw
  rcases hw with (hw | hw) | hw
  · subst hw; exact engWidth_digits [] (by simp) x t hx hs
  · subst hw; exact engWidth_star _
  · exact engWidth_digits w (isNum_chars hw) x t hx hs

theorem engPrec_gram {p : Str} (hp : isPrec p = true) (x : Char) (t : Str) (hx : x.isDigit = false) (hs : x ≠ '*')
    (hdot : x ≠ '.') : engPrec (p ++ x :: t) = x :: t := by
  cases p with
  | nil => simp [engPrec, hdot]
  | cons a q =>
    simp only [isPrec, Bool.or_eq_true, Bool.and_eq_true, beq_iff_eq, List.head?_cons, List.tail_cons] at hp
    rcases hp with hp | ⟨ha, hq⟩
    · cases hp
    · have ha : a = '.' := by simpa using ha
      subst ha
      simp only [List.cons_append, engPrec, if_true]
      rcases hq with hq | hq
      · subst hq; exact engWidth_star _
      · exact engWidth_digits q (List.all_eq_true.mp hq) x t hx hs

theorem engLength_gram : ∀ l ∈ lengths, ∀ (c : Char), Plain c → ∀ r : Str,
    engLength (l ++ c :: r) = (l == ['L'], c :: r) := by
  intro l hl c hc r
  obtain ⟨_, _, _, _, h1, h2, h3, h4, h5, h6⟩ := hc
  simp only [lengths, List.mem_cons, List.mem_nil_iff, or_false] at hl
  rcases hl with rfl | rfl | rfl | rfl | rfl | rfl | rfl | rfl | rfl <;>
    simp [engLength, h1, h2, h3, h4, h5, h6]

theorem length_head : ∀ l ∈ lengths, ∀ (c : Char), Plain c → ∀ r : Str,
    ∃ x t, l ++ c :: r = x :: t ∧ x.isDigit = false ∧ x ≠ '*' ∧ x ≠ '.' ∧ engIsFlag x = false := by
  intro l hl c hc r
  simp only [lengths, List.mem_cons, List.mem_nil_iff, or_false] at hl
  rcases hl with rfl | rfl | rfl | rfl | rfl | rfl | rfl | rfl | rfl
  · exact ⟨c, r, rfl, hc.nd, hc.nstar, hc.ndot, hc.nflag⟩
  all_goals exact ⟨_, _, rfl, by decide, by decide, by decide, by decide⟩

theorem prec_head {p : Str} (hp : isPrec p = true) (x : Char) (t : Str) (hx : x.isDigit = false) (hs : x ≠ '*')
    (hf : engIsFlag x = false) :
    ∃ y u, p ++ x :: t = y :: u ∧ y.isDigit = false ∧ y ≠ '*' ∧ engIsFlag y = false := by
  cases p with
  | nil => exact ⟨x, t, rfl, hx, hs, hf⟩
  | cons a q =>
    simp only [isPrec, Bool.or_eq_true, Bool.and_eq_true, beq_iff_eq, List.head?_cons] at hp
    rcases hp with hp | ⟨ha, _⟩
    · cases hp
    · have ha : a = '.' := by simpa using ha
      subst ha
      exact ⟨'.', q ++ x :: t, rfl, by decide, by decide, by decide⟩

theorem width_head {w : Str} (hw : isWidth w = true) (x : Char) (t : Str) (hf : engIsFlag x = false) :
    ∃ y u, w ++ x :: t = y :: u ∧ engIsFlag y = false := by
  cases w with
  | nil => exact ⟨x, t, rfl, hf⟩
  | cons a q =>
    refine ⟨a, q ++ x :: t, rfl, ?_⟩
    simp only [isWidth, Bool.or_eq_true, beq_iff_eq] at hw
    rcases hw with (hw | hw) | hw
    · cases hw
    · simp at hw; rw [hw.1]; decide
    · simp only [isNum, Bool.and_eq_true, List.head?_cons, Option.any_some, bne_iff_ne, ne_eq] at hw
      have hd : a.isDigit = true := List.all_eq_true.mp hw.1 a (by simp)
      have h0 : a ≠ '0' := hw.2
      cases hfa : engIsFlag a with
      | false => rfl
      | true =>
        exfalso
        rw [engFlag_eq] at hfa
        rcases flag_cases hfa with h | h | h | h | h
        · subst h; revert hd; decide
        · subst h; revert hd; decide
        · subst h; revert hd; decide
        · subst h; revert hd; decide
        · exact h0 h

theorem engDirective_gram {d : Decor} (hd : d.ok = true) {c : Char} (hc : Plain c) (r : Str) :
    engDirective (d.text ++ c :: r) = engSpec (d.l == ['L']) (c :: r) := by
  simp only [Decor.ok, Bool.and_eq_true, List.contains_iff_mem] at hd
  obtain ⟨⟨⟨hf, hw⟩, hp⟩, hl⟩ := hd
  obtain ⟨x3, t3, e3, hx3d, hx3s, hx3dot, hx3f⟩ := length_head d.l hl c hc r
  obtain ⟨x2, t2, e2, hx2d, hx2s, hx2f⟩ := prec_head hp x3 t3 hx3d hx3s hx3f
  obtain ⟨x1, t1, e1, hx1f⟩ := width_head hw x2 t2 hx2f
  have h0 : (d.text ++ c :: r).dropWhile engIsFlag = d.w ++ (d.p ++ (d.l ++ c :: r)) := by
    have : d.text ++ c :: r = d.fl ++ x1 :: t1 := by
      simp only [Decor.text, List.append_assoc]; rw [e3, e2, e1]
    rw [this, dropWhile_append_stop engIsFlag d.fl x1 t1 (fun y hy => by rw [engFlag_eq]; exact List.all_eq_true.mp hf y hy) hx1f,
      ← e1, ← e2, ← e3]
  have h1 : engWidth (d.w ++ (d.p ++ (d.l ++ c :: r))) = d.p ++ (d.l ++ c :: r) := by
    rw [e3, e2]; exact engWidth_gram hw x2 t2 hx2d hx2s
  have h2 : engPrec (d.p ++ (d.l ++ c :: r)) = d.l ++ c :: r := by
    rw [e3]; exact engPrec_gram hp x3 t3 hx3d hx3s hx3dot
  simp only [engDirective, h0, h1, h2, engLength_gram d.l hl c hc r]

theorem engDirective_pct (r : Str) : engDirective ('%' :: r) = .next r := by
  have h1 : engIsFlag '%' = false := by decide
  have h2 : ('%' : Char).isDigit = false := by decide
  simp [engDirective, h1, engWidth, h2, engPrec, engLength, engSpec, engIsIntConv, engIsOtherConv]

theorem conv_class : ∀ c ∈ convs, (engIsIntConv c = true ∧ c ≠ 'n') ∨ (engIsIntConv c = false ∧ engIsOtherConv c = true ∧ c ≠ 'n') ∨
    (c = 'n' ∧ engIsIntConv c = false ∧ engIsOtherConv c = false) := by decide

theorem engLoop_gram {f : Str} {b : Bool} (h : PParse f b) : ∀ k, f.length ≤ k →
    engLoop k f = some .illegalLInt ∨ engLoop k f = (if b then some .illegalN else none) := by
  induction h with
  | nil => intro k _; right; cases k <;> rfl
  | @lit c r b hc _ ih =>
    intro k hk
    cases k with
    | zero => simp at hk
    | succ k =>
      simp only [engLoop, ne_eq, hc, not_false_eq_true, if_true]
      exact ih k (by simpa using hk)
  | @esc r b _ ih =>
    intro k hk
    cases k with
    | zero => simp at hk
    | succ k =>
      simp only [engLoop, ne_eq, not_true_eq_false, if_false, engDirective_pct]
      exact ih k (by simp at hk; omega)
  | @conv d c r b hd hc _ ih =>
    intro k hk
    cases k with
    | zero => simp at hk
    | succ k =>
      have hk' : r.length ≤ k := by simp at hk; omega
      simp only [engLoop, ne_eq, not_true_eq_false, if_false, engDirective_gram hd (plain_of_not_decor (conv_not_decor hc)) r]
      rcases conv_class c hc with ⟨hi, hn⟩ | ⟨hi, ho, hn⟩ | ⟨hn, hi, ho⟩
      · cases hL : (d.l == ['L']) with
        | true => left; simp [engSpec, hi]
        | false =>
          have : (c == 'n') = false := by simpa using hn
          simp only [engSpec, hi, if_true, this, Bool.false_or]
          exact ih k hk'
      · have : (c == 'n') = false := by simpa using hn
        simp only [engSpec, hi, ho, if_true, this, Bool.false_or]
        exact ih k hk'
      · subst hn
        right
        simp [engSpec, hi, ho]

end SafeC.Fmt.Gram
