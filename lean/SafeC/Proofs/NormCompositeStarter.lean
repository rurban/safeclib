import SafeC.Proofs.NormUCD
import SafeC.Proofs.NormMain
/-! C17 — every composite the pair lookup can return is a starter (tree's classes and UCD 14.0's) -/
namespace SafeC.Norm
open SafeC.Gen

theorem compos_pairs_size : UniCompos.pairs < 2 ^ (32 * (2 * UniCompos.pairsN)) := by decide +kernel

theorem compos_composites_starters :
    allBelow (fun j => kcc (cell 32 UniCompos.pairs (2 * j + 1)) == 0 && UCD.ccc (cell 32 UniCompos.pairs (2 * j + 1)) == 0) UniCompos.pairsN = true := by
  decide +kernel

theorem hangul_blocks_class0 :
    allBelow (fun i => rowId UniCombin.mainN UniCombin.main UniCombin.planes ((0xAC + i) * 256) == some 0 && cell 16 UCD14.cccIdx (0xAC + i) == 0) 44 = true := by
  decide +kernel

attribute [local irreducible] cell UniCanon.main UniCanon.planes UniCanon.rows UniCombin.main UniCombin.planes UniCombin.rows
  UniCompos.main UniCompos.planes UniCompos.rows UniCompos.pairs UniCompos.listOff UniCompos.listLen UCD14.cccIdx UCD14.cccPages

theorem hangulS_class0 {c : Nat} (h : 0xAC00 ≤ c ∧ c ≤ 0xD7A3) : kcc c = 0 ∧ UCD.ccc c = 0 := by
  have hb : c / 256 - 0xAC < 44 := by omega
  have hh := allBelow_spec hangul_blocks_class0 _ hb
  have e : 0xAC + (c / 256 - 0xAC) = c / 256 := by omega
  rw [e] at hh
  simp only [Bool.and_eq_true, beq_iff_eq] at hh
  constructor
  · unfold kcc combinClass
    rw [rowId_block, hh.1]
    rfl
  · unfold UCD.ccc
    have : c < 0x110000 := by omega
    simp [this, hh.2]

theorem searchList_found (key : Nat) : ∀ (n off : Nat), searchList key off n ≠ 0 →
    ∃ j, j < n ∧ cell 32 UniCompos.pairs (2 * (off + j)) = key ∧ cell 32 UniCompos.pairs (2 * (off + j) + 1) = searchList key off n := by
  intro n
  induction n with
  | zero => intro off h; exact absurd rfl h
  | succ n ih =>
    intro off h
    unfold searchList at h ⊢
    by_cases h1 : key = cell 32 UniCompos.pairs (2 * off)
    · rw [if_pos h1] at h ⊢
      exact ⟨0, by omega, h1.symm, rfl⟩
    · rw [if_neg h1] at h ⊢
      by_cases h2 : key < cell 32 UniCompos.pairs (2 * off)
      · rw [if_pos h2] at h; exact absurd rfl h
      · rw [if_neg h2] at h ⊢
        obtain ⟨j, hj, e1, e2⟩ := ih (off + 1) h
        have e : off + 1 + j = off + (j + 1) := by omega
        rw [e] at e1 e2
        exact ⟨j + 1, by omega, e1, e2⟩

theorem stored_composite_class0 (j : Nat) (h : cell 32 UniCompos.pairs (2 * j + 1) ≠ 0) :
    kcc (cell 32 UniCompos.pairs (2 * j + 1)) = 0 ∧ UCD.ccc (cell 32 UniCompos.pairs (2 * j + 1)) = 0 := by
  by_cases hj : j < UniCompos.pairsN
  · have := allBelow_spec compos_composites_starters j hj
    simpa using this
  · exact absurd (cell_eq_zero_of_ge compos_pairs_size (by omega)) h

/-- **whatever `_composite_cp` returns (and the exclusion test lets through) is a starter** — for every pair of 32-bit values -/
theorem compositeCp_class0 (fx : Fixes) (a b : Nat) (h : compositeCp fx a b ≠ 0) :
    kcc (compositeCp fx a b) = 0 ∧ UCD.ccc (compositeCp fx a b) = 0 := by
  unfold compositeCp at h ⊢
  have c11 : ESLEMAX = 403 := by decide
  by_cases hb : b = 0
  · simp [hb] at h
  · by_cases hr : UniCompos.unicodeMax < a ∨ UniCompos.unicodeMax < b
    · simp only [hb, hr, ↓reduceIte]
      -- (uint32_t)-ESLEMAX: not a code point
      rw [c11]
      have hbig : UniCompos.unicodeMax < 2 ^ 32 - 403 := by rw [unicodeMax_eq]; decide
      constructor
      · unfold kcc; rw [combinClass_oob hbig]; rfl
      · unfold UCD.ccc; simp
    · by_cases hlv : (isL a && isV b) = true
      · simp only [hb, hr, hlv, ↓reduceIte]
        unfold isL isV at hlv
        rw [HLBase_eq, HLFinal_eq, HVBase_eq, HVFinal_eq] at hlv
        simp only [Bool.and_eq_true, decide_eq_true_eq] at hlv
        rw [HSBase_eq, HLBase_eq, HVCount_eq, HVBase_eq, HTCount_eq]
        apply hangulS_class0
        omega
      · by_cases hlvt : (isLV a && isT b) = true
        · simp only [hb, hr, hlv, hlvt, ↓reduceIte, Bool.false_eq_true]
          unfold isLV isS isT at hlvt
          rw [HSBase_eq, HSFinal_eq, HTCount_eq, HTBase_eq, HTFinal_eq] at hlvt
          simp only [Bool.and_eq_true, decide_eq_true_eq, beq_iff_eq] at hlvt
          rw [HTBase_eq]
          apply hangulS_class0
          omega
        · simp only [hb, hr, hlv, hlvt, ↓reduceIte, Bool.false_eq_true] at h ⊢
          split at h
          · exact absurd rfl h
          · exact absurd rfl h
          · rename_i r hrow
            by_cases hz : cell 16 UniCompos.rows (r * 256 + a % 256) = 0
            · rw [if_pos hz] at h; exact absurd rfl h
            · rw [if_neg hz] at h ⊢
              obtain ⟨j, _, _, hj⟩ := searchList_found _ _ _ h
              rw [← hj] at h ⊢
              exact stored_composite_class0 _ h

end SafeC.Norm
