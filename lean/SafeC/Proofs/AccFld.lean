import SafeC.Proofs.AccS
import SafeC.Models.Fld
/-!
# Footprint of the field copies `strcpyfld_s strcpyfldin_s strcpyfldout_s`

All three loops test their counters before they dereference: `src` is read inside its first `slen` cells, `dest`
written (and, on the error exits, measured by `strnlen_s` and cleared) inside its `dmax` cells — whatever the loads
return (`Acc`).  Only the `dmax` checks at the entry, which pass a continuation on, are walked in `AccS` (`fldG_accs`).
-/
namespace SafeC
open Gen

variable {R W : Nat → Prop}

theorem Acc_chkSlenNospcClear (cfg : Cfg) (dest dmax slen max : Nat) {k : Prog Nat} (hpos : dmax ≠ 0)
    (hr : ∀ a, Cells dest dmax a → R a) (hw : ∀ a, Cells dest dmax a → W a)
    (hk : slen ≤ dmax → Acc R W k (fun _ => True)) :
    Acc R W (chkSlenNospcClear cfg dest dmax slen max k) (fun _ => True) := by
  have h0 : W dest := hw _ ⟨by omega, by omega⟩
  refine Acc.ite (fun _ => ?_) (fun _ => ?_)
  · refine Acc.bind (Acc_strnlen_s_le dest dmax none (fun _ => hr)) (fun len hlen => ?_)
    exact Acc.thenPure (Acc_handleError cfg dest len _ (fun a ha => hw a ha.within) h0)
  · exact hk (by omega)

theorem Acc_fldLoop (cfg : Cfg) (kind : FldKind) (onDest : Bool) (bumper oD oM fuel dest src dmax slen : Nat)
    (hle : slen ≤ dmax) (hr : ∀ a, Cells src slen a → R a) (hw : ∀ a, Cells dest dmax a → W a)
    (hwo : ∀ a, Cells oD oM a → W a) (hwo0 : W oD) :
    Acc R W (fldLoop cfg kind onDest bumper oD oM fuel dest src dmax slen)
      (fun r => match r with | .inl _ => True | .inr (p, m) => ∀ a, Cells p m a → W a) := by
  induction fuel generalizing dest src dmax slen with
  | zero => unfold fldLoop; exact Acc.pure _ hw
  | succ n ih =>
    unfold fldLoop
    dsimp only
    have step : slen ≠ 0 → Acc R W (if (if onDest = true then dest else src) = bumper then do
          handleError cfg oD oM ESOVRLP
          pure (.inl ESOVRLP)
        else do
          let c ← load src
          store dest c
          let slen' := slen - 1
          fldLoop cfg kind onDest bumper oD oM n (dest+1) (src+1) (dmax - 1) slen')
        (fun r => match r with | .inl _ => True | .inr (p, m) => ∀ a, Cells p m a → W a) := by
      intro hs
      by_cases hb : (if onDest = true then dest else src) = bumper
      · rw [if_pos hb]
        exact Acc.bind (Acc_handleError cfg oD oM _ hwo hwo0) (fun _ _ => Acc.pure _ trivial)
      · rw [if_neg hb]
        refine Acc.loadBind (hr _ ⟨by omega, by omega⟩) (fun c => ?_)
        refine Acc.storeBind (hw _ ⟨by omega, by omega⟩) ?_
        exact ih (dest+1) (src+1) (dmax-1) (slen-1) (by omega) (fun a ha => hr a ha.within)
          (fun a ha => hw a ha.within)
    cases kind with
    | fld =>
      by_cases hs : slen = 0
      · simp only [hs, decide_true, Pure.pure]
        exact Acc.ret _ hw
      · refine Acc.bind (Q := fun b => b = false) (Acc.pure _ (by simp [hs])) (fun b hb => ?_)
        subst hb
        simpa using step hs
    | fldin =>
      by_cases hs : dmax = 0 ∨ slen = 0
      · simp only [hs, if_true]
        exact Acc.pure _ hw
      · simp only [hs, if_false]
        have hs' : slen ≠ 0 := by omega
        refine Acc.loadBind (hr _ ⟨by omega, by omega⟩) (fun c => ?_)
        by_cases hc : c = 0
        · simp only [hc, decide_true]
          exact Acc.pure _ hw
        · simp only [hc, decide_false]
          simpa using step hs'
    | fldout =>
      by_cases hs : dmax > 1 ∧ slen ≠ 0
      · refine Acc.bind (Q := fun b => b = false) (Acc.pure _ (by simp [hs])) (fun b hb => ?_)
        subst hb
        simpa using step hs.2
      · refine Acc.bind (Q := fun b => b = true) (Acc.pure _ (by simp [hs])) (fun b hb => ?_)
        subst hb
        exact Acc.pure _ hw

/-- what `fldG` runs behind its `dmax` check -/
theorem Acc_fldBody (kind : FldKind) (cfg : Cfg) (dest dmax src slen : Nat) (hm : ¬ dmax = 0)
    (hr : src ≠ 0 → ∀ a, Cells src slen a → R a)
    (hrd : ∀ a, Cells dest dmax a → R a) (hw : ∀ a, Cells dest dmax a → W a) :
    Acc R W (if src = 0 then do handleError cfg dest dmax ESNULLP; pure ESNULLP
      else chkSlenNospcClear cfg dest dmax slen RSIZE_MAX_STR <| do
        let fuel := (match kind with | .fld => slen | _ => dmax)
        let r ← (if dest < src then fldLoop cfg kind true src dest dmax fuel dest src dmax slen
                 else fldLoop cfg kind false dest dest dmax fuel dest src dmax slen)
        match r with
        | .inl code => pure code
        | .inr (d, m) => do
          nullSlack d m
          pure EOK) (fun _ => True) := by
  have h0 : W dest := hw _ ⟨by omega, by omega⟩
  refine Acc.ite (fun _ => Acc.thenPure (Acc_handleError cfg dest dmax _ hw h0)) fun hs => ?_
  refine Acc_chkSlenNospcClear cfg dest dmax slen _ hm hrd hw (fun hle => ?_)
  refine Acc.bind (Q := fun r => match r with | .inl _ => True | .inr (p, m) => ∀ a, Cells p m a → W a) ?_ (fun r hq => ?_)
  · exact Acc.ite (fun _ => Acc_fldLoop cfg kind true _ dest dmax _ dest src dmax slen hle (hr hs) hw hw h0) fun _ =>
      Acc_fldLoop cfg kind false _ dest dmax _ dest src dmax slen hle (hr hs) hw hw h0
  · cases r with
    | inl c => exact Acc.pure _ trivial
    | inr pm =>
      obtain ⟨p, m⟩ := pm
      exact Acc.thenPure (Acc_nullSlack p m hq)

theorem fldG_accs (kind : FldKind) (cfg : Cfg) (dest dmax src slen : Nat) (b : Bos) {d : Nat → Nat}
    (hr : src ≠ 0 → ∀ a, Cells src slen a → R a)
    (hrd : dest ≠ 0 → ∀ a, Cells dest dmax a → R a) (hw : dest ≠ 0 → ∀ a, Cells dest dmax a → W a) :
    AccS R W d (fldG kind cfg dest dmax src slen b) (fun _ _ => True) := by
  refine AccS.ite (fun _ => AccS.pure _ trivial) fun _ => AccS_destChecks fun hd hm => ?_
  have body := AccS.of_Acc (Acc_fldBody kind cfg dest dmax src slen hm hr (hrd hd) (hw hd)) d
  cases kind with
  | fld => exact AccS_chkDmaxClearG id cfg dest dmax b _ hm (hrd hd) (hw hd) fun _ => body
  | fldin => exact AccS_chkDmax _ _ _ body
  | fldout => exact AccS_chkDmax _ _ _ body

end SafeC
