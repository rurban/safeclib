import SafeC.Proofs.EV
/-!
# `EM S p`: every constraint-handler event `p` can emit carries a code from the list `S`, whatever it reads

A purely syntactic bound on the CODES a program can report.  It is an `EV` post (`EM.of_EV`): the functions are walked
with a post that names the list (`OnceIn S k` of `Proofs/EV.lean`, `QIn bn S k code` of `Proofs/EVQuery.lean`), which also bounds the
codes they RETURN.  `Props/C05Docs.lean` compares that list with the `@retval` lines of the function's doc comment; it reads the list off the
`EV` post itself, and no property file goes through `EM`.
-/
namespace SafeC
open Gen

inductive EM (S : List Nat) : {α : Type} → Prog α → Prop where
  | ret {α} (x : α) : EM S (.ret x)
  | load {α} (a : Nat) (k : Nat → Prog α) : (∀ v, EM S (k v)) → EM S (.load a k)
  | store {α} (a v : Nat) (k : Prog α) : EM S k → EM S (.store a v k)
  | emitH {α} (kd : Kind) (c : Nat) (k : Prog α) : c ∈ S → EM S k → EM S (.emit (.handler kd c) k)
  | emitB {α} (b : Bool) (k : Prog α) : EM S k → EM S (.emit (.branch b) k)

namespace EM
variable {S : List Nat}

theorem of_EV {α} {p : Prog α} {Q : α → List Event → Prop} (h : EV p Q)
    (hQ : ∀ x es, Q x es → ∀ kd c, Event.handler kd c ∈ es → c ∈ S) : EM S p := by
  induction h with
  | ret x _ => exact .ret x
  | load a k _ ih => exact .load a _ (fun v => ih v hQ)
  | store a v k _ ih => exact .store a v _ (ih hQ)
  | emit e k hk ih =>
    have hk' := ih (fun x es h kd c hm => hQ x (e :: es) h kd c (List.mem_cons_of_mem _ hm))
    cases e with
    | branch b => exact .emitB b _ hk'
    | handler kd c =>
      -- the code of this event is in `S` because the events of any leaf below are
      obtain ⟨x, es, hx⟩ := hk.exists_leaf
      exact .emitH kd c _ (hQ x _ hx kd c (List.mem_cons_self ..)) hk'

theorem handleError (cfg : Cfg) (d len c : Nat) (h : c ∈ S) : EM S (SafeC.handleError cfg d len c) :=
  of_EV (EV.handleError cfg d len c) fun _ _ he _ _ hm => by
    subst he; cases List.mem_singleton.1 hm; exact h

theorem ev {α} {p : Prog α} (h : EM S p) : EV p (fun _ es => ∀ kd c, Event.handler kd c ∈ es → c ∈ S) := by
  induction h with
  | ret x => exact .ret x fun _ _ h => nomatch h
  | load a k _ ih => exact .load a _ ih
  | store a v k _ ih => exact .store a v _ ih
  | emitH kd c k hc _ ih =>
    exact .emit _ _ (ih.conseq fun _ _ h kd' c' hm => (List.mem_cons.1 hm).elim (fun e => by cases e; exact hc) (h kd' c'))
  | emitB b k _ ih =>
    exact .emit _ _ (ih.conseq fun _ _ h kd' c' hm => (List.mem_cons.1 hm).elim (fun e => nomatch e) (h kd' c'))

theorem sound {α} {p : Prog α} (h : EM S p) (st : St) {r : α} {st' : St} (he : exec p st = .ok (r, st')) :
    ∃ es, st'.events = st.events ++ es ∧ ∀ kd c, Event.handler kd c ∈ es → c ∈ S :=
  h.ev.sound st he

end EM
end SafeC
