import SafeC.Proofs.AccWalk
import SafeC.Proofs.MemMove
import SafeC.Models.Mem
/-!
# `Acc` footprints of the memory family (`Models/Mem.lean`): primitives, the checks the entry points share, the entry points

Every lemma is parametric in the readable set `R` and the writable set `W`; the footprints are hypotheses
(`hr : ∀ a, Cells sp n a → R a`), the postconditions carry the returned pointers so that the next phase of a
primitive can be bounded.  Nothing here depends on the values in memory: `Acc` quantifies over every loaded value.
-/
namespace SafeC
open Gen Mem

variable {R W : Nat → Prop}


/-- one byte store at byte address `a`: a store to cell `a / w`; for `w > 1` possibly a read-modify-write of it -/
theorem Acc_storeByte (w v a rem : Nat) (h0 : 0 < w) (hw : W (a / w)) (hr : 1 < w → R (a / w)) :
    Acc R W (storeByte w v a rem) (fun _ => True) := by
  refine Acc.ite (fun _ => ?_) (fun _ => ?_)
  · have e : w = 1 := by omega
    subst e
    rw [Nat.div_one] at hw
    exact Acc.storeP _ _ hw
  · have hr' := hr (by omega)
    exact Acc.ite (fun _ => Acc.ite (fun _ => Acc.storeP _ _ hw) fun _ => Acc.pure _ trivial) fun _ =>
      Acc.loadBind hr' (fun _ => Acc.storeP _ _ hw)

/-- `memset(dest, v, n)` (`n` BYTES on `w`-byte cells): the `n / w` whole cells are stored; a partially covered
last cell is read and written -/
theorem Acc_memsetBytes (w v dest n : Nat) (hw : ∀ a, Cells dest (n / w) a → W a)
    (hp : n % w ≠ 0 → R (dest + n / w) ∧ W (dest + n / w)) :
    Acc R W (memsetBytes w v dest n) (fun _ => True) := by
  refine Acc.bindT (Acc_memsetP _ _ _ hw) (fun _ => ?_)
  refine Acc.ite (fun _ => Acc.pure _ trivial) fun _ => ?_
  obtain ⟨h1, h2⟩ := hp ‹_›
  exact Acc.loadBind h1 (fun _ => Acc.storeP _ _ h2)

theorem Acc_handleMemErrorB (w dest len code : Nat) (hw : ∀ a, Cells dest (len / w) a → W a)
    (hp : len % w ≠ 0 → R (dest + len / w) ∧ W (dest + len / w)) :
    Acc R W (handleMemErrorB w dest len code) (fun _ => True) := by
  exact Acc.bindT (Acc_memsetBytes w 0 dest len hw hp) (fun _ => Acc.handlerM _)

theorem Acc_handleMemErrorB_one (dest len code : Nat) (hw : ∀ a, Cells dest len a → W a) :
    Acc R W (handleMemErrorB 1 dest len code) (fun _ => True) :=
  Acc_handleMemErrorB 1 dest len code (by rw [Nat.div_one]; exact hw) (fun h => absurd (Nat.mod_one _) h)

/-! ## `mem_prim_set` (`dest` a BYTE address): stores to the cells `b / w` of the addressed bytes `b`; reads
(read-modify-write of a partially covered cell) only when `w > 1` -/

theorem Acc_setPrologue (w v count dp : Nat) (h0 : 0 < w) (hw : ∀ b, Cells dp count b → W (b / w))
    (hr : 1 < w → ∀ b, Cells dp count b → R (b / w)) :
    Acc R W (setPrologue w v count dp) (fun r => ∃ k, k ≤ count ∧ r = (count - k, dp + k)) := by
  induction count generalizing dp with
  | zero => unfold setPrologue; exact Acc.pure _ ⟨0, Nat.le_refl _, rfl⟩
  | succ n ih =>
    refine Acc.ite (fun _ => Acc.pure _ ⟨0, Nat.zero_le _, rfl⟩) fun _ => ?_
    refine Acc.bindT (Acc_storeByte w v dp (n+1) h0 (hw _ ⟨by omega, by omega⟩)
      (fun h => hr h _ ⟨by omega, by omega⟩)) (fun _ => ?_)
    refine (ih (dp+1) (fun b ha => hw b ha.within)
      (fun h b ⟨h1, h2⟩ => hr h b ⟨by omega, by omega⟩)).conseq ?_
    rintro r ⟨k, hk, rfl⟩
    refine ⟨k+1, by omega, ?_⟩
    rw [Prod.mk.injEq]; omega

theorem Acc_setTail (w v count dp : Nat) (h0 : 0 < w) (hw : ∀ b, Cells dp count b → W (b / w))
    (hr : 1 < w → ∀ b, Cells dp count b → R (b / w)) :
    Acc R W (setTail w v count dp) (fun _ => True) := by
  induction count generalizing dp with
  | zero => unfold setTail; exact Acc.pure _ trivial
  | succ n ih =>
    refine Acc.bindT (Acc_storeByte w v dp (n+1) h0 (hw _ ⟨by omega, by omega⟩)
      (fun h => hr h _ ⟨by omega, by omega⟩)) (fun _ => ?_)
    exact ih (dp+1) (fun b ha => hw b ha.within)
      (fun h b ⟨h1, h2⟩ => hr h b ⟨by omega, by omega⟩)

/-- one 64-bit word store = `8 / w` cell stores from cell `lp / w` -/
theorem word64_cells (w lp c : Nat) (h3 : w = 1 ∨ w = 2 ∨ w = 4) (hc : Cells (lp / w) (8 / w) c) :
    ∃ b, Cells lp 8 b ∧ b / w = c := by
  obtain ⟨h1, h2⟩ := hc
  rcases h3 with rfl | rfl | rfl
  · exact ⟨lp + (c - lp / 1) * 1, ⟨by omega, by omega⟩, by omega⟩
  · exact ⟨lp + (c - lp / 2) * 2, ⟨by omega, by omega⟩, by omega⟩
  · exact ⟨lp + (c - lp / 4) * 4, ⟨by omega, by omega⟩, by omega⟩

theorem Acc_setWords (w v k lp : Nat) (h3 : w = 1 ∨ w = 2 ∨ w = 4) (hw : ∀ b, Cells lp (8 * k) b → W (b / w)) :
    Acc R W (setWords w v k lp) (fun r => r = lp + 8 * k) := by
  induction k generalizing lp with
  | zero => unfold setWords; exact Acc.pure _ rfl
  | succ k ih =>
    refine Acc.bindT (Acc_memsetP _ _ _ (fun c hc => ?_)) (fun _ => ?_)
    · obtain ⟨b, ⟨hb1, hb2⟩, rfl⟩ := word64_cells w lp c h3 hc
      exact hw b ⟨hb1, by omega⟩
    · exact (ih (lp+8) (fun b ha => hw b ha.within)).conseq (fun r hr => by omega)

theorem Acc_setBlocks (w v q lp : Nat) (h3 : w = 1 ∨ w = 2 ∨ w = 4) (hw : ∀ b, Cells lp (128 * q) b → W (b / w)) :
    Acc R W (setBlocks w v q lp) (fun r => r = lp + 128 * q) := by
  induction q generalizing lp with
  | zero => unfold setBlocks; exact Acc.pure _ rfl
  | succ q ih =>
    refine Acc.bind (Acc_setWords w v 16 lp h3 (fun b ha => hw b ha.within)) (fun r hr => ?_)
    subst hr
    exact (ih _ (fun b ha => hw b ha.within)).conseq (fun r hr => by omega)

/-- **`mem_prim_set(dest, len, value)`**: the cells of the `len mod 2^32` addressed bytes; a load happens only for
`w > 1` (the read-modify-write of a partially covered last cell) -/
theorem Acc_mem_prim_set (w dest len value : Nat) (h3 : w = 1 ∨ w = 2 ∨ w = 4)
    (hw : ∀ b, Cells dest (len % U32) b → W (b / w)) (hr : 1 < w → ∀ b, Cells dest (len % U32) b → R (b / w)) :
    Acc R W (mem_prim_set w dest len value) (fun _ => True) := by
  have h0 : 0 < w := by omega
  generalize hn : len % U32 = n at hw hr
  unfold mem_prim_set
  simp only [hn]
  refine Acc.bind (Acc_setPrologue w _ n dest h0 hw hr) (fun r hr' => ?_)
  obtain ⟨k, hk, rfl⟩ := hr'
  refine Acc.bind (Acc_setBlocks w _ ((n - k) / 8 / 16) (dest + k) h3
    (fun b ha => hw b ha.within)) (fun r hr' => ?_)
  subst hr'
  refine Acc.bind (Acc_setWords w _ ((n - k) / 8 % 16) _ h3
    (fun b ha => hw b ha.within)) (fun r hr' => ?_)
  subst hr'
  exact Acc_setTail w _ ((n - k) % 8) _ h0 (fun b ha => hw b ha.within)
    (fun h b ⟨h1, h2⟩ => hr h b ⟨by omega, by omega⟩)

theorem Acc_mem_prim_set_one (dest len value : Nat) (hw : ∀ a, Cells dest (len % U32) a → W a) :
    Acc R W (mem_prim_set 1 dest len value) (fun _ => True) :=
  Acc_mem_prim_set 1 dest len value (Or.inl rfl) (fun b hb => by rw [Nat.div_one]; exact hw b hb)
    (fun h => absurd h (by decide))

theorem Acc_setElems (v k dp : Nat) (hw : ∀ a, Cells dp k a → W a) :
    Acc R W (setElems v k dp) (fun r => r = dp + k) := by
  induction k generalizing dp with
  | zero => unfold setElems; exact Acc.pure _ rfl
  | succ k ih =>
    have h0 : W dp := hw _ ⟨by omega, by omega⟩
    refine Acc.storeBind h0 ?_
    exact (ih (dp+1) (fun a ha => hw a ha.within)).conseq (fun r hr => by omega)

theorem Acc_setElemBlocks (v q dp : Nat) (hw : ∀ a, Cells dp (16 * q) a → W a) :
    Acc R W (setElemBlocks v q dp) (fun r => r = dp + 16 * q) := by
  induction q generalizing dp with
  | zero => unfold setElemBlocks; exact Acc.pure _ rfl
  | succ q ih =>
    refine Acc.bind (Acc_setElems v 16 dp (fun a ha => hw a ha.within)) (fun r hr => ?_)
    subst hr
    exact (ih _ (fun a ha => hw a ha.within)).conseq (fun r hr => by omega)

theorem Acc_primSetElems (dest len value : Nat) (hw : ∀ a, Cells dest (len % U32) a → W a) :
    Acc R W (primSetElems dest len value) (fun _ => True) := by
  generalize hn : len % U32 = n at hw
  unfold primSetElems
  simp only [hn]
  refine Acc.bind (Acc_setElemBlocks value (n / 16) dest (fun a ha => hw a ha.within)) (fun r hr => ?_)
  subst hr
  exact Acc.thenPure (Acc_setElems value (n % 16) (dest + 16 * (n / 16)) (fun a ha => hw a ha.within))

theorem Acc_mem_prim_set16 (dest len value : Nat) (hw : ∀ a, Cells dest (len % U32) a → W a) :
    Acc R W (mem_prim_set16 dest len value) (fun _ => True) := Acc_primSetElems _ _ _ hw
theorem Acc_mem_prim_set32 (dest len value : Nat) (hw : ∀ a, Cells dest (len % U32) a → W a) :
    Acc R W (mem_prim_set32 dest len value) (fun _ => True) := Acc_primSetElems _ _ _ hw

/-- a counter loop over two ASCENDING pointers, `b` cells a pass: the footprint of `k` passes is the `b*k` cells at each
pointer.  `hstep`: a pass touches its `b` cells and goes on with the rest. -/
theorem Acc_blocksFwd {loop : Nat → Nat → Nat → Prog (Nat × Nat)} {b : Nat}
    (h0 : ∀ dp sp, loop 0 dp sp = pure (dp, sp))
    (hstep : ∀ k dp sp (Q : Nat × Nat → Prop), (∀ a, Cells sp b a → R a) → (∀ a, Cells dp b a → W a) →
      Acc R W (loop k (dp+b) (sp+b)) Q → Acc R W (loop (k+1) dp sp) Q)
    (k dp sp n : Nat) (hn : n = b * k) (hr : ∀ a, Cells sp n a → R a) (hw : ∀ a, Cells dp n a → W a) :
    Acc R W (loop k dp sp) (fun r => r = (dp + n, sp + n)) := by
  induction k generalizing dp sp n with
  | zero => subst hn; rw [h0]; exact Acc.pure _ rfl
  | succ k ih =>
    rw [Nat.mul_succ] at hn
    refine hstep k dp sp _ (fun a ha => hr a ha.within) (fun a ha => hw a ha.within) ?_
    refine (ih (dp+b) (sp+b) (b*k) rfl (fun a ha => hr a ha.within) (fun a ha => hw a ha.within)).conseq fun r hr' => ?_
    rw [hr', Prod.mk.injEq]; omega

/-- DESCENDING: entered with both pointers at the END of the `b*k` cells -/
theorem Acc_blocksBwd {loop : Nat → Nat → Nat → Prog (Nat × Nat)} {b : Nat}
    (h0 : ∀ dp sp, loop 0 dp sp = pure (dp, sp))
    (hstep : ∀ k d s (Q : Nat × Nat → Prop), (∀ a, Cells s b a → R a) → (∀ a, Cells d b a → W a) →
      Acc R W (loop k d s) Q → Acc R W (loop (k+1) (d+b) (s+b)) Q)
    (k d s n : Nat) (hn : n = b * k) (hr : ∀ a, Cells s n a → R a) (hw : ∀ a, Cells d n a → W a) :
    Acc R W (loop k (d + n) (s + n)) (fun r => r = (d, s)) := by
  induction k generalizing n with
  | zero => subst hn; rw [h0]; exact Acc.pure _ rfl
  | succ k ih =>
    rw [Nat.mul_succ] at hn
    subst hn
    rw [← Nat.add_assoc, ← Nat.add_assoc]
    exact hstep k _ _ _ (fun a ha => hr a ha.within) (fun a ha => hw a ha.within)
      (ih (b*k) rfl (fun a ha => hr a ha.within) (fun a ha => hw a ha.within))

theorem Acc_copyFwd (n dp sp : Nat) (hr : ∀ a, Cells sp n a → R a) (hw : ∀ a, Cells dp n a → W a) :
    Acc R W (copyFwd n dp sp) (fun r => r = (dp + n, sp + n)) :=
  Acc_blocksFwd (b := 1) (fun _ _ => rfl) (fun k dp sp Q hr hw h => by
    exact Acc.loadBind (hr _ ⟨Nat.le_refl _, by omega⟩) fun c => Acc.storeBind (hw _ ⟨Nat.le_refl _, by omega⟩) h)
    n dp sp n (Nat.one_mul n).symm hr hw

/-- `n` times `*--dp = *--sp;` entered at the END of the `n` cells at `d`, `s` -/
theorem Acc_copyBwd (n d s : Nat) (hr : ∀ a, Cells s n a → R a) (hw : ∀ a, Cells d n a → W a) :
    Acc R W (copyBwd n (d + n) (s + n)) (fun r => r = (d, s)) :=
  Acc_blocksBwd (b := 1) (fun _ _ => rfl) (fun k d s Q hr hw h => by
    exact Acc.loadBind (hr _ ⟨Nat.le_refl _, by omega⟩) fun c => Acc.storeBind (hw _ ⟨Nat.le_refl _, by omega⟩) h)
    n d s n (Nat.one_mul n).symm hr hw

theorem Acc_loadCells (n a : Nat) (hr : ∀ x, Cells a n x → R x) :
    Acc R W (loadCells n a) (fun cs => cs.length = n) := by
  induction n generalizing a with
  | zero => unfold loadCells; exact Acc.pure _ rfl
  | succ n ih =>
    have h0 : R a := hr _ ⟨by omega, by omega⟩
    refine Acc.loadBind h0 (fun c => ?_)
    refine Acc.bind (ih (a+1) (fun x ha => hr x ha.within)) (fun cs hcs => ?_)
    exact Acc.pure _ (by rw [List.length_cons, hcs])

theorem Acc_storeCells (cs : List Nat) (a : Nat) (hw : ∀ x, Cells a cs.length x → W x) :
    Acc R W (storeCells cs a) (fun _ => True) := by
  induction cs generalizing a with
  | nil => unfold storeCells; exact Acc.pure _ trivial
  | cons c cs ih =>
    have h0 : W a := hw _ ⟨by omega, by simp⟩
    refine Acc.storeBind h0 ?_
    exact ih (a+1) (fun x ⟨e1, e2⟩ => hw x ⟨by omega, by rw [List.length_cons]; omega⟩)

theorem Acc_copyWord (dp sp : Nat) (hr : ∀ a, Cells sp 8 a → R a) (hw : ∀ a, Cells dp 8 a → W a) :
    Acc R W (copyWord dp sp) (fun _ => True) := by
  exact Acc.bind (Acc_loadCells 8 sp hr) (fun cs hcs => Acc_storeCells cs dp (by rw [hcs]; exact hw))

theorem Acc_wordsFwd (n dp sp : Nat) (hr : ∀ a, Cells sp (8 * n) a → R a) (hw : ∀ a, Cells dp (8 * n) a → W a) :
    Acc R W (wordsFwd n dp sp) (fun r => r = (dp + 8 * n, sp + 8 * n)) :=
  Acc_blocksFwd (fun _ _ => rfl) (fun k dp sp Q hr hw h => by
    unfold wordsFwd; exact Acc.bindT (Acc_copyWord dp sp hr hw) fun _ => h) n dp sp _ rfl hr hw

theorem Acc_wordsBwd (n d s : Nat) (hr : ∀ a, Cells s (8 * n) a → R a) (hw : ∀ a, Cells d (8 * n) a → W a) :
    Acc R W (wordsBwd n (d + 8 * n) (s + 8 * n)) (fun r => r = (d, s)) :=
  Acc_blocksBwd (fun _ _ => rfl) (fun k d s Q hr hw h => by
    unfold wordsBwd; exact Acc.bindT (Acc_copyWord d s hr hw) fun _ => h) n d s _ rfl hr hw

/-- forward alignment prologue (`0 < len`): copies `t ≤ len` bytes (`1 ≤ tsp ≤ len` in every branch that copies, so the
`do … while (--tsp)` loop does not wrap) -/
theorem Acc_moveFwdAlign (dest src len : Nat) (hpos : 0 < len)
    (hr : ∀ a, Cells src len a → R a) (hw : ∀ a, Cells dest len a → W a) :
    Acc R W (moveFwdAlign dest src len) (fun r => ∃ t, t ≤ len ∧ r = (dest + t, src + t, len - t)) := by
  refine Acc.ite (fun _ => ?_) (fun _ => ?_)
  · have key : ∀ tsp, 1 ≤ tsp → tsp ≤ len → Acc R W (do
        let (dp, sp) ← copyFwd (doWhileCount tsp) dest src
        pure (dp, sp, len - tsp)) (fun r => ∃ t, t ≤ len ∧ r = (dest + t, src + t, len - t)) := by
      intro tsp h1 h2
      have hc : doWhileCount tsp = tsp := by simp [doWhileCount]; omega
      rw [hc]
      refine Acc.bind (Acc_copyFwd tsp dest src (fun a ha => hr a ha.within)
        (fun a ha => hw a ha.within)) (fun r hr' => ?_)
      subst hr'
      exact Acc.pure _ ⟨tsp, h2, rfl⟩
    by_cases hc : (src ^^^ dest) % 8 ≠ 0 ∨ len < 8
    · simp only [if_pos hc]
      exact key len hpos (Nat.le_refl _)
    · simp only [if_neg hc]
      exact key (8 - src % 8) (by omega) (by omega)
  · exact Acc.pure _ ⟨0, Nat.zero_le _, rfl⟩

theorem Acc_moveBwdAlign (d s len : Nat) (hpos : 0 < len)
    (hr : ∀ a, Cells s len a → R a) (hw : ∀ a, Cells d len a → W a) :
    Acc R W (moveBwdAlign (d + len) (s + len) len)
      (fun r => ∃ t, t ≤ len ∧ r = (d + (len - t), s + (len - t), len - t)) := by
  refine Acc.ite (fun ha => ?_) (fun _ => ⟨0, Nat.zero_le _, rfl⟩ |> Acc.pure _)
  have key : ∀ tsp, 1 ≤ tsp → tsp ≤ len → Acc R W (do
      let (dp', sp') ← copyBwd (doWhileCount tsp) (d + len) (s + len)
      pure (dp', sp', len - tsp)) (fun r => ∃ t, t ≤ len ∧ r = (d + (len - t), s + (len - t), len - t)) := by
    intro tsp h1 h2
    have hc : doWhileCount tsp = tsp := by simp [doWhileCount]; omega
    have e : ∀ x, x + len = x + (len - tsp) + tsp := fun x => by omega
    rw [hc, e d, e s]
    refine Acc.bind (Acc_copyBwd tsp _ _ (fun a ha => hr a ha.within) (fun a ha => hw a ha.within)) (fun r hr' => ?_)
    subst hr'
    exact Acc.pure _ ⟨tsp, h2, rfl⟩
  by_cases hc : ((s + len) ^^^ (d + len)) % 8 ≠ 0 ∨ len ≤ 8
  · simp only [if_pos hc]
    exact key len hpos (Nat.le_refl _)
  · simp only [if_neg hc]
    have hnz : (s + len) % 8 ≠ 0 := or_xor_mod8 _ _ ha (fun h => hc (Or.inl h))
    exact key ((s + len) % 8) (by omega) (by omega)

/-- **`mem_prim_move(dest, src, len)`**, `n = len mod 2^32 ≠ 0` (with `n = 0` and unaligned pointers the prologue's
`do … while (--tsp)` is entered with `tsp = 0` and runs 2^64 times): loads in the `n` cells at `src`, stores in the `n`
cells at `dest` — both directions, every alignment -/
theorem Acc_mem_prim_move (dest src len : Nat) (hpos : 0 < len % U32)
    (hr : ∀ a, Cells src (len % U32) a → R a) (hw : ∀ a, Cells dest (len % U32) a → W a) :
    Acc R W (mem_prim_move dest src len) (fun _ => True) := by
  generalize hn : len % U32 = n at hpos hr hw
  unfold mem_prim_move
  simp only [hn]
  refine Acc.ite (fun _ => ?_) (fun _ => ?_)
  · refine Acc.bind (Acc_moveFwdAlign dest src n hpos hr hw) (fun r hr' => ?_)
    obtain ⟨t, ht, rfl⟩ := hr'
    refine Acc.bind (Acc_wordsFwd ((n - t) / 8) (dest + t) (src + t) (fun a ha => hr a ha.within)
      (fun a ha => hw a ha.within)) (fun r hr' => ?_)
    subst hr'
    exact Acc.thenPure (Acc_copyFwd ((n - t) % 8) (dest + t + 8 * ((n - t) / 8)) (src + t + 8 * ((n - t) / 8))
      (fun a ha => hr a ha.within) (fun a ha => hw a ha.within))
  · refine Acc.bind (Acc_moveBwdAlign dest src n hpos hr hw) (fun r hr' => ?_)
    obtain ⟨t, ht, rfl⟩ := hr'
    have hm : n - t ≤ n := Nat.sub_le _ _
    generalize n - t = m at hm
    have e : ∀ x, x + m = x + m % 8 + 8 * (m / 8) := fun x => by omega
    rw [e dest, e src]
    refine Acc.bind (Acc_wordsBwd (m / 8) _ _ (fun a ha => hr a ha.within) (fun a ha => hw a ha.within)) (fun r hr' => ?_)
    subst hr'
    exact Acc.thenPure (Acc_copyBwd (m % 8) dest src (fun a ha => hr a ha.within) (fun a ha => hw a ha.within))

theorem Acc_moveBlocksFwd (q dp sp : Nat) (hr : ∀ a, Cells sp (16 * q) a → R a) (hw : ∀ a, Cells dp (16 * q) a → W a) :
    Acc R W (moveBlocksFwd q dp sp) (fun r => r = (dp + 16 * q, sp + 16 * q)) :=
  Acc_blocksFwd (fun _ _ => rfl) (fun k dp sp Q hr hw h => by
    unfold moveBlocksFwd; exact Acc.bind (Acc_copyFwd 16 dp sp hr hw) fun r hr' => by subst hr'; exact h) q dp sp _ rfl hr hw

theorem Acc_moveBlocksBwd (q d s : Nat) (hr : ∀ a, Cells s (16 * q) a → R a) (hw : ∀ a, Cells d (16 * q) a → W a) :
    Acc R W (moveBlocksBwd q (d + 16 * q) (s + 16 * q)) (fun r => r = (d, s)) :=
  Acc_blocksBwd (fun _ _ => rfl) (fun k d s Q hr hw h => by
    unfold moveBlocksBwd; exact Acc.bind (Acc_copyBwd 16 d s hr hw) fun r hr' => by subst hr'; exact h) q d s _ rfl hr hw


/-- **`mem_prim_move8/16/32`**: loads in the `len mod 2^32` elements at `src`, stores in those at `dest` -/
theorem Acc_primMoveElems (dest src len : Nat)
    (hr : ∀ a, Cells src (len % U32) a → R a) (hw : ∀ a, Cells dest (len % U32) a → W a) :
    Acc R W (primMoveElems dest src len) (fun _ => True) := by
  generalize hn : len % U32 = n at hr hw
  unfold primMoveElems
  simp only [hn]
  refine Acc.ite (fun _ => ?_) (fun _ => ?_)
  · refine Acc.bind (Acc_moveBlocksFwd (n / 16) dest src (fun a ha => hr a ha.within)
      (fun a ha => hw a ha.within)) (fun r hr' => ?_)
    subst hr'
    exact Acc.thenPure (Acc_copyFwd (n % 16) _ _ (fun a ha => hr a ha.within) (fun a ha => hw a ha.within))
  · have e : ∀ x, x + n = x + n % 16 + 16 * (n / 16) := fun x => by omega
    rw [e dest, e src]
    refine Acc.bind (Acc_moveBlocksBwd (n / 16) _ _ (fun a ha => hr a ha.within) (fun a ha => hw a ha.within)) (fun r hr' => ?_)
    subst hr'
    exact Acc.thenPure (Acc_copyBwd (n % 16) dest src (fun a ha => hr a ha.within) (fun a ha => hw a ha.within))

/-- `chkDmaxMemB`: the continuation runs on `destbos` itself; without a known object size it runs only when `dmax`
passed the limit -/
theorem Acc_chkDmaxMemB (dmax : Nat) (db : Bos) (max : Nat) (k : Option Nat → Prog Nat)
    (hk : (db = none → dmax ≤ max) → Acc R W (k db) (fun _ => True)) :
    Acc R W (chkDmaxMemB dmax db max k) (fun _ => True) := by
  cases db with
  | none => exact Acc.ite (fun _ => Acc_failM _ trivial) fun _ => hk (fun _ => by omega)
  | some bos =>
    exact Acc.ite (fun _ => Acc.ite (fun _ => Acc_failM _ trivial) fun _ => Acc_failM _ trivial)
      fun _ => hk (fun h => by cases h)

theorem Acc_memEntry {c : Prop} [Decidable c] (dest dmax : Nat) (db : Bos) (max : Nat) (k : Option Nat → Prog Nat)
    (hk : ¬ c → dest ≠ 0 → (db = none → dmax ≤ max) → Acc R W (k db) (fun _ => True)) :
    Acc R W (if c then pure EOK else if dest = 0 then failM ESNULLP else if dmax = 0 then failM ESZEROL
      else chkDmaxMemB dmax db max k) (fun _ => True) :=
  Acc.ite (fun _ => Acc.pure _ trivial) fun hc => Acc.ite (fun _ => Acc_failM _ trivial) fun hd =>
    Acc.ite (fun _ => Acc_failM _ trivial) fun _ => Acc_chkDmaxMemB _ _ _ _ (hk hc hd)

/-- the source checks of the copying functions (`w`-byte elements, `smax` the source size in bytes): a null `src` and
`smax > dmax` clear dest; `X` is what a source behind its object does, `Z` the rest, entered with `smax ≤ dmax` -/
theorem Acc_memSrcChecks (w dest dmax src smax : Nat) {c : Prop} [Decidable c] {X Z : Prog Nat}
    (hE : ∀ e, Acc R W (handleMemErrorB w dest dmax e) (fun _ => True))
    (hX : Acc R W X (fun _ => True)) (hZ : src ≠ 0 → smax ≤ dmax → Acc R W Z (fun _ => True)) :
    Acc R W (if src = 0 then do handleMemErrorB w dest dmax ESNULLP; pure ESNULLP
      else if smax > dmax then do
        let error := if smax > RSIZE_MAX_MEM then ESLEMAX else ESNOSPC
        handleMemErrorB w dest dmax error
        pure error
      else if c then X else Z) (fun _ => True) :=
  Acc.ite (fun _ => Acc.bindT (hE _) fun _ => Acc.pure _ trivial) fun hs =>
    Acc.ite (fun _ => Acc.bindT (hE _) fun _ => Acc.pure _ trivial) fun hle =>
      Acc.ite (fun _ => hX) fun _ => hZ hs (by omega)

theorem wcharBytes (x : Nat) : (x * 4 % U64) / 4 ≤ x ∧ (x * 4 % U64) % 4 = 0 := by rw [U64_eq]; omega

/-- `mem_prim_move(dest, src, slen)` copies `slen mod 2^32` bytes and must not be entered with `slen mod 2^32 = 0`.
Without a known object size `dmax ≤ RSIZE_MAX_MEM < 2^32` excludes that; with a known one the only bound on `dmax` is
`destbos`, hence the hypothesis `hU`. -/
theorem Acc_moveBytes (dest dmax src slen : Nat) (db : Bos) (hU : db = none ∨ slen % U32 ≠ 0) (hsl : ¬ slen = 0)
    (h1 : db = none → dmax ≤ RSIZE_MAX_MEM) (hle : slen ≤ dmax)
    (hr : ∀ a, Cells src slen a → R a) (hw : ∀ a, Cells dest dmax a → W a) :
    Acc R W (do mem_prim_move dest src slen; pure EOK : Prog Nat) (fun _ => True) := by
  have hpos : 0 < slen % U32 := by
    rcases hU with h | h
    · have := h1 h
      simp only [RSIZE_MAX_MEM] at this
      rw [U32_eq]; omega
    · omega
  have hm := Nat.mod_le slen U32  -- for the window bounds below
  exact Acc.thenPure (Acc_mem_prim_move dest src slen hpos
    (fun a ha => hr a ha.within) (fun a ha => hw a ha.within))

theorem Acc_memcpy_s (dest dmax src slen : Nat) (db sb : Bos)
    (hU : db = none ∨ (slen ≠ 0 → slen ≤ dmax → slen % U32 ≠ 0))
    (hr : src ≠ 0 → slen ≤ dmax → ∀ a, Cells src slen a → R a) (hw : dest ≠ 0 → ∀ a, Cells dest dmax a → W a) :
    Acc R W (memcpy_s dest dmax src slen db sb) (fun _ => True) := by
  refine Acc_memEntry _ _ _ _ _ fun hsl hd h1 => Acc_memSrcChecks 1 dest dmax src slen
    (fun e => Acc_handleMemErrorB_one dest dmax e (hw hd)) (Acc_failM _ trivial) fun hs hle => Acc.ite (fun _ => ?_) fun _ => ?_
  · exact Acc.bindT (Acc_mem_prim_set_one dest dmax 0
      (fun a ⟨e1, e2⟩ => hw hd a ⟨e1, by have := Nat.mod_le dmax U32; omega⟩))
      (fun _ => Acc.handlerMBind _ (Acc.pure _ trivial))
  · exact Acc_moveBytes dest dmax src slen db (hU.imp_right fun h => h hsl hle) hsl h1 hle (hr hs hle) (hw hd)

theorem Acc_memmove_s (dest dmax src slen : Nat) (db sb : Bos)
    (hU : db = none ∨ (slen ≠ 0 → slen ≤ dmax → slen % U32 ≠ 0))
    (hr : src ≠ 0 → slen ≤ dmax → ∀ a, Cells src slen a → R a) (hw : dest ≠ 0 → ∀ a, Cells dest dmax a → W a) :
    Acc R W (memmove_s dest dmax src slen db sb) (fun _ => True) := by
  exact Acc_memEntry _ _ _ _ _ fun hsl hd h1 => Acc_memSrcChecks 1 dest dmax src slen
    (fun e => Acc_handleMemErrorB_one dest dmax e (hw hd)) (Acc_failM _ trivial) fun hs hle =>
      Acc_moveBytes dest dmax src slen db (hU.imp_right fun h => h hsl hle) hsl h1 hle (hr hs hle) (hw hd)

/-- `memset_s` does `dmax = destbos` when the object size is known: the footprint is the `destbos.getD dmax` bytes at
`dest`.  `R` is arbitrary: with `R := fun _ => False` this says that there is NO load. -/
theorem Acc_memset_s (dest dmax value n : Nat) (db : Bos) (hw : dest ≠ 0 → ∀ a, Cells dest (db.getD dmax) a → W a) :
    Acc R W (memset_s dest dmax value n db) (fun _ => True) := by
  refine Acc.ite (fun _ => Acc_failM _ trivial) fun hd => Acc.ite (fun _ => Acc.pure _ trivial) fun _ =>
    Acc_chkDmaxMemB _ _ _ _ fun _ => Acc.ite (fun _ => Acc_failM _ trivial) fun _ => Acc.ite (fun _ => ?_) fun _ => ?_
  · have hm := Nat.mod_le (db.getD dmax) U32  -- for the window bounds below
    exact Acc.handlerMBind _ (Acc.thenPure (Acc_mem_prim_set_one dest _ value
      (fun a ha => hw hd a ha.within)))
  · have hm := Nat.mod_le n U32  -- for the window bounds below
    exact Acc.thenPure (Acc_mem_prim_set_one dest n value
      (fun a ha => hw hd a ha.within))

theorem Acc_zeroEntry (dest dmax : Nat) (db : Bos) (k : Option Nat → Prog Nat)
    (hk : dest ≠ 0 → Acc R W (k db) (fun _ => True)) :
    Acc R W (if dest = 0 then failM ESNULLP else if dmax = 0 then failM ESZEROL
      else chkDmaxMemB dmax db RSIZE_MAX_MEM k) (fun _ => True) :=
  Acc.ite (fun _ => Acc_failM _ trivial) fun hd => Acc.ite (fun _ => Acc_failM _ trivial) fun _ =>
    Acc_chkDmaxMemB _ _ _ _ fun _ => hk hd

theorem Acc_memzero_s (dest len : Nat) (db : Bos) (hw : dest ≠ 0 → ∀ a, Cells dest len a → W a) :
    Acc R W (memzero_s dest len db) (fun _ => True) := by
  unfold memzero_s
  exact Acc_zeroEntry _ _ _ _ fun hd => Acc.thenPure (Acc_memsetBytes 1 0 dest len (by rw [Nat.div_one]; exact hw hd)
    (fun h => absurd (Nat.mod_one _) h))

theorem Acc_memccpyLoop (cfg : Cfg) (c : Int) (od odm dmax dp sp n : Nat) (hn : n ≤ dmax)
    (hE : Acc R W (handleError cfg od odm ESNOSPC) (fun _ => True))
    (hrs : ∀ a, Cells sp n a → R a) (hrd : ∀ a, Cells dp dmax a → R a) (hw : ∀ a, Cells dp dmax a → W a) :
    Acc R W (memccpyLoop cfg c od odm dmax dp sp n) (fun r => r = EOK ∨ r = ESNOSPC) := by
  induction dmax generalizing dp sp n with
  | zero => unfold memccpyLoop; exact Acc.bindT hE (fun _ => Acc.pure _ (Or.inr rfl))
  | succ m ih =>
    have w0 : W dp := hw _ ⟨by omega, by omega⟩
    have r0 : R dp := hrd _ ⟨by omega, by omega⟩
    refine Acc.ite (fun _ => Acc.storeBind w0 (Acc.pure _ (Or.inl rfl))) fun hn0 => ?_
    have s0 : R sp := hrs _ ⟨by omega, by omega⟩
    refine Acc.loadBind s0 (fun v => Acc.storeBind w0 (Acc.loadBind r0 (fun v' => ?_)))
    refine Acc.ite (fun _ => ?_) (fun _ => ?_)
    · refine Acc.ite (fun _ => ?_) (fun _ => ?_)
      · have hm := Nat.mod_le n U32  -- for the window bounds below
        exact Acc.bindT (Acc_mem_prim_set_one dp n 0 (fun a ha => hw a ha.within)) fun _ => Acc.pure _ (Or.inl rfl)
      · exact Acc.pure _ (Or.inl rfl)
    · exact ih (dp+1) (sp+1) (n-1) (by omega) (fun a ha => hrs a ha.within)
        (fun a ha => hrd a ha.within) (fun a ha => hw a ha.within)

/-- `memccpy_s` re-reads every byte it stored (`if (*dp == c)`): loads in the `n` source cells and in dest's cells -/
theorem Acc_memccpy_s (cfg : Cfg) (dest dmax src c n : Nat) (db sb : Bos)
    (hrs : src ≠ 0 → n ≤ dmax → ∀ a, Cells src n a → R a) (hrd : dest ≠ 0 → ∀ a, Cells dest dmax a → R a)
    (hw : dest ≠ 0 → ∀ a, Cells dest dmax a → W a) :
    Acc R W (memccpy_s cfg dest dmax src c n db sb) (fun _ => True) := by
  refine Acc.ite (fun _ => Acc_failM _ trivial) fun hd => Acc.ite (fun _ => Acc_failM _ trivial) fun hdm =>
    Acc_chkDmaxMemB _ _ _ _ fun _ => Acc.ite (fun _ => ?_) fun _ => Acc_memSrcChecks 1 dest dmax src n
      (fun e => Acc_handleMemErrorB_one dest dmax e (hw hd)) ?_ fun hs hle => ?_
  · exact Acc.storeBind (hw hd _ ⟨by omega, by omega⟩) (Acc.pure _ trivial)
  · exact Acc.bindT (Acc_mem_prim_set_one dest dmax 0
      (fun a ⟨e1, e2⟩ => hw hd a ⟨e1, by have := Nat.mod_le dmax U32; omega⟩))
      (fun _ => Acc.handlerMBind _ (Acc.pure _ trivial))
  · exact (Acc_memccpyLoop cfg _ dest dmax dmax dest src n hle
      (Acc_handleError cfg dest dmax _ (hw hd) (hw hd _ ⟨Nat.le_refl _, by omega⟩)) (hrs hs hle) (hrd hd) (hw hd)).conseq fun _ _ => trivial

theorem Acc_memzero16_s (dest len : Nat) (db : Bos) (hw : dest ≠ 0 → ∀ a, Cells dest len a → W a) :
    Acc R W (memzero16_s dest len db) (fun _ => True) := by
  unfold memzero16_s
  have hm := Nat.mod_le len U32  -- for the window bounds below
  exact Acc_zeroEntry _ _ _ _ fun hd => Acc.thenPure (Acc_mem_prim_set16 dest len 0 (fun a ha => hw hd a ha.within))

theorem Acc_memzero32_s (dest len : Nat) (db : Bos) (hw : dest ≠ 0 → ∀ a, Cells dest len a → W a) :
    Acc R W (memzero32_s dest len db) (fun _ => True) := by
  unfold memzero32_s
  have hm := Nat.mod_le len U32  -- for the window bounds below
  exact Acc_zeroEntry _ _ _ _ fun hd => Acc.thenPure (Acc_mem_prim_set32 dest len 0 (fun a ha => hw hd a ha.within))

/-- `memset16_s` / `memset32_s` behind the entry checks (`v` is the value cut to the element width, `m` the element
limit): `n` elements, or all `dmax / w` of the object after the report when `n` is more -/
theorem Acc_setElemsBody (w dest dmax v n m : Nat) (hw : ∀ a, Cells dest (dmax / w) a → W a) :
    Acc R W (if n > dmax / w then do
        let err := if n > m then ESLEMAX else ESNOSPC
        handlerM err
        primSetElems dest (dmax / w) v
        pure err
      else do
        primSetElems dest n v
        pure EOK : Prog Nat) (fun _ => True) := by
  refine Acc.ite (fun _ => ?_) fun _ => ?_
  · have hm := Nat.mod_le (dmax / w) U32  -- for the window bounds below
    exact Acc.handlerMBind _ (Acc.thenPure (Acc_primSetElems dest _ v (fun a ha => hw a ha.within)))
  · have hm := Nat.mod_le n U32  -- for the window bounds below
    exact Acc.thenPure (Acc_primSetElems dest n v (fun a ha => hw a ha.within))

/-- `dmax = destbos` when known: stores in the `destbos.getD dmax / 2` elements at `dest`; no load (`R` arbitrary) -/
theorem Acc_memset16_s (dest dmax value n : Nat) (db : Bos)
    (hw : dest ≠ 0 → ∀ a, Cells dest (db.getD dmax / 2) a → W a) :
    Acc R W (memset16_s dest dmax value n db) (fun _ => True) := by
  exact Acc.ite (fun _ => Acc_failM _ trivial) fun hd => Acc.ite (fun _ => Acc.pure _ trivial) fun _ =>
    Acc_chkDmaxMemB _ _ _ _ fun _ => Acc_setElemsBody 2 dest _ _ n _ (hw hd)

/-- `dmax = destbos` when known: stores in the `destbos.getD dmax / 4` elements at `dest`; no load (`R` arbitrary) -/
theorem Acc_memset32_s (dest dmax value n : Nat) (db : Bos)
    (hw : dest ≠ 0 → ∀ a, Cells dest (db.getD dmax / 4) a → W a) :
    Acc R W (memset32_s dest dmax value n db) (fun _ => True) := by
  exact Acc.ite (fun _ => Acc_failM _ trivial) fun hd => Acc.ite (fun _ => Acc.pure _ trivial) fun _ =>
    Acc_chkDmaxMemB _ _ _ _ fun _ => Acc_setElemsBody 4 dest _ _ n _ (hw hd)

/-! The 16- and 32-bit copies behind the entry checks, `w = 2` or `4` bytes per element, `dmax` the object size in BYTES:
the dest footprint is the `(dmax + w - 1) / w` cells that hold those bytes, the last one partially when `dmax` is not a
multiple of `w` — the byte-wise clearing of the error paths read-modify-writes it, hence the read footprint on dest. -/

theorem Acc_elemErr (w dest dmax e : Nat) (h24 : w = 2 ∨ w = 4)
    (hrd : ∀ a, Cells dest ((dmax + (w - 1)) / w) a → R a) (hw : ∀ a, Cells dest ((dmax + (w - 1)) / w) a → W a) :
    Acc R W (handleMemErrorB w dest dmax e) (fun _ => True) := by
  rcases h24 with rfl | rfl <;>
  exact Acc_handleMemErrorB _ dest dmax e (fun a ha => hw a ha.within)
    (fun h => ⟨hrd _ ⟨by omega, by omega⟩, hw _ ⟨by omega, by omega⟩⟩)

theorem Acc_ovrlpClear (w dest dmax e : Nat) (h24 : w = 2 ∨ w = 4)
    (hrd : ∀ a, Cells dest ((dmax + (w - 1)) / w) a → R a) (hw : ∀ a, Cells dest ((dmax + (w - 1)) / w) a → W a) :
    Acc R W (do mem_prim_set w (dest * w) dmax 0; handlerM e; pure e : Prog Nat) (fun _ => True) := by
  have hm := Nat.mod_le dmax U32  -- for the window bounds below
  rcases h24 with rfl | rfl <;>
  exact Acc.bindT (Acc_mem_prim_set _ (dest * _) dmax 0 (by decide)
    (fun b ⟨e1, e2⟩ => hw _ ⟨by omega, by omega⟩) (fun _ b ⟨e1, e2⟩ => hrd _ ⟨by omega, by omega⟩))
    (fun _ => Acc.handlerMBind _ (Acc.pure _ trivial))

/-- the `uint32_t` element count times the element size does not exceed the `size_t` byte size -/
theorem elemBytes_le (w c : Nat) (h24 : w = 2 ∨ w = 4) : w * (c % U32) ≤ (c * w) % U64 := by
  rw [U32_eq, U64_eq]; rcases h24 with rfl | rfl <;> omega

theorem Acc_moveElems (w dest dmax src slen : Nat) (h24 : w = 2 ∨ w = 4) (hle : slen * w % U64 ≤ dmax)
    (hrs : ∀ a, Cells src slen a → R a) (hw : ∀ a, Cells dest ((dmax + (w - 1)) / w) a → W a) :
    Acc R W (do primMoveElems dest src slen; pure EOK : Prog Nat) (fun _ => True) := by
  have hm := Nat.mod_le slen U32  -- for the window bounds below
  have hm2 := elemBytes_le w slen h24  -- likewise
  refine Acc.thenPure (Acc_primMoveElems dest src slen (fun a ha => hrs a ha.within)
    (fun a ⟨e1, e2⟩ => hw a ⟨e1, ?_⟩))
  rcases h24 with rfl | rfl <;> omega

/-- `dmax = destbos` when known.  Source: the `slen` elements at `src`. -/
theorem Acc_memcpy16_s (dest dmax src slen : Nat) (db sb : Bos)
    (hrs : src ≠ 0 → ∀ a, Cells src slen a → R a)
    (hrd : dest ≠ 0 → ∀ a, Cells dest ((db.getD dmax + 1) / 2) a → R a)
    (hw : dest ≠ 0 → ∀ a, Cells dest ((db.getD dmax + 1) / 2) a → W a) :
    Acc R W (memcpy16_s dest dmax src slen db sb) (fun _ => True) := by
  exact Acc_memEntry _ _ _ _ _ fun _ hd _ => Acc_memSrcChecks 2 dest _ src _
    (fun e => Acc_elemErr 2 dest _ e (.inl rfl) (hrd hd) (hw hd)) (Acc_failM _ trivial) fun hs hle =>
      Acc.ite (fun _ => Acc_ovrlpClear 2 dest _ _ (.inl rfl) (hrd hd) (hw hd))
        fun _ => Acc_moveElems 2 dest _ src slen (.inl rfl) hle (hrs hs) (hw hd)

theorem Acc_memcpy32_s (dest dmax src slen : Nat) (db sb : Bos)
    (hrs : src ≠ 0 → ∀ a, Cells src slen a → R a)
    (hrd : dest ≠ 0 → ∀ a, Cells dest ((db.getD dmax + 3) / 4) a → R a)
    (hw : dest ≠ 0 → ∀ a, Cells dest ((db.getD dmax + 3) / 4) a → W a) :
    Acc R W (memcpy32_s dest dmax src slen db sb) (fun _ => True) := by
  exact Acc_memEntry _ _ _ _ _ fun _ hd _ => Acc_memSrcChecks 4 dest _ src _
    (fun e => Acc_elemErr 4 dest _ e (.inr rfl) (hrd hd) (hw hd)) (Acc_failM _ trivial) fun hs hle =>
      Acc.ite (fun _ => Acc_ovrlpClear 4 dest _ _ (.inr rfl) (hrd hd) (hw hd))
        fun _ => Acc_moveElems 4 dest _ src slen (.inr rfl) hle (hrs hs) (hw hd)

theorem Acc_memmove16_s (dest dmax src slen : Nat) (db sb : Bos)
    (hrs : src ≠ 0 → ∀ a, Cells src slen a → R a)
    (hrd : dest ≠ 0 → ∀ a, Cells dest ((db.getD dmax + 1) / 2) a → R a)
    (hw : dest ≠ 0 → ∀ a, Cells dest ((db.getD dmax + 1) / 2) a → W a) :
    Acc R W (memmove16_s dest dmax src slen db sb) (fun _ => True) := by
  exact Acc_memEntry _ _ _ _ _ fun _ hd _ => Acc_memSrcChecks 2 dest _ src _
    (fun e => Acc_elemErr 2 dest _ e (.inl rfl) (hrd hd) (hw hd)) (Acc_failM _ trivial) fun hs hle =>
      Acc_moveElems 2 dest _ src slen (.inl rfl) hle (hrs hs) (hw hd)

theorem Acc_memmove32_s (dest dmax src slen : Nat) (db sb : Bos)
    (hrs : src ≠ 0 → ∀ a, Cells src slen a → R a)
    (hrd : dest ≠ 0 → ∀ a, Cells dest ((db.getD dmax + 3) / 4) a → R a)
    (hw : dest ≠ 0 → ∀ a, Cells dest ((db.getD dmax + 3) / 4) a → W a) :
    Acc R W (memmove32_s dest dmax src slen db sb) (fun _ => True) := by
  exact Acc_memEntry _ _ _ _ _ fun _ hd _ => Acc_memSrcChecks 4 dest _ src _
    (fun e => Acc_elemErr 4 dest _ e (.inr rfl) (hrd hd) (hw hd)) (Acc_failM _ trivial) fun hs hle =>
      Acc_moveElems 4 dest _ src slen (.inr rfl) hle (hrs hs) (hw hd)

/-- `wmemcpy_s` / `wmemmove_s`: sizes in ELEMENTS (`wchar_t`, 4 bytes); `dlen * 4` is a multiple of 4, so the `dlen`
cells at `dest` are covered whole and nothing of dest is read -/
theorem Acc_wmemErr (dest dlen e : Nat) (hw : ∀ a, Cells dest dlen a → W a) :
    Acc R W (handleMemErrorB 4 dest (dlen * 4 % U64) e) (fun _ => True) := by
  obtain ⟨hb1, hb2⟩ := wcharBytes dlen
  exact Acc_handleMemErrorB 4 dest _ e (fun a ha => hw a ha.within) (fun h => absurd hb2 h)

theorem Acc_wmemClear (dest dlen e : Nat) (hw : ∀ a, Cells dest dlen a → W a) :
    Acc R W (do mem_prim_set32 dest dlen 0; handlerM e; pure e : Prog Nat) (fun _ => True) :=
  Acc.bindT (Acc_mem_prim_set32 dest dlen 0 (fun a ⟨e1, e2⟩ => hw a ⟨e1, by have := Nat.mod_le dlen U32; omega⟩))
    (fun _ => Acc.handlerMBind _ (Acc.pure _ trivial))

theorem Acc_wmemMove (dest dlen src count : Nat) (hle : count * 4 % U64 ≤ dlen * 4 % U64)
    (hrs : ∀ a, Cells src count a → R a) (hw : ∀ a, Cells dest dlen a → W a) :
    Acc R W (do mem_prim_move32 dest src count; pure EOK : Prog Nat) (fun _ => True) :=
  Acc_moveElems 4 dest _ src count (.inr rfl) hle hrs (fun a ⟨e1, e2⟩ => hw a ⟨e1, by have := wcharBytes dlen; omega⟩)

theorem Acc_wmemcpy_s (dest dlen src count : Nat) (db sb : Bos)
    (hrs : src ≠ 0 → ∀ a, Cells src count a → R a) (hw : dest ≠ 0 → ∀ a, Cells dest dlen a → W a) :
    Acc R W (wmemcpy_s dest dlen src count db sb) (fun _ => True) := by
  unfold wmemcpy_s
  exact Acc_memEntry _ _ _ _ _ fun _ hd _ => Acc_memSrcChecks _ dest _ src _
    (fun e => Acc_wmemErr dest dlen e (hw hd)) (Acc_wmemClear dest dlen _ (hw hd)) fun hs hle =>
      Acc.ite (fun _ => Acc_wmemClear dest dlen _ (hw hd)) fun _ => Acc_wmemMove dest dlen src count hle (hrs hs) (hw hd)

theorem Acc_wmemmove_s (dest dlen src count : Nat) (db sb : Bos)
    (hrs : src ≠ 0 → ∀ a, Cells src count a → R a) (hw : dest ≠ 0 → ∀ a, Cells dest dlen a → W a) :
    Acc R W (wmemmove_s dest dlen src count db sb) (fun _ => True) := by
  unfold wmemmove_s
  exact Acc_memEntry _ _ _ _ _ fun _ hd _ => Acc_memSrcChecks _ dest _ src _
    (fun e => Acc_wmemErr dest dlen e (hw hd)) (Acc_wmemClear dest dlen _ (hw hd)) fun hs hle =>
      Acc_wmemMove dest dlen src count hle (hrs hs) (hw hd)

end SafeC
