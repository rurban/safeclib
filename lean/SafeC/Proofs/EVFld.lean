import SafeC.Proofs.EVCopy
import SafeC.Models.Fld
/-!
# C05 for the field copies strcpyfld_s / strcpyfldin_s / strcpyfldout_s (event judgement)

All arguments, all memory contents, all placements: nothing reported and EOK, or exactly one str-handler event carrying the
returned code — under `SmallBos` (object size unknown, or known and within 1..RSIZE_MAX_STR: above that the inner
`strnlen_s` of the clearing exits reports a second time, the `slen-bos` class of known findings).
-/
namespace SafeC.Props.C05Query
open SafeC Gen SafeC.Props.C05Ev SafeC.Props.C05Docs

theorem fldLoop_ev {S : List Nat} (cfg : Cfg) (k : FldKind) (od : Bool) (bumper oD oM fuel d s m l : Nat)
    (h : ESOVRLP ∈ S := by decide) : EV (fldLoop cfg k od bumper oD oM fuel d s m l) (PF S) := by
  induction fuel generalizing d s m l with
  | zero => exact .pure _ (.inl ⟨rfl, _, rfl⟩)
  | succ fuel ih =>
    exact Quiet.then_ (by cases k <;> quiet) fun _ => .ite (.pure _ (.inl ⟨rfl, _, rfl⟩)) <|
      .ite ((EV.handleError ..).bind fun _ _ he => he ▸ .pure _ (.inr ⟨_, rfl, h, ne_ESOVRLP, rfl⟩)) <|
      Quiet.then_ (.loadP _) fun _ => Quiet.then_ (.storeP ..) fun _ => ih ..

theorem chkSlenNospcClear_ev (cfg : Cfg) (dest dmax slen : Nat) {k : Prog Nat} (hd : dest ≠ 0) (hz : dmax ≠ 0)
    (hm : dmax ≤ RSIZE_MAX_STR) (hk : EV k (OnceIn SCopy .str)) :
    EV (chkSlenNospcClear cfg dest dmax slen RSIZE_MAX_STR k) (OnceIn SCopy .str) :=
  .ite (Quiet.then_ (strnlen_s_ok_ro hd hz hm).quiet fun _ =>
    handleError_ret_in _ _ _ _ (by split <;> decide) (ite_ne_EOK ne_ESLEMAX ne_ESNOSPC)) hk

theorem fldBody_ev (k : FldKind) (cfg : Cfg) (dest dmax src slen : Nat) (hd : dest ≠ 0) (hz : dmax ≠ 0)
    (hm : dmax ≤ RSIZE_MAX_STR) :
    EV (if src = 0 then do handleError cfg dest dmax ESNULLP; pure ESNULLP
        else chkSlenNospcClear cfg dest dmax slen RSIZE_MAX_STR <| do
          let fuel := (match k with | .fld => slen | _ => dmax)
          let r ← (if dest < src then fldLoop cfg k true src dest dmax fuel dest src dmax slen
                   else fldLoop cfg k false dest dest dmax fuel dest src dmax slen)
          match r with
          | .inl code => pure code
          | .inr (d, m) => do
            nullSlack d m
            pure EOK : Prog Nat) (OnceIn SCopy .str) :=
  .ite (handleError_ret_in ..) <| chkSlenNospcClear_ev _ _ _ _ hd hz hm <|
    EV.bind (Q := PF SCopy) (.ite (fldLoop_ev ..) (fldLoop_ev ..)) fun r es h => by
      rcases h with ⟨rfl, ⟨x, y⟩, rfl⟩ | ⟨c, rfl, hS, hc, rfl⟩
      · exact Quiet.then_ (.nullSlack ..) fun _ => eok_in
      · exact .pure _ (.inr ⟨hS, hc, rfl⟩)

theorem fldG_ev_partial (k : FldKind) (cfg : Cfg) (dest dmax src slen : Nat) (db : Bos) (hb : SmallBos db) :
    EV (fldG k cfg dest dmax src slen db) (OnceIn SCopy .str) :=
  .ite eok_in <| .iteH (fun _ => failS_in _) fun hd => .iteH (fun _ => failS_in _) fun hz => by
    have body := fun h1 h2 => fldBody_ev k cfg dest dmax src slen hd hz (hb.dmax_le h1 h2)
    cases k
    · exact chkDmaxClear_ev _ _ _ _ hd (hb.ok _) body
    · exact chkDmax_in _ _ _ body
    · exact chkDmax_in _ _ _ body

end SafeC.Props.C05Query
