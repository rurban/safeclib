import SafeC.Proofs.ExtFld
import SafeC.Proofs.ExtInplace
/-!
# The field copies: the complete outcome per kind

* `fldLoop_steps` — `fldLoop_iter` with the fuel and the point of arrival given by equations.
* `fldBody_arith_all` (`strcpyfld_s`: `N = slen`; `strcpyfldout_s`: `N = min slen (dmax-1)`) and `fldBody_fldin_all`:
  EOK ⇔ `slen ≤ dmax` ∧ the cells copied do not meet; ESOVRLP ⇔ `slen ≤ dmax` ∧ they meet; `slen > dmax` ⇒ ESNOSPC / ESLEMAX;
  on EOK the exact memory (`FldOk`).  Each is `fldBody_exit` at the round that decides: the number of rounds the condition
  allows, or the gap if that comes first.  For `strcpyfldin_s` with `src < dest` the character tested at the gap is `dest[0]`,
  which by then holds `src[0] ≠ 0`: ESOVRLP also when the source string's own terminator is `dest[0]`.
* `fldBody_safe` — what every call guarantees, whatever the placement and the contents: a corollary, since the three
  instances cover every case.
-/
namespace SafeC
open Gen

theorem fldLoop_steps (cfg : Cfg) (kind : FldKind) (onDest : Bool) (B oD oM : Nat) (j0 : Nat) :
    ∀ (fuel d s m sl : Nat) (st : St),
    (∀ a, st.mapped a = true ∧ st.rd a = true) → RW st d j0 → j0 ≤ fuel →
    (∀ i j, i < j → j < j0 → s + j ≠ d + i) →
    (∀ j, j < j0 → (if onDest then d + j else s + j) ≠ B) →
    (∀ j, j < j0 → FldCont kind (m - j) (sl - j) ∧ (kind = .fldin → st.data (s + j) ≠ 0)) →
    ∃ st1, CopiedN st st1 d s j0 ∧
      ∀ f' d' s' m' sl', f' + j0 = fuel → d' = d + j0 → s' = s + j0 → m' = m - j0 → sl' = sl - j0 →
        exec (fldLoop cfg kind onDest B oD oM fuel d s m sl) st =
          exec (fldLoop cfg kind onDest B oD oM f' d' s' m' sl') st1 := by
  intro fuel d s m sl st hall hrw hfuel hcl hb hgo
  obtain ⟨f, rfl⟩ : ∃ f, fuel = f + j0 := ⟨fuel - j0, (Nat.sub_add_cancel hfuel).symm⟩
  obtain ⟨st1, hcp, he⟩ := fldLoop_iter cfg kind onDest B oD oM j0 f d s m sl st hall hrw hcl hb hgo
  refine ⟨st1, hcp, ?_⟩
  intro f' d' s' m' sl' h1 h2 h3 h4 h5
  subst h2 h3 h4 h5
  rw [Nat.add_right_cancel h1]; exact he

/-- the two kinds whose loop condition is arithmetic (`j < N`): the complete outcome — `N` cells are copied unless the bumper
is met before, which is when the `N` cells read and the `N` cells written meet -/
theorem fldBody_arith_all (kind : FldKind) (cfg : Cfg) (dest dmax src slen N : Nat) (st : St)
    (hall : ∀ a, st.mapped a = true ∧ st.rd a = true) (hrw : RW st dest dmax)
    (hd : dest ≠ 0) (hpos : 0 < dmax) (hle : dmax ≤ RSIZE_MAX_STR) (hs : src ≠ 0) (hk : kind ≠ .fldin)
    (hN : slen ≤ dmax → ∀ j, FldCont kind (dmax - j) (slen - j) ↔ j < N) :
    ∃ code st', exec (fldBody kind cfg dest dmax src slen) st = .ok (code, st') ∧
      FldPost kind cfg dest dmax src slen st st' code ∧
      (code = EOK ↔ slen ≤ dmax ∧ (dest + N ≤ src ∨ src + N ≤ dest)) ∧
      (code = ESOVRLP ↔ slen ≤ dmax ∧ ¬ (dest + N ≤ src ∨ src + N ≤ dest)) ∧
      (code = EOK → FldOk dest dmax src N st st') := by
  by_cases hfit : slen ≤ dmax
  · have hgap := fldGap_spec dest src
    have hgo : ∀ j, j < N → FldCont kind (dmax - j) (slen - j) ∧ (kind = .fldin → st.data (src + j) ≠ 0) :=
      fun j hj => ⟨(hN hfit j).2 hj, fun h => absurd h hk⟩
    by_cases hD : dest + N ≤ src ∨ src + N ≤ dest
    · obtain ⟨st1, _, _, hok⟩ := fldBody_exit kind cfg dest dmax src slen N st hall hrw hpos hs hfit (by omega) hgo
      obtain ⟨st', he, hp, hfo⟩ := hok (fun h => Nat.lt_irrefl _ ((hN hfit N).1 h.1))
      exact ⟨EOK, st', he, hp, by simp [hfit, hD], by simp [hD, show EOK ≠ ESOVRLP by decide], fun _ => hfo⟩
    · have hg : fldGap dest src < N := by omega
      obtain ⟨st1, _, hov, _⟩ := fldBody_exit kind cfg dest dmax src slen _ st hall hrw hpos hs hfit (Nat.le_refl _)
        fun j hj => hgo j (Nat.lt_trans hj hg)
      obtain ⟨st', he, hp⟩ := hov ⟨(hN hfit _).2 hg, fun h => absurd h hk⟩ rfl
      exact ⟨ESOVRLP, st', he, hp, by simp [hD, show ESOVRLP ≠ EOK by decide], by simp [hfit, hD], fun h => absurd h (by decide)⟩
  · obtain ⟨st', he, hp⟩ := fldBody_nospc_post kind cfg dest dmax src slen st hall hrw hd hpos hle hs (by omega)
    exact ⟨_, st', he, hp, by simp [hfit, fldNospcCode_ne], by simp [hfit, fldNospcCode_ne_ovrlp],
      fun h => absurd h (fldNospcCode_ne slen)⟩

theorem fldBody_fld_all (cfg : Cfg) (dest dmax src slen : Nat) (st : St)
    (hall : ∀ a, st.mapped a = true ∧ st.rd a = true) (hrw : RW st dest dmax)
    (hd : dest ≠ 0) (hpos : 0 < dmax) (hle : dmax ≤ RSIZE_MAX_STR) (hs : src ≠ 0) :
    ∃ code st', exec (fldBody .fld cfg dest dmax src slen) st = .ok (code, st') ∧
      FldPost .fld cfg dest dmax src slen st st' code ∧
      (code = EOK ↔ slen ≤ dmax ∧ (dest + slen ≤ src ∨ src + slen ≤ dest)) ∧
      (code = ESOVRLP ↔ slen ≤ dmax ∧ ¬ (dest + slen ≤ src ∨ src + slen ≤ dest)) ∧
      (code = EOK → FldOk dest dmax src slen st st') :=
  fldBody_arith_all .fld cfg dest dmax src slen slen st hall hrw hd hpos hle hs nofun
    fun _ j => by simp only [FldCont]; omega

theorem fldBody_fldout_all (cfg : Cfg) (dest dmax src slen : Nat) (st : St)
    (hall : ∀ a, st.mapped a = true ∧ st.rd a = true) (hrw : RW st dest dmax)
    (hd : dest ≠ 0) (hpos : 0 < dmax) (hle : dmax ≤ RSIZE_MAX_STR) (hs : src ≠ 0) :
    ∃ code st', exec (fldBody .fldout cfg dest dmax src slen) st = .ok (code, st') ∧
      FldPost .fldout cfg dest dmax src slen st st' code ∧
      (code = EOK ↔ slen ≤ dmax ∧ (dest + min slen (dmax - 1) ≤ src ∨ src + min slen (dmax - 1) ≤ dest)) ∧
      (code = ESOVRLP ↔ slen ≤ dmax ∧ ¬ (dest + min slen (dmax - 1) ≤ src ∨ src + min slen (dmax - 1) ≤ dest)) ∧
      (code = EOK → FldOk dest dmax src (min slen (dmax - 1)) st st') :=
  fldBody_arith_all .fldout cfg dest dmax src slen _ st hall hrw hd hpos hle hs nofun
    fun _ j => by simp only [FldCont]; omega

/-- `strcpyfldin_s`: `n` = leading non-NUL source characters capped by `slen`; the round that decides is `min n gap`, and when
it is the gap with `src < dest` the character tested is `dest[0]`, by then `src[0]` -/
theorem fldBody_fldin_all (cfg : Cfg) (dest dmax src slen n : Nat) (st : St)
    (hall : ∀ a, st.mapped a = true ∧ st.rd a = true) (hrw : RW st dest dmax)
    (hd : dest ≠ 0) (hpos : 0 < dmax) (hle : dmax ≤ RSIZE_MAX_STR) (hs : src ≠ 0)
    (hn : n ≤ slen) (hnz : ∀ j, j < n → st.data (src + j) ≠ 0) (hend : n = slen ∨ st.data (src + n) = 0) :
    ∃ code st', exec (fldBody .fldin cfg dest dmax src slen) st = .ok (code, st') ∧
      FldPost .fldin cfg dest dmax src slen st st' code ∧
      (code = EOK ↔ slen ≤ dmax ∧ (dest + n ≤ src ∨ src + n < dest ∨ (src + n = dest ∧ n = slen))) ∧
      (code = ESOVRLP ↔ slen ≤ dmax ∧ ¬ (dest + n ≤ src ∨ src + n < dest ∨ (src + n = dest ∧ n = slen))) ∧
      (code = EOK → FldOk dest dmax src n st st') := by
  by_cases hfit : slen ≤ dmax
  · have hgap := fldGap_spec dest src
    have hgo : ∀ j, j < n → FldCont .fldin (dmax - j) (slen - j) ∧ (FldKind.fldin = .fldin → st.data (src + j) ≠ 0) :=
      fun j hj => ⟨by simp only [FldCont]; omega, fun _ => hnz j hj⟩
    by_cases hD : dest + n ≤ src ∨ src + n < dest ∨ (src + n = dest ∧ n = slen)
    · -- the source's characters run out first: round `n` decides, on a character no round wrote
      obtain ⟨st1, hcp, _, hok⟩ := fldBody_exit .fldin cfg dest dmax src slen n st hall hrw hpos hs hfit (by omega) hgo
      obtain ⟨st', he, hp, hfo⟩ := hok (fun h => by
        have h1 := h.1; simp only [FldCont] at h1
        refine h.2 rfl ?_
        rw [hcp.2, if_neg (by omega)]
        exact hend.resolve_left (by omega))
      exact ⟨EOK, st', he, hp, by simp [hfit, hD], by simp [hD, show EOK ≠ ESOVRLP by decide], fun _ => hfo⟩
    · -- the bumper comes first: the round at the gap decides; with `src < dest` it tests `dest[0]`, by then `src[0]`
      have hg : fldGap dest src ≤ n := by omega
      obtain ⟨st1, hcp, hov, _⟩ := fldBody_exit .fldin cfg dest dmax src slen _ st hall hrw hpos hs hfit (Nat.le_refl _)
        fun j hj => hgo j (Nat.lt_of_lt_of_le hj hg)
      obtain ⟨st', he, hp⟩ := hov ⟨by simp only [FldCont]; omega, fun _ => by
        rw [hcp.2]
        split <;> exact hnz _ (by omega)⟩ rfl
      exact ⟨ESOVRLP, st', he, hp, by simp [hD, show ESOVRLP ≠ EOK by decide], by simp [hfit, hD], fun h => absurd h (by decide)⟩
  · obtain ⟨st', he, hp⟩ := fldBody_nospc_post .fldin cfg dest dmax src slen st hall hrw hd hpos hle hs (by omega)
    exact ⟨_, st', he, hp, by simp [hfit, fldNospcCode_ne], by simp [hfit, fldNospcCode_ne_ovrlp],
      fun h => absurd h (fldNospcCode_ne slen)⟩
/-- **Every exit of `strcpyfld_s` / `strcpyfldin_s` / `strcpyfldout_s` on a usable dest**: any `src` (null,
overlapping, unterminated), any `slen ≠ 0`, any contents, both slack configurations.  Read off the complete outcomes: with
every cell readable the number of characters `strcpyfldin_s` copies is the first NUL of the source, capped by `slen`. -/
theorem fldBody_safe (kind : FldKind) (cfg : Cfg) (dest dmax src slen : Nat) (st : St)
    (hall : ∀ a, st.mapped a = true ∧ st.rd a = true) (hrw : RW st dest dmax)
    (hd : dest ≠ 0) (hpos : 0 < dmax) (hle : dmax ≤ RSIZE_MAX_STR) :
    ∃ code st', exec (fldBody kind cfg dest dmax src slen) st = .ok (code, st') ∧
      FldPost kind cfg dest dmax src slen st st' code := by
  by_cases hs : src = 0
  · subst hs
    exact ⟨_, fldBody_srcnull_post kind cfg dest dmax slen st hrw hpos⟩
  cases kind
  · obtain ⟨code, st', he, hp, _⟩ := fldBody_fld_all cfg dest dmax src slen st hall hrw hd hpos hle hs
    exact ⟨code, st', he, hp⟩
  · obtain ⟨n, hn, hnz, hz⟩ := firstNul (fun j => st.data (src + j)) slen
    obtain ⟨code, st', he, hp, _⟩ := fldBody_fldin_all cfg dest dmax src slen n st hall hrw hd hpos hle hs hn hnz
      (if h : n < slen then .inr (hz h) else .inl (by omega))
    exact ⟨code, st', he, hp⟩
  · obtain ⟨code, st', he, hp, _⟩ := fldBody_fldout_all cfg dest dmax src slen st hall hrw hd hpos hle hs
    exact ⟨code, st', he, hp⟩

end SafeC
