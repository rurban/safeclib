import SafeC.Proofs.OsGets
/-!
# `asctime_s` / `ctime_s` (`Models/Time.lean`): the exact result of every exit on a usable dest

Setting of `Proofs/ExtOs.lean` (`RW st dest dmax`, arbitrary prior content); the `struct tm` (12 cells) resp. `*timer` are
readable; libc's text — when there is one — is a readable string of `n` characters that does not overlap dest
(`SrcStr`, `Disjoint`).  With `dmax ≥ 120` libc writes straight into dest; the model of that write is `copyText 120`
(libc's contract: 26 bytes), so for `dmax ≥ 120` the text is assumed shorter than 120 characters — a longer one is outside
what the model says about libc (`strlen(dest)` would then run on into whatever follows).
-/
namespace SafeC
open Gen

theorem anyField_runs (tm : Nat) (l : List (Nat × (Int → Bool))) (st : St)
    (hrd : ∀ x, x ∈ l → st.mapped (tm + x.1) = true ∧ st.rd (tm + x.1) = true) :
    Runs (anyField tm l) st (fun _ s => s = st) := by
  induction l with
  | nil => exact Runs.pure _ rfl
  | cons x xs ih =>
    obtain ⟨i, p⟩ := x
    unfold anyField
    have h := hrd (i, p) (by simp)
    refine Runs.bind ((Runs.loadP _ h.1 h.2).conseq (fun v s ⟨_, hs⟩ => ?_))
    subst hs
    split
    · exact Runs.pure _ rfl
    · exact ih (fun x hx => hrd x (List.mem_cons_of_mem _ hx))

/-- the `tm_gmtoff` comparison that closes each of the two range checks -/
theorem gmtoff_runs (tm : Nat) (b : Bool) (f : Int → Bool) (st : St)
    (hrd : ∀ i, i < 12 → st.mapped (tm + i) = true ∧ st.rd (tm + i) = true) :
    Runs (if b then pure true else do
        let lo ← load (tm + 10); let hi ← load (tm + 11)
        pure (f (cellLong lo hi)) : Prog Bool) st (fun _ s => s = st) := by
  cases b with
  | true => exact Runs.pure _ rfl
  | false =>
    simp only [Bool.false_eq_true, if_false]
    refine Runs.bind ((Runs.loadP _ (hrd 10 (by omega)).1 (hrd 10 (by omega)).2).conseq (fun v s ⟨_, hs⟩ => ?_))
    subst hs
    refine Runs.bind ((Runs.loadP _ (hrd 11 (by omega)).1 (hrd 11 (by omega)).2).conseq (fun v s ⟨_, hs⟩ => ?_))
    subst hs
    exact Runs.pure _ rfl

/-- libc storing a readable string of `n < fuel` characters (terminator included) at `d`, away from it: `n` copying rounds,
then the round that copies the terminator and stops -/
theorem copyText_runs (fuel text d n : Nat) (st : St) (hsrc : SrcStr st text n) (hn : n < fuel) (hrw : RW st d (n+1))
    (hdisj : d + (n+1) ≤ text ∨ text + n < d) :
    ∃ st', exec (copyText fuel text d) st = .ok ((), st') ∧ CopiedN st st' d text (n+1) := by
  have hcl : ∀ i j, i < j → j < n + 1 → text + j ≠ d + i := fun i j _ _ => by omega
  -- one round, in a state where the cells copied so far hold their ORIGINAL values
  have hround : ∀ j st1, j ≤ n → CopiedN st st1 d text j →
      exec (copyText (fuel - j) (text + j) (d + j)) st1 = exec (if st.data (text + j) = 0 then pure ()
        else copyText (fuel - (j+1)) (text + (j+1)) (d + (j+1))) (st1.upd (d + j) (st1.data (text + j))) := by
    intro j st1 hj hcp
    have hr := hsrc.rd j hj
    have hw := hrw j (by omega)
    rw [show fuel - j = fuel - (j+1) + 1 by omega, copyText]
    simp only [exec_bind, exec_load_ok _ st1 (by rw [hcp.1.mapped]; exact hr.1) (by rw [hcp.1.rd]; exact hr.2),
      exec_store_ok _ _ st1 (by rw [hcp.1.mapped]; exact hw.1) (by rw [hcp.1.wr]; exact hw.2.1),
      hcp.next (fun i hi => hcl i j hi (by omega))]
    rfl
  obtain ⟨st1, hcp, he⟩ := copied_steps (fun j => copyText (fuel - j) (text + j) (d + j)) d text st n
    (fun i j hij hj => hcl i j hij (by omega)) fun j st1 hj hcp => by
      rw [hround j st1 (by omega) hcp, if_neg (hsrc.nz j hj)]
  refine ⟨_, ?_, hcp.snoc (fun i hi => hcl i n hi (by omega))⟩
  have h0 := hround n st1 (Nat.le_refl _) hcp
  rw [if_pos hsrc.nul] at h0
  exact (by simpa using he : exec (copyText fuel text d) st = _).trans h0

theorem failClr_runs (cfg : Cfg) (dest dmax code : Nat) (st : St) (hrw : RW st dest dmax) (hpos : 0 < dmax) :
    Runs (failClr cfg dest dmax code) st (fun r s => r = code ∧ FramePost dest dmax st s ∧
      s.events = st.events ++ [.handler .str code] ∧ DestCleared cfg dest dmax s) := by
  unfold failClr
  exact .bind ((herr_runs cfg dest dmax code st hrw hpos).conseq fun _ s ⟨pf, pe, pc⟩ => .pure _ ⟨rfl, pf, pe, pc⟩)

/-- a reported violation of asctime_s / ctime_s on a usable dest: dest[0] = 0; when `dmax` itself is acceptable (`26 ≤ dmax`)
and null-slack is on, all `dmax` cells are zero -/
def TimeViol (cfg : Cfg) (dest dmax : Nat) (st : St) (r : Nat) (s : St) : Prop :=
  (r = ESNULLP ∨ r = ESLEMIN ∨ r = ESLEMAX) ∧ s.events = st.events ++ [.handler .str r] ∧ s.data dest = 0 ∧
  (26 ≤ dmax → cfg.slack = true → ∀ i, i < dmax → s.data (dest+i) = 0)

/-- what `timeTail` leaves: libc gave up (-1, dest cleared, silent); the text (n characters) fits: EOK, silent, dest = text,
terminator, and behind it zeros (`dmax < 120`: the copy out of `tmp[120]` through strcpy_s, null-slack) resp. the prior
content (`dmax ≥ 120`: libc wrote into dest, the closing `strcpy_s(dest, dmax, dest)` is the same-pointer shortcut); the text
does not fit (`dmax < 120` only): ESNOSPC reported once and dest NOT touched -/
def TimeTailPost (cfg : Cfg) (dest dmax text n : Nat) (lf : Bool) (st : St) (r : Nat) (s : St) : Prop :=
  ((text = 0 ∨ lf = true) ∧ r = NEG1 ∧ s.events = st.events ∧ DestCleared cfg dest dmax s) ∨
  (text ≠ 0 ∧ lf = false ∧ n < dmax ∧ r = EOK ∧ s.events = st.events ∧
     (∀ i, i < n → s.data (dest+i) = st.data (text+i)) ∧ s.data (dest+n) = 0 ∧
     (dmax < 120 → cfg.slack = true → ∀ i, n ≤ i → i < dmax → s.data (dest+i) = 0) ∧
     (120 ≤ dmax → ∀ i, n < i → i < dmax → s.data (dest+i) = st.data (dest+i))) ∨
  (text ≠ 0 ∧ lf = false ∧ dmax ≤ n ∧ r = ESNOSPC ∧ s.events = st.events ++ [.handler .str ESNOSPC] ∧ s.data = st.data)

/-- hypothesis on libc's text: none (`text = 0`), or a readable string of `n` characters away from dest — shorter than 120
when libc writes it into dest itself -/
def TextOk (st : St) (dest dmax text n : Nat) : Prop :=
  text ≠ 0 → SrcStr st text n ∧ Disjoint dest dmax text n ∧ (120 ≤ dmax → n < 120)

theorem SrcStr.congr {st st' : St} {s n : Nat} (h : SrcStr st s n) (hm : st'.mapped = st.mapped) (hr : st'.rd = st.rd)
    (hd : ∀ j, j ≤ n → st'.data (s+j) = st.data (s+j)) : SrcStr st' s n :=
  ⟨fun j hj => by rw [hd j (by omega)]; exact h.nz j hj, by rw [hd n (Nat.le_refl _)]; exact h.nul,
   fun j hj => by rw [hm, hr]; exact h.rd j hj⟩

theorem timeTail_runs (cfg : Cfg) (dest dmax : Nat) (db : Bos) (text n : Nat) (lf : Bool) (st : St)
    (hd : dest ≠ 0) (h26 : 26 ≤ dmax) (hb : ∀ b, db = some b → dmax ≤ b) (hnone : db = none → dmax ≤ RSIZE_MAX_STR)
    (hrw : RW st dest dmax) (htext : TextOk st dest dmax text n) :
    Runs (timeTail cfg dest dmax db text lf) st (fun r s => FramePost dest dmax st s ∧
      TimeTailPost cfg dest dmax text n lf st r s) := by
  have hpos : 0 < dmax := by omega
  have hsf : 120 < scanFuel := Nat.lt_of_le_of_lt (by decide : 120 ≤ RSIZE_MAX_STR) RSIZE_lt_scanFuel
  unfold timeTail
  by_cases hfail : text = 0 ∨ lf = true
  · rw [if_pos hfail]
    -- libc gave up; with dmax ≥ 120 its buffer was dest
    have hcp : Runs (if text ≠ 0 ∧ dmax ≥ 120 then copyText 120 text dest else pure ()) st
        (fun _ s => SameMeta s st ∧ ∀ a, ¬ (dest ≤ a ∧ a < dest + dmax) → s.data a = st.data a) := by
      by_cases hc : text ≠ 0 ∧ dmax ≥ 120
      · rw [if_pos hc]
        obtain ⟨hsrc, hdj, hn⟩ := htext hc.1
        unfold Disjoint at hdj
        obtain ⟨s, he, hcp⟩ := copyText_runs 120 text dest n st hsrc (hn hc.2) (fun i hi => hrw i (by have := hn hc.2; omega))
          (by have := hn hc.2; omega)
        exact Runs.of_exec he ⟨hcp.1, fun a ha => hcp.out a (by have := hn hc.2; omega)⟩
      · rw [if_neg hc]; exact Runs.pure _ ⟨SameMeta.refl _, fun _ _ => rfl⟩
    refine Runs.bind (hcp.conseq (fun _ s1 ⟨hm1, hf1⟩ => ?_))
    exact Runs.bind ((clear_runs cfg dest dmax s1 (RW.of_sameMeta hm1 hrw) hpos).conseq fun _ s2 ⟨pf, pe, pz, psl⟩ =>
      Runs.pure _ ⟨(FramePost.of_sameMeta hm1 hf1).trans pf, Or.inl ⟨hfail, rfl, pe.trans hm1.events, pz, psl⟩⟩)
  rw [if_neg hfail]
  have ht : text ≠ 0 := fun h => hfail (Or.inl h)
  have hlf : lf = false := by cases lf <;> simp_all
  obtain ⟨hsrc, hdj, hn⟩ := htext ht
  by_cases h120 : dmax ≥ 120
  · rw [if_pos h120]
    have hn' := hn h120
    have hdj' := hdj
    unfold Disjoint at hdj'
    obtain ⟨s1, he1, hm1, hd1⟩ := copyText_runs 120 text dest n st hsrc hn' (fun i hi => hrw i (by omega)) (by omega)
    have hc1 : ∀ j, j ≤ n → s1.data (dest+j) = st.data (text+j) := fun j hj => CopiedN.at ⟨hm1, hd1⟩ j (by omega)
    have hf1 := CopiedN.out ⟨hm1, hd1⟩
    refine Runs.bind (Runs.of_exec he1 ?_)
    have hs1 : SrcStr s1 dest n := by
      refine ⟨fun j hj => ?_, ?_, fun j hj => ?_⟩
      · rw [hc1 j (by omega)]; exact hsrc.nz j hj
      · rw [hc1 n (Nat.le_refl _)]; exact hsrc.nul
      · have := (RW.of_sameMeta hm1 hrw) j (by omega)
        exact ⟨this.1, this.2.2⟩
    refine Runs.bind (Runs.of_exec (strlen_ok dest n s1 hs1 (Nat.lt_trans hn' hsf)) ?_)
    rw [if_pos (by omega), strcpy_same cfg dest dmax db hd (by omega) hb hnone]
    refine Runs.bind (Runs.pure _ (Runs.pure _ ⟨.of_sameMeta hm1 (fun a ha => hf1 a (by omega)),
      Or.inr (Or.inl ⟨ht, hlf, by omega, rfl, hm1.events, fun i hi => hc1 i (by omega), ?_, fun h => by omega,
        fun _ i h1 h2 => hf1 _ (by omega)⟩)⟩))
    rw [hc1 n (Nat.le_refl _)]; exact hsrc.nul
  · rw [if_neg h120]
    refine Runs.bind_pure (strlen_runs text n st hsrc) fun l hlv => ?_
    by_cases hfit : n < dmax
    · have hln : l = n := by rcases hlv with h | h <;> omega
      subst hln
      rw [if_pos hfit]
      obtain ⟨code, s1, he, pm, pr, pw, ps, pf, hok, _⟩ :=
        strcpyG_disjoint RSIZE_MAX_STR cfg dest dmax text l st hd ht hpos
          (Nat.le_trans (by omega) (by decide : 120 ≤ RSIZE_MAX_STR)) hrw hsrc hdj
      obtain ⟨_, hev, hcp, hnul, hsl⟩ := hok hfit
      have he' : exec (strcpy_s cfg dest dmax text none) st = .ok (code, s1) := he
      exact Runs.bind (Runs.of_exec he' (Runs.pure _ ⟨⟨pm, pr, pw, ps, pf⟩,
        Or.inr (Or.inl ⟨ht, hlf, hfit, rfl, hev, hcp, hnul, fun _ => hsl, fun h => by omega⟩)⟩))
    · have hge : ¬ l < dmax := by rcases hlv with h | h <;> omega
      rw [if_neg hge]
      refine Runs.bind ⟨(), { st with events := st.events ++ [.handler .str ESNOSPC] }, by simp [handlerS], ?_⟩
      exact Runs.pure _ ⟨⟨rfl, rfl, rfl, rfl, fun _ _ => rfl⟩, Or.inr (Or.inr ⟨ht, hlf, by omega, rfl, rfl, rfl⟩)⟩

def TimePost (cfg : Cfg) (dest dmax text n : Nat) (lf : Bool) (st : St) (r : Nat) (s : St) : Prop :=
  FramePost dest dmax st s ∧ (TimeViol cfg dest dmax st r s ∨ TimeTailPost cfg dest dmax text n lf st r s)

theorem timeEntry_runs (cfg : Cfg) (dest dmax : Nat) (db : Bos) (k : Prog Nat) (text n : Nat) (lf : Bool) (st : St)
    (hd : dest ≠ 0) (hpos : 0 < dmax) (hb : ∀ b, db = some b → dmax ≤ b) (hnone : db = none → dmax ≤ RSIZE_MAX_STR)
    (hrw : RW st dest dmax) (hk : 26 ≤ dmax → Runs k st (TimePost cfg dest dmax text n lf st)) :
    Runs (timeEntry dest dmax db k) st (TimePost cfg dest dmax text n lf st) := by
  unfold timeEntry
  rw [if_neg hd]
  by_cases h26 : dmax < 26
  · rw [if_pos h26, if_pos hpos]
    have h0 := hrw 0 hpos
    refine Runs.bind ((Runs.storeP dest 0 h0.1 h0.2.1).conseq (fun _ s hs => ?_))
    subst hs
    refine ⟨ESLEMIN, { st.upd dest 0 with events := st.events ++ [.handler .str ESLEMIN] }, by simp [failS, handlerS, exec_bind], ?_⟩
    refine ⟨⟨rfl, rfl, rfl, rfl, fun a ha => ?_⟩, Or.inl ⟨Or.inr (Or.inl rfl), rfl, by simp, fun h => by omega⟩⟩
    exact St.upd_data_ne _ _ _ _ (by intro h; subst h; exact ha ⟨Nat.le_refl _, by omega⟩)
  · rw [if_neg h26]
    have hk' := hk (by omega)
    cases db with
    | none =>
      have : ¬ dmax > RSIZE_MAX_STR := by have := hnone rfl; omega
      simp only [this, if_false]
      exact hk'
    | some b =>
      have h1 : ¬ dmax > b := by have := hb b rfl; omega
      have h2 : ¬ b < 26 := by have := hb b rfl; omega
      simp only [h1, h2, if_false]
      exact hk'

theorem viol_of_failClr {cfg : Cfg} {dest dmax code text n : Nat} {lf : Bool} {st : St} (hc : code = ESNULLP ∨ code = ESLEMIN ∨ code = ESLEMAX)
    (r : Nat) (s : St)
    (h : r = code ∧ FramePost dest dmax st s ∧ s.events = st.events ++ [.handler .str code] ∧ DestCleared cfg dest dmax s) : TimePost cfg dest dmax text n lf st r s := by
  obtain ⟨hr, hf, he, hz, hs⟩ := h
  subst hr
  exact ⟨hf, Or.inl ⟨hc, he, hz, fun _ => hs⟩⟩

theorem asctime_s_runs (cfg : Cfg) (dest dmax tm : Nat) (db : Bos) (text n : Nat) (st : St)
    (hd : dest ≠ 0) (hpos : 0 < dmax) (hb : ∀ b, db = some b → dmax ≤ b) (hnone : db = none → dmax ≤ RSIZE_MAX_STR)
    (hrw : RW st dest dmax) (htm : tm ≠ 0 → ∀ i, i < 12 → st.mapped (tm + i) = true ∧ st.rd (tm + i) = true)
    (htext : TextOk st dest dmax text n) :
    Runs (asctime_s cfg dest dmax tm db text) st (TimePost cfg dest dmax text n false st) := by
  unfold asctime_s
  refine timeEntry_runs cfg dest dmax db _ text n false st hd hpos hb hnone hrw (fun h26 => ?_)
  by_cases htm0 : tm = 0
  · rw [if_pos htm0]
    exact (failClr_runs cfg dest dmax ESNULLP st hrw hpos).conseq (viol_of_failClr (Or.inl rfl))
  rw [if_neg htm0]
  have hrd := htm htm0
  have hfld : ∀ (l : List (Nat × (Int → Bool))), (∀ x, x ∈ l → x.1 < 12) → Runs (anyField tm l) st (fun _ s => s = st) :=
    fun l hl => anyField_runs tm l st (fun x hx => hrd x.1 (hl x hx))
  refine Runs.bind ((hfld _ (by decide)).conseq (fun s1 s hs => ?_))
  subst hs
  refine Runs.bind ((gmtoff_runs tm s1 (fun x => decide (x < -1036800)) s hrd).conseq (fun s2 s' hs => ?_))
  subst hs
  by_cases hs2 : s2 = true
  · rw [if_pos hs2]
    exact (failClr_runs cfg dest dmax ESLEMIN s' hrw hpos).conseq (viol_of_failClr (Or.inr (Or.inl rfl)))
  rw [if_neg hs2]
  refine Runs.bind ((hfld _ (by decide)).conseq (fun b1 s hs => ?_))
  subst hs
  refine Runs.bind ((gmtoff_runs tm b1 (fun x => decide (x > 1036800)) s hrd).conseq (fun b2 s'' hs => ?_))
  subst hs
  by_cases hb2 : b2 = true
  · rw [if_pos hb2]
    exact (failClr_runs cfg dest dmax ESLEMAX s'' hrw hpos).conseq (viol_of_failClr (Or.inr (Or.inr rfl)))
  rw [if_neg hb2]
  exact (timeTail_runs cfg dest dmax db text n false s'' hd h26 hb hnone hrw htext).conseq
    (fun r s ⟨h1, h2⟩ => ⟨h1, Or.inr h2⟩)

/-- `lf`: libc gave up (`libcFails` of the model) -/
theorem ctime_s_runs (cfg : Cfg) (dest dmax timer : Nat) (db : Bos) (text n : Nat) (lf : Bool) (st : St)
    (hd : dest ≠ 0) (hpos : 0 < dmax) (hb : ∀ b, db = some b → dmax ≤ b) (hnone : db = none → dmax ≤ RSIZE_MAX_STR)
    (hrw : RW st dest dmax) (htm : timer ≠ 0 → st.mapped timer = true ∧ st.rd timer = true)
    (htext : TextOk st dest dmax text n) :
    Runs (ctime_s cfg dest dmax timer db text lf) st (TimePost cfg dest dmax text n lf st) := by
  unfold ctime_s
  refine timeEntry_runs cfg dest dmax db _ text n lf st hd hpos hb hnone hrw (fun h26 => ?_)
  by_cases htm0 : timer = 0
  · rw [if_pos htm0]
    exact (failClr_runs cfg dest dmax ESNULLP st hrw hpos).conseq (viol_of_failClr (Or.inl rfl))
  rw [if_neg htm0]
  have hrd := htm htm0
  refine Runs.bind ((Runs.loadP _ hrd.1 hrd.2).conseq (fun t s ⟨_, hs⟩ => ?_))
  subst hs
  dsimp only
  split
  · exact (failClr_runs cfg dest dmax ESLEMIN s hrw hpos).conseq (viol_of_failClr (Or.inr (Or.inl rfl)))
  refine Runs.bind ((Runs.loadP _ hrd.1 hrd.2).conseq (fun t2 s' ⟨_, hs⟩ => ?_))
  subst hs
  split
  · exact (failClr_runs cfg dest dmax ESLEMAX s' hrw hpos).conseq (viol_of_failClr (Or.inr (Or.inr rfl)))
  · exact (timeTail_runs cfg dest dmax db text n lf s' hd h26 hb hnone hrw htext).conseq
      (fun r s ⟨h1, h2⟩ => ⟨h1, Or.inr h2⟩)

/-- dest = 100 (26 cells holding 7, no NUL), libc's "text" = 26 `A`s at 200 (terminated at 226), a valid `struct tm` at 300
(`tm_mday = 1`, everything else 0), `*timer = 0` at 400; everything mapped and readable, only dest writable -/
def timeWSt : St :=
  { data := fun a => if 100 ≤ a ∧ a < 126 then 7 else if 200 ≤ a ∧ a < 226 then 65 else if a = 303 then 1 else 0
    mapped := fun _ => true, rd := fun _ => true
    wr := fun a => decide (100 ≤ a ∧ a < 126) }

theorem timeWSt_rw : RW timeWSt 100 26 := by
  intro i hi
  refine ⟨rfl, ?_, rfl⟩
  simp only [timeWSt, decide_eq_true_eq]
  omega

theorem timeWSt_text : TextOk timeWSt 100 26 200 26 := by
  intro _
  refine ⟨⟨fun j hj => ?_, by simp [timeWSt], fun _ _ => ⟨rfl, rfl⟩⟩, Or.inl (by decide), fun h => by omega⟩
  have h1 : ¬ (100 ≤ 200 + j ∧ 200 + j < 126) := by omega
  have h2 : 200 ≤ 200 + j ∧ 200 + j < 226 := by omega
  simp [timeWSt, h1, h2]

/-- state of the non-vacuity examples: dest = 100 (26 cells holding 7), the 3-character text `"AAA"` at 200, a valid
`struct tm` at 300 (`tm_mday = 1`), `*timer = 0` at 400; only these extents are mapped and readable, only dest is writable -/
def osTimeExSt : St :=
  { data := fun a => if 100 ≤ a ∧ a < 126 then 7 else if 200 ≤ a ∧ a < 203 then 65 else if a = 303 then 1 else 0
    mapped := fun a => decide (100 ≤ a ∧ a < 126 ∨ 200 ≤ a ∧ a < 204 ∨ 300 ≤ a ∧ a < 312 ∨ a = 400)
    rd := fun a => decide (100 ≤ a ∧ a < 126 ∨ 200 ≤ a ∧ a < 204 ∨ 300 ≤ a ∧ a < 312 ∨ a = 400)
    wr := fun a => decide (100 ≤ a ∧ a < 126) }

theorem osTimeExSt_rw : RW osTimeExSt 100 26 := by
  intro i hi
  simp only [osTimeExSt, decide_eq_true_eq]
  omega

theorem osTimeExSt_text : TextOk osTimeExSt 100 26 200 3 := by
  intro _
  refine ⟨⟨fun j hj => ?_, by simp [osTimeExSt], fun j hj => ?_⟩, Or.inl (by decide), fun h => by omega⟩
  · have h1 : ¬ (100 ≤ 200 + j ∧ 200 + j < 126) := by omega
    have h2 : 200 ≤ 200 + j ∧ 200 + j < 203 := by omega
    simp [osTimeExSt, h1, h2]
  · simp only [osTimeExSt, decide_eq_true_eq]; omega

theorem osTimeExSt_tm : ∀ i, i < 12 → osTimeExSt.mapped (300 + i) = true ∧ osTimeExSt.rd (300 + i) = true := by
  intro i hi
  simp only [osTimeExSt, decide_eq_true_eq]; omega

theorem osTimeExSt_timer : osTimeExSt.mapped 400 = true ∧ osTimeExSt.rd 400 = true := by
  simp [osTimeExSt]

/-- the excluded point, asctime_s: a valid `tm`, `dmax = 26`, a text of 26 characters: ESNOSPC is reported and dest is left
exactly as it was — no NUL in `dest[0..26)`, `dest[0] ≠ 0` -/
theorem asctime_s_nospc_point :
    ∃ st', exec (asctime_s {} 100 26 300 none 200) timeWSt = .ok (ESNOSPC, st') ∧
      st'.events = [.handler .str ESNOSPC] ∧ st'.data = timeWSt.data := ⟨_, rfl, rfl, rfl⟩

theorem ctime_s_nospc_point :
    ∃ st', exec (ctime_s {} 100 26 400 none 200) timeWSt = .ok (ESNOSPC, st') ∧
      st'.events = [.handler .str ESNOSPC] ∧ st'.data = timeWSt.data := ⟨_, rfl, rfl, rfl⟩

theorem timeWSt_no_nul : ¬ ∃ i, i < 26 ∧ timeWSt.data (100 + i) = 0 := by
  intro ⟨i, hi, h⟩
  have : 100 ≤ 100 + i ∧ 100 + i < 126 := by omega
  simp [timeWSt, this] at h

end SafeC
