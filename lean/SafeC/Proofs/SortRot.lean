import SafeC.Proofs.SortSafe
/-!
# qsort_s model: the element rotation of `cycle` as a function

`Cyc.rotF f tmp ar` is what the moves `a[ar_0] = a[ar_1]; …; a[ar_last] = tmp` of `cycle` do to an array seen as a function `f`
(sequentially, as in the C: positions may repeat); `Cyc.Rep a n f`: the array `a` of size `n` holds `f`.  `cycle_fn`: on positions
inside the array `cycle` returns, keeps the size and computes `rot` (`rotF` with `tmp = f ar_0`) of `St.g`, the array of a state
as a total function.  The byte program `cycleBytes` (Proofs/SortCycle.lean) and the heap-order proofs (Proofs/SortSift.lean,
SortTrinkle.lean) both rest on it.
-/
namespace SafeC.Sort
variable {α : Type}

namespace Cyc

def upd (f : Nat → β) (x : Nat) (v : β) : Nat → β := fun i => if i = x then v else f i

theorem upd_same (f : Nat → β) (x : Nat) (v : β) : upd f x v x = v := if_pos rfl
theorem upd_ne (f : Nat → β) (v : β) {x i : Nat} (h : i ≠ x) : upd f x v i = f i := if_neg h

def rotF (f : Nat → β) (tmp : β) : List Nat → Nat → β
  | [] => f
  | [x] => upd f x tmp
  | x :: y :: rest => rotF (upd f x (f y)) tmp (y :: rest)

theorem rotF_map (h : β → γ) (tmp : β) : ∀ (ar : List Nat) (f : Nat → β) (i : Nat),
    rotF (fun j => h (f j)) (h tmp) ar i = h (rotF f tmp ar i)
  | [], f, i => rfl
  | [x], f, i => by
    simp only [rotF, upd]; split <;> rfl
  | x :: y :: rest, f, i => by
    simp only [rotF]
    rw [← rotF_map h tmp (y :: rest)]
    congr 1
    funext j
    simp only [upd]; split <;> rfl

theorem rotF_notin {β : Type} (tmp : β) : ∀ (ar : List Nat) (f : Nat → β) (i : Nat), i ∉ ar → rotF f tmp ar i = f i
  | [], f, i, _ => rfl
  | [x], f, i, h => by
    exact upd_ne f tmp (by simpa using h)
  | x :: y :: rest, f, i, h => by
    have h1 : ¬ i = x := fun e => h (by simp [e])
    have h2 : i ∉ y :: rest := fun e => h (by simp [List.mem_cons.mp e])
    simp only [rotF]
    rw [rotF_notin tmp (y :: rest) _ i h2, upd_ne _ _ h1]

theorem upd_comm {β : Type} (f : Nat → β) {h x : Nat} (hne : h ≠ x) (v w : β) :
    upd (upd f h v) x w = upd (upd f x w) h v := by
  funext i
  simp only [upd]
  by_cases h1 : i = x
  · have hxh : ¬ x = h := fun e => hne e.symm
    simp only [h1, if_true, hxh, if_false]
  · simp only [h1, if_false]

theorem rotF_upd_notin {β : Type} (tmp : β) (h : Nat) (v : β) : ∀ (ar : List Nat) (f : Nat → β), h ∉ ar →
    rotF (upd f h v) tmp ar = upd (rotF f tmp ar) h v
  | [], f, _ => rfl
  | [x], f, hn => by
    simp only [rotF]
    exact upd_comm f (fun e => hn (by simp [e])) v tmp
  | x :: y :: rest, f, hn => by
    simp only [rotF]
    have hy : upd f h v y = f y := by
      have : ¬ y = h := fun e => hn (by simp [e])
      simp only [upd, this, if_false]
    rw [hy, upd_comm f (fun e => hn (by simp [e])) v (f y)]
    exact rotF_upd_notin tmp h v (y :: rest) _ (fun hm => hn (List.mem_cons_of_mem _ hm))

/-- moving the hole one step down: the root receives the child's value, the rest is the rotation below -/
theorem rotF_cons_notin {β : Type} (tmp : β) (f : Nat → β) (h l : Nat) (P : List Nat) (hn : h ∉ l :: P) :
    rotF f tmp (h :: l :: P) = upd (rotF f tmp (l :: P)) h (f l) := by
  show rotF (upd f h (f l)) tmp (l :: P) = _
  exact rotF_upd_notin tmp h (f l) (l :: P) f hn

theorem rotF_val (tmp : α) : ∀ (ar : List Nat) (f : Nat → α) (j : Nat),
    Cyc.rotF f tmp ar j = f j ∨ Cyc.rotF f tmp ar j = tmp ∨ ∃ y ∈ ar, Cyc.rotF f tmp ar j = f y
  | [], _, _ => Or.inl rfl
  | [x], f, j => by
    by_cases h : j = x
    · exact Or.inr (Or.inl (h ▸ Cyc.upd_same ..))
    · exact Or.inl (Cyc.upd_ne _ _ h)
  | x :: y :: rest, f, j => by
    simp only [Cyc.rotF]
    rcases rotF_val tmp (y :: rest) (Cyc.upd f x (f y)) j with h | h | ⟨z, hz, h⟩
    · rw [h]
      by_cases hj : j = x
      · right; right; exact ⟨y, by simp, hj ▸ Cyc.upd_same ..⟩
      · left; exact Cyc.upd_ne _ _ hj
    · exact Or.inr (Or.inl h)
    · rw [h]
      right; right
      by_cases hzx : z = x
      · exact ⟨y, by simp, hzx ▸ Cyc.upd_same ..⟩
      · exact ⟨z, List.mem_cons_of_mem _ hz, Cyc.upd_ne _ _ hzx⟩

def Rep (a : Array β) (n : Nat) (f : Nat → β) : Prop :=
  a.size = n ∧ ∀ i, i < n → a[i]? = some (f i)

theorem Rep.ext {a b : Array β} {n : Nat} {f : Nat → β} (ha : Rep a n f) (hb : Rep b n f) : a = b := by
  apply Array.ext
  · rw [ha.1, hb.1]
  · intro i h1 h2
    obtain ⟨_, e1⟩ := Array.getElem?_eq_some_iff.1 (ha.2 i (by rw [← ha.1]; exact h1))
    obtain ⟨_, e2⟩ := Array.getElem?_eq_some_iff.1 (hb.2 i (by rw [← ha.1]; exact h1))
    rw [e1, e2]

theorem getE_rep {a : Array β} {n : Nat} {f : Nat → β} (h : Rep a n f) {x : Nat} (hx : x < n) :
    getE a x = .ok (f x) := by
  obtain ⟨hx', e⟩ := Array.getElem?_eq_some_iff.1 (h.2 x hx)
  unfold getE; simp only [hx', dite_true, e]

theorem setE_rep {a : Array β} {n : Nat} {f : Nat → β} (h : Rep a n f) {x : Nat} (hx : x < n) (v : β) :
    ∃ a', setE a x v = .ok a' ∧ Rep a' n (upd f x v) := by
  have hx' : x < a.size := by rw [h.1]; exact hx
  refine ⟨a.set x v hx', by unfold setE; simp only [hx', dite_true], by simp [h.1], ?_⟩
  intro i hi
  rw [Array.getElem?_set]
  simp only [upd]
  by_cases hxi : x = i
  · subst hxi; simp
  · have : ¬ i = x := fun e => hxi e.symm
    simp only [hxi, this, if_false]; exact h.2 i hi

theorem cycleGo_rep (tmp : β) {n : Nat} : ∀ (ar : List Nat) (a : Array β) (f : Nat → β) (x : Nat),
    Rep a n f → x < n → (∀ y ∈ ar, y < n) →
    ∃ r, cycleGo a tmp (x :: ar) = .ok r ∧ Rep r n (rotF f tmp (x :: ar))
  | [], a, f, x, h, hx, _ => by
    unfold cycleGo
    exact setE_rep h hx tmp
  | y :: rest, a, f, x, h, hx, har => by
    have hy : y < n := har y (by simp)
    unfold cycleGo
    rw [getE_rep h hy]
    obtain ⟨a1, e1, h1⟩ := setE_rep h hx (f y)
    simp only [bind, Except.bind, e1]
    exact cycleGo_rep tmp rest a1 _ y h1 hy (fun z hz => har z (by simp [hz]))

end Cyc
open Cyc

def St.g [Inhabited α] (s : St α) : Nat → α := fun i => s.a[i]!

def rot (f : Nat → α) : List Nat → Nat → α
  | [] => f
  | [_] => f
  | x :: y :: rest => Cyc.rotF f (f x) (x :: y :: rest)

theorem rot_eq_rotF (f : Nat → α) (h : Nat) (P : List Nat) : rot f (h :: P) = rotF f (f h) (h :: P) := by
  match P with
  | [] =>
    funext i
    show f i = if i = h then f h else f i
    split
    · subst_vars; rfl
    · rfl
  | _ :: _ => rfl

theorem rot_notin (g : Nat → α) (ar : List Nat) (j : Nat) (hn : j ∉ ar) : rot g ar j = g j := by
  match ar, hn with
  | [], _ => rfl
  | [_], _ => rfl
  | x :: y :: rest, hn => exact Cyc.rotF_notin (g x) (x :: y :: rest) g j hn

theorem rot_val (g : Nat → α) (ar : List Nat) (j : Nat) : rot g ar j = g j ∨ ∃ y ∈ ar, rot g ar j = g y := by
  match ar with
  | [] => exact Or.inl rfl
  | [_] => exact Or.inl rfl
  | x :: y :: rest =>
    rcases rotF_val (g x) (x :: y :: rest) g j with h | h | h
    · exact Or.inl h
    · exact Or.inr ⟨x, by simp, h⟩
    · exact Or.inr h

theorem rep_g [Inhabited α] (s : St α) : Cyc.Rep s.a s.a.size s.g := by
  refine ⟨rfl, fun i hi => ?_⟩
  simp only [St.g, getElem!_pos, hi, Array.getElem?_eq_getElem]

theorem g_of_rep [Inhabited α] {s : St α} {n : Nat} {f : Nat → α} (h : Cyc.Rep s.a n f) (hf : ∀ i, n ≤ i → f i = default) : s.g = f := by
  funext i
  by_cases hi : i < n
  · obtain ⟨hi', this⟩ := Array.getElem?_eq_some_iff.1 (h.2 i hi)
    simp only [St.g, getElem!_pos, hi', this]
  · rw [hf i (by omega)]
    have hi' : ¬ i < s.a.size := by rw [h.1]; exact hi
    simp [St.g, hi']

theorem g_congr [Inhabited α] {s s' : St α} (h : s'.a = s.a) : s'.g = s.g := by
  unfold St.g; rw [h]

theorem cycle_fn [Inhabited α] (s : St α) (ar : List Nat) (h : ∀ y ∈ ar, y < s.a.size) (hl : ar.length ≤ 112) :
    Tot (cycle s ar) (fun r => r.a.size = s.a.size ∧ r.g = rot s.g ar) := by
  unfold cycle
  split
  · exact Tot.ok ⟨rfl, rfl⟩
  · exact Tot.ok ⟨rfl, rfl⟩
  · rename_i x y rest
    have hx : x < s.a.size := h x (by simp)
    have hl' : ¬ (x :: y :: rest).length > 112 := by omega
    simp only [hl', if_false]
    rw [getE_rep (rep_g s) hx]
    obtain ⟨r, hr, hrep⟩ := cycleGo_rep (s.g x) (y :: rest) s.a s.g x (rep_g s) hx (fun z hz => h z (by simp [hz]))
    refine ⟨{ s with a := r }, by simp [bind, Except.bind, hr, pure, Except.pure], hrep.1, ?_⟩
    apply g_of_rep (s := { s with a := r }) hrep
    intro i hi
    show rotF s.g (s.g x) (x :: y :: rest) i = _
    rw [rotF_notin _ _ _ _ (fun hm => by have := h i hm; omega)]
    have hi' : ¬ i < s.a.size := by omega
    simp [St.g, hi']

end SafeC.Sort
