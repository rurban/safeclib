import SafeC.Proofs.AccMem
import SafeC.Proofs.Footprint
import SafeC.Proofs.MemCopyEntry
/-!
# `memccpy_s`: the `CHK_OVRLP` interval test (every placement), and the copy loop never reports an overlap
-/
namespace SafeC
open Gen Mem

/-- the overlap test of `memccpy_s` (`CHK_OVRLP`: identical pointers count as overlapping) on addresses that do not
wrap around 2^64 -/
theorem ovrlp_one (dp dlen sp slen : Nat) (h1 : sp + slen < U64) (h2 : dp + dlen < U64) :
    ovrlp 1 dp dlen sp slen = true ↔ (sp ≤ dp ∧ dp < sp + slen) ∨ (dp < sp ∧ sp < dp + dlen) := by
  simp [ovrlp, Nat.mod_eq_of_lt h1, Nat.mod_eq_of_lt h2]

theorem memccpy_s_valid (cfg : Cfg) (dest dmax src c n : Nat)
    (hd : dest ≠ 0) (hs : src ≠ 0) (hpos : 0 < n) (hle : n ≤ dmax) (hmax : dmax ≤ RSIZE_MAX_MEM) :
    memccpy_s cfg dest dmax src c n none none =
      if ovrlp 1 dest dmax src n then do
        mem_prim_set 1 dest dmax 0
        handlerM ESOVRLP
        pure ESOVRLP
      else memccpyLoop cfg (asInt c) dest dmax dmax dest src n := by
  unfold memccpy_s
  rw [if_neg hd, if_neg (Nat.ne_of_gt (Nat.lt_of_lt_of_le hpos hle)), chkDmaxMemB_none _ hmax,
    if_neg (Nat.ne_of_gt hpos), if_neg hs, if_neg (Nat.not_lt.2 hle)]

theorem memccpy_s_eq_loop (cfg : Cfg) (dest dmax src c n : Nat)
    (hd : dest ≠ 0) (hs : src ≠ 0) (hpos : 0 < n) (hle : n ≤ dmax) (hmax : dmax ≤ RSIZE_MAX_MEM)
    (ha1 : src + n < U64) (ha2 : dest + dmax < U64)
    (hno : ¬ ((src ≤ dest ∧ dest < src + n) ∨ (dest < src ∧ src < dest + dmax))) :
    memccpy_s cfg dest dmax src c n none none = memccpyLoop cfg (asInt c) dest dmax dmax dest src n := by
  rw [memccpy_s_valid cfg dest dmax src c n hd hs hpos hle hmax, if_neg (mt (ovrlp_one dest dmax src n ha1 ha2).1 hno)]

theorem cells_ne_of_not_ovrlp {dest dmax src n : Nat}
    (hno : ¬ ((src ≤ dest ∧ dest < src + n) ∨ (dest < src ∧ src < dest + dmax))) :
    ∀ i, i < n → ∀ j, j < dmax → src + i ≠ dest + j := by
  intro i hi j hj; omega

/-- `memccpy_s`, valid arguments, operands that do NOT overlap: the call returns (on every memory content, whatever
the stop character) and the code is EOK or ESNOSPC — never ESOVRLP; nothing outside dest is written -/
theorem memccpy_s_disjoint (cfg : Cfg) (dest dmax src c n : Nat) (st : St)
    (hall : ∀ a, st.mapped a = true ∧ st.rd a = true)
    (hd : dest ≠ 0) (hs : src ≠ 0) (hpos : 0 < n) (hle : n ≤ dmax) (hmax : dmax ≤ RSIZE_MAX_MEM)
    (hw : RW st dest dmax) (ha1 : src + n < U64) (ha2 : dest + dmax < U64)
    (hno : ¬ ((src ≤ dest ∧ dest < src + n) ∨ (dest < src ∧ src < dest + dmax))) :
    ∃ code st', exec (memccpy_s cfg dest dmax src c n none none) st = .ok (code, st') ∧
      (code = EOK ∨ code = ESNOSPC) ∧ (∀ a, ¬ (dest ≤ a ∧ a < dest + dmax) → st'.data a = st.data a) := by
  -- the footprint of the loop with loads anywhere and stores in dest; its post is the code
  have hW : ∀ a, Cells dest dmax a → Cells dest dmax a := fun _ h => h
  obtain ⟨r, st', he, hq, _, hfr⟩ := (Acc_memccpyLoop (R := fun _ => True) cfg (asInt c) dest dmax dmax dest src n hle
    (Acc_handleError cfg dest dmax _ hW ⟨Nat.le_refl _, by omega⟩) (fun _ _ => trivial) (fun _ _ => trivial) hW).sound st
    (fun a _ => hall a) (fun a ha => let ⟨i, hi, e⟩ := ha.idx; e ▸ ⟨(hw i hi).1, (hw i hi).2.1⟩)
  exact ⟨r, st', by rw [memccpy_s_eq_loop cfg dest dmax src c n hd hs hpos hle hmax ha1 ha2 hno]; exact he, hq, hfr⟩

end SafeC
