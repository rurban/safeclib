import SafeC.Lemmas
import SafeC.Models.Mem
/-!
# The set primitives (`mem_prim_set`, `mem_prim_set16`, `mem_prim_set32`)

The property statements are in `SafeC/Props/C18.lean`.

`Filled st st' d n v`: `st'` is `st` with the `n` cells starting at `d` holding `v`; every other cell,
the mapping, the permissions, the event list and the list of stray accesses are those of `st`.
All statements are for arbitrary `n`, start address (hence every alignment), value and prior memory.
The phases of the C code are separate lemmas: alignment prologue, the block loops (one induction,
`fillBlocks_ok`), the remaining qwords (`setWords_ok`: the `case 15 … case 1` chain), the byte tail.  Each is an EQUATION
`exec phase st = .ok (r, st.fill …)`, so that consecutive phases join by `St.fill_fill`; `Filled.iff_fill` turns the result
into the `Filled` the property statements speak of.
-/
namespace SafeC
open Gen Mem

theorem U32_eq : U32 = 4294967296 := rfl
theorem U64_eq : U64 = 18446744073709551616 := rfl
theorem RSIZE_MAX_MEM_lt_U32 : RSIZE_MAX_MEM < U32 := by decide

structure Filled (st st' : St) (d n v : Nat) : Prop where
  same : SameMeta st' st
  data : ∀ a, st'.data a = if d ≤ a ∧ a < d + n then v else st.data a

/-! Both `Filled` and `Moved` (SafeC/Proofs/MemMove.lean) describe the new memory as `if a in range then new value
else old value`.  Two such steps whose ranges make up one range compose, in either order; the arithmetic of adjacent
ranges is `range_split`. -/

theorem range_split (d n m a : Nat) :
    (d ≤ a ∧ a < d + (n + m)) ↔ (d ≤ a ∧ a < d + n) ∨ (d + n ≤ a ∧ a < d + n + m) := by omega

theorem data_two {f f1 f2 g g1 g2 : Nat → Nat} {P Q R : Nat → Prop}
    [DecidablePred P] [DecidablePred Q] [DecidablePred R]
    (h1 : ∀ a, f1 a = if P a then g1 a else f a) (h2 : ∀ a, f2 a = if Q a then g2 a else f1 a)
    (hR : ∀ a, R a ↔ P a ∨ Q a) (hg1 : ∀ a, P a → g1 a = g a) (hg2 : ∀ a, Q a → g2 a = g a) (a : Nat) :
    f2 a = if R a then g a else f a := by
  rw [h2 a, h1 a]
  by_cases hq : Q a
  · rw [if_pos hq, if_pos ((hR a).2 (Or.inr hq)), hg2 a hq]
  · rw [if_neg hq]
    by_cases hp : P a
    · rw [if_pos hp, if_pos ((hR a).2 (Or.inl hp)), hg1 a hp]
    · rw [if_neg hp, if_neg (fun h => ((hR a).1 h).elim hp hq)]

theorem Filled.nil (st : St) (d v : Nat) : Filled st st d 0 v :=
  ⟨SameMeta.refl _, fun a => by rw [if_neg]; omega⟩

theorem Filled.append {st s1 s2 : St} {d n m v : Nat}
    (h1 : Filled st s1 d n v) (h2 : Filled s1 s2 (d+n) m v) : Filled st s2 d (n+m) v :=
  ⟨h2.same.trans h1.same,
   data_two (g := fun _ => v) h1.data h2.data (range_split d n m) (fun _ _ => rfl) (fun _ _ => rfl)⟩

theorem Filled.upd (st : St) (d v : Nat) : Filled st (st.upd d v) d 1 v :=
  ⟨SameMeta.upd _ _ _, fun a => by
    by_cases h : a = d
    · subst h; rw [St.upd_data_same, if_pos (by omega)]
    · rw [St.upd_data_ne _ _ _ _ h, if_neg (by omega)]⟩

theorem Filled.cast {st st' : St} {d n m v : Nat} (h : Filled st st' d n v) (e : n = m) :
    Filled st st' d m v := e ▸ h

theorem Filled.inside {st st' : St} {d n v : Nat} (h : Filled st st' d n v) (i : Nat) (hi : i < n) :
    st'.data (d + i) = v := by
  rw [h.data, if_pos (by omega)]

theorem Filled.outside {st st' : St} {d n v : Nat} (h : Filled st st' d n v) (a : Nat)
    (ha : ¬ (d ≤ a ∧ a < d + n)) : st'.data a = st.data a := by
  rw [h.data, if_neg ha]

theorem RW.take {st : St} {d n m : Nat} (h : RW st d (n + m)) : RW st d n :=
  fun i hi => h i (Nat.lt_add_right m hi)

theorem RW.drop {st : St} {d n m : Nat} (h : RW st d (n + m)) : RW st (d + n) m :=
  fun i hi => Nat.add_assoc d n i ▸ h (n + i) (Nat.add_lt_add_left hi n)

theorem Filled.iff_fill {st st' : St} {d n v : Nat} : Filled st st' d n v ↔ st' = st.fill d n v := by
  constructor
  · rintro ⟨hm, hd⟩
    cases st; cases st'
    obtain ⟨h1, h2, h3, h4, h5⟩ := hm
    simp only [St.fill, St.mk.injEq] at *
    exact ⟨funext hd, h1, h2, h3, h4, h5⟩
  · rintro rfl
    exact ⟨.fill .., fun _ => rfl⟩

theorem RW.fill {st : St} {x k : Nat} (h : RW st x k) (d n v : Nat) : RW (st.fill d n v) x k :=
  RW.of_sameMeta (.fill ..) h

theorem spread_one (v : Nat) : spread 1 v = v := by simp [spread]

theorem storeByte_one (v a rem : Nat) : storeByte 1 v a rem = store a v := by
  simp [storeByte]

theorem setPrologue_ok (v count dp : Nat) (st : St) (hw : RW st dp count) :
    ∃ k c', exec (setPrologue 1 v count dp) st = .ok ((c', dp + k), st.fill dp k v) ∧ c' + k = count ∧
      (c' = 0 ∨ (dp + k) % 8 = 0) := by
  induction count generalizing dp st with
  | zero => exact ⟨0, 0, by rw [St.fill_zero]; rfl, rfl, Or.inl rfl⟩
  | succ n ih =>
    unfold setPrologue
    by_cases h8 : dp % 8 = 0
    · rw [if_pos h8]
      exact ⟨0, n+1, by rw [St.fill_zero]; rfl, rfl, Or.inr h8⟩
    · rw [if_neg h8]
      obtain ⟨hm, hwr, _⟩ := hw.head
      obtain ⟨k, c', he, hc, hal⟩ := ih (dp+1) (st.upd dp v) (RW.of_sameMeta (SameMeta.upd _ _ _) hw.tail)
      rw [Nat.add_assoc, Nat.add_comm 1 k] at he hal
      rw [St.upd_fill] at he
      refine ⟨k + 1, c', ?_, by omega, hal⟩
      rw [storeByte_one, exec_bind, exec_store_ok _ _ _ hm hwr]
      exact he

/-- a loop whose pass fills one block of `b` cells and advances the pointer: `setElems` (`b = 1`), `setWords`
(`b = 8`), `setBlocks` (`b = 128`), `setElemBlocks` (`b = 16`).  `hstep` says that of one pass. -/
theorem fillBlocks_ok {loop : Nat → Nat → Prog Nat} {b v : Nat}
    (h0 : ∀ p, loop 0 p = pure p)
    (hstep : ∀ k p st, RW st p b → exec (loop (k+1) p) st = exec (loop k (p+b)) (st.fill p b v))
    (k p : Nat) (st : St) (hw : RW st p (b*k)) :
    exec (loop k p) st = .ok (p + b*k, st.fill p (b*k) v) := by
  induction k generalizing p st with
  | zero => rw [h0, Nat.mul_zero, St.fill_zero]; rfl
  | succ k ih =>
    have e : b * (k+1) = b + b * k := by rw [Nat.mul_succ, Nat.add_comm]
    rw [e] at hw ⊢
    rw [hstep k p st hw.take, ih (p+b) _ (hw.drop.fill _ _ _), St.fill_fill, Nat.add_assoc]

theorem setWords_ok (v k lp : Nat) (st : St) (hw : RW st lp (8*k)) :
    exec (setWords 1 v k lp) st = .ok (lp + 8*k, st.fill lp (8*k) v) :=
  fillBlocks_ok (fun _ => rfl) (fun k p st hw => by
    simp only [setWords, spread_one, Nat.div_one, exec_bind, exec_memsetP v 8 p st hw]) k lp st hw

/-- `q` passes through the `default:` arm of the unrolled switch: 16 qwords = 128 bytes each -/
theorem setBlocks_ok (v q lp : Nat) (st : St) (hw : RW st lp (128*q)) :
    exec (setBlocks 1 v q lp) st = .ok (lp + 128*q, st.fill lp (128*q) v) :=
  fillBlocks_ok (fun _ => rfl) (fun q p st hw => by
    simp only [setBlocks, exec_bind, setWords_ok v 16 p st hw]) q lp st hw

theorem setTail_ok (v count dp : Nat) (st : St) (hw : RW st dp count) :
    exec (setTail 1 v count dp) st = .ok ((), st.fill dp count v) := by
  induction count generalizing dp st with
  | zero => rw [St.fill_zero]; rfl
  | succ n ih =>
    obtain ⟨hm, hwr, _⟩ := hw.head
    simp only [setTail, storeByte_one, exec_bind, exec_store_ok _ _ _ hm hwr]
    rw [ih (dp+1) _ (RW.of_sameMeta (SameMeta.upd _ _ _) hw.tail), St.upd_fill]

theorem setBody_ok (v c p : Nat) (st : St) (hw : RW st p c) :
    exec (do
        let lp ← setBlocks 1 v (c / 8 / 16) p
        let lp ← setWords 1 v (c / 8 % 16) lp
        setTail 1 v (c % 8) lp) st = .ok ((), st.fill p c v) := by
  have e : 128 * (c / 8 / 16) + 8 * (c / 8 % 16) + c % 8 = c := by
    rw [show 128 * (c / 8 / 16) = 8 * (16 * (c / 8 / 16)) from Nat.mul_assoc 8 16 _, ← Nat.mul_add,
      Nat.div_add_mod, Nat.div_add_mod]
  generalize c / 8 / 16 = Q, c / 8 % 16 = R, c % 8 = r at e ⊢
  subst e
  have hw3 : RW st (p + 128 * Q + 8 * R) r := by rw [Nat.add_assoc]; exact hw.drop
  rw [exec_bind, setBlocks_ok v Q p st hw.take.take]
  show exec (setWords 1 v R _ >>= _) _ = _
  rw [exec_bind, setWords_ok v R _ _ (hw.take.drop.fill _ _ _), St.fill_fill]
  show exec (setTail 1 v r _) _ = _
  rw [setTail_ok v r _ _ (hw3.fill _ _ _), Nat.add_assoc p, St.fill_fill]

/-- **`mem_prim_set(dest, len, value)` on bytes, all lengths, addresses and values:** if the
`len mod 2^32` addressed cells are writable the call returns, and exactly those cells hold
`(uint8_t)value` afterwards. -/
theorem exec_mem_prim_set (dest len value : Nat) (st : St) (hw : RW st dest (len % U32)) :
    exec (mem_prim_set 1 dest len value) st = .ok ((), st.fill dest (len % U32) (value % 256)) := by
  obtain ⟨k, c', he1, hc, _⟩ := setPrologue_ok (value % 256) (len % U32) dest st hw
  have hkc : k + c' = len % U32 := (Nat.add_comm k c').trans hc
  have hw' : RW st dest (k + c') := hkc ▸ hw
  unfold mem_prim_set
  rw [exec_bind, he1]
  show exec (_ >>= _) _ = _
  rw [setBody_ok (value % 256) c' (dest + k) _ (hw'.drop.fill _ _ _), St.fill_fill, hkc]

theorem mem_prim_set_ok (dest len value : Nat) (st : St) (hw : RW st dest (len % U32)) :
    ∃ st', exec (mem_prim_set 1 dest len value) st = .ok ((), st') ∧
      Filled st st' dest (len % U32) (value % 256) :=
  ⟨_, exec_mem_prim_set dest len value st hw, Filled.iff_fill.2 rfl⟩

theorem setElems_ok (v k dp : Nat) (st : St) (hw : RW st dp k) :
    exec (setElems v k dp) st = .ok (dp + k, st.fill dp k v) := by
  have h := fillBlocks_ok (loop := setElems v) (b := 1) (v := v) (fun _ => rfl) (fun k p st hw => by
    have hd := hw 0 Nat.one_pos
    simp only [setElems, exec_bind, exec_store_ok p v st hd.1 hd.2.1]
    rw [← St.upd_fill, St.fill_zero]) k dp st
  rw [Nat.one_mul] at h
  exact h hw

theorem setElemBlocks_ok (v q dp : Nat) (st : St) (hw : RW st dp (16*q)) :
    exec (setElemBlocks v q dp) st = .ok (dp + 16*q, st.fill dp (16*q) v) :=
  fillBlocks_ok (fun _ => rfl) (fun q p st hw => by
    simp only [setElemBlocks, exec_bind, setElems_ok v 16 p st hw]) q dp st hw

theorem primSetElems_ok (dest len value : Nat) (st : St) (hw : RW st dest (len % U32)) :
    exec (primSetElems dest len value) st = .ok ((), st.fill dest (len % U32) value) := by
  simp only [primSetElems]
  have e : 16 * (len % U32 / 16) + len % U32 % 16 = len % U32 := Nat.div_add_mod _ 16
  generalize len % U32 / 16 = q, len % U32 % 16 = r at e ⊢
  rw [← e] at hw ⊢
  simp only [exec_bind, setElemBlocks_ok value q dest st hw.take, setElems_ok value r _ _ (hw.drop.fill _ _ _), St.fill_fill,
    exec_pure]

theorem mem_prim_set16_ok (dest len value : Nat) (st : St) (hw : RW st dest (len % U32)) :
    ∃ st', exec (mem_prim_set16 dest len value) st = .ok ((), st') ∧
      Filled st st' dest (len % U32) (value % 2^16) :=
  ⟨_, primSetElems_ok dest len (value % 2^16) st hw, Filled.iff_fill.2 rfl⟩

theorem mem_prim_set32_ok (dest len value : Nat) (st : St) (hw : RW st dest (len % U32)) :
    ∃ st', exec (mem_prim_set32 dest len value) st = .ok ((), st') ∧
      Filled st st' dest (len % U32) (value % 2^32) :=
  ⟨_, primSetElems_ok dest len (value % 2^32) st hw, Filled.iff_fill.2 rfl⟩

/-- `memsetBytes` on byte cells (what `explicit_bzero(dest, len)` runs) -/
theorem memsetBytes_one_ok (v dest n : Nat) (st : St) (hw : RW st dest n) :
    ∃ st', exec (memsetBytes 1 v dest n) st = .ok ((), st') ∧ Filled st st' dest n v := by
  refine ⟨_, ?_, Filled.iff_fill.2 rfl⟩
  simp only [memsetBytes, spread_one, Nat.div_one, Nat.mod_one, exec_bind, exec_memsetP v n dest st hw, if_true]
  rfl

end SafeC
