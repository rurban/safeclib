import SafeC.Models.PrintfSpec
/-!
# C11: the sinks and the `idx` / `maxlen` discipline

`emitAll` (a loop of `out(c, buffer, idx++, maxlen)` calls that returns at the first failure) characterised completely for
the three sinks, and `safec_out_rev` reduced to one `emitAll` of its text.
-/
namespace SafeC.Printf

theorem emitRep_eq (sk : Sink) (m : Nat) (c : Char) : ∀ (n : Nat) (s : St), emitRep sk m c n s = emitAll sk m (List.replicate n c) s := by
  intro n
  induction n with
  | zero => intro s; rfl
  | succ n ih =>
    intro s
    simp only [emitRep, List.replicate_succ, emitAll]
    cases out sk m c s with
    | error e => rfl
    | ok s' => exact ih s'

theorem emitAll_append (sk : Sink) (m : Nat) : ∀ (a b : List Char) (s : St),
    emitAll sk m (a ++ b) s = (emitAll sk m a s >>= emitAll sk m b) := by
  intro a
  induction a with
  | nil => intro b s; rfl
  | cons c a ih =>
    intro b s
    simp only [List.cons_append, emitAll]
    cases out sk m c s with
    | error e => rfl
    | ok s' => exact ih b s'

theorem emitAll_buffer_fits (m : Nat) : ∀ (cs : List Char) (s : St), s.idx + cs.length ≤ m → s.cells.length = m →
    ∃ s', emitAll .buffer m cs s = .ok s' ∧ s'.idx = s.idx + cs.length ∧ s'.stream = s.stream ∧ s'.cells.length = m ∧
      s'.cells.take s'.idx = s.cells.take s.idx ++ cs ∧ s'.cells.drop s'.idx = s.cells.drop (s.idx + cs.length) := by
  intro cs
  induction cs with
  | nil => intro s _ hl; exact ⟨s, rfl, by simp, rfl, hl, by simp, by simp⟩
  | cons c cs ih =>
    intro s hfit hl
    simp only [List.length_cons] at hfit
    have hlt : s.idx < m := by omega
    simp only [emitAll, out, hlt, if_true, bind, Except.bind]
    obtain ⟨s', h1, h2, h3, h4, h5, h6⟩ := ih { s with cells := s.cells.set s.idx c, idx := s.idx + 1 } (by simp; omega) (by simp [hl])
    refine ⟨s', h1, by simp only [List.length_cons] at h2 ⊢; omega, by simpa using h3, h4, ?_, ?_⟩
    · rw [h5]
      rw [List.take_add_one]
      have hi : s.idx < s.cells.length := by omega
      simp [List.take_set_of_le, hi]
    · rw [h6]
      simp only [List.length_cons]
      rw [List.drop_set_of_lt (by omega)]
      congr 1; omega

theorem emitAll_buffer_overflow (m : Nat) : ∀ (cs : List Char) (s : St), s.idx ≤ m → m < s.idx + cs.length →
    emitAll .buffer m cs s = .error (.ret ESNOSPCi) := by
  intro cs
  induction cs with
  | nil => intro s h1 h2; simp at h2; omega
  | cons c cs ih =>
    intro s h1 h2
    simp only [List.length_cons] at h2
    by_cases hlt : s.idx < m
    · simp only [emitAll, out, hlt, if_true, bind, Except.bind]
      exact ih _ (by simp; omega) (by simp; omega)
    · simp [emitAll, out, hlt, bind, Except.bind]

theorem emitAll_idx (sk : Sink) (m : Nat) : ∀ (cs : List Char) (s s' : St), emitAll sk m cs s = .ok s' → s'.idx = s.idx + cs.length := by
  intro cs
  induction cs with
  | nil => intro s s' h; simp [emitAll] at h; subst h; simp
  | cons c cs ih =>
    intro s s' h
    simp only [emitAll, bind, Except.bind] at h
    cases ho : out sk m c s with
    | error e => rw [ho] at h; simp at h
    | ok s1 =>
      rw [ho] at h
      have := ih s1 s' h
      have h1 : s1.idx = s.idx + 1 := by
        cases sk <;> simp only [out] at ho
        · split at ho
          · cases ho; rfl
          · cases ho
        · cases ho; rfl
        · cases ho; rfl
      simp only [List.length_cons]; omega

/-- the characters `safec_out_rev` writes: left padding, the buffer reversed, right padding -/
def outRevText (buf : Str) (width : Nat) (fl : Flags) : Str :=
  (if !fl.left && !fl.zeropad then List.replicate (width - buf.length) ' ' else []) ++ buf.reverse ++
  (if fl.left then List.replicate (width - buf.length) ' ' else [])

theorem outRev_eq (sk : Sink) (m : Nat) (buf : Str) (width : Nat) (fl : Flags) (s : St) :
    outRev sk m buf width fl s = emitAll sk m (outRevText buf width fl) s := by
  unfold outRev outRevText
  have hL : ∀ (t : St), emitAll sk m buf.reverse s = .ok t → t.idx - s.idx = buf.length := by
    intro t ht; have := emitAll_idx sk m _ _ _ ht; simp at this; omega
  by_cases h1 : fl.left <;> by_cases h2 : fl.zeropad <;>
    simp only [h1, h2, Bool.not_true, Bool.not_false, Bool.and_true, Bool.and_false, if_true, if_false,
      Bool.false_eq_true, List.nil_append, List.append_nil, emitAll_append, emitRep_eq, pure, Except.pure, bind, Except.bind]
  · cases h : emitAll sk m buf.reverse s with
    | error e => rfl
    | ok t => simp only; rw [hL t h]
  · cases h : emitAll sk m buf.reverse s with
    | error e => rfl
    | ok t => simp only; rw [hL t h]
  · cases emitAll sk m buf.reverse s <;> rfl
  · cases h0 : emitAll sk m (List.replicate (width - buf.length) ' ') s with
    | error e => rfl
    | ok t0 => simp only; cases emitAll sk m buf.reverse t0 <;> rfl

end SafeC.Printf
