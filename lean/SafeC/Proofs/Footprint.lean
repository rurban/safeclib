import SafeC.Proofs.Interleave
import SafeC.Proofs.AccS
/-!
# Footprints: from the access judgements to `Within2` and to guarded runs (the `.sound` theorems C01 and C02 are read from), and locality of `exec` (C12)

A program with an access-footprint proof (`Acc`, `AccD`, `AccS`) has that footprint as a `Within2` footprint of its total run,
and a total run whose footprint is mapped, readable resp. writable is a guarded run without fault or stray access
(`within2_sound`), so such a program runs where only the footprint is mapped (`*.sound`).  Conversely a guarded run that
neither faults nor strays has the declared permissions as footprint (`within2_of_clean`), also when only the operands of the
call are mapped (`privRW`, `within2_of_guarded`).

`exec_local`: **`exec p st` depends only on `st` restricted to the footprint**: two
states that agree — contents, mapping, permissions — on the cells of `F ⊇ footprint` and carry the same
logs give the same outcome (same fault, or same result, same logs, contents agreeing on `F`).  Together
with `runT_frame` (nothing outside the footprint changes) this is the checkable form of "a model keeps no
state of its own": a `Prog` is a value; everything a run can observe or change is a cell of the memory
it is given, and only the cells of its footprint.
-/
namespace SafeC

/-- the one induction behind all three judgements: footprint, result and final contents of the total run -/
theorem AccS.run {R W : Nat → Prop} {α} {p : Prog α} {Q : α → (Nat → Nat) → Prop} {d : Nat → Nat}
    (h : AccS R W d p Q) (s : St) (hd : s.data = d) :
    Within2 R W p s ∧ Q (runT p s).1 (runT p s).2.data := by
  induction h generalizing s with
  | ret x hx => exact ⟨trivial, hd ▸ hx⟩
  | load a k ha _ ih =>
    have := ih s hd
    rw [← hd] at this
    exact ⟨⟨ha, this.1⟩, this.2⟩
  | store a v k ha _ ih =>
    have := ih (s.upd a v) (by rw [← hd]; rfl)
    exact ⟨⟨ha, this.1⟩, this.2⟩
  | emit e k _ ih => exact ih _ hd

theorem AccS.within2 {R W : Nat → Prop} {α} {p : Prog α} {Q : α → (Nat → Nat) → Prop} {d : Nat → Nat}
    (h : AccS R W d p Q) (s : St) (hd : s.data = d) : Within2 R W p s := (h.run s hd).1

theorem AccS.runT_post {R W : Nat → Prop} {α} {p : Prog α} {Q : α → (Nat → Nat) → Prop} {d : Nat → Nat}
    (h : AccS R W d p Q) (s : St) (hd : s.data = d) : Q (runT p s).1 (runT p s).2.data := (h.run s hd).2

theorem Acc.within2 {R W : Nat → Prop} {α} {p : Prog α} {Q : α → Prop} (h : Acc R W p Q) (s : St) :
    Within2 R W p s := ((AccS.of_Acc h s.data).run s rfl).1

theorem Acc.runT_post {R W : Nat → Prop} {α} {p : Prog α} {Q : α → Prop} (h : Acc R W p Q) (s : St) :
    Q (runT p s).1 := ((AccS.of_Acc h s.data).run s rfl).2

theorem AccD.within2 {d : Nat → Nat} {R : Nat → Prop} {α} {p : Prog α} {Q : α → Prop} (h : AccD d R p Q)
    (s : St) (hd : s.data = d) : Within2 R (fun _ => False) p s := ((AccS.of_AccD h).run s hd).1

theorem AccD.runT_post {d : Nat → Nat} {R : Nat → Prop} {α} {p : Prog α} {Q : α → Prop} (h : AccD d R p Q)
    (s : St) (hd : s.data = d) : Q (runT p s).1 ∧ (runT p s).2.data = s.data :=
  have := ((AccS.of_AccD (W := fun _ => False) h).run s hd).2
  ⟨this.2, this.1.trans hd.symm⟩

theorem within2_sound {α} {R W : Nat → Prop} (p : Prog α) (st : St) (h : Within2 R W p st)
    (hr : ∀ a, R a → st.mapped a = true ∧ st.rd a = true) (hw : ∀ a, W a → st.mapped a = true ∧ st.wr a = true) :
    ∃ r st', exec p st = .ok (r, st') ∧ st'.strays = st.strays := by
  induction p generalizing st with
  | ret x => exact ⟨x, st, rfl, rfl⟩
  | load a k ih =>
    obtain ⟨ha, hk⟩ := h
    obtain ⟨hm, hrd⟩ := hr a ha
    have e : st.noteRd a = st := St.noteRd_of_rd hrd
    obtain ⟨r, st', he, hs⟩ := ih (st.data a) st hk hr hw
    exact ⟨r, st', by simp only [exec, hm, if_true, e]; exact he, hs⟩
  | store a v k ih =>
    obtain ⟨ha, hk⟩ := h
    obtain ⟨hm, hwr⟩ := hw a ha
    have e : st.noteWr a = st := St.noteWr_of_wr hwr
    obtain ⟨r, st', he, hs⟩ := ih (st.upd a v) hk (by simpa using hr) (by simpa using hw)
    exact ⟨r, st', by simp only [exec, hm, if_true, e]; exact he, by simpa using hs⟩
  | emit e k ih =>
    obtain ⟨r, st', he, hs⟩ := ih { st with events := st.events ++ [e] } h hr hw
    exact ⟨r, st', by simp only [exec]; exact he, hs⟩

theorem AccS.sound {R W : Nat → Prop} {α} {p : Prog α} {Q : α → (Nat → Nat) → Prop} {d : Nat → Nat}
    (h : AccS R W d p Q) (st : St) (hd : st.data = d)
    (hr : ∀ a, R a → st.mapped a = true ∧ st.rd a = true)
    (hw : ∀ a, W a → st.mapped a = true ∧ st.wr a = true) :
    ∃ r st', exec p st = .ok (r, st') ∧ Q r st'.data ∧ st'.strays = st.strays := by
  obtain ⟨r, st', he, hs⟩ := within2_sound p st (h.within2 st hd) hr hw
  obtain ⟨e1, e2⟩ := exec_eq_runT p st he
  exact ⟨r, st', he, e1 ▸ e2 ▸ h.runT_post st hd, hs⟩

theorem Acc.sound {R W : Nat → Prop} {α} {p : Prog α} {Q : α → Prop} (h : Acc R W p Q) (st : St)
    (hr : ∀ a, R a → st.mapped a = true ∧ st.rd a = true)
    (hw : ∀ a, W a → st.mapped a = true ∧ st.wr a = true) :
    ∃ r st', exec p st = .ok (r, st') ∧ Q r ∧ st'.strays = st.strays ∧
      (∀ a, ¬ W a → st'.data a = st.data a) := by
  obtain ⟨r, st', he, ⟨hq, hf⟩, hs⟩ := (AccS.of_Acc h st.data).frame.sound st rfl hr hw
  exact ⟨r, st', he, hq, hs, hf⟩

theorem AccD.sound {d : Nat → Nat} {R : Nat → Prop} {α} {p : Prog α} {Q : α → Prop} (h : AccD d R p Q) (st : St)
    (hd : st.data = d) (hr : ∀ a, R a → st.mapped a = true ∧ st.rd a = true) :
    ∃ r st', exec p st = .ok (r, st') ∧ Q r ∧ st'.strays = st.strays ∧ st'.data = st.data := by
  obtain ⟨r, st', he, ⟨h1, hq⟩, hs⟩ := (AccS.of_AccD (W := fun _ => False) h).sound st hd hr (fun _ hf => hf.elim)
  exact ⟨r, st', he, hq, hs, h1.trans hd.symm⟩

/-- `within2_of_clean` in the form the induction needs: the permission fields do not change along a run, so they are named
once (`rd`, `wr`) instead of being read off the moving state -/
theorem within2_of_clean_aux (rd wr : Nat → Bool) (p : Prog α) (s : St) {r : α} {s' : St}
    (hrd : s.rd = rd) (hwr : s.wr = wr)
    (h : exec p s = .ok (r, s')) (hs : s'.strays = s.strays) :
    Within2 (fun a => rd a = true) (fun a => wr a = true) p s := by
  induction p generalizing s with
  | ret x => trivial
  | load a k ih =>
    simp only [exec] at h
    split at h
    · by_cases hr : s.rd a = true
      · have e := St.noteRd_of_rd hr
        rw [e] at h
        exact ⟨by rw [← hrd]; exact hr, ih _ s hrd hwr h hs⟩
      · exfalso
        have e : s.noteRd a = s.stray (.rd a) := by simp [St.noteRd, hr]
        rw [e] at h
        obtain ⟨ex, hex⟩ := exec_strays_mono _ _ h
        rw [hs] at hex
        exact strays_grow_absurd hex.symm
    · cases h
  | store a v k ih =>
    simp only [exec] at h
    split at h
    · by_cases hw : s.wr a = true
      · have e := St.noteWr_of_wr hw
        rw [e] at h
        exact ⟨by rw [← hwr]; exact hw, ih (s.upd a v) hrd hwr h hs⟩
      · exfalso
        have e : s.noteWr a = s.stray (.wr a) := by simp [St.noteWr, hw]
        rw [e] at h
        obtain ⟨ex, hex⟩ := exec_strays_mono _ _ h
        rw [hs] at hex
        exact strays_grow_absurd hex.symm
    · cases h
  | emit e k ih =>
    exact ih _ hrd hwr h hs

theorem within2_of_clean (p : Prog α) (s : St) {r : α} {s' : St}
    (h : exec p s = .ok (r, s')) (hs : s'.strays = s.strays) :
    Within2 (fun a => s.rd a = true) (fun a => s.wr a = true) p s :=
  within2_of_clean_aux s.rd s.wr p s rfl rfl h hs

structure Sim (F : Nat → Prop) (s s' : St) : Prop where
  data : ∀ a, F a → s.data a = s'.data a
  mapped : ∀ a, F a → s.mapped a = s'.mapped a
  rd : ∀ a, F a → s.rd a = s'.rd a
  wr : ∀ a, F a → s.wr a = s'.wr a
  events : s.events = s'.events
  strays : s.strays = s'.strays

theorem Sim.symm {F : Nat → Prop} {s s' : St} (h : Sim F s s') : Sim F s' s :=
  ⟨fun a ha => (h.data a ha).symm, fun a ha => (h.mapped a ha).symm, fun a ha => (h.rd a ha).symm,
   fun a ha => (h.wr a ha).symm, h.events.symm, h.strays.symm⟩

theorem Sim.noteRd {F : Nat → Prop} {s s' : St} (h : Sim F s s') (a : Nat) (ha : F a) :
    Sim F (s.noteRd a) (s'.noteRd a) := by
  have e := h.rd a ha
  simp only [St.noteRd]
  rw [← e]
  split
  · exact h
  · exact ⟨h.data, h.mapped, h.rd, h.wr, h.events, by simp only [St.stray]; rw [h.strays]⟩

theorem Sim.noteWr {F : Nat → Prop} {s s' : St} (h : Sim F s s') (a : Nat) (ha : F a) :
    Sim F (s.noteWr a) (s'.noteWr a) := by
  have e := h.wr a ha
  simp only [St.noteWr]
  rw [← e]
  split
  · exact h
  · exact ⟨h.data, h.mapped, h.rd, h.wr, h.events, by simp only [St.stray]; rw [h.strays]⟩

theorem Sim.upd {F : Nat → Prop} {s s' : St} (h : Sim F s s') (a v : Nat) : Sim F (s.upd a v) (s'.upd a v) :=
  ⟨fun x hx => by simp only [St.upd_data]; split; rfl; exact h.data x hx,
   h.mapped, h.rd, h.wr, h.events, h.strays⟩

theorem Sim.emit {F : Nat → Prop} {s s' : St} (h : Sim F s s') (e : Event) :
    Sim F { s with events := s.events ++ [e] } { s' with events := s'.events ++ [e] } :=
  ⟨h.data, h.mapped, h.rd, h.wr, by simp only []; rw [h.events], h.strays⟩

theorem exec_local {F : Nat → Prop} (p : Prog α) (s s' : St) (hsim : Sim F s s') (hw : Within F p s) :
    match exec p s with
    | .ok (r, t) => ∃ t', exec p s' = .ok (r, t') ∧ Sim F t t'
    | .error e => exec p s' = .error e := by
  induction p generalizing s s' with
  | ret x => exact ⟨s', rfl, hsim⟩
  | load a k ih =>
    simp only [exec]
    rw [← hsim.mapped a hw.1, ← hsim.data a hw.1]
    by_cases hm : s.mapped a = true
    · simp only [hm, if_true]
      exact ih _ (s.noteRd a) (s'.noteRd a) (hsim.noteRd a hw.1)
        (within_data_congr _ s _ (St.noteRd_data s a).symm hw.2)
    · simp only [hm]; rfl
  | store a v k ih =>
    simp only [exec]
    rw [← hsim.mapped a hw.1]
    by_cases hm : s.mapped a = true
    · simp only [hm, if_true]
      refine ih ((s.noteWr a).upd a v) ((s'.noteWr a).upd a v) ((hsim.noteWr a hw.1).upd a v)
        (within_data_congr _ (s.upd a v) _ ?_ hw.2)
      · funext x; simp only [St.upd_data, St.noteWr_data]
    · simp only [hm]; rfl
  | emit e k ih => exact ih _ _ (hsim.emit e) hw

/-- `st` as ONE call is entitled to see it: readable = `R`, writable = `W`, mapped = `R ∪ W`; the
contents are those of `st` -/
def privRW (st : St) (R W : Nat → Bool) : St :=
  { st with mapped := fun a => R a || W a, rd := R, wr := W }

@[simp] theorem privRW_data (st : St) (R W : Nat → Bool) : (privRW st R W).data = st.data := rfl
@[simp] theorem privRW_strays (st : St) (R W : Nat → Bool) : (privRW st R W).strays = st.strays := rfl

theorem within2_of_guarded (p : Prog α) (st : St) (R W : Nat → Bool) {r : α} {st' : St}
    (h : exec p (privRW st R W) = .ok (r, st')) (hs : st'.strays = st.strays) :
    Within2 (fun a => R a = true) (fun a => W a = true) p st ∧
    (runT p st).1 = r ∧ (runT p st).2.data = st'.data := by
  have hw := within2_of_clean p (privRW st R W) h hs
  exact ⟨within2_congr p (privRW st R W) st (fun _ _ => rfl) hw, exec_eq_runT_aux p (privRW st R W) st rfl h⟩

end SafeC
