import SafeC.Models.Fold
import SafeC.Proofs.TableSweep
/-!
# C17 — `towfc_s` writes as many cells as `iswfc` announces (`fold_cells`), and where `iswfc = 0` means "unchanged"

Both are facts about generated tables (tbl2/tbl3, casemaps, pairs, glibc's `iswupper`).  Outside `hotT` — `hot` less two stretches
in which only `iswupper` is set —, where all table entries and hard-coded code points lie, nothing is moved (`cold`: checks over the
table ENTRIES) and whatever is upper case is listed as announced-but-unchanged (`upper_pages`: the bitmap against the range lists,
page by page as whole numbers); inside `hotT` every code point is evaluated (`hotT_ok`), through copies of the scans (`…F`) that use `Nat.ble` / `Nat.beq` and the lists' recursor — forms the kernel
reduces quickly — behind cursors that have passed the entries below the code point (`sweepUp`).
-/
namespace SafeC.Fold
open SafeC.Gen SafeC.Norm

theorem scanTbl_none (src : Nat) (l : List (Nat × List Nat)) (h : ∀ e ∈ l, e.1 ≠ src) : scanTbl src l = none := by
  induction l with
  | nil => rfl
  | cons e rest ih =>
    obtain ⟨up, x⟩ := e
    have h0 : up ≠ src := h (up, x) (by simp)
    simp only [scanTbl, h0, if_false]
    split
    · rfl
    · exact ih fun e he => h e (by simp [he])

theorem scanTbl_mem (src : Nat) (l : List (Nat × List Nat)) (x : List Nat) (h : scanTbl src l = some x) : (src, x) ∈ l := by
  induction l with
  | nil => simp [scanTbl] at h
  | cons e rest ih =>
    obtain ⟨up, y⟩ := e
    simp only [scanTbl] at h
    split at h
    · next hu => simp_all
    · split at h
      · simp at h
      · simp [ih h]

def inWin (c : Nat) : Bool := (0xdf ≤ c && c ≤ 0x587) || (0x1e96 ≤ c && c ≤ 0x1ffc) || (0xfb00 ≤ c && c ≤ 0xfb17)

theorem inWin_false_iff (c : Nat) :
    inWin c = false ↔ (c < 0xdf ∨ (c > 0x0587 ∧ c < 0x1e96) ∨ (c > 0x1FFC ∧ c < 0xFB00) ∨ c > 0xFB17) := by
  simp only [inWin, Bool.or_eq_false_iff, Bool.and_eq_false_iff, decide_eq_false_iff_not]
  omega

theorem iswfc_outside (c : Nat) (h : inWin c = false) :
    iswfc c = if c = 0x1cbb ∨ c = 0x1cbc then 0 else if iswupper c then 1 else 0 := by
  rw [inWin_false_iff] at h
  unfold iswfc
  simp only [if_pos h]

theorem tbl_facts :
    (tbl2L.all fun e => e.2.length == 2 && inWin e.1) = true ∧ (tbl3L.all fun e => e.2.length == 3 && inWin e.1) = true := by
  decide +kernel

theorem scanTbl_outside {l : List (Nat × List Nat)} {n : Nat} (hl : (l.all fun e => e.2.length == n && inWin e.1) = true)
    (c : Nat) (h : inWin c = false) : scanTbl c l = none := by
  apply scanTbl_none
  intro e he heq
  have := List.all_eq_true.mp hl e he
  rw [heq, h] at this
  simp at this

theorem towfcCore_outside (c : Nat) (h128 : 128 ≤ c) (h : inWin c = false) :
    towfcCore c = ((towfcSingle c).1, [(towfcSingle c).2]) := by
  unfold towfcCore
  rw [if_neg (by omega), scanTbl_outside tbl_facts.1 c h, scanTbl_outside tbl_facts.2 c h]

def inRanges (rs : List (Nat × Nat)) (c : Nat) : Bool := rs.any fun r => r.1 ≤ c && c ≤ r.2

theorem inRanges_iff (rs : List (Nat × Nat)) (c : Nat) : inRanges rs c = true ↔ ∃ r ∈ rs, r.1 ≤ c ∧ c ≤ r.2 := by
  simp [inRanges]

theorem inRangesF_inRanges (rs : List (Nat × Nat)) (c : Nat) : inRangesF rs c = inRanges rs c := inRangesF_eq rs c

/-- `iswfc` announces 0 but `towfc_s` folds (113 code points) -/
def announcesZeroButFolds : List (Nat × Nat) :=
  [(0xb5, 0xb5), (0x17f, 0x17f), (0x345, 0x345), (0x3c2, 0x3c2), (0x3d0, 0x3d1), (0x3d5, 0x3d6), (0x3f0, 0x3f1), (0x3f5, 0x3f5),
   (0x13f8, 0x13fd), (0x1c80, 0x1c88), (0x1cbb, 0x1cbc), (0x1e9b, 0x1e9b), (0x1fbe, 0x1fbe), (0xab70, 0xabbf),
   (0x1057b, 0x1057b), (0x1058b, 0x1058b), (0x10593, 0x10593)]

/-- `iswfc` announces 1 but `towfc_s` leaves the character unchanged (635 code points) -/
def announcesOneButUnchanged : List (Nat × Nat) :=
  [(0x3d2, 0x3d4), (0x13a0, 0x13f5), (0x2102, 0x2102), (0x2107, 0x2107), (0x210b, 0x210d), (0x2110, 0x2112), (0x2115, 0x2115),
   (0x2119, 0x211d), (0x2124, 0x2124), (0x2128, 0x2128), (0x212c, 0x212d), (0x2130, 0x2131), (0x2133, 0x2133), (0x213e, 0x213f),
   (0x2145, 0x2145), (0x1d400, 0x1d419), (0x1d434, 0x1d44d), (0x1d468, 0x1d481), (0x1d49c, 0x1d49c), (0x1d49e, 0x1d49f),
   (0x1d4a2, 0x1d4a2), (0x1d4a5, 0x1d4a6), (0x1d4a9, 0x1d4ac), (0x1d4ae, 0x1d4b5), (0x1d4d0, 0x1d4e9), (0x1d504, 0x1d505),
   (0x1d507, 0x1d50a), (0x1d50d, 0x1d514), (0x1d516, 0x1d51c), (0x1d538, 0x1d539), (0x1d53b, 0x1d53e), (0x1d540, 0x1d544),
   (0x1d546, 0x1d546), (0x1d54a, 0x1d550), (0x1d56c, 0x1d585), (0x1d5a0, 0x1d5b9), (0x1d5d4, 0x1d5ed), (0x1d608, 0x1d621),
   (0x1d63c, 0x1d655), (0x1d670, 0x1d689), (0x1d6a8, 0x1d6c0), (0x1d6e2, 0x1d6fa), (0x1d71c, 0x1d734), (0x1d756, 0x1d76e),
   (0x1d790, 0x1d7a8), (0x1d7ca, 0x1d7ca), (0x1f130, 0x1f149), (0x1f150, 0x1f169), (0x1f170, 0x1f189)]

noncomputable def scanCasemapsF (wc : Nat) (l : List (Nat × Nat × Nat)) : Option Nat :=
  @List.rec _ (fun _ => Option Nat) none (fun e _ ih =>
    bif Nat.ble e.1 wc && Nat.blt (wc - e.1) e.2.2 then
      (bif e.2.1 == 1 then some (wc + 1 - (wc - e.1) % 2) else some (addSigned 8 wc e.2.1))
    else bif Nat.blt wc e.1 then none else ih) l

noncomputable def scanPairsF (wc : Nat) (l : List (Nat × Nat)) : Option Nat :=
  @List.rec _ (fun _ => Option Nat) none (fun e _ ih =>
    bif Nat.beq e.1 wc then some e.2 else bif Nat.blt wc e.1 then none else ih) l

noncomputable def scanCasemapslF (wc : Nat) (l : List (Nat × Nat × Nat × Nat)) : Option Nat :=
  @List.rec _ (fun _ => Option Nat) none (fun e _ ih =>
    bif Nat.ble e.1 wc && Nat.blt (wc - e.1) e.2.2.1 then
      (bif e.2.1 == 1 then some (wc + 1 - (wc - e.1) % 2) else some (addSigned 32 wc e.2.1))
    else bif Nat.blt wc e.2.2.2 then none else ih) l

theorem scanCasemapsF_eq (wc : Nat) (l : List (Nat × Nat × Nat)) : scanCasemapsF wc l = scanCasemaps wc l := by
  induction l with
  | nil => rfl
  | cons e rest ih =>
    obtain ⟨up, lo, len⟩ := e
    have e1 : scanCasemapsF wc ((up, lo, len) :: rest) =
        (bif Nat.ble up wc && Nat.blt (wc - up) len then
          (bif lo == 1 then some (wc + 1 - (wc - up) % 2) else some (addSigned 8 wc lo))
        else bif Nat.blt wc up then none else scanCasemapsF wc rest) := rfl
    rw [e1, ih]
    simp only [scanCasemaps, cond_eq_ite, Bool.and_eq_true, Nat.ble_eq, Nat.blt_eq, beq_iff_eq, gt_iff_lt]

theorem scanPairsF_eq (wc : Nat) (l : List (Nat × Nat)) : scanPairsF wc l = scanPairs wc l := by
  induction l with
  | nil => rfl
  | cons e rest ih =>
    obtain ⟨up, lo⟩ := e
    have e1 : scanPairsF wc ((up, lo) :: rest) =
        (bif Nat.beq up wc then some lo else bif Nat.blt wc up then none else scanPairsF wc rest) := rfl
    rw [e1, ih]
    simp only [scanPairs, cond_eq_ite, Nat.beq_eq, Nat.blt_eq, gt_iff_lt]

theorem scanCasemapslF_eq (wc : Nat) (l : List (Nat × Nat × Nat × Nat)) : scanCasemapslF wc l = scanCasemapsl wc l := by
  induction l with
  | nil => rfl
  | cons e rest ih =>
    obtain ⟨up, lo, len, brk⟩ := e
    have e1 : scanCasemapslF wc ((up, lo, len, brk) :: rest) =
        (bif Nat.ble up wc && Nat.blt (wc - up) len then
          (bif lo == 1 then some (wc + 1 - (wc - up) % 2) else some (addSigned 32 wc lo))
        else bif Nat.blt wc brk then none else scanCasemapslF wc rest) := rfl
    rw [e1, ih]
    simp only [scanCasemapsl, cond_eq_ite, Bool.and_eq_true, Nat.ble_eq, Nat.blt_eq, beq_iff_eq, gt_iff_lt]

theorem scanCasemaps_none (wc : Nat) (l : List (Nat × Nat × Nat)) (h : ∀ e ∈ l, ¬(e.1 ≤ wc ∧ wc - e.1 < e.2.2)) :
    scanCasemaps wc l = none := by
  induction l with
  | nil => rfl
  | cons e rest ih =>
    obtain ⟨up, lo, len⟩ := e
    have h0 := h (up, lo, len) (by simp)
    simp only [scanCasemaps, if_neg h0]
    split
    · rfl
    · exact ih fun e he => h e (by simp [he])

theorem scanPairs_none (wc : Nat) (l : List (Nat × Nat)) (h : ∀ e ∈ l, e.1 ≠ wc) : scanPairs wc l = none := by
  induction l with
  | nil => rfl
  | cons e rest ih =>
    obtain ⟨up, lo⟩ := e
    have h0 : up ≠ wc := h (up, lo) (by simp)
    simp only [scanPairs, if_neg h0]
    split
    · rfl
    · exact ih fun e he => h e (by simp [he])

theorem scanCasemapsl_none (wc : Nat) (l : List (Nat × Nat × Nat × Nat)) (h : ∀ e ∈ l, ¬(e.1 ≤ wc ∧ wc - e.1 < e.2.2.1)) :
    scanCasemapsl wc l = none := by
  induction l with
  | nil => rfl
  | cons e rest ih =>
    obtain ⟨up, lo, len, brk⟩ := e
    have h0 := h (up, lo, len, brk) (by simp)
    simp only [scanCasemapsl, if_neg h0]
    split
    · rfl
    · exact ih fun e he => h e (by simp [he])

/-! The scans walk a sorted table from its start.  An ascending sweep over a range of code points carries, for each table, what is
left of it once the entries lying wholly below the current code point are dropped (`sweepUp`): the kernel meets each entry a few
times, not once per code point. -/

/-- `k l`, with `l` brought to head normal form first: without it the lazy kernel hands on a growing chain of `dropWhile`s -/
def forceList {α β : Type} (l : List α) (k : List α → β) : β :=
  match l with
  | [] => k []
  | e :: r => k (e :: r)

theorem forceList_eq {α β : Type} (l : List α) (k : List α → β) : forceList l k = k l := by cases l <;> rfl

/-- `f c la lb` for `c` in `[c, c + n)`, ascending; `pa c`, `pb c` say which leading entries lie below `c` -/
def sweepUp {A B : Type} (pa : Nat → A → Bool) (pb : Nat → B → Bool) (f : Nat → List A → List B → Bool) :
    Nat → Nat → List A → List B → Bool
  | 0, _, _, _ => true
  | n + 1, c, la, lb =>
    forceList (la.dropWhile (pa c)) fun la' => forceList (lb.dropWhile (pb c)) fun lb' =>
      f c la' lb' && sweepUp pa pb f n (c + 1) la' lb'

/-- an invariant `I` of the cursors that dropping preserves and that carries over to the next code point holds wherever `f` was evaluated -/
theorem sweepUp_spec {A B : Type} {pa : Nat → A → Bool} {pb : Nat → B → Bool} {f : Nat → List A → List B → Bool}
    (I : Nat → List A → List B → Prop) (hdrop : ∀ c la lb, I c la lb → I c (la.dropWhile (pa c)) (lb.dropWhile (pb c)))
    (hnext : ∀ c la lb, I c la lb → I (c + 1) la lb) :
    ∀ n c la lb, I c la lb → sweepUp pa pb f n c la lb = true → ∀ x, c ≤ x → x < c + n → ∃ la' lb', I x la' lb' ∧ f x la' lb' = true
  | 0, _, _, _, _, _, _, _, _ => by omega
  | n + 1, c, la, lb, hI, h, x, h1, h2 => by
    rw [sweepUp, forceList_eq, forceList_eq, Bool.and_eq_true] at h
    have hI' := hdrop c la lb hI
    by_cases hx : x = c
    · exact hx ▸ ⟨_, _, hI', h.1⟩
    · exact sweepUp_spec I hdrop hnext n (c + 1) _ _ (hnext _ _ _ hI') h.2 x (by omega) (by omega)

def belowCm (c : Nat) (e : Nat × Nat × Nat) : Bool := Nat.ble (e.1 + e.2.2) c
def belowPr (c : Nat) (e : Nat × Nat) : Bool := Nat.blt e.1 c

theorem scanCasemaps_dropWhile {c x : Nat} (h : c ≤ x) : ∀ l, scanCasemaps x (l.dropWhile (belowCm c)) = scanCasemaps x l
  | [] => rfl
  | (up, lo, len) :: rest => by
    rw [List.dropWhile_cons]
    split
    · next hp =>
      have : up + len ≤ c := Nat.le_of_ble_eq_true hp
      rw [scanCasemaps_dropWhile h rest]
      conv => rhs; rw [scanCasemaps, if_neg (by omega), if_neg (by omega)]
    · rfl

theorem scanPairs_dropWhile {c x : Nat} (h : c ≤ x) : ∀ l, scanPairs x (l.dropWhile (belowPr c)) = scanPairs x l
  | [] => rfl
  | (up, lo) :: rest => by
    rw [List.dropWhile_cons]
    split
    · next hp =>
      have : up < c := by rwa [belowPr, Nat.blt_eq] at hp
      rw [scanPairs_dropWhile h rest]
      conv => rhs; rw [scanPairs, if_neg (by omega), if_neg (by omega)]
    · rfl

/-- the cursors are good for `c` and every later code point: scanning what is left is scanning the table -/
def Cursors (c : Nat) (cm : List (Nat × Nat × Nat)) (pr : List (Nat × Nat)) : Prop :=
  ∀ x, c ≤ x → scanCasemaps x cm = scanCasemaps x casemapsL ∧ scanPairs x pr = scanPairs x pairsL

noncomputable def towlowerF (wc : Nat) (cm : List (Nat × Nat × Nat)) (pr : List (Nat × Nat)) : Nat :=
  if wc < 0x41 ∨ (0x600 ≤ wc ∧ wc ≤ 0xfff) ∨ (0x2e00 ≤ wc ∧ wc ≤ 0xa63f) ∨ (0xa800 ≤ wc ∧ wc ≤ 0xab69) ∨ (0xabc0 ≤ wc ∧ wc ≤ 0xfeff) then wc
  else if 0x10a0 ≤ wc ∧ wc - 0x10a0 < 0x2e then
    if wc > 0x10c5 ∧ wc ≠ 0x10c7 ∧ wc ≠ 0x10cd then wc else wc + 0x2d00 - 0x10a0
  else match scanCasemapsF wc cm with
    | some r => r
    | none => match scanPairsF wc pr with
      | some r => r
      | none => match scanCasemapslF wc casemapslL with
        | some r => r
        | none => wc

theorem towlowerF_eq {wc : Nat} {cm : List (Nat × Nat × Nat)} {pr : List (Nat × Nat)} (h : Cursors wc cm pr) :
    towlowerF wc cm pr = towlowerC wc := by
  unfold towlowerC towlowerF
  rw [scanCasemapsF_eq, scanPairsF_eq, scanCasemapslF_eq, (h wc (Nat.le_refl wc)).1, (h wc (Nat.le_refl wc)).2]
  rfl

/-- `f c (towlowerC c)` for every `c` of the range `r`, with `towlowerC c` computed behind the cursors -/
noncomputable def sweepR (f : Nat → Nat → Bool) (r : Nat × Nat) : Bool :=
  sweepUp belowCm belowPr (fun c cm pr => f c (towlowerF c cm pr)) (r.2 + 1 - r.1) r.1 casemapsL pairsL

theorem sweepR_spec {f : Nat → Nat → Bool} {r : Nat × Nat} (h : sweepR f r = true) {c : Nat} (h1 : r.1 ≤ c) (h2 : c ≤ r.2) :
    f c (towlowerC c) = true := by
  obtain ⟨cm, pr, hI, hf⟩ := sweepUp_spec Cursors
    (fun c _ _ hI x hx => by rw [scanCasemaps_dropWhile hx, scanPairs_dropWhile hx]; exact hI x hx)
    (fun c _ _ hI x hx => hI x (by omega)) _ _ _ _ (fun _ _ => ⟨rfl, rfl⟩) h c h1 (by omega)
  rwa [towlowerF_eq hI] at hf

/-- `towfcSingle src`, with `lw` for `towlowerC src` -/
noncomputable def towfcSingleF (src lw : Nat) : Int × Nat :=
  let single : Int × Nat :=
    let d := if src < 128 then cell 8 UniFold.tolower128 src else lw
    (if d % 2 ^ 32 = src then ESNOTFND_neg else 1, d)
  if src < 0xb5 then single
  else if src ≤ 0x3f5 then
    if src = 0xb5 then (0, 0x3bc) else if src = 0x17f then (0, 0x73) else if src = 0x345 then (0, 0x3b9)
    else if src = 0x3c2 then (0, 0x3c3) else if src = 0x3d0 then (0, 0x3b2) else if src = 0x3d1 then (0, 0x3b8)
    else if src = 0x3d5 then (0, 0x3c6) else if src = 0x3d6 then (0, 0x3c0) else if src = 0x3f0 then (0, 0x3ba)
    else if src = 0x3f1 then (0, 0x3c1) else if src = 0x3f5 then (0, 0x3b5) else single
  else if 0x13a0 ≤ src ∧ src ≤ 0x13f5 then (0, src)
  else if 0x13f8 ≤ src ∧ src ≤ 0x13fd then (0, src - 8)
  else if src ≤ 0x1c88 then
    if src < 0x1c80 then single
    else if src = 0x1c80 then (0, 0x432) else if src = 0x1c81 then (0, 0x434) else if src = 0x1c82 then (0, 0x43e)
    else if src = 0x1c83 then (0, 0x441) else if src = 0x1c84 then (0, 0x442) else if src = 0x1c85 then (0, 0x442)
    else if src = 0x1c86 then (0, 0x44a) else if src = 0x1c87 then (0, 0x463) else (0, 0xa64b)
  else if src ≤ 0x1fbe then
    if src < 0x1e9b then single
    else if src = 0x1e9b then (0, 0x1e61)
    else if src = 0x1fbe then (0, 0x3b9)
    else single
  else if 0xab70 ≤ src ∧ src ≤ 0xabbf then (0, src - (0xab70 - 0x13a0))
  else single

theorem towfcSingle_eq_F (src : Nat) : towfcSingle src = towfcSingleF src (towlowerC src) := rfl

noncomputable def scanTblF (src : Nat) (l : List (Nat × List Nat)) : Option (List Nat) :=
  @List.rec _ (fun _ => Option (List Nat)) none (fun e _ ih =>
    bif Nat.beq e.1 src then some e.2 else bif Nat.blt src e.1 then none else ih) l

theorem scanTblF_eq (src : Nat) (l : List (Nat × List Nat)) : scanTblF src l = scanTbl src l := by
  induction l with
  | nil => rfl
  | cons e rest ih =>
    obtain ⟨up, x⟩ := e
    have e1 : scanTblF src ((up, x) :: rest) =
        (bif Nat.beq up src then some x else bif Nat.blt src up then none else scanTblF src rest) := rfl
    rw [e1, ih]
    simp only [scanTbl, cond_eq_ite, Nat.beq_eq, Nat.blt_eq, gt_iff_lt]

noncomputable def towfcCoreF (src lw : Nat) : Int × List Nat :=
  if src < 128 then
    let d := cell 8 UniFold.tolower128 src
    (if d = src then ESNOTFND_neg else 1, [d])
  else match scanTblF src tbl2L with
    | some l => (2, l)
    | none => match scanTblF src tbl3L with
      | some l => (3, l)
      | none => let r := towfcSingleF src lw; (r.1, [r.2])

theorem towfcCore_eq_F (src : Nat) : towfcCore src = towfcCoreF src (towlowerC src) := by
  unfold towfcCore towfcCoreF
  rw [scanTblF_eq, scanTblF_eq, towfcSingle_eq_F]
  rfl

/-- code point ranges outside which everything is shown to be untouched in general (`cold`); inside them the code points are looked
at one by one, except in the two stretches that hold no table entry (`hotT`) -/
def hot : List (Nat × Nat) :=
  [(0x0, 0x587), (0x10a0, 0x10cd), (0x13a0, 0x13fd), (0x1c80, 0x1cbf), (0x1e00, 0x1ffc), (0x2102, 0x2145), (0x2160, 0x216f),
   (0x2183, 0x2183), (0x24b6, 0x24cf), (0x2c00, 0x2c2f), (0x2c60, 0x2cf2), (0xa640, 0xa66c), (0xa680, 0xa69a),
   (0xa722, 0xa7d9), (0xa7f5, 0xa7f6), (0xab70, 0xabbf), (0xfb00, 0xfb17), (0xff21, 0xff3a), (0x10400, 0x10427),
   (0x104b0, 0x104d3), (0x10570, 0x10595), (0x10c80, 0x10cb2), (0x118a0, 0x118bf), (0x16e40, 0x16e5f), (0x1d400, 0x1d7ca),
   (0x1e900, 0x1e921), (0x1f130, 0x1f189)]

noncomputable def agreeF (c lw : Nat) : Bool :=
  bif inWin c || Nat.blt c 128 then (iswfc c == 0) == ((towfcCoreF c lw).2 == [c])
  else (!iswupper c) == ((towfcSingleF c lw).2 == c)

noncomputable def excZ (c lw : Nat) : Bool := (iswfc c == 0) && !((towfcCoreF c lw).2 == [c])
noncomputable def excO (c lw : Nat) : Bool := (iswfc c == 1) && ((towfcCoreF c lw).2 == [c])

noncomputable def hotOkF (c lw : Nat) : Bool :=
  (agreeF c lw || inRangesF announcesZeroButFolds c || inRangesF announcesOneButUnchanged c) &&
  (!inWin c || (towfcCoreF c lw).2.length == max 1 (iswfc c))

theorem agreeF_sound (c : Nat) (h : agreeF c (towlowerC c) = true) (hz : inRanges announcesZeroButFolds c = false) :
    iswfc c = 0 ↔ (towfcCore c).2 = [c] := by
  unfold agreeF at h
  cases hb : (inWin c || Nat.blt c 128) with
  | true =>
    rw [hb, cond_true, ← towfcCore_eq_F] at h
    have h2 : (iswfc c == 0) = ((towfcCore c).2 == [c]) := by simpa using h
    rw [Bool.eq_iff_iff] at h2
    simpa using h2
  | false =>
    rw [hb, cond_false, ← towfcSingle_eq_F] at h
    simp only [Bool.or_eq_false_iff] at hb
    have h128 : 128 ≤ c := by
      have := hb.2
      rw [← Bool.not_eq_true, Nat.blt_eq] at this
      omega
    have hne : ¬(c = 0x1cbb ∨ c = 0x1cbc) := by
      intro hh
      have : inRanges announcesZeroButFolds c = true := by
        rw [inRanges_iff]
        exact ⟨(0x1cbb, 0x1cbc), by simp [announcesZeroButFolds], by rcases hh with hh | hh <;> simp [hh]⟩
      rw [hz] at this
      exact absurd this (by decide)
    rw [towfcCore_outside c h128 hb.1, iswfc_outside c hb.1, if_neg hne]
    cases hu : iswupper c <;> simp_all

theorem upIdx_size : UniFold.upIdx < 2 ^ (16 * 0x1f2) := by decide +kernel

/-- the hard-coded code points of `iswfc`, `_towfc_single`, `_towcase` -/
def special : List (Nat × Nat) :=
  [(0, 0x587), (0x10a0, 0x10cd), (0x13a0, 0x13fd), (0x1c80, 0x1c88), (0x1cbb, 0x1cbc), (0x1e96, 0x1ffc), (0xab70, 0xabbf),
   (0xfb00, 0xfb17)]

/-- every table entry and every hard-coded code point lies inside the range list `H` -/
def covers (H : List (Nat × Nat)) : Bool :=
  (casemapsL.all fun e => H.any fun r => r.1 ≤ e.1 && e.1 + e.2.2 ≤ r.2 + 1) &&
  (pairsL.all fun e => inRanges H e.1) &&
  (casemapslL.all fun e => H.any fun r => r.1 ≤ e.1 && e.1 + e.2.2.1 ≤ r.2 + 1) &&
  (special.all fun s => H.any fun r => r.1 ≤ s.1 && s.2 ≤ r.2)

/-! Outside a range list that covers the tables and the hard-coded code points nothing is folded: the scans find no entry, every
cascade of constants falls through. -/

theorem special_cold {H : List (Nat × Nat)} (hH : covers H = true) (c : Nat) (h : inRanges H c = false) :
    inRanges special c = false := by
  simp only [covers, Bool.and_eq_true] at hH
  cases hs : inRanges special c with
  | false => rfl
  | true =>
    obtain ⟨s, hs1, hs2⟩ := (inRanges_iff _ _).mp hs
    obtain ⟨r, hr, hin⟩ := List.any_eq_true.mp (List.all_eq_true.mp hH.2 s hs1)
    simp only [Bool.and_eq_true, decide_eq_true_eq] at hin
    rw [(inRanges_iff _ _).mpr ⟨r, hr, by omega⟩] at h
    cases h

theorem towlowerC_cold {H : List (Nat × Nat)} (hH : covers H = true) (c : Nat) (h : inRanges H c = false) : towlowerC c = c := by
  have hs := special_cold hH c h
  simp only [covers, Bool.and_eq_true] at hH
  have hnot : ∀ r ∈ H, ¬(r.1 ≤ c ∧ c ≤ r.2) := by
    intro r hr hh
    have : inRanges H c = true := (inRanges_iff _ _).mpr ⟨r, hr, hh⟩
    rw [h] at this
    exact absurd this (by decide)
  simp only [inRanges, special, List.any_cons, List.any_nil, Bool.or_false, Bool.or_eq_false_iff, Bool.and_eq_false_iff,
    decide_eq_false_iff_not] at hs
  unfold towlowerC
  split
  · rfl
  · split
    · omega
    · have e1 : scanCasemaps c casemapsL = none := by
        apply scanCasemaps_none
        intro e he hcov
        obtain ⟨r, hr, hin⟩ := List.any_eq_true.mp (List.all_eq_true.mp hH.1.1.1 e he)
        simp only [Bool.and_eq_true, decide_eq_true_eq] at hin
        exact hnot r hr (by omega)
      have e2 : scanPairs c pairsL = none := by
        apply scanPairs_none
        intro e he heq
        have := List.all_eq_true.mp hH.1.1.2 e he
        rw [heq, h] at this
        exact absurd this (by decide)
      have e3 : scanCasemapsl c casemapslL = none := by
        apply scanCasemapsl_none
        intro e he hcov
        obtain ⟨r, hr, hin⟩ := List.any_eq_true.mp (List.all_eq_true.mp hH.1.2 e he)
        simp only [Bool.and_eq_true, decide_eq_true_eq] at hin
        exact hnot r hr (by omega)
      rw [e1, e2, e3]

/-- there `towfc_s` hands the character back, and `iswfc` is glibc's `iswupper` -/
theorem cold {H : List (Nat × Nat)} (hH : covers H = true) (c : Nat) (h : inRanges H c = false) :
    (towfcSingle c).2 = c ∧ (towfcCore c).2 = [c] ∧ iswfc c = if iswupper c then 1 else 0 := by
  have hs := special_cold hH c h
  simp only [inRanges, special, List.any_cons, List.any_nil, Bool.or_false, Bool.or_eq_false_iff, Bool.and_eq_false_iff,
    decide_eq_false_iff_not] at hs
  have hl := towlowerC_cold hH c h
  have hw : inWin c = false := by rw [inWin_false_iff]; omega
  have hsingle : (towfcSingle c).2 = c := by
    unfold towfcSingle
    simp only [hl, if_neg (show ¬c < 128 by omega), if_neg (show ¬c < 0xb5 by omega), if_neg (show ¬c ≤ 0x3f5 by omega),
      if_neg (show ¬(0x13a0 ≤ c ∧ c ≤ 0x13f5) by omega), if_neg (show ¬(0x13f8 ≤ c ∧ c ≤ 0x13fd) by omega),
      if_neg (show ¬(0xab70 ≤ c ∧ c ≤ 0xabbf) by omega)]
    by_cases h1 : c ≤ 0x1c88
    · simp only [if_pos h1, if_pos (show c < 0x1c80 by omega)]
    · by_cases h2 : c ≤ 0x1fbe
      · simp only [if_neg h1, if_pos h2, if_pos (show c < 0x1e9b by omega)]
      · simp only [if_neg h1, if_neg h2]
  refine ⟨hsingle, ?_, ?_⟩
  · rw [towfcCore_outside c (by omega) hw, hsingle]
  · rw [iswfc_outside c hw, if_neg (by omega)]

/-! Two stretches of `hot`, U+1D400..1D7CA and U+1F130..1F189, are there only because glibc's `iswupper` is set in them: no table
entry and no hard-coded code point falls inside (`hotT_covers`).  The folding functions are run over the rest (`hotT_ok`); in the
two stretches `cold` applies, and what is left is the bitmap against the exception list (`upper_pages`). -/

def tableFree (r : Nat × Nat) : Bool := r.1 == 0x1d400 || r.1 == 0x1f130
def hotT : List (Nat × Nat) := hot.filter fun r => !tableFree r
def oneT : List (Nat × Nat) := announcesOneButUnchanged.filter fun r => Nat.blt r.2 0x1d400
def oneU : List (Nat × Nat) := announcesOneButUnchanged.filter fun r => !Nat.blt r.2 0x1d400

theorem hotT_covers : covers hotT = true := by decide +kernel

/-- every code point of `hotT` agrees or is listed as an exception; and, swept once more range by range behind cursors of their own,
the code points of the first list and those of the second below U+1D400 disagree the way their list says -/
theorem hotT_ok :
    ((hotT.all (sweepR hotOkF)) && (announcesZeroButFolds.all (sweepR excZ)) && (oneT.all (sweepR excO))) = true := by decide +kernel

/-- glibc's upper-case bitmap read as a set: the bits of page `c / 256` -/
theorem iswupper_page {c : Nat} (hc : c < 0x1f2 * 256) :
    iswupper c = match cell 16 UniFold.upIdx (c / 256) with
      | 0 => false
      | p + 1 => (row 1 UniFold.upPages p).testBit (c % 256) := by
  unfold iswupper
  rw [if_pos (by omega)]
  cases cell 16 UniFold.upIdx (c / 256) with
  | zero => rfl
  | succ p => rw [if_neg (Nat.succ_ne_zero p), Nat.succ_sub_one, cell_row _ _ _ (Nat.mod_lt _ (by omega)), cell1_eq]

/-- page by page, as whole numbers: what is upper case lies in `hotT` or is announced-but-unchanged; the announced-but-unchanged
ranges from U+1D400 on are upper case throughout; they are apart from `hotT` -/
theorem upper_pages :
    allBelow (fun b => match cell 16 UniFold.upIdx b with
      | 0 => Nat.beq (page (maskOf oneU) b) 0
      | p + 1 =>
        Nat.beq (row 1 UniFold.upPages p &&& page (maskOf (hotT ++ announcesOneButUnchanged)) b) (row 1 UniFold.upPages p) &&
        Nat.beq (page (maskOf oneU) b &&& row 1 UniFold.upPages p) (page (maskOf oneU) b)) 0x1f2 = true ∧
    maskOf oneU >>> (0x1f2 * 256) = 0 ∧ maskOf oneU &&& maskOf hotT = 0 := by
  decide +kernel

theorem iswupper_coldT {c : Nat} (ht : inRanges hotT c = false) (ho : inRanges announcesOneButUnchanged c = false) :
    iswupper c = false := by
  by_cases hc : c < 0x1f2 * 256
  · rw [iswupper_page hc]
    have h1 := allBelow_spec upper_pages.1 (c / 256) (by omega)
    split at h1
    · rfl
    · next p hp =>
      rw [Bool.and_eq_true] at h1
      rw [← Nat.eq_of_beq_eq_true h1.1, Nat.testBit_and, testBit_page, testBit_maskOf, inRangesF_append, inRangesF_inRanges,
        inRangesF_inRanges, ht, ho]
      simp
  · unfold iswupper
    split
    · dsimp only; rw [if_pos (cell_eq_zero_of_ge upIdx_size (by omega))]
    · rfl

theorem oneU_cold {c : Nat} (h : inRanges oneU c = true) : inRanges hotT c = false ∧ iswupper c = true := by
  have hb : (maskOf oneU).testBit c = true := by rw [testBit_maskOf, inRangesF_inRanges, h]
  have hc : c < 0x1f2 * 256 := by
    refine Decidable.by_contra fun hge => ?_
    rw [show c = 0x1f2 * 256 + (c - 0x1f2 * 256) by omega, ← Nat.testBit_shiftRight, upper_pages.2.1, Nat.zero_testBit] at hb
    cases hb
  constructor
  · have := congrArg (Nat.testBit · c) upper_pages.2.2
    simp only [Nat.testBit_and, hb, Bool.true_and, Nat.zero_testBit] at this
    rwa [testBit_maskOf, inRangesF_inRanges] at this
  · rw [iswupper_page hc]
    have h1 := allBelow_spec upper_pages.1 (c / 256) (by omega)
    split at h1
    · have := congrArg (Nat.testBit · (c % 256)) (Nat.eq_of_beq_eq_true h1)
      simp only [testBit_page, hb, Nat.zero_testBit] at this
      cases this
    · next p hp =>
      rw [Bool.and_eq_true] at h1
      have := congrArg (Nat.testBit · (c % 256)) (Nat.eq_of_beq_eq_true h1.2)
      simp only [Nat.testBit_and, testBit_page, hb, Bool.true_and] at this
      exact this

theorem hotOkF_of_hotT {c : Nat} (h : inRanges hotT c = true) :
    (inRanges announcesZeroButFolds c = false → inRanges announcesOneButUnchanged c = false → agreeF c (towlowerC c) = true) ∧
    (inWin c = true → (towfcCore c).2.length = max 1 (iswfc c)) := by
  obtain ⟨r, hr, h1, h2⟩ := (inRanges_iff _ _).mp h
  have := hotT_ok
  simp only [Bool.and_eq_true] at this
  have := sweepR_spec (List.all_eq_true.mp this.1.1 r hr) h1 h2
  simp only [hotOkF, inRangesF_inRanges, ← towfcCore_eq_F, Bool.and_eq_true, Bool.or_eq_true, Bool.not_eq_true', beq_iff_eq] at this
  exact ⟨fun hz ho => (this.1.resolve_right (by simp [ho])).resolve_right (by simp [hz]), fun h => this.2.resolve_left (by simp [h])⟩

/-- `towfc_s` writes exactly as many cells as `iswfc` announces (0 announced: the character itself, one cell) -/
theorem fold_cells (c : Nat) : (towfcCore c).2.length = max 1 (iswfc c) := by
  cases h : inWin c with
  | false =>
    have h1 : iswfc c ≤ 1 := by
      rw [iswfc_outside c h]
      split
      · omega
      · split <;> omega
    have : (towfcCore c).2.length = 1 := by
      by_cases h128 : c < 128
      · unfold towfcCore
        simp [h128]
      · rw [towfcCore_outside c (by omega) h]; rfl
    omega
  | true =>
    have hs : inRanges special c = true := by
      simp only [inWin, Bool.or_eq_true, Bool.and_eq_true, decide_eq_true_eq] at h
      simp only [inRanges, special, List.any_cons, List.any_nil, Bool.or_false, Bool.or_eq_true, Bool.and_eq_true, decide_eq_true_eq]
      omega
    exact (hotOkF_of_hotT (Decidable.by_contra fun hh => by
      rw [special_cold hotT_covers c (by simpa using hh)] at hs; cases hs)).2 h

/-- `iswfc` announces 0 exactly when `towfc_s` hands the character back unchanged — outside the two exception sets, for every
cell value (no bound needed) -/
theorem fold_announce_all (c : Nat) (hz : inRanges announcesZeroButFolds c = false)
    (ho : inRanges announcesOneButUnchanged c = false) : iswfc c = 0 ↔ (towfcCore c).2 = [c] := by
  cases ht : inRanges hotT c with
  | true => exact agreeF_sound c ((hotOkF_of_hotT ht).1 hz ho) hz
  | false =>
    obtain ⟨_, e1, e2⟩ := cold hotT_covers c ht
    rw [e1, e2, iswupper_coldT ht ho]
    simp

theorem fold_announce_partial (c : Nat) (hz : inRanges announcesZeroButFolds c = false)
    (ho : inRanges announcesOneButUnchanged c = false) (_hc : c ≤ 0x10FFFF) : iswfc c = 0 ↔ (towfcCore c).2 = [c] :=
  fold_announce_all c hz ho

theorem fold_announce_exceptions (c : Nat) :
    (inRanges announcesZeroButFolds c = true → iswfc c = 0 ∧ (towfcCore c).2 ≠ [c]) ∧
    (inRanges announcesOneButUnchanged c = true → iswfc c = 1 ∧ (towfcCore c).2 = [c]) := by
  have hk := hotT_ok
  simp only [Bool.and_eq_true] at hk
  constructor
  · intro h
    obtain ⟨r, hr, h1, h2⟩ := (inRanges_iff _ _).mp h
    have := sweepR_spec (List.all_eq_true.mp hk.1.2 r hr) h1 h2
    rw [towfcCore_eq_F]
    simpa [excZ] using this
  · intro h
    obtain ⟨r, hr, h1, h2⟩ := (inRanges_iff _ _).mp h
    cases hb : Nat.blt r.2 0x1d400 with
    | true =>
      have := sweepR_spec (List.all_eq_true.mp hk.2 r (List.mem_filter.mpr ⟨hr, hb⟩)) h1 h2
      rw [towfcCore_eq_F]
      simpa [excO] using this
    | false =>
      obtain ⟨hT, hup⟩ := oneU_cold ((inRanges_iff _ _).mpr ⟨r, List.mem_filter.mpr ⟨hr, by rw [hb]; rfl⟩, h1, h2⟩)
      obtain ⟨_, e1, e2⟩ := cold hotT_covers c hT
      rw [e1, e2, hup]
      exact ⟨rfl, rfl⟩

theorem fold_announce_witness_b5 : iswfc 0xb5 = 0 ∧ (towfcCore 0xb5).2 = [0x3bc] := by decide +kernel
theorem fold_announce_witness_3d2 : iswfc 0x3d2 = 1 ∧ (towfcCore 0x3d2).2 = [0x3d2] := by decide +kernel

example : (towfcCore 0xdf).2.length = max 1 (iswfc 0xdf) ∧ iswfc 0xdf = 2 := by decide +kernel
example : (towfcCore 0xfb03).2.length = max 1 (iswfc 0xfb03) ∧ iswfc 0xfb03 = 3 := by decide +kernel
example : (towfcCore 0x41).2.length = max 1 (iswfc 0x41) ∧ iswfc 0x41 = 1 := by decide +kernel

#print axioms fold_cells
#print axioms fold_announce_all
#print axioms fold_announce_partial
#print axioms fold_announce_exceptions
#print axioms fold_announce_witness_b5
#print axioms fold_announce_witness_3d2

end SafeC.Fold
