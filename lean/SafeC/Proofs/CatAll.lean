import SafeC.Proofs.CopyAll
import SafeC.Proofs.CatOverlap
/-!
# The concatenations `strcat_s strncat_s wcscat_s wcsncat_s`: the complete outcome for EVERY placement

On top of `findEnd` (three outcomes: the dest string is found — `findEnd_str` —, the scan runs into `src` —
`findEnd_hits` —, dest holds no NUL in its `dmax` cells — `findEnd_unterm`) and of `copyLoop_cases` started at the
terminator of dest with the `dmax - dl` cells left.  `catBody` is the part of the four entry points behind the entry
checks.  `catBody_cases` (dest holds a string of length `dl < dmax`, `m` = number of characters appended):
* ESOVRLP: `src` lies inside the dest string (terminator included), or in the room behind it and is reached by the
  `min (m+1) (dmax-dl)` cells appended, or at/below dest and its `min (m+1) (dmax-dl)` cells reach dest;
* EOK: `dl + m < dmax` and the cells appended do not meet the cells read: `dest[dl..dl+m) = src[0..m)`, `dest[dl+m] = 0`,
  `dest[0..dl)` untouched, null-slack zeros behind;
* ESNOSPC: otherwise (`dmax ≤ dl + m`, and the `dmax - dl` cells copied do not meet).
`catBody_unterm`: no NUL in dest: ESOVRLP when `dest < src < dest + dmax` (the scan runs into src), else ESUNTERM.
-/
namespace SafeC
open Gen

theorem findEnd_unterm (cfg : Cfg) (chk : Bool) (B oD oM : Nat) (hoM : 0 < oM) :
    ∀ (k d : Nat) (st : St), RW st oD oM → (oD ≤ d ∧ d + k = oD + oM) → 0 < k →
    (∀ j, j < k → st.data (d + j) ≠ 0) → (chk = true → ∀ j, j < k → d + j ≠ B) →
    ∃ st', exec (findEnd cfg chk B oD oM k d) st = .ok (.inl ESUNTERM, st') ∧
      ClearedPost cfg oD oM ESUNTERM st st' := by
  intro k d st hrw hinv hk hnz hnb
  have hsub : RW st d k := hrw.sub (by omega) (by omega)
  obtain ⟨hm, _, hr⟩ := hsub (k - 1) (by omega)
  rw [findEnd_steps cfg chk B oD oM k d st (k - 1) (fun j hj => ⟨(hsub j (by omega)).1, (hsub j (by omega)).2.2⟩)
    (by omega) (fun j hj => hnz j (by omega)) (fun h j hj => hnb h j (by omega)),
    show k - (k - 1) = 0 + 1 from by omega, findEnd_succ]
  simp only [exec_bind, exec_load_ok _ _ hm hr]
  rw [if_neg (hnz (k - 1) (by omega)), if_neg (fun h => hnb h.1 (k - 1) (by omega) h.2), if_pos trivial]
  exact handleError_pure cfg oD oM ESUNTERM _ st hrw hoM

structure CatAll (cfg : Cfg) (dest dmax dl src m : Nat) (st st' : St) (code : Nat) : Prop where
  hit : ((dest < src ∧ src ≤ dest + dl) ∨ (dest + dl < src ∧ src ≤ dest + dl + m ∧ src < dest + dmax) ∨
          (src ≤ dest ∧ dest ≤ src + m ∧ dest + dl < src + dmax)) →
        code = ESOVRLP ∧ ClearedPost cfg dest dmax ESOVRLP st st'
  done : dl + m < dmax → (dest + dl + m < src ∨ src + m < dest) →
        code = EOK ∧ StpDone cfg (dest + dl) (dmax - dl) src m st st'
  full : dmax ≤ dl + m → (dest + dmax ≤ src ∨ src + dmax ≤ dest + dl) →
        code = ESNOSPC ∧ ClearedPost cfg dest dmax ESNOSPC st st'

theorem CatAll.codes {cfg : Cfg} {dest dmax dl src m : Nat} {st st' : St} {code : Nat}
    (hdl : dl < dmax) (h : CatAll cfg dest dmax dl src m st st' code) :
    (code = EOK ↔ dl + m < dmax ∧ (dest + dl + m < src ∨ src + m < dest)) ∧
      (code = ESNOSPC ↔ dmax ≤ dl + m ∧ (dest + dmax ≤ src ∨ src + dmax ≤ dest + dl)) ∧
      (code = EOK ∨ code = ESOVRLP ∨ code = ESNOSPC) ∧
      (code = EOK → StpDone cfg (dest + dl) (dmax - dl) src m st st') ∧
      (code ≠ EOK → ClearedPost cfg dest dmax code st st') :=
  (code_of_cases h.hit (fun b => h.done b.1 b.2) (fun c => h.full c.1 c.2) (by omega) (by omega) (by omega) (by omega)).2

/-- **the body of the four concatenations, dest holds a string of length `dl < dmax`, any placement of the source**; only
the source cells the loop gets to need be readable -/
theorem catBody_cases (cfg : Cfg) (bounded : Bool) (dest dmax src dl m slen : Nat) (st : St)
    (hrd : ∀ j, j < m → st.mapped (src+j) = true ∧ st.rd (src+j) = true)
    (hrw : RW st dest dmax)
    (hdl : dl < dmax) (hdnz : ∀ j, j < dl → st.data (dest + j) ≠ 0) (hdnul : st.data (dest + dl) = 0)
    (hnz : ∀ j, j < m → st.data (src+j) ≠ 0)
    (hfin : ((bounded = true → m < slen) ∧ st.data (src+m) = 0 ∧ st.mapped (src+m) = true ∧ st.rd (src+m) = true) ∨
      (bounded = true ∧ slen = m)) :
    ∃ code st', exec (catBody cfg bounded dest dmax src slen) st = .ok (code, st') ∧
      CatAll cfg dest dmax dl src m st st' code := by
  have hpos : 0 < dmax := Nat.lt_of_le_of_lt (Nat.zero_le dl) hdl
  by_cases hin : dest < src ∧ src < dest + dl
  · unfold catBody
    rw [if_pos hin.1]
    obtain ⟨st', he, hp⟩ := findEnd_hits cfg src dest dmax hpos (src - dest) dmax dest st hrw ⟨Nat.le_refl _, rfl⟩
      (by omega) (fun j hj => hdnz j (by omega)) (by intro j hj; omega) (by omega)
    refine ⟨ESOVRLP, st', by simp only [exec_bind, he]; rfl, ?_⟩
    exact ⟨fun _ => ⟨rfl, hp⟩, fun h1 h2 => by omega, fun h1 h2 => by omega⟩
  · obtain ⟨g, hg⟩ : ∃ g, (dest < src ∧ src = dest + dl + g) ∨ (src ≤ dest ∧ dest = src + g) :=
      (Nat.lt_or_ge dest src).elim (fun h => ⟨src - (dest + dl), .inl ⟨h, by omega⟩⟩) (fun h => ⟨dest - src, .inr ⟨h, by omega⟩⟩)
    rw [catBody_at_end cfg bounded dest dmax src slen dl st hrw hdl hdnz hdnul (by omega)]
    obtain ⟨code, st', he, hp⟩ := cpyBody_cases cfg bounded dest dmax hpos (dmax - dl) (dest + dl) src m g slen st hrd hrw
      ⟨by omega, by omega⟩ hg hnz hfin
    exact ⟨code, st', he, fun _ => hp.hit (by omega) (by omega), fun _ _ => hp.done (by omega) (by omega),
      fun _ _ => hp.full (by omega) (by omega)⟩

/-- the unbounded concatenations on a source without a terminator in the first `min g (dmax - dl)` cells, `src` not
inside the dest string (that placement is ESOVRLP whatever the source holds: `findEnd_hits`) -/
theorem catBody_noterm (cfg : Cfg) (dest dmax src dl g : Nat) (st : St)
    (hall : ∀ a, st.mapped a = true ∧ st.rd a = true)
    (hrw : RW st dest dmax)
    (hdl : dl < dmax) (hdnz : ∀ j, j < dl → st.data (dest + j) ≠ 0) (hdnul : st.data (dest + dl) = 0)
    (hg : (dest < src ∧ src = dest + dl + g) ∨ (src ≤ dest ∧ dest = src + g))
    (hnz : ∀ j, j < g → j < dmax - dl → st.data (src+j) ≠ 0) :
    ∃ code st', exec (catBody cfg false dest dmax src 0) st = .ok (code, st') ∧
      code = (if g < dmax - dl then ESOVRLP else ESNOSPC) ∧ ClearedPost cfg dest dmax code st st' := by
  rw [catBody_at_end cfg false dest dmax src 0 dl st hrw hdl hdnz hdnul (by omega)]
  exact cpyBody_noterm cfg false dest dmax (by omega) (dmax - dl) (dest + dl) src g 0 st hall hrw ⟨by omega, by omega⟩ hg hnz
    (fun h => absurd h (by decide))

theorem catBody_unterm (cfg : Cfg) (bounded : Bool) (dest dmax src slen : Nat) (st : St)
    (hpos : 0 < dmax) (hrw : RW st dest dmax)
    (hdnz : ∀ j, j < dmax → st.data (dest + j) ≠ 0) :
    ∃ code st', exec (catBody cfg bounded dest dmax src slen) st = .ok (code, st') ∧
      (code = if dest < src ∧ src < dest + dmax then ESOVRLP else ESUNTERM) ∧
      ClearedPost cfg dest dmax code st st' := by
  unfold catBody
  by_cases hlt : dest < src
  · rw [if_pos hlt]
    by_cases hin : src < dest + dmax
    · obtain ⟨st', he, hp⟩ := findEnd_hits cfg src dest dmax hpos (src - dest) dmax dest st hrw ⟨Nat.le_refl _, rfl⟩
        (by omega) (fun j hj => hdnz j (by omega)) (by intro j hj; omega) (by omega)
      refine ⟨ESOVRLP, st', by simp only [exec_bind, he]; rfl, by rw [if_pos ⟨hlt, hin⟩], hp⟩
    · obtain ⟨st', he, hp⟩ := findEnd_unterm cfg true src dest dmax hpos dmax dest st hrw ⟨Nat.le_refl _, rfl⟩ hpos
        hdnz (by intro _ j hj; omega)
      refine ⟨ESUNTERM, st', by simp only [exec_bind, he]; rfl, by rw [if_neg (by omega)], hp⟩
  · rw [if_neg hlt]
    obtain ⟨st', he, hp⟩ := findEnd_unterm cfg false dest dest dmax hpos dmax dest st hrw ⟨Nat.le_refl _, rfl⟩ hpos
      hdnz (by intro h; cases h)
    refine ⟨ESUNTERM, st', by simp only [exec_bind, he]; rfl, by rw [if_neg (by omega)], hp⟩

end SafeC
