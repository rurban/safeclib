import SafeC.Proofs.SortSafe
/-!
# qsort_s model: what EVERY run preserves, for every comparator

`Rel e s s'`: `s'.a` is a permutation of `s.a`, and the log grew by events that carry two in-range
positions and the caller's context.  Every function of the model relates its entry state to its exit
state by `Rel` whenever it returns at all (`Post`), with no hypothesis on the comparator, the bit
vector, `pshift` or the table.
-/
namespace SafeC.Sort

def Post (x : M β) (Q : β → Prop) : Prop := ∀ r, x = .ok r → Q r

theorem Post.bind {x : M β} {f : β → M γ} {Q : γ → Prop} (P : β → Prop)
    (hx : Post x P) (hf : ∀ y, P y → Post (f y) Q) : Post (x >>= f) Q := by
  intro r h
  cases hxe : x with
  | error e => rw [hxe] at h; cases h
  | ok y => rw [hxe] at h; exact hf y (hx y hxe) r h

theorem Post.bind' {x : M β} {f : β → M γ} {Q : γ → Prop}
    (hf : ∀ y, Post (f y) Q) : Post (x >>= f) Q :=
  Post.bind (fun _ => True) (fun _ _ => trivial) (fun y _ => hf y)

theorem Post.ok {y : β} {Q : β → Prop} (h : Q y) : Post (.ok y : M β) Q := by
  intro r hr; cases hr; exact h

theorem Post.error {e : Fault} {Q : β → Prop} : Post (.error e : M β) Q := by
  intro r hr; cases hr

theorem Post.ite {c : Prop} [Decidable c] {a b : M β} {Q : β → Prop}
    (ha : c → Post a Q) (hb : ¬c → Post b Q) : Post (if c then a else b) Q := by
  split
  · exact ha ‹_›
  · exact hb ‹_›

theorem Post.mono {x : M β} {P Q : β → Prop} (h : Post x P) (hpq : ∀ y, P y → Q y) : Post x Q :=
  fun r hr => hpq r (h r hr)

structure Rel (e : Env α) (s s' : St α) : Prop where
  perm : s'.a.Perm s.a
  log : ∃ l, s'.log = l ++ s.log ∧ ∀ ev ∈ l, ev.i < s.a.size ∧ ev.j < s.a.size ∧ ev.ctx = e.ctx

theorem Rel.size {e : Env α} {s s' : St α} (h : Rel e s s') : s'.a.size = s.a.size := by
  have := h.perm
  rw [Array.perm_iff_toList_perm] at this
  simpa using this.length_eq

theorem Rel.refl (e : Env α) (s : St α) : Rel e s s :=
  ⟨Array.Perm.refl _, ⟨[], by simp⟩⟩

theorem Rel.trans {e : Env α} {s s1 s2 : St α} (h1 : Rel e s s1) (h2 : Rel e s1 s2) : Rel e s s2 := by
  refine ⟨h2.perm.trans h1.perm, ?_⟩
  obtain ⟨l1, e1, p1⟩ := h1.log
  obtain ⟨l2, e2, p2⟩ := h2.log
  refine ⟨l2 ++ l1, by simp [e2, e1], ?_⟩
  intro ev hev
  rcases List.mem_append.mp hev with h | h
  · have := p2 ev h; rw [h1.size] at this; exact this
  · exact p1 ev h

theorem cmpAt_rel {e : Env α} {s0 s : St α} (h0 : Rel e s0 s) (i j : Nat) :
    Post (cmpAt e s i j) (fun r => Rel e s0 r.2) := by
  unfold cmpAt
  split
  · split
    · apply Post.ok
      refine h0.trans ⟨Array.Perm.refl _, ?_⟩
      by_cases ht : e.trace
      · exact ⟨[⟨i, j, e.ctx⟩], by simp [ht], by intro ev hev; simp at hev; subst hev; exact ⟨‹_›, ‹_›, rfl⟩⟩
      · exact ⟨[], by simp [ht], by simp⟩
    · exact Post.error
  · exact Post.error

theorem set_set_perm (a : Array α) (x y : Nat) (hx : x < a.size) (hy : y < a.size) (tmp : α) :
    ((a.set x a[y]).set y tmp (by simpa using hy)).Perm (a.set x tmp) := by
  by_cases hxy : x = y
  · subst hxy
    simp
  · have hs : ((a.set x a[y]).set y tmp (by simpa using hy)) =
        (a.set x tmp).swap x y (by simpa using hx) (by simpa using hy) := by
      apply Array.ext
      · simp
      · intro k h1 h2
        simp only [Array.getElem_swap, Array.getElem_set]
        by_cases hkx : k = x
        · subst hkx; simp [hxy, Ne.symm hxy]
        · by_cases hky : k = y
          · subst hky; simp [Ne.symm hxy]
          · simp [hkx, hky, Ne.symm hkx, Ne.symm hky]
    rw [hs]
    exact Array.swap_perm _ _

theorem cycleGo_perm (tmp : α) : ∀ (ar : List Nat) (a : Array α) (x : Nat) (hx : x < a.size),
    Post (cycleGo a tmp (x :: ar)) (fun r => r.Perm (a.set x tmp))
  | [], a, x, hx => by
    unfold cycleGo setE
    simp only [hx, dite_true]
    exact Post.ok (Array.Perm.refl _)
  | y :: rest, a, x, hx => by
    unfold cycleGo
    unfold getE
    by_cases hy : y < a.size
    · simp only [hy, dite_true]
      unfold setE
      simp only [hx, dite_true]
      show Post (cycleGo (a.set x a[y]) tmp (y :: rest)) _
      have := cycleGo_perm tmp rest (a.set x a[y]) y (by simpa using hy)
      exact this.mono (fun r hr => hr.trans (set_set_perm a x y hx hy tmp))
    · simp only [hy, dite_false]
      intro r hr; cases hr

theorem cycle_rel {e : Env α} {s0 s : St α} (h0 : Rel e s0 s) (ar : List Nat) :
    Post (cycle s ar) (fun r => Rel e s0 r) := by
  unfold cycle
  split
  · exact Post.ok h0
  · exact Post.ok h0
  · rename_i x y rest
    split
    · exact Post.error
    · unfold getE
      by_cases hx : x < s.a.size
      · simp only [hx, dite_true]
        intro r hr
        simp only [bind, Except.bind, pure, Except.pure] at hr
        split at hr
        · cases hr
        · rename_i a' ha'
          cases hr
          have hp := cycleGo_perm s.a[x] (y :: rest) s.a x hx a' ha'
          simp at hp
          exact h0.trans ⟨hp, ⟨[], by simp⟩⟩
      · simp only [hx, dite_false]
        intro r hr
        cases hr

theorem siftLoop_rel (e : Env α) (s0 : St α) (ar0 : Nat) : ∀ (room : Nat) (s : St α) (head pshift : Nat) (acc : List Nat),
    Rel e s0 s → Post (siftLoop e room s ar0 head pshift acc) (fun r => Rel e s0 r.1) := by
  intro room
  induction room with
  | zero =>
    intro s head pshift acc h
    unfold siftLoop
    refine Post.ite (fun _ => Post.ok h) (fun _ => ?_)
    refine Post.bind' (fun rt => ?_)
    refine Post.bind' (fun l => ?_)
    refine Post.bind' (fun lf => ?_)
    refine Post.bind _ (cmpAt_rel h _ _) (fun ⟨c1, s1⟩ h1 => ?_)
    refine Post.bind (fun r => Rel e s0 r.2) ?_ (fun ⟨stop, s2⟩ h2 => ?_)
    · exact Post.ite (fun _ => Post.bind _ (cmpAt_rel h1 _ _) (fun ⟨c2, s⟩ h => Post.ok h)) (fun _ => Post.ok h1)
    · refine Post.ite (fun _ => Post.ok h2) (fun _ => ?_)
      refine Post.bind _ (cmpAt_rel h2 _ _) (fun ⟨c3, s3⟩ h3 => ?_)
      exact Post.error
  | succ room ih =>
    intro s head pshift acc h
    unfold siftLoop
    refine Post.ite (fun _ => Post.ok h) (fun _ => ?_)
    refine Post.bind' (fun rt => ?_)
    refine Post.bind' (fun l => ?_)
    refine Post.bind' (fun lf => ?_)
    refine Post.bind _ (cmpAt_rel h _ _) (fun ⟨c1, s1⟩ h1 => ?_)
    refine Post.bind (fun r => Rel e s0 r.2) ?_ (fun ⟨stop, s2⟩ h2 => ?_)
    · exact Post.ite (fun _ => Post.bind _ (cmpAt_rel h1 _ _) (fun ⟨c2, s⟩ h => Post.ok h)) (fun _ => Post.ok h1)
    · refine Post.ite (fun _ => Post.ok h2) (fun _ => ?_)
      refine Post.bind _ (cmpAt_rel h2 _ _) (fun ⟨c3, s3⟩ h3 => ?_)
      exact Post.ite (fun _ => ih _ _ _ _ h3) (fun _ => ih _ _ _ _ h3)

theorem sift_rel (e : Env α) {s0 s : St α} (h : Rel e s0 s) (head pshift : Nat) :
    Post (sift e s head pshift) (fun r => Rel e s0 r) := by
  unfold sift
  refine Post.bind _ (siftLoop_rel e s0 head 112 s head pshift [head] h) (fun ⟨s1, acc⟩ h1 => ?_)
  exact cycle_rel h1 _

theorem trinkleIter_rel (e : Env α) {s0 s : St α} (h : Rel e s0 s) (ar0 head pshift : Nat) (trusty : Bool) :
    Post (trinkleIter e s ar0 head pshift trusty) (fun r => Rel e s0 r.1) := by
  unfold trinkleIter
  refine Post.bind' (fun l => ?_)
  refine Post.bind' (fun stepson => ?_)
  refine Post.bind _ (cmpAt_rel h _ _) (fun ⟨c, s1⟩ h1 => ?_)
  refine Post.ite (fun _ => Post.ok h1) (fun _ => ?_)
  refine Post.bind (fun r => Rel e s0 r.2) ?_ (fun ⟨brk, s2⟩ h2 => ?_)
  · refine Post.ite (fun _ => ?_) (fun _ => Post.ok h1)
    refine Post.bind' (fun rt => ?_)
    refine Post.bind' (fun l2 => ?_)
    refine Post.bind' (fun lf => ?_)
    refine Post.bind _ (cmpAt_rel h1 _ _) (fun ⟨c1, s⟩ hh => ?_)
    refine Post.ite (fun _ => Post.ok hh) (fun _ => ?_)
    exact Post.bind _ (cmpAt_rel hh _ _) (fun ⟨c2, s⟩ h => Post.ok h)
  · exact Post.ite (fun _ => Post.ok h2) (fun _ => Post.ok h2)

theorem trinkleLoop_rel (e : Env α) (s0 : St α) (ar0 : Nat) : ∀ (room : Nat) (s : St α) (head : Nat) (p : PV) (pshift : Nat)
    (trusty : Bool) (acc : List Nat),
    Rel e s0 s → Post (trinkleLoop e room s ar0 head p pshift trusty acc) (fun r => Rel e s0 r.1) := by
  intro room
  induction room with
  | zero =>
    intro s head p pshift trusty acc h
    unfold trinkleLoop
    refine Post.ite (fun _ => Post.ok h) (fun _ => ?_)
    refine Post.bind _ (trinkleIter_rel e h _ _ _ _) (fun ⟨s1, step⟩ h1 => ?_)
    cases step with
    | none => exact Post.ok h1
    | some st => exact Post.error
  | succ room ih =>
    intro s head p pshift trusty acc h
    unfold trinkleLoop
    refine Post.ite (fun _ => Post.ok h) (fun _ => ?_)
    refine Post.bind _ (trinkleIter_rel e h _ _ _ _) (fun ⟨s1, step⟩ h1 => ?_)
    cases step with
    | none => exact Post.ok h1
    | some st => exact ih _ _ _ _ _ _ h1

theorem trinkle_rel (e : Env α) {s0 s : St α} (h : Rel e s0 s) (head : Nat) (p : PV) (pshift : Nat) (trusty : Bool) :
    Post (trinkle e s head p pshift trusty) (fun r => Rel e s0 r) := by
  unfold trinkle
  refine Post.bind _ (trinkleLoop_rel e s0 head 112 s head p pshift trusty [head] h) (fun ⟨s1, hd, ps, tr, acc⟩ h1 => ?_)
  refine Post.ite (fun _ => ?_) (fun _ => Post.ok h1)
  refine Post.bind _ (cycle_rel h1 _) (fun s2 h2 => ?_)
  exact sift_rel e h2 _ _

theorem mainStep_rel (e : Env α) {s0 s : St α} (h : Rel e s0 s) (k head : Nat) (p : PV) (pshift : Nat) :
    Post (mainStep e k s head p pshift) (fun r => Rel e s0 r.1) := by
  unfold mainStep
  refine Post.bind (fun r => Rel e s0 r.1) ?_ (fun ⟨s1, p1, ps1⟩ h1 => Post.ok h1)
  refine Post.ite (fun _ => ?_) (fun _ => ?_)
  · exact Post.bind _ (sift_rel e h _ _) (fun s1 h1 => Post.ok h1)
  · refine Post.bind' (fun i => ?_)
    refine Post.bind' (fun l => ?_)
    refine Post.ite (fun _ => ?_) (fun _ => ?_)
    · exact Post.bind _ (trinkle_rel e h _ _ _ _) (fun s1 h1 => Post.ite (fun _ => Post.ok h1) (fun _ => Post.ok h1))
    · exact Post.bind _ (sift_rel e h _ _) (fun s1 h1 => Post.ite (fun _ => Post.ok h1) (fun _ => Post.ok h1))

theorem mainLoop_rel (e : Env α) (s0 : St α) : ∀ (k : Nat) (s : St α) (head : Nat) (p : PV) (pshift : Nat),
    Rel e s0 s → Post (mainLoop e k s head p pshift) (fun r => Rel e s0 r.1) := by
  intro k
  induction k with
  | zero => intro s head p pshift h; unfold mainLoop; exact Post.ok h
  | succ k ih =>
    intro s head p pshift h
    unfold mainLoop
    exact Post.bind _ (mainStep_rel e h _ _ _ _) (fun ⟨s1, p1, ps1⟩ h1 => ih _ _ _ _ h1)

theorem dismantleStep_rel (e : Env α) {s0 s : St α} (h : Rel e s0 s) (head : Nat) (p : PV) (pshift : Nat) :
    Post (dismantleStep e s head p pshift) (fun r => Rel e s0 r.1) := by
  unfold dismantleStep
  refine Post.ite (fun _ => Post.ok h) (fun _ => ?_)
  refine Post.bind' (fun l => ?_)
  refine Post.bind' (fun h1 => ?_)
  refine Post.bind' (fun h1' => ?_)
  refine Post.bind _ (trinkle_rel e h _ _ _ _) (fun s1 r1 => ?_)
  refine Post.bind' (fun h2 => ?_)
  exact Post.bind _ (trinkle_rel e r1 _ _ _ _) (fun s2 r2 => Post.ok r2)

theorem dismantle_rel (e : Env α) (s0 : St α) : ∀ (head : Nat) (s : St α) (p : PV) (pshift : Nat),
    Rel e s0 s → Post (dismantle e head s p pshift) (fun r => Rel e s0 r) := by
  intro head
  induction head with
  | zero =>
    intro s p pshift h
    unfold dismantle
    refine Post.ite (fun _ => Post.ok h) (fun _ => ?_)
    exact Post.bind _ (dismantleStep_rel e h _ _ _) (fun ⟨s1, p1, ps1⟩ h1 => Post.error)
  | succ hd ih =>
    intro s p pshift h
    unfold dismantle
    refine Post.ite (fun _ => Post.ok h) (fun _ => ?_)
    exact Post.bind _ (dismantleStep_rel e h _ _ _) (fun ⟨s1, p1, ps1⟩ h1 => ih _ _ _ h1)

theorem smooth_rel (e : Env α) (s : St α) (n : Nat) : Post (smooth e s n) (fun r => Rel e s r) := by
  unfold smooth
  refine Post.bind _ (mainLoop_rel e s _ s _ _ _ (Rel.refl e s)) (fun ⟨s1, p1, ps1⟩ h1 => ?_)
  refine Post.bind _ (trinkle_rel e h1 _ _ _ _) (fun s2 h2 => ?_)
  exact dismantle_rel e s _ _ _ _ h2

/-- the environment `qsort_musl` runs `smooth` in -/
def envOf (fx : Fixes) (c : Cmp α) (lp : Array Nat) : Env α := ⟨c.cmp, c.ctx, lp, fx, c.trace⟩

theorem qsortMusl_rel (fx : Fixes) (c : Cmp α) (s : St α) (nel width : Nat) :
    Post (qsortMusl fx c s nel width) (fun r => Rel (envOf fx c #[]) s r) := by
  unfold qsortMusl
  refine Post.ite (fun _ => Post.ok (Rel.refl _ s)) (fun _ => ?_)
  refine Post.bind' (fun lp => ?_)
  exact (smooth_rel (envOf fx c lp) s _).mono (fun r h => ⟨h.perm, h.log⟩)

theorem qsortChk_rel (fx : Fixes) (c : Cmp α) (g : Args) (s : St α) :
    Post (qsortChk fx c g s) (fun o => Rel (envOf fx c #[]) s o.st) := by
  rcases qsortChk_cases fx c g s with ⟨code, _, h⟩ | h
  · rw [h]; exact Post.ok (Rel.refl _ s)
  · rw [h]; exact Post.bind _ (qsortMusl_rel fx c s _ _) (fun s' h => Post.ok h)

end SafeC.Sort
