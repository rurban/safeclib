import SafeC.Proofs.NormPairMapTables
import SafeC.Proofs.NormCompose
import SafeC.Proofs.NormCompositeStarter
import SafeC.Proofs.NormComposeSpec
/-! C17 — `pcOf allFixed` = `UCD.primaryComposite` on code points -/
namespace SafeC.Norm
open SafeC.Gen

attribute [local irreducible] cell UniCanon.main UniCanon.planes UniCanon.rows UniCombin.main UniCombin.planes UniCombin.rows
  UniCompos.main UniCompos.planes UniCompos.rows UniCompos.pairs UniCompos.listOff UniCompos.listLen UniCompos.listCp
  UCD14.compP UCD14.cccIdx UCD14.cccPages UCD14.asgIdx UCD14.asgPages

theorem isExcl_hangul {c : Nat} (h : 0xAC00 ≤ c ∧ c ≤ 0xD7A3) : isExcl c = false := by
  have hh := hangul_not_excluded
  unfold isExcl
  rw [List.all_eq_true] at hh
  rw [Bool.eq_false_iff]
  intro hany
  rw [List.any_eq_true] at hany
  obtain ⟨r, hr, hc⟩ := hany
  have := hh r hr
  simp only [Bool.or_eq_true, decide_eq_true_eq, Bool.and_eq_true] at this hc
  omega

/-- the two Hangul tests of `_composite_cp` are the Standard's -/
theorem hangul_LV_iff (a b : Nat) : (isL a && isV b) = true ↔
    (UCD.LBase ≤ a ∧ a < UCD.LBase + UCD.LCount ∧ UCD.VBase ≤ b ∧ b < UCD.VBase + UCD.VCount) := by
  unfold isL isV UCD.LBase UCD.LCount UCD.VBase UCD.VCount
  rw [HLBase_eq, HLFinal_eq, HVBase_eq, HVFinal_eq]
  simp only [Bool.and_eq_true, decide_eq_true_eq]
  omega

theorem hangul_LVT_iff (a b : Nat) : (isLV a && isT b) = true ↔
    (UCD.isHangulS a = true ∧ (a - UCD.SBase) % UCD.TCount = 0 ∧ UCD.TBase < b ∧ b < UCD.TBase + UCD.TCount) := by
  unfold isLV isS isT UCD.isHangulS UCD.SBase UCD.SCount UCD.TCount UCD.TBase
  rw [HSBase_eq, HSFinal_eq, HTCount_eq, HTBase_eq, HTFinal_eq]
  simp only [Bool.and_eq_true, decide_eq_true_eq, beq_iff_eq]
  omega

theorem compositeCp_hangul {a b s : Nat} (h : UCD.hangulCompose a b = some s) :
    compositeCp allFixed a b = s ∧ 0xAC00 ≤ s ∧ s ≤ 0xD7A3 := by
  rcases hangulCompose_cases h with ⟨l, v, hl, hv, rfl, rfl, rfl⟩ | ⟨l, v, t, hl, hv, ht0, ht, rfl, rfl, rfl⟩
  · exact ⟨(hangul_LV allFixed l v hl hv).1, by omega⟩
  · exact ⟨(hangul_LVT allFixed l v t hl hv ht0 ht).1, by omega⟩

theorem ucd_to_pcOf {a b c : Nat} (h : UCD.primaryComposite a b = some c) : pcOf allFixed a b = some c := by
  unfold UCD.primaryComposite at h
  have hcomp : compositeCp allFixed a b = c ∧ isExcl c = false ∧ c ≠ 0 := by
    cases hh : UCD.hangulCompose a b with
    | some s =>
      rw [hh] at h
      cases h
      obtain ⟨e, hs⟩ := compositeCp_hangul hh
      exact ⟨e, isExcl_hangul hs, by omega⟩
    | none =>
      rw [hh] at h
      obtain ⟨m, hm, e1, e2, e3⟩ := tableCompose_sound a b _ _ _ _ h
      have := compEntry_fwd hm
      rwa [e1, e2, e3] at this
  unfold pcOf
  simp [hcomp.1, hcomp.2.1, hcomp.2.2]

theorem pcOf_to_ucd {a b c : Nat} (ha : a ≤ UniCompos.unicodeMax) (hb : b ≤ UniCompos.unicodeMax)
    (h : pcOf allFixed a b = some c) : UCD.primaryComposite a b = some c ∧ UCD.assigned c = true := by
  unfold pcOf at h
  dsimp only at h
  split at h
  · rename_i hc
    have ec : compositeCp allFixed a b = c := by injection h
    obtain ⟨hne, hnx⟩ := hc
    rw [ec] at hne hnx
    simp only [Bool.not_eq_eq_eq_not, Bool.not_true] at hnx
    unfold UCD.primaryComposite
    cases hh : UCD.hangulCompose a b with
    | some s =>
      obtain ⟨e, hs⟩ := compositeCp_hangul hh
      rw [← ec, e]
      exact ⟨rfl, hangulS_assigned hs⟩
    | none =>
      -- neither Hangul test of `_composite_cp` fires: the table branch
      unfold UCD.hangulCompose at hh
      simp only [← hangul_LV_iff, ← hangul_LVT_iff] at hh
      unfold compositeCp at ec
      have hb0 : b ≠ 0 := fun x => by simp only [x, ↓reduceIte] at ec; exact hne ec.symm
      have hr : ¬ (UniCompos.unicodeMax < a ∨ UniCompos.unicodeMax < b) := by omega
      have hlv : ¬ (isL a && isV b) = true := fun x => by rw [if_pos x] at hh; cases hh
      have hlvt : ¬ (isLV a && isT b) = true := fun x => by rw [if_neg hlv, if_pos x] at hh; cases hh
      simp only [hb0, hr, hlv, hlvt, ↓reduceIte, Bool.false_eq_true] at ec
      have hcell : cellOf a ≠ 0 ∧ searchList b (cell 16 UniCompos.listOff (cellOf a - 1)) (cell 8 UniCompos.listLen (cellOf a - 1)) = c := by
        unfold cellOf
        split at ec
        · exact absurd ec.symm hne
        · exact absurd ec.symm hne
        · rename_i r hrow
          rw [hrow]
          by_cases hz : cell 16 UniCompos.rows (r * 256 + a % 256) = 0
          · rw [if_pos hz] at ec; exact absurd ec.symm hne
          · rw [if_neg hz] at ec
            have hk : (if a < UniCompos.firstLong ∧ (!allFixed.compCast) = true then b % 65536 else b) = b := by
              have : (!allFixed.compCast) = false := rfl
              simp [this]
            rw [hk] at ec
            exact ⟨hz, ec⟩
      obtain ⟨hz, hs⟩ := hcell
      -- the list reached from `a` is the list recorded for `a`
      have ha' : a < 0x110000 := by rw [unicodeMax_eq] at ha; omega
      rcases cellOf_listCp ha' with h0 | ⟨hle, hcpa⟩
      · exact absurd h0 hz
      · have hi : cellOf a - 1 < UniCompos.listsN := by omega
        obtain ⟨j, hj, e1, e2⟩ := searchList_found b _ _ (by rw [hs]; exact hne)
        rw [hs] at e2
        have hb2 := allBelow_spec (allBelow_spec bwd2_check _ hi) j hj
        simp only [hcpa, e1, e2, testBit_maskOf, ← isExcl_eq, Bool.or_eq_true, beq_iff_eq, Bool.and_eq_true] at hb2
        rcases hb2 with hx | ⟨hasg, htc⟩
        · rw [hnx] at hx; cases hx
        · exact ⟨htc, hasg⟩
  · cases h

/-- **the repaired pair map is D114's, on code points** -/
theorem pcOf_eq_ucd {a b : Nat} (ha : a ≤ UniCompos.unicodeMax) (hb : b ≤ UniCompos.unicodeMax) :
    pcOf allFixed a b = UCD.primaryComposite a b := by
  cases h1 : pcOf allFixed a b with
  | some c => exact (pcOf_to_ucd ha hb h1).1.symm
  | none =>
    cases h2 : UCD.primaryComposite a b with
    | none => rfl
    | some c => rw [ucd_to_pcOf h2] at h1; cases h1

end SafeC.Norm
