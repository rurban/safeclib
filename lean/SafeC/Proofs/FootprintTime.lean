import SafeC.Proofs.AccTime
/-!
# The exact footprint of the tail of `asctime_s` / `ctime_s` (C02, C12)

libc's text a terminated string of `n < 120` characters: the tail loads from the text and from dest and stores to dest.
Staging path (`dmax < 120`): `strlen(text)`, `strcpy_s(dest, dmax, text)` — any placement.  Direct path (`dmax ≥ 120`): libc
writes its text into dest (`AccS_copyText`: the text apart from dest, so that dest then holds the string), the tail measures
dest and calls the same-pointer `strcpy_s`.  `timeTail_fails_accs`: libc giving up after formatting.
-/
namespace SafeC
open Gen

variable {R W : Nat → Prop} {d : Nat → Nat}

/-- libc storing a string of `n` characters (at `text`, apart from the target) at `dst`: loads the string,
stores `dst[0..n]`, which then holds the string -/
theorem AccS_copyText (n : Nat) : ∀ (fuel text dst : Nat) (d : Nat → Nat), n < fuel →
    (∀ j, j < n → d (text + j) ≠ 0) → d (text + n) = 0 → (dst + n < text ∨ text + n < dst) →
    (∀ j, j ≤ n → R (text + j)) → (∀ j, j ≤ n → W (dst + j)) →
    AccS R W d (copyText fuel text dst)
      (fun _ d' => (∀ j, j ≤ n → d' (dst + j) = d (text + j)) ∧ ∀ a, ¬ (dst ≤ a ∧ a ≤ dst + n) → d' a = d a) := by
  induction n with
  | zero =>
    intro fuel text dst d hf _ hnul _ hr hw
    obtain ⟨f, rfl⟩ : ∃ f, fuel = f + 1 := ⟨fuel - 1, by omega⟩
    refine AccS.loadBind (by simpa using hr 0 (Nat.le_refl _)) ?_
    refine AccS.storeBind (by simpa using hw 0 (Nat.le_refl _)) ?_
    have h0 : d text = 0 := by simpa using hnul
    rw [if_pos h0]
    refine AccS.pure _ ⟨?_, ?_⟩
    · intro j hj
      have : j = 0 := by omega
      subst this
      exact updF_same
    · intro a ha
      exact updF_ne fun e => ha ⟨by omega, by omega⟩
  | succ n ih =>
    intro fuel text dst d hf hnz hnul hdisj hr hw
    obtain ⟨f, rfl⟩ : ∃ f, fuel = f + 1 := ⟨fuel - 1, by omega⟩
    refine AccS.loadBind (by simpa using hr 0 (by omega)) ?_
    refine AccS.storeBind (by simpa using hw 0 (by omega)) ?_
    have h0 : ¬ d text = 0 := by simpa using hnz 0 (by omega)
    rw [if_neg h0]
    have hd1 : ∀ j, j ≤ n + 1 → updF d dst (d text) (text + j) = d (text + j) := fun j hj => updF_ne (by omega)
    have := ih f (text + 1) (dst + 1) (updF d dst (d text)) (by omega)
      (fun j hj => by
        have e := hd1 (1 + j) (by omega)
        rw [show text + 1 + j = text + (1 + j) by omega, e]
        exact hnz (1 + j) (by omega))
      (by
        have e := hd1 (n + 1) (Nat.le_refl _)
        rw [show text + 1 + n = text + (n + 1) by omega, e]
        exact hnul)
      (by omega)
      (fun j hj => by have := hr (j + 1) (by omega); rwa [show text + (j + 1) = text + 1 + j by omega] at this)
      (fun j hj => by have := hw (j + 1) (by omega); rwa [show dst + (j + 1) = dst + 1 + j by omega] at this)
    refine AccS.conseq this (fun _ d' ⟨p1, p2⟩ => ⟨?_, ?_⟩)
    · intro j hj
      cases j with
      | zero =>
        exact (p2 dst (fun h => by omega)).trans updF_same
      | succ j =>
        have := p1 j (by omega)
        rw [show dst + (j + 1) = dst + 1 + j by omega, this, show text + 1 + j = text + (1 + j) by omega,
          hd1 (1 + j) (by omega)]
        congr 1; omega
    · intro a ha
      rw [p2 a (fun h => ha ⟨by omega, by omega⟩)]
      exact updF_ne fun e => ha ⟨by omega, by omega⟩

theorem Str.of_text {p n m a : Nat} (hnul : d (p + n) = 0) (hr : ∀ j, j ≤ n → R (p + j)) (ha : Str d p m a) : R a := by
  have := Str.of_term hnul ha
  have e : a = p + (a - p) := by have := this.1; omega
  rw [e]; exact hr _ (by have := this.2; omega)

/-- **the tail**, libc's text NULL or a string of `n < 120` characters (on the direct path: apart from `dest[0..n]`) -/
theorem timeTail_accs (cfg : Cfg) (dest dmax : Nat) (db : Bos) (text n : Nat) (h26 : 26 ≤ dmax)
    (htext : text ≠ 0 → (∀ j, j < n → d (text + j) ≠ 0) ∧ d (text + n) = 0 ∧ n < 120 ∧
      (120 ≤ dmax → dest + n < text ∨ text + n < dest))
    (hrt : text ≠ 0 → ∀ j, j ≤ n → R (text + j))
    (hr : ∀ a, Cells dest dmax a → R a) (hw : ∀ a, Cells dest dmax a → W a) :
    AccS R W d (timeTail cfg dest dmax db text) (fun _ _ => True) := by
  have cpy : ∀ s b d', (∀ a, Str d' s dmax a → R a) →
      AccS R W d' (do let _ ← strcpy_s cfg dest dmax s b; pure EOK : Prog Nat) (fun _ _ => True) :=
    fun s b d' hs => AccS.thenPure (strcpyG_accs _ cfg dest dmax s b (fun _ => hs) (fun _ => hr) (fun _ => hw))
  unfold timeTail
  extract_lets nospc
  have hn : ∀ d', AccS R W d' nospc (fun _ _ => True) := fun d' => AccS.handlerSBind _ (AccS.pure _ trivial)
  refine AccS.ite (fun h => ?_) fun h => AccS.ite (fun h120 => ?_) fun _ => ?_
  · have ht : text = 0 := h.resolve_right (by simp)
    refine AccS.bind (Q := fun _ _ => True) (AccS.ite (fun h' => absurd ht h'.1) fun _ => AccS.pure _ trivial) (fun _ d' _ => ?_)
    exact AccS.bind (Q := fun _ _ => True) (AccS.ite (fun _ => AccS_memsetP 0 dmax dest hw)
      fun _ => AccS.storeBind (hw dest ⟨Nat.le_refl _, by omega⟩) (AccS.pure _ trivial)) (fun _ _ _ => AccS.pure _ trivial)
  · have ht : text ≠ 0 := fun e => h (Or.inl e)
    obtain ⟨hnz, hnul, hlt, hdisj⟩ := htext ht
    refine AccS.bind (AccS_copyText n 120 text dest d hlt hnz hnul (hdisj h120) (hrt ht)
      (fun j hj => hw _ ⟨by omega, by omega⟩)) (fun _ d' ⟨p1, _⟩ => ?_)
    have hterm : d' (dest + n) = 0 := by rw [p1 n (Nat.le_refl _)]; exact hnul
    have hstr : ∀ m a, Str d' dest m a → R a := fun m a ha =>
      hr a ((Str.of_term hterm ha).within (Nat.le_refl _) (by omega))
    refine AccS.bind (AccS_strlenP scanFuel dest 0 (hstr _)) (fun len d'' e => ?_)
    subst e
    exact AccS.ite (fun _ => cpy dest db _ (hstr _)) fun _ => hn _
  · have ht : text ≠ 0 := fun e => h (Or.inl e)
    obtain ⟨_, hnul, _, _⟩ := htext ht
    refine AccS.bind (AccS_strlenP scanFuel text 0 fun a => Str.of_text hnul (hrt ht)) (fun len d' e => ?_)
    subst e
    exact AccS.ite (fun _ => cpy text none _ fun a => Str.of_text hnul (hrt ht)) fun _ => hn _

/-- the tail with `libcFails` (glibc's `ctime_r` from the year 10000 on): on the direct path the 25 characters libc had
formatted are copied, then dest is cleared -/
theorem timeTail_fails_accs (cfg : Cfg) (dest dmax : Nat) (db : Bos) (text n : Nat) (hpos : 0 < dmax)
    (htext : text ≠ 0 → 120 ≤ dmax →
      (∀ j, j < n → d (text + j) ≠ 0) ∧ d (text + n) = 0 ∧ n < 120 ∧ (dest + n < text ∨ text + n < dest))
    (hr : text ≠ 0 → 120 ≤ dmax → ∀ j, j ≤ n → R (text + j)) (hw : ∀ a, Cells dest dmax a → W a) :
    AccS R W d (timeTail cfg dest dmax db text true) (fun _ _ => True) := by
  unfold timeTail
  extract_lets nospc
  have clr : ∀ d' : Nat → Nat, AccS R W d' (do
      (if cfg.slack = true then memsetP 0 dmax dest else store dest 0)
      pure NEG1 : Prog Nat) (fun _ _ => True) := fun d' =>
    AccS.bind (Q := fun _ _ => True) (AccS.ite (fun _ => AccS_memsetP 0 dmax dest hw)
      fun _ => AccS.storeBind (hw dest ⟨Nat.le_refl _, by omega⟩) (AccS.pure _ trivial)) (fun _ _ _ => AccS.pure _ trivial)
  refine AccS.ite (fun _ => ?_) fun h => absurd (Or.inr rfl) h
  refine AccS.bind (Q := fun _ _ => True) (AccS.ite (fun h => ?_) fun _ => AccS.pure _ trivial) (fun _ d' _ => clr d')
  obtain ⟨hnz, hnul, hn, hdisj⟩ := htext h.1 h.2
  exact (AccS_copyText n 120 text dest d hn hnz hnul hdisj (hr h.1 h.2)
    (fun j hj => hw _ ⟨by omega, by omega⟩)).conseq fun _ _ _ => trivial

end SafeC
