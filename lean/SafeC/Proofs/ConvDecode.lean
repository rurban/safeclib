import SafeC.Proofs.ConvCodec
/-! C15: the converse codec direction — whatever glibc's decoder accepts is the encoder's (shortest) form of the
value it yields; the value is never a surrogate and never above 31 bits. -/
namespace SafeC.Conv.Libc

private theorem ite_ok {p : Prop} [Decidable p] {Y X : Dec} {ch n : Nat} (hY : Y ≠ .ok ch n)
    (h : (if p then Y else X) = Dec.ok ch n) : ¬ p ∧ X = .ok ch n := by
  split at h
  · exact absurd h hY
  · exact ⟨‹_›, h⟩

/-- the tail of `utf8Body` once the lead byte is classified, as a function of the continuation bytes available -/
private theorem body_tail {cnt hi ch n : Nat} {rest : List Nat}
    (h : (if (!(rest.take (cnt - 1)).all isCont) = true then Dec.illegal
          else if (rest.take (cnt - 1)).length < cnt - 1 then Dec.incomplete
          else if ((decide (cnt > 2) && decide (accum hi (rest.take (cnt - 1)) < minOf cnt)) || isSurr (accum hi (rest.take (cnt - 1)))) = true
            then Dec.illegal else Dec.ok (accum hi (rest.take (cnt - 1))) cnt) = Dec.ok ch n) :
    (rest.take (cnt - 1)).all isCont = true ∧ cnt - 1 ≤ rest.length ∧ (cnt > 2 → minOf cnt ≤ ch) ∧ isSurr ch = false ∧
      accum hi (rest.take (cnt - 1)) = ch ∧ cnt = n := by
  obtain ⟨h1, h⟩ := ite_ok (by simp) h
  obtain ⟨h2, h⟩ := ite_ok (by simp) h
  obtain ⟨h3, h⟩ := ite_ok (by simp) h
  cases h
  simp only [Bool.not_eq_true', Bool.not_eq_false] at h1
  simp only [List.length_take, Nat.not_lt] at h2
  simp only [Bool.or_eq_true, Bool.and_eq_true, decide_eq_true_eq, not_or, not_and, Nat.not_lt, Bool.not_eq_true] at h3
  exact ⟨by simpa using h1, by omega, h3.1, h3.2, rfl, rfl⟩

theorem utf8Body_ok_cnt {b ch n cnt hi : Nat} {rest : List Nat} (h : utf8Body (b :: rest) = .ok ch n) (hb : ¬ b < 0x80)
    (hl : lead b = some (cnt, hi)) : n = cnt := by
  simp only [utf8Body, hb, hl, if_false] at h
  exact (body_tail h).2.2.2.2.2.symm

/-- a value whose top digits are the payload `hi` of a lead byte announcing `n` bytes (and which is not overlong) is in the
range for which the encoder chooses `n` bytes, under that lead byte -/
theorem nbytes_of_lead {b n hi ch : Nat} (hl : lead b = some (n, hi)) (hdiv : ch / 64 ^ (n - 1) = hi)
    (hmin : n > 2 → minOf n ≤ ch) :
    ¬ ch > 0x7fffffff ∧ ¬ ch < 0x80 ∧ nbytes ch = n ∧ b = 256 - 2 ^ (8 - n) + hi ∧ 2 ≤ n := by
  obtain ⟨h2, h6, rfl, hh, hk⟩ := lead_iff.1 hl
  have hf : fits n ch := ⟨h2, h6, hmin, (pay_lt h2 h6).1 (hdiv ▸ hh)⟩
  refine ⟨by have := fits_max hf; omega, ?_, nbytes_eq hf, rfl, h2⟩
  by_cases hn : n = 2
  · subst hn
    omega
  · have := Nat.pow_le_pow_right (n := 2) (by decide) (show 7 ≤ 5 * n - 4 by omega)
    have := hmin (by omega)
    unfold minOf at this
    omega

theorem utf8Body_ok (bs : List Nat) (ch n : Nat) (h : utf8Body bs = .ok ch n) :
    utf8Enc ch = some (bs.take n) ∧ n ≤ bs.length ∧ 0 < n := by
  cases bs with
  | nil => simp [utf8Body] at h
  | cons b rest =>
    simp only [utf8Body] at h
    split at h
    · rename_i hb
      cases h
      have hs : isSurr ch = false := isSurr_false_of_lt (by omega)
      have h1 : ¬ ch > 0x7fffffff := by omega
      simp [utf8Enc, hs, h1, hb]
    · rename_i hb
      split at h
      · cases h
      · rename_i cnt hi hl
        obtain ⟨hall, hlen, hmin, hsur, hacc, rfl⟩ := body_tail h
        have hcl : (rest.take (cnt - 1)).length = cnt - 1 := by rw [List.length_take]; omega
        -- the continuation bytes are the digits of `ch`, with the payload of the lead byte on top
        obtain ⟨hcs, hdiv⟩ := conts_accum hi _ hall
        rw [hacc, hcl] at hcs hdiv
        obtain ⟨hmax, h80, hn, rfl, h2⟩ := nbytes_of_lead hl hdiv hmin
        obtain ⟨k, rfl⟩ : ∃ k, cnt = k + 1 := ⟨cnt - 1, by omega⟩
        rw [utf8Enc_eq, hsur, if_neg (by simpa using hmax), if_neg h80, hn, mb, hdiv, hcs]
        exact ⟨rfl, by simp only [List.length_cons]; omega, by omega⟩

theorem body_ok (loc : Locale) (bs : List Nat) (ch n : Nat) (h : body loc bs = .ok ch n) :
    enc loc ch = some (bs.take n) ∧ n ≤ bs.length ∧ 0 < n := by
  cases loc
  · cases bs with
    | nil => simp [body, asciiBody] at h
    | cons b rest =>
      simp only [body, asciiBody] at h
      split at h
      · rename_i hb; cases h; simp [enc, asciiEnc, hb]
      · cases h
  · exact utf8Body_ok bs ch n h

theorem enc_some_range (loc : Locale) (c : Nat) (e : List Nat) (h : enc loc c = some e) :
    c ≤ 0x7fffffff ∧ isSurr c = false := by
  cases loc
  · simp only [enc, asciiEnc] at h
    split at h
    · exact ⟨by omega, isSurr_false_of_lt (by omega)⟩
    · cases h
  · exact utf8Enc_range h

/-- the encoder produces the SHORTEST form: its length is determined by the value's magnitude -/
theorem utf8Enc_length (c : Nat) (e : List Nat) (h : utf8Enc c = some e) :
    e.length = if c < 0x80 then 1 else if c < 0x800 then 2 else if c < 0x10000 then 3 else if c < 0x200000 then 4
      else if c < 0x4000000 then 5 else 6 := by
  rw [utf8Enc_eq] at h
  split at h
  · cases h
  rename_i hbad
  split at h
  · rename_i h1; cases h; rw [if_pos h1]; rfl
  · rename_i h1; cases h
    have := (nbytes_fits (c := c) (by simp at hbad; omega)).1
    rw [if_neg h1]
    show _ = nbytes c
    simp only [mb, List.length_cons, conts_length]
    omega

theorem encodeAll_decodeAll (loc : Locale) (fuel : Nat) (bs ws : List Nat) (h : decodeAll loc fuel bs = some ws) :
    encodeAll loc ws = some bs := by
  induction fuel generalizing bs ws with
  | zero =>
    simp only [decodeAll] at h
    split at h
    · cases h; rename_i he; simp only [List.isEmpty_iff] at he; subst he; rfl
    · cases h
  | succ fuel ih =>
    simp only [decodeAll] at h
    split at h
    · cases h; rename_i he; simp only [List.isEmpty_iff] at he; subst he; rfl
    · split at h
      · rename_i ch n hb
        obtain ⟨he, hn, _⟩ := body_ok loc bs ch n hb
        cases hd : decodeAll loc fuel (bs.drop n) with
        | none => simp [hd] at h
        | some ws' =>
          simp only [hd, Option.map_some, Option.some.injEq] at h
          subst h
          simp only [encodeAll, he, ih _ _ hd, List.take_append_drop]
      · cases h

theorem encodeAll_mem (loc : Locale) (ws bs : List Nat) (h : encodeAll loc ws = some bs) :
    ∀ c ∈ ws, ∃ e, enc loc c = some e := by
  induction ws generalizing bs with
  | nil => simp
  | cons c cs ih =>
    simp only [encodeAll] at h
    split at h
    · rename_i a b ha hb
      intro x hx
      rcases List.mem_cons.mp hx with rfl | hx
      · exact ⟨a, ha⟩
      · exact ih b hb x hx
    · cases h

end SafeC.Conv.Libc
