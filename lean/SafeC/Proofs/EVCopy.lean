import SafeC.Proofs.EVRQuery
import SafeC.Models.Copy
/-!
# Event walks of the copy family

The handler discipline alone, through `EV`: for every memory content, and with the object sizes known as well.
strcpy_s and strcat_s under `BosOk` (a known destination object that `dmax` exceeds has 1..RSIZE_MAX_STR cells — above
that `handle_str_bos_overflow`'s inner `strnlen_s` reports a second time), strncpy_s and strncat_s under `SmallBos` (every
known object has 1..RSIZE_MAX_STR cells; their `slen` check calls `strnlen_s(dest, dmax)`) and `SrcOk` (known finding
`slen-bos`); wcscat_s for all arguments (wcscpy_s: `wcscpy_s_ev`, `Props/C05Query.lean`).  `Props/C05.lean` reads these
walks at object size UNKNOWN, next to a run that returns, as C05 statements.
-/
namespace SafeC.Props.C05Query
open SafeC Gen SafeC.Props.C05Ev SafeC.Props.C05Docs

abbrev PC : Nat → List Event → Prop := Once .str

theorem copyLoop_ev {S : List Nat} (cfg : Cfg) (od bd : Bool) (bumper oD oM n d s l : Nat) (h1 : ESNOSPC ∈ S := by decide)
    (h2 : ESOVRLP ∈ S := by decide) : EV (copyLoop cfg od bd bumper oD oM n d s l) (OnceIn S .str) := by
  induction n generalizing d s l with
  | zero => exact handleError_ret_in _ _ _ _ h1
  | succ n ih =>
    -- the `if cfg.slack …` in front of `pure EOK` is elaborated with `pure EOK` inside both branches
    exact .ite (handleError_ret_in _ _ _ _ h2) <|
      .ite (.ite (Quiet.then_ (.nullSlack ..) fun _ => eok_in) (Quiet.then_ (.storeP ..) fun _ => eok_in)) <|
      Quiet.then_ (.loadP _) fun _ => Quiet.then_ (.storeP ..) fun _ =>
        .ite (.ite (Quiet.then_ (.nullSlack ..) fun _ => eok_in) eok_in) (ih ..)

/-- `findEnd`: found silently, or an error exit with exactly one report of the code it hands back -/
abbrev PF (S : List Nat) : Nat ⊕ (Nat × Nat) → List Event → Prop :=
  fun r es => (es = [] ∧ ∃ x, r = .inr x) ∨ (∃ c, r = .inl c ∧ c ∈ S ∧ c ≠ EOK ∧ es = [.handler .str c])

theorem findEnd_ev {S : List Nat} (cfg : Cfg) (cb : Bool) (bumper oD oM n d : Nat) (hn : n ≠ 0) (h1 : ESOVRLP ∈ S := by decide)
    (h2 : ESUNTERM ∈ S := by decide) : EV (findEnd cfg cb bumper oD oM n d) (PF S) := by
  induction n generalizing d with
  | zero => exact absurd rfl hn
  | succ n ih =>
    exact Quiet.then_ (.loadP _) fun _ => .ite (.pure _ (.inl ⟨rfl, _, rfl⟩)) <|
      .ite ((EV.handleError ..).bind fun _ _ he => he ▸ .pure _ (.inr ⟨_, rfl, h1, ne_ESOVRLP, rfl⟩)) <|
      .iteH (fun _ => (EV.handleError ..).bind fun _ _ he => he ▸ .pure _ (.inr ⟨_, rfl, h2, ne_ESUNTERM, rfl⟩))
        fun h => ih _ h

theorem catTail_ev {S : List Nat} {cfg : Cfg} {cb : Bool} {bumper oD oM n d : Nat} {k : Nat → Nat → Prog Nat} (hn : n ≠ 0)
    (hk : ∀ x y, EV (k x y) (OnceIn S .str)) (h1 : ESOVRLP ∈ S := by decide) (h2 : ESUNTERM ∈ S := by decide) :
    EV (do match ← findEnd cfg cb bumper oD oM n d with
           | .inl code => pure code
           | .inr (x, y) => k x y : Prog Nat) (OnceIn S .str) :=
  (findEnd_ev cfg cb bumper oD oM n d hn h1 h2).bind fun r es h => by
    rcases h with ⟨rfl, ⟨x, y⟩, rfl⟩ | ⟨c, rfl, hS, hc, rfl⟩
    · exact hk x y
    · exact .pure _ (.inr ⟨hS, hc, rfl⟩)

theorem handleStrBosOverflow_ev {S : List Nat} (cfg : Cfg) (dest dmax : Nat) (hd : dest ≠ 0) (hz : dmax ≠ 0)
    (hm : dmax ≤ RSIZE_MAX_STR) (h1 : ESLEMAX ∈ S := by decide) (h2 : EOVERFLOW ∈ S := by decide) :
    EV (handleStrBosOverflow cfg dest dmax) (OnceIn S .str) :=
  Quiet.then_ (strnlen_s_ok_ro hd hz hm).quiet fun _ => .ite (handleError_ret_in _ _ _ _ h1) (handleError_ret_in _ _ _ _ h2)

/-- object-size hypothesis under which `handle_str_bos_overflow` reports once -/
def SmallBos (db : Bos) : Prop := ∀ b, db = some b → b ≠ 0 ∧ b ≤ RSIZE_MAX_STR

/-- all the entry block needs of the object size: a known size that `dmax` exceeds is one for which
`handle_str_bos_overflow` reports once (its inner `strnlen_s(dest, destbos)` passes its own checks) -/
def BosOk (db : Bos) (dmax : Nat) : Prop := ∀ b, db = some b → b < dmax → b ≠ 0 ∧ b ≤ RSIZE_MAX_STR

theorem SmallBos.ok {db : Bos} (h : SmallBos db) (dmax : Nat) : BosOk db dmax := fun b e _ => h b e
theorem BosOk.of_le {db : Bos} {dmax : Nat} (h : ∀ b, db = some b → dmax ≤ b) : BosOk db dmax :=
  fun b e hlt => absurd hlt (Nat.not_lt.mpr (h b e))

theorem chkDmaxClear_ev {S : List Nat} (cfg : Cfg) (dest dmax : Nat) (db : Bos) {max : Nat} {k : Prog Nat} (hd : dest ≠ 0)
    (hb : BosOk db dmax) (hk : (∀ b, db = some b → dmax ≤ b) → (db = none → dmax ≤ max) → EV k (OnceIn S .str))
    (h1 : ESLEMAX ∈ S := by decide) (h2 : EOVERFLOW ∈ S := by decide) :
    EV (chkDmaxClear cfg dest dmax db max k) (OnceIn S .str) :=
  match db, hb, hk with
  | none, _, hk => .iteH (fun _ => failS_in _ h1) fun h => hk nofun fun _ => Nat.not_lt.mp h
  | some b, hb, hk =>
    .iteH (fun hlt => .ite (handleError_ret_in _ _ _ _ h1) <|
        (handleStrBosOverflow_ev cfg dest b hd (hb b rfl hlt).1 (hb b rfl hlt).2 h1 h2).bind fun _ es h =>
          .pure _ ((List.append_nil es).symm ▸ h))
      fun h => hk (fun _ e => Option.some.inj e ▸ Nat.not_lt.mp h) nofun

theorem strcpyG_ev_partial (max : Nat) (cfg : Cfg) (dest dmax src : Nat) (db : Bos) (hb : BosOk db dmax) :
    EV (strcpyG max cfg dest dmax src db) (OnceIn SCopy .str) :=
  .iteH (fun _ => failS_in _) fun hd => .ite (failS_in _) <| chkDmaxClear_ev _ _ _ _ hd hb fun _ _ =>
    .ite (handleError_ret_in ..) <| .ite eok_in <| .ite (copyLoop_ev ..) (copyLoop_ev ..)

theorem strcat_s_ev_partial (cfg : Cfg) (dest dmax src : Nat) (db : Bos) (hb : BosOk db dmax) :
    EV (strcat_s cfg dest dmax src db) (OnceIn SCat .str) :=
  .iteH (fun _ => failS_in _) fun hd => .iteH (fun _ => failS_in _) fun hz => chkDmaxClear_ev _ _ _ _ hd hb fun _ _ =>
    .ite (handleError_ret_in ..) <|
      .ite (catTail_ev hz fun _ _ => copyLoop_ev ..) (catTail_ev hz fun _ _ => copyLoop_ev ..)

/-- the source-size hypothesis: unknown, or `slen` within it (otherwise the exit goes through
`handle_str_bos_overflow(dest, destbos)`, which reports twice when destbos is unknown: known finding `slen-bos`) -/
def SrcOk (sb : Bos) (slen : Nat) : Prop := ∀ b, sb = some b → slen ≤ b

theorem chkSlenMaxClear_ev {S : List Nat} (cfg : Cfg) (dest dmax slen : Nat) {k : Prog Nat} (hd : dest ≠ 0) (hz : dmax ≠ 0)
    (hm : dmax ≤ RSIZE_MAX_STR) (hk : EV k (OnceIn S .str)) (h1 : ESLEMAX ∈ S := by decide) :
    EV (chkSlenMaxClear cfg dest dmax slen RSIZE_MAX_STR k) (OnceIn S .str) :=
  .ite (Quiet.then_ (strnlen_s_ok_ro hd hz hm).quiet fun _ => handleError_ret_in _ _ _ _ h1) hk

theorem SmallBos.dmax_le {db : Bos} (hb : SmallBos db) {dmax : Nat} (h1 : ∀ b, db = some b → dmax ≤ b)
    (h2 : db = none → dmax ≤ RSIZE_MAX_STR) : dmax ≤ RSIZE_MAX_STR :=
  match db, hb, h1, h2 with
  | none, _, _, h2 => h2 rfl
  | some b, hb, h1, _ => Nat.le_trans (h1 b rfl) (hb b rfl).2

theorem srcOk_ev {S : List Nat} {sb : Bos} {slen : Nat} (hs : SrcOk sb slen) {p : Nat → Prog Nat} {q : Prog Nat}
    (hq : EV q (OnceIn S .str)) :
    EV (match sb with | some b => if slen > b then p b else q | none => q) (OnceIn S .str) :=
  match sb, hs with
  | none, _ => hq
  | some b, hs => .iteH (fun h => absurd h (Nat.not_lt.mpr (hs b rfl))) fun _ => hq

theorem strncpy_s_ev_partial (cfg : Cfg) (dest dmax src slen : Nat) (db sb : Bos) (hb : SmallBos db) (hs : SrcOk sb slen) :
    EV (strncpy_s cfg dest dmax src slen db sb) (OnceIn SCopy .str) :=
  .ite (Quiet.then_ (.storeP ..) fun _ => eok_in) <|
  .iteH (fun _ => failS_in _) fun hd => .iteH (fun _ => failS_in _) fun hz =>
    chkDmaxClear_ev _ _ _ _ hd (hb.ok _) fun h1 h2 => .ite (handleError_ret_in ..) <|
      chkSlenMaxClear_ev _ _ _ _ hd hz (hb.dmax_le h1 h2) <|
        srcOk_ev hs (.ite (copyLoop_ev ..) (copyLoop_ev ..))

/-- `slen ≠ 0`: the `slen == 0` exit calls the handler with the code it returns, which may be EOK (`strncat-slen0-handler-eok`) -/
theorem strncat_s_ev_partial (cfg : Cfg) (dest dmax src slen : Nat) (db sb : Bos) (hb : SmallBos db) (hs : SrcOk sb slen)
    (hslen : slen ≠ 0) : EV (strncat_s cfg dest dmax src slen db sb) (OnceIn SCat .str) :=
  .ite eok_in <| .iteH (fun _ => failS_in _) fun hd => .iteH (fun _ => failS_in _) fun hz =>
    chkDmaxClear_ev _ _ _ _ hd (hb.ok _) fun h1 h2 => .ite (handleError_ret_in ..) <|
      chkSlenMaxClear_ev _ _ _ _ hd hz (hb.dmax_le h1 h2) <| .iteH (fun h => absurd h hslen) fun _ =>
        srcOk_ev hs (.ite (catTail_ev hz fun _ _ => copyLoop_ev ..) (catTail_ev hz fun _ _ => copyLoop_ev ..))

theorem chkDmaxW_in {S : List Nat} (dmax : Nat) (db : Bos) {k : Prog Nat} (hk : EV k (OnceIn S .str))
    (h1 : ESLEMAX ∈ S := by decide) (h2 : EOVERFLOW ∈ S := by decide) : EV (chkDmaxW dmax db k) (OnceIn S .str) :=
  EV.optMatch db (.ite (failS_in _ h1) hk) fun _ => .ite (.ite (failS_in _ h1) (failS_in _ h2)) hk

theorem wcscat_s_ev (cfg : Cfg) (dest dmax src : Nat) (db : Bos) : EV (wcscat_s cfg dest dmax src db) (OnceIn SCat .str) :=
  .ite (failS_in _) <| .iteH (fun _ => failS_in _) fun hz => chkDmaxW_in _ _ <| .ite (handleError_ret_in ..) <|
    .ite (catTail_ev hz fun _ _ => copyLoop_ev ..) (catTail_ev hz fun _ _ => copyLoop_ev ..)

end SafeC.Props.C05Query
