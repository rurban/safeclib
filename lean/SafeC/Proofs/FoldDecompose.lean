import SafeC.Proofs.FoldStr
/-!
# C17 — `wcsfc_s` per cell against `towfc_s`: "fold, then decompose canonically", and the cells `iswfc` announces
-/
namespace SafeC.Fold
open SafeC.Gen SafeC.Norm

/-- outside U+1F80..U+1FF4 (where `wcsfc_s` decomposes) the cells of a multi-cell folding are left alone by the decomposition -/
theorem tbl_stable_outside :
    ((tbl2L ++ tbl3L).all fun e => (decide (0x1f80 ≤ e.1) && decide (e.1 ≤ 0x1ff4)) || e.2.all fun x => decompose1 x == [x]) = true := by
  decide +kernel

/-- below U+00C0 (where `wcsfc_s` does not call `_decomp_s`) nothing decomposes -/
theorem low_stable : allBelow (fun t => decompose1 t == [t]) 0xc0 = true := by decide +kernel

theorem sigma_fold : (towfcCore 0x3a3).2.flatMap decompose1 = [0x3c3] ∧ (towfcCore 0x3a3).2 = [0x3c3] ∧ iswfc 0x3a3 = 1 := by
  decide +kernel

/-- the five code points copied unchanged: `towfc_s` would have changed them -/
theorem special_differs :
    ([0x1cbb, 0x1cbc, 0x1057B, 0x1058B, 0x10593].all fun c =>
      (towfcCore c).2.flatMap decompose1 != [c] && (towfcCore c).2 != [c]) = true := by
  decide +kernel

/-- at most one cell announced: `towfc_s` is `_towfc_single` -/
theorem towfcCore_single {cp : Nat} (h : ¬ iswfc cp > 1) : (towfcCore cp).2 = [(towfcSingle cp).2] := by
  have hl : (towfcCore cp).2.length = 1 := by rw [fold_cells]; omega
  by_cases h128 : cp < 128
  · simp only [towfcCore, towfcSingle, h128, if_true, show cp < 0xb5 by omega]
  · cases h2 : scanTbl cp tbl2L with
    | some l =>
      have := List.all_eq_true.mp tbl_facts.1 _ (scanTbl_mem _ _ _ h2)
      simp only [towfcCore, h128, if_false, h2] at hl
      simp only [Bool.and_eq_true, beq_iff_eq] at this
      omega
    | none =>
      cases h3 : scanTbl cp tbl3L with
      | some l =>
        have := List.all_eq_true.mp tbl_facts.2 _ (scanTbl_mem _ _ _ h3)
        simp only [towfcCore, h128, if_false, h2, h3] at hl
        simp only [Bool.and_eq_true, beq_iff_eq] at this
        omega
      | none => simp only [towfcCore, h128, if_false, h2, h3]

theorem towfcCore_multi_stable {cp : Nat} (h : 1 < iswfc cp) (hr : ¬(0x1f80 ≤ cp ∧ cp ≤ 0x1ff4)) :
    ∀ x ∈ (towfcCore cp).2, decompose1 x = [x] := by
  intro x hx
  have := List.all_eq_true.mp tbl_stable_outside _ (towfcCore_multi_mem h).2
  simp only [Bool.or_eq_true, Bool.and_eq_true, decide_eq_true_eq] at this
  rcases this with h1 | h1
  · exact absurd h1 hr
  · simpa using List.all_eq_true.mp h1 x hx

/-- **fold, then decompose canonically, cell by cell** — except the five code points copied unchanged and the final sigma -/
theorem fcCell_fold_decompose (cp nx : Nat) (hs : fcSpecial cp = false) (h3 : ¬(cp = 0x3a3 ∧ iswspace nx = true)) :
    fcCell cp nx = (towfcCore cp).2.flatMap decompose1 := by
  unfold fcCell
  by_cases hc : iswfc cp > 1
  · simp only [hc, if_true]
    by_cases hr : 0x1f80 ≤ cp ∧ cp ≤ 0x1ff4
    · simp only [hr, and_self, if_true]
    · simp only [hr, if_false]
      exact (flatMap_fixed (towfcCore_multi_stable hc hr)).symm
  · simp only [hc, if_false, hs, Bool.false_eq_true]
    by_cases h : cp = 0x3a3
    · subst h
      have hsp : ¬ iswspace nx = true := fun hh => h3 ⟨rfl, hh⟩
      simp only [if_true, hsp]
      exact sigma_fold.1.symm
    · simp only [h, if_false]
      rw [towfcCore_single hc]
      simp only [List.flatMap_cons, List.flatMap_nil, List.append_nil]
      split
      · rfl
      · rename_i hlt
        have := allBelow_spec low_stable (towfcSingle cp).2 (by omega)
        exact (by simpa using this : decompose1 (towfcSingle cp).2 = [(towfcSingle cp).2]).symm

/-- the string has a capital sigma directly in front of a space -/
def sigmaFinal : List Nat → Bool
  | [] => false
  | cp :: rest => (cp == 0x3a3 && iswspace (rest.headD 0)) || sigmaFinal rest

/-- the exceptions are real -/
theorem fcCell_special {cp : Nat} (hs : fcSpecial cp = true) (nx : Nat) :
    fcCell cp nx = [cp] ∧ (towfcCore cp).2.flatMap decompose1 ≠ [cp] ∧ (towfcCore cp).2 ≠ [cp] := by
  have hz := fcSpecial_iswfc hs
  have h5 := special_differs
  simp only [List.all_cons, List.all_nil, Bool.and_true, Bool.and_eq_true, bne_iff_ne, ne_eq] at h5
  refine ⟨by simp [fcCell, hz, hs], ?_⟩
  simp only [fcSpecial, Bool.or_eq_true, beq_iff_eq] at hs
  rcases hs with (((h | h) | h) | h) | h <;> subst h
  · exact h5.1
  · exact h5.2.1
  · exact h5.2.2.1
  · exact h5.2.2.2.1
  · exact h5.2.2.2.2

theorem fcCell_final_sigma {nx : Nat} (h : iswspace nx = true) :
    fcCell 0x3a3 nx = [0x3c2] ∧ (towfcCore 0x3a3).2.flatMap decompose1 = [0x3c3] ∧ (towfcCore 0x3a3).2 = [0x3c3] := by
  refine ⟨?_, sigma_fold.1, sigma_fold.2.1⟩
  have h1 : ¬ iswfc 0x3a3 > 1 := by rw [sigma_fold.2.2]; omega
  have h2 : fcSpecial 0x3a3 = false := by decide
  simp [fcCell, h1, h2, h]

/-- cells for which `wcsfc_s` emits exactly what `towfc_s` writes, whatever follows: not one of the five code points copied
unchanged, not the capital sigma, and no cell of the folding has a canonical decomposition -/
def plain (cp : Nat) : Bool := !fcSpecial cp && cp != 0x3a3 && (towfcCore cp).2.all fun x => decompose1 x == [x]

theorem fcCell_plain {cp : Nat} (h : plain cp = true) (nx : Nat) : fcCell cp nx = (towfcCore cp).2 := by
  simp only [plain, Bool.and_eq_true, Bool.not_eq_eq_eq_not, Bool.not_true, bne_iff_ne, ne_eq, List.all_eq_true, beq_iff_eq] at h
  obtain ⟨⟨h1, h2⟩, h3⟩ := h
  rw [fcCell_fold_decompose cp nx h1 (fun hh => h2 hh.1)]
  exact flatMap_fixed h3

theorem flatMap_fixed_conv {f : Nat → List Nat} (hne : ∀ x, f x ≠ []) : ∀ {l : List Nat}, l.flatMap f = l → ∀ x ∈ l, f x = [x] := by
  intro l
  induction l with
  | nil => intro _ x hx; cases hx
  | cons a l ih =>
    intro h x hx
    rw [List.flatMap_cons] at h
    have h2 := length_le_flatMap hne l
    have h3 := congrArg List.length h
    simp only [List.length_append, List.length_cons] at h3
    cases hfa : f a with
    | nil => exact absurd hfa (hne a)
    | cons b t =>
      rw [hfa] at h h3
      cases t with
      | nil =>
        simp only [List.cons_append, List.nil_append, List.cons.injEq] at h
        simp only [List.mem_cons] at hx
        rcases hx with rfl | hx
        · rw [hfa, h.1]
        · exact ih h.2 x hx
      | cons c t => simp only [List.length_cons] at h3; omega

theorem fcPure_plain : ∀ {src : List Nat}, (∀ c ∈ src, plain c = true) → fcPure src = src.flatMap fun c => (towfcCore c).2 := by
  intro src
  induction src with
  | nil => intro _; rfl
  | cons cp rest ih =>
    intro h
    rw [fcPure, fcCell_plain (h cp (by simp)), ih (fun c hc => h c (by simp [hc])), List.flatMap_cons]

theorem announced_length (src : List Nat) :
    (src.flatMap fun c => (towfcCore c).2).length = (src.map fun c => max 1 (iswfc c)).sum := by
  induction src with
  | nil => rfl
  | cons cp rest ih => simp only [List.flatMap_cons, List.length_append, ih, fold_cells, List.map_cons, List.sum_cons]

theorem headD_cstr (l : List Nat) : (cstr l).headD 0 = l.headD 0 := by
  cases l with
  | nil => rfl
  | cons a l =>
    by_cases h : a = 0
    · simp [cstr, h]
    · simp [cstr, h]

/-- the loop reads the source as a C string: cells behind the first 0 do not matter (the look-ahead of the sigma rule sees that 0) -/
theorem fcLoop_cstr (fx : Fixes) : ∀ (src : List Nat) (dmax : Nat), fcLoop fx (cstr src) dmax = fcLoop fx src dmax
  | [], _ => rfl
  | cp :: rest, dmax => by
    by_cases h : cp = 0
    · subst h; simp [cstr, fcLoop]
    · have e : cstr (cp :: rest) = cp :: cstr rest := by simp [cstr, h]
      have ih := fcLoop_cstr fx rest
      rw [e]
      simp only [fcLoop, headD_cstr, ih]

theorem wcsfcS_cstr (fx : Fixes) (dmax : Nat) (src : List Nat) : wcsfcS fx dmax (cstr src) = wcsfcS fx dmax src := by
  unfold wcsfcS
  rw [fcLoop_cstr]

/-- with the range check and the room check: EVERY cell list (embedded terminators allowed), EVERY `dmax`: no store behind
`dest + dmax`, no table index out of bounds -/
theorem wcsfcS_room (fx : Fixes) (hfx : fx.rangeChk = true) (hf : fx.foldRoom = true) (dmax : Nat) (src : List Nat) :
    (wcsfcS fx dmax src).overrun = false ∧ (wcsfcS fx dmax src).oob = false := by
  rw [← wcsfcS_cstr]
  have h := wcsfcS_call fx hfx dmax (cstr src) (takeWhile_ne_zero src)
  generalize wcsfcS fx dmax (cstr src) = r at h
  cases h with
  | overrun _ h => rw [hf] at h; cases h
  | _ => exact ⟨rfl, rfl⟩

#print axioms fcLoop_cstr
#print axioms wcsfcS_room
end SafeC.Fold
