import SafeC.Proofs.TableSweep
/-!
# C17 — facts about the generated tables (re-checked by `lake build` whenever tools/gen17.py rewrites `SafeC/Gen/Uni*.lean`)

Finite facts are Boolean checks over the packed tables, decided by `decide +kernel` (GMP arithmetic in the kernel) and lifted
to universally quantified statements by `allBelow_spec`.
-/
namespace SafeC.Norm
open SafeC.Gen

/-! ## shape of the paged tables: every stored value addresses an existing slot, the lookups are in bounds exactly for code points -/

/-- a row value is either 0 or addresses an existing slot of one of the four value tables -/
def viOk (v : Nat) : Bool := v == 0 || (decide (v / 4096 < 4) && decide (v % 4096 < (canonTbl (v / 4096 + 1)).1))

theorem canon_mainN : UniCanon.mainN = 17 := by decide
theorem combin_mainN : UniCombin.mainN = 17 := by decide
theorem compos_mainN : UniCompos.mainN = 17 := by decide
theorem unicodeMax_eq : UniCompos.unicodeMax = 0x10FFFF := by decide
theorem HSBase_eq : UniCompos.HSBase = 0xAC00 := by decide
theorem HSFinal_eq : UniCompos.HSFinal = 0xD7A3 := by decide
theorem HLBase_eq : UniCompos.HLBase = 0x1100 := by decide
theorem HLFinal_eq : UniCompos.HLFinal = 0x1112 := by decide
theorem HVBase_eq : UniCompos.HVBase = 0x1161 := by decide
theorem HVFinal_eq : UniCompos.HVFinal = 0x1175 := by decide
theorem HTBase_eq : UniCompos.HTBase = 0x11A7 := by decide
theorem HTFinal_eq : UniCompos.HTFinal = 0x11C2 := by decide
theorem HLCount_eq : UniCompos.HLCount = 19 := by decide
theorem HVCount_eq : UniCompos.HVCount = 21 := by decide
theorem HTCount_eq : UniCompos.HTCount = 28 := by decide
theorem HNCount_eq : UniCompos.HNCount = 588 := by decide

theorem canon_planes_size : UniCanon.planes < 2 ^ (16 * (UniCanon.planesN * 256)) := by decide +kernel
theorem canon_rows_size : UniCanon.rows < 2 ^ (16 * (UniCanon.rowsN * 256)) := by decide +kernel

theorem canon_planes_check : allBelow (fun j => decide (cell 16 UniCanon.planes j ≤ UniCanon.rowsN)) (UniCanon.planesN * 256) = true := by
  decide +kernel

theorem canon_rows_check : allBelow (fun j => viOk (cell 16 UniCanon.rows j)) (UniCanon.rowsN * 256) = true := by
  decide +kernel

-- from here on the packed literals are opaque to the elaborator (the kernel checks above have seen them)
attribute [local irreducible] cell UniCanon.main UniCanon.planes UniCanon.rows UniCombin.main UniCombin.planes UniCombin.rows

theorem canonVi_ok {cp vi : Nat} (h : canonVi cp = some vi) : viOk vi = true := by
  unfold canonVi at h
  split at h
  · cases h
  · cases h; rfl
  · rename_i r hr
    cases h
    -- r + 1 is a cell of `planes`
    unfold rowId at hr
    split at hr
    · dsimp only at hr
      split at hr
      · cases hr
      · simp only [Option.some.injEq] at hr
        -- index below the size, else the cell would be 0
        -- name the index (`generalize` would have to look into the packed literals)
        obtain ⟨J, hJ⟩ : ∃ J, J = (cell 8 UniCanon.main (cp / 65536) - 1) * 256 + cp / 256 % 256 := ⟨_, rfl⟩
        rw [← hJ] at hr
        by_cases hj : J < UniCanon.planesN * 256
        · have h1 := allBelow_spec canon_planes_check _ hj
          simp only [decide_eq_true_eq] at h1
          have hlt : r * 256 + cp % 256 < UniCanon.rowsN * 256 := by
            omega
          exact allBelow_spec canon_rows_check _ hlt
        · have h0 := cell_eq_zero_of_ge canon_planes_size (Nat.le_of_not_lt hj)
          omega
    · cases hr

/-- **no out-of-bounds index in `_decomp_canonical_s` for a code point ≤ 0x10FFFF** -/
theorem decompCanon_ne_none {cp : Nat} (h : cp ≤ UniCompos.unicodeMax) : decompCanon cp ≠ none := by
  rw [unicodeMax_eq] at h
  unfold decompCanon
  split
  · rename_i hv
    unfold canonVi rowId at hv
    rw [canon_mainN] at hv
    have : cp / 65536 < 17 := by omega
    simp only [this, ↓reduceIte] at hv
    split at hv
    · rename_i hq; split at hq <;> simp at hq
    · simp at hv
    · simp at hv
  · simp
  · rename_i vi hv0 hv
    have hok := canonVi_ok hv
    unfold viOk at hok
    simp only [Bool.or_eq_true, beq_iff_eq, Bool.and_eq_true, decide_eq_true_eq] at hok
    rcases hok with h0 | ⟨h1, h2⟩
    · exact absurd h0 (by intro h; exact hv0 (h ▸ rfl))
    · have : vi / 4096 + 1 ≤ 4 := by omega
      simp [this, h2]

/-- **no out-of-bounds index in `_combin_class` for a code point ≤ 0x10FFFF** -/
theorem combinClass_ne_none {cp : Nat} (h : cp ≤ UniCompos.unicodeMax) : combinClass cp ≠ none := by
  rw [unicodeMax_eq] at h
  unfold combinClass rowId
  rw [combin_mainN]
  have : cp / 65536 < 17 := by omega
  simp only [this, ↓reduceIte]
  split
  · rename_i hq; split at hq <;> simp at hq
  · simp
  · simp

/-- and the out-of-bounds read is real for larger values: `UNWIF_combin[cp >> 16]` with `cp >> 16 ≥ 17` -/
theorem combinClass_oob {cp : Nat} (h : UniCompos.unicodeMax < cp) : combinClass cp = none := by
  rw [unicodeMax_eq] at h
  unfold combinClass rowId
  rw [combin_mainN]
  have : ¬ cp / 65536 < 17 := by omega
  simp [this]

theorem decompCanon_oob {cp : Nat} (h : UniCompos.unicodeMax < cp) : decompCanon cp = none := by
  rw [unicodeMax_eq] at h
  unfold decompCanon canonVi rowId
  rw [canon_mainN]
  have : ¬ cp / 65536 < 17 := by omega
  simp [this]

end SafeC.Norm
