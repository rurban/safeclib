import SafeC.Proofs.CopyLoop
/-! The bumper copy loops (`copyLoop`): how the loop gets to an exit.  `copyLoop_run`: as long as the characters read are non-NUL,
the bumper is not met and (bounded twin) `slen` is not used up, the loop arrives at the same loop started `j0` cells further, on
the memory `copyN` describes — no hypothesis on the placement of `src` relative to `dest`; if no cell is read after a store
reached it, the cells copied hold the ORIGINAL values (`CopiedN`).  Every theorem about a run is this followed by
`copyLoop_exit`: `copySteps_fail`, `copySteps_done` for a run known in advance, `copyLoop_full` for every run (to the first
iteration at which an exit test fires). -/
namespace SafeC
open Gen

/-- `st1` is `st` after `n` cells were copied in ascending order from `s` to `d` (values of `st`) -/
def CopiedN (st st1 : St) (d s n : Nat) : Prop :=
  SameMeta st1 st ∧ ∀ a, st1.data a = if d ≤ a ∧ a < d + n then st.data (s + (a - d)) else st.data a

theorem CopiedN.at {st st1 : St} {d s n : Nat} (h : CopiedN st st1 d s n) (i : Nat) (hi : i < n) :
    st1.data (d + i) = st.data (s + i) := by
  rw [h.2 (d+i)]
  have h1 : d ≤ d + i ∧ d + i < d + n := by omega
  have e : d + i - d = i := by omega
  rw [if_pos h1, e]

theorem CopiedN.out {st st1 : St} {d s n : Nat} (h : CopiedN st st1 d s n) (a : Nat) (ha : ¬ (d ≤ a ∧ a < d + n)) :
    st1.data a = st.data a := by
  rw [h.2 a, if_neg ha]

theorem CopiedN.next {st st1 : St} {d s n : Nat} (h : CopiedN st st1 d s n) (hcl : ∀ i, i < n → s + n ≠ d + i) :
    st1.data (s + n) = st.data (s + n) :=
  h.out _ (fun ⟨h1, h2⟩ => hcl (s + n - d) (by omega) (by omega))

theorem CopiedN.snoc {st st1 : St} {d s n : Nat} (h : CopiedN st st1 d s n) (hcl : ∀ i, i < n → s + n ≠ d + i) :
    CopiedN st (st1.upd (d + n) (st1.data (s + n))) d s (n + 1) := by
  have hsrc := h.next hcl
  refine ⟨(SameMeta.upd _ _ _).trans h.1, fun a => ?_⟩
  by_cases ha : a = d + n
  · subst ha
    rw [St.upd_data_same, hsrc, if_pos ⟨Nat.le_add_right _ _, by omega⟩, Nat.add_sub_cancel_left]
  · rw [St.upd_data_ne _ _ _ _ ha, h.2 a]
    by_cases h1 : d ≤ a ∧ a < d + n
    · rw [if_pos h1, if_pos ⟨h1.1, by omega⟩]
    · rw [if_neg h1, if_neg (by omega)]

/-! ### The memory after `n` ascending cell copies, whatever the placement

`copyN m d s n` reads every cell from the memory as the copies before it left it, so it describes a run of a copying loop
also when the source is overwritten on the way.  `copyN_src`: a cell that no earlier copy wrote is read with its original
value, which gives `CopiedN` (`copiedN_copyN`). -/

def copyN (m : Nat → Nat) (d s : Nat) : Nat → Nat → Nat
  | 0 => m
  | n+1 => fun a => if a = d + n then copyN m d s n (s + n) else copyN m d s n a

theorem copyN_out (m : Nat → Nat) (d s n a : Nat) (h : ¬ (d ≤ a ∧ a < d + n)) : copyN m d s n a = m a := by
  induction n with
  | zero => rfl
  | succ n ih =>
    show (if a = d + n then _ else _) = _
    rw [if_neg (by omega), ih (by omega)]

/-- what copy `i` stored stays: the later copies write higher cells -/
theorem copyN_at (m : Nat → Nat) (d s n i : Nat) (h : i < n) : copyN m d s n (d + i) = copyN m d s i (s + i) := by
  induction n with
  | zero => omega
  | succ n ih =>
    show (if d + i = d + n then _ else _) = _
    by_cases e : i = n
    · subst e; rw [if_pos rfl]
    · rw [if_neg (by omega), ih (by omega)]

theorem copyN_src (m : Nat → Nat) (d s j : Nat) (hcl : ∀ i, i < j → s + j ≠ d + i) : copyN m d s j (s + j) = m (s + j) :=
  copyN_out m d s j _ (fun ⟨h1, h2⟩ => hcl (s + j - d) (by omega) (by omega))

/-- `st` after `n` cells were copied in ascending order from `s` to `d`; one more copy is one more `upd`, by `rfl` -/
def St.copied (st : St) (d s n : Nat) : St := { st with data := copyN st.data d s n }

theorem St.copied_succ (st : St) (d s n : Nat) :
    (st.copied d s n).upd (d + n) ((st.copied d s n).data (s + n)) = st.copied d s (n + 1) := rfl

theorem St.copied_data (st : St) (d s n : Nat) : (st.copied d s n).data = copyN st.data d s n := rfl

theorem St.copied_sameMeta (st : St) (d s n : Nat) : SameMeta (st.copied d s n) st := ⟨rfl, rfl, rfl, rfl, rfl⟩

theorem copiedN_copyN (st : St) (d s n : Nat) (hcl : ∀ i j, i < j → j < n → s + j ≠ d + i) :
    CopiedN st (st.copied d s n) d s n := by
  refine ⟨st.copied_sameMeta d s n, fun a => ?_⟩
  show copyN st.data d s n a = _
  by_cases ha : d ≤ a ∧ a < d + n
  · have e : a = d + (a - d) := by omega
    rw [if_pos ha, e, copyN_at _ _ _ _ _ (by omega), Nat.add_sub_cancel_left,
      copyN_src _ _ _ _ (fun i hi => hcl i _ hi (by omega))]
  · rw [if_neg ha, copyN_out _ _ _ _ _ ha]

/-- **a loop that copies one cell per round, ascending**: `L i` is the loop as it stands before round `i`.  If round `i`, run
on the memory the rounds before left, stores the cell it reads and becomes `L (i+1)`, then `n` rounds are the `n` copies. -/
theorem copy_iter {α : Type} (L : Nat → Prog α) (d s : Nat) (st : St) (n : Nat)
    (hstep : ∀ i, i < n → exec (L i) (st.copied d s i) =
      exec (L (i+1)) ((st.copied d s i).upd (d + i) ((st.copied d s i).data (s + i)))) :
    exec (L 0) st = exec (L n) (st.copied d s n) := by
  induction n with
  | zero => rfl
  | succ n ih => rw [ih (fun i hi => hstep i (by omega)), hstep n (by omega), St.copied_succ]

/-- `copy_iter` when no round reads a cell an earlier round wrote: the cells copied hold the ORIGINAL values -/
theorem copied_steps {α : Type} (L : Nat → Prog α) (d s : Nat) (st : St) (n : Nat)
    (hcl : ∀ i j, i < j → j < n → s + j ≠ d + i)
    (hstep : ∀ j st1, j < n → CopiedN st st1 d s j →
      exec (L j) st1 = exec (L (j+1)) (st1.upd (d + j) (st1.data (s + j)))) :
    ∃ st1, CopiedN st st1 d s n ∧ exec (L 0) st = exec (L n) st1 :=
  ⟨_, copiedN_copyN st d s n hcl, copy_iter L d s st n fun i hi =>
    hstep i _ hi (copiedN_copyN st d s i fun a b h1 h2 => hcl a b h1 (by omega))⟩

/-- the cells copied before the failing exit lie inside dest: the exit looks the same from the original state -/
theorem ClearedPost.of_copied {cfg : Cfg} {oD oM code d s n : Nat} {st st1 st' : St}
    (hc : CopiedN st st1 d s n) (hin : oD ≤ d ∧ d + n ≤ oD + oM) (h : ClearedPost cfg oD oM code st1 st') :
    ClearedPost cfg oD oM code st st' := by
  refine ⟨h.strays.trans hc.1.strays, by rw [h.events, hc.1.events], h.first, h.slack, fun a ha => ?_⟩
  rw [h.frame a ha]
  exact hc.out a (by omega)

theorem ClearedPost.of_run {cfg : Cfg} {oD oM code d s j : Nat} {st st' : St} (hin : oD ≤ d ∧ d + j ≤ oD + oM)
    (h : ClearedPost cfg oD oM code (st.copied d s j) st') : ClearedPost cfg oD oM code st st' :=
  ⟨h.strays, h.events, h.first, h.slack, fun a ha => (h.frame a ha).trans (copyN_out _ _ _ _ _ (by omega))⟩

theorem CopyPost.of_run {cfg : Cfg} {oD oM code d s j : Nat} {st st' : St} (hin : oD ≤ d ∧ d + j ≤ oD + oM)
    (h : CopyPost cfg oD oM (st.copied d s j) st' code) : CopyPost cfg oD oM st st' code :=
  { h with frame := fun a ha => (h.frame a ha).trans (copyN_out _ _ _ _ _ (by omega)) }

/-- what a successful copy (or stp) loop leaves: the `m` characters in front of the terminator `d + m` are the
source's (ORIGINAL values), null-slack zeros behind, nothing outside the `k` cells touched, bookkeeping unchanged -/
def StpDone (cfg : Cfg) (d k s m : Nat) (st st' : St) : Prop :=
  SameMeta st' st ∧
  (∀ i, i < m → st'.data (d+i) = st.data (s+i)) ∧ st'.data (d+m) = 0 ∧
  (cfg.slack = true → ∀ i, m ≤ i → i < k → st'.data (d+i) = 0) ∧
  (∀ a, ¬ (d ≤ a ∧ a < d + k) → st'.data a = st.data a)

theorem StpDone.of_eokAt {cfg : Cfg} {d k s m : Nat} {st st1 st' : St} (hcp : CopiedN st st1 d s m) (hmk : m < k)
    (h : EokAt cfg (d + m) (k - m) st1 st') : StpDone cfg d k s m st st' := by
  obtain ⟨hm, h0, hfr, hz⟩ := h
  exact ⟨hm.trans hcp.1, fun i hi => (hfr (d+i) (by omega)).trans (hcp.at i hi), h0,
    fun hcs i h1 h2 => hz hcs (d+i) (by omega) (by omega), fun a ha => (hfr a (by omega)).trans (hcp.out a (by omega))⟩

/-- **`j0` continuing iterations, any placement**: the characters read — from the memory as the stores before left it — are
non-NUL, the bumper is not met, `slen` is not used up.  Only the source cells the loop gets to need be readable. -/
theorem copyLoop_run (cfg : Cfg) (onDest bounded : Bool) (B oD oM : Nat) (k d s slen : Nat) (st : St) (j0 : Nat)
    (hrd : ∀ j, j < j0 → st.mapped (s+j) = true ∧ st.rd (s+j) = true) (hrw : RW st d j0) (hk : j0 ≤ k)
    (hnz : ∀ j, j < j0 → (st.copied d s j).data (s+j) ≠ 0)
    (hb : ∀ j, j < j0 → (if onDest then d + j else s + j) ≠ B)
    (hsl : bounded = true → j0 ≤ slen) :
    exec (copyLoop cfg onDest bounded B oD oM k d s slen) st =
      exec (copyLoop cfg onDest bounded B oD oM (k - j0) (d + j0) (s + j0) (slen - j0)) (st.copied d s j0) := by
  refine copy_iter (fun i => copyLoop cfg onDest bounded B oD oM (k - i) (d + i) (s + i) (slen - i)) d s st j0
    fun i hi => ?_
  obtain ⟨k', hk'⟩ : ∃ k', k - i = k' + 1 := ⟨k - i - 1, by omega⟩
  have hsl0 : ¬ (bounded = true ∧ slen - i = 0) := fun ⟨h, h'⟩ => by have := hsl h; omega
  have hm := hrd i hi
  obtain ⟨hdm, hdw, _⟩ := hrw i hi
  rw [hk', copyLoop_succ, if_neg (hb i hi), if_neg hsl0]
  simp only [exec_bind, exec_load_ok (s + i) (st.copied d s i) hm.1 hm.2,
    exec_store_ok (d + i) _ (st.copied d s i) hdm hdw]
  rw [if_neg (hnz i hi), show k - (i + 1) = k' from by omega]
  rfl

/-- the run when no source cell is read after a store reached it: the values are the original ones -/
theorem copyLoop_steps (cfg : Cfg) (onDest bounded : Bool) (B oD oM : Nat) (j0 : Nat) :
    ∀ (k d s slen : Nat) (st : St),
    (∀ a, st.mapped a = true ∧ st.rd a = true) → RW st d j0 → j0 ≤ k →
    (∀ j, j < j0 → st.data (s+j) ≠ 0) →
    (∀ i j, i < j → j < j0 → s + j ≠ d + i) →
    (∀ j, j < j0 → (if onDest then d + j else s + j) ≠ B) →
    (bounded = true → j0 ≤ slen) →
    ∃ st1, CopiedN st st1 d s j0 ∧
      ∀ k' d' s' slen', k' + j0 = k → d' = d + j0 → s' = s + j0 → slen' = slen - j0 →
        exec (copyLoop cfg onDest bounded B oD oM k d s slen) st =
          exec (copyLoop cfg onDest bounded B oD oM k' d' s' slen') st1 := by
  intro k d s slen st hall hrw hk hnz hcl hb hsl
  refine ⟨_, copiedN_copyN st d s j0 hcl, fun k' d' s' slen' h1 h2 h3 h4 => ?_⟩
  subst h2 h3 h4
  rw [copyLoop_run cfg onDest bounded B oD oM k d s slen st j0 (fun _ _ => hall _) hrw hk
    (fun j hj => by rw [St.copied_data, copyN_src _ _ _ _ (fun i hi => hcl i j hi hj)]; exact hnz j hj) hb hsl,
    show k - j0 = k' from by omega]

/-- the failing exits: `g` continuing iterations, then the pointer compared equals the bumper (`g < k`: ESOVRLP)
or the `k` cells are used up (`g = k`: ESNOSPC) -/
theorem copySteps_fail (cfg : Cfg) (onDest bounded : Bool) (B oD oM : Nat) (hoM : 0 < oM)
    (k d s g slen : Nat) (st : St)
    (hrd : ∀ j, j < g → st.mapped (s+j) = true ∧ st.rd (s+j) = true)
    (hrw : RW st oD oM) (hinv : oD ≤ d ∧ d + k = oD + oM) (hgk : g ≤ k)
    (hnz : ∀ j, j < g → st.data (s+j) ≠ 0)
    (hcl : ∀ i j, i < j → j < g → s + j ≠ d + i)
    (hb : ∀ j, j < g → (if onDest then d + j else s + j) ≠ B)
    (hbg : g < k → (if onDest then d + g else s + g) = B)
    (hsl : bounded = true → g ≤ slen) :
    ∃ code st', exec (copyLoop cfg onDest bounded B oD oM k d s slen) st = .ok (code, st') ∧
      code = (if g < k then ESOVRLP else ESNOSPC) ∧ CopyPost cfg oD oM st st' code := by
  have hst : k - g = 0 ∨ (if onDest then d + g else s + g) = B := by
    by_cases h : g < k
    · exact Or.inr (hbg h)
    · exact Or.inl (by omega)
  rw [copyLoop_run cfg onDest bounded B oD oM k d s slen st g hrd (hrw.sub (by omega) (by omega)) hgk
    (fun j hj => by rw [St.copied_data, copyN_src _ _ _ _ (fun i hi => hcl i j hi hj)]; exact hnz j hj) hb hsl]
  obtain ⟨st', he, hp⟩ := (copyLoop_exit cfg onDest bounded B oD oM (k - g) (d + g) (s + g) (slen - g) (st.copied d s g)
    (hst.imp id Or.inl)).1 hst hoM (RW.of_sameMeta (st.copied_sameMeta d s g) hrw)
  have hc : (if k - g = 0 then ESNOSPC else ESOVRLP) = if g < k then ESOVRLP else ESNOSPC := by
    by_cases h : g < k
    · rw [if_neg (by omega), if_pos h]
    · rw [if_pos (by omega), if_neg h]
  rw [hc] at he hp
  exact ⟨_, st', he, rfl, hp.of_run ⟨hinv.1, by omega⟩⟩

/-- the success exit: `m` continuing iterations, then the terminator is read (not overwritten before) or `slen` is
used up; the bumper is not met in these `m + 1` tests.  Only the source cells the loop gets to are read: `s + m` is
not when `slen` runs out. -/
theorem copySteps_done (cfg : Cfg) (onDest bounded : Bool) (B oD oM : Nat)
    (k d s m slen : Nat) (st : St)
    (hrd : ∀ j, j < m → st.mapped (s+j) = true ∧ st.rd (s+j) = true)
    (hrw : RW st d k) (hmk : m < k)
    (hnz : ∀ j, j < m → st.data (s+j) ≠ 0)
    (hcl : ∀ i j, i < j → j ≤ m → s + j ≠ d + i)
    (hb : ∀ j, j ≤ m → (if onDest then d + j else s + j) ≠ B)
    (hfin : ((bounded = true → m < slen) ∧ st.data (s+m) = 0 ∧ st.mapped (s+m) = true ∧ st.rd (s+m) = true) ∨
      (bounded = true ∧ slen = m)) :
    ∃ st', exec (copyLoop cfg onDest bounded B oD oM k d s slen) st = .ok (EOK, st') ∧
      StpDone cfg d k s m st st' := by
  have hsl : bounded = true → m ≤ slen := fun h => by
    rcases hfin with h1 | h1
    · have := h1.1 h; omega
    · omega
  have hcp := copiedN_copyN st d s m (fun i j h1 h2 => hcl i j h1 (by omega))
  rw [copyLoop_run cfg onDest bounded B oD oM k d s slen st m hrd (fun i hi => hrw i (by omega)) (by omega)
    (fun j hj => by rw [St.copied_data, copyN_src _ _ _ _ (fun i hi => hcl i j hi (by omega))]; exact hnz j hj)
    (fun j hj => hb j (by omega)) hsl]
  obtain ⟨st', he, h⟩ := (copyLoop_exit cfg onDest bounded B oD oM (k - m) (d + m) (s + m) (slen - m) (st.copied d s m)
    (hfin.elim (fun h => Or.inr (Or.inr (Or.inr
        ⟨(copyN_src _ _ _ _ (fun i hi => hcl i m hi (Nat.le_refl _))).trans h.2.1, h.2.2⟩)))
      (fun h => Or.inr (Or.inr (Or.inl ⟨h.1, by omega⟩))))).2 (by omega) (hb m (Nat.le_refl _))
    ((RW.of_sameMeta hcp.1 hrw).sub (by omega) (by omega))
  exact ⟨st', he, StpDone.of_eokAt hcp hmk h⟩

/-- the EOK exit of a loop started at `d` with `k` cells left ended with the terminator at address `t`: the cells in front
of `d` untouched, those from `d` to `t` non-zero, with null-slack zeros from `t` on -/
def ShapeAt (cfg : Cfg) (d k t : Nat) (st st' : St) : Prop :=
  d ≤ t ∧ t < d + k ∧ (∀ a, a < d → st'.data a = st.data a) ∧
    (∀ a, d ≤ a → a < t → st'.data a ≠ 0) ∧ st'.data t = 0 ∧
    (cfg.slack = true → ∀ a, t ≤ a → a < d + k → st'.data a = 0)

def ShapeOk (cfg : Cfg) (d k : Nat) (st st' : St) : Prop := ∃ t, ShapeAt cfg d k t st st'

theorem ShapeAt.of_run {cfg : Cfg} {d k s j : Nat} {st st' : St} (hjk : j < k)
    (hnz : ∀ i, i < j → (st.copied d s i).data (s + i) ≠ 0) (h : EokAt cfg (d + j) (k - j) (st.copied d s j) st') :
    ShapeAt cfg d k (d + j) st st' := by
  obtain ⟨_, h0, hfr, hz⟩ := h
  refine ⟨by omega, by omega, fun a ha => (hfr a (by omega)).trans (copyN_out _ _ _ _ _ (by omega)),
    fun a h1 h2 => ?_, h0, fun hsl a h1 h2 => hz hsl a h1 (by omega)⟩
  rw [hfr a (by omega), show a = d + (a - d) from by omega, St.copied_data, copyN_at _ _ _ _ _ (by omega)]
  exact hnz (a - d) (by omega)

theorem least_of (P : Nat → Prop) (k : Nat) (hk : P k) : ∃ j, j ≤ k ∧ P j ∧ ∀ i, i < j → ¬ P i := by
  induction k using Nat.strongRecOn with
  | _ k ih =>
    by_cases h : ∃ i, i < k ∧ P i
    · obtain ⟨i, hi, hp⟩ := h
      obtain ⟨j, h1, h2, h3⟩ := ih i hi hp
      exact ⟨j, by omega, h2, h3⟩
    · exact ⟨k, Nat.le_refl _, hk, fun i hi hp => h ⟨i, hi, hp⟩⟩

/-- **Every run of the copy loop**, for every placement, content and length, with the `oM` cells of dest declared and
everything readable: no fault, no stray access, nothing outside `[oD, oD+oM)` changes; EOK with no handler call and the
terminator at an index in front of which everything stored is non-zero, or ESOVRLP / ESNOSPC with exactly one handler call and
dest cleared.  `j` = the first iteration at which one of the exit tests fires: the run to it, then the exit. -/
theorem copyLoop_full (cfg : Cfg) (onDest bounded : Bool) (B oD oM : Nat) (hoM : 0 < oM)
    (k d s slen : Nat) (st : St)
    (hall : ∀ a, st.mapped a = true ∧ st.rd a = true)
    (hrw : RW st oD oM) (hinv : oD ≤ d ∧ d + k = oD + oM) :
    ∃ code st', exec (copyLoop cfg onDest bounded B oD oM k d s slen) st = .ok (code, st') ∧
      CopyPost cfg oD oM st st' code ∧ (code = EOK → ShapeOk cfg d k st st') := by
  obtain ⟨j, hjk, hP, hmin⟩ := least_of (fun j => j = k ∨ (if onDest then d + j else s + j) = B ∨
    (bounded = true ∧ slen = j) ∨ (st.copied d s j).data (s + j) = 0) k (Or.inl rfl)
  rw [copyLoop_run cfg onDest bounded B oD oM k d s slen st j (fun _ _ => hall _) (hrw.sub (by omega) (by omega)) hjk
    (fun i hi h => hmin i hi (Or.inr (Or.inr (Or.inr h)))) (fun i hi h => hmin i hi (Or.inr (Or.inl h)))
    (fun h => Nat.le_of_not_lt fun hlt => hmin slen hlt (Or.inr (Or.inr (Or.inl ⟨h, rfl⟩))))]
  have hrw1 : RW (st.copied d s j) oD oM := RW.of_sameMeta (st.copied_sameMeta d s j) hrw
  have hex := copyLoop_exit cfg onDest bounded B oD oM (k - j) (d + j) (s + j) (slen - j) (st.copied d s j)
    (hP.imp (fun h => by omega) (Or.imp id (Or.imp (fun h => ⟨h.1, by omega⟩) (fun h => ⟨h, hall _⟩))))
  by_cases hf : k - j = 0 ∨ (if onDest then d + j else s + j) = B
  · obtain ⟨st', he, hp⟩ := hex.1 hf hoM hrw1
    exact ⟨_, st', he, hp.of_run ⟨hinv.1, by omega⟩, fun hc => absurd hc (by split <;> decide)⟩
  · obtain ⟨st', he, h⟩ := hex.2 (by omega) (fun h => hf (Or.inr h)) (hrw1.sub (by omega) (by omega))
    exact ⟨EOK, st', he, (CopyPost.of_eokAt ⟨by omega, by omega⟩ (by omega) h).of_run ⟨hinv.1, by omega⟩,
      fun _ => ⟨d + j, ShapeAt.of_run (by omega) (fun i hi h => hmin i hi (Or.inr (Or.inr (Or.inr h)))) h⟩⟩

end SafeC
