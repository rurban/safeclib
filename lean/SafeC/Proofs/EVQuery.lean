import SafeC.Proofs.EVMem
import SafeC.Proofs.EVR
/-!
# C05, event judgement for the query families: posts and entry-check blocks
-/
-- what `qChkS` has established when it lets a call through (`qChkS_in` below is stated with it) is the condition under which strerror_s reaches
-- its inner copies: `InnerS` is defined here, in the namespace of `Props/C05Os.lean`, whose statements about strerror_s use it
namespace SafeC.Props.C05Os
open SafeC Gen
/-- the inner copies of strerror_s are reached: usable dest inside the limit / the object -/
def InnerS (dest dmax : Nat) (destbos : Bos) : Prop :=
  dest ≠ 0 ∧ dmax ≠ 0 ∧ (destbos = none → dmax ≤ RSIZE_MAX_STR) ∧ (∀ b, destbos = some b → dmax ≤ b)
end SafeC.Props.C05Os

namespace SafeC.Props.C05Query
open SafeC Gen SafeC.Props.C05Docs

def QPost {α} (benign : List Nat) (k : Kind) (code : α → Nat) : α → List Event → Prop :=
  fun y es => (es = [] ∧ code y ∈ benign) ∨ (code y ≠ EOK ∧ es = [.handler k (code y)])

def QPostAny {α} (benign : List Nat) (code : α → Nat) : α → List Event → Prop :=
  fun y es => (es = [] ∧ code y ∈ benign) ∨ (code y ≠ EOK ∧ ∃ k, es = [.handler k (code y)])

def FPost {α} (failv : α) : α → List Event → Prop :=
  fun y es => es = [] ∨ (y = failv ∧ ∃ c, c ≠ EOK ∧ es = [.handler .str c])

/-- `QPost` with the reported code among `S`: the strongest post of a query function.  `Props/C05Docs.lean` compares
`bn ++ S` with the `@retval` lines of its doc comment. -/
def QIn {α} (bn S : List Nat) (k : Kind) (code : α → Nat) : α → List Event → Prop :=
  fun y es => (es = [] ∧ code y ∈ bn) ∨ (code y ∈ S ∧ code y ≠ EOK ∧ es = [.handler k (code y)])

def QInAny {α} (bn S : List Nat) (code : α → Nat) : α → List Event → Prop :=
  fun y es => (es = [] ∧ code y ∈ bn) ∨ (code y ∈ S ∧ code y ≠ EOK ∧ ∃ k, es = [.handler k (code y)])

theorem QIn.qpost {α} {bn S : List Nat} {k : Kind} {code : α → Nat} {y : α} {es : List Event}
    (h : QIn bn S k code y es) : QPost bn k code y es := h.imp id And.right
theorem QIn.any {α} {bn S : List Nat} {k : Kind} {code : α → Nat} {y : α} {es : List Event}
    (h : QIn bn S k code y es) : QInAny bn S code y es := h.imp id fun h => ⟨h.1, h.2.1, k, h.2.2⟩
theorem QInAny.qpost {α} {bn S : List Nat} {code : α → Nat} {y : α} {es : List Event}
    (h : QInAny bn S code y es) : QPostAny bn code y es := h.imp id And.right

/-- outcome of an entry-check block returning `Option code`: let through silently, having established `F`, or one report
of the code handed back, a code of `S` -/
def OptIn (S : List Nat) (k : Kind) (F : Prop := True) : Option Nat → List Event → Prop :=
  fun r es => (r = none ∧ es = [] ∧ F) ∨ (∃ c, r = some c ∧ c ∈ S ∧ c ≠ EOK ∧ es = [.handler k c])

theorem qFailS_in {S : List Nat} {F : Prop} (c : Nat) (hS : c ∈ S := by decide) (hc : c ≠ EOK := by decide) : EVR (qFailS c) (OptIn S .str F) :=
  .emit _ _ (.ret _ (.inr ⟨c, rfl, hS, hc, rfl⟩))
theorem qFailM_in {S : List Nat} {F : Prop} (c : Nat) (hS : c ∈ S := by decide) (hc : c ≠ EOK := by decide) : EVR (qFailM c) (OptIn S .mem F) :=
  .emit _ _ (.ret _ (.inr ⟨c, rfl, hS, hc, rfl⟩))

theorem qChkS_in {S : List Nat} (d m : Nat) (db : Bos) (src : Option Nat) (hS : ∀ c ∈ SChk, c ∈ S := by decide) :
    EVR (qChkS d m db src) (OptIn S .str (C05Os.InnerS d m db)) := by
  have n := qFailS_in (F := C05Os.InnerS d m db) ESNULLP (hS _ (by decide))
  have l := qFailS_in (F := C05Os.InnerS d m db) ESLEMAX (hS _ (by decide))
  refine .iteH (fun _ => n) fun hd => .ite n (.iteH (fun _ => qFailS_in _ (hS _ (by decide))) fun hz => ?_)
  cases db with
  | none =>
    exact .iteH (fun _ => l) fun hm => .ret _ (.inl ⟨rfl, rfl, hd, hz, fun _ => Nat.not_lt.mp hm, fun _ h => nomatch h⟩)
  | some b =>
    exact .iteH (fun _ => .ite l (qFailS_in _ (hS _ (by decide)))) fun hb =>
      .ret _ (.inl ⟨rfl, rfl, hd, hz, (fun h => nomatch h), fun _ h => by cases h; exact Nat.not_lt.mp hb⟩)

theorem optNone_in {S : List Nat} {k : Kind} : EVR (pure none : Prog (Option Nat)) (OptIn S k) :=
  .ret _ (.inl ⟨rfl, rfl, trivial⟩)

theorem qChkM_in {S : List Nat} (d m : Nat) (db : Bos) (hS : ∀ c ∈ SChk, c ∈ S := by decide) :
    EVR (qChkM d m db) (OptIn S .mem) := by
  have f : ∀ c, c ∈ SChk → (hc : c ≠ EOK := by decide) → EVR (qFailM c) (OptIn S .mem) := fun c h hc => qFailM_in c (hS c h) hc
  refine .ite (f _ (by decide)) (.ite (f _ (by decide)) ?_)
  cases db with
  | none => exact .ite (f _ (by decide)) optNone_in
  | some b => exact .ite (.ite (f _ (by decide)) (f _ (by decide))) optNone_in

theorem qChkSlenS_in {S : List Nat} (slen : Nat) (sb : Bos) (h1 : ESLEMAX ∈ S := by decide) (h2 : EOVERFLOW ∈ S := by decide) :
    EVR (qChkSlenS slen sb) (OptIn S .str) := by
  have l := qFailS_in (F := True) ESLEMAX h1
  cases sb with
  | none => exact .ite l optNone_in
  | some b => exact .ite (.ite l (qFailS_in _ h2)) optNone_in

/-- an entry-check block in front of a query function: a code it hands back is returned as it is (`f (some c)` is
`pure` of a value whose code is `c`) -/
theorem optThenQ {α} {bn S : List Nat} {k : Kind} {code : α → Nat} {F : Prop} {p : Prog (Option Nat)}
    {f : Option Nat → Prog α} (hp : EVR p (OptIn S k F)) (hnone : F → EVR (f none) (QIn bn S k code))
    (hsome : ∀ c, ∃ y, f (some c) = pure y ∧ code y = c := by exact fun _ => ⟨_, rfl, rfl⟩) :
    EVR (p >>= f) (QIn bn S k code) :=
  .bind hp fun r es h => by
    rcases h with ⟨rfl, rfl, hF⟩ | ⟨c, rfl, hS, hc, rfl⟩
    · exact hnone hF
    · obtain ⟨y, e, rfl⟩ := hsome c
      rw [e]; exact .ret _ (.inr ⟨hS, hc, rfl⟩)

/-- `optThenQ` for a function whose later checks go through the other handler -/
theorem optThenQAny {α} {bn S : List Nat} {k : Kind} {code : α → Nat} {F : Prop} {p : Prog (Option Nat)}
    {f : Option Nat → Prog α} (hp : EVR p (OptIn S k F)) (hnone : F → EVR (f none) (QInAny bn S code))
    (hsome : ∀ c, ∃ y, f (some c) = pure y ∧ code y = c := by exact fun _ => ⟨_, rfl, rfl⟩) :
    EVR (p >>= f) (QInAny bn S code) :=
  .bind hp fun r es h => by
    rcases h with ⟨rfl, rfl, hF⟩ | ⟨c, rfl, hS, hc, rfl⟩
    · exact hnone hF
    · obtain ⟨y, e, rfl⟩ := hsome c
      rw [e]; exact .ret _ (.inr ⟨hS, hc, k, rfl⟩)

theorem notfnd_in {S : List Nat} : EVR (pure (ESNOTFND, 0) : Prog (Nat × Nat)) (QIn [EOK, ESNOTFND] S .str (·.1)) :=
  .ret _ (.inl ⟨rfl, by decide⟩)

theorem qExitS {β} {bn S : List Nat} {k : Kind} {c : Nat} (o : β) (h : c ∈ S := by decide) (hc : c ≠ EOK := by decide) :
    EVR (do emit (.handler k c); pure (c, o) : Prog (Nat × β)) (QIn bn S k (·.1)) :=
  .emit _ _ (.ret _ (.inr ⟨h, hc, rfl⟩))

theorem optThenOpt {S : List Nat} {k : Kind} {F G : Prop} {p : Prog (Option Nat)} {f : Option Nat → Prog (Option Nat)}
    (hp : EVR p (OptIn S k F)) (hsome : ∀ c, f (some c) = pure (some c)) (hnone : F → EVR (f none) (OptIn S k G)) :
    EVR (p >>= f) (OptIn S k G) :=
  .bind hp fun r es h => by
    rcases h with ⟨rfl, rfl, hF⟩ | ⟨c, rfl, hS, hc, rfl⟩
    · exact hnone hF
    · rw [hsome]; exact .ret _ (.inr ⟨c, rfl, hS, hc, rfl⟩)

/-! the `bool` predicates and the counters have no code to hand back: post `FPost` -/
abbrev PB : Bool → List Event → Prop := FPost false
abbrev PN : Nat → List Event → Prop := FPost 0

theorem failF {α} {fv : α} (c : Nat) (hc : c ≠ EOK := by decide) : EVR (do handlerS c; pure fv) (FPost fv) :=
  .emit _ _ (.ret _ (.inr ⟨rfl, c, hc, rfl⟩))
theorem silent_F {α} {fv : α} {p : Prog α} (h : EVR.Silent p) : EVR p (FPost fv) := h.conseq fun _ _ => .inl

theorem ne_ESNODIFF : ESNODIFF ≠ EOK := by decide

abbrev P2 {β} (benign : List Nat) (k : Kind) : Nat × β → List Event → Prop := QPost benign k (·.1)

end SafeC.Props.C05Query
