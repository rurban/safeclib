import SafeC.Proofs.NormIdem
import SafeC.Proofs.NormNFC
import SafeC.Proofs.NormUCDLift
/-!
# C17 — the table facts behind NFC idempotence, and NFC idempotence

**Table fact:** the full canonical decomposition of a primary composite `c` of the pair `<a, b>` is the full decomposition
of `a` followed by that of `b` — for the 941 primary composites of UCD 14.0 because the mapping of a primary composite is its pair
(`comp_dm_check`, kernel-checked) and everything in its expansion is final (`fullDecomp_fixed`), so that the pair's expansions one
level down are their full ones (`fullDecomp_succ_of_closed`, `comp_dec_ucd`), Hangul LV / LVT syllables by arithmetic (`omega`) and the stability of the jamo; hence for the tree's stored
decompositions, which are UCD's on assigned code points (`primaryComposite_assigned`, `primaryComposite_decompose1`).  Together with `composePure_roundtrip` (NormIdem.lean): NFD (NFC x) = NFD x, hence NFC (NFC x) = NFC x —
for the model's NFC on every string of code points, and for the reference `UAX15.nfc` on every list.
-/
namespace SafeC.Norm
open SafeC.Gen

theorem fullDecomp_succ_of_closed : ∀ (f x : Nat),
    (∀ d ∈ UCD.fullDecomp f x, UCD.dm d = none ∧ UCD.isHangulS d = false) → UCD.fullDecomp (f + 1) x = UCD.fullDecomp f x
  | 0, x, h => by
    have := h x (by simp [UCD.fullDecomp])
    simp [UCD.fullDecomp, this.1, this.2]
  | f + 1, x, h => by
    rw [UCD.fullDecomp.eq_def (f + 1 + 1), UCD.fullDecomp.eq_def (f + 1)]
    dsimp only
    split
    · rfl
    · cases hd : UCD.dm x with
      | none => rfl
      | some p =>
        obtain ⟨a, b⟩ := p
        have h' : ∀ d ∈ UCD.fullDecomp f a ++ (if b = 0 then [] else UCD.fullDecomp f b), UCD.dm d = none ∧ UCD.isHangulS d = false := by
          intro d hdm
          apply h d
          rw [UCD.fullDecomp]
          simp only [*]
          simpa using hdm
        dsimp only
        rw [fullDecomp_succ_of_closed f a fun d hd' => h' d (List.mem_append_left _ hd')]
        split
        · rfl
        · next hb => rw [fullDecomp_succ_of_closed f b fun d hd' => h' d (List.mem_append_right _ (by rw [if_neg hb]; exact hd'))]

theorem comp_dm_check :
    allBelow (fun i => let t := UCD.compEntry i
      UCD.dm t.2.2 == some (t.1, t.2.1) && t.2.1 != 0 && !UCD.isHangulS t.2.2) UCD14.compN = true := by
  decide +kernel

/-- the expansion of a primary composite opens into those of its pair one level down, and everything in it is final (`fullDecomp_fixed`) -/
theorem comp_dec {m : Nat} (hm : m < UCD14.compN) :
    UCD.fullDecomp 4 (UCD.compEntry m).2.2 = UCD.fullDecomp 4 (UCD.compEntry m).1 ++ UCD.fullDecomp 4 (UCD.compEntry m).2.1 := by
  have h := allBelow_spec comp_dm_check m hm
  simp only [Bool.and_eq_true, beq_iff_eq, bne_iff_ne, ne_eq, Bool.not_eq_eq_eq_not, Bool.not_true] at h
  obtain ⟨⟨h1, h2⟩, h3⟩ := h
  generalize (UCD.compEntry m).2.2 = c at *
  generalize (UCD.compEntry m).1 = a at *
  generalize (UCD.compEntry m).2.1 = b at *
  have hc : c < 0x110000 := by
    refine Decidable.by_contra fun hge => ?_
    rw [UCD.dm, if_neg hge] at h1
    cases h1
  have e : UCD.fullDecomp 4 c = UCD.fullDecomp 3 a ++ UCD.fullDecomp 3 b := by
    rw [UCD.fullDecomp, h3, h1]
    simp [h2]
  have cl : ∀ d ∈ UCD.fullDecomp 3 a ++ UCD.fullDecomp 3 b, UCD.dm d = none ∧ UCD.isHangulS d = false := fun d hd =>
    have := fullDecomp_fixed hc (e ▸ hd) (by rw [isS_iff]; exact h3)
    ⟨this.1, this.2.1⟩
  rw [e, fullDecomp_succ_of_closed 3 a fun d hd => cl d (List.mem_append_left _ hd),
    fullDecomp_succ_of_closed 3 b fun d hd => cl d (List.mem_append_right _ hd)]

theorem comp_dec_ucd :
    allBelow (fun i => let t := UCD.compEntry i; UCD.fullDecomp 4 t.2.2 == UCD.fullDecomp 4 t.1 ++ UCD.fullDecomp 4 t.2.1)
      UCD14.compN = true :=
  allBelow_of fun i hi => by simp only [comp_dec hi, beq_self_eq_true]

theorem jamo_ucd_stable :
    allBelow (fun i => UCD.fullDecomp 4 (0x1100 + i) == [0x1100 + i]) 19 = true ∧
    allBelow (fun i => UCD.fullDecomp 4 (0x1161 + i) == [0x1161 + i]) 21 = true ∧
    allBelow (fun i => UCD.fullDecomp 4 (0x11A7 + i) == [0x11A7 + i]) 28 = true := by
  refine ⟨?_, ?_, ?_⟩ <;> decide +kernel

attribute [local irreducible] cell UniCanon.main UniCanon.planes UniCanon.rows UniCombin.main UniCombin.planes UniCombin.rows
  UniCanon.tbl1 UniCanon.tbl2 UniCanon.tbl3 UniCanon.tbl4 UniCompos.main UniCompos.planes UniCompos.rows UniCompos.pairs
  UniCompos.listOff UniCompos.listLen UniCompos.listCp UCD14.compP UCD14.cccIdx UCD14.cccPages UCD14.asgIdx UCD14.asgPages
  UCD14.dmIdx UCD14.dmPages UCD14.dmEnt

theorem isHangulS_of_form {l v t : Nat} (hl : l < 19) (hv : v < 21) (ht : t < 28) :
    UCD.isHangulS (0xAC00 + (l * 21 + v) * 28 + t) = true := by
  unfold UCD.isHangulS UCD.SBase UCD.SCount
  simp only [Bool.and_eq_true, decide_eq_true_eq]
  omega

theorem ucd_fullDecomp_hangul {c : Nat} (h : UCD.isHangulS c = true) : UCD.fullDecomp 4 c = UCD.hangulDecomp c := by
  unfold UCD.fullDecomp; simp [h]

theorem ucd_jamoL {l : Nat} (h : l < 19) : UCD.fullDecomp 4 (0x1100 + l) = [0x1100 + l] := by
  simpa using allBelow_spec jamo_ucd_stable.1 l h

theorem ucd_jamoV {v : Nat} (h : v < 21) : UCD.fullDecomp 4 (0x1161 + v) = [0x1161 + v] := by
  simpa using allBelow_spec jamo_ucd_stable.2.1 v h

theorem ucd_jamoT {t : Nat} (h : t < 28) : UCD.fullDecomp 4 (0x11A7 + t) = [0x11A7 + t] := by
  simpa using allBelow_spec jamo_ucd_stable.2.2 t h

/-- **D114 against D68**: the full decomposition of the primary composite of `<a, b>` is that of `a` followed by that of `b` -/
theorem primaryComposite_fullDecomp {a b c : Nat} (h : UCD.primaryComposite a b = some c) :
    UCD.fullDecomp 4 c = UCD.fullDecomp 4 a ++ UCD.fullDecomp 4 b := by
  unfold UCD.primaryComposite at h
  cases hh : UCD.hangulCompose a b with
  | some s =>
    rw [hh] at h
    have hs : s = c := Option.some.inj h
    subst hs
    rcases hangulCompose_cases hh with ⟨l, v, hl, hv, rfl, rfl, rfl⟩ | ⟨l, v, t, hl, hv, ht0, ht, rfl, rfl, rfl⟩
    · have := isHangulS_of_form hl hv (t := 0) (by omega)
      rw [Nat.add_zero] at this
      rw [ucd_fullDecomp_hangul this, (hangul_LV allFixed l v hl hv).2, ucd_jamoL hl, ucd_jamoV hv]
      rfl
    · have h1 := isHangulS_of_form hl hv ht
      have h0 := isHangulS_of_form hl hv (t := 0) (by omega)
      rw [ucd_fullDecomp_hangul h1, (hangul_LVT allFixed l v t hl hv ht0 ht).2]
      rw [Nat.add_zero] at h0
      rw [ucd_fullDecomp_hangul h0, (hangul_LV allFixed l v hl hv).2, ucd_jamoT ht]
      rfl
  | none =>
    rw [hh] at h
    obtain ⟨m, hm, e1, e2, e3⟩ := tableCompose_sound a b _ _ _ _ h
    have := allBelow_spec comp_dec_ucd m hm
    simp only [beq_iff_eq] at this
    rw [e1, e2, e3] at this
    exact this

theorem ucd_fullDecomp_stable {c d : Nat} (hd : d ∈ UCD.fullDecomp 4 c) : UCD.fullDecomp 4 d = [d] := by
  by_cases hc : c < 0x110000
  · by_cases hs : isS c = true
    · have hh : UCD.isHangulS c = true := by rw [← isS_iff]; exact hs
      rw [ucd_fullDecomp_hangul hh] at hd
      exact hangulDecomp_all (P := fun d => UCD.fullDecomp 4 d = [d]) hh (fun _ => ucd_jamoL) (fun _ => ucd_jamoV) (fun _ => ucd_jamoT) d hd
    · simp only [Bool.not_eq_true] at hs
      obtain ⟨h1, h2, _⟩ := fullDecomp_fixed hc hd hs
      unfold UCD.fullDecomp
      simp [h1, h2]
  · have hns : UCD.isHangulS c = false := by
      unfold UCD.isHangulS UCD.SBase UCD.SCount
      simp only [Bool.and_eq_false_iff, decide_eq_false_iff_not]
      omega
    have hdm : UCD.dm c = none := by unfold UCD.dm; simp [hc]
    have hcc : UCD.fullDecomp 4 c = [c] := by unfold UCD.fullDecomp; simp [hns, hdm]
    rw [hcc] at hd
    simp only [List.mem_singleton] at hd
    rw [hd]; exact hcc

theorem primaryComposite_class0 {a b c : Nat} (h : UCD.primaryComposite a b = some c) : UCD.ccc c = 0 :=
  (pcOf_class0 (ucd_to_pcOf h)).2
theorem primaryComposite_assigned {a b c : Nat} (h : UCD.primaryComposite a b = some c) :
    (UCD.assigned a = true ∧ a ≠ 0x37E) ∧ (UCD.assigned b = true ∧ b ≠ 0x37E) ∧ (UCD.assigned c = true ∧ c ≠ 0x37E) := by
  unfold UCD.primaryComposite at h
  cases hh : UCD.hangulCompose a b with
  | some s =>
    rw [hh] at h
    cases h
    obtain ⟨jL, jV, jT⟩ := jamo_assigned
    rcases hangulCompose_cases hh with ⟨l, v, hl, hv, rfl, rfl, rfl⟩ | ⟨l, v, t, hl, hv, ht0, ht, rfl, rfl, rfl⟩
    · exact ⟨⟨allBelow_spec jL l hl, by omega⟩, ⟨allBelow_spec jV v hv, by omega⟩, hangulS_assigned (by omega), by omega⟩
    · exact ⟨⟨hangulS_assigned (by omega), by omega⟩, ⟨allBelow_spec jT t ht, by omega⟩, hangulS_assigned (by omega), by omega⟩
  | none =>
    rw [hh] at h
    obtain ⟨m, hm, e1, e2, e3⟩ := tableCompose_sound a b _ _ _ _ h
    have := allBelow_spec comp_assigned m hm
    simp only [Bool.and_eq_true, bne_iff_ne, ne_eq] at this
    rw [e1, e2, e3] at this
    exact ⟨this.1.1, this.1.2, this.2⟩

/-- **the tree's decomposition tables against D114**: the stored full decomposition of the primary composite of `<a, b>` is the
stored decomposition of `a` followed by that of `b` — the tree stores UCD's decompositions of assigned code points -/
theorem primaryComposite_decompose1 {a b c : Nat} (h : UCD.primaryComposite a b = some c) :
    decompose1 c = decompose1 a ++ decompose1 b := by
  obtain ⟨⟨a1, n1⟩, ⟨a2, n2⟩, a3, n3⟩ := primaryComposite_assigned h
  rw [decomp_matches_ucd_partial a1 n1, decomp_matches_ucd_partial a2 n2, decomp_matches_ucd_partial a3 n3]
  exact primaryComposite_fullDecomp h

theorem nfdPure_fixed {xs : List Nat} : ∀ d ∈ nfdPure xs, decompose1 d = [d] := by
  intro d hd
  unfold nfdPure at hd
  exact flatMap_decompose1_fixed d (reorderPure_mem.mp hd)

theorem pcOf_fixed_dec {a b c : Nat} (ha : a ≤ UniCompos.unicodeMax) (hb : b ≤ UniCompos.unicodeMax)
    (h : pcOf allFixed a b = some c) : c ≤ UniCompos.unicodeMax ∧ decompose1 c = decompose1 a ++ decompose1 b := by
  obtain ⟨h1, h2⟩ := pcOf_to_ucd ha hb h
  have := assigned_lt h2
  exact ⟨by rw [unicodeMax_eq]; omega, primaryComposite_decompose1 h1⟩

/-- **NFD (NFC x) = NFD x** for the repaired model, every string of code points (assigned or not, any length) -/
theorem nfdPure_nfcPure (xs : List Nat) (h : ∀ c ∈ xs, c ≤ UniCompos.unicodeMax) :
    nfdPure (nfcPure allFixed xs) = nfdPure xs := by
  rw [nfcPure_eq_composePure]
  show reorderPure kcc ((composePure kcc (pcOf allFixed) (nfdPure xs)).flatMap decompose1) = nfdPure xs
  apply composePure_roundtrip (S := fun c => c ≤ UniCompos.unicodeMax)
  · intro a b c ha hb hp; exact pcOf_fixed_dec ha hb hp
  · intro d hd; exact ⟨nfdPure_le h d hd, nfdPure_fixed d hd⟩
  · unfold nfdPure; exact reorderPure_canonOrdered _ _

/-- **NFC is idempotent** for the repaired model, every string of code points (assigned or not, any length) -/
theorem nfcPure_idem (xs : List Nat) (h : ∀ c ∈ xs, c ≤ UniCompos.unicodeMax) :
    nfcPure allFixed (nfcPure allFixed xs) = nfcPure allFixed xs := by
  show d117 kcc (pcOf allFixed) (nfdPure (nfcPure allFixed xs)) = nfcPure allFixed xs
  rw [nfdPure_nfcPure xs h]; rfl

theorem nfcPure_le (xs : List Nat) (h : ∀ c ∈ xs, c ≤ UniCompos.unicodeMax ∧ c ≠ 0) :
    ∀ d ∈ nfcPure allFixed xs, d ≤ UniCompos.unicodeMax ∧ d ≠ 0 := by
  unfold nfcPure
  apply d117_mem_closed (S := fun c => c ≤ UniCompos.unicodeMax ∧ c ≠ 0)
  · intro d hd
    unfold nfdPure at hd
    exact flatMap_decompose1_le h d (reorderPure_mem.mp hd)
  · intro a b c ha hb hp
    refine ⟨(pcOf_fixed_dec ha.1 hb.1 hp).1, ?_⟩
    unfold pcOf at hp
    dsimp only at hp
    split at hp
    · rename_i hc
      have : compositeCp allFixed a b = c := by injection hp
      rw [← this]; exact hc.1
    · cases hp

/-- the pair map, hence NFC, depends on the `compCast` switch only (`rangeChk` is a test in the loops, `foldRoom` concerns wcsfc_s) -/
theorem pcOf_compCast {fx : Fixes} (h : fx.compCast = true) : pcOf fx = pcOf allFixed := by
  funext a b
  have h2 : allFixed.compCast = true := rfl
  simp only [pcOf, compositeCp, h, h2]

theorem nfcPure_compCast {fx : Fixes} (h : fx.compCast = true) (xs : List Nat) : nfcPure fx xs = nfcPure allFixed xs := by
  unfold nfcPure; rw [pcOf_compCast h]

/-- two successful NFC calls: the second changes nothing (any model with the full-width comparison of `_composite_cp`) -/
theorem wcsnormS_nfc_twice (fx : Fixes) (hfx : fx.compCast = true) (dmax dmax' : Nat) (src : List Nat) (h0 : ∀ c ∈ src, c ≠ 0)
    (h1 : (wcsnormS fx 1 dmax src).ret = 0) (h2 : (wcsnormS fx 1 dmax' (wcsnormS fx 1 dmax src).out).ret = 0) :
    (wcsnormS fx 1 dmax' (wcsnormS fx 1 dmax src).out).out = (wcsnormS fx 1 dmax src).out := by
  obtain ⟨e1, _, _, e4⟩ := wcsnormS_nfc_spec fx dmax src h0 h1
  rw [e1] at h2 ⊢
  rw [nfcPure_compCast hfx] at h2 ⊢
  have hne := nfcPure_le src (fun c hc => ⟨e4 c hc, h0 c hc⟩)
  obtain ⟨f1, _, _, _⟩ := wcsnormS_nfc_spec fx dmax' (nfcPure allFixed src) (fun c hc => (hne c hc).2) h2
  rw [f1, nfcPure_compCast hfx]
  exact nfcPure_idem src e4

#print axioms nfcPure_idem
#print axioms wcsnormS_nfc_twice

/-- **sufficient room for NFC**: `dmax ≤ RSIZE_MAX_WSTR` and five cells more than the NFD text ⇒ `wcsnorm_s(…NFC…)` returns EOK
(with `wcsnormS_nfc_spec`: and dest is the NFC), unrepaired and repaired -/
theorem wcsnormS_nfc_succeeds (fx : Fixes) (dmax : Nat) (src : List Nat) (hs : ∀ c ∈ src, c ≠ 0 ∧ c ≤ UniCompos.unicodeMax)
    (hmax : dmax ≤ RSIZE_MAX_WSTR) (hroom : (nfdPure src).length + 5 ≤ dmax) : (wcsnormS fx 1 dmax src).ret = 0 := by
  rw [(wcsnormS_nfc_call fx dmax src fun c hc => (hs c hc).1).of_room (fun c hc => (hs c hc).2) hmax hroom]

/-- **with that room, normalizing the result again succeeds and changes nothing** (both calls return EOK; the second needs no
more room than the first because NFD (NFC x) = NFD x) -/
theorem wcsnormS_nfc_twice_ok (fx : Fixes) (hfx : fx.compCast = true) (dmax dmax' : Nat) (src : List Nat)
    (hs : ∀ c ∈ src, c ≠ 0 ∧ c ≤ UniCompos.unicodeMax)
    (hmax : dmax ≤ RSIZE_MAX_WSTR) (hroom : (nfdPure src).length + 5 ≤ dmax)
    (hmax' : dmax' ≤ RSIZE_MAX_WSTR) (hroom' : (nfdPure src).length + 5 ≤ dmax') :
    (wcsnormS fx 1 dmax src).ret = 0 ∧ (wcsnormS fx 1 dmax' (wcsnormS fx 1 dmax src).out).ret = 0 ∧
    (wcsnormS fx 1 dmax' (wcsnormS fx 1 dmax src).out).out = (wcsnormS fx 1 dmax src).out := by
  have h0 : ∀ c ∈ src, c ≠ 0 := fun c hc => (hs c hc).1
  have h1 := wcsnormS_nfc_succeeds fx dmax src hs hmax hroom
  obtain ⟨e1, _, _, _⟩ := wcsnormS_nfc_spec fx dmax src h0 h1
  have hne := nfcPure_le src (fun c hc => ⟨(hs c hc).2, (hs c hc).1⟩)
  have h2 : (wcsnormS fx 1 dmax' (wcsnormS fx 1 dmax src).out).ret = 0 := by
    rw [e1, nfcPure_compCast hfx]
    apply wcsnormS_nfc_succeeds fx dmax' _ (fun c hc => ⟨(hne c hc).2, (hne c hc).1⟩) hmax'
    rw [nfdPure_nfcPure src (fun c hc => (hs c hc).2)]
    exact hroom'
  exact ⟨h1, h2, wcsnormS_nfc_twice fx hfx dmax dmax' src h0 h1 h2⟩

#print axioms wcsnormS_nfc_succeeds
#print axioms wcsnormS_nfc_twice_ok
end SafeC.Norm

namespace SafeC.UAX15
open SafeC.Norm

theorem nfc_eq_composePure (xs : List Nat) : nfc xs = composePure UCD.ccc UCD.primaryComposite (nfd xs) := by
  unfold nfc
  exact (composePure_eq_d117 (fun a b c h _ => primaryComposite_class0 h) (reorderPure_canonOrdered _ _)).symm

/-- **UAX #15: NFD (NFC x) = NFD x**, every list of cells, over UCD 14.0 -/
theorem nfd_nfc (xs : List Nat) : nfd (nfc xs) = nfd xs := by
  rw [nfc_eq_composePure]
  show reorderPure UCD.ccc ((composePure UCD.ccc UCD.primaryComposite (nfd xs)).flatMap (UCD.fullDecomp 4)) = nfd xs
  apply composePure_roundtrip (S := fun _ => True)
  · intro a b c _ _ h; exact ⟨trivial, primaryComposite_fullDecomp h⟩
  · intro d hd
    refine ⟨trivial, ?_⟩
    have hd' := reorderPure_mem.mp hd
    unfold UCD.decompose at hd'
    simp only [List.mem_flatMap] at hd'
    obtain ⟨c, _, hdc⟩ := hd'
    exact ucd_fullDecomp_stable hdc
  · exact reorderPure_canonOrdered _ _

/-- **UAX #15: NFC is idempotent**, every list of cells, over UCD 14.0 -/
theorem nfc_idem (xs : List Nat) : nfc (nfc xs) = nfc xs := by
  show d117 UCD.ccc UCD.primaryComposite (nfd (nfc xs)) = nfc xs
  rw [nfd_nfc]; rfl

#print axioms SafeC.UAX15.nfc_idem

end SafeC.UAX15
