import SafeC.Proofs.PrintfConv
/-!
# C11: `%c` and `%s` of the engine = `Spec.render`
-/
namespace SafeC.Printf
open SafeC.Printf.Spec

theorem out_eq_emitAll (sk : Sink) (m : Nat) (c : Char) (s : St) : out sk m c s = emitAll sk m [c] s := by
  simp only [emitAll, bind, Except.bind]
  cases out sk m c s <;> rfl

theorem cfl_long_none (d : Dir) (h : d.len = .none) : (cfl d).long = false := by simp [h]

/-- **`%c`.**  Any flags `-`, any width, any `int` argument: the engine writes the padded character the standard prescribes. -/
theorem convChar_eq (fx : Fixes) (sk : Sink) (m : Nat) (d : Dir) (hlen : d.len = .none) (v : Int) (as : List Arg) (s : St) :
    convChar fx sk m (cfl d) d.width (.int v :: as) s =
      (emitAll sk m (padField d [Char.ofNat (wrapU 8 v)]) s).map (fun s' => (s', as)) := by
  unfold convChar padField
  simp only [cfl_long_none d hlen, Bool.false_eq_true, if_false, cfl_left, nextInt, emitRep_eq, out_eq_emitAll,
    List.length_singleton, bind, Except.bind, pure, Except.pure, wrapU_wrapS (show 8 ≤ 32 by decide)]
  cases hm : d.minus
  · simp only [Bool.not_false, if_true, Bool.false_eq_true, if_false, emitAll_append, bind, Except.bind]
    cases h1 : emitAll sk m (List.replicate (d.width - 1) ' ') s with
    | error e => simp [Except.map]
    | ok s1 => cases h2 : emitAll sk m [Char.ofNat (wrapU 8 v)] s1 <;> simp [h2, Except.map]
  · simp only [Bool.not_true, Bool.false_eq_true, if_false, if_true, emitAll_append, bind, Except.bind]
    cases h1 : emitAll sk m [Char.ofNat (wrapU 8 v)] s with
    | error e => simp [Except.map]
    | ok s1 => cases h2 : emitAll sk m (List.replicate (d.width - 1) ' ') s1 <;> simp [h2, Except.map]

/-- the characters `%s` writes for the string `p` -/
def strCore (d : Dir) (p : Str) : Str := match d.prec with | some n => p.take n | Option.none => p

/-- **`%s`.**  Any flags `-`, width, precision, any string: the engine writes the standard's text; when the string part does
    not fit the room left (`l + idx > bufsize`) the buffer sink fails with `-ESNOSPC`, which is what writing the text
    would have done. -/
theorem convStr_eq (fx : Fixes) (hs0 : fx.strPrec0 = true) (sk : Sink) (m : Nat) (d : Dir) (hlen : d.len = .none)
    (p : Str) (as : List Arg) (s : St)
    (hroom : (sk = .buffer ∧ s.idx ≤ m) ∨ s.idx + (padField d (strCore d p)).length ≤ m) :
    convStr fx sk m m (cfl d) d.width (d.prec.getD 0) (.str (some p) :: as) s =
      (emitAll sk m (padField d (strCore d p)) s).map (fun s' => (s', as)) := by
  unfold convStr
  simp only [cfl_long_none d hlen, Bool.false_eq_true, if_false, hs0, if_true, cfl_precision]
  have hl : (if d.prec.isSome = true then min p.length (d.prec.getD 0) else p.length) = (strCore d p).length := by
    unfold strCore; cases d.prec <;> simp [List.length_take, Nat.min_comm]
  have hcore : (if d.prec.isSome = true then p.take (d.prec.getD 0) else p) = strCore d p := by
    unfold strCore; cases d.prec <;> simp
  rw [hl]
  unfold convStrTail
  simp only [cfl_precision, cfl_left, hcore, emitRep_eq]
  have hl2 : (if d.prec.isSome = true then min (strCore d p).length (d.prec.getD 0) else (strCore d p).length) = (strCore d p).length := by
    unfold strCore; cases d.prec <;> simp [List.length_take]
  rw [hl2]
  have hge : (strCore d p).length ≤ (padField d (strCore d p)).length := by
    unfold padField; split <;> simp
  by_cases hpre : (strCore d p).length + s.idx > m
  · rw [if_pos hpre]
    rcases hroom with ⟨rfl, hi⟩ | h
    · rw [emitAll_buffer_overflow m _ s hi (by omega)]; rfl
    · omega
  · rw [if_neg hpre]
    unfold padField
    cases hm : d.minus
    · simp only [Bool.not_false, if_true, Bool.false_eq_true, if_false, emitAll_append, bind, Except.bind, pure, Except.pure]
      cases h1 : emitAll sk m (List.replicate (d.width - (strCore d p).length) ' ') s with
      | error e => simp [Except.map]
      | ok s1 => cases h2 : emitAll sk m (strCore d p) s1 <;> simp [h2, Except.map]
    · simp only [Bool.not_true, Bool.false_eq_true, if_false, if_true, emitAll_append, bind, Except.bind, pure, Except.pure]
      cases h1 : emitAll sk m (strCore d p) s with
      | error e => simp [Except.map]
      | ok s1 => cases h2 : emitAll sk m (List.replicate (d.width - (strCore d p).length) ' ') s1 <;> simp [h2, Except.map]

end SafeC.Printf
