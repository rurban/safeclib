import SafeC.Proofs.ExtStp
/-!
# The narrow copy family `strcpy_s strncpy_s strcat_s strncat_s` and the stp pair: every call, every placement,
every content, object size of dest unknown or known, source size unknown or known

The twin of `Proofs/ExtWide.lean` for the narrow entry checks (`chkDmaxClear`, `chkSlenMaxClear`,
`handleStrBosOverflow`).  For ALL arguments the call returns and changes nothing outside
`dest[0..dmax)` (`Outcome`); for a usable dest (`UsableNB`: non-null, `0 < dmax ≤ RSIZE_MAX_STR`, `dmax`
inside the object when its size is known) `StrPost` (C03 + C04) and, where the function promises it,
`Props.C08Ext.Clean` (C08).  The bounded pair is stated for `slen ≤ srcbos` when the source size is known (the
`slen > srcbos` exit is the recorded finding `slen-exceeds-srcbos`).
-/
namespace SafeC
open Gen

theorem strnlen_s_any (str smax : Nat) (st : St) (hall : ∀ a, st.mapped a = true ∧ st.rd a = true) :
    LenScan (strnlen_s str smax none) str smax RSIZE_MAX_STR st := by
  unfold strnlen_s
  by_cases hs : str = 0
  · rw [if_pos hs]
    exact ⟨0, { st with events := st.events ++ [.handler .str ESNULLP] }, by simp [handlerS, exec_bind],
      rfl, rfl, rfl, rfl, rfl, Nat.zero_le _, fun h => absurd hs h⟩
  rw [if_neg hs]
  by_cases hz : smax = 0
  · rw [if_pos hz]
    exact ⟨0, { st with events := st.events ++ [.handler .str ESZEROL] }, by simp [handlerS, exec_bind],
      rfl, rfl, rfl, rfl, rfl, Nat.zero_le _, fun _ h => by omega⟩
  rw [if_neg hz]
  by_cases hx : smax > RSIZE_MAX_STR
  · rw [if_pos hx]
    exact ⟨0, { st with events := st.events ++ [.handler .str ESLEMAX] }, by simp [handlerS, exec_bind],
      rfl, rfl, rfl, rfl, rfl, Nat.zero_le _, fun _ _ h => by omega⟩
  rw [if_neg hx]
  exact ⟨_, st, by rw [strnlenLoop_eq hall _ _ _ none nofun, Nat.zero_add], rfl, rfl, rfl, rfl, rfl, scanLen_le _ _ _,
    fun _ _ _ => ⟨rfl, scanLen_zero _ _ _⟩⟩

def UsableNB (max dest dmax : Nat) (destbos : Bos) : Prop :=
  dest ≠ 0 ∧ 0 < dmax ∧ dmax ≤ max ∧ ∀ b, destbos = some b → dmax ≤ b

/-- `handle_str_bos_overflow(msg, dest, b)` with `b` inside an extent that may be written: EOVERFLOW,
writes inside the extent only (it clears `strnlen_s(dest, b) ≤ b` cells) -/
theorem bosOverflow_frame (cfg : Cfg) (dest b ext : Nat) (st : St)
    (hall : ∀ a, st.mapped a = true ∧ st.rd a = true) (hw : RW st dest ext) (hpos : 0 < ext)
    (hle : b ≤ ext) (hb : b ≤ RSIZE_MAX_STR) :
    ∃ st', exec (handleStrBosOverflow cfg dest b) st = .ok (EOVERFLOW, st') ∧ FramePost dest ext st st' := by
  obtain ⟨len, s1, he1, hd, hm, hr, hwr, hst, hlen, _⟩ := strnlen_s_any dest b st hall
  have hrw1 : RW s1 dest ext := by
    intro i hi; rw [hm, hwr, hr]; exact hw i hi
  obtain ⟨st', he2, hf, _⟩ := handleError_frame cfg dest len ext EOVERFLOW s1 hrw1 hpos (by omega)
  have hn : ¬ len > RSIZE_MAX_STR := by omega
  refine ⟨st', ?_, ?_⟩
  · unfold handleStrBosOverflow
    simp [exec_bind, he1, hn, he2]
  · exact ⟨hf.mapped.trans hm, hf.rd.trans hr, hf.wr.trans hwr, hf.strays.trans hst,
      fun a ha => (hf.frame a ha).trans (by rw [hd])⟩

/-- `CHK_DEST_NULL; CHK_DMAX_ZERO; CHK_DMAX_MAX / CHK_DEST_OVR_CLEAR` in front of a body, for ANY destbos, any limit `max` and any
way `mk` of returning a code (`id`; `(NULL, ·)` for the stp pair).  `hmax`: with a KNOWN object size the overflow exit calls
`strnlen_s(dest, destbos)`, whose own limit is `RSIZE_MAX_STR`. -/
theorem entryG {α : Type} (mk : Nat → α) (max : Nat) (cfg : Cfg) (dest dmax : Nat) (destbos : Bos) (st : St) (k : Prog α)
    (Q : α → St → Prop) (hall : ∀ a, st.mapped a = true ∧ st.rd a = true)
    (hrw : dest ≠ 0 → RW st dest dmax) (hmax : destbos ≠ none → max ≤ RSIZE_MAX_STR)
    (hk : dest ≠ 0 → 0 < dmax → Outcome dest dmax st k (fun c s => dmax ≤ max → Q c s)) :
    Outcome dest dmax st
      (if dest = 0 then do handlerS ESNULLP; pure (mk ESNULLP)
       else if dmax = 0 then do handlerS ESZEROL; pure (mk ESZEROL)
       else chkDmaxClearG mk cfg dest dmax destbos max k)
      (fun c s => UsableNB max dest dmax destbos → Q c s) := by
  refine entry_outcome mk dest dmax st _ _ _ (fun h => ⟨h.1, h.2.1⟩) (fun hd hpos => ?_)
  obtain ⟨code, st', he, hf, hq⟩ := hk hd hpos
  cases destbos with
  | none =>
    unfold chkDmaxClearG
    simp only
    by_cases hx : dmax > max
    · rw [if_pos hx]; exact handler_outcome _ _ _ _ _ _ (fun _ h => by have := h.2.2.1; omega)
    · rw [if_neg hx]; exact ⟨code, st', he, hf, fun h => hq h.2.2.1⟩
  | some b =>
    unfold chkDmaxClearG
    simp only
    have hmax := hmax nofun
    by_cases hb : dmax > b
    · -- `dmax` beyond the object (ANY `b`, also 0): the code is returned, the clearing stays inside `dest[0..dmax)`
      rw [if_pos hb]
      have hq' : ∀ c s, UsableNB max dest dmax (some b) → Q c s := fun c s h => by have := h.2.2.2 b rfl; omega
      by_cases hx : dmax > max
      · rw [if_pos hx]
        obtain ⟨s1, he1, hf1, _⟩ := handleError_frame cfg dest b dmax ESLEMAX st (hrw hd) hpos (by omega)
        exact ⟨mk ESLEMAX, s1, by simp [exec_bind, he1], hf1, hq' _ _⟩
      · rw [if_neg hx]
        obtain ⟨s1, he1, hf1⟩ := bosOverflow_frame cfg dest b dmax st hall (hrw hd) hpos (by omega) (by omega)
        exact ⟨mk EOVERFLOW, s1, by simp [exec_bind, he1], hf1, hq' _ _⟩
    · rw [if_neg hb]; exact ⟨code, st', he, hf, fun h => hq h.2.2.1⟩

/-- **`strcpyG max`, every call**, for `max ≤ RSIZE_MAX_STR` (`strcpy_s` is `max = RSIZE_MAX_STR`) and, when the object size is unknown, for any `max` (`hmax`).  `dest == src` is the recorded
`same-pointer-shortcut` (EOK, untouched); otherwise the failures are the three that clear the whole of dest. -/
theorem strcpyG_ext (max : Nat) (cfg : Cfg) (dest dmax src : Nat) (destbos : Bos) (st : St)
    (hall : ∀ a, st.mapped a = true ∧ st.rd a = true) (hrw : dest ≠ 0 → RW st dest dmax)
    (hmax : destbos ≠ none → max ≤ RSIZE_MAX_STR) :
    Outcome dest dmax st (strcpyG max cfg dest dmax src destbos)
      (fun code st' => UsableNB max dest dmax destbos →
        (dest ≠ src → WQ cfg dest dmax True code st' ∧ (code = EOK ∨ code = ESOVRLP ∨ code = ESNOSPC ∨ code = ESNULLP)) ∧
        (dest = src → code = EOK ∧ st' = st)) := by
  unfold strcpyG
  apply entryG id max cfg dest dmax destbos st _ _ hall hrw hmax
  intro hd hpos
  have hrw' := hrw hd
  by_cases hs : src = 0
  · rw [if_pos hs]
    obtain ⟨s, he, hf, hp⟩ := herr_clear cfg dest dmax ESNULLP st hrw' hpos
    exact ⟨ESNULLP, s, by simp [exec_bind, he], hf,
      fun _ => ⟨fun _ => ⟨WQ.of_fail hp ne_ESNULLP, .inr (.inr (.inr rfl))⟩, fun he => absurd (he.trans hs) hd⟩⟩
  rw [if_neg hs]
  by_cases hsame : dest = src
  · rw [if_pos hsame]
    exact ⟨EOK, st, rfl, FramePost.refl _ _ _, fun _ => ⟨fun h => absurd hsame h, fun _ => ⟨rfl, rfl⟩⟩⟩
  rw [if_neg hsame]
  exact (copyTwin_outcome cfg false dest dmax src 0 True _ st hall hrw' hpos).imp
    (fun c s h hmx => ⟨fun _ => ⟨h.2 hmx, h.1.imp_right (·.imp_right .inl)⟩, fun he => absurd he hsame⟩)

/-- **strncpy_s: every call** with `slen` inside a known source object.  `slen == 0` is the recorded
`strncpy-slen0-shortcut` (EOK, only dest[0] zeroed). -/
theorem strncpy_s_ext (cfg : Cfg) (dest dmax src slen : Nat) (destbos srcbos : Bos) (st : St)
    (hall : ∀ a, st.mapped a = true ∧ st.rd a = true) (hrw : dest ≠ 0 → RW st dest dmax)
    (hsb : ∀ sb, srcbos = some sb → slen ≤ sb) :
    Outcome dest dmax st (strncpy_s cfg dest dmax src slen destbos srcbos)
      (fun code st' => UsableNB RSIZE_MAX_STR dest dmax destbos → WQ cfg dest dmax (slen ≠ 0) code st') := by
  unfold strncpy_s strncpyG
  by_cases h0 : slen = 0 ∧ dest ≠ 0 ∧ dmax ≠ 0
  · rw [if_pos h0]
    exact storeNul_outcome cfg dest dmax slen _ st (hrw h0.2.1) (Nat.pos_of_ne_zero h0.2.2) h0.1
  rw [if_neg h0]
  apply entryG id _ cfg dest dmax destbos st _ _ hall hrw (fun _ => Nat.le_refl _)
  intro hd hpos
  have hrw' := hrw hd
  by_cases hs : src = 0
  · rw [if_pos hs]; exact nullSrc_outcome cfg dest dmax _ _ st hrw' hpos
  rw [if_neg hs]
  unfold chkSlenMaxClear
  by_cases hsl : slen > RSIZE_MAX_STR
  · rw [if_pos hsl]
    exact lenExit_outcome cfg dest dmax ESLEMAX _ _ _ st (strnlen_s_any dest dmax st hall) hrw' hd hpos ne_ESLEMAX (by decide)
  rw [if_neg hsl]
  have body := (copyTwin_outcome cfg true dest dmax src slen (slen ≠ 0) (dmax ≤ RSIZE_MAX_STR) st hall hrw' hpos).imp
    fun _ _ h => h.2
  cases srcbos with
  | none => exact body
  | some sb =>
    simp only
    rw [if_neg (Nat.not_lt.mpr (hsb sb rfl))]; exact body

theorem strcat_s_ext (cfg : Cfg) (dest dmax src : Nat) (destbos : Bos) (st : St)
    (hall : ∀ a, st.mapped a = true ∧ st.rd a = true) (hrw : dest ≠ 0 → RW st dest dmax) :
    Outcome dest dmax st (strcat_s cfg dest dmax src destbos)
      (fun code st' => UsableNB RSIZE_MAX_STR dest dmax destbos → WQ cfg dest dmax True code st') := by
  unfold strcat_s strcatG
  apply entryG id _ cfg dest dmax destbos st _ _ hall hrw (fun _ => Nat.le_refl _)
  intro hd hpos
  have hrw' := hrw hd
  by_cases hs : src = 0
  · rw [if_pos hs]; exact nullSrc_outcome cfg dest dmax _ _ st hrw' hpos
  rw [if_neg hs]
  exact catTwin_outcome cfg false dest dmax src 0 _ st hall hrw' hpos

theorem strncat_s_ext (cfg : Cfg) (dest dmax src slen : Nat) (destbos srcbos : Bos) (st : St)
    (hall : ∀ a, st.mapped a = true ∧ st.rd a = true) (hrw : dest ≠ 0 → RW st dest dmax)
    (hsb : ∀ sb, srcbos = some sb → slen ≤ sb) :
    Outcome dest dmax st (strncat_s cfg dest dmax src slen destbos srcbos)
      (fun code st' => UsableNB RSIZE_MAX_STR dest dmax destbos → WQ cfg dest dmax True code st') := by
  unfold strncat_s strncatG
  by_cases h0 : slen = 0 ∧ dest = 0 ∧ dmax = 0
  · rw [if_pos h0]
    exact ⟨EOK, st, rfl, FramePost.refl _ _ _, fun h => absurd h0.2.1 h.1⟩
  rw [if_neg h0]
  apply entryG id _ cfg dest dmax destbos st _ _ hall hrw (fun _ => Nat.le_refl _)
  intro hd hpos
  have hrw' := hrw hd
  by_cases hs : src = 0
  · rw [if_pos hs]; exact nullSrc_outcome cfg dest dmax _ _ st hrw' hpos
  rw [if_neg hs]
  unfold chkSlenMaxClear
  by_cases hsl : slen > RSIZE_MAX_STR
  · rw [if_pos hsl]
    exact lenExit_outcome cfg dest dmax ESLEMAX _ _ _ st (strnlen_s_any dest dmax st hall) hrw' hd hpos ne_ESLEMAX (by decide)
  rw [if_neg hsl]
  by_cases hz : slen = 0
  · rw [if_pos hz]
    exact slen0_outcome cfg dest dmax RSIZE_MAX_STR _ _ st (strnlen_s_any dest dmax st hall) hrw' hpos
  rw [if_neg hz]
  have body := catTwin_outcome cfg true dest dmax src slen (dmax ≤ RSIZE_MAX_STR) st hall hrw' hpos
  cases srcbos with
  | none => exact body
  | some sb =>
    simp only
    rw [if_neg (Nat.not_lt.mpr (hsb sb rfl))]; exact body

theorem stpcpy_s_ext (cfg : Cfg) (dest dmax src : Nat) (destbos srcbos : Bos) (st : St)
    (hall : ∀ a, st.mapped a = true ∧ st.rd a = true) (hrw : dest ≠ 0 → RW st dest dmax) :
    Outcome dest dmax st (stpcpy_s cfg dest dmax src destbos srcbos)
      (fun r st' => UsableNB RSIZE_MAX_STR dest dmax destbos → StpQ cfg dest dmax st st' r ∧ (r.2 = ESUNTERM → srcbos ≠ none)) := by
  unfold stpcpy_s
  apply entryG (fun c => (0, c)) _ cfg dest dmax destbos st _ _ hall hrw (fun _ => Nat.le_refl _)
  intro hd hpos
  have hrw' := hrw hd
  by_cases hs : src = 0
  · rw [if_pos hs]
    obtain ⟨r, st', he, hf, hq⟩ := nullSrcP_outcome cfg dest dmax st srcbos false 0 hrw' hpos
    exact ⟨r, st', he, hf, fun h => ⟨(hq h).1, fun hu => by obtain ⟨sb, h1, _⟩ := (hq h).2 hu; simp [h1]⟩⟩
  rw [if_neg hs]
  obtain ⟨r, st', he, hf, hq, hun⟩ := stpBody_ok cfg false dest dmax src 0 srcbos st hall hrw' hpos
  exact ⟨r, st', he, hf, fun _ => ⟨hq, fun hu => by obtain ⟨sb, h1, _⟩ := hun hu; simp [h1]⟩⟩

/-- **stpncpy_s: every call** (any destbos; source size unknown, or known with slen inside it — the `slen > srcbos`
exit is the recorded finding `slen-exceeds-srcbos`).  The `src unterminated` exit is then unreachable. -/
theorem stpncpy_s_ext (cfg : Cfg) (dest dmax src slen : Nat) (destbos srcbos : Bos) (st : St)
    (hall : ∀ a, st.mapped a = true ∧ st.rd a = true) (hrw : dest ≠ 0 → RW st dest dmax)
    (hsb : ∀ sb, srcbos = some sb → slen ≤ sb) :
    Outcome dest dmax st (stpncpy_s cfg dest dmax src slen destbos srcbos)
      (fun r st' => UsableNB RSIZE_MAX_STR dest dmax destbos → StpQ cfg dest dmax st st' r ∧ r.2 ≠ ESUNTERM) := by
  unfold stpncpy_s
  apply entryG (fun c => (0, c)) _ cfg dest dmax destbos st _ _ hall hrw (fun _ => Nat.le_refl _)
  intro hd hpos
  have hrw' := hrw hd
  by_cases hs : src = 0
  · rw [if_pos hs]
    obtain ⟨r, st', he, hf, hq⟩ := nullSrcP_outcome cfg dest dmax st srcbos true slen hrw' hpos
    refine ⟨r, st', he, hf, fun h => ⟨(hq h).1, fun hu => ?_⟩⟩
    obtain ⟨sb, h1, h2⟩ := (hq h).2 hu
    have := hsb sb h1; have := h2 rfl; omega
  rw [if_neg hs]
  by_cases hsl : slen > RSIZE_MAX_STR
  · rw [if_pos hsl]
    obtain ⟨st', he, hf, h0⟩ :=
      lenExit_ok cfg dest dmax ESLEMAX RSIZE_MAX_STR (0, ESLEMAX) _ st (strnlen_s_any dest dmax st hall) hrw' hpos
    refine ⟨_, st', he, hf, fun hmx => ⟨⟨fun h => absurd h ne_ESLEMAX, fun _ => rfl, fun _ => ?_⟩, by decide⟩⟩
    exact StrPost.of_first hpos (h0 hd hmx) (by decide)
  rw [if_neg hsl]
  have body : Outcome dest dmax st (stpBody cfg true dest dmax src slen srcbos)
      (fun r st' => dmax ≤ RSIZE_MAX_STR → StpQ cfg dest dmax st st' r ∧ r.2 ≠ ESUNTERM) := by
    obtain ⟨r, st', he, hf, hq, hun⟩ := stpBody_ok cfg true dest dmax src slen srcbos st hall hrw' hpos
    refine ⟨r, st', he, hf, fun _ => ⟨hq, fun hu => ?_⟩⟩
    obtain ⟨sb, h1, h2⟩ := hun hu
    have := hsb sb h1; have := h2 rfl; omega
  cases srcbos with
  | none => exact body
  | some sb =>
    simp only
    have : ¬ slen > sb := by have := hsb sb rfl; omega
    rw [if_neg this]; exact body

end SafeC
