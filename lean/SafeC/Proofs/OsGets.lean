import SafeC.Proofs.OsIo
/-!
# `gets_s`: the exact result of every exit, behind the entry checks (`getsBody_spec`) and of the whole call
(`gets_s_runs`); the line as a list function of the stream

`L` is the length of the line as gets_s sees it: the bytes of the stream in front of the first newline / NUL / the end
(`hL1`–`hL3` characterise it by indices; `lineStr_spec` below gives it as a list function of the stream).
`GetsFits`: the line fits — it is shorter than `dmax - 1`, or has exactly `dmax - 1` bytes and the stream ends or continues
with a newline right behind it (the `getc` of the C).
-/
namespace SafeC
open Gen

def GetsFits (dmax len L c : Nat) : Prop := L + 1 < dmax ∨ (L + 1 = dmax ∧ (L = len ∨ c = 10))

def GetsOk (cfg : Cfg) (dest dmax inp L : Nat) (st : St) (r : Nat) (s : St) : Prop :=
  r = EOK ∧ s.events = st.events ∧
  (∀ j, j < L → s.data (dest+j) = st.data (inp+j)) ∧ s.data (dest+L) = 0 ∧
  (cfg.slack = true → ∀ i, L ≤ i → i < dmax → s.data (dest+i) = 0)

/-- the successful exit (`done L` in `getsBody`: with null-slack `dest[L..dmax)` is nulled, then EOK), as the middle one of the
three outcomes of `getsBody_spec`.  `h` is `len ≠ 0 ∧ GetsFits …` written out, so that the callers give it by arithmetic. -/
theorem getsDone_ok {A C : Nat → St → Prop} (cfg : Cfg) (dest dmax inp len L : Nat) (st s2 : St) (hrw : RW st dest dmax)
    (h : len ≠ 0 ∧ (L + 1 < dmax ∨ (L + 1 = dmax ∧ (L = len ∨ st.data (inp+L) = 10))))
    (hm : SameMeta s2 st) (hfr : ∀ a, ¬ (dest ≤ a ∧ a < dest + dmax) → s2.data a = st.data a)
    (hcp : ∀ j, j < L → s2.data (dest+j) = st.data (inp+j)) (hz : s2.data (dest+L) = 0) :
    Runs (do (if cfg.slack = true ∧ L < dmax then memsetP 0 (dmax - L) (dest + L) else pure ()); pure EOK : Prog Nat) s2
      (fun r s => FramePost dest dmax st s ∧ (A r s ∨
        (len ≠ 0 ∧ GetsFits dmax len L (st.data (inp+L)) ∧ GetsOk cfg dest dmax inp L st r s) ∨ C r s)) := by
  obtain ⟨hlen, hfit⟩ := h
  have hL : L < dmax := by rcases hfit with h | ⟨h, _⟩ <;> omega
  cases hsl : cfg.slack with
  | true =>
    rw [if_pos ⟨rfl, hL⟩]
    obtain ⟨s, he, hm2, hd⟩ := memsetP_ok 0 (dmax - L) (dest + L) s2
      (RW.sub (RW.of_sameMeta hm hrw) (Nat.le_add_right _ _) (by omega))
    have hm' := hm2.trans hm
    refine Runs.bind ⟨_, s, he, Runs.pure _ ⟨.of_sameMeta hm' fun a ha => ?_, .inr (.inl ⟨hlen, hfit, rfl, hm'.events,
      fun j hj => ?_, ?_, fun _ i h1 h2 => ?_⟩)⟩⟩
    · rw [hd a, if_neg (by omega), hfr a ha]
    · rw [hd _, if_neg (by omega), hcp j hj]
    · rw [hd _, if_pos (by omega)]
    · rw [hd _, if_pos (by omega)]
  | false =>
    rw [if_neg (fun h => Bool.noConfusion h.1)]
    exact Runs.bind (Runs.pure _ (Runs.pure _ ⟨.of_sameMeta hm hfr, .inr (.inl ⟨hlen, hfit, rfl, hm.events, hcp, hz,
      fun h => by rw [hsl] at h; cases h⟩)⟩))

/-- the byte in front of the terminator, as gets_s looks at it: not a newline here -/
theorem getsLast_runs (dest n : Nat) (s2 : St) (hrd : 0 < n → s2.mapped (dest + (n-1)) = true ∧ s2.rd (dest + (n-1)) = true)
    (h10 : 0 < n → s2.data (dest + (n-1)) ≠ 10) :
    Runs (if n > 0 then load (dest + n - 1) else pure 0 : Prog Nat) s2 (fun v s => s = s2 ∧ v ≠ 10) := by
  by_cases hp : n > 0
  · rw [if_pos hp, show dest + n - 1 = dest + (n - 1) by omega]
    exact (Runs.loadP _ (hrd hp).1 (hrd hp).2).conseq (fun v s ⟨hv, hs⟩ => ⟨hs, hv ▸ h10 hp⟩)
  · rw [if_neg hp]; exact Runs.pure _ ⟨rfl, by decide⟩

theorem getsNospc_runs (cfg : Cfg) (dest dmax : Nat) (st s2 : St) (hrw : RW st dest dmax) (hpos : 0 < dmax)
    (hm2 : SameMeta s2 st) (hfr2 : ∀ a, ¬ (dest ≤ a ∧ a < dest + dmax) → s2.data a = st.data a) :
    Runs (do handleError cfg dest dmax ESNOSPC; (if cfg.slack then memsetP 0 dmax dest else pure ()); pure ESNOSPC : Prog Nat) s2
      (fun r s => FramePost dest dmax st s ∧ r = ESNOSPC ∧ s.events = st.events ++ [.handler .str ESNOSPC] ∧
        DestCleared cfg dest dmax s) := by
  have hrws2 := RW.of_sameMeta hm2 hrw
  refine .bind ((herr_runs cfg dest dmax ESNOSPC s2 hrws2 hpos).conseq fun _ s3 ⟨pf, pe, pz, psl⟩ => ?_)
  have hf3 := (FramePost.of_sameMeta hm2 hfr2).trans pf
  rw [hm2.events] at pe
  cases hsl : cfg.slack with
  | true =>
    obtain ⟨s4, he4, hm4, hd4⟩ := memsetP_ok 0 dmax dest s3 (fun i hi => by rw [pf.mapped, pf.wr, pf.rd]; exact hrws2 i hi)
    rw [if_pos rfl]
    refine Runs.bind (Runs.of_exec he4 (Runs.pure _ ⟨hf3.trans (.of_sameMeta hm4 fun a ha => by rw [hd4 a, if_neg ha]),
      rfl, hm4.events.trans pe, ?_, fun _ i hi => ?_⟩))
    · rw [hd4 dest, if_pos (by omega)]
    · rw [hd4 (dest + i), if_pos (by omega)]
  | false =>
    rw [if_neg (by decide)]
    exact Runs.bind (Runs.pure _ (Runs.pure _ ⟨hf3, rfl, pe, pz, psl⟩))

/-- dest is full (`m = dmax - 1` bytes stored, all of them part of the line), the stream goes on, and not with the newline that
would end the line right there: the line does not fit -/
theorem not_getsFits_of_full {dmax len L m c : Nat} (hmd : dmax = m + 1) (hmL : m ≤ L) (hml : m < len)
    (hc : L = m → c ≠ 10) : ¬ GetsFits dmax len L c := by
  subst hmd
  rintro (h | ⟨h1, h2 | h2⟩)
  · omega
  · omega
  · exact hc (Nat.succ.inj h1) h2

/-- **gets_s behind its entry checks, every stream.**  dest: `dmax` writable cells, arbitrary content; the stream
`inp[0..len)` readable, not overlapping dest, ANY bytes (newline or not, embedded NULs, empty); `L` the length of the line
(bytes in front of the first newline / NUL / the end).  The run returns, touches nothing outside dest, and
* empty stream: NULL at end of file (-1; 21 for the read-error stream of the `dmax = 1` case), nothing reported,
  `dest[0] = 0`, nothing else changed;
* the line fits: EOK, nothing reported, `dest[0..L)` = the line, `dest[L] = 0`, with null-slack zeros up to `dmax`;
* it does not fit: ESNOSPC, reported once, `dest[0] = 0`, with null-slack all `dmax` cells zero. -/
theorem getsBody_spec (cfg : Cfg) (dest dmax inp len L : Nat) (st : St) (hpos : 0 < dmax) (hrw : RW st dest dmax)
    (hin : ¬ (inp = 0 ∧ dmax ≠ 1))
    (hrd : ∀ j, j < len → st.mapped (inp+j) = true ∧ st.rd (inp+j) = true)
    (hdisj : dest + dmax ≤ inp ∨ inp + len ≤ dest)
    (hL1 : ∀ j, j < L → st.data (inp+j) ≠ 10 ∧ st.data (inp+j) ≠ 0) (hL2 : L ≤ len)
    (hL3 : L < len → st.data (inp+L) = 10 ∨ st.data (inp+L) = 0) :
    Runs (getsBody cfg dest dmax inp len) st (fun r s => FramePost dest dmax st s ∧
      ((len = 0 ∧ r = (if inp = 0 then 21 else NEG1) ∧ s.events = st.events ∧ s.data dest = 0 ∧
          (∀ a, a ≠ dest → s.data a = st.data a)) ∨
       (len ≠ 0 ∧ GetsFits dmax len L (st.data (inp+L)) ∧ GetsOk cfg dest dmax inp L st r s) ∨
       (len ≠ 0 ∧ ¬ GetsFits dmax len L (st.data (inp+L)) ∧ r = ESNOSPC ∧
          s.events = st.events ++ [.handler .str ESNOSPC] ∧ DestCleared cfg dest dmax s))) := by
  unfold getsBody
  rw [if_neg hin]
  obtain ⟨k, hk⟩ : ∃ k, dmax = k + 1 := ⟨dmax - 1, by omega⟩
  rw [show dmax - 1 = k by omega]
  have hrw1 : RW st dest k := fun i hi => hrw i (hk ▸ Nat.lt_succ_of_lt hi)
  have hsep : ∀ j, j < len → ¬ (dest ≤ inp + j ∧ inp + j < dest + dmax) := fun j hj => by omega
  obtain ⟨m, eof, s1, he1, hc1, hmk, hml, hnl, hfin⟩ :=
    fgetsLoop_runs k inp len dest 0 st hrw1 hrd (by omega)
  have hm1 := hc1.1
  have hcp := hc1.at
  have hfr := hc1.out
  rw [Nat.zero_add] at he1
  refine Runs.bind (Runs.of_exec he1 ?_)
  dsimp only
  have hrws1 : RW s1 dest dmax := RW.of_sameMeta hm1 hrw
  by_cases h0 : m = 0 ∧ dmax ≠ 1
  · -- end of file before anything was read
    rw [if_pos h0]
    obtain ⟨hm0, hd1⟩ := h0
    subst hm0
    have hlen : len = 0 := by
      rcases hfin with ⟨h, _⟩ | ⟨_, h | h⟩ <;> omega
    have hi : inp ≠ 0 := fun h => hin ⟨h, hd1⟩
    have hw0 := hrws1 0 hpos
    refine Runs.bind ((Runs.storeP dest 0 hw0.1 hw0.2.1).conseq (fun _ s hs => ?_))
    subst hs
    refine Runs.pure _ ⟨⟨hm1.mapped, hm1.rd, hm1.wr, hm1.strays, fun a ha => ?_⟩,
      Or.inl ⟨hlen, by rw [if_neg hi], hm1.events, by simp, fun a ha => ?_⟩⟩
    · rw [St.upd_data_ne _ _ _ _ (by intro h; subst h; exact ha ⟨Nat.le_refl _, Nat.lt_add_of_pos_right hpos⟩)]
      exact hfr a (by omega)
    · rw [St.upd_data_ne _ _ _ _ ha]
      exact hfr a (by omega)
  rw [if_neg h0]
  have hwm := hrws1 m (by omega)
  refine Runs.bind ((Runs.storeP (dest + m) 0 hwm.1 hwm.2.1).conseq (fun _ s2 hs => ?_))
  subst hs
  -- the state after fgets: dest[0..m) = the first m bytes of the stream, dest[m] = 0
  have hm2 : SameMeta (s1.upd (dest + m) 0) st := (SameMeta.upd _ _ _).trans hm1
  have hrws2 : RW (s1.upd (dest + m) 0) dest dmax := RW.of_sameMeta hm2 hrw
  have hcp2 : ∀ j, j < m → (s1.upd (dest + m) 0).data (dest + j) = st.data (inp + j) := by
    intro j hj
    rw [St.upd_data_ne _ _ _ _ (by omega)]; exact hcp j hj
  have hz2 : (s1.upd (dest + m) 0).data (dest + m) = 0 := by simp
  have hfr2 : ∀ a, ¬ (dest ≤ a ∧ a < dest + dmax) → (s1.upd (dest + m) 0).data a = st.data a := by
    intro a ha
    rw [St.upd_data_ne _ _ _ _ (by omega)]; exact hfr a (by omega)
  have hrd2 : ∀ j, j < dmax → (s1.upd (dest + m) 0).mapped (dest + j) = true ∧ (s1.upd (dest + m) 0).rd (dest + j) = true :=
    fun j hj => ⟨(hrws2 j hj).1, (hrws2 j hj).2.2⟩
  generalize s1.upd (dest + m) 0 = s2 at hm2 hrws2 hcp2 hz2 hfr2 hrd2
  have hm0 : m = 0 → dmax = 1 := fun h => Decidable.byContradiction fun hd => h0 ⟨h, hd⟩
  -- only the summary of `fgets` matters from here on; without the disjunctions that have done their work
  -- `omega` has nothing to split on
  clear he1 hm1 hcp hfr hrws1 hwm hin hdisj h0 hrw1
  by_cases hA : L < m ∧ st.data (inp + L) = 0
  · -- a NUL among the stored bytes: the line ends there
    obtain ⟨hLm, hA0⟩ := hA
    have hn := strnlenP_ok dmax dest 0 L s2 (by omega) (fun j hj => by rw [hcp2 j (Nat.lt_trans hj hLm)]; exact (hL1 j hj).2) hrd2
      (fun _ => by rw [hcp2 L hLm]; exact hA0)
    rw [Nat.zero_add] at hn
    refine Runs.bind (Runs.of_exec hn ?_)
    refine Runs.bind ((getsLast_runs dest L s2 (fun _ => hrd2 _ (by omega))
      (fun h => by rw [hcp2 _ (by omega)]; exact (hL1 _ (Nat.sub_lt h Nat.one_pos)).1)).conseq (fun v s ⟨hs, hv⟩ => ?_))
    subst hs
    rw [if_neg (fun h => hv h.2), if_neg (by omega)]
    exact getsDone_ok cfg dest dmax inp len L st s hrw (by omega) hm2 hfr2
      (fun j hj => hcp2 j (Nat.lt_trans hj hLm)) (by rw [hcp2 L hLm]; exact hA0)
  have hn := fun (hmL : m ≤ L) => strnlenP_ok dmax dest 0 m s2 (by omega)
    (fun j hj => by rw [hcp2 j hj]; exact (hL1 j (Nat.lt_of_lt_of_le hj hmL)).2) hrd2 (fun _ => hz2)
  rw [Nat.zero_add] at hn
  by_cases hB : L < m
  · -- the last stored byte is the newline
    have h10 : st.data (inp + L) = 10 := (hL3 (Nat.lt_of_lt_of_le hB hml)).resolve_right (fun h => hA ⟨hB, h⟩)
    have hLm : L + 1 = m := by
      by_cases h : L + 1 < m
      · exact absurd h10 (hnl L h)
      · exact Nat.le_antisymm hB (Nat.not_lt.mp h)
    clear hfin hA hnl hL3
    subst hLm
    have hscan := strnlenP_ok dmax dest 0 (L+1) s2 (by omega)
      (fun j hj => by
        rw [hcp2 j hj]
        by_cases hj' : j < L
        · exact (hL1 j hj').2
        · rw [Nat.le_antisymm (Nat.le_of_lt_succ hj) (Nat.not_lt.mp hj'), h10]; decide) hrd2 (fun _ => hz2)
    rw [Nat.zero_add] at hscan
    refine Runs.bind (Runs.of_exec hscan ?_)
    rw [if_pos (Nat.succ_pos L), Nat.add_sub_cancel]
    have hwL := hrws2 L (by omega)
    refine Runs.bind ((Runs.loadP _ hwL.1 hwL.2.2).conseq (fun v s ⟨hv, hs⟩ => ?_))
    subst hs
    rw [hcp2 L hB, h10] at hv
    rw [if_pos ⟨Nat.succ_pos L, hv⟩]
    refine Runs.bind ((Runs.storeP (dest + L) 0 hwL.1 hwL.2.1).conseq (fun _ s3 hs => ?_))
    subst hs
    exact getsDone_ok cfg dest dmax inp len L st _ hrw (by omega) ((SameMeta.upd _ _ _).trans hm2)
      (fun a ha => by rw [St.upd_data_ne _ _ _ _ (by omega)]; exact hfr2 a ha)
      (fun j hj => by rw [St.upd_data_ne _ _ _ _ (by omega)]; exact hcp2 j (Nat.lt_succ_of_lt hj))
      (by simp)
  -- no newline and no NUL among the stored bytes
  have hmL : m ≤ L := Nat.not_lt.mp hB
  have hno : (∀ j, j < m → st.data (inp+j) ≠ 10) ∧ ((m = k ∧ eof = false) ∨ (m = len ∧ m < k ∧ eof = true)) :=
    hfin.resolve_left (fun ⟨h1, h2, _⟩ => (hL1 (m-1) (Nat.lt_of_lt_of_le (Nat.sub_lt h1 Nat.one_pos) hmL)).1 h2)
  clear hfin hA hB hnl
  refine Runs.bind (Runs.of_exec (hn hmL) ?_)
  refine Runs.bind ((getsLast_runs dest m s2 (fun _ => hrd2 _ (by omega))
    (fun h => by rw [hcp2 _ (Nat.sub_lt h Nat.one_pos)]; exact hno.1 _ (Nat.sub_lt h Nat.one_pos))).conseq (fun v s ⟨hs, hv⟩ => ?_))
  subst hs
  rw [if_neg (fun h => hv h.2)]
  clear hv
  obtain ⟨-, ⟨hmd, hef⟩ | ⟨hmlen, hmd, hef⟩⟩ := hno
  · -- dest is full
    rw [if_pos ⟨hmd, hef⟩]
    by_cases hend : len - m = 0
    · rw [if_pos hend]
      have hLl : L = m := by omega
      by_cases hm0' : m = 0
      · rw [if_pos hm0']
        subst hm0'
        refine Runs.pure _ ⟨FramePost.of_sameMeta hm2 hfr2, Or.inl ⟨by omega, rfl, hm2.events, hz2, fun a ha => hfr2 a (by omega)⟩⟩
      · rw [if_neg hm0']
        subst hLl
        exact getsDone_ok cfg dest dmax inp len L st s hrw (by omega) hm2 hfr2 hcp2 hz2
    · rw [if_neg hend]
      have hml' : m < len := by omega
      have hr := hrd m hml'
      refine Runs.bind ((Runs.loadP (inp + m) (by rw [hm2.mapped]; exact hr.1) (by rw [hm2.rd]; exact hr.2)).conseq
        (fun c s' ⟨hc, hs⟩ => ?_))
      subst hs
      rw [hfr2 _ (hsep m hml')] at hc
      subst hc
      by_cases hc10 : st.data (inp + m) = 10
      · rw [if_pos hc10]
        have hLl : L = m := by
          by_cases h : m < L
          · exact absurd hc10 (hL1 m h).1
          · omega
        subst hLl
        exact getsDone_ok cfg dest dmax inp len L st s' hrw (by omega) hm2 hfr2 hcp2 hz2
      · rw [if_neg hc10]
        have hnf : ¬ GetsFits dmax len L (st.data (inp + L)) :=
          not_getsFits_of_full (hmd ▸ hk) hmL hml' (fun h => h ▸ hc10)
        exact (getsNospc_runs cfg dest dmax st s' hrw hpos hm2 hfr2).conseq
          (fun r s'' ⟨h1, h2⟩ => ⟨h1, Or.inr (Or.inr ⟨by omega, hnf, h2⟩)⟩)
  · -- the stream ended first
    rw [if_neg (by rw [hef]; simp)]
    have hLl : L = m := by omega
    subst hLl
    exact getsDone_ok cfg dest dmax inp len L st s hrw (by omega) hm2 hfr2 hcp2 hz2

def GetsPost (cfg : Cfg) (dest dmax inp len L : Nat) (st : St) (r : Nat) (s : St) : Prop :=
  ((len = 0 ∨ (inp = 0 ∧ dmax ≠ 1)) ∧ r = (if inp = 0 then 21 else NEG1) ∧ s.events = st.events ∧ s.data dest = 0 ∧
      (∀ a, a ≠ dest → s.data a = st.data a)) ∨
  (len ≠ 0 ∧ ¬ (inp = 0 ∧ dmax ≠ 1) ∧ GetsFits dmax len L (st.data (inp+L)) ∧ GetsOk cfg dest dmax inp L st r s) ∨
  (len ≠ 0 ∧ ¬ (inp = 0 ∧ dmax ≠ 1) ∧ ¬ GetsFits dmax len L (st.data (inp+L)) ∧ r = ESNOSPC ∧
      s.events = st.events ++ [.handler .str ESNOSPC] ∧ DestCleared cfg dest dmax s)

/-- **gets_s, every exit on a usable dest, every stream** (incl. the read-error stream `inp = 0`) -/
theorem gets_s_runs (cfg : Cfg) (dest dmax : Nat) (destbos : Bos) (inp len L : Nat) (st : St)
    (hd : dest ≠ 0) (hpos : 0 < dmax) (hnone : destbos = none → dmax ≤ RSIZE_MAX_STR)
    (hbos : ∀ b, destbos = some b → dmax ≤ b) (hrw : RW st dest dmax)
    (hrd : ∀ j, j < len → st.mapped (inp+j) = true ∧ st.rd (inp+j) = true)
    (hdisj : dest + dmax ≤ inp ∨ inp + len ≤ dest)
    (hL1 : ∀ j, j < L → st.data (inp+j) ≠ 10 ∧ st.data (inp+j) ≠ 0) (hL2 : L ≤ len)
    (hL3 : L < len → st.data (inp+L) = 10 ∨ st.data (inp+L) = 0) :
    Runs (gets_s cfg dest dmax destbos inp len) st
      (fun r s => FramePost dest dmax st s ∧ GetsPost cfg dest dmax inp len L st r s) := by
  -- the entry checks pass (NOTE: a known object size replaces the comparison with `RSIZE_MAX_STR`)
  have henter : gets_s cfg dest dmax destbos inp len = getsBody cfg dest dmax inp len := by
    unfold gets_s
    rw [if_neg hd, if_neg (Nat.pos_iff_ne_zero.mp hpos)]
    cases destbos with
    | none => simp only [Nat.not_lt.mpr (hnone rfl), if_false]
    | some b => simp only [Nat.not_lt.mpr (hbos b rfl), if_false]
  rw [henter]
  by_cases hin : inp = 0 ∧ dmax ≠ 1
  · unfold getsBody
    rw [if_pos hin]
    have hw0 := hrw 0 hpos
    refine Runs.bind ((Runs.storeP dest 0 hw0.1 hw0.2.1).conseq (fun _ s hs => ?_))
    subst hs
    refine Runs.pure _ ⟨⟨rfl, rfl, rfl, rfl, fun a ha => ?_⟩, Or.inl ⟨Or.inr hin, by rw [if_pos hin.1], rfl, by simp, fun a ha => ?_⟩⟩
    · exact St.upd_data_ne _ _ _ _ (by intro h; subst h; exact ha ⟨Nat.le_refl _, by omega⟩)
    · exact St.upd_data_ne _ _ _ _ ha
  · refine (getsBody_spec cfg dest dmax inp len L st hpos hrw hin hrd hdisj hL1 hL2 hL3).conseq (fun r s ⟨h1, h2⟩ => ⟨h1, ?_⟩)
    rcases h2 with ⟨a, b⟩ | ⟨a, b⟩ | ⟨a, b⟩
    · exact Or.inl ⟨Or.inl a, b⟩
    · exact Or.inr (Or.inl ⟨a, hin, b⟩)
    · exact Or.inr (Or.inr ⟨a, hin, b⟩)

def streamOf (st : St) (inp len : Nat) : List Nat := (List.range len).map (fun j => st.data (inp + j))

/-- the line of the stream: the bytes in front of the first newline (or all of them); a NUL does not end it -/
def lineOf (s : List Nat) : List Nat := s.takeWhile (fun c => c ≠ 10)

/-- … cut at the first NUL as well: what a C string can hold of it -/
def lineStr (s : List Nat) : List Nat := s.takeWhile (fun c => c ≠ 10 ∧ c ≠ 0)

theorem streamOf_length (st : St) (inp len : Nat) : (streamOf st inp len).length = len := by simp [streamOf]

theorem streamOf_getD (st : St) (inp len j : Nat) (hj : j < len) : (streamOf st inp len).getD j 0 = st.data (inp + j) := by
  simp [streamOf, List.getD_eq_getElem?_getD, hj]

theorem takeWhile_spec (p : Nat → Bool) (s : List Nat) :
    (s.takeWhile p).length ≤ s.length ∧
    (∀ j, j < (s.takeWhile p).length → p (s.getD j 0) = true ∧ (s.takeWhile p).getD j 0 = s.getD j 0) ∧
    ((s.takeWhile p).length < s.length → p (s.getD (s.takeWhile p).length 0) = false) := by
  induction s with
  | nil => simp
  | cons c cs ih =>
    by_cases hc : p c = true
    · rw [List.takeWhile_cons_of_pos hc]
      refine ⟨by simpa using ih.1, fun j hj => ?_, fun h => ?_⟩
      · cases j with
        | zero => simpa using hc
        | succ j => simpa using ih.2.1 j (by simpa using hj)
      · simpa using ih.2.2 (by simpa using h)
    · rw [List.takeWhile_cons_of_neg hc]
      refine ⟨by simp, fun j hj => by simp at hj, fun _ => by simpa using hc⟩

theorem lineStr_eq_lineOf (s : List Nat) (h : 0 ∉ lineOf s) : lineStr s = lineOf s := by
  unfold lineStr lineOf at *
  induction s with
  | nil => rfl
  | cons c cs ih =>
    by_cases hc : c = 10
    · subst hc; simp
    · have hc0 : c ≠ 0 := by
        intro h0; apply h; simp [h0]
      have hm : 0 ∉ List.takeWhile (fun c => decide (c ≠ 10)) cs := by
        intro hm; apply h; rw [List.takeWhile_cons, if_pos (by simpa using hc)]; exact List.mem_cons_of_mem _ hm
      rw [List.takeWhile_cons, List.takeWhile_cons, ih hm]
      simp [hc, hc0]

/-- the index characterisation `getsBody_spec` asks for, from the list definition -/
theorem lineStr_spec (st : St) (inp len : Nat) :
    let L := (lineStr (streamOf st inp len)).length
    (∀ j, j < L → st.data (inp+j) ≠ 10 ∧ st.data (inp+j) ≠ 0) ∧ L ≤ len ∧
    (L < len → st.data (inp+L) = 10 ∨ st.data (inp+L) = 0) ∧
    (∀ j, j < L → (lineStr (streamOf st inp len)).getD j 0 = st.data (inp+j)) := by
  intro L
  obtain ⟨h1, h2, h3⟩ := takeWhile_spec (fun c => decide (c ≠ 10 ∧ c ≠ 0)) (streamOf st inp len)
  rw [streamOf_length] at h1 h3
  have hL : L = (List.takeWhile (fun c => decide (c ≠ 10 ∧ c ≠ 0)) (streamOf st inp len)).length := rfl
  rw [← hL] at h1 h2 h3
  refine ⟨fun j hj => ?_, h1, fun h => ?_, fun j hj => ?_⟩
  · have := (h2 j hj).1
    rw [streamOf_getD st inp len j (by omega)] at this
    simpa using this
  · have := h3 h
    rw [streamOf_getD st inp len L h] at this
    simp only [decide_eq_false_iff_not] at this
    omega
  · have := (h2 j hj).2
    rw [streamOf_getD st inp len j (by omega)] at this
    exact this

/-- state of the non-vacuity `example`s: dest = 100 (8 cells holding 7), the stream `"ab\ncd"` at 200 -/
def getsExSt : St :=
  { data := fun a => if 100 ≤ a ∧ a < 108 then 7 else if a = 200 then 97 else if a = 201 then 98 else if a = 202 then 10
      else if a = 203 then 99 else if a = 204 then 100 else 0
    mapped := fun a => decide (100 ≤ a ∧ a < 108 ∨ 200 ≤ a ∧ a < 205)
    rd := fun a => decide (100 ≤ a ∧ a < 108 ∨ 200 ≤ a ∧ a < 205)
    wr := fun a => decide (100 ≤ a ∧ a < 108) }

theorem getsExSt_rw : RW getsExSt 100 8 := by
  intro i hi
  simp only [getsExSt, decide_eq_true_eq]
  omega

theorem getsExSt_rd : ∀ j, j < 5 → getsExSt.mapped (200+j) = true ∧ getsExSt.rd (200+j) = true := by
  intro j hj
  simp only [getsExSt, decide_eq_true_eq]
  omega

theorem getsExSt_line : lineOf (streamOf getsExSt 200 5) = [97, 98] := by decide

end SafeC
