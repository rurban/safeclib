import SafeC.Proofs.EVQuery
import SafeC.Models.Tok
/-!
# C05 for the tokenizers `strtok_s` / `wcstok_s`, through the `EV` event judgement

NULL and a report are the failure indication; the observation has the returned pointer.
-/
namespace SafeC.Props.C05Query
open SafeC Gen

abbrev PT1 : TokOut → List Event → Prop := fun o es => o.ret = 0 ∧ ∃ c, c ≠ EOK ∧ es = [.handler .str c]
abbrev PT : TokOut → List Event → Prop := fun o es => es = [] ∨ PT1 o es
theorem tokFail_ev (c : Nat) (hc : c ≠ EOK := by decide) : EV (tokFail c) PT := .emit _ _ (.ret _ (.inr ⟨rfl, c, hc, rfl⟩))
theorem tokUnterm_ev1 (d : Nat) : EV (tokUnterm d) PT1 := .store _ _ _ (.emit _ _ (.ret _ ⟨rfl, _, ne_ESUNTERM, rfl⟩))
theorem tokUnterm_ev (d : Nat) : EV (tokUnterm d) PT := (tokUnterm_ev1 d).conseq fun _ _ => .inr
theorem q_delimScan1 (d n pt : Nat) (t : Bool) : Quiet (delimScan1 d n pt t) := by
  induction n generalizing pt t with
  | zero => unfold delimScan1; quiet
  | succ n ih => unfold delimScan1; quiet using ih
theorem q_delimScan2 (d n pt : Nat) : Quiet (delimScan2 d n pt) := by
  induction n generalizing pt with
  | zero => unfold delimScan2; quiet
  | succ n ih => unfold delimScan2; quiet using ih

abbrev PS1 : Scan1 → List Event → Prop :=
  fun r es => (es = [] ∧ ∃ a b c, r = .exit a b c) ∨ (∃ o, r = .out o ∧ PT1 o es)
theorem out_of_PT1 {p : Prog TokOut} (h : EV p PT1) : EV (do let o ← p; pure (Scan1.out o)) PS1 :=
  EV.bind h (fun o es ho => EV.pure _ (Or.inr ⟨o, rfl, by simpa using ho⟩))
theorem scan1_ev (w : Bool) (delim n d : Nat) : EV (scan1 w delim n d) PS1 := by
  induction n generalizing d with
  | zero =>
    exact Quiet.then_ (.loadP _) fun _ => .ite (.pure _ (.inl ⟨rfl, _, _, _, rfl⟩)) <|
      .ite (out_of_PT1 (tokUnterm_ev1 d)) (.emit _ _ (.ret _ (.inr ⟨_, rfl, rfl, _, ne_ESUNTERM, rfl⟩)))
  | succ n ih =>
    exact Quiet.then_ (.loadP _) fun _ => .ite (.pure _ (.inl ⟨rfl, _, _, _, rfl⟩)) <|
      Quiet.then_ (q_delimScan1 ..) fun
        | .tooLong => out_of_PT1 (tokUnterm_ev1 d)
        | .done true => Quiet.then_ (.loadP _) fun _ => .pure _ (.inl ⟨rfl, _, _, _, rfl⟩)
        | .done false => ih _
theorem scan2_ev (delim pt n d : Nat) : EV (scan2 delim pt n d) PT := by
  induction n generalizing d with
  | zero => exact Quiet.then_ (.loadP _) fun _ => .ite (.pure _ (.inl rfl)) (tokUnterm_ev d)
  | succ n ih =>
    exact Quiet.then_ (.loadP _) fun _ => .ite (.pure _ (.inl rfl)) <| Quiet.then_ (q_delimScan2 ..) fun
      | .tooLong => tokUnterm_ev d
      | .hit => Quiet.then_ (.storeP ..) fun _ => .pure _ (.inl rfl)
      | .miss => ih _
theorem tokBody_ev (w : Bool) (delim d n : Nat) : EV (tokBody w delim d n) PT :=
  (scan1_ev ..).bind fun r es h => by
    rcases h with ⟨rfl, a, b, c, rfl⟩ | ⟨o, rfl, ho⟩
    · exact .ite (.pure _ (.inl rfl)) (scan2_ev ..)
    · exact .pure _ (.inr (by simpa using ho))
end SafeC.Props.C05Query
