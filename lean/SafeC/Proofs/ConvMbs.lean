import SafeC.Proofs.ConvStr
/-! C15: glibc's multibyte → wide step (`mbMain`, `gconvMb` with its pending-byte state).  `Run` lists what one call can do
on ANY input: whole characters are converted, the bytes not converted are the new state followed by the input not used, and
the status says why it stopped; the relation is closed under appending input (`Run.append`, `Run.extend`), which is what
makes glibc's window loop one run.  On a window of a VALID string a run is `StepOK`. -/
namespace SafeC.Conv.Libc

theorem utf8Body_incomplete (b : Nat) (rest : List Nat) (cnt hi : Nat) (hb : ¬ b < 0x80) (hl : lead b = some (cnt, hi))
    (hall : rest.all isCont = true) (hlen : rest.length < cnt - 1) : utf8Body (b :: rest) = .incomplete := by
  have ht : rest.take (cnt - 1) = rest := List.take_of_length_le (by omega)
  simp [utf8Body, hb, hl, ht, hall, hlen]

theorem body_incomplete_inv (loc : Locale) (l : List Nat) (h : body loc l = .incomplete) (hne : l ≠ []) :
    ∃ b rest cnt hi, l = b :: rest ∧ ¬ b < 0x80 ∧ lead b = some (cnt, hi) ∧ rest.all isCont = true ∧ rest.length < cnt - 1 := by
  cases l with
  | nil => exact absurd rfl hne
  | cons b rest =>
    cases loc
    · simp only [body, asciiBody] at h; split at h <;> cases h
    · simp only [body, utf8Body] at h
      by_cases hb : b < 0x80
      · rw [if_pos hb] at h; cases h
      rw [if_neg hb] at h
      cases hl : lead b with
      | none => rw [hl] at h; cases h
      | some p =>
        obtain ⟨cnt, hi⟩ := p
        rw [hl] at h
        simp only at h
        by_cases hall : (!(rest.take (cnt - 1)).all isCont) = true
        · rw [if_pos hall] at h; cases h
        rw [if_neg hall] at h
        by_cases hlen : (rest.take (cnt - 1)).length < cnt - 1
        · have hrl : rest.length < cnt - 1 := by simp only [List.length_take] at hlen; omega
          rw [List.take_of_length_le (by omega)] at hall
          exact ⟨b, rest, cnt, hi, rfl, hb, hl, by simpa using hall, hrl⟩
        · rw [if_neg hlen] at h; split at h <;> cases h

theorem body_prefix_incomplete (loc : Locale) (c : Nat) (e : List Nat) (h : enc loc c = some e) (k : Nat) (h0 : 0 < k)
    (hk : k < e.length) : body loc (e.take k) = .incomplete := by
  cases loc
  · simp only [enc, asciiEnc] at h; split at h <;> cases h; simp at hk; omega
  · rcases utf8Enc_shape h with ⟨_, rfl⟩ | ⟨b, rest, hi, rfl, hb, hl, hall, _, _⟩
    · simp at hk; omega
    · obtain ⟨j, rfl⟩ : ∃ j, k = j + 1 := ⟨k - 1, by omega⟩
      rw [List.take_succ_cons]
      refine utf8Body_incomplete b _ _ hi hb hl
        (List.all_eq_true.2 fun x hx => List.all_eq_true.1 hall x (List.mem_of_mem_take hx)) ?_
      simp only [List.length_cons, List.length_take] at hk ⊢
      omega

/-- an incomplete sequence consists of a lead byte and continuation bytes only: no zero byte -/
theorem body_incomplete_nz (loc : Locale) (suf : List Nat) (h : body loc suf = .incomplete) (hne : suf ≠ []) :
    ∀ x ∈ suf, x ≠ 0 := by
  obtain ⟨b, rest, cnt, hi, rfl, hb, _, hall, _⟩ := body_incomplete_inv loc suf h hne
  intro x hx
  rcases List.mem_cons.mp hx with rfl | hx
  · omega
  · have := (isCont_iff x).mp (List.all_eq_true.mp hall x hx)
    omega

theorem body_incomplete_len (loc : Locale) (l : List Nat) (h : body loc l = .incomplete) : l.length < 6 := by
  by_cases hne : l = []
  · subst hne; decide
  obtain ⟨b, rest, cnt, hi, rfl, _, hl, _, hlen⟩ := body_incomplete_inv loc l h hne
  have hc : cnt ≤ 6 := (lead_iff.1 hl).2.1
  simp only [List.length_cons]; omega

theorem body_extend_ok (loc : Locale) (ps t : List Nat) (ch n : Nat) (hp : body loc ps = .incomplete) (hne : ps ≠ [])
    (h : body loc (ps ++ t) = .ok ch n) : ps.length < n := by
  obtain ⟨b, r, cnt, hi, rfl, hb, hl, _, hlen⟩ := body_incomplete_inv loc ps hp hne
  cases loc
  · simp only [body, asciiBody] at hp; split at hp <;> cases hp
  · have := utf8Body_ok_cnt h hb hl
    simp only [List.length_cons]; omega

theorem body_ne_illegal_of_valid {loc : Locale} {l t x : List Nat} (h : encodeAll loc l = some (t ++ x)) : body loc t ≠ .illegal := by
  by_cases ht : t = []
  · subst ht; cases loc <;> simp [body, utf8Body, asciiBody]
  cases l with
  | nil => simp [encodeAll] at h; exact absurd h.1 ht
  | cons c l =>
    obtain ⟨a, b, ha, _, hab⟩ := encodeAll_cons_inv loc c l _ h
    rcases List.append_eq_append_iff.mp hab with ⟨y, hay, _⟩ | ⟨t', ht', _⟩
    · by_cases hy : y = []
      · have e := body_enc loc c a [] ha
        subst hy; simp only [List.append_nil] at e hay; rw [← hay, e]; simp
      · have := body_prefix_incomplete loc c a ha t.length (List.length_pos_iff.mpr ht)
          (by rw [hay, List.length_append]; have := List.length_pos_iff.mpr hy; omega)
        rw [hay, List.take_left] at this
        rw [this]; simp
    · rw [ht', body_enc loc c a t' ha]; simp

/-- a genuine conversion state (`pend = [] ∨ body loc pend = .incomplete`: that is what "genuine" means in this file and in `ConvMbsLoop`)
that moreover fits the characters `cs` it stands in front of: initial, or a proper non-empty prefix of the encoding of the first character -/
def PendOK (loc : Locale) (pend cs : List Nat) : Prop :=
  pend = [] ∨ ∃ c cs' y, cs = c :: cs' ∧ enc loc c = some (pend ++ y) ∧ pend ≠ [] ∧ y ≠ []

theorem PendOK.genuine {loc : Locale} {pend cs : List Nat} (h : PendOK loc pend cs) : pend = [] ∨ body loc pend = .incomplete := by
  rcases h with h | ⟨c, _, y, _, he, hp, hy⟩
  · exact .inl h
  · have := body_prefix_incomplete loc c _ he pend.length (List.length_pos_iff.mpr hp)
      (by rw [List.length_append]; have := List.length_pos_iff.mpr hy; omega)
    rw [List.take_left] at this
    exact .inr this

/-- a genuine state in front of whole characters: the first character's encoding properly extends it -/
theorem PendOK.of_genuine {loc : Locale} {ps inp out p rem : List Nat} (hgen : ps = [] ∨ body loc ps = .incomplete)
    (h : encodeAll loc out = some p) (hsplit : ps ++ inp = p ++ rem) :
    out = [] ∨ (PendOK loc ps out ∧ ps.length + out.length ≤ p.length) := by
  cases out with
  | nil => exact .inl rfl
  | cons c cs =>
    refine .inr ?_
    obtain ⟨a, b, ha, hb, rfl⟩ := encodeAll_cons_inv loc c cs p h
    have hlb := encodeAll_length_ge loc cs b hb
    have hapos := enc_length_pos loc c a ha
    by_cases hp : ps = []
    · subst hp; exact ⟨.inl rfl, by simp only [List.length_cons, List.length_append, List.length_nil]; omega⟩
    have hinc := hgen.resolve_left hp
    have hno : ∀ t, ps ≠ a ++ t := fun t ht => by rw [ht, body_enc loc c a t ha] at hinc; cases hinc
    rw [List.append_assoc] at hsplit
    rcases List.append_eq_append_iff.mp hsplit with ⟨y, hay, _⟩ | ⟨t, ht, _⟩
    · have hy : y ≠ [] := fun h0 => hno [] (by simp [hay, h0])
      have := List.length_pos_iff.mpr hy
      exact ⟨.inr ⟨c, cs, y, rfl, by rw [← hay]; exact ha, hp, hy⟩,
        by simp only [hay, List.length_cons, List.length_append]; omega⟩
    · exact absurd ht (hno t)

/-- what calls of the multibyte → wide step can do with the bytes `pend ++ inp` and room for `space` characters: `out`
re-encodes to the bytes `p` converted, and the bytes not converted are the new state followed by the input not used.  After an
illegal sequence a call entered with a state keeps that state (glibc), so `used` and `st` are not determined by `p` one by one,
only `st ++ inp.drop used` is; stated so, the relation survives `Run.append` -/
inductive Run (loc : Locale) (pend inp : List Nat) (space : Nat) : GR → Prop
  | empty {out} : encodeAll loc out = some (pend ++ inp) → out.length ≤ space → Run loc pend inp space ⟨out, inp.length, [], .empty⟩
  | incomplete {out p st} : encodeAll loc out = some p → pend ++ inp = p ++ st → st ≠ [] → body loc st = .incomplete →
      out.length < space → Run loc pend inp space ⟨out, inp.length, st, .incomplete⟩
  | full {out p used} : encodeAll loc out = some p → pend ++ inp = p ++ ((if out = [] then pend else []) ++ inp.drop used) →
      used ≤ inp.length → (if out = [] then pend else []) ++ inp.drop used ≠ [] → out.length = space →
      Run loc pend inp space ⟨out, used, if out = [] then pend else [], .full⟩
  | illegal {out p st used t x} : encodeAll loc out = some p → pend ++ inp = p ++ (st ++ inp.drop used) → used ≤ inp.length →
      st ++ inp.drop used = t ++ x → body loc t = .illegal → out.length < space → Run loc pend inp space ⟨out, used, st, .illegal⟩

/-- restartability: a call that used up its input (`empty` / `incomplete`), then a call on more input entered with the state it
left and the room it left, are one run on the concatenated input -/
theorem Run.append {loc : Locale} {pend w rest : List Nat} {space : Nat} {r1 r2 : GR} (h1 : Run loc pend w space r1)
    (hc : r1.status = .empty ∨ r1.status = .incomplete) (h2 : Run loc r1.st rest (space - r1.out.length) r2) :
    Run loc pend (w ++ rest) space ⟨r1.out ++ r2.out, w.length + r2.used, r2.st, r2.status⟩ := by
  obtain ⟨p1, e1, s1, l1, hf⟩ : ∃ p1, encodeAll loc r1.out = some p1 ∧ pend ++ w = p1 ++ r1.st ∧ r1.out.length ≤ space ∧
      (r1.out.length < space ∨ r1.st = [] ∧ (r1.out = [] → pend = [])) := by
    cases h1 with
    | @empty out a b =>
      refine ⟨_, a, by simp, b, .inr ⟨rfl, ?_⟩⟩
      rintro rfl; simp [encodeAll] at a; exact a.1
    | incomplete a b _ _ c => exact ⟨_, a, b, Nat.le_of_lt c, .inl c⟩
    | full => simp at hc
    | illegal => simp at hc
  have hsp : ∀ {x p2 : List Nat}, r1.st ++ rest = p2 ++ x → pend ++ (w ++ rest) = (p1 ++ p2) ++ x := fun h => by
    rw [← List.append_assoc, s1, List.append_assoc, h, List.append_assoc]
  cases h2 with
  | @empty out a b =>
    have := Run.empty (pend := pend) (inp := w ++ rest) (space := space) (out := r1.out ++ out)
      (by rw [hsp (x := []) (List.append_nil _).symm, List.append_nil]; exact encodeAll_append loc _ _ _ _ e1 a)
      (by simp only [List.length_append]; omega)
    simpa using this
  | @incomplete out p st a b c d e =>
    have := Run.incomplete (pend := pend) (inp := w ++ rest) (space := space) (st := st) (encodeAll_append loc _ _ _ _ e1 a)
      (hsp b) c d (by simp only [List.length_append]; omega)
    simpa using this
  | @full out p used a b c d e =>
    have hst : (if out = [] then r1.st else []) = if r1.out ++ out = [] then pend else [] := by
      by_cases ho : out = []
      · subst ho
        obtain ⟨h1', h2'⟩ := hf.resolve_left (by simp at e; omega)
        by_cases h : r1.out = [] <;> simp [h, h1', h2']
      · simp [ho]
    rw [hst] at b d ⊢
    exact Run.full (used := w.length + used) (encodeAll_append loc _ _ _ _ e1 a) (by rw [List.drop_length_add_append]; exact hsp b)
      (by simp only [List.length_append]; omega) (by rwa [List.drop_length_add_append]) (by simp only [List.length_append]; omega)
  | @illegal out p st used t x a b c d d' e =>
    exact Run.illegal (st := st) (used := w.length + used) (encodeAll_append loc _ _ _ _ e1 a) (by rw [List.drop_length_add_append]; exact hsp b)
      (by simp only [List.length_append]; omega) (by rwa [List.drop_length_add_append]) d' (by simp only [List.length_append]; omega)

theorem Run.cons {loc : Locale} {pend y inp' : List Nat} {space ch : Nat} {r : GR} (h : Run loc [] inp' (space - 1) r)
    (he : enc loc ch = some (pend ++ y)) (hs : space ≠ 0) :
    Run loc pend (y ++ inp') space ⟨ch :: r.out, y.length + r.used, r.st, r.status⟩ :=
  -- the one-character run `empty`, then `h`
  (Run.empty (out := [ch]) ((encodeAll_cons loc ch [] _ [] he rfl).trans (by rw [List.append_nil]))
    (by simp only [List.length_cons, List.length_nil]; omega)).append (.inl rfl) h

theorem mbMain_run (loc : Locale) (fuel : Nat) (inp : List Nat) (space : Nat) (hf : inp.length < fuel) :
    Run loc [] inp space (mbMain loc fuel inp space) := by
  induction fuel generalizing inp space with
  | zero => omega
  | succ fuel ih =>
    unfold mbMain
    split
    · rename_i he
      have : inp = [] := by simpa using he
      subst this
      exact .empty (out := []) rfl (Nat.zero_le _)
    · rename_i he
      have hne : inp ≠ [] := by simpa using he
      split
      · rename_i hs
        exact .full (out := []) (p := []) (used := 0) rfl rfl (Nat.zero_le _) (by simpa using hne) hs.symm
      · rename_i hs
        split
        · rename_i ch n hb
          obtain ⟨he, hn, hp⟩ := body_ok loc inp ch n hb
          have := (ih (inp.drop n) (space - 1) (by simp only [List.length_drop]; omega)).cons (pend := []) he hs
          simpa [Nat.min_eq_left hn] using this
        · rename_i hb
          exact .incomplete (out := []) (p := []) rfl rfl hne hb (by simp only [List.length_nil]; omega)
        · rename_i hb
          exact .illegal (out := []) (p := []) (st := []) (used := 0) (t := inp) (x := []) rfl rfl (Nat.zero_le _)
            (by simp) hb (by simp only [List.length_nil]; omega)

theorem gconvMb_run (loc : Locale) (pend inp : List Nat) (space : Nat) (hgen : pend = [] ∨ body loc pend = .incomplete) :
    Run loc pend inp space (gconvMb loc pend inp space) := by
  by_cases hp : pend = []
  · subst hp
    simpa [gconvMb] using mbMain_run loc (inp.length + 1) inp space (Nat.lt_succ_self _)
  have hinc := hgen.resolve_left hp
  have hpe : pend.isEmpty = false := by cases pend <;> simp_all
  unfold gconvMb
  rw [hpe, if_neg (by simp)]
  split
  · rename_i hs
    exact .full (out := []) (p := []) (used := 0) rfl rfl (Nat.zero_le _) (by simp [hp]) hs.symm
  · rename_i hs
    dsimp only
    split
    · rename_i ch n hb
      have hn := body_extend_ok loc pend _ ch n hinc hp hb
      obtain ⟨he, hnle, _⟩ := body_ok loc _ ch n hb
      simp only [List.length_append, List.length_take] at hnle
      have htake : (pend ++ inp.take (6 - pend.length)).take n = pend ++ inp.take (n - pend.length) := by
        rw [List.take_append, List.take_of_length_le (by omega), List.take_take, Nat.min_eq_left (by omega)]
      rw [htake] at he
      have := (mbMain_run loc (inp.length + 1) (inp.drop (n - pend.length)) (space - 1)
        (by simp only [List.length_drop]; omega)).cons he hs
      simpa [Nat.min_eq_left (show n - pend.length ≤ inp.length by omega)] using this
    · rename_i hb
      have h6 := body_incomplete_len loc _ hb
      simp only [List.length_append, List.length_take] at h6
      rw [List.take_of_length_le (by omega)]
      exact .incomplete (out := []) (p := []) rfl rfl (by simp [hp]) (by rwa [List.take_of_length_le (by omega)] at hb)
        (by simp only [List.length_nil]; omega)
    · rename_i hb
      exact .illegal (out := []) (p := []) (used := 0) (x := inp.drop (6 - pend.length)) rfl rfl (Nat.zero_le _)
        (by simp) hb (by simp only [List.length_nil]; omega)

theorem Run.of_continues {loc : Locale} {pend inp : List Nat} {space : Nat} {r : GR} (h : Run loc pend inp space r)
    (hc : r.status = .empty ∨ r.status = .incomplete) :
    r.used = inp.length ∧ (r.st = [] ∨ body loc r.st = .incomplete) ∧ (r.status = .incomplete → r.out.length < space) := by
  cases h with
  | empty => exact ⟨rfl, .inl rfl, nofun⟩
  | incomplete _ _ _ h4 h5 => exact ⟨rfl, .inr h4, fun _ => h5⟩
  | full => simp at hc
  | illegal => simp at hc

theorem Run.extend {loc : Locale} {pend inp : List Nat} {space : Nat} {r : GR} (h : Run loc pend inp space r) (x : List Nat)
    (hc : r.status = .full ∨ r.status = .illegal) : Run loc pend (inp ++ x) space r := by
  cases h with
  | empty => simp at hc
  | incomplete => simp at hc
  | @full out p used h1 h2 h3 h4 h5 =>
    exact .full h1 (by rw [List.drop_append_of_le_length h3, ← List.append_assoc, ← List.append_assoc, ← List.append_assoc, h2]
                       simp [List.append_assoc])
      (by simp only [List.length_append]; omega) (by rw [List.drop_append_of_le_length h3, ← List.append_assoc]; exact fun h => h4 (List.append_eq_nil_iff.mp h).1) h5
  | @illegal out p st used t x' h1 h2 h3 h4 h4' h5 =>
    exact .illegal (t := t) (x := x' ++ x) h1
      (by rw [List.drop_append_of_le_length h3, ← List.append_assoc, ← List.append_assoc, ← List.append_assoc, h2]
          simp [List.append_assoc])
      (by simp only [List.length_append]; omega) (by rw [List.drop_append_of_le_length h3, ← List.append_assoc, h4, List.append_assoc]) h4' h5

/-- what one conversion step does on a window `w` of a valid string whose characters are `cs`, entered with the pending
bytes `pend`: `m` whole characters are delivered and (E) the window is used up at a character boundary, or (I) used up
inside a character (the new pending bytes are a proper prefix of that character's encoding), or (F) the output is full
with input left -/
def StepOK (loc : Locale) (cs pend w : List Nat) (space : Nat) (r : GR) : Prop :=
  ∃ m p, m ≤ cs.length ∧ m ≤ space ∧ encodeAll loc (cs.take m) = some p ∧
    ((r = ⟨cs.take m, w.length, [], .empty⟩ ∧ pend ++ w = p)
     ∨ (∃ st c y, r = ⟨cs.take m, w.length, st, .incomplete⟩ ∧ pend ++ w = p ++ st ∧ m < space ∧ cs[m]? = some c ∧
          enc loc c = some (st ++ y) ∧ st ≠ [] ∧ y ≠ [])
     ∨ (∃ w1 y, r = ⟨cs.take m, w1.length, [], .full⟩ ∧ m = space ∧ w = w1 ++ y ∧ y ≠ [] ∧ pend ++ w1 = p))

/-- on a window of a valid string a run is `StepOK`: by unique decodability what was delivered is a prefix of the characters, and
what is left over cannot be illegal -/
theorem Run.stepOK {loc : Locale} {cs B pend w x : List Nat} {space : Nat} {r : GR} (h : Run loc pend w space r)
    (hB : encodeAll loc cs = some B) (hwx : pend ++ w ++ x = B) (hs : 0 < space ∨ pend = []) : StepOK loc cs pend w space r := by
  cases h with
  | @empty out h1 h2 =>
    obtain ⟨ho, hm, _⟩ := encodeAll_split_unique hB h1 hwx.symm
    exact ⟨out.length, _, hm, h2, by rw [← ho]; exact h1, .inl ⟨by rw [← ho], rfl⟩⟩
  | @full out p used h1 h2 h3 h4 h5 =>
    have hst : (if out = [] then pend else []) = [] := by
      by_cases ho : out = []
      · subst ho; rw [if_pos rfl]; exact hs.resolve_left (by simp at h5; omega)
      · rw [if_neg ho]
    rw [hst, List.nil_append] at h2 h4
    rw [hst]
    obtain ⟨ho, hm, _⟩ := encodeAll_split_unique (z := w.drop used ++ x) hB h1 (by rw [← hwx, h2, List.append_assoc])
    have hp1 : pend ++ w.take used = p := by
      have : (pend ++ w.take used) ++ w.drop used = p ++ w.drop used := by rw [List.append_assoc, List.take_append_drop, h2]
      exact List.append_cancel_right this
    exact ⟨out.length, _, hm, by omega, by rw [← ho]; exact h1, .inr (.inr ⟨w.take used, w.drop used,
      by rw [← ho, List.length_take, Nat.min_eq_left h3], h5, (List.take_append_drop _ _).symm, h4, hp1⟩)⟩
  | @incomplete out p rem h1 h2 h3 h4 h5 =>
    obtain ⟨ho, hm, hq⟩ := encodeAll_split_unique (z := rem ++ x) hB h1 (by rw [← hwx, h2, List.append_assoc])
    rcases PendOK.of_genuine (inp := x) (rem := []) (.inr h4) hq (by simp) with h | ⟨h | ⟨c, cs', y, hd, he, _, hy⟩, _⟩
    · simp [h, encodeAll] at hq; exact absurd hq.1 h3
    · exact absurd h h3
    · refine ⟨out.length, p, hm, by omega, by rw [← ho]; exact h1, .inr (.inl ⟨rem, c, y, by rw [← ho], h2, h5, ?_, he, h3, hy⟩)⟩
      have := congrArg (·[0]?) hd
      simpa [List.getElem?_drop] using this
  | @illegal out p st used t x' h1 h2 h3 h4 h4' h5 =>
    obtain ⟨_, _, hq⟩ := encodeAll_split_unique (z := t ++ (x' ++ x)) hB h1 (by rw [← hwx, h2, h4, List.append_assoc, List.append_assoc])
    exact absurd h4' (body_ne_illegal_of_valid hq)

theorem mbMain_window (loc : Locale) (cs B : List Nat) (hB : encodeAll loc cs = some B) (w x : List Nat)
    (hwx : w ++ x = B) (fuel : Nat) (hf : w.length < fuel) (space : Nat) :
    StepOK loc cs [] w space (mbMain loc fuel w space) :=
  (mbMain_run loc fuel w space hf).stepOK hB (by simpa using hwx) (.inr rfl)

theorem gconvMb_window (loc : Locale) (cs B : List Nat) (hB : encodeAll loc cs = some B) (pend w x : List Nat)
    (hwx : pend ++ w ++ x = B) (hp : PendOK loc pend cs) (space : Nat) (hs : 0 < space) :
    StepOK loc cs pend w space (gconvMb loc pend w space) :=
  (gconvMb_run loc pend w space hp.genuine).stepOK hB hwx (.inl hs)

end SafeC.Conv.Libc
