import SafeC.Proofs.AccWalk
/-!
# `WW lo hi p Q`: every store of `p` lands in `[lo, hi)`, whatever the loads return

A Hoare-style judgement on `Prog` that IGNORES the values read (the continuation of a `load` must
satisfy it for every value): exactly the quantification C01 asks for — "for all contents of memory,
also of cells the function should not have read".  `Q` is a postcondition on the returned value, so
that addresses computed by one loop can bound the stores of the next.

It is the footprint judgement `Acc` with loads allowed anywhere and stores allowed in the window (`WW.toAcc`, `WW.of_Acc`); what a
`WW` program does on a memory where everything is mapped and `[lo, hi)` is writable is `SW.of_WW` (`Proofs/SW.lean`).
-/
namespace SafeC

inductive WW (lo hi : Nat) : {α : Type} → Prog α → (α → Prop) → Prop where
  | ret {α} {Q : α → Prop} (x : α) : Q x → WW lo hi (.ret x) Q
  | load {α} {Q : α → Prop} (a : Nat) (k : Nat → Prog α) : (∀ v, WW lo hi (k v) Q) → WW lo hi (.load a k) Q
  | store {α} {Q : α → Prop} (a v : Nat) (k : Prog α) : lo ≤ a → a < hi → WW lo hi k Q → WW lo hi (.store a v k) Q
  | emit {α} {Q : α → Prop} (e : Event) (k : Prog α) : WW lo hi k Q → WW lo hi (.emit e k) Q

namespace WW

theorem pure {lo hi : Nat} {α} {Q : α → Prop} (x : α) (h : Q x) : WW lo hi (Pure.pure x : Prog α) Q := .ret x h

theorem loadP {lo hi : Nat} (a : Nat) : WW lo hi (SafeC.load a) (fun _ => True) := .load a _ (fun v => .ret v trivial)
theorem storeP {lo hi : Nat} (a v : Nat) (h1 : lo ≤ a) (h2 : a < hi) : WW lo hi (SafeC.store a v) (fun _ => True) :=
  .store a v _ h1 h2 (.ret () trivial)

theorem bind {lo hi : Nat} {α β} {p : Prog α} {f : α → Prog β} {Q : α → Prop} {R : β → Prop}
    (hp : WW lo hi p Q) (hf : ∀ x, Q x → WW lo hi (f x) R) : WW lo hi (p >>= f) R := by
  induction hp with
  | ret x hx => exact hf x hx
  | load a k _ ih => exact .load a _ (fun v => ih v hf)
  | store a v k h1 h2 _ ih => exact .store a v _ h1 h2 (ih hf)
  | emit e k _ ih => exact .emit e _ (ih hf)

theorem ite {lo hi : Nat} {α} {Q : α → Prop} {c : Prop} [Decidable c] {p q : Prog α}
    (hp : c → WW lo hi p Q) (hq : ¬ c → WW lo hi q Q) : WW lo hi (if c then p else q) Q := by
  split
  · exact hp ‹_›
  · exact hq ‹_›

theorem conseq {lo hi : Nat} {α} {p : Prog α} {Q Q' : α → Prop} (hp : WW lo hi p Q) (h : ∀ x, Q x → Q' x) :
    WW lo hi p Q' := by
  induction hp with
  | ret x hx => exact .ret x (h x hx)
  | load a k _ ih => exact .load a _ (fun v => ih v h)
  | store a v k h1 h2 _ ih => exact .store a v _ h1 h2 (ih h)
  | emit e k _ ih => exact .emit e _ (ih h)

theorem mono {lo hi lo' hi' : Nat} {α} {p : Prog α} {Q : α → Prop} (hp : WW lo hi p Q) (h1 : lo' ≤ lo) (h2 : hi ≤ hi') :
    WW lo' hi' p Q := by
  induction hp with
  | ret x hx => exact .ret x hx
  | load a k _ ih => exact .load a _ (fun v => ih v)
  | store a v k ha1 ha2 _ ih => exact .store a v _ (by omega) (by omega) ih
  | emit e k _ ih => exact .emit e _ ih

theorem emitP {lo hi : Nat} (e : Event) : WW lo hi (SafeC.emit e) (fun _ => True) := .emit e _ (.ret () trivial)
theorem toAcc {lo hi : Nat} {α} {p : Prog α} {Q : α → Prop} (h : WW lo hi p Q) :
    Acc (fun _ => True) (fun a => lo ≤ a ∧ a < hi) p Q := by
  induction h with
  | ret x hx => exact .ret x hx
  | load a k _ ih => exact .load a _ trivial ih
  | store a v k h1 h2 _ ih => exact .store a v _ ⟨h1, h2⟩ ih
  | emit e k _ ih => exact .emit e _ ih

theorem of_Acc {lo hi : Nat} {α} {p : Prog α} {Q : α → Prop} (h : Acc (fun _ => True) (fun a => lo ≤ a ∧ a < hi) p Q) :
    WW lo hi p Q := by
  induction h with
  | ret x hx => exact .ret x hx
  | load a k _ _ ih => exact .load a _ ih
  | store a v k ha _ ih => exact .store a v _ ha.1 ha.2 ih
  | emit e k _ ih => exact .emit e _ ih

theorem nullSlack {lo hi : Nat} (d n : Nat) (h1 : lo ≤ d) (h2 : d + n ≤ hi) : WW lo hi (SafeC.nullSlack d n) (fun _ => True) :=
  of_Acc (Acc_nullSlack d n fun _ ha => ⟨Nat.le_trans h1 ha.1, Nat.lt_of_lt_of_le ha.2 h2⟩)

theorem handleError {lo hi : Nat} (cfg : Cfg) (d len code : Nat) (h1 : lo ≤ d) (h2 : d + len ≤ hi) (h3 : d < hi) :
    WW lo hi (SafeC.handleError cfg d len code) (fun _ => True) :=
  of_Acc (Acc_handleError cfg d len code (fun _ ha => ⟨Nat.le_trans h1 ha.1, Nat.lt_of_lt_of_le ha.2 h2⟩) ⟨h1, h3⟩)

end WW
end SafeC
