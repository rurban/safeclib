import SafeC.Proofs.SortHeapDefs
/-!
# qsort_s model: what `sift` does

`Descent`: the paths the loop of
`sift` can take down a tree, with what the comparisons along it established; `Descent.spec`: rotating the sifted element
down such a path makes the tree a heap.  `siftLoop_run`, `sift_run`: for EVERY comparator `sift` on a Leonardo tree inside the
array returns, compares and moves only positions of the tree and keeps the size; the clause behind `Consistent e.cmp le →`
says what a consistent comparator adds: the walk is a `Descent`, so a tree whose two subtrees are heap-ordered becomes
heap-ordered, only the tree is touched, and its new root dominates the old tree.  (The control flow does not depend on the
contents, so one induction serves both.)
-/
namespace SafeC.Sort
variable {α : Type}

open Cyc

theorem cmpAt_g [Inhabited α] (e : Env α) {s0 s : St α} (hs : s.a = s0.a) {i j : Nat} (hi : i < s0.a.size) (hj : j < s0.a.size) :
    Tot (cmpAt e s i j) (fun r => r.2.a = s0.a ∧ ∃ n, r.1 = e.cmp n i j (s0.g i) (s0.g j)) := by
  rw [cmpAt_eq e s (hs ▸ hi) (hs ▸ hj)]
  refine Tot.ok ⟨hs, s.ncmp, ?_⟩
  simp only [St.g, getElem!_pos, hi, hj, hs]

namespace Sift
open Cyc

/-- a path `sift` may take below the node of order `k` at `h` (`x` = the element sifted down) -/
inductive Descent (le : α → α → Prop) (f : Nat → α) (x : α) : Nat → Nat → List Nat → Prop
  | leaf {k h : Nat} : k ≤ 1 → Descent le f x k h []
  | stop {k h : Nat} : le (f (h - 1 - leo k)) x → le (f (h - 1)) x → Descent le f x (k + 2) h []
  | left {k h : Nat} {P : List Nat} : ¬ (le (f (h - 1 - leo k)) x ∧ le (f (h - 1)) x) → le (f (h - 1)) (f (h - 1 - leo k)) →
      Descent le f x (k + 1) (h - 1 - leo k) P → Descent le f x (k + 2) h ((h - 1 - leo k) :: P)
  | right {k h : Nat} {P : List Nat} : ¬ (le (f (h - 1 - leo k)) x ∧ le (f (h - 1)) x) → ¬ le (f (h - 1)) (f (h - 1 - leo k)) →
      Descent le f x k (h - 1) P → Descent le f x (k + 2) h ((h - 1) :: P)

theorem Descent.length {le : α → α → Prop} {f : Nat → α} {x : α} {k h : Nat} {P : List Nat} (d : Descent le f x k h P) :
    P.length ≤ k := by
  induction d with
  | leaf _ => simp
  | stop _ _ => simp
  | left _ _ _ ih => simp only [List.length_cons]; omega
  | right _ _ _ ih => simp only [List.length_cons]; omega

theorem Descent.mem {le : α → α → Prop} {f : Nat → α} {x : α} {k h : Nat} {P : List Nat} (d : Descent le f x k h P)
    (hfit : leo k ≤ h + 1) : ∀ p ∈ P, InTree k h p := by
  induction d with
  | leaf _ => simp
  | stop _ _ => simp
  | @left k h P _ _ _ ih =>
    have N := node hfit
    intro p hp
    rcases List.mem_cons.mp hp with rfl | hp
    · exact N.inL (.root ..)
    · exact N.inL (ih N.fitL p hp)
  | @right k h P _ _ _ ih =>
    have N := node hfit
    intro p hp
    rcases List.mem_cons.mp hp with rfl | hp
    · exact N.inR (.root ..)
    · exact N.inR (ih N.fitR p hp)

/-- one step up the path: the tree at `h` consists of `h`, the child `c` the path went to (its tree already rotated: `g`)
    and the other child `d`; the root receives `f c`, which dominates `x`, `d` and the old tree of `c` -/
theorem Descent.up {le : α → α → Prop} (hrefl : ∀ x, le x x) (htrans : ∀ {x y z}, le x y → le y z → le x z)
    {f g : Nat → α} {x : α} {K kc kd h c d : Nat} (fitc : leo kc ≤ c + 1) (fitd : leo kd ≤ d + 1)
    (split : ∀ j, InTree K h j ↔ j = h ∨ InTree kc c j ∨ InTree kd d j)
    (below : ∀ j, InTree kc c j ∨ InTree kd d j → j < h) (disj : ∀ j, InTree kc c j → ¬ InTree kd d j)
    (sc : Heap le f kc c) (sd : Heap le f kd d) (hdc : le (f d) (f c)) (hxc : le x (f c))
    (i1 : Heap le g kc c) (i2 : ∀ j, ¬ InTree kc c j → g j = f j)
    (i3 : ∀ j, InTree kc c j → g j = x ∨ ∃ j', InTree kc c j' ∧ g j = f j') :
    (le (upd g h (f c) c) (upd g h (f c) h) ∧ le (upd g h (f c) d) (upd g h (f c) h) ∧
      Heap le (upd g h (f c)) kc c ∧ Heap le (upd g h (f c)) kd d) ∧
    (∀ j, ¬ InTree K h j → upd g h (f c) j = f j) ∧
    (∀ j, InTree K h j → upd g h (f c) j = x ∨ ∃ j', InTree K h j' ∧ upd g h (f c) j = f j') ∧
    le x (upd g h (f c) h) ∧ (∀ j, InTree K h j → j ≠ h → le (f j) (upd g h (f c) h)) := by
  have cc := InTree.root kc c
  have dd := InTree.root kd d
  have lt : ∀ {j}, InTree kc c j ∨ InTree kd d j → j ≠ h := fun hj => Nat.ne_of_lt (below _ hj)
  have gd : ∀ j, InTree kd d j → upd g h (f c) j = f j := fun j hj => by
    rw [upd_ne _ _ (lt (.inr hj)), i2 j fun hc => disj j hc hj]
  rw [upd_same ..]
  refine ⟨⟨?_, ?_, Heap.congr_le (fun j hj => upd_ne _ _ (by have := below c (.inl cc); omega)) i1,
    Heap.congr_tree fitd gd sd⟩, fun j hj => ?_, fun j hj => ?_, hxc, fun j hj hjh => ?_⟩
  · rw [upd_ne _ _ (lt (.inl cc))]
    rcases i3 c cc with e | ⟨j', hj', e⟩
    · rw [e]; exact hxc
    · rw [e]; exact Heap.root_max hrefl htrans fitc sc hj'
  · rw [gd d dd]; exact hdc
  · rw [upd_ne _ _ fun e => hj ((split j).2 (.inl e)), i2 j fun hc => hj ((split j).2 (.inr (.inl hc)))]
  · rcases (split j).1 hj with rfl | hc | hd
    · exact .inr ⟨c, (split c).2 (.inr (.inl cc)), upd_same ..⟩
    · rw [upd_ne _ _ (lt (.inl hc))]
      rcases i3 j hc with e | ⟨j', hj', e⟩
      · exact .inl e
      · exact .inr ⟨j', (split j').2 (.inr (.inl hj')), e⟩
    · exact .inr ⟨j, hj, gd j hd⟩
  · rcases (split j).1 hj with e | hc | hd
    · exact absurd e hjh
    · exact Heap.root_max hrefl htrans fitc sc hc
    · exact htrans (Heap.root_max hrefl htrans fitd sd hd) hdc

theorem rotF_one (f : Nat → α) (x : α) (h : Nat) : rotF f x [h] = upd f h x := rfl

theorem Descent.spec {le : α → α → Prop} (htot : ∀ x y, le x y ∨ le y x) (htrans : ∀ {x y z}, le x y → le y z → le x z)
    {f : Nat → α} {x : α} {k h : Nat} {P : List Nat} (d : Descent le f x k h P) (hfit : leo k ≤ h + 1)
    (hsub : SubHeaps le f k h) :
    Heap le (rotF f x (h :: P)) k h ∧
    (∀ j, ¬ InTree k h j → rotF f x (h :: P) j = f j) ∧
    (∀ j, InTree k h j → rotF f x (h :: P) j = x ∨ ∃ j', InTree k h j' ∧ rotF f x (h :: P) j = f j') ∧
    le x (rotF f x (h :: P) h) ∧
    (∀ j, InTree k h j → j ≠ h → le (f j) (rotF f x (h :: P) h)) := by
  have hrefl : ∀ x, le x x := fun x => (htot x x).elim id id
  induction d with
  | @leaf k h hk =>
    rw [rotF_one]
    refine ⟨?_, fun j hj => upd_ne _ _ fun e => hj (e ▸ .root ..), fun j hj => .inl ?_, by rw [upd_same ..]; exact hrefl x,
      fun j hj hne => absurd ((InTree.le_one hk).1 hj) hne⟩
    · match k, hk with
      | 0, _ => trivial
      | 1, _ => trivial
    · rw [(InTree.le_one hk).1 hj, upd_same ..]
  | @stop k h h1 h2 =>
    have N := node hfit
    have lt : ∀ {j}, InTree (k + 1) (h - 1 - leo k) j ∨ InTree k (h - 1) j → j ≠ h := fun hj => Nat.ne_of_lt (N.below hj)
    obtain ⟨s1, s2⟩ := hsub
    rw [rotF_one]
    refine ⟨⟨?_, ?_, Heap.congr_tree N.fitR (fun j hj => upd_ne _ _ (lt (.inr hj))) s1,
      Heap.congr_tree N.fitL (fun j hj => upd_ne _ _ (lt (.inl hj))) s2⟩,
      fun j hj => upd_ne _ _ fun e => hj (e ▸ .root ..), fun j hj => ?_, by rw [upd_same ..]; exact hrefl x, fun j hj hjh => ?_⟩
    · rw [upd_ne _ _ (lt (.inr (.root ..))), upd_same ..]; exact h2
    · rw [upd_ne _ _ (lt (.inl (.root ..))), upd_same ..]; exact h1
    · by_cases hjh : j = h
      · left; rw [hjh, upd_same ..]
      · right; exact ⟨j, hj, upd_ne _ _ hjh⟩
    · rw [upd_same ..]
      rcases (N.split j).1 hj with e | hl | hr
      · exact absurd e hjh
      · exact htrans (Heap.root_max hrefl htrans N.fitL s2 hl) h1
      · exact htrans (Heap.root_max hrefl htrans N.fitR s1 hr) h2
  | @left k h P hns hrl d ih =>
    have N := node hfit
    obtain ⟨s1, s2⟩ := hsub
    have hnot : h ∉ (h - 1 - leo k) :: P := fun hm => by
      rcases List.mem_cons.mp hm with e | hm
      · have := N.below (.inl (.root ..)); omega
      · exact Nat.lt_irrefl _ (N.below (.inl (d.mem N.fitL h hm)))
    obtain ⟨i1, i2, i3, -, -⟩ := ih N.fitL (Heap.of_sub s2)
    rw [rotF_cons_notin x f h _ P hnot]
    have hxl : le x (f (h - 1 - leo k)) := (htot _ _).resolve_right fun h' => hns ⟨h', htrans hrl h'⟩
    obtain ⟨⟨a, b, c, e⟩, rest⟩ := Descent.up hrefl htrans (K := k + 2) (h := h) N.fitL N.fitR
      N.split (fun j => N.below) (fun j => N.disj) s2 s1 hrl hxl i1 i2 i3
    exact ⟨⟨b, a, e, c⟩, rest⟩
  | @right k h P hns hrl d ih =>
    have N := node hfit
    obtain ⟨s1, s2⟩ := hsub
    have hnot : h ∉ (h - 1) :: P := fun hm => by
      rcases List.mem_cons.mp hm with e | hm
      · have := N.below (.inr (.root ..)); omega
      · exact Nat.lt_irrefl _ (N.below (.inr (d.mem N.fitR h hm)))
    obtain ⟨i1, i2, i3, -, -⟩ := ih N.fitR (Heap.of_sub s1)
    rw [rotF_cons_notin x f h _ P hnot]
    have hlr : le (f (h - 1 - leo k)) (f (h - 1)) := (htot _ _).resolve_right hrl
    have hxr : le x (f (h - 1)) := (htot _ _).resolve_right fun h' => hns ⟨htrans hlr h', h'⟩
    exact Descent.up hrefl htrans (K := k + 2) (h := h) N.fitR N.fitL
      (fun j => (N.split j).trans (or_congr_right Or.comm)) (fun j hj => N.below hj.symm) (fun j h1 h2 => N.disj h2 h1)
      s1 s2 hlr hxr i1 i2 i3

theorem siftLoop_run [Inhabited α] (e : Env α) (le : α → α → Prop) (n ar0 : Nat) (h0 : ar0 < n) :
    ∀ (room : Nat) (s : St α) (head pshift : Nat) (acc : List Nat),
    s.a.size = n → head < n → leo pshift ≤ head + 1 → LpOk e.lp pshift → pshift ≤ room + 1 →
    Tot (siftLoop e room s ar0 head pshift acc)
      (fun r => r.1.a = s.a ∧ ∃ P, r.2 = P.reverse ++ acc ∧ (∀ p ∈ P, p < head) ∧ P.length ≤ pshift ∧
        (Consistent e.cmp le → Descent le s.g (s.g ar0) pshift head P)) := by
  intro room
  induction room with
  | zero =>
    intro s head pshift acc hs hh hl hlp hr
    unfold siftLoop
    have : pshift ≤ 1 := by omega
    simp only [this, if_true]
    exact Tot.ok ⟨rfl, [], rfl, by simp, by simp, fun _ => Descent.leaf this⟩
  | succ room ih =>
    intro s head pshift acc hs hh hl hlp hr
    unfold siftLoop
    refine Tot.ite (fun hp => Tot.ok ⟨rfl, [], rfl, by simp, by simp, fun _ => Descent.leaf hp⟩) (fun hp => ?_)
    obtain ⟨k, rfl⟩ : ∃ k, pshift = k + 2 := ⟨pshift - 2, by omega⟩
    have hleo := leo_succ_succ k
    have p1 := leo_pos (k + 1)
    simp only [Nat.add_sub_cancel, show k + 2 - 1 = k + 1 from rfl]
    refine Tot.bind _ (sub_tot (by omega)) fun rt hrt => ?_
    subst hrt
    refine Tot.bind _ (lpAt_tot hlp (by omega)) fun l hl' => ?_
    subst hl'
    refine Tot.bind _ (sub_tot (by omega)) fun lf hlf => ?_
    subst hlf
    refine Tot.bind _ (cmpAt_g e rfl (by omega) (by omega)) fun ⟨c1, s1⟩ ⟨h1, n1, e1⟩ => ?_
    subst e1
    refine Tot.bind (fun r => r.2.a = s.a ∧ ∀ hc : Consistent e.cmp le,
        (r.1 = true → le (s.g (head - 1 - leo k)) (s.g ar0) ∧ le (s.g (head - 1)) (s.g ar0)) ∧
        (r.1 = false → ¬ (le (s.g (head - 1 - leo k)) (s.g ar0) ∧ le (s.g (head - 1)) (s.g ar0)))) ?_
      (fun ⟨stop, s2⟩ ⟨h2, hstop⟩ => ?_)
    · refine Tot.ite (fun c1 => ?_) (fun c1 => Tot.ok ⟨h1, fun hc => ⟨fun h => (by cases h), fun _ h => c1 ((hc.nonneg ..).2 h.1)⟩⟩)
      refine Tot.bind _ (cmpAt_g e h1 (by omega) (by omega)) fun ⟨c2, s2⟩ ⟨h2, n2, e2⟩ => ?_
      subst e2
      exact Tot.ok ⟨h2, fun hc => ⟨fun h => ⟨(hc.nonneg ..).1 c1, (hc.nonneg ..).1 (by simpa using h)⟩,
        fun h h' => (by simpa using h : ¬ _) ((hc.nonneg ..).2 h'.2)⟩⟩
    · refine Tot.ite (fun hst => Tot.ok ⟨h2, [], rfl, by simp, by simp,
        fun hc => Descent.stop ((hstop hc).1 hst).1 ((hstop hc).1 hst).2⟩) (fun hns => ?_)
      have hns' : ∀ hc : Consistent e.cmp le, ¬ (le (s.g (head - 1 - leo k)) (s.g ar0) ∧ le (s.g (head - 1)) (s.g ar0)) :=
        fun hc => (hstop hc).2 (by simpa using hns)
      refine Tot.bind _ (cmpAt_g e h2 (by omega) (by omega)) fun ⟨c3, s3⟩ ⟨h3, n3, e3⟩ => ?_
      subst e3
      -- either child `c` of order `kc`: its tree lies inside the tree of `head`
      have down : ∀ c kc, c < head → leo kc ≤ c + 1 → kc ≤ k + 1 →
          (∀ P, (Consistent e.cmp le → Descent le s.g (s.g ar0) kc c P) →
            Consistent e.cmp le → Descent le s.g (s.g ar0) (k + 2) head (c :: P)) →
          Tot (siftLoop e room s3 ar0 c kc (c :: acc)) (fun r => r.1.a = s.a ∧ ∃ P, r.2 = P.reverse ++ acc ∧
            (∀ p ∈ P, p < head) ∧ P.length ≤ k + 2 ∧ (Consistent e.cmp le → Descent le s.g (s.g ar0) (k + 2) head P)) := by
        intro c kc hc hfit hkc hd
        obtain ⟨r, hr1, q1, P, q2, q3, q4, q5⟩ := ih s3 c kc (c :: acc) (by rw [h3, hs]) (by omega) hfit (hlp.mono (by omega)) (by omega)
        rw [g_congr h3] at q5
        exact ⟨r, hr1, q1.trans h3, c :: P, by rw [q2]; simp, fun p hp => by
          rcases List.mem_cons.mp hp with rfl | hp
          · exact hc
          · exact Nat.lt_trans (q3 p hp) hc, by simp only [List.length_cons]; omega, hd P q5⟩
      refine Tot.ite (fun hge => ?_) (fun hlt => ?_)
      · exact down _ _ (by omega) (by omega) (Nat.le_refl _) fun P d hc =>
          Descent.left (hns' hc) ((hc.nonneg ..).1 hge) (d hc)
      · exact down _ _ (by omega) (by omega) (by omega) fun P d hc =>
          Descent.right (hns' hc) (fun h => hlt ((hc.nonneg ..).2 h)) (d hc)

end Sift
open Cyc Sift

/-- EVERY comparator: `sift` on a tree inside the array returns and keeps the size; consistent comparator, heap-ordered
    subtrees: the tree is heap-ordered afterwards, only the tree was touched, and the new root dominates the old tree.
    `K ≤ 111`: the walk hands `cycle` the root and at most `pshift` more positions, and `cycle` takes at most 112 (`ar[]` has 113
    entries, one of them for `tmp`) -/
theorem sift_run [Inhabited α] (e : Env α) (le : α → α → Prop) {n K : Nat} (hlp : LpOk e.lp K)
    (hK : K ≤ 111) (s : St α) (head pshift : Nat) (hs : s.a.size = n) (hh : head < n) (hfit : leo pshift ≤ head + 1)
    (hpK : pshift ≤ K) :
    Tot (sift e s head pshift) (fun r => r.a.size = n ∧ (Consistent e.cmp le → SubHeaps le s.g pshift head →
      Heap le r.g pshift head ∧
      (∀ j, ¬ InTree pshift head j → r.g j = s.g j) ∧
      (∀ j, InTree pshift head j → ∃ j', InTree pshift head j' ∧ r.g j = s.g j') ∧
      (∀ y j, InTree pshift head j → le y (s.g j) → le y (r.g head)))) := by
  unfold sift
  refine Tot.bind _ (siftLoop_run e le n head hh 112 s head pshift [head] hs hh hfit (hlp.mono hpK) (by omega))
    (fun ⟨s1, acc⟩ h1 => ?_)
  obtain ⟨(q1' : s1.a = s.a), P, (q3' : acc = P.reverse ++ [head]), hmem, hlen, d⟩ := h1
  have hrev : acc.reverse = head :: P := by rw [q3']; simp
  show Tot (cycle s1 acc.reverse) _
  rw [hrev]
  obtain ⟨r, hr, hsz, hg⟩ := cycle_fn s1 (head :: P) (by
      intro y hy
      rw [q1', hs]
      rcases List.mem_cons.mp hy with rfl | hy
      · exact hh
      · have := hmem y hy; omega) (by simp only [List.length_cons]; omega)
  rw [g_congr q1', rot_eq_rotF] at hg
  refine ⟨r, hr, by rw [hsz, q1', hs], fun hc hsub => ?_⟩
  have hself := InTree.root pshift head
  obtain ⟨i1, i2, i3, i4, i5⟩ := (d hc).spec hc.total hc.trans hfit hsub
  rw [← hg] at i1 i2 i3 i4 i5
  refine ⟨i1, i2, ?_, ?_⟩
  · intro j hj
    rcases i3 j hj with e | ⟨j', hj', e⟩
    · exact ⟨head, hself, e⟩
    · exact ⟨j', hj', e⟩
  · intro y j hj hy
    by_cases hjh : j = head
    · rw [hjh] at hy; exact hc.trans hy i4
    · exact hc.trans hy (i5 j hj hjh)

end SafeC.Sort

