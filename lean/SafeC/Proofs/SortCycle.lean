import SafeC.Proofs.SortRot
/-!
# `cycle` of `qsort_s.c`: the byte program is the element rotation

`cycleBytes` (Models/Sort.lean) is the C `cycle(width, ar, n)`: the elements at `ar[0..n)` are rotated through
`unsigned char tmp[256]` in chunks of at most 256 bytes, every `ar[i]` advanced by the chunk length after each chunk.
`cycle` / `cycleGo` is the rotation of whole elements the sort model uses.

* `cycle_eq_cycleElems`: `cycle` = the `ar[]` capacity check + `cycleElems` (the bare element rotation).
* `Cyc.cycleBytes_rep2` + `Cyc.elems_rep`: for every width, every element count, every position list inside the array (any
  length, repeated positions allowed) and enough fuel, `cycleBytes` on `mem` with the pointers `position * w` returns a memory
  whose `w`-byte elements (`elems`) are the old ones rotated; `cycleBytes_is_cycle` / `_st` (Props/C16.lean) read it off.
* `Cyc.chunkGo_fault`, `cycleElems_fault`: a position outside the array among at least two: both programs fault
  (`cycleBytes_fault_iff`, Props/C16.lean).

Proof, column-wise (namespace `Cyc`): memory is described by a function `F element column` (`Rep2`); `rotF` is the
rotation on functions (Proofs/SortRot.lean); one `copyBytes` on the column range `[off, off+l)` of element `x` from element `y` is `F x k := F y k`
on these columns (for `x = y` it is the identity, byte by byte; no disjointness is needed because the bytes read by the
step `l` are the column `off + l`, not yet written); one chunk rotates every column of `[off, off+l)` (`chunkGo_rep2`);
the `while (width)` loop rotates every column `≥ off` (`cycleBytes_rep2`, induction on the fuel); `rotF` commutes with
taking a column (`rotF_map`), so all columns rotated = rows rotated.
-/
namespace SafeC.Sort

/-- the element rotation of `cycle`, without the `ar[]` capacity check -/
def cycleElems (a : Array α) (ar : List Nat) : M (Array α) :=
  match ar with
  | [] => .ok a
  | [_] => .ok a
  | x :: _ :: _ => do
    let tmp ← getE a x
    cycleGo a tmp ar

theorem cycle_eq_cycleElems (s : St α) (ar : List Nat) :
    cycle s ar = if 2 ≤ ar.length ∧ ar.length > 112 then .error .arIdx
      else (cycleElems s.a ar).map (fun a => { s with a := a }) := by
  match ar with
  | [] => simp [cycle, cycleElems, Except.map]
  | [_] => simp [cycle, cycleElems, Except.map]
  | x :: y :: rest =>
    unfold cycle cycleElems
    by_cases h : (x :: y :: rest).length > 112
    · have h2 : 2 ≤ (x :: y :: rest).length := by simp
      simp only [h, h2, and_self, if_true]
    · simp only [h, and_false, if_false]
      cases hg : getE s.a x with
      | error e => simp [bind, Except.bind, Except.map]
      | ok t =>
        cases hc : cycleGo s.a t (x :: y :: rest) with
        | error e => simp [bind, Except.bind, Except.map, hc]
        | ok r => simp [bind, Except.bind, Except.map, hc, pure, Except.pure]

def elems (mem : Array UInt8) (w n : Nat) : Array (Array UInt8) :=
  Array.ofFn (n := n) fun i => mem.extract (i.val * w) (i.val * w + w)

namespace Cyc

theorem addr_lt {i n k w : Nat} (hi : i < n) (hk : k < w) : i * w + k < n * w :=
  calc i * w + k < i * w + w := by omega
    _ = (i + 1) * w := by rw [Nat.succ_mul]
    _ ≤ n * w := Nat.mul_le_mul_right w hi

theorem addr_inj {i i' k k' w : Nat} (hk : k < w) (hk' : k' < w) (e : i * w + k = i' * w + k') :
    i = i' ∧ k = k' := by
  rcases Nat.lt_trichotomy i i' with h | h | h
  · have := addr_lt (w := w) h hk
    omega
  · subst h; omega
  · have := addr_lt (w := w) h hk'
    omega

def Rep2 (mem : Array UInt8) (w n : Nat) (F : Nat → Nat → UInt8) : Prop :=
  mem.size = n * w ∧ ∀ i k, i < n → k < w → mem[i * w + k]? = some (F i k)

theorem Rep2.congr {mem : Array UInt8} {w n : Nat} {F G : Nat → Nat → UInt8} (h : Rep2 mem w n F)
    (e : ∀ i k, i < n → k < w → F i k = G i k) : Rep2 mem w n G :=
  ⟨h.1, fun i k hi hk => by rw [← e i k hi hk]; exact h.2 i k hi hk⟩

def upd2 (F : Nat → Nat → UInt8) (x k0 : Nat) (v : UInt8) : Nat → Nat → UInt8 :=
  fun i k => if i = x ∧ k = k0 then v else F i k

theorem getE_rep2 {mem : Array UInt8} {w n : Nat} {F : Nat → Nat → UInt8} (h : Rep2 mem w n F)
    {i k : Nat} (hi : i < n) (hk : k < w) : getE mem (i * w + k) = .ok (F i k) := by
  obtain ⟨hx', e⟩ := Array.getElem?_eq_some_iff.1 (h.2 i k hi hk)
  unfold getE; simp only [hx', dite_true, e]

theorem setE_rep2 {mem : Array UInt8} {w n : Nat} {F : Nat → Nat → UInt8} (h : Rep2 mem w n F)
    {x k0 : Nat} (hx : x < n) (hk0 : k0 < w) (v : UInt8) :
    ∃ mem', setE mem (x * w + k0) v = .ok mem' ∧ Rep2 mem' w n (upd2 F x k0 v) := by
  have hx' : x * w + k0 < mem.size := by rw [h.1]; exact addr_lt hx hk0
  refine ⟨mem.set (x * w + k0) v hx', by unfold setE; simp only [hx', dite_true], by simp [h.1], ?_⟩
  intro i k hi hk
  rw [Array.getElem?_set]
  simp only [upd2]
  by_cases hxi : x * w + k0 = i * w + k
  · obtain ⟨rfl, rfl⟩ := addr_inj hk0 hk hxi
    simp
  · have : ¬ (i = x ∧ k = k0) := fun ⟨e1, e2⟩ => hxi (by rw [e1, e2])
    simp only [hxi, this, if_false]; exact h.2 i k hi hk

/-- `memcpy(base + x*w + off, base + y*w + off, l)`, forward byte by byte, `x = y` allowed -/
theorem copyBytes_rep2 {w n x y off : Nat} (hx : x < n) (hy : y < n) : ∀ (l : Nat) (mem : Array UInt8)
    (F : Nat → Nat → UInt8), Rep2 mem w n F → off + l ≤ w →
    ∃ mem', copyBytes mem (x * w + off) (y * w + off) l = .ok mem' ∧
      Rep2 mem' w n (fun i k => if i = x ∧ off ≤ k ∧ k < off + l then F y k else F i k)
  | 0, mem, F, h, _ => by
    refine ⟨mem, rfl, h.congr ?_⟩
    intro i k _ _
    have : ¬ (i = x ∧ off ≤ k ∧ k < off + 0) := by omega
    simp only [this, if_false]
  | l + 1, mem, F, h, hl => by
    obtain ⟨m1, e1, h1⟩ := copyBytes_rep2 (off := off) hx hy l mem F h (by omega)
    unfold copyBytes
    simp only [bind, Except.bind, e1]
    rw [Nat.add_assoc, getE_rep2 h1 hy (by omega : off + l < w)]
    rw [Nat.add_assoc]
    obtain ⟨m2, e2, h2⟩ := setE_rep2 h1 hx (by omega : off + l < w)
      (if y = x ∧ off ≤ off + l ∧ off + l < off + l then F y (off + l) else F y (off + l))
    refine ⟨m2, e2, h2.congr ?_⟩
    intro i k _ _
    simp only [upd2]
    grind

/-- `memcpy(base + x*w + off, tmp, l)`; `T k` = the byte `tmp` holds for column `k` -/
theorem storeTmp_rep2 {w n x : Nat} (hx : x < n) (T : Nat → UInt8) : ∀ (bs : List UInt8) (off : Nat)
    (mem : Array UInt8) (F : Nat → Nat → UInt8), Rep2 mem w n F → off + bs.length ≤ w →
    (∀ j, j < bs.length → bs[j]? = some (T (off + j))) →
    ∃ mem', storeTmp mem (x * w + off) bs = .ok mem' ∧
      Rep2 mem' w n (fun i k => if i = x ∧ off ≤ k ∧ k < off + bs.length then T k else F i k)
  | [], off, mem, F, h, _, _ => by
    refine ⟨mem, rfl, h.congr ?_⟩
    intro i k _ _
    have : ¬ (i = x ∧ off ≤ k ∧ k < off + ([] : List UInt8).length) := by simp
    simp only [this, if_false]
  | b :: bs, off, mem, F, h, hl, hT => by
    simp only [List.length_cons] at hl
    have hb : b = T off := by
      have := hT 0 (by simp)
      simpa using this
    obtain ⟨m1, e1, h1⟩ := setE_rep2 h hx (by omega : off < w) b
    unfold storeTmp
    simp only [bind, Except.bind, e1]
    obtain ⟨m2, e2, h2⟩ := storeTmp_rep2 hx T bs (off + 1) m1 _ h1 (by omega) (by
      intro j hj
      have := hT (j + 1) (by simp; omega)
      rw [List.getElem?_cons_succ] at this
      rw [this, Nat.add_assoc, Nat.add_comm 1 j])
    refine ⟨m2, e2, h2.congr ?_⟩
    intro i k _ _
    simp only [upd2, List.length_cons, hb]
    grind

theorem mapM_ok {α β : Type} (f : α → M β) (g : α → β) : ∀ (xs : List α), (∀ x ∈ xs, f x = .ok (g x)) →
    xs.mapM f = .ok (xs.map g)
  | [], _ => rfl
  | x :: xs, h => by
    rw [List.mapM_cons, h x (by simp), mapM_ok f g xs (fun z hz => h z (by simp [hz]))]
    rfl

theorem loadTmp_rep2 {mem : Array UInt8} {w n : Nat} {F : Nat → Nat → UInt8} (h : Rep2 mem w n F)
    {x off l : Nat} (hx : x < n) (hl : off + l ≤ w) (hl2 : l ≤ 256) :
    loadTmp mem (x * w + off) l = .ok ((List.range l).map fun j => F x (off + j)) := by
  unfold loadTmp
  have : ¬ l > 256 := by omega
  simp only [this, if_false]
  apply mapM_ok
  intro j hj
  have hj' : j < l := by simpa using hj
  rw [Nat.add_assoc]
  exact getE_rep2 h hx (by omega)

/-- the inner `for` of one chunk: every column of `[off, off+l)` is rotated, the others are untouched -/
theorem chunkGo_rep2 {w n off l : Nat} (hl : off + l ≤ w) (T : Nat → UInt8) (tmp : List UInt8)
    (htl : tmp.length = l) (hT : ∀ j, j < l → tmp[j]? = some (T (off + j))) :
    ∀ (ar : List Nat) (x : Nat) (mem : Array UInt8) (F : Nat → Nat → UInt8), Rep2 mem w n F →
    x < n → (∀ y ∈ ar, y < n) →
    ∃ mem', chunkGo mem tmp l ((x :: ar).map (· * w + off)) = .ok mem' ∧
      Rep2 mem' w n (fun i k => if off ≤ k ∧ k < off + l then rotF (fun j => F j k) (T k) (x :: ar) i else F i k)
  | [], x, mem, F, h, hx, _ => by
    simp only [List.map_cons, List.map_nil]
    unfold chunkGo
    obtain ⟨m1, e1, h1⟩ := storeTmp_rep2 hx T tmp off mem F h (by omega) (by rw [htl]; exact hT)
    refine ⟨m1, e1, h1.congr ?_⟩
    intro i k _ _
    simp only [rotF, upd, htl]
    grind
  | y :: rest, x, mem, F, h, hx, har => by
    have hy : y < n := har y (by simp)
    simp only [List.map_cons]
    unfold chunkGo
    obtain ⟨m1, e1, h1⟩ := copyBytes_rep2 (off := off) hx hy l mem F h hl
    simp only [bind, Except.bind, e1]
    obtain ⟨m2, e2, h2⟩ := chunkGo_rep2 hl T tmp htl hT rest y m1 _ h1 hy (fun z hz => har z (by simp [hz]))
    refine ⟨m2, e2, h2.congr ?_⟩
    intro i k _ _
    simp only [rotF]
    by_cases hk : off ≤ k ∧ k < off + l
    · simp only [hk, and_self, if_true]
      congr 1
      funext j
      simp only [upd, and_true]
    · simp only [hk, if_false]
      simp only [and_false, if_false]

/-- the `while (width)` loop from byte offset `off` on (`wr` = bytes of every element still to move):
    every column `k ≥ off` is rotated exactly once, the columns below `off` are untouched -/
theorem cycleBytes_rep2 {w n : Nat} (x y : Nat) (rest : List Nat) (hx : x < n) (har : ∀ z ∈ y :: rest, z < n) :
    ∀ (fuel off wr : Nat) (mem : Array UInt8) (F : Nat → Nat → UInt8), Rep2 mem w n F → off + wr = w →
    wr ≤ 256 * fuel →
    ∃ mem', cycleBytes fuel mem wr ((x :: y :: rest).map (· * w + off)) = .ok mem' ∧
      Rep2 mem' w n (fun i k => if off ≤ k then rotF (fun j => F j k) (F x k) (x :: y :: rest) i else F i k)
  | 0, off, wr, mem, F, h, hw, hf => by
    have h0 : wr = 0 := by omega
    unfold cycleBytes
    simp only [h0, if_true]
    refine ⟨mem, rfl, h.congr ?_⟩
    intro i k _ hk
    have : ¬ off ≤ k := by omega
    simp only [this, if_false]
  | f + 1, off, wr, mem, F, h, hw, hf => by
    unfold cycleBytes
    have h2 : ¬ ((x :: y :: rest).map (· * w + off)).length < 2 := by simp
    simp only [h2, if_false]
    by_cases h0 : wr = 0
    · simp only [h0, if_true]
      refine ⟨mem, rfl, h.congr ?_⟩
      intro i k _ hk
      have : ¬ off ≤ k := by omega
      simp only [this, if_false]
    · simp only [h0, if_false]
      obtain ⟨l, hl⟩ : ∃ l, l = if 256 < wr then 256 else wr := ⟨_, rfl⟩
      rw [← hl]
      have hl1 : l ≤ 256 := by rw [hl]; split <;> omega
      have hl2 : off + l ≤ w := by rw [hl]; split <;> omega
      have hl3 : wr - l ≤ 256 * f := by rw [hl]; split <;> omega
      have hhd : ((x :: y :: rest).map (· * w + off)).head! = x * w + off := rfl
      rw [hhd, loadTmp_rep2 h hx hl2 hl1]
      obtain ⟨m1, e1, h1⟩ := chunkGo_rep2 hl2 (F x) ((List.range l).map fun j => F x (off + j)) (by simp)
        (by intro j hj; simp [hj]) (y :: rest) x mem F h hx har
      simp only [bind, Except.bind, e1]
      have hm : ((x :: y :: rest).map (· * w + off)).map (· + l) = (x :: y :: rest).map (· * w + (off + l)) := by
        rw [List.map_map]
        apply List.map_congr_left
        intro a _
        simp [Nat.add_assoc]
      rw [hm]
      obtain ⟨m2, e2, h2⟩ := cycleBytes_rep2 x y rest hx har f (off + l) (wr - l) m1 _ h1 (by omega) hl3
      refine ⟨m2, e2, h2.congr ?_⟩
      intro i k _ _
      by_cases hk1 : off + l ≤ k
      · have a1 : off ≤ k := by omega
        have a2 : ¬ k < off + l := by omega
        simp only [hk1, a1, a2, and_false, if_true, if_false]
      · have a2 : k < off + l := by omega
        simp only [hk1, a2, and_true, if_false]

def row (w : Nat) (f : Nat → UInt8) : Array UInt8 := Array.ofFn (n := w) fun k => f k.val

theorem elems_rep {mem : Array UInt8} {w n : Nat} {F : Nat → Nat → UInt8} (h : Rep2 mem w n F) :
    Rep (elems mem w n) n (fun i => row w (F i)) := by
  refine ⟨by simp [elems], ?_⟩
  intro i hi
  simp only [elems, Array.getElem?_ofFn, hi, dite_true]
  congr 1
  have hle : i * w + w ≤ mem.size := by
    rw [h.1]
    calc i * w + w = (i + 1) * w := by rw [Nat.succ_mul]
      _ ≤ n * w := Nat.mul_le_mul_right w hi
  apply Array.ext
  · simp only [row, Array.size_extract, Array.size_ofFn]; omega
  · intro k h1 h2
    have hk : k < w := by simpa [row] using h2
    obtain ⟨_, e⟩ := Array.getElem?_eq_some_iff.1 (h.2 i k hi hk)
    simp only [row, Array.getElem_extract, Array.getElem_ofFn, e]

theorem rep2_self {mem : Array UInt8} {w n : Nat} (hm : mem.size = n * w) :
    Rep2 mem w n (fun i k => mem[i * w + k]?.getD 0) := by
  refine ⟨hm, ?_⟩
  intro i k hi hk
  have hlt : i * w + k < mem.size := by rw [hm]; exact addr_lt hi hk
  simp [hlt]

theorem cycleGo_fault (tmp : β) : ∀ (ar : List Nat) (a : Array β) (x : Nat), (∃ z ∈ x :: ar, a.size ≤ z) →
    ∃ e, cycleGo a tmp (x :: ar) = .error e
  | [], a, x, ⟨z, hz, hle⟩ => by
    have : z = x := by simpa using hz
    subst this
    have : ¬ z < a.size := by omega
    unfold cycleGo setE
    simp only [this, dite_false]
    exact ⟨_, rfl⟩
  | y :: rest, a, x, ⟨z, hz, hle⟩ => by
    unfold cycleGo getE
    by_cases hy : y < a.size
    · simp only [hy, dite_true]
      unfold setE
      by_cases hx : x < a.size
      · simp only [hx, dite_true]
        show ∃ e, cycleGo (a.set x a[y]) tmp (y :: rest) = .error e
        apply cycleGo_fault tmp rest
        refine ⟨z, ?_, by simpa using hle⟩
        rcases List.mem_cons.mp hz with h | h
        · omega
        · exact h
      · simp only [hx, dite_false]
        exact ⟨_, rfl⟩
    · simp only [hy, dite_false]
      exact ⟨_, rfl⟩

end Cyc

open Cyc

theorem cycleElems_fault (a : Array β) (ar : List Nat) (hlen : 2 ≤ ar.length) (hbad : ∃ z ∈ ar, a.size ≤ z) :
    ∃ e, cycleElems a ar = .error e := by
  match ar, hlen, hbad with
  | x :: y :: rest, _, hbad =>
    show ∃ e, (do let tmp ← getE a x; cycleGo a tmp (x :: y :: rest)) = .error e
    cases hg : getE a x with
    | error e => exact ⟨e, rfl⟩
    | ok t => exact cycleGo_fault t (y :: rest) a x hbad

namespace Cyc

theorem copyBytes_size : ∀ (l : Nat) (mem : Array UInt8) (d s : Nat) (m : Array UInt8),
    copyBytes mem d s l = .ok m → m.size = mem.size
  | 0, mem, d, s, m, h => by
    injection h with h
    rw [h]
  | l + 1, mem, d, s, m, h => by
    unfold copyBytes at h
    cases hc : copyBytes mem d s l with
    | error e => simp [hc, bind, Except.bind] at h
    | ok m1 =>
      have := copyBytes_size l mem d s m1 hc
      simp only [hc, bind, Except.bind, getE, setE] at h
      by_cases h1 : s + l < m1.size
      · simp only [h1, dite_true] at h
        by_cases h2 : d + l < m1.size
        · simp only [h2, dite_true] at h
          injection h with h
          rw [← h, Array.size_set, this]
        · simp only [h2, dite_false] at h
          cases h
      · simp only [h1, dite_false] at h
        cases h

theorem copyBytes_fault (l : Nat) (mem : Array UInt8) (d s : Nat) (hbad : mem.size ≤ s ∨ mem.size ≤ d) :
    ∃ e, copyBytes mem d s (l + 1) = .error e := by
  unfold copyBytes
  cases hc : copyBytes mem d s l with
  | error e => exact ⟨e, rfl⟩
  | ok m1 =>
    have hsz := copyBytes_size l mem d s m1 hc
    simp only [bind, Except.bind, getE, setE]
    by_cases h1 : s + l < m1.size
    · simp only [h1, dite_true]
      have h2 : ¬ d + l < m1.size := by omega
      simp only [h2, dite_false]
      exact ⟨_, rfl⟩
    · simp only [h1, dite_false]
      exact ⟨_, rfl⟩

theorem chunkGo_fault {w n l : Nat} (tmp : List UInt8) (htl : tmp.length = l + 1) :
    ∀ (ar : List Nat) (x : Nat) (mem : Array UInt8), mem.size = n * w → (∃ z ∈ x :: ar, n ≤ z) →
    ∃ e, chunkGo mem tmp (l + 1) ((x :: ar).map (· * w)) = .error e
  | [], x, mem, hm, ⟨z, hz, hle⟩ => by
    have : z = x := by simpa using hz
    subst this
    have hle' : n * w ≤ z * w := Nat.mul_le_mul_right w hle
    match tmp, htl with
    | b :: bs, _ =>
      simp only [List.map_cons, List.map_nil]
      unfold chunkGo storeTmp setE
      have : ¬ z * w < mem.size := by omega
      simp only [this, dite_false]
      exact ⟨_, rfl⟩
  | y :: rest, x, mem, hm, ⟨z, hz, hle⟩ => by
    simp only [List.map_cons]
    unfold chunkGo
    by_cases hxy : x < n ∧ y < n
    · cases hc : copyBytes mem (x * w) (y * w) (l + 1) with
      | error e => exact ⟨e, rfl⟩
      | ok m1 =>
        have hsz := copyBytes_size _ _ _ _ _ hc
        have := chunkGo_fault tmp htl rest y m1 (by rw [hsz, hm]) ⟨z, (by
          rcases List.mem_cons.mp hz with h | h
          · omega
          · exact h), hle⟩
        simpa only [List.map_cons, bind, Except.bind] using this
    · have hbad : mem.size ≤ y * w ∨ mem.size ≤ x * w := by
        rw [hm]
        by_cases hx : x < n
        · left; exact Nat.mul_le_mul_right w (by omega)
        · right; exact Nat.mul_le_mul_right w (by omega)
      obtain ⟨e, he⟩ := copyBytes_fault l mem (x * w) (y * w) hbad
      exact ⟨e, by simp only [bind, Except.bind, he]⟩

end Cyc

/-! ## examples (NOT the general claim: what the two programs compute on two small memories) -/

example : cycleBytes 1 #[1, 2, 3, 4, 5, 6, 7, 8, 9] 3 ([2, 0, 1].map (· * 3)) = .ok #[4, 5, 6, 7, 8, 9, 1, 2, 3] := rfl
example : cycleElems (elems #[1, 2, 3, 4, 5, 6, 7, 8, 9] 3 3) [2, 0, 1] = .ok (elems #[4, 5, 6, 7, 8, 9, 1, 2, 3] 3 3) := rfl

/-- EXAMPLE: a concrete run with a repeated position -/
example : cycleBytes 1 #[1, 2, 3, 4, 5, 6, 7, 8, 9] 3 ([0, 1, 0, 2].map (· * 3)) = .ok #[7, 8, 9, 4, 5, 6, 1, 2, 3] := rfl
example : cycleElems (elems #[1, 2, 3, 4, 5, 6, 7, 8, 9] 3 3) [0, 1, 0, 2] = .ok (elems #[7, 8, 9, 4, 5, 6, 1, 2, 3] 3 3) := rfl

example : cycleBytes 1 #[1, 2, 3, 4, 5, 6, 7, 8, 9] 3 ([0, 3].map (· * 3)) = .error (.idx 9) := rfl
example : cycleElems (elems #[1, 2, 3, 4, 5, 6, 7, 8, 9] 3 3) [0, 3] = .error (.idx 3) := rfl

end SafeC.Sort
