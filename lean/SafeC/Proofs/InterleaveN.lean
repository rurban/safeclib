import SafeC.Proofs.Interleave
/-!
# Reentrancy for N threads, with shared read-only data (C12)

For footprints `Within2 R W` (loads in `R`, stores in `W`; `Interleave.lean`):

* a POOL of threads `ι → Thread` over an arbitrary index type (any number of threads, each with its own
  result type: `Thread = Σ α, Prog α`), run under an arbitrary schedule `List ι` (`runPool`);
* non-interference: no thread stores into a cell another thread loads or stores
  (`∀ i ≠ j, W i ∩ (R j ∪ W j) = ∅`) — cells that are only READ may be shared by any number of threads;
* `pool_invariant` (induction over the schedule, no bound on its length, no assumption that anything
  finishes): at EVERY point of EVERY schedule, each thread's remaining program, run alone from the
  current memory, returns what the whole thread returns when run alone from the initial memory and leaves
  the same contents in the thread's cells; cells nobody writes are untouched;
* `pool_finished`: hence a thread that has finished has returned its run-alone result and its cells hold
  its run-alone contents — whatever the other threads did in between and whether or not they have finished;
* `seq_char`, `interleave_eq_seq`: running the threads one after the other in ANY order gives the same
  results and, when all have finished, the same memory as any interleaving;
* `runSched_pool`, `interleave_shared`: the two-thread scheduler of `Interleave.lean` is the pool over
  `Bool`; the two-thread theorem with shared read-only cells, and `interleave_disjoint`, its case of one footprint per
  thread (`Within F`).

Handler events: `emit` steps are allowed and interleave in `St.events` in schedule order; results and
memory contents do not depend on them (the theorems of this file say nothing about the order of events; `pool_events` in
`InterleaveEv.lean` does).
-/
namespace SafeC

abbrev Thread := Σ α : Type, Prog α

namespace Thread

def step (th : Thread) (s : St) : Thread × St := (⟨th.1, (SafeC.step th.2 s).1⟩, (SafeC.step th.2 s).2)

/-- the thread after running to completion ALONE from `s` -/
def finish (th : Thread) (s : St) : Thread := ⟨th.1, .ret (runT th.2 s).1⟩

/-- the memory contents after running to completion ALONE from `s` -/
def final (th : Thread) (s : St) : Nat → Nat := (runT th.2 s).2.data

def isDone (th : Thread) : Bool := SafeC.done th.2

def Fp (R W : Nat → Prop) (th : Thread) (s : St) : Prop := Within2 R W th.2 s

theorem finish_of_done (th : Thread) (s : St) (h : th.isDone = true) : th.finish s = th ∧ th.final s = s.data := by
  obtain ⟨α, p⟩ := th
  cases p with
  | ret x => exact ⟨rfl, rfl⟩
  | load _ _ => simp [isDone, done] at h
  | store _ _ _ => simp [isDone, done] at h
  | emit _ _ => simp [isDone, done] at h

/-- the stepping thread: its remaining footprint, its run-alone result and final contents are unchanged
by its own step; the step changes at most one cell, one it may store to -/
theorem step_own {R W : Nat → Prop} (th : Thread) (s : St) (h : th.Fp R W s) :
    (th.step s).1.Fp R W (th.step s).2 ∧ (th.step s).1.finish (th.step s).2 = th.finish s ∧
    (th.step s).1.final (th.step s).2 = th.final s ∧ (∀ a, ¬ W a → (th.step s).2.data a = s.data a) := by
  obtain ⟨α, p⟩ := th
  cases p with
  | ret x => exact ⟨h, rfl, rfl, fun _ _ => rfl⟩
  | load a k => exact ⟨h.2, rfl, rfl, fun _ _ => rfl⟩
  | store a v k =>
    refine ⟨h.2, rfl, rfl, ?_⟩
    intro x hx
    exact AgreeOn.upd_left (F := fun y => ¬ W y) s a v (fun hh => hh h.1) x hx
  | emit e k => exact ⟨h, rfl, rfl, fun _ _ => rfl⟩

/-- any other thread: a change of the memory outside its cells is invisible to it -/
theorem other {R W : Nat → Prop} (u : Thread) (s s' : St) (hag : AgreeOn (fun a => R a ∨ W a) s' s)
    (h : u.Fp R W s) :
    u.Fp R W s' ∧ u.finish s' = u.finish s ∧ ∀ a, R a ∨ W a → u.final s' a = u.final s a := by
  have hag' : AgreeOn (fun a => R a ∨ W a) s s' := fun a ha => (hag a ha).symm
  have h' : u.Fp R W s' := within2_congr u.2 s s' (fun a ha => hag' a (Or.inl ha)) h
  have hc := runT_congr u.2 s s' hag' (Within2.within u.2 s h)
  refine ⟨h', ?_, ?_⟩
  · simp only [finish]; rw [hc.1]
  · intro a ha; exact (hc.2 a ha).symm

end Thread

variable {ι : Type} [DecidableEq ι]

def runPool : List ι → (ι → Thread) → St → (ι → Thread) × St
  | [], ps, s => (ps, s)
  | i :: sch, ps, s => runPool sch (fun j => if j = i then ((ps i).step s).1 else ps j) ((ps i).step s).2

def NonInterf (R W : ι → Nat → Prop) : Prop := ∀ i j, i ≠ j → ∀ a, W i a → ¬ R j a ∧ ¬ W j a

theorem pool_step {R W : ι → Nat → Prop} (hni : NonInterf R W) (ps : ι → Thread) (s : St)
    (hw : ∀ i, (ps i).Fp (R i) (W i) s) (i : ι) :
    (∀ j, j ≠ i → AgreeOn (fun a => R j a ∨ W j a) ((ps i).step s).2 s) ∧
    ∀ j, (if j = i then ((ps i).step s).1 else ps j).Fp (R j) (W j) ((ps i).step s).2 := by
  have own := Thread.step_own (ps i) s (hw i)
  have hag : ∀ j, j ≠ i → AgreeOn (fun a => R j a ∨ W j a) ((ps i).step s).2 s := by
    intro j hj a ha
    apply own.2.2.2
    intro hwi
    have := hni i j (fun e => hj e.symm) a hwi
    rcases ha with ha | ha
    · exact this.1 ha
    · exact this.2 ha
  refine ⟨hag, fun j => ?_⟩
  by_cases hj : j = i
  · subst hj; simp only [if_true]; exact own.1
  · simp only [hj, if_false]
    exact (Thread.other (ps j) s _ (hag j hj) (hw j)).1

/-- **The invariant of every schedule.**  At every point of every schedule, for every thread `i`: the
remaining program stays inside the thread's footprint; run alone from the CURRENT memory it returns what
the whole thread returns run alone from the INITIAL memory, and leaves the same contents in the thread's
cells.  Cells that no thread may store to are unchanged. -/
theorem pool_invariant {R W : ι → Nat → Prop} (hni : NonInterf R W) (sch : List ι) (ps : ι → Thread) (s : St)
    (hw : ∀ i, (ps i).Fp (R i) (W i) s) :
    (∀ i, ((runPool sch ps s).1 i).Fp (R i) (W i) (runPool sch ps s).2) ∧
    (∀ i, ((runPool sch ps s).1 i).finish (runPool sch ps s).2 = (ps i).finish s) ∧
    (∀ i a, R i a ∨ W i a → ((runPool sch ps s).1 i).final (runPool sch ps s).2 a = (ps i).final s a) ∧
    (∀ a, (∀ i, ¬ W i a) → (runPool sch ps s).2.data a = s.data a) := by
  induction sch generalizing ps s with
  | nil => exact ⟨hw, fun _ => rfl, fun _ _ _ => rfl, fun _ _ => rfl⟩
  | cons i sch ih =>
    simp only [runPool]
    have own := Thread.step_own (ps i) s (hw i)
    obtain ⟨hag, hw1⟩ := pool_step hni ps s hw i
    obtain ⟨c1, c2, c3, c4⟩ := ih (fun j => if j = i then ((ps i).step s).1 else ps j) ((ps i).step s).2 hw1
    refine ⟨c1, ?_, ?_, ?_⟩
    · intro j
      rw [c2 j]
      by_cases hj : j = i
      · subst hj; simp only [if_true]; exact own.2.1
      · simp only [hj, if_false]
        exact (Thread.other (ps j) s _ (hag j hj) (hw j)).2.1
    · intro j a ha
      rw [c3 j a ha]
      by_cases hj : j = i
      · subst hj; simp only [if_true]; rw [own.2.2.1]
      · simp only [hj, if_false]
        exact (Thread.other (ps j) s _ (hag j hj) (hw j)).2.2 a ha
    · intro a ha
      rw [c4 a ha]
      exact own.2.2.2 a (ha i)

/-- **Reentrancy, N threads.**  A thread that has finished — under any schedule, whatever the other
threads have done so far — has returned its run-alone result, and every cell of its footprint holds its
run-alone contents. -/
theorem pool_finished {R W : ι → Nat → Prop} (hni : NonInterf R W) (sch : List ι) (ps : ι → Thread) (s : St)
    (hw : ∀ i, (ps i).Fp (R i) (W i) s) (i : ι) (hd : ((runPool sch ps s).1 i).isDone = true) :
    (runPool sch ps s).1 i = (ps i).finish s ∧
    ∀ a, R i a ∨ W i a → (runPool sch ps s).2.data a = (ps i).final s a := by
  obtain ⟨_, c2, c3, _⟩ := pool_invariant hni sch ps s hw
  obtain ⟨e1, e2⟩ := Thread.finish_of_done _ (runPool sch ps s).2 hd
  refine ⟨?_, ?_⟩
  · rw [← c2 i, e1]
  · intro a ha
    rw [← c3 i a ha, e2]

def seqRun : List Thread → St → St
  | [], s => s
  | th :: rest, s => seqRun rest (runT th.2 s).2

def seqResults : List Thread → St → List Thread
  | [], _ => []
  | th :: rest, s => th.finish s :: seqResults rest (runT th.2 s).2

omit [DecidableEq ι] in
/-- **Sequential composition of non-interfering calls.**  Run in the order of ANY duplicate-free list `l`,
each call returns its run-alone result, its cells hold its run-alone contents, cells nobody stores to are
untouched: an earlier call leaves nothing behind that a later one could see. -/
theorem seq_char {R W : ι → Nat → Prop} (hni : NonInterf R W) (ps : ι → Thread) (l : List ι) (hl : l.Nodup)
    (s : St) (hw : ∀ i ∈ l, (ps i).Fp (R i) (W i) s) :
    seqResults (l.map ps) s = l.map (fun i => (ps i).finish s) ∧
    (∀ i ∈ l, ∀ a, R i a ∨ W i a → (seqRun (l.map ps) s).data a = (ps i).final s a) ∧
    (∀ a, (∀ i ∈ l, ¬ W i a) → (seqRun (l.map ps) s).data a = s.data a) := by
  induction l generalizing s with
  | nil => exact ⟨rfl, fun _ h => absurd h (List.not_mem_nil), fun _ _ => rfl⟩
  | cons i rest ih =>
    have hnd := List.nodup_cons.1 hl
    have hwi := hw i List.mem_cons_self
    have hfr := runT_frame2 (ps i).2 s hwi
    have hag : ∀ j ∈ rest, AgreeOn (fun a => R j a ∨ W j a) (runT (ps i).2 s).2 s := by
      intro j hj a ha
      apply hfr
      intro hwi'
      have hne : i ≠ j := fun e => hnd.1 (e ▸ hj)
      have := hni i j hne a hwi'
      rcases ha with ha | ha
      · exact this.1 ha
      · exact this.2 ha
    have hw1 : ∀ j ∈ rest, (ps j).Fp (R j) (W j) (runT (ps i).2 s).2 := fun j hj =>
      (Thread.other (ps j) s _ (hag j hj) (hw j (List.mem_cons_of_mem _ hj))).1
    obtain ⟨c1, c2, c3⟩ := ih hnd.2 (runT (ps i).2 s).2 hw1
    simp only [List.map_cons, seqResults, seqRun]
    refine ⟨?_, ?_, ?_⟩
    · rw [c1]
      congr 1
      apply List.map_congr_left
      intro j hj
      exact (Thread.other (ps j) s _ (hag j hj) (hw j (List.mem_cons_of_mem _ hj))).2.1
    · intro j hj a ha
      rcases List.mem_cons.1 hj with rfl | hj'
      · -- cells of the first call: no later call stores there
        rw [c3 a]
        · rfl
        · intro m hm hwm
          have hne : m ≠ j := fun e => hnd.1 (e ▸ hm)
          have := hni m j hne a hwm
          rcases ha with ha | ha
          · exact this.1 ha
          · exact this.2 ha
      · rw [c2 j hj' a ha]
        exact (Thread.other (ps j) s _ (hag j hj') (hw j (List.mem_cons_of_mem _ hj'))).2.2 a ha
    · intro a ha
      rw [c3 a (fun m hm => ha m (List.mem_cons_of_mem _ hm))]
      exact hfr a (ha i List.mem_cons_self)

/-- **Every interleaving = one after the other in any order.**  `l` enumerates the threads (in any
order).  If a schedule lets all threads finish, each has returned what it returns in the sequential run
in the order `l`, and the whole final memory is that of the sequential run. -/
theorem interleave_eq_seq {R W : ι → Nat → Prop} (hni : NonInterf R W) (sch : List ι) (ps : ι → Thread) (s : St)
    (hw : ∀ i, (ps i).Fp (R i) (W i) s) (l : List ι) (hl : l.Nodup) (hall : ∀ i, i ∈ l)
    (hfin : ∀ i, ((runPool sch ps s).1 i).isDone = true) :
    l.map (runPool sch ps s).1 = seqResults (l.map ps) s ∧
    (runPool sch ps s).2.data = (seqRun (l.map ps) s).data := by
  obtain ⟨q1, q2, q3⟩ := seq_char hni ps l hl s (fun i _ => hw i)
  refine ⟨?_, ?_⟩
  · rw [q1]
    apply List.map_congr_left
    intro i _
    exact (pool_finished hni sch ps s hw i (hfin i)).1
  · funext a
    by_cases h : ∃ i, W i a
    · obtain ⟨i, hi⟩ := h
      rw [(pool_finished hni sch ps s hw i (hfin i)).2 a (Or.inr hi), q2 i (hall i) a (Or.inr hi)]
    · have hno : ∀ i, ¬ W i a := fun i hi => h ⟨i, hi⟩
      rw [(pool_invariant hni sch ps s hw).2.2.2 a hno, q3 a (fun i _ => hno i)]

def pair (pa : Prog α) (pb : Prog β) : Bool → Thread := fun b => if b then ⟨α, pa⟩ else ⟨β, pb⟩

theorem runSched_pool (sch : List Bool) (pa : Prog α) (pb : Prog β) (s : St) :
    runPool sch (pair pa pb) s =
      (pair (runSched sch pa pb s).1 (runSched sch pa pb s).2.1, (runSched sch pa pb s).2.2) := by
  induction sch generalizing pa pb s with
  | nil => rfl
  | cons b sch ih =>
    cases b with
    | true =>
      simp only [runPool, runSched]
      have : (fun j => if j = true then ((pair pa pb true).step s).1 else pair pa pb j) =
          pair (step pa s).1 pb := by
        funext j; cases j <;> rfl
      rw [this]
      exact ih _ _ _
    | false =>
      simp only [runPool, runSched]
      have : (fun j => if j = false then ((pair pa pb false).step s).1 else pair pa pb j) =
          pair pa (step pb s).1 := by
        funext j; cases j <;> rfl
      rw [this]
      exact ih _ _ _

/-- **Reentrancy, two threads, shared read-only cells allowed.**  Thread A loads from `RA` and stores to
`WA`, thread B loads from `RB` and stores to `WB`; neither stores into a cell the other loads or stores
(`RA` and `RB` may overlap arbitrarily).  Under ANY schedule that lets both finish each returns its
run-alone result and its cells hold its run-alone contents; cells outside `WA ∪ WB` are untouched. -/
theorem interleave_shared {RA WA RB WB : Nat → Prop}
    (hab : ∀ a, WA a → ¬ RB a ∧ ¬ WB a) (hba : ∀ a, WB a → ¬ RA a ∧ ¬ WA a)
    (sch : List Bool) (pa : Prog α) (pb : Prog β) (s : St)
    (ha : Within2 RA WA pa s) (hb : Within2 RB WB pb s)
    (hfin : done (runSched sch pa pb s).1 = true ∧ done (runSched sch pa pb s).2.1 = true) :
    (runSched sch pa pb s).1 = .ret (runT pa s).1 ∧ (runSched sch pa pb s).2.1 = .ret (runT pb s).1 ∧
    (∀ a, RA a ∨ WA a → (runSched sch pa pb s).2.2.data a = (runT pa s).2.data a) ∧
    (∀ a, RB a ∨ WB a → (runSched sch pa pb s).2.2.data a = (runT pb s).2.data a) ∧
    (∀ a, ¬ WA a → ¬ WB a → (runSched sch pa pb s).2.2.data a = s.data a) := by
  let R : Bool → Nat → Prop := fun b => if b then RA else RB
  let W : Bool → Nat → Prop := fun b => if b then WA else WB
  have hni : NonInterf R W := by
    intro i j hij a hw
    cases i <;> cases j
    · exact absurd rfl hij
    · exact hba a hw
    · exact hab a hw
    · exact absurd rfl hij
  have hw : ∀ i, (pair pa pb i).Fp (R i) (W i) s := by
    intro i; cases i
    · exact hb
    · exact ha
  have ht := pool_finished hni sch (pair pa pb) s hw true
    (by rw [runSched_pool]; exact hfin.1)
  have hf := pool_finished hni sch (pair pa pb) s hw false
    (by rw [runSched_pool]; exact hfin.2)
  have hinv := (pool_invariant hni sch (pair pa pb) s hw).2.2.2
  rw [runSched_pool] at ht hf hinv
  refine ⟨?_, ?_, ht.2, hf.2, ?_⟩
  · have := ht.1
    exact eq_of_heq (Sigma.mk.inj this).2
  · have := hf.1
    exact eq_of_heq (Sigma.mk.inj this).2
  · intro a h1 h2
    apply hinv a
    intro i; cases i
    · exact h2
    · exact h1

/-- **Reentrancy.** Two programs whose footprints FA, FB have no common cell, run under ANY
schedule that lets both finish: each returns what it returns when run alone, and each cell of the
final memory is what the program owning it leaves when run alone (cells of neither are untouched). -/
theorem interleave_disjoint {FA FB : Nat → Prop} (hdisj : ∀ a, FA a → FB a → False)
    (sch : List Bool) (pa : Prog α) (pb : Prog β) (s : St)
    (ha : Within FA pa s) (hb : Within FB pb s)
    (hfin : done (runSched sch pa pb s).1 = true ∧ done (runSched sch pa pb s).2.1 = true) :
    ∃ ra rb, (runSched sch pa pb s).1 = .ret ra ∧ (runSched sch pa pb s).2.1 = .ret rb ∧
      ra = (runT pa s).1 ∧ rb = (runT pb s).1 ∧
      (∀ a, FA a → (runSched sch pa pb s).2.2.data a = (runT pa s).2.data a) ∧
      (∀ a, FB a → (runSched sch pa pb s).2.2.data a = (runT pb s).2.data a) ∧
      (∀ a, ¬ FA a → ¬ FB a → (runSched sch pa pb s).2.2.data a = s.data a) := by
  obtain ⟨e1, e2, e3, e4, e5⟩ := interleave_shared (fun a h => ⟨hdisj a h, hdisj a h⟩) (fun a h => ⟨(hdisj a · h), (hdisj a · h)⟩)
    sch pa pb s (within2_of_within pa s ha) (within2_of_within pb s hb) hfin
  exact ⟨_, _, e1, e2, rfl, rfl, fun a h => e3 a (Or.inl h), fun a h => e4 a (Or.inl h), e5⟩

theorem runT_after {RA WA RB WB : Nat → Prop} (hab : ∀ a, WA a → ¬ RB a ∧ ¬ WB a)
    (pa : Prog α) (pb : Prog β) (s : St) (ha : Within2 RA WA pa s) (hb : Within2 RB WB pb s) :
    (runT pb (runT pa s).2).1 = (runT pb s).1 ∧
    (∀ a, WB a → (runT pb (runT pa s).2).2.data a = (runT pb s).2.data a) ∧
    (∀ a, ¬ WB a → (runT pb (runT pa s).2).2.data a = (runT pa s).2.data a) := by
  have agB : AgreeOn (fun a => RB a ∨ WB a) s (runT pa s).2 := fun a h =>
    (runT_frame2 pa s ha a (fun hwa => h.elim (hab a hwa).1 (hab a hwa).2)).symm
  have cB := runT_congr pb s _ agB (Within2.within pb s hb)
  exact ⟨cB.1.symm, fun a h => (cB.2 a (Or.inr h)).symm,
    runT_frame2 pb _ (within2_congr pb s _ (fun a h => agB a (Or.inl h)) hb)⟩

end SafeC
