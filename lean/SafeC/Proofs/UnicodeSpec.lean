import SafeC.Gen.UCD14
import SafeC.Models.Norm
/-!
# C17 — the Unicode side of the statements: the UCD 14.0 data that UAX #15 / Unicode Standard ch. 3.11–3.12 work on

Here: `dm`, `ccc`, `assigned`, the Hangul arithmetic, `fullDecomp` / `decompose`, `primaryComposite`.  The algorithms over them stand
where they are proved about: canonical ordering D108/D109 (`Reorderable`, `IsCanonicalOrdering`, `reorderPure`) in `NormReorder.lean`,
canonical composition D115/D117 (`d117`) in `NormComposeSpec.lean`, the reference forms `UAX15.nfd` / `UAX15.nfc` in `NormNFC.lean`.
The tree's own tables (`src/extwchar/unwif*.h`) are those of Unicode 15.0.0; the reference is 14.0, so the two sides are compared on
the code points 14.0 assigns (`assigned`).

`SafeC.Gen.UCD14` is extracted from Python's `unicodedata` (14.0.0) by tools/gen17.py — independent of the tree's tables:
single-step canonical `Decomposition_Mapping`, `Canonical_Combining_Class`, the set of assigned code points, primary composites.
The Hangul constants below are those of the Standard (ch. 3.12), written out, not read from the tree's hangul.h.
-/
namespace SafeC.UCD
open SafeC.Gen
open SafeC.Norm (cell)

/-- `Decomposition_Mapping` of `c`, canonical mappings only: `(first, second)`, `second = 0` for a singleton mapping -/
def dm (c : Nat) : Option (Nat × Nat) :=
  if c < 0x110000 then
    let p := cell 16 UCD14.dmIdx (c / 256)
    if p = 0 then none else
    let e := cell 16 UCD14.dmPages ((p - 1) * 256 + c % 256)
    if e = 0 then none else some (cell 32 UCD14.dmEnt (2 * (e - 1)), cell 32 UCD14.dmEnt (2 * (e - 1) + 1))
  else none

/-- `Canonical_Combining_Class` -/
def ccc (c : Nat) : Nat :=
  if c < 0x110000 then
    let p := cell 16 UCD14.cccIdx (c / 256)
    if p = 0 then 0 else cell 8 UCD14.cccPages ((p - 1) * 256 + c % 256)
  else 0

/-- assigned in Unicode 14.0 (General_Category ≠ Cn, Cs) -/
def assigned (c : Nat) : Bool :=
  if c < 0x110000 then
    let p := cell 16 UCD14.asgIdx (c / 256)
    if p = 0 then false else cell 1 UCD14.asgPages ((p - 1) * 256 + c % 256) == 1
  else false

def SBase := 0xAC00
def LBase := 0x1100
def VBase := 0x1161
def TBase := 0x11A7
def LCount := 19
def VCount := 21
def TCount := 28
def NCount := 588      -- VCount * TCount
def SCount := 11172    -- LCount * NCount

def isHangulS (c : Nat) : Bool := decide (SBase ≤ c) && decide (c < SBase + SCount)

/-- Hangul syllable decomposition (Unicode Standard 3.12, full decomposition into L V (T)) -/
def hangulDecomp (s : Nat) : List Nat :=
  let sIndex := s - SBase
  let l := LBase + sIndex / NCount
  let v := VBase + (sIndex % NCount) / TCount
  let t := TBase + sIndex % TCount
  if t = TBase then [l, v] else [l, v, t]

/-- D68 full canonical decomposition of one code point: apply the mappings recursively (`fuel` levels; four suffice, see
`fullDecomp_fixed` for the proof that nothing decomposable is left) -/
def fullDecomp : Nat → Nat → List Nat
  | 0, c => [c]
  | f + 1, c =>
    if isHangulS c then hangulDecomp c
    else match dm c with
      | none => [c]
      | some (a, b) => fullDecomp f a ++ (if b = 0 then [] else fullDecomp f b)

/-- canonical decomposition of a string, before reordering -/
def decompose (xs : List Nat) : List Nat := xs.flatMap (fullDecomp 4)

end SafeC.UCD

namespace SafeC.UCD
open SafeC.Gen
open SafeC.Norm (cell)

/-- i-th primary composite of UCD 14.0 in (first, second) order -/
def compEntry (i : Nat) : Nat × Nat × Nat :=
  (cell 32 UCD14.compP (3 * i), cell 32 UCD14.compP (3 * i + 1), cell 32 UCD14.compP (3 * i + 2))

/-- binary search for the pair `(a, b)` among the primary composites (`fuel` halvings) -/
def tableCompose (a b : Nat) : Nat → Nat → Nat → Option Nat
  | 0, _, _ => none
  | fuel + 1, lo, hi =>
    if lo ≥ hi then none else
    let mid := (lo + hi) / 2
    let t := compEntry mid
    if t.1 = a ∧ t.2.1 = b then some t.2.2
    else if t.1 < a ∨ (t.1 = a ∧ t.2.1 < b) then tableCompose a b fuel (mid + 1) hi
    else tableCompose a b fuel lo mid

/-- Hangul syllable composition (Unicode Standard 3.12): L + V, LV + T -/
def hangulCompose (a b : Nat) : Option Nat :=
  if LBase ≤ a ∧ a < LBase + LCount ∧ VBase ≤ b ∧ b < VBase + VCount then
    some (SBase + ((a - LBase) * VCount + (b - VBase)) * TCount)
  else if isHangulS a = true ∧ (a - SBase) % TCount = 0 ∧ TBase < b ∧ b < TBase + TCount then some (a + (b - TBase))
  else none

/-- D114: the primary composite canonically equivalent to `<a, b>`, if there is one -/
def primaryComposite (a b : Nat) : Option Nat :=
  match hangulCompose a b with
  | some s => some s
  | none => tableCompose a b 12 0 UCD14.compN

end SafeC.UCD
