import SafeC.Proofs.NormTables
import SafeC.Proofs.UnicodeSpec
/-! C17 — composition: the tree's pair lists against UCD 14.0's primary composites; Hangul composition arithmetic.

The reference lists the 941 primary composites twice: `UCD14.comp` sorted by composite (`ucdComp`, searched by `ucdCompFind`) and
`UCD14.compP` sorted by pair (`UCD.compEntry`, searched by `UCD.tableCompose`).  `comp_perm_check` finds every entry of the second
in the first; with it each fact is evaluated once, in the order in which it is cheap, and read off in the other. -/
namespace SafeC.Norm
open SafeC.Gen

/-- i-th primary composite of UCD 14.0: (first, second, composite) -/
def ucdComp (i : Nat) : Nat × Nat × Nat :=
  (cell 32 UCD14.comp (3 * i), cell 32 UCD14.comp (3 * i + 1), cell 32 UCD14.comp (3 * i + 2))

/-- the i-th primary composite is what the repaired `_composite_cp` returns for its canonical pair, is not excluded and not 0; and
the `(uint16_t)` cast of the unrepaired code cannot bite on the pair: a first character that reaches a short list comes with a
second character in the BMP -/
def compFwdOk (i : Nat) : Bool :=
  let t := ucdComp i
  compositeCp allFixed t.1 t.2.1 == t.2.2 && !(maskOf exclRanges).testBit t.2.2 && t.2.2 != 0 &&
    (!(Nat.blt t.1 UniCompos.firstLong) || Nat.blt t.2.1 65536)

theorem comp_fwd_check : allBelow compFwdOk UCD14.compN = true := by decide +kernel

theorem compositeCp_cast {a b : Nat} (h : a < UniCompos.firstLong → b < 65536) :
    compositeCp unrepaired a b = compositeCp allFixed a b := by
  have hk : ∀ fx : Fixes, (if a < UniCompos.firstLong ∧ (!fx.compCast) = true then b % 65536 else b) = b := by
    intro fx; split
    · next hc => exact Nat.mod_eq_of_lt (h hc.1)
    · rfl
  unfold compositeCp
  simp only [hk]

theorem comp_fwd {i : Nat} (hi : i < UCD14.compN) :
    compositeCp unrepaired (ucdComp i).1 (ucdComp i).2.1 = (ucdComp i).2.2 ∧ isExcl (ucdComp i).2.2 = false ∧
    compositeCp allFixed (ucdComp i).1 (ucdComp i).2.1 = (ucdComp i).2.2 ∧ (ucdComp i).2.2 ≠ 0 := by
  have h := allBelow_spec comp_fwd_check i hi
  simp only [compFwdOk, testBit_maskOf, ← isExcl_eq, Bool.and_eq_true, Bool.or_eq_true, beq_iff_eq, Bool.not_eq_eq_eq_not, Bool.not_true,
    bne_iff_ne, ne_eq, Nat.blt_eq] at h
  obtain ⟨⟨⟨h1, h2⟩, h3⟩, h4⟩ := h
  exact ⟨(compositeCp_cast fun hlt => h4.resolve_left (by simp [hlt])).trans h1, h2, h1, h3⟩

def ucdCompFind (c : Nat) : Nat → Nat → Nat → Option (Nat × Nat)
  | 0, _, _ => none
  | fuel + 1, lo, hi =>
    if lo ≥ hi then none else
    let mid := (lo + hi) / 2
    let t := ucdComp mid
    if t.2.2 = c then some (t.1, t.2.1)
    else if t.2.2 < c then ucdCompFind c fuel (mid + 1) hi
    else ucdCompFind c fuel lo mid

theorem ucdCompFind_sound (c : Nat) : ∀ (fuel lo hi : Nat) (p : Nat × Nat), ucdCompFind c fuel lo hi = some p →
    ∃ m, m < hi ∧ (ucdComp m).2.2 = c ∧ ((ucdComp m).1, (ucdComp m).2.1) = p := by
  intro fuel
  induction fuel with
  | zero => intro lo hi p h; cases h
  | succ f ih =>
    intro lo hi p h
    unfold ucdCompFind at h
    split at h
    · cases h
    · dsimp only at h
      split at h
      · next hm => exact ⟨(lo + hi) / 2, by omega, hm, Option.some.inj h⟩
      · split at h
        · exact ih _ _ _ h
        · obtain ⟨m, hm, r⟩ := ih _ _ _ h
          exact ⟨m, by omega, r⟩

theorem tableCompose_sound (a b : Nat) : ∀ (fuel lo hi c : Nat), UCD.tableCompose a b fuel lo hi = some c →
    ∃ m, m < hi ∧ (UCD.compEntry m).1 = a ∧ (UCD.compEntry m).2.1 = b ∧ (UCD.compEntry m).2.2 = c := by
  intro fuel
  induction fuel with
  | zero => intro lo hi c h; cases h
  | succ f ih =>
    intro lo hi c h
    unfold UCD.tableCompose at h
    split at h
    · cases h
    · rename_i hlo
      dsimp only at h
      split at h
      · rename_i hm
        refine ⟨(lo + hi) / 2, by omega, hm.1, hm.2, ?_⟩
        injection h
      · split at h
        · exact ih _ _ _ h
        · obtain ⟨m, hm, r⟩ := ih _ _ _ h
          exact ⟨m, by omega, r⟩

def compPermOk (i : Nat) : Bool :=
  ucdCompFind (UCD.compEntry i).2.2 12 0 UCD14.compN == some ((UCD.compEntry i).1, (UCD.compEntry i).2.1)

theorem comp_perm_check : allBelow compPermOk UCD14.compN = true := by decide +kernel

/-- every pair stored in the tree's lists whose composite is assigned in Unicode 14.0 and not excluded is a primary
composite of UCD 14.0 with exactly that canonical pair -/
def compBwdOk (i : Nat) : Bool :=
  let a := cell 32 UniCompos.listCp i
  let off := cell 16 UniCompos.listOff i
  allBelow (fun j =>
    let b := cell 32 UniCompos.pairs (2 * (off + j))
    let c := cell 32 UniCompos.pairs (2 * (off + j) + 1)
    !UCD.assigned c || isExcl c || ucdCompFind c 12 0 UCD14.compN == some (a, b)) (cell 8 UniCompos.listLen i)

/-- backward: every stored pair whose composite is not excluded has an assigned composite and is UCD's composite of that pair -/
def bwd2Ok (i : Nat) : Bool :=
  let a := cell 32 UniCompos.listCp i
  let off := cell 16 UniCompos.listOff i
  allBelow (fun j =>
    let b := cell 32 UniCompos.pairs (2 * (off + j))
    let c := cell 32 UniCompos.pairs (2 * (off + j) + 1)
    (maskOf exclRanges).testBit c || (UCD.assigned c && UCD.tableCompose a b 12 0 UCD14.compN == some c)) (cell 8 UniCompos.listLen i)

theorem bwd2_check : allBelow bwd2Ok UniCompos.listsN = true := by decide +kernel

theorem comp_bwd_check : ∀ i < UniCompos.listsN, compBwdOk i = true := by
  intro i hi
  have h := allBelow_spec bwd2_check i hi
  unfold bwd2Ok at h
  unfold compBwdOk
  refine allBelow_of fun j hj => ?_
  have := allBelow_spec h j hj
  dsimp only at this ⊢
  rw [Bool.or_eq_true, Bool.and_eq_true, testBit_maskOf] at this
  rcases this with hx | ⟨_, htc⟩
  · rw [isExcl_eq, hx]; simp
  · obtain ⟨m, hm, e1, e2, e3⟩ := tableCompose_sound _ _ _ _ _ _ (eq_of_beq htc)
    have hp := allBelow_spec comp_perm_check m hm
    unfold compPermOk at hp
    rw [e1, e2, e3] at hp
    rw [hp]; simp

/-- `comp_fwd` in pair order: read off the composite-ordered list, where the entry is found (`comp_perm_check`) and the lookup was evaluated -/
theorem compEntry_fwd {m : Nat} (hm : m < UCD14.compN) :
    compositeCp allFixed (UCD.compEntry m).1 (UCD.compEntry m).2.1 = (UCD.compEntry m).2.2 ∧
    isExcl (UCD.compEntry m).2.2 = false ∧ (UCD.compEntry m).2.2 ≠ 0 := by
  obtain ⟨i, hi, e3, e12⟩ := ucdCompFind_sound _ _ _ _ _ (eq_of_beq (allBelow_spec comp_perm_check m hm))
  have h := comp_fwd hi
  rw [(Prod.mk.inj e12).1, (Prod.mk.inj e12).2, e3] at h
  exact ⟨h.2.2.1, h.2.1, h.2.2.2⟩

theorem comp_assigned :
    allBelow (fun i => let t := UCD.compEntry i
      (UCD.assigned t.1 && t.1 != 0x37E) && (UCD.assigned t.2.1 && t.2.1 != 0x37E) && (UCD.assigned t.2.2 && t.2.2 != 0x37E))
      UCD14.compN = true := by
  decide +kernel

/-- the UCD list is sorted by composite (so the binary search above is complete) -/
theorem ucd_comp_sorted : allBelow (fun i => decide ((ucdComp i).2.2 < (ucdComp (i + 1)).2.2)) (UCD14.compN - 1) = true := by
  decide +kernel

/-! ## Hangul: composing what the decomposition produced gives the syllable back, for all L, V, T -/

theorem hangul_LV (fx : Fixes) (l v : Nat) (hl : l < 19) (hv : v < 21) :
    compositeCp fx (0x1100 + l) (0x1161 + v) = 0xAC00 + (l * 21 + v) * 28 ∧
    UCD.hangulDecomp (0xAC00 + (l * 21 + v) * 28) = [0x1100 + l, 0x1161 + v] := by
  constructor
  · unfold compositeCp isL isV
    rw [unicodeMax_eq, HLBase_eq, HLFinal_eq, HVBase_eq, HVFinal_eq, HSBase_eq, HVCount_eq, HTCount_eq]
    have h1 : ¬ (0x1161 + v = 0) := by omega
    have h2 : ¬ (0x10FFFF < 0x1100 + l ∨ 0x10FFFF < 0x1161 + v) := by omega
    have h3 : (decide (0x1100 ≤ 0x1100 + l) && decide (0x1100 + l ≤ 0x1112)) = true := by simp; omega
    have h4 : (decide (0x1161 ≤ 0x1161 + v) && decide (0x1161 + v ≤ 0x1175)) = true := by simp; omega
    simp only [h1, h2, h3, h4, ↓reduceIte, Bool.and_self]
    omega
  · unfold UCD.hangulDecomp UCD.SBase UCD.LBase UCD.VBase UCD.TBase UCD.NCount UCD.TCount
    have e1 : (0xAC00 + (l * 21 + v) * 28 - 0xAC00) / 588 = l := by omega
    have e2 : (0xAC00 + (l * 21 + v) * 28 - 0xAC00) % 588 / 28 = v := by omega
    have e3 : (0xAC00 + (l * 21 + v) * 28 - 0xAC00) % 28 = 0 := by omega
    simp only [e1, e2, e3, Nat.add_zero, ↓reduceIte]

theorem hangul_LVT (fx : Fixes) (l v t : Nat) (hl : l < 19) (hv : v < 21) (ht0 : 0 < t) (ht : t < 28) :
    compositeCp fx (0xAC00 + (l * 21 + v) * 28) (0x11A7 + t) = 0xAC00 + (l * 21 + v) * 28 + t ∧
    UCD.hangulDecomp (0xAC00 + (l * 21 + v) * 28 + t) = [0x1100 + l, 0x1161 + v, 0x11A7 + t] := by
  constructor
  · unfold compositeCp isL isV isLV isS isT
    rw [unicodeMax_eq, HLBase_eq, HLFinal_eq, HSBase_eq, HSFinal_eq, HTCount_eq, HTBase_eq, HTFinal_eq]
    have h1 : ¬ (0x11A7 + t = 0) := by omega
    have h2 : ¬ (0x10FFFF < 0xAC00 + (l * 21 + v) * 28 ∨ 0x10FFFF < 0x11A7 + t) := by omega
    have h3 : (decide (0x1100 ≤ 0xAC00 + (l * 21 + v) * 28) && decide (0xAC00 + (l * 21 + v) * 28 ≤ 0x1112)) = false := by
      simp; omega
    have h4 : (decide (0xAC00 ≤ 0xAC00 + (l * 21 + v) * 28) && decide (0xAC00 + (l * 21 + v) * 28 ≤ 0xD7A3)) = true := by
      simp; omega
    have h5 : ((0xAC00 + (l * 21 + v) * 28 - 0xAC00) % 28 == 0) = true := by simp
    have h6 : (decide (0x11A7 < 0x11A7 + t) && decide (0x11A7 + t ≤ 0x11C2)) = true := by simp; omega
    simp only [h1, h2, h3, h4, h5, h6, ↓reduceIte, Bool.and_self, Bool.false_and, Bool.false_eq_true]
    omega
  · unfold UCD.hangulDecomp UCD.SBase UCD.LBase UCD.VBase UCD.TBase UCD.NCount UCD.TCount
    have e1 : (0xAC00 + (l * 21 + v) * 28 + t - 0xAC00) / 588 = l := by omega
    have e2 : (0xAC00 + (l * 21 + v) * 28 + t - 0xAC00) % 588 / 28 = v := by omega
    have e3 : (0xAC00 + (l * 21 + v) * 28 + t - 0xAC00) % 28 = t := by omega
    have e4 : ¬ (0x11A7 + t = 0x11A7) := by omega
    simp only [e1, e2, e3, e4, ↓reduceIte]

/-- the two shapes of a Hangul composition (Unicode Standard 3.12) -/
theorem hangulCompose_cases {a b s : Nat} (h : UCD.hangulCompose a b = some s) :
    (∃ l v, l < 19 ∧ v < 21 ∧ a = 0x1100 + l ∧ b = 0x1161 + v ∧ s = 0xAC00 + (l * 21 + v) * 28) ∨
    (∃ l v t, l < 19 ∧ v < 21 ∧ 0 < t ∧ t < 28 ∧ a = 0xAC00 + (l * 21 + v) * 28 ∧ b = 0x11A7 + t ∧
      s = 0xAC00 + (l * 21 + v) * 28 + t) := by
  unfold UCD.hangulCompose at h
  split at h
  · rename_i hlv
    have e := (Option.some.inj h).symm
    unfold UCD.LBase UCD.LCount UCD.VBase UCD.VCount at hlv
    unfold UCD.SBase UCD.LBase UCD.VCount UCD.VBase UCD.TCount at e
    exact Or.inl ⟨a - 0x1100, b - 0x1161, by omega, by omega, by omega, by omega, by omega⟩
  · split at h
    · rename_i _ hlvt
      have e := (Option.some.inj h).symm
      unfold UCD.isHangulS UCD.SBase UCD.SCount UCD.TCount UCD.TBase at hlvt
      simp only [Bool.and_eq_true, decide_eq_true_eq] at hlvt
      unfold UCD.TBase at e
      exact Or.inr ⟨(a - 0xAC00) / 588, (a - 0xAC00) % 588 / 28, b - 0x11A7, by omega, by omega, by omega, by omega, by omega,
        by omega, by omega⟩
    · cases h

end SafeC.Norm
