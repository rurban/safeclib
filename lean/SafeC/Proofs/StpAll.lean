import SafeC.Proofs.StpSteps
import SafeC.Proofs.CopyAll
import SafeC.Proofs.CopyOverlap
/-!
# `stpcpy_s` / `stpncpy_s`: the complete outcome for EVERY placement of a readable source

`g` = distance between the two pointers, `m` = number of characters the call would copy (the length of the source
string, for `stpncpy_s` capped by `slen`).  `stpBody_cases`: code and memory are those of the copy body on the same operands
(`CopyAll` at the whole of dest), and the pointer returned goes with the code (`StpAll`):
* `g ≤ m`, `g < dmax`  — the copy would run into the other operand: `(NULL, ESOVRLP)`, dest cleared;
* `m < dmax`, `m < g`  — `(dest + m, EOK)`, `dest[0..m) = src[0..m)`, `dest[m] = 0`, null-slack zeros behind;
* `dmax ≤ m`, `dmax ≤ g` — `(NULL, ESNOSPC)`, dest cleared.
The three cases are exhaustive and exclusive (`CopyAll.codes`).  Both placements go through `stpBody_eq_loop`.
-/
namespace SafeC
open Gen

def StpAll (cfg : Cfg) (dest dmax src m g : Nat) (st st' : St) (r : Nat × Nat) : Prop :=
  CopyAll cfg dest dmax dest dmax src m g st st' r.2 ∧ r.1 = if r.2 = EOK then dest + m else 0

theorem gap_of_ne (dest src : Nat) (hne : dest ≠ src) :
    ∃ g, 0 < g ∧ ((dest < src ∧ src = dest + g) ∨ (src < dest ∧ dest = src + g)) := by
  obtain ⟨g, hg⟩ := gap_of dest src
  exact ⟨g, by omega, by omega⟩

/-- whichever twin loop `stpBody` runs for two different pointers at distance `g`: its bumper is met by the test of
iteration `g` and by no other, and in the `g` iterations before no cell read was written -/
theorem stpBody_eq_loop (cfg : Cfg) (isN : Bool) (dest dmax src g slen : Nat) (srcbos : Bos)
    (hg : 0 < g ∧ ((dest < src ∧ src = dest + g) ∨ (src < dest ∧ dest = src + g))) :
    ∃ onDest B, stpBody cfg isN dest dmax src slen srcbos =
        stpLoop cfg isN onDest B dest dmax srcbos dmax dest src slen ∧
      (∀ j, (if onDest then dest + j else src + j) = B ↔ j = g) ∧
      (∀ i j, i < j → j < g → src + j ≠ dest + i) := by
  unfold stpBody
  rcases hg.2 with ⟨hlt, rfl⟩ | ⟨hlt, rfl⟩
  · refine ⟨true, dest + g, ?_, ?_, ?_⟩
    · rw [if_neg (Nat.ne_of_lt hlt), if_pos hlt]
    · intro j; exact Nat.add_left_cancel_iff
    · intro i j _ _; omega
  · refine ⟨false, src + g, ?_, ?_, ?_⟩
    · rw [if_neg (Nat.ne_of_gt hlt), if_neg (Nat.lt_asymm hlt)]
    · intro j; exact Nat.add_left_cancel_iff
    · intro i j _ _; omega

/-- the copy runs into the other operand; the source need not be terminated -/
theorem stpBody_overlap (cfg : Cfg) (isN : Bool) (dest dmax src g slen : Nat) (srcbos : Bos) (st : St)
    (hall : ∀ a, st.mapped a = true ∧ st.rd a = true)
    (hpos : 0 < dmax) (hrw : RW st dest dmax)
    (hg : 0 < g ∧ ((dest < src ∧ src = dest + g) ∨ (src < dest ∧ dest = src + g)))
    (hgd : g < dmax)
    (hnz : ∀ j, j < g → st.data (src+j) ≠ 0)
    (hsl : isN = true → g ≤ slen)
    (hun : ∀ i, i < g → untermB srcbos (stpSlen isN slen (i+1)) = false) :
    ∃ st', exec (stpBody cfg isN dest dmax src slen srcbos) st = .ok ((0, ESOVRLP), st') ∧
      ClearedPost cfg dest dmax ESOVRLP st st' := by
  obtain ⟨onDest, B, e, hB, hcl⟩ := stpBody_eq_loop cfg isN dest dmax src g slen srcbos hg
  rw [e]
  obtain ⟨st', he, hp⟩ := stpLoop_fail cfg isN onDest B dest dmax hpos srcbos dmax dest src g slen st (fun _ _ => hall _) hrw
    ⟨Nat.le_refl _, rfl⟩ (Nat.le_of_lt hgd) hnz hcl (fun j hj => mt (hB j).1 (Nat.ne_of_lt hj)) (fun _ => (hB g).2 rfl)
    hsl hun
  rw [if_pos hgd] at he hp
  exact ⟨st', he, hp⟩

/-- only the source cells the loop gets to need be readable -/
theorem stpBody_cases (cfg : Cfg) (isN : Bool) (dest dmax src m g slen : Nat) (srcbos : Bos) (st : St)
    (hrd : ∀ j, j < m → st.mapped (src+j) = true ∧ st.rd (src+j) = true)
    (hpos : 0 < dmax) (hrw : RW st dest dmax)
    (hg : 0 < g ∧ ((dest < src ∧ src = dest + g) ∨ (src < dest ∧ dest = src + g)))
    (hnz : ∀ j, j < m → st.data (src+j) ≠ 0)
    (hfin : ((isN = true → m < slen) ∧ st.data (src+m) = 0 ∧ st.mapped (src+m) = true ∧ st.rd (src+m) = true) ∨
      (isN = true ∧ slen = m))
    (hun : ∀ i, i < m → untermB srcbos (stpSlen isN slen (i+1)) = false) :
    ∃ r st', exec (stpBody cfg isN dest dmax src slen srcbos) st = .ok (r, st') ∧
      StpAll cfg dest dmax src m g st st' r := by
  have hsl : isN = true → m ≤ slen := by
    intro h; rcases hfin with h1 | h1
    · exact Nat.le_of_lt (h1.1 h)
    · exact Nat.le_of_eq h1.2.symm
  obtain ⟨onDest, B, e, hB, hcl⟩ := stpBody_eq_loop cfg isN dest dmax src g slen srcbos hg
  rw [e]
  rcases gap_cases m g dmax with hA | ⟨hm, hmg⟩ | ⟨hC1, hC2⟩
  · obtain ⟨st', hx, hp⟩ := stpLoop_fail cfg isN onDest B dest dmax hpos srcbos dmax dest src g slen st
      (fun j hj => hrd j (by omega)) hrw ⟨Nat.le_refl _, rfl⟩ (Nat.le_of_lt hA.2) (fun j hj => hnz j (by omega)) hcl
      (fun j hj => mt (hB j).1 (Nat.ne_of_lt hj)) (fun _ => (hB g).2 rfl) (fun h => Nat.le_trans hA.1 (hsl h))
      (fun i hi => hun i (by omega))
    rw [if_pos hA.2] at hx hp
    exact ⟨_, st', hx, ⟨fun _ _ => ⟨rfl, hp⟩, fun _ h => absurd h (Nat.not_lt.2 hA.1),
      fun _ h => absurd hA.2 (Nat.not_lt.2 h)⟩, rfl⟩
  · obtain ⟨st', hx, hp⟩ := stpLoop_done cfg isN onDest B dest dmax srcbos dmax dest src m slen st hrd hrw hm hnz
      (fun i j hij hj => hcl i j hij (Nat.lt_of_le_of_lt hj hmg))
      (fun j hj => mt (hB j).1 (Nat.ne_of_lt (Nat.lt_of_le_of_lt hj hmg))) hfin hun
    exact ⟨_, st', hx, ⟨fun h _ => absurd hmg (Nat.not_lt.2 h), fun _ _ => ⟨rfl, hp⟩,
      fun h _ => absurd hm (Nat.not_lt.2 h)⟩, rfl⟩
  · obtain ⟨st', hx, hp⟩ := stpLoop_fail cfg isN onDest B dest dmax hpos srcbos dmax dest src dmax slen st
      (fun j hj => hrd j (by omega)) hrw ⟨Nat.le_refl _, rfl⟩ (Nat.le_refl _) (fun j hj => hnz j (by omega))
      (fun i j hij hj => hcl i j hij (by omega)) (fun j hj => mt (hB j).1 (by omega)) (fun h => absurd h (Nat.lt_irrefl _))
      (fun h => Nat.le_trans hC1 (hsl h)) (fun i hi => hun i (by omega))
    rw [if_neg (Nat.lt_irrefl _)] at hx hp
    exact ⟨_, st', hx, ⟨fun _ h => absurd h (Nat.not_lt.2 hC2), fun h _ => absurd h (Nat.not_lt.2 hC1),
      fun _ _ => ⟨rfl, hp⟩⟩, rfl⟩


theorem StpAll.ovrlp_exact {cfg : Cfg} {dest dmax src m g : Nat} {st st' : St} {r : Nat × Nat}
    (hg : 0 < g ∧ ((dest < src ∧ src = dest + g) ∨ (src < dest ∧ dest = src + g)))
    (h : StpAll cfg dest dmax src m g st st' r) :
    (r.2 = ESOVRLP ↔ ¬ (dest + min (m+1) dmax ≤ src ∨ src + min (m+1) dmax ≤ dest)) ∧
      (r.2 = ESOVRLP → r.1 = 0 ∧ OvrlpPost cfg dest dmax st st') := by
  refine ⟨h.1.ovrlp_iff.trans (meet_iff (hg.2.imp id (fun h => ⟨Nat.le_of_lt h.1, h.2⟩))), fun hc => ?_⟩
  obtain ⟨h1, h2⟩ := h.1.ovrlp_iff.1 hc
  exact ⟨h.2.trans (if_neg (by rw [hc]; decide)), (h.1.hit h1 h2).2.ovrlp⟩

theorem stpcpy_s_eq_body (cfg : Cfg) (dest dmax src : Nat) (destbos srcbos : Bos)
    (hd : dest ≠ 0) (hs : src ≠ 0) (hpos : 0 < dmax) (hle : dmax ≤ RSIZE_MAX_STR)
    (hb : ∀ b, destbos = some b → dmax ≤ b) :
    stpcpy_s cfg dest dmax src destbos srcbos = stpBody cfg false dest dmax src 0 srcbos := by
  unfold stpcpy_s
  rw [if_neg hd, if_neg (Nat.ne_of_gt hpos), chkDmaxClearG_pass _ cfg dest dmax destbos _ _ hle hb, if_neg hs]

theorem stpncpy_s_eq_body (cfg : Cfg) (dest dmax src slen : Nat) (destbos srcbos : Bos)
    (hd : dest ≠ 0) (hs : src ≠ 0) (hpos : 0 < dmax) (hle : dmax ≤ RSIZE_MAX_STR) (hslenle : slen ≤ RSIZE_MAX_STR)
    (hb : ∀ b, destbos = some b → dmax ≤ b) (hsb : ∀ sb, srcbos = some sb → slen ≤ sb) :
    stpncpy_s cfg dest dmax src slen destbos srcbos = stpBody cfg true dest dmax src slen srcbos := by
  unfold stpncpy_s
  rw [if_neg hd, if_neg (Nat.ne_of_gt hpos), chkDmaxClearG_pass _ cfg dest dmax destbos _ _ hle hb, if_neg hs,
    if_neg (Nat.not_lt.2 hslenle)]
  cases srcbos with
  | none => rfl
  | some sb => exact if_neg (Nat.not_lt.2 (hsb sb rfl))

/-- `stpcpy_s` counts `slen` up from 0: a known source size above the string length keeps the `src unterminated`
test quiet -/
theorem untermB_stpSlen_cpy (srcbos : Bos) (n : Nat) (hsb : ∀ sb, srcbos = some sb → n < sb) (i : Nat) (hi : i < n) :
    untermB srcbos (stpSlen false 0 (i+1)) = false :=
  untermB_false _ _ (fun sb h => by
    have := hsb sb h
    simp only [stpSlen, Bool.false_eq_true, if_false]; omega)

/-- `stpncpy_s` counts `slen` down: a known source size of at least `slen` keeps the test quiet -/
theorem untermB_stpSlen_ncpy (srcbos : Bos) (slen : Nat) (hsb : ∀ sb, srcbos = some sb → slen ≤ sb) (i : Nat)
    (hi : i < slen) : untermB srcbos (stpSlen true slen (i+1)) = false :=
  untermB_false _ _ (fun sb h => by
    have := hsb sb h
    simp only [stpSlen, if_true]; omega)

theorem stpcpy_s_all (cfg : Cfg) (dest dmax src n : Nat) (destbos srcbos : Bos) (st : St)
    (hall : ∀ a, st.mapped a = true ∧ st.rd a = true)
    (hd : dest ≠ 0) (hs : src ≠ 0) (hne : dest ≠ src) (hpos : 0 < dmax) (hle : dmax ≤ RSIZE_MAX_STR)
    (hb : ∀ b, destbos = some b → dmax ≤ b) (hsb : ∀ sb, srcbos = some sb → n < sb)
    (hrw : RW st dest dmax)
    (hnz : ∀ j, j < n → st.data (src + j) ≠ 0) (hnul : st.data (src + n) = 0) :
    ∃ g, (0 < g ∧ ((dest < src ∧ src = dest + g) ∨ (src < dest ∧ dest = src + g))) ∧
      ∃ r st', exec (stpcpy_s cfg dest dmax src destbos srcbos) st = .ok (r, st') ∧
        StpAll cfg dest dmax src n g st st' r := by
  obtain ⟨g, hg⟩ := gap_of_ne dest src hne
  rw [stpcpy_s_eq_body cfg dest dmax src destbos srcbos hd hs hpos hle hb]
  exact ⟨g, hg, stpBody_cases cfg false dest dmax src n g 0 srcbos st (fun _ _ => hall _) hpos hrw hg hnz
    (Or.inl ⟨fun h => Bool.noConfusion h, hnul, hall _⟩) (untermB_stpSlen_cpy srcbos n hsb)⟩

theorem stpncpy_s_all (cfg : Cfg) (dest dmax src slen m : Nat) (destbos srcbos : Bos) (st : St)
    (hall : ∀ a, st.mapped a = true ∧ st.rd a = true)
    (hd : dest ≠ 0) (hs : src ≠ 0) (hne : dest ≠ src) (hpos : 0 < dmax) (hle : dmax ≤ RSIZE_MAX_STR)
    (hslenle : slen ≤ RSIZE_MAX_STR)
    (hb : ∀ b, destbos = some b → dmax ≤ b) (hsb : ∀ sb, srcbos = some sb → slen ≤ sb)
    (hrw : RW st dest dmax)
    (hnz : ∀ j, j < m → st.data (src + j) ≠ 0)
    (hfin : (m < slen ∧ st.data (src + m) = 0) ∨ slen = m) :
    ∃ g, (0 < g ∧ ((dest < src ∧ src = dest + g) ∨ (src < dest ∧ dest = src + g))) ∧
      ∃ r st', exec (stpncpy_s cfg dest dmax src slen destbos srcbos) st = .ok (r, st') ∧
        StpAll cfg dest dmax src m g st st' r := by
  obtain ⟨g, hg⟩ := gap_of_ne dest src hne
  rw [stpncpy_s_eq_body cfg dest dmax src slen destbos srcbos hd hs hpos hle hslenle hb hsb]
  have hm : m ≤ slen := hfin.elim (fun h => Nat.le_of_lt h.1) (fun h => Nat.le_of_eq h.symm)
  exact ⟨g, hg, stpBody_cases cfg true dest dmax src m g slen srcbos st (fun _ _ => hall _) hpos hrw hg hnz
    (hfin.elim (fun h => Or.inl ⟨fun _ => h.1, h.2, hall _⟩) (fun h => Or.inr ⟨rfl, h⟩))
    (fun i hi => untermB_stpSlen_ncpy srcbos slen hsb i (Nat.lt_of_lt_of_le hi hm))⟩

end SafeC
