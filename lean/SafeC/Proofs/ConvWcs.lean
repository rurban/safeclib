import SafeC.Proofs.ConvStr
/-! C15: glibc's `wcsrtombs` (model) on a terminated string of encodable wide characters = `encodeAll`, limited to the
whole characters that fit. -/
namespace SafeC.Conv.Libc

/-- the wide → multibyte step on a list of encodable characters: it converts the longest prefix whose encoding fits -/
theorem gconvWc_spec (loc : Locale) (cs E : List Nat) (hE : encodeAll loc cs = some E) (space : Nat) :
    ∃ m p, m ≤ cs.length ∧ encodeAll loc (cs.take m) = some p ∧
      gconvWc loc cs space = ⟨p, m, [], if m = cs.length then .empty else .full⟩ ∧ p.length ≤ space ∧
      (m < cs.length → ∀ p', encodeAll loc (cs.take (m + 1)) = some p' → space < p'.length) := by
  induction cs generalizing E space with
  | nil => exact ⟨0, [], by simp, rfl, by simp [gconvWc], by simp, by simp⟩
  | cons c cs ih =>
    obtain ⟨a, b, ha, hb, rfl⟩ := encodeAll_cons_inv loc c cs E hE
    have hapos := enc_length_pos loc c a ha
    -- `space = 0` is the case `a.length > space`, since an encoding is not empty
    by_cases hfit : a.length > space
    · refine ⟨0, [], by simp, rfl, by simp [gconvWc, ha, hfit], by simp, ?_⟩
      intro _ p' hp'
      simp only [Nat.zero_add, List.take_succ_cons, List.take_zero] at hp'
      rw [encodeAll_cons loc c [] a [] ha rfl] at hp'
      cases hp'; simpa using hfit
    · have hs : space ≠ 0 := by omega
      obtain ⟨m, p, hm, hp, hg, hpl, hnext⟩ := ih b hb (space - a.length)
      refine ⟨m + 1, a ++ p, by simp; omega, ?_, ?_, by simp only [List.length_append]; omega, ?_⟩
      · rw [List.take_succ_cons]; exact encodeAll_cons loc c _ a p ha hp
      · simp only [gconvWc, hs, ↓reduceIte, ha, hfit, hg, List.length_cons]
        have : (m + 1 = cs.length + 1) = (m = cs.length) := by simp
        simp only [Nat.add_comm 1 m, this]
      · intro hlt p' hp'
        obtain ⟨x, y, hx, hy, rfl⟩ := encodeAll_cons_inv loc c _ p' hp'
        rw [ha] at hx; cases hx
        have := hnext (by simpa using hlt) y hy
        simp only [List.length_append]; omega

/-- **wcsrtombs on a valid string**: source `ws ++ 0 :: tail` (no zero in `ws`, every character encodable), any limit.
Everything and the terminator fit: all bytes + NUL stored, count = |bytes|, `*src = NULL`.  Otherwise: the bytes of the
longest prefix of whole characters that fits, `*src` behind exactly those characters. -/
theorem wcsrtombs_valid (loc : Locale) (ws E tail : List Nat) (hE : encodeAll loc ws = some E) (hz : ∀ c ∈ ws, c ≠ 0)
    (len : Nat) :
    (E.length < len → wcsrtombs loc false (ws ++ 0 :: tail) len = ⟨E ++ [0], E.length, none, [], false⟩) ∧
    (len ≤ E.length → ∃ m p, m ≤ ws.length ∧ encodeAll loc (ws.take m) = some p ∧ p.length ≤ len ∧
        (m < ws.length → ∀ p', encodeAll loc (ws.take (m + 1)) = some p' → len < p'.length) ∧
        wcsrtombs loc false (ws ++ 0 :: tail) len = ⟨p, p.length, some m, [], false⟩) := by
  have hk : min len ws.length ≤ ws.length := Nat.min_le_right _ _
  obtain ⟨w, hwdef⟩ : ∃ w, w = (ws ++ [0]).take (min len ws.length + 1) := ⟨_, rfl⟩
  have hw : (ws ++ 0 :: tail).take (strnlen (ws ++ 0 :: tail) len + 1) = w := by
    rw [strnlen_term ws tail hz, take_term ws tail _ hk, hwdef]
  have hE0 := encodeAll_snoc_zero loc ws E hE
  obtain ⟨W, _, hW, _, _⟩ := encodeAll_take loc (ws ++ [0]) (E ++ [0]) hE0 (min len ws.length + 1)
  rw [← hwdef] at hW
  have hwl : w.length = min len ws.length + 1 := by
    rw [hwdef]; simp only [List.length_take, List.length_append, List.length_cons, List.length_nil]; omega
  obtain ⟨m, p, hm, hp, hg, hpl, hnext⟩ := gconvWc_spec loc w W hW len
  simp only [wcsrtombs, Bool.false_eq_true, ↓reduceIte, hw, hg]
  by_cases hmw : m = w.length
  · -- the whole window was converted: it is the whole string with its terminator
    rw [hmw, List.take_length, hW] at hp
    cases hp
    have h1 := encodeAll_length_ge loc _ _ hW
    have hmin : min len ws.length = ws.length := by omega
    rw [hmin, List.take_of_length_le (by simp)] at hwdef
    rw [hwdef, hE0] at hW; cases hW
    refine ⟨fun _ => by simp [hmw], fun h => ?_⟩
    simp only [List.length_append, List.length_cons, List.length_nil] at hpl; omega
  · have hmws : m ≤ ws.length := by omega
    have ht : w.take m = ws.take m := by
      rw [hwdef, List.take_take, Nat.min_eq_left (by omega), List.take_append_of_le_length hmws]
    rw [ht] at hp
    have hnext' : ∀ p', encodeAll loc ((ws ++ [0]).take (m + 1)) = some p' → len < p'.length := by
      intro p' hp'
      apply hnext (by omega) p'
      rw [hwdef, List.take_take, Nat.min_eq_left (by omega)]; exact hp'
    simp only [hmw, ↓reduceIte]
    refine ⟨fun h => ?_, fun h => ⟨m, p, hmws, hp, hpl, ?_, by simp⟩⟩
    · exfalso
      obtain ⟨p', q', hp', _, hsplit⟩ := encodeAll_take loc (ws ++ [0]) (E ++ [0]) hE0 (m + 1)
      have := hnext' p' hp'
      have hl := congrArg List.length hsplit
      simp only [List.length_append, List.length_cons, List.length_nil] at hl
      omega
    · intro hlt p' hp'
      apply hnext' p'
      rw [List.take_append_of_le_length (by omega)]; exact hp'

end SafeC.Conv.Libc
