import SafeC.Models.Inplace
import SafeC.Proofs.MemSet
import SafeC.Proofs.Runs
/-!
# The erase entry points: `memset_s`, `memset16_s`, `memset32_s`, `memzero_s`, `memzero16_s`,
`memzero32_s`, `strzero_s` — complete outcome of every call (helper lemmas; statements of C18 are in
`SafeC/Props/C18.lean`)
-/
namespace SafeC
open Gen Mem

/-- the C18 post-condition spelled out: each of the `n` addressed cells holds `v`, every other cell is
unchanged, no stray access was recorded, no handler ran, mapping and permissions are as before -/
def Erased (st st' : St) (dest n v : Nat) : Prop :=
  (∀ i, i < n → st'.data (dest + i) = v) ∧
  (∀ a, ¬ (dest ≤ a ∧ a < dest + n) → st'.data a = st.data a) ∧
  st'.strays = st.strays ∧ st'.events = st.events ∧
  st'.mapped = st.mapped ∧ st'.wr = st.wr ∧ st'.rd = st.rd

theorem Filled.erased {st st' : St} {d n v : Nat} (h : Filled st st' d n v) : Erased st st' d n v :=
  ⟨h.inside, h.outside, h.same.strays, h.same.events, h.same.mapped, h.same.wr, h.same.rd⟩

def Untouched (k : Kind) (st st' : St) (code : Nat) : Prop :=
  st'.data = st.data ∧ st'.strays = st.strays ∧ st'.events = st.events ++ [.handler k code] ∧
  st'.mapped = st.mapped ∧ st'.wr = st.wr ∧ st'.rd = st.rd

structure MemFail (st st' : St) (code : Nat) : Prop where
  ne : code ≠ EOK
  mapped : st'.mapped = st.mapped
  rd : st'.rd = st.rd
  wr : st'.wr = st.wr
  strays : st'.strays = st.strays
  events : st'.events = st.events ++ [.handler .mem code]

theorem MemFail.emit {st : St} {c : Nat} (hne : c ≠ EOK) : MemFail st (st.emit (.handler .mem c)) c :=
  ⟨hne, rfl, rfl, rfl, rfl, rfl⟩

/-- the `dmax` test of the mem family: limit when the object size is unknown, object size otherwise -/
def memDmaxOk (dmax : Nat) : Bos → Prop
  | none => dmax ≤ RSIZE_MAX_MEM
  | some b => dmax ≤ b

instance (dmax : Nat) (b : Bos) : Decidable (memDmaxOk dmax b) := by
  cases b <;> simp only [memDmaxOk] <;> exact inferInstance

/-- `CHK_DMAX_MEM_MAX` / `CHK_DEST_MEM_OVR`: the call is rejected with some code other than EOK (ESLEMAX / EOVERFLOW) before anything
is touched, or the test passes and the continuation runs -/
theorem Runs.chkDmaxMemB {dmax : Nat} {destbos : Bos} {k : Option Nat → Prog Nat} {st : St} {Q : Nat → St → Prop}
    (hfail : ¬ memDmaxOk dmax destbos → ∀ c, c ≠ EOK → Q c (st.emit (.handler .mem c)))
    (hk : memDmaxOk dmax destbos → Runs (k destbos) st Q) :
    Runs (chkDmaxMemB dmax destbos RSIZE_MAX_MEM k) st Q := by
  cases destbos with
  | none => exact Runs.guardM (fun h => hfail (Nat.not_le.2 h) _ (by decide)) fun h => hk (Nat.not_lt.1 h)
  | some b =>
    refine (if h : dmax > b then ?_ else ?_)
    · simp only [Mem.chkDmaxMemB, if_pos h]
      exact Runs.guardM (fun _ => hfail (Nat.not_le.2 h) _ (by decide))
        fun _ => Runs.failM _ (hfail (Nat.not_le.2 h) _ (by decide))
    · simp only [Mem.chkDmaxMemB, if_neg h]
      exact hk (Nat.not_lt.1 h)

/-! ## the `n > dmax ? clamp : set` tail shared by `memset_s`, `memset16_s`, `memset32_s` -/

/-- `if (n > cap) { err = n > lim ? ESLEMAX : ESNOSPC; handler(err); n = cap; } prim(dest, n, value); return err;` -/
def setBodyG (prim : Nat → Nat → Nat → Prog Unit) (lim dest cap value n : Nat) : Prog Nat :=
  if n > cap then do
    let err := if n > lim then ESLEMAX else ESNOSPC
    handlerM err
    prim dest cap value
    pure err
  else do
    prim dest n value
    pure EOK

/-- what a set primitive does (the conclusion of `mem_prim_set_ok` / `mem_prim_set16_ok` / …) -/
def PrimFills (prim : Nat → Nat → Nat → Prog Unit) (dest value v : Nat) : Prop :=
  ∀ (len : Nat) (st : St), RW st dest (len % U32) →
    ∃ st', exec (prim dest len value) st = .ok ((), st') ∧ Filled st st' dest (len % U32) v

/-- outcome of a set-type erase call with effective capacity `cap` (in cells) -/
structure SetOutcome (st st' : St) (dest v code n cap : Nat) : Prop where
  ok : code = EOK → Filled st st' dest (n % U32) v ∧ n ≤ cap
  fail : code ≠ EOK → MemFail st st' code ∧
    (st'.data = st.data ∨
     (cap < n ∧ ∀ a, st'.data a = if dest ≤ a ∧ a < dest + cap % U32 then v else st.data a))

theorem SetOutcome.failed {st : St} {dest v c n cap : Nat} (hne : c ≠ EOK) :
    SetOutcome st (st.emit (.handler .mem c)) dest v c n cap :=
  ⟨fun h => absurd h hne, fun _ => ⟨.emit hne, .inl rfl⟩⟩

theorem setBodyG_spec (prim : Nat → Nat → Nat → Prog Unit) (lim dest cap value n v : Nat) (st : St)
    (hprim : PrimFills prim dest value v) (hw : RW st dest cap) :
    Runs (setBodyG prim lim dest cap value n) st fun code st' =>
      SetOutcome st st' dest v code n cap ∧ (code = EOK ↔ n ≤ cap) := by
  unfold setBodyG
  -- the primitives take a `uint32_t` length: they see `m % 2^32 ≤ m` cells
  have hle : ∀ m, m ≤ cap → ∀ s1 : St, s1.mapped = st.mapped → s1.wr = st.wr → s1.rd = st.rd → RW s1 dest (m % U32) :=
    fun m hm s1 e1 e2 e3 i hi => by rw [e1, e2, e3]; exact hw i (by have := Nat.mod_le m U32; omega)
  split
  · next hn =>
    have herr : (if n > lim then ESLEMAX else ESNOSPC) ≠ EOK := by split <;> decide
    refine .bind (.emit _ (.bind ?_))
    refine (Runs.of_unit (hprim cap (st.emit _) (hle cap (Nat.le_refl _) _ rfl rfl rfl))).conseq fun _ st' hf => .pure _ ?_
    exact ⟨⟨fun h => absurd h herr, fun _ => ⟨⟨herr, hf.same.mapped, hf.same.rd, hf.same.wr, hf.same.strays,
      hf.same.events⟩, .inr ⟨hn, hf.data⟩⟩⟩, iff_of_false herr (by omega)⟩
  · next hn =>
    refine .bind ((Runs.of_unit (hprim n st (hle n (by omega) st rfl rfl rfl))).conseq fun _ st' hf => .pure _ ?_)
    exact ⟨⟨fun _ => ⟨hf, by omega⟩, fun h => absurd rfl h⟩, iff_of_true rfl (by omega)⟩

/-- a count that passed the checks for an object of unknown size is below `2^32`: the primitives, which take a `uint32_t`
    length, see it unchanged -/
theorem mod_U32_of_checked {n m dmax : Nat} (h : n = 0 ∨ (memDmaxOk dmax none ∧ n ≤ m)) (hm : m ≤ dmax) : n % U32 = n := by
  rcases h with rfl | ⟨h1, h2⟩
  · rfl
  · have h1' : dmax ≤ RSIZE_MAX_MEM := h1
    have : RSIZE_MAX_MEM < U32 := by decide
    exact Nat.mod_eq_of_lt (by omega)

theorem memset_s_eq (dest dmax value n : Nat) (destbos : Bos) :
    memset_s dest dmax value n destbos =
      if dest = 0 then failM ESNULLP
      else if n = 0 then pure EOK
      else chkDmaxMemB dmax destbos RSIZE_MAX_MEM fun b =>
        if asInt value > 255 then failM ESLEMAX
        else setBodyG (mem_prim_set 1) RSIZE_MAX_MEM dest (b.getD dmax) value n := rfl

theorem mem_prim_set_fills (dest value : Nat) : PrimFills (mem_prim_set 1) dest value (value % 256) :=
  fun len st hw => mem_prim_set_ok dest len value st hw

/-! ## `memset16_s` / `memset32_s` (`dmax` and `destbos` in bytes, `n` in elements) -/

theorem memset16_s_eq (dest dmax value n : Nat) (destbos : Bos) :
    memset16_s dest dmax value n destbos =
      if dest = 0 then failM ESNULLP
      else if n = 0 then pure EOK
      else chkDmaxMemB dmax destbos RSIZE_MAX_MEM fun b =>
        if False then failM ESLEMAX
        else setBodyG mem_prim_set16 RSIZE_MAX_MEM16 dest (b.getD dmax / 2) value n := rfl

theorem memset32_s_eq (dest dmax value n : Nat) (destbos : Bos) :
    memset32_s dest dmax value n destbos =
      if dest = 0 then failM ESNULLP
      else if n = 0 then pure EOK
      else chkDmaxMemB dmax destbos RSIZE_MAX_MEM fun b =>
        if False then failM ESLEMAX
        else setBodyG mem_prim_set32 RSIZE_MAX_MEM32 dest (b.getD dmax / 4) value n := rfl

/-- the common shape of `memset_s`, `memset16_s`, `memset32_s`: `vbad` is the value test that only `memset_s` has, `cap` the
capacity in cells as a function of the object size the `dmax` check hands on.  Every call whose caller told the truth about
the object (`cap destbos` cells at `dest` are writable). -/
theorem memsetG_spec (prim : Nat → Nat → Nat → Prog Unit) (vbad : Prop) [Decidable vbad] (cap : Option Nat → Nat)
    (lim dest dmax value n v : Nat) (destbos : Bos)
    (st : St) (hprim : PrimFills prim dest value v) (hw : RW st dest (cap destbos)) :
    Runs (if dest = 0 then failM ESNULLP
        else if n = 0 then pure EOK
        else chkDmaxMemB dmax destbos RSIZE_MAX_MEM fun b =>
          if vbad then failM ESLEMAX else setBodyG prim lim dest (cap b) value n) st
      fun code st' => SetOutcome st st' dest v code n (cap destbos) ∧
        (code = EOK ↔ dest ≠ 0 ∧ (n = 0 ∨ (memDmaxOk dmax destbos ∧ ¬ vbad ∧ n ≤ cap destbos))) := by
  refine .guardM (fun hd => ⟨.failed (by decide), iff_of_false (by decide) fun h => h.1 hd⟩) fun hd => ?_
  split
  · next hn =>
    subst hn
    exact .pure _ ⟨⟨fun _ => ⟨Filled.nil st dest _, Nat.zero_le _⟩, fun h => absurd rfl h⟩, iff_of_true rfl ⟨hd, .inl rfl⟩⟩
  · next hn =>
    refine .chkDmaxMemB (fun hbad c hc => ⟨.failed hc, iff_of_false hc fun h => h.2.elim hn fun h => hbad h.1⟩) fun hok => ?_
    refine .guardM (fun hv => ⟨.failed (by decide), iff_of_false (by decide) fun h => h.2.elim hn fun h => h.2.1 hv⟩)
      fun hv => ?_
    exact (setBodyG_spec prim lim dest _ value n v st hprim hw).conseq fun code st' ⟨ho, hiff⟩ =>
      ⟨ho, hiff.trans ⟨fun h => ⟨hd, .inr ⟨hok, hv, h⟩⟩, fun h => h.2.elim (fun h0 => absurd h0 hn) fun h => h.2.2⟩⟩

theorem memset_s_spec (dest dmax value n : Nat) (destbos : Bos) (st : St)
    (hw : RW st dest (destbos.getD dmax)) :
    ∃ code st', exec (memset_s dest dmax value n destbos) st = .ok (code, st') ∧
      SetOutcome st st' dest (value % 256) code n (destbos.getD dmax) ∧
      (code = EOK ↔ dest ≠ 0 ∧ (n = 0 ∨ (memDmaxOk dmax destbos ∧ asInt value ≤ 255 ∧ n ≤ destbos.getD dmax))) := by
  rw [memset_s_eq]
  exact (memsetG_spec (mem_prim_set 1) (asInt value > 255) (fun b => b.getD dmax) RSIZE_MAX_MEM dest dmax value n _ destbos st
    (mem_prim_set_fills dest value) hw).conseq fun _ _ h => ⟨h.1, by simpa [Int.not_lt] using h.2⟩

theorem memset16_s_spec (dest dmax value n : Nat) (destbos : Bos) (st : St)
    (hw : RW st dest (destbos.getD dmax / 2)) :
    ∃ code st', exec (memset16_s dest dmax value n destbos) st = .ok (code, st') ∧
      SetOutcome st st' dest (value % 2^16) code n (destbos.getD dmax / 2) ∧
      (code = EOK ↔ dest ≠ 0 ∧ (n = 0 ∨ (memDmaxOk dmax destbos ∧ n ≤ destbos.getD dmax / 2))) := by
  rw [memset16_s_eq]
  exact (memsetG_spec mem_prim_set16 False (fun b => b.getD dmax / 2) RSIZE_MAX_MEM16 dest dmax value n _ destbos st
    (fun len st hw => mem_prim_set16_ok dest len value st hw) hw).conseq fun _ _ h => ⟨h.1, by simpa using h.2⟩

theorem memset32_s_spec (dest dmax value n : Nat) (destbos : Bos) (st : St)
    (hw : RW st dest (destbos.getD dmax / 4)) :
    ∃ code st', exec (memset32_s dest dmax value n destbos) st = .ok (code, st') ∧
      SetOutcome st st' dest (value % 2^32) code n (destbos.getD dmax / 4) ∧
      (code = EOK ↔ dest ≠ 0 ∧ (n = 0 ∨ (memDmaxOk dmax destbos ∧ n ≤ destbos.getD dmax / 4))) := by
  rw [memset32_s_eq]
  exact (memsetG_spec mem_prim_set32 False (fun b => b.getD dmax / 4) RSIZE_MAX_MEM32 dest dmax value n _ destbos st
    (fun len st hw => mem_prim_set32_ok dest len value st hw) hw).conseq fun _ _ h => ⟨h.1, by simpa using h.2⟩

structure ZeroOutcome (st st' : St) (dest code cnt : Nat) : Prop where
  ok : code = EOK → Filled st st' dest cnt 0
  fail : code ≠ EOK → MemFail st st' code ∧ st'.data = st.data

theorem ZeroOutcome.erased {st st' : St} {dest code cnt : Nat} (h : ZeroOutcome st st' dest code cnt) (hc : code = EOK) :
    Erased st st' dest cnt 0 :=
  (h.ok hc).erased

theorem ZeroOutcome.untouched {st st' : St} {dest code cnt : Nat} (h : ZeroOutcome st st' dest code cnt) (hc : code ≠ EOK) :
    Untouched .mem st st' code := by
  obtain ⟨hf, hd⟩ := h.fail hc
  exact ⟨hd, hf.strays, hf.events, hf.mapped, hf.wr, hf.rd⟩

theorem ZeroOutcome.failed {st : St} {dest c cnt : Nat} (hne : c ≠ EOK) :
    ZeroOutcome st (st.emit (.handler .mem c)) dest c cnt :=
  ⟨fun h => absurd h hne, fun _ => ⟨.emit hne, rfl⟩⟩

/-- common shape: null check, zero check on the byte size, `dmax` check, then the fill -/
theorem memzeroG_spec (fill : Prog Unit) (dest dmaxB cnt : Nat) (destbos : Bos) (st : St)
    (hfill : ∃ st', exec fill st = .ok ((), st') ∧ Filled st st' dest cnt 0) :
    Runs (if dest = 0 then failM ESNULLP
        else if dmaxB = 0 then failM ESZEROL
        else chkDmaxMemB dmaxB destbos RSIZE_MAX_MEM fun _ => do fill; pure EOK) st
      fun code st' => ZeroOutcome st st' dest code cnt ∧
        (code = EOK ↔ dest ≠ 0 ∧ dmaxB ≠ 0 ∧ memDmaxOk dmaxB destbos) := by
  refine .guardM (fun hd => ⟨.failed (by decide), iff_of_false (by decide) fun h => h.1 hd⟩) fun hd => ?_
  refine .guardM (fun hz => ⟨.failed (by decide), iff_of_false (by decide) fun h => h.2.1 hz⟩) fun hz => ?_
  refine .chkDmaxMemB (fun hbad c hc => ⟨.failed hc, iff_of_false hc fun h => hbad h.2.2⟩) fun hok => ?_
  exact .bind ((Runs.of_unit hfill).conseq fun _ st' hf =>
    .pure _ ⟨⟨fun _ => hf, fun h => absurd rfl h⟩, iff_of_true rfl ⟨hd, hz, hok⟩⟩)

theorem memzero_s_spec (dest len : Nat) (destbos : Bos) (st : St) (hw : RW st dest len) :
    ∃ code st', exec (memzero_s dest len destbos) st = .ok (code, st') ∧
      ZeroOutcome st st' dest code len ∧
      (code = EOK ↔ dest ≠ 0 ∧ len ≠ 0 ∧ memDmaxOk len destbos) :=
  memzeroG_spec (memsetBytes 1 0 dest len) dest len len destbos st (memsetBytes_one_ok 0 dest len st hw)

theorem memzero16_s_spec (dest len : Nat) (destbos : Bos) (st : St) (hw : RW st dest (len % U32)) :
    ∃ code st', exec (memzero16_s dest len destbos) st = .ok (code, st') ∧
      ZeroOutcome st st' dest code (len % U32) ∧
      (code = EOK ↔ dest ≠ 0 ∧ (len * 2) % U64 ≠ 0 ∧ memDmaxOk ((len * 2) % U64) destbos) :=
  memzeroG_spec (mem_prim_set16 dest len 0) dest ((len * 2) % U64) (len % U32) destbos st
    (mem_prim_set16_ok dest len 0 st hw)

theorem memzero32_s_spec (dest len : Nat) (destbos : Bos) (st : St) (hw : RW st dest (len % U32)) :
    ∃ code st', exec (memzero32_s dest len destbos) st = .ok (code, st') ∧
      ZeroOutcome st st' dest code (len % U32) ∧
      (code = EOK ↔ dest ≠ 0 ∧ (len * 4) % U64 ≠ 0 ∧ memDmaxOk ((len * 4) % U64) destbos) :=
  memzeroG_spec (mem_prim_set32 dest len 0) dest ((len * 4) % U64) (len % U32) destbos st
    (mem_prim_set32_ok dest len 0 st hw)

structure StrFail (st st' : St) (code : Nat) : Prop where
  ne : code ≠ EOK
  mapped : st'.mapped = st.mapped
  rd : st'.rd = st.rd
  wr : st'.wr = st.wr
  strays : st'.strays = st.strays
  events : st'.events = st.events ++ [.handler .str code]
  data : st'.data = st.data

theorem StrFail.emit {st : St} {c : Nat} (hne : c ≠ EOK) : StrFail st (st.emit (.handler .str c)) c :=
  ⟨hne, rfl, rfl, rfl, rfl, rfl, rfl⟩

def strDmaxOk (dmax : Nat) : Bos → Prop
  | none => dmax ≤ RSIZE_MAX_STR
  | some b => dmax ≤ b

/-- `CHK_DMAX_MAX` / `CHK_DEST_OVR` of the str family, as `Runs.chkDmaxMemB` -/
theorem Runs.chkDmax {dmax : Nat} {destbos : Bos} {k : Prog Nat} {st : St} {Q : Nat → St → Prop}
    (hfail : ¬ strDmaxOk dmax destbos → ∀ c, c ≠ EOK → Q c (st.emit (.handler .str c)))
    (hk : strDmaxOk dmax destbos → Runs k st Q) :
    Runs (SafeC.chkDmax dmax destbos RSIZE_MAX_STR k) st Q := by
  cases destbos with
  | none => exact Runs.guardS (fun h => hfail (Nat.not_le.2 h) _ (by decide)) fun h => hk (Nat.not_lt.1 h)
  | some b =>
    refine (if h : dmax > b then ?_ else ?_)
    · simp only [SafeC.chkDmax, if_pos h]
      exact Runs.guardS (fun _ => hfail (Nat.not_le.2 h) _ (by decide))
        fun _ => Runs.failS _ (hfail (Nat.not_le.2 h) _ (by decide))
    · simp only [SafeC.chkDmax, if_neg h]
      exact hk (Nat.not_lt.1 h)

theorem Filled.fill (st : St) (d n v : Nat) : Filled st (st.fill d n v) d n v := ⟨.fill .., fun _ => rfl⟩

/-- the loop `while (dmax && *dest) { *dest = v; dmax--; dest++; }`: with `m` non-NUL cells followed by a NUL (or `m = K`, no
NUL inside), it sets exactly those `m` cells -/
theorem exec_setLoop (v K m dest : Nat) (st : St) (hw : RW st dest K) (hm : m ≤ K)
    (hnz : ∀ j, j < m → st.data (dest + j) ≠ 0) (hend : m = K ∨ st.data (dest + m) = 0) :
    exec (setLoop v K dest) st = .ok ((dest + m, K - m), st.fill dest m v) := by
  induction K generalizing m dest st with
  | zero =>
    obtain rfl : m = 0 := by omega
    rw [St.fill_zero]; rfl
  | succ K ih =>
    obtain ⟨hmp, hwr, hrd⟩ := hw.head
    cases m with
    | zero =>
      have h0 : st.data dest = 0 := hend.elim (fun h => by omega) (by simpa using ·)
      simp only [setLoop, exec_bind, exec_load_ok _ _ hmp hrd, h0, if_true, St.fill_zero]; rfl
    | succ m =>
      have h0 : st.data dest ≠ 0 := by simpa using hnz 0 (by omega)
      simp only [setLoop, exec_bind, exec_load_ok _ _ hmp hrd, if_neg h0, exec_store_ok _ _ _ hmp hwr]
      rw [ih m (dest+1) (st.upd dest v) hw.tail (by omega)
        (fun j hj => by rw [St.upd_data_ne _ _ _ _ (by omega), add_one_add]; exact hnz (j+1) (by omega))
        (hend.imp (by omega) fun h => by rw [St.upd_data_ne _ _ _ _ (by omega), add_one_add]; exact h),
        St.upd_fill, add_one_add, Nat.add_sub_add_right]

theorem strzero_s_eq (cfg : Cfg) (dest dmax : Nat) (destbos : Bos) :
    strzero_s cfg dest dmax destbos =
      if dest = 0 then failS ESNULLP
      else if dmax = 0 then failS ESZEROL
      else chkDmax dmax destbos RSIZE_MAX_STR (do
        let (d, m) ← setLoop 0 dmax dest
        slackTail cfg d m
        pure EOK) := rfl

/-- the loop plus the slack block of `strzero_s` on a buffer whose first NUL is at index `m < dmax`,
or that holds no NUL (`m = dmax`; the slack block then reads the cell `dest[dmax]`, which must be
readable for the run to be clean) -/
theorem strzeroBody_ok (cfg : Cfg) (dest dmax m : Nat) (st : St) (hw : RW st dest dmax) (hm : m ≤ dmax)
    (hnz : ∀ j, j < m → st.data (dest + j) ≠ 0)
    (hend : (m < dmax ∧ st.data (dest + m) = 0) ∨
            (m = dmax ∧ (cfg.slack = true → st.mapped (dest + dmax) = true ∧ st.rd (dest + dmax) = true))) :
    ∃ st', exec (do
        let (d, k) ← setLoop 0 dmax dest
        slackTail cfg d k
        pure EOK) st = .ok (EOK, st') ∧
      Filled st st' dest (if cfg.slack then dmax else m) 0 := by
  have he1 := exec_setLoop 0 dmax m dest st hw hm hnz (hend.elim (fun h => .inr h.2) fun h => .inl h.1)
  cases hs : cfg.slack with
  | false => exact ⟨_, by simp only [exec_bind, he1, slackTail, hs]; rfl, .fill ..⟩
  | true =>
    rcases hend with ⟨hlt, hz⟩ | ⟨rfl, hrd⟩
    · -- terminated inside: the slack block clears the rest
      have hc := hw m hlt
      have hz1 : (st.fill dest m 0).data (dest + m) = 0 := by rw [St.fill_data, if_neg (by omega)]; exact hz
      refine ⟨_, ?_, (St.fill_fill st dest m (dmax - m) 0 ▸ Filled.fill st dest (m + (dmax - m)) 0).cast (by simp; omega)⟩
      simp only [exec_bind, he1, slackTail, hs, if_true, exec_load_ok _ (st.fill dest m 0) hc.1 hc.2.2, hz1,
        exec_memsetP 0 (dmax - m) (dest + m) (st.fill dest m 0) (hw.sub (by omega) (by omega))]
      rfl
    · -- no NUL inside: `if (!*dest)` looks at dest[dmax]; `memset(dest, 0, 0)` either way
      obtain ⟨hmp, hr⟩ := hrd hs
      refine ⟨st.fill dest m 0, ?_, by simpa using Filled.fill st dest m 0⟩
      by_cases hc : (st.fill dest m 0).data (dest + m) = 0
      · simp only [exec_bind, he1, slackTail, hs, if_true, exec_load_ok _ (st.fill dest m 0) hmp hr, hc, Nat.sub_self, memsetP]; rfl
      · simp only [exec_bind, he1, slackTail, hs, if_true, exec_load_ok _ (st.fill dest m 0) hmp hr, hc, if_false]; rfl

theorem strzero_s_spec (cfg : Cfg) (dest dmax m : Nat) (destbos : Bos) (st : St)
    (hw : RW st dest dmax) (hm : m ≤ dmax)
    (hnz : ∀ j, j < m → st.data (dest + j) ≠ 0)
    (hend : (m < dmax ∧ st.data (dest + m) = 0) ∨
            (m = dmax ∧ (cfg.slack = true → st.mapped (dest + dmax) = true ∧ st.rd (dest + dmax) = true))) :
    ∃ code st', exec (strzero_s cfg dest dmax destbos) st = .ok (code, st') ∧
      (code = EOK → Filled st st' dest (if cfg.slack then dmax else m) 0) ∧
      (code ≠ EOK → StrFail st st' code) ∧
      (code = EOK ↔ dest ≠ 0 ∧ dmax ≠ 0 ∧ strDmaxOk dmax destbos) := by
  rw [strzero_s_eq]
  refine Runs.guardS (fun hd => ⟨fun h => absurd h (by decide), fun _ => .emit (by decide),
    iff_of_false (by decide) fun h => h.1 hd⟩) fun hd => ?_
  refine Runs.guardS (fun hz => ⟨fun h => absurd h (by decide), fun _ => .emit (by decide),
    iff_of_false (by decide) fun h => h.2.1 hz⟩) fun hz => ?_
  refine Runs.chkDmax (fun hbad c hc => ⟨fun h => absurd h hc, fun _ => .emit hc, iff_of_false hc fun h => hbad h.2.2⟩)
    fun hok => ?_
  obtain ⟨st', he', hf⟩ := strzeroBody_ok cfg dest dmax m st hw hm hnz hend
  exact ⟨EOK, st', he', fun _ => hf, fun h => absurd rfl h, iff_of_true rfl ⟨hd, hz, hok⟩⟩

end SafeC
