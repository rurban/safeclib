import SafeC.Proofs.AccQueryEntry
/-!
# `strstr_s` with `slen > dmax`, sharpened

`if (slen > dmax) { len = strlen(src); dlen = strlen(dest); if (len > dmax || len > dlen) return ESNOTFND; }`: past this early
return the needle is known to end within `dmax` cells, so the search that follows reads NOTHING the two `strlen` calls have
not read already — in the long case the footprint is exactly the two strings to their terminators, the cuts `dmax + 1` /
`slen + 1` of the search add no cell.  (`AccD_strlenP`: the length `strlen` returned locates the terminator.)

The model cuts an unbounded scan after `scanFuel` cells; the argument needs `dmax < scanFuel`, which the entry checks give
when the object size is unknown (`dmax ≤ RSIZE_MAX_STR`) and is a hypothesis for a known one.
-/
namespace SafeC
open Gen

variable {d : Nat → Nat} {R : Nat → Prop}

/-- **strstr_s, sharpened**: `hd` / `hs` (the cuts of the search) are needed for `slen ≤ dmax` only -/
theorem strstr_s_acc_sharp (dest dmax src slen : Nat) (db sb : Bos)
    (hfuel : ∀ b, db = some b → dmax < scanFuel)
    (hd : dest ≠ 0 → slen ≤ dmax → ∀ a, Str d dest (dmax+1) a → R a)
    (hs : src ≠ 0 → slen ≤ dmax → ∀ a, Str d src (slen+1) a → R a)
    (hlong : dest ≠ 0 → src ≠ 0 → slen > dmax →
      (∀ a, Str d dest scanFuel a → R a) ∧ (∀ a, Str d src scanFuel a → R a)) :
    AccD d R (strstr_s dest dmax src slen db sb) (fun _ => True) := by
  refine AccD.bind (AccD.of_Acc (Acc_qChkS dest dmax db (some src))) (fun x hx => ?_)
  cases x with
  | some e => exact AccD.pure _ trivial
  | none =>
  obtain ⟨h1, h2, _, hmax⟩ := hx rfl
  have h2' := ne_of_some_ne h2
  have hf : dmax < scanFuel := by
    cases db with
    | none => have := hmax rfl; simp only [RSIZE_MAX_STR, scanFuel] at *; omega
    | some b => exact hfuel b rfl
  refine AccD_qChkSlenS_then (fun e => AccD.pure _ trivial) ?_
  have rest : (∀ a, Str d dest (dmax+1) a → R a) → (∀ a, Str d src (slen+1) a → R a) →
      AccD d R (do
        let s0 ← load src
        if s0 = 0 ∨ dest = src then pure (EOK, dest)
        else if slen = 0 then do handlerS ESZEROL; pure (ESZEROL, 0)
        else strstrOuter src slen dmax dest : Prog (Nat × Nat)) (fun _ => True) := by
    intro gd gs
    refine AccD.loadBind (gs _ (Str.head (by omega))) ?_
    refine AccD.ite (fun _ => AccD.pure _ trivial) fun _ => ?_
    exact AccD.ite (fun _ => AccD.handlerSBind _ (AccD.pure _ trivial)) fun _ =>
      AccD_strstrOuter src slen dmax dest (by omega) gd gs
  by_cases hl : slen > dmax
  · obtain ⟨g1, g2⟩ := hlong h1 h2' hl
    rw [if_pos hl]
    refine AccD.bind (Q := fun early => early = false → ∃ len, len ≤ dmax ∧ d (src + len) = 0) ?_ (fun early he => ?_)
    · refine AccD.bind (AccD_strlenP scanFuel src 0 g2) (fun len ⟨_, _, p3, p4⟩ => ?_)
      refine AccD.bind (AccD_strlenP scanFuel dest 0 g1) (fun dlen _ => ?_)
      refine AccD.pure _ (fun hne => ?_)
      have hlen : len ≤ dmax := by
        have : ¬ (len > dmax ∨ len > dlen) := by simpa using hne
        omega
      exact ⟨len, hlen, by simpa using p4 (by omega)⟩
    · refine AccD.ite (fun _ => AccD.pure _ trivial) fun hne => ?_
      obtain ⟨len, hlen, hterm⟩ := he (by simpa using hne)
      refine rest (fun a ha => g1 a (ha.mono (by omega))) (fun a ha => g2 a ?_)
      have hc := Str.of_term hterm ha
      exact ⟨ha.1, by have := hc.2; omega, ha.2.2⟩
  · rw [if_neg hl]
    refine AccD.bind (Q := fun early => early = false) (AccD.pure _ rfl) (fun early he => ?_)
    subst he
    exact rest (hd h1 (by omega)) (hs h2' (by omega))

end SafeC
