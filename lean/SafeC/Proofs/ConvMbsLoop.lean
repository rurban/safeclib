import SafeC.Proofs.ConvMbs
/-! C15: glibc's `mbsrtowcs` window loop (`mbsLoop`, model) on ANY terminated source is one run of the step function over the
string and its terminator (`mbsLoop_run`); on a valid string a run is determined (`Run.valid`), which gives
character-by-character decoding for every limit and every genuine entry state. -/
namespace SafeC.Conv.Libc

theorem encodeAll_eq_nil (loc : Locale) (l : List Nat) (h : encodeAll loc l = some []) : l = [] := by
  have := encodeAll_length_ge loc l [] h
  cases l <;> simp_all

theorem PendOK_whole (loc : Locale) (st l E : List Nat) (h : PendOK loc st l) (hE : encodeAll loc l = some E) :
    ∃ z, E = st ++ z := by
  rcases h with rfl | ⟨c, cs', y, rfl, he, _, _⟩
  · exact ⟨E, by simp⟩
  · obtain ⟨a, b, ha, _, rfl⟩ := encodeAll_cons_inv loc c cs' E hE
    rw [he] at ha; cases ha
    exact ⟨y ++ b, by simp⟩

theorem mbsLoop_succ (loc : Locale) (fuel : Nat) (rest : List Nat) (off len : Nat) (st out : List Nat) (status : Status)
    (hlen : len ≠ 0) (w : List Nat) (hw : rest.take (strnlen rest len + 1) = w) (r : GR) (hr : gconvMb loc st w len = r) :
    mbsLoop loc (fuel + 1) rest off len st out status =
      if (r.status = .empty ∨ r.status = .incomplete) ∧ r.used = w.length ∧ w.getLast? ≠ some 0 then
        mbsLoop loc fuel (rest.drop r.used) (off + r.used) (len - r.out.length) r.st (out ++ r.out) r.status
      else (out ++ r.out, off + r.used, r.st, r.status) := by
  subst hw hr
  simp only [mbsLoop, hlen, ↓reduceIte, Bool.and_eq_true, Bool.or_eq_true, beq_iff_eq, bne_iff_ne, and_assoc]

theorem mbsLoop_len0 (loc : Locale) (fuel : Nat) (rest : List Nat) (off : Nat) (st out : List Nat) (status : Status) :
    mbsLoop loc fuel rest off 0 st out status = (out, off, st, status) := by
  cases fuel <;> simp [mbsLoop]

/-- **the window loop on ANY terminated source** is one run of the step function over the string and its terminator, entered
with the same state and the same room; only the status after the last window may read `empty`/`incomplete` where the run
says `full` (the loop stops at `len = 0` without looking at the input) -/
theorem mbsLoop_run (loc : Locale) (fuel : Nat) : ∀ (s tail st out0 : List Nat) (off len : Nat) (status0 : Status),
    (s ++ 0 :: tail).length < fuel → (∀ b ∈ s, b ≠ 0) → (st = [] ∨ body loc st = .incomplete) →
    ∃ r s', Run loc st (s ++ [0]) len r ∧
      mbsLoop loc fuel (s ++ 0 :: tail) off len st out0 status0 = (out0 ++ r.out, off + r.used, r.st, s') ∧
      (s' = r.status ∨ r.status = .full ∧ (s' = .empty ∨ len = 0 ∧ s' = status0)) := by
  induction fuel with
  | zero => intro _ _ _ _ _ _ _ h; exact absurd h (Nat.not_lt_zero _)
  | succ fuel ih =>
    intro s tail st out0 off len status0 hfuel hs hgen
    by_cases hlen : len = 0
    · subst hlen
      refine ⟨⟨[], 0, st, .full⟩, status0, ?_, by rw [mbsLoop_len0]; simp, .inr ⟨rfl, .inr ⟨rfl, rfl⟩⟩⟩
      simpa using Run.full (loc := loc) (pend := st) (inp := s ++ [0]) (space := 0) (out := []) (p := []) (used := 0) rfl rfl
        (Nat.zero_le _) (by simp) rfl
    obtain ⟨k, hk⟩ : ∃ k, k = min len s.length := ⟨_, rfl⟩
    have hw : (s ++ 0 :: tail).take (strnlen (s ++ 0 :: tail) len + 1) = (s ++ [0]).take (k + 1) := by
      rw [strnlen_term s tail hs, take_term s tail _ (Nat.min_le_right _ _), hk]
    have hrun := gconvMb_run loc st ((s ++ [0]).take (k + 1)) len hgen
    rw [mbsLoop_succ loc fuel _ off len st out0 status0 hlen _ hw _ rfl]
    generalize gconvMb loc st ((s ++ [0]).take (k + 1)) len = r1 at hrun ⊢
    by_cases hfin : s.length ≤ k
    · -- the window is the whole string with its terminator
      have hwS : (s ++ [0]).take (k + 1) = s ++ [0] := List.take_of_length_le (by simp; omega)
      rw [hwS] at hrun ⊢
      rw [if_neg (fun h => h.2.2 (by simp))]
      exact ⟨r1, r1.status, hrun, rfl, .inl rfl⟩
    have hklt : k + 1 ≤ s.length := by omega
    have hwS : (s ++ [0]).take (k + 1) = s.take (k + 1) := List.take_append_of_le_length hklt
    have hsplit : s ++ [0] = s.take (k + 1) ++ (s.drop (k + 1) ++ [0]) := by rw [← List.append_assoc, List.take_append_drop]
    rw [hwS] at hrun ⊢
    split
    · -- next window
      rename_i hc
      obtain ⟨hu, hg1, hroom⟩ := hrun.of_continues hc.1
      have hrest : (s ++ 0 :: tail).drop r1.used = s.drop (k + 1) ++ 0 :: tail := by
        rw [hu, List.length_take, Nat.min_eq_left hklt, List.drop_append_of_le_length hklt]
      obtain ⟨r2, s', hr2, heq, hs'⟩ := ih (s.drop (k + 1)) tail r1.st (out0 ++ r1.out) (off + r1.used) (len - r1.out.length) r1.status
        (by simp only [List.length_append, List.length_cons, List.length_drop] at hfuel ⊢; omega)
        (fun b hb => hs b (List.mem_of_mem_drop hb)) hg1
      -- if the next round stopped at `len = 0`, this window ended `empty`: an `incomplete` one leaves room
      have hs'' : s' = r2.status ∨ r2.status = .full ∧ (s' = .empty ∨ len = 0 ∧ s' = status0) := by
        rcases hs' with h | ⟨h, h' | ⟨h0, h'⟩⟩
        · exact .inl h
        · exact .inr ⟨h, .inl h'⟩
        · rcases hc.1 with he | hi
          · exact .inr ⟨h, .inl (h'.trans he)⟩
          · have := hroom hi; omega
      refine ⟨⟨r1.out ++ r2.out, (s.take (k + 1)).length + r2.used, r2.st, r2.status⟩, s', ?_, ?_, hs''⟩
      · rw [hsplit]; exact hrun.append hc.1 hr2
      · rw [hrest, heq, hu]; simp [List.append_assoc, Nat.add_assoc]
    · -- stopped inside the window for lack of room, or at an illegal sequence
      rename_i hc
      have hnz : (s.take (k + 1)).getLast? ≠ some 0 := fun h => hs 0 (List.mem_of_mem_take (List.mem_of_getLast? h)) rfl
      have hstat : r1.status = .full ∨ r1.status = .illegal := by
        cases h : r1.status
        · exact absurd ⟨.inl h, (hrun.of_continues (.inl h)).1, hnz⟩ hc
        · exact .inl rfl
        · exact absurd ⟨.inr h, (hrun.of_continues (.inr h)).1, hnz⟩ hc
        · exact .inr rfl
      exact ⟨r1, r1.status, by rw [hsplit]; exact hrun.extend _ hstat, rfl, .inl rfl⟩


/-- on a valid string (characters `ws`, then the terminator) a run is determined: everything and the terminator when there is
room, the first `len` characters otherwise -/
theorem Run.valid {loc : Locale} {ws E ps S : List Nat} {len : Nat} {r : GR} (h : Run loc ps S len r)
    (hE : encodeAll loc ws = some E) (hS : ps ++ S = E ++ [0]) (hlen : 0 < len) :
    (ws.length < len → r = ⟨ws ++ [0], S.length, [], .empty⟩) ∧
    (len ≤ ws.length → ∃ p, encodeAll loc (ws.take len) = some p ∧ r = ⟨ws.take len, p.length - ps.length, [], .full⟩) := by
  have hB := encodeAll_snoc_zero loc ws E hE
  cases h with
  | @empty out h1 h2 =>
    obtain ⟨ho, hm, hq⟩ := encodeAll_split_unique (z := []) hB h1 (by rw [hS]; simp)
    have hd := encodeAll_eq_nil loc _ hq
    have : out = ws ++ [0] := by rw [ho, List.take_of_length_le (List.drop_eq_nil_iff.mp hd)]
    subst this
    exact ⟨fun _ => rfl, fun h => by simp at h2; omega⟩
  | @full out p used h1 h2 h3 h4 h5 =>
    have hne : out ≠ [] := by rintro rfl; simp at h5; omega
    simp only [hne, ↓reduceIte, List.nil_append] at h2 h4 ⊢
    obtain ⟨ho, hm, hq⟩ := encodeAll_split_unique (z := S.drop used) hB h1 (by rw [← hS, h2])
    have hlt : out.length < (ws ++ [0]).length := by
      apply Nat.lt_of_le_of_ne hm; intro h
      rw [h, List.drop_length] at hq; exact h4 (Option.some.inj hq).symm
    simp only [List.length_append, List.length_cons, List.length_nil] at hlt
    have hl := congrArg List.length h2
    simp only [List.length_append, List.length_drop] at hl
    refine ⟨fun h => by omega, fun _ => ⟨p, ?_, ?_⟩⟩
    · rw [← h5, ← List.take_append_of_le_length (l₂ := [0]) (by omega), ← ho]; exact h1
    · rw [← h5, ← List.take_append_of_le_length (l₂ := [0]) (by omega), ← ho, show p.length - ps.length = used by omega]
  | @incomplete out p st h1 h2 h3 h4 h5 =>
    exfalso
    obtain ⟨_, _, hq⟩ := encodeAll_split_unique (z := st) hB h1 (by rw [← hS, h2])
    rcases PendOK.of_genuine (inp := []) (rem := []) (.inr h4) hq (by simp) with h | ⟨_, h⟩
    · rw [h] at hq; exact h3 (Option.some.inj hq).symm
    · have : (List.drop out.length (ws ++ [0])) = [] := List.eq_nil_of_length_eq_zero (by omega)
      rw [this] at hq; exact h3 (Option.some.inj hq).symm
  | @illegal out p st used t x h1 h2 h3 h4 h4' h5 =>
    obtain ⟨_, _, hq⟩ := encodeAll_split_unique (z := t ++ x) hB h1 (by rw [← hS, h2, h4])
    exact absurd h4' (body_ne_illegal_of_valid hq)

/-- **mbsrtowcs on a valid string, any genuine entry state** (`ps ++ mem` = the bytes of `ws`, a NUL, anything): with room
for the terminator all of `ws` and the NUL are stored, the count is `|ws|`, `*src = NULL`, the state initial; otherwise
exactly the first `len` characters, `*src` behind their bytes, the state initial -/
theorem mbsrtowcs_valid_st (loc : Locale) (ws E tail ps mem : List Nat) (hE : encodeAll loc ws = some E)
    (hz : ∀ c ∈ ws, c ≠ 0) (hmem : ps ++ mem = E ++ 0 :: tail) (hps : PendOK loc ps ws) (len : Nat) (hlen : 0 < len) :
    (ws.length < len → mbsrtowcs loc false mem len ps = ⟨ws ++ [0], ws.length, none, [], false⟩) ∧
    (len ≤ ws.length → ∃ p, encodeAll loc (ws.take len) = some p ∧
        mbsrtowcs loc false mem len ps = ⟨ws.take len, len, some (p.length - ps.length), [], false⟩) := by
  obtain ⟨E', rfl⟩ := PendOK_whole loc ps ws E hps hE
  have hmemE : mem = E' ++ 0 :: tail := by rw [List.append_assoc] at hmem; exact List.append_cancel_left hmem
  have hzE' : ∀ b ∈ E', b ≠ 0 := fun b hb => encodeAll_no_zero loc ws _ hE hz b (by simp [hb])
  subst hmemE
  obtain ⟨r, s', hr, heq, hs'⟩ := mbsLoop_run loc ((E' ++ 0 :: tail).length + 1) E' tail ps [] 0 len .full (Nat.lt_succ_self _) hzE'
    hps.genuine
  obtain ⟨b1, b2⟩ := hr.valid hE (by simp) hlen
  simp only [mbsrtowcs, Bool.false_eq_true, ↓reduceIte, heq, List.nil_append, Nat.zero_add]
  constructor
  · intro h
    rw [b1 h] at hs' ⊢
    rcases hs' with rfl | ⟨h, _⟩
    · simp
    · cases h
  · intro h
    obtain ⟨p, hp, rfl⟩ := b2 h
    have hnz : ((ws.take len).getLast? == some 0) = false := by
      simpa using fun hl => hz 0 (List.mem_of_mem_take (List.mem_of_getLast? hl)) rfl
    refine ⟨p, hp, ?_⟩
    rcases hs' with rfl | ⟨_, rfl | ⟨h0, _⟩⟩
    · simp [Nat.min_eq_left h]
    · simp [hnz, Nat.min_eq_left h]
    · omega

/-- **mbsrtowcs / mbstowcs on a valid string, initial state**, every limit (also 0) -/
theorem mbsrtowcs_valid (loc : Locale) (ws E tail : List Nat) (hE : encodeAll loc ws = some E) (hz : ∀ c ∈ ws, c ≠ 0)
    (len : Nat) :
    (ws.length < len → mbsrtowcs loc false (E ++ 0 :: tail) len [] = ⟨ws ++ [0], ws.length, none, [], false⟩) ∧
    (len ≤ ws.length → ∃ p, encodeAll loc (ws.take len) = some p ∧
        mbsrtowcs loc false (E ++ 0 :: tail) len [] = ⟨ws.take len, len, some p.length, [], false⟩) := by
  by_cases hlen : 0 < len
  · exact mbsrtowcs_valid_st loc ws E tail [] _ hE hz (by simp) (Or.inl rfl) len hlen
  · have h0 : len = 0 := by omega
    subst h0
    refine ⟨fun h => by omega, fun _ => ⟨[], rfl, ?_⟩⟩
    simp [mbsrtowcs, mbsLoop_len0]

end SafeC.Conv.Libc
