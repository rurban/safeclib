import SafeC.Proofs.ExtCopy
import SafeC.Proofs.Erase
import SafeC.Models.Inplace
import SafeC.Proofs.AccRemovews
/-!
# The in-place string producers `strnterminate_s`, `strzero_s`, `strljustify_s`, `strremovews_s`:
what is left in dest after the call (helper lemmas; the C03 statements are in
`SafeC/Props/C03Ext.lean`)

Setting of C03: every cell mapped and readable (`AllRd`, `Proofs/Query.lean`), ARBITRARY contents.  Under `AllRd` no access
faults: a load returns the cell, a store is the update `St.put` (which also records a stray when the
cell was not declared writable).  `strnterminate_s` and `strzero_s` are followed on `exec` (their statements are
state-exact).  For the two shifting functions `strljustify_s` / `strremovews_s` all that is claimed is that a NUL of dest
survives, and that is read off their footprint walks (`justifyBody_accs`, `removewsBody_accs`: `Proofs/AccJustify.lean`,
`AccRemovews.lean`) at `R = W = everything` through `AccS.exec_all`: the shift loop stores non-zero characters, so no
invariant on the contents alone carries the NUL — what protects it is WHERE the loop stores (below the terminator), which is
the footprint fact.
-/
namespace SafeC
open Gen

/-- what a store does to the state when the cell is mapped -/
def St.put (st : St) (a v : Nat) : St := (st.noteWr a).upd a v

theorem St.put_data (st : St) (a v x : Nat) : (st.put a v).data x = if x = a then v else st.data x := by
  unfold St.put St.noteWr
  split <;> simp [St.upd, St.stray]

theorem exec_store_all {st : St} (h : AllRd st) (a v : Nat) : exec (store a v) st = .ok ((), st.put a v) := by
  rw [exec_store, if_pos (h a).1]; rfl

theorem AllRd.of_exec {α : Type} {p : Prog α} {st s : St} {r : α} (he : exec p st = .ok (r, s)) (h : AllRd st) :
    AllRd s := by
  obtain ⟨h1, h2, _⟩ := exec_perm p st he
  intro x; rw [h1, h2]; exact h x

theorem AllRd.put {st : St} (h : AllRd st) (a v : Nat) : AllRd (st.put a v) :=
  .of_exec (exec_store_all h a v) h

theorem St.put_eq_upd (st : St) (a v : Nat) (hw : st.wr a = true) : st.put a v = st.upd a v := by
  simp [St.put, St.noteWr, hw]

theorem strDmaxOk_of (dmax : Nat) (destbos : Bos) (hle : dmax ≤ RSIZE_MAX_STR)
    (hb : ∀ b, destbos = some b → dmax ≤ b) : strDmaxOk dmax destbos := by
  cases destbos with
  | none => exact hle
  | some b => exact hb b rfl

theorem firstNul (f : Nat → Nat) (K : Nat) :
    ∃ m, m ≤ K ∧ (∀ j, j < m → f j ≠ 0) ∧ (m < K → f m = 0) := by
  obtain ⟨m, hm, hp, hlt⟩ := least_of (fun j => j = K ∨ f j = 0) K (.inl rfl)
  exact ⟨m, hm, fun j hj h => hlt j hj (.inr h), fun h => hp.resolve_left (Nat.ne_of_lt h)⟩

/-- `while (dmax > 1) { if (*dest) … else break; }`: a pure scan; stops at the first NUL or after
`k` cells -/
theorem ntermLoop_ok (k dest count : Nat) (st : St) (hall : AllRd st) :
    ∃ n, exec (ntermLoop k dest count) st = .ok ((dest + n, count + n), st) ∧ n ≤ k ∧
      (∀ j, j < n → st.data (dest + j) ≠ 0) ∧ (n < k → st.data (dest + n) = 0) := by
  induction k generalizing dest count with
  | zero => exact ⟨0, rfl, Nat.le_refl _, fun j hj => absurd hj (Nat.not_lt_zero _), fun h => absurd h (Nat.lt_irrefl _)⟩
  | succ k ih =>
    unfold ntermLoop
    simp only [exec_bind, exec_load_all hall]
    by_cases hc : st.data dest = 0
    · refine ⟨0, ?_, by omega, fun j hj => absurd hj (Nat.not_lt_zero _), fun _ => by simpa using hc⟩
      simp [hc]
    · obtain ⟨n, he, hle, hnz, hz⟩ := ih (dest+1) (count+1)
      refine ⟨n+1, ?_, by omega, ?_, ?_⟩
      · simp only [ne_eq, hc, not_false_eq_true, if_true]
        rw [← add_one_add dest n, ← add_one_add count n]
        exact he
      · intro j hj
        cases j with
        | zero => simpa using hc
        | succ j =>
          have := hnz j (by omega)
          rwa [add_one_add] at this
      · intro h
        have := hz (by omega)
        rwa [add_one_add] at this

theorem strnterminate_s_ok (cfg : Cfg) (dest dmax : Nat) (destbos : Bos) (st : St) (hall : AllRd st)
    (hrw : RW st dest dmax) (hd : dest ≠ 0) (hpos : 0 < dmax) (hle : dmax ≤ RSIZE_MAX_STR)
    (hb : ∀ b, destbos = some b → dmax ≤ b) :
    ∃ n, exec (strnterminate_s cfg dest dmax destbos) st = .ok (n, st.upd (dest + n) 0) ∧ n < dmax ∧
      (∀ j, j < n → st.data (dest + j) ≠ 0) ∧ (n + 1 < dmax → st.data (dest + n) = 0) := by
  obtain ⟨n, he, hn, hnz, hz⟩ := ntermLoop_ok (dmax - 1) dest 0 st hall
  have hcell := hrw n (by omega)
  have hbody : exec (do
      let (d, count) ← ntermLoop (dmax - 1) dest 0
      store d 0
      pure count) st = .ok (n, st.upd (dest + n) 0) := by
    simp only [exec_bind, he, exec_store_ok _ _ _ hcell.1 hcell.2.1, Nat.zero_add]
    rfl
  refine ⟨n, ?_, by omega, hnz, fun h => hz (by omega)⟩
  unfold strnterminate_s
  rw [if_neg hd, if_neg (by omega)]
  cases destbos with
  | none => simp only []; rw [if_neg (by omega)]; exact hbody
  | some b => have := hb b rfl; simp only []; rw [if_neg (by omega)]; exact hbody

theorem strzero_s_ok (cfg : Cfg) (dest dmax : Nat) (destbos : Bos) (st : St) (hall : AllRd st)
    (hrw : RW st dest dmax) (hd : dest ≠ 0) (hpos : 0 < dmax) (hle : dmax ≤ RSIZE_MAX_STR)
    (hb : ∀ b, destbos = some b → dmax ≤ b) :
    ∃ st', exec (strzero_s cfg dest dmax destbos) st = .ok (EOK, st') ∧ st'.data dest = 0 ∧
      (cfg.slack = true → ∀ i, i < dmax → st'.data (dest + i) = 0) ∧
      (∀ a, ¬ (dest ≤ a ∧ a < dest + dmax) → st'.data a = st.data a) ∧ SameMeta st' st := by
  obtain ⟨m, hm, hnz, hz⟩ := firstNul (fun j => st.data (dest + j)) dmax
  obtain ⟨code, st', he, hok, _, hiff⟩ := strzero_s_spec cfg dest dmax m destbos st hrw hm hnz
    (by
      by_cases h : m < dmax
      · exact Or.inl ⟨h, hz h⟩
      · exact Or.inr ⟨by omega, fun _ => hall _⟩)
  have hc : code = EOK := hiff.2 ⟨hd, by omega, strDmaxOk_of dmax destbos hle hb⟩
  subst hc
  have hf := hok rfl
  refine ⟨st', he, ?_, ?_, ?_, hf.same⟩
  · cases hs : cfg.slack with
    | true =>
      rw [hs] at hf
      have := hf.inside 0 (by simpa using hpos)
      simpa using this
    | false =>
      rw [hs] at hf
      by_cases h0 : 0 < m
      · have := hf.inside 0 (by simpa using h0)
        simpa using this
      · have e : m = 0 := by omega
        subst e
        rw [hf.outside dest (by simp)]
        simpa using hz hpos
  · intro hs i hi
    rw [hs] at hf
    exact hf.inside i (by simpa using hi)
  · intro a ha
    apply hf.outside a
    intro ⟨h1, h2⟩
    apply ha
    refine ⟨h1, ?_⟩
    have : (if cfg.slack = true then dmax else m) ≤ dmax := by split <;> omega
    omega


/-- `H` leaves out a dest whose first NUL is `dest[dmax]`, one cell past the field: there the call can return EOK with
nothing written (`strljustify_s_unterminated`) -/
theorem strljustify_s_nul (cfg : Cfg) (dest dmax : Nat) (destbos : Bos) (st : St) (hall : AllRd st)
    (hd : dest ≠ 0) (hpos : 0 < dmax) (hle : dmax ≤ RSIZE_MAX_STR)
    (hb : ∀ b, destbos = some b → dmax ≤ b)
    (H : (∃ i, i < dmax ∧ st.data (dest + i) = 0) ∨ st.data (dest + dmax) ≠ 0) :
    ∃ r st', exec (strljustify_s cfg dest dmax destbos) st = .ok (r, st') ∧ (r = EOK ∨ r = ESUNTERM) ∧
      (r = ESUNTERM → ∀ i, i < dmax → st'.data (dest + i) = 0) ∧ ∃ i, i < dmax ∧ st'.data (dest + i) = 0 := by
  unfold strljustify_s
  rw [if_neg hd, if_neg (by omega), chkDmax_pass _ _ _ _ hle hb]
  obtain ⟨r, st', he, a, b, c⟩ := (justifyBody_accs (R := fun _ => True) (W := fun _ => True) dest dmax hpos
    (fun _ _ => trivial) (fun _ _ => trivial)).exec_all st rfl hall
  exact ⟨r, st', he, a, b, c H⟩

theorem strremovews_s_nul (cfg : Cfg) (dest dmax : Nat) (destbos : Bos) (st : St) (hall : AllRd st)
    (hd : dest ≠ 0) (hpos : 0 < dmax) (hle : dmax ≤ RSIZE_MAX_STR)
    (hb : ∀ b, destbos = some b → dmax ≤ b)
    (H : (∃ i, i < dmax ∧ st.data (dest + i) = 0) ∨ st.data (dest + dmax) ≠ 0) :
    ∃ r st', exec (strremovews_s cfg dest dmax destbos) st = .ok (r, st') ∧ (r = EOK ∨ r = ESUNTERM) ∧
      (r = ESUNTERM → ∀ i, i < dmax → st'.data (dest + i) = 0) ∧ ∃ i, i < dmax ∧ st'.data (dest + i) = 0 := by
  unfold strremovews_s
  rw [if_neg hd, if_neg (by omega), chkDmax_pass _ _ _ _ hle hb]
  obtain ⟨r, st', he, a, b, c⟩ := (removewsBody_accs (R := fun _ => True) (W := fun _ => True) dest dmax hpos
    (fun _ _ => trivial) (fun _ _ => trivial) (fun _ _ => trivial)).exec_all st rfl hall
  exact ⟨r, st', he, a, b, c H⟩


theorem stripTrailing_stop (fuel cur : Nat) (st : St) (hall : AllRd st)
    (h1 : st.data cur ≠ 0x20) (h2 : st.data cur ≠ 0x09) :
    exec (stripTrailing (fuel+1) cur) st = .ok ((), st) := by
  unfold stripTrailing
  simp only [exec_bind, exec_load_all hall]
  rw [if_neg h1]
  simp only [exec_bind, exec_load_all hall]
  rw [if_neg h2]
  rfl


theorem termScan_at (oD oM k cur : Nat) (st : St) (hall : AllRd st)
    (hnz : ∀ j, j < k → st.data (cur + j) ≠ 0) (hz : st.data (cur + k) = 0) :
    exec (termScan oD oM k cur) st = .ok (some (cur + k), st) := by
  induction k generalizing cur with
  | zero => unfold termScan; simp only [exec_bind, exec_load_all hall]; rw [if_pos (by simpa using hz)]; rfl
  | succ k ih =>
    unfold termScan
    simp only [exec_bind, exec_load_all hall]
    rw [if_neg (by simpa using hnz 0 (by omega)), ← add_one_add cur k]
    exact ih (cur+1) (fun j hj => by have := hnz (j+1) (by omega); rwa [← add_one_add] at this) (by rw [add_one_add]; exact hz)

theorem skipWs_stop (fuel cur : Nat) (st : St) (hall : AllRd st)
    (h1 : st.data cur ≠ 0x20) (h2 : st.data cur ≠ 0x09) :
    exec (skipWs fuel cur) st = .ok (cur, st) := by
  cases fuel with
  | zero => rfl
  | succ n =>
    unfold skipWs
    simp only [exec_bind, exec_load_all hall]
    rw [if_neg h1]
    simp only [exec_bind, exec_load_all hall]
    rw [if_neg h2]; rfl

/-- `strljustify_s` on the excluded class (`dmax ≥ 2`, no NUL in `dest[0..dmax)`, `dest[dmax] = 0`, first
cell neither blank nor tab): returns EOK and touches nothing — dest is left unterminated within `dmax` -/
theorem strljustify_s_unterminated (cfg : Cfg) (dest dmax : Nat) (destbos : Bos) (st : St) (hall : AllRd st)
    (hd : dest ≠ 0) (h2 : 2 ≤ dmax) (hle : dmax ≤ RSIZE_MAX_STR)
    (hb : ∀ b, destbos = some b → dmax ≤ b)
    (hnz : ∀ j, j < dmax → st.data (dest + j) ≠ 0) (hz : st.data (dest + dmax) = 0)
    (hfirst : st.data dest ≠ 0x20 ∧ st.data dest ≠ 0x09) :
    exec (strljustify_s cfg dest dmax destbos) st = .ok (EOK, st) := by
  have h0 : st.data dest ≠ 0 := by simpa using hnz 0 (by omega)
  unfold strljustify_s
  rw [if_neg hd, if_neg (by omega), chkDmax_pass _ _ _ _ hle hb, if_neg (by omega)]
  simp only [exec_bind, exec_load_all hall]
  rw [if_neg h0]
  simp only [exec_bind, termScan_at dest dmax dmax dest st hall hnz hz,
    skipWs_stop _ dest st hall hfirst.1 hfirst.2]
  simp

/-- `strremovews_s` on the excluded class (`dmax ≥ 2`, no NUL in `dest[0..dmax)`, `dest[dmax] = 0`, first
and last cell neither blank nor tab): returns EOK and touches nothing -/
theorem strremovews_s_unterminated (cfg : Cfg) (dest dmax : Nat) (destbos : Bos) (st : St) (hall : AllRd st)
    (hd : dest ≠ 0) (h2 : 2 ≤ dmax) (hle : dmax ≤ RSIZE_MAX_STR)
    (hb : ∀ b, destbos = some b → dmax ≤ b)
    (hnz : ∀ j, j < dmax → st.data (dest + j) ≠ 0) (hz : st.data (dest + dmax) = 0)
    (hfirst : st.data dest ≠ 0x20 ∧ st.data dest ≠ 0x09)
    (hlast : st.data (dest + (dmax - 1)) ≠ 0x20 ∧ st.data (dest + (dmax - 1)) ≠ 0x09) :
    exec (strremovews_s cfg dest dmax destbos) st = .ok (EOK, st) := by
  have h0 : st.data dest ≠ 0 := by simpa using hnz 0 (by omega)
  have e : dest + dmax - 1 = dest + (dmax - 1) := by omega
  have hstrip := stripTrailing_stop (dest + dmax - 1) (dest + dmax - 1) st hall
    (by rw [e]; exact hlast.1) (by rw [e]; exact hlast.2)
  unfold strremovews_s
  rw [if_neg hd, if_neg (by omega), chkDmax_pass _ _ _ _ hle hb]
  simp only [exec_bind, exec_load_all hall]
  rw [if_neg (by omega)]
  simp only [exec_bind, termScan_at dest dmax dmax dest st hall hnz hz,
    skipWs_stop _ dest st hall hfirst.1 hfirst.2, exec_load_all hall]
  rw [if_neg h0]
  simp [exec_bind, hstrip]


end SafeC
