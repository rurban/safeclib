import SafeC.Spec.Query
/-!
# Loop lemmas for C10: the single-scan loops

On a memory where all loads succeed (`AllRd`) each loop returns the value of the pure spec of `SafeC/Spec/Query.lean` /
`SafeC/Proofs/Query.lean` and leaves the state as it was, for ALL sizes.  No property statements here.
-/
namespace SafeC
open Gen

theorem firstIdx_succ_of_ne (d : Nat → Nat) (c p n : Nat) (h : d p ≠ c) :
    firstIdx d c p (n+1) = (firstIdx d c (p+1) n).map (· + 1) := by
  simp [firstIdx, h]

theorem lastIdx_front (d : Nat → Nat) (c p n : Nat) :
    lastIdx d c p (n+1) =
      match lastIdx d c (p+1) n with
      | some i => some (i+1)
      | none => if d p = c then some 0 else none := by
  induction n with
  | zero => simp [lastIdx]
  | succ n ih =>
    rw [lastIdx]
    by_cases h : d (p + (n+1)) = c
    · have h' : d (p + 1 + n) = c := by rw [← h]; congr 1; omega
      simp [h, lastIdx, h']
    · have h' : ¬ d (p + 1 + n) = c := by intro hh; apply h; rw [← hh]; congr 1; omega
      simp only [h, if_false, ih]
      simp [lastIdx, h']

theorem scanLen_min (d : Nat → Nat) (p n N : Nat) (h : n ≤ N) :
    scanLen d p n = min n (scanLen d p N) := by
  rw [scanLen_eq_least d p n]
  refine least_unique (Nat.min_le_left _ _) (fun j hj => by simpa using scanLen_nonzero d p N j (by omega)) fun hlt => ?_
  rw [show min n (scanLen d p N) = scanLen d p N by omega]
  simpa using scanLen_zero d p N (by omega)

theorem scanLen_stable (d : Nat → Nat) (p n N : Nat) (h : n ≤ N) (hz : scanLen d p n < n) :
    scanLen d p N = scanLen d p n := by
  have := scanLen_min d p n N h
  omega

theorem toUpperC_eq_zero (c : Nat) : toUpperC c = 0 ↔ c = 0 := by
  unfold toUpperC; split <;> omega

theorem strlenP_eq_wcsnlenLoop (fuel s n : Nat) : strlenP fuel s n = wcsnlenLoop fuel s n := by
  induction fuel generalizing s n with
  | zero => rfl
  | succ f ih => simp only [strlenP, wcsnlenLoop, ih]

theorem strlenP_eq {st : St} (h : AllRd st) (fuel s n : Nat) :
    exec (strlenP fuel s n) st = .ok (n + scanLen st.data s fuel, st) := by
  rw [strlenP_eq_wcsnlenLoop]
  exact wcsnlenLoop_eq h fuel s n

/-- libc `strchr` on ANY memory: it stops at the least index that holds the character or NUL (if there is one among the
`fuel` cells) and answers with it when it holds the character -/
theorem strchrP_run {st : St} (h : AllRd st) (c fuel s : Nat) :
    exec (strchrP c fuel s) st =
      .ok ((if least (fun i => st.data (s+i) == c || st.data (s+i) == 0) fuel < fuel ∧
               st.data (s + least (fun i => st.data (s+i) == c || st.data (s+i) == 0) fuel) = c
            then s + least (fun i => st.data (s+i) == c || st.data (s+i) == 0) fuel else 0), st) := by
  induction fuel generalizing s with
  | zero => simp [strchrP, least]
  | succ f ih =>
    simp only [strchrP, exec_bind, exec_load_all h, least, Nat.add_zero]
    by_cases hc : st.data s = c
    · simp [hc]
    · by_cases h0 : st.data s = 0
      · have : ¬ (0 = c) := fun e => hc (h0.trans e)
        simp [h0, this]
      · have hb : (st.data s == c || st.data s == 0) = false := by simp [hc, h0]
        simp only [hc, h0, if_false, ih (s+1), hb, Bool.false_eq_true, Nat.add_lt_add_iff_right, Nat.add_assoc,
          Nat.add_comm 1]

theorem strchrP_stop {st : St} (h : AllRd st) (c fuel s k : Nat) (hk : k < fuel)
    (hbefore : ∀ j, j < k → st.data (s+j) ≠ c ∧ st.data (s+j) ≠ 0) (hat : st.data (s+k) = c ∨ st.data (s+k) = 0) :
    exec (strchrP c fuel s) st = .ok ((if st.data (s+k) = c then s + k else 0), st) := by
  have : least (fun i => st.data (s+i) == c || st.data (s+i) == 0) fuel = k :=
    least_unique (Nat.le_of_lt hk) (fun j hj => by simpa using hbefore j hj) (fun _ => by simpa using hat)
  rw [strchrP_run h, this]
  simp only [hk, true_and]

theorem strchrP_far {st : St} (h : AllRd st) (c fuel s n : Nat)
    (hbefore : ∀ j, j < n → st.data (s+j) ≠ c ∧ st.data (s+j) ≠ 0) :
    ∃ r, exec (strchrP c fuel s) st = .ok (r, st) ∧ (r = 0 ∨ s + n ≤ r) := by
  refine ⟨_, strchrP_run h c fuel s, ?_⟩
  split
  · right
    apply Nat.add_le_add_left; apply Nat.le_of_not_lt; intro hlt
    have := (least_spec (fun i => st.data (s+i) == c || st.data (s+i) == 0) fuel).2.2 (by omega)
    have := hbefore _ hlt
    simp_all
  · exact .inl rfl

theorem strchr_s_of_scan {st : St} {dest dmax : Nat} {ch : Int} (hd : dest ≠ 0) (hpos : 0 < dmax)
    (hle : dmax ≤ RSIZE_MAX_STR) (hch : ch ≤ 255) {r : Nat}
    (hr : exec (strchrP (chCell ch) scanFuel dest) st = .ok (r, st)) :
    exec (strchr_s dest dmax ch none) st =
      .ok ((if r = 0 then (ESNOTFND, 0) else if r - dest > dmax then (ESNOTFND, 0) else (EOK, r)), st) := by
  unfold strchr_s
  simp only [qChkS_ok hd (Option.some_ne_none 0).symm hpos hle, Int.not_lt.mpr hch, gt_iff_lt, if_false, exec_bind,
    exec_pure, hr]
  split
  · rfl
  · split <;> rfl

theorem firstcharLoop_eq {st : St} (h : AllRd st) (c dmax dest : Nat) :
    exec (firstcharLoop c dmax dest) st =
      .ok ((match firstIdx st.data c dest (scanLen st.data dest dmax) with
            | some i => (EOK, dest + i) | none => (ESNOTFND, 0)), st) := by
  induction dmax generalizing dest with
  | zero => simp [firstcharLoop, exec_bind, exec_load_all h, scanLen, firstIdx]
  | succ n ih =>
    simp only [firstcharLoop, exec_bind, exec_load_all h]
    by_cases h0 : st.data dest = 0
    · simp [h0, scanLen, firstIdx]
    · simp only [h0, if_false]
      rw [scanLen_succ_of_ne _ _ _ h0]
      by_cases hc : st.data dest = c
      · simp [hc, firstIdx]
      · simp only [hc, if_false, firstIdx]
        rw [ih]
        cases firstIdx st.data c (dest+1) (scanLen st.data (dest+1) n) <;> simp <;> omega

theorem lastcharLoop_eq {st : St} (h : AllRd st) (c dmax dest last : Nat) :
    exec (lastcharLoop c dmax dest last) st =
      .ok ((match lastIdx st.data c dest (scanLen st.data dest dmax) with
            | some i => dest + i | none => last), st) := by
  induction dmax generalizing dest last with
  | zero => simp [lastcharLoop, exec_bind, exec_load_all h, scanLen, lastIdx]
  | succ n ih =>
    simp only [lastcharLoop, exec_bind, exec_load_all h]
    by_cases h0 : st.data dest = 0
    · simp [h0, scanLen, lastIdx]
    · simp only [h0, if_false]
      rw [scanLen_succ_of_ne _ _ _ h0, lastIdx_front, ih]
      cases lastIdx st.data c (dest+1) (scanLen st.data (dest+1) n) with
      | some i => simp; omega
      | none => by_cases hc : st.data dest = c <;> simp [hc]

/-- the loop's test for a hit is the one `pairFirst` / `pairLast` make -/
theorem pairHit (same : Bool) (a b : Nat) :
    ((if same then a == b else a != b) = true) = ((a == b) = same) := by
  cases same <;> cases h : a == b <;> simp [bne, h]

theorem pairLoop_first_eq {st : St} (h : AllRd st) (same : Bool) (rp dmax dest src : Nat) (last : Option Nat)
    (hrp : rp ≤ dest) :
    exec (pairLoop same true rp dmax dest src last) st =
      .ok ((match pairFirst same st.data dest src dmax with
            | some i => some (dest - rp + i) | none => last), st) := by
  induction dmax generalizing dest src last with
  | zero =>
    simp only [pairLoop, exec_bind, exec_load_all h, pairFirst]
    split <;> simp [exec_bind, exec_load_all h]
  | succ n ih =>
    simp only [pairLoop, exec_bind, exec_load_all h, pairFirst]
    by_cases h0 : st.data dest = 0
    · simp [h0]
    · simp only [h0, if_false, exec_bind, exec_load_all h, false_or]
      by_cases h1 : st.data src = 0
      · simp [h1]
      · simp only [h1, if_false, pairHit, if_true]
        by_cases hh : (st.data dest == st.data src) = same
        · simp [hh]
        · have e1 : dest + 1 - rp = dest - rp + 1 := by omega
          simp only [hh, if_false]
          rw [ih _ _ _ (by omega)]
          cases pairFirst same st.data (dest+1) (src+1) n <;> simp [e1] <;> omega

theorem pairLoop_last_eq {st : St} (h : AllRd st) (same : Bool) (rp dmax dest src : Nat) (last : Option Nat)
    (hrp : rp ≤ dest) :
    exec (pairLoop same false rp dmax dest src last) st =
      .ok ((match pairLast same st.data dest src dmax with
            | some i => some (dest - rp + i) | none => last), st) := by
  induction dmax generalizing dest src last with
  | zero =>
    simp only [pairLoop, exec_bind, exec_load_all h, pairLast]
    split <;> simp [exec_bind, exec_load_all h]
  | succ n ih =>
    simp only [pairLoop, exec_bind, exec_load_all h, pairLast]
    by_cases h0 : st.data dest = 0
    · simp [h0]
    · simp only [h0, if_false, exec_bind, exec_load_all h, false_or]
      by_cases h1 : st.data src = 0
      · simp [h1]
      · simp only [h1, if_false, pairHit, Bool.false_eq_true]
        have e1 : dest + 1 - rp = dest - rp + 1 := by omega
        -- a hit or not, the loop goes on; only the remembered index differs
        by_cases hh : (st.data dest == st.data src) = same
        all_goals
          simp only [hh, if_true, if_false]
          rw [ih _ _ _ (by omega)]
          cases pairLast same st.data (dest+1) (src+1) n <;> simp [e1] <;> omega

/-- the four `str{first,last}{diff,same}_s` are `pairFn`: on valid operands of unknown object size the answer is
the first / last hit, `nohit` without one -/
theorem pairFn_eq {st : St} (hall : AllRd st) (same first : Bool) (nohit dest dmax src : Nat)
    (hd : dest ≠ 0) (hs : src ≠ 0) (hpos : 0 < dmax) (hle : dmax ≤ RSIZE_MAX_STR) :
    exec (pairFn same first nohit dest dmax src none) st =
      .ok ((match (if first then pairFirst same st.data dest src dmax else pairLast same st.data dest src dmax) with
            | some i => (EOK, i) | none => (nohit, 0)), st) := by
  unfold pairFn
  cases first
  · simp only [chkDmaxQ_ok _ _ hle, Nat.ne_of_gt hpos, hd, hs, if_false, exec_bind, Bool.false_eq_true,
      pairLoop_last_eq hall _ _ _ _ _ _ (Nat.le_refl _)]
    cases pairLast same st.data dest src dmax <;> simp
  · simp only [chkDmaxQ_ok _ _ hle, Nat.ne_of_gt hpos, hd, hs, if_false, if_true, exec_bind,
      pairLoop_first_eq hall _ _ _ _ _ _ (Nat.le_refl _)]
    cases pairFirst same st.data dest src dmax <;> simp

theorem classLoopNoBound_eq {st : St} (h : AllRd st) (ok : Nat → Bool) (fuel dest : Nat) :
    exec (classLoopNoBound ok fuel dest) st =
      .ok (allCells ok st.data dest (scanLen st.data dest fuel), st) := by
  induction fuel generalizing dest with
  | zero => simp [classLoopNoBound, scanLen, allCells]
  | succ n ih =>
    simp only [classLoopNoBound, exec_bind, exec_load_all h]
    by_cases h0 : st.data dest = 0
    · simp [h0, scanLen, allCells]
    · simp only [h0, if_false]
      rw [scanLen_succ_of_ne _ _ _ h0]
      by_cases hc : ok (st.data dest) = true
      · simp only [hc, if_true, allCells, Bool.true_and]; exact ih _
      · simp [hc, allCells]

/-- the bounded loop differs from the unbounded one only in reading `dest[dmax]` when the bound runs out -/
theorem classLoop_eq {st : St} (h : AllRd st) (ok : Nat → Bool) (dmax dest : Nat) :
    exec (classLoop ok dmax dest) st =
      .ok (allCells ok st.data dest (scanLen st.data dest dmax), st) := by
  rw [← classLoopNoBound_eq h]
  induction dmax generalizing dest with
  | zero => simp [classLoop, classLoopNoBound, exec_bind, exec_load_all h]
  | succ n ih =>
    simp only [classLoop, classLoopNoBound, exec_bind, exec_load_all h]
    by_cases h0 : st.data dest = 0
    · simp only [h0, if_true]
    · by_cases hc : ok (st.data dest) = true
      · simp only [h0, hc, if_false, if_true]
        exact ih _
      · simp only [h0, hc, Bool.false_eq_true, if_false]

theorem strprefixLoop_eq {st : St} (h : AllRd st) (dmax dest src : Nat) :
    exec (strprefixLoop dmax dest src) st =
      .ok ((if subAt id st.data dest src (scanLen st.data src dmax) = true then EOK else ESNOTFND), st) := by
  induction dmax generalizing dest src with
  | zero =>
    unfold strprefixLoop
    simp only [exec_bind, exec_load_all h, scanLen, subAt]
    split <;> simp
  | succ n ih =>
    unfold strprefixLoop
    simp only [exec_bind, exec_load_all h]
    by_cases h0 : st.data src = 0
    · simp [h0, scanLen, subAt]
    · simp only [h0, if_false, exec_bind, exec_load_all h]
      rw [scanLen_succ_of_ne _ _ _ h0]
      by_cases he : st.data dest = st.data src
      · simp only [he, ne_eq, not_true_eq_false, if_false, subAt, id, beq_self_eq_true, Bool.true_and]
        exact ih _ _
      · simp [he, subAt]

def diffIdx (d : Nat → Nat) (p q n : Nat) : Nat := (firstDiff d p q n).getD n

theorem strcmpfldLoop_eq {st : St} (h : AllRd st) (dmax dest src : Nat) :
    exec (strcmpfldLoop dmax dest src) st =
      .ok ((EOK, schar (st.data (dest + diffIdx st.data dest src dmax)) -
                 schar (st.data (src + diffIdx st.data dest src dmax))), st) := by
  induction dmax generalizing dest src with
  | zero => simp [strcmpfldLoop, strcmpTail, exec_bind, exec_load_all h, diffIdx, firstDiff]
  | succ n ih =>
    simp only [strcmpfldLoop, exec_bind, exec_load_all h]
    by_cases he : st.data dest = st.data src
    · simp only [he, ne_eq, not_true_eq_false, if_false]
      rw [ih]
      have : diffIdx st.data dest src (n+1) = diffIdx st.data (dest+1) (src+1) n + 1 := by
        simp only [diffIdx, firstDiff, he, ne_eq, not_true_eq_false, if_false]
        cases firstDiff st.data (dest+1) (src+1) n <;> simp
      rw [this]
      simp [Nat.add_assoc, Nat.add_comm 1]
    · simp [he, strcmpTail, exec_bind, exec_load_all h, diffIdx, firstDiff]

theorem strcasecmpLoop_eq {st : St} (h : AllRd st) (dmax dest src : Nat) :
    exec (strcasecmpLoop dmax dest src) st =
      .ok ((EOK, (toUpperC (st.data (dest + stopIdxF toUpperC st.data dest src dmax)) : Int) -
                 (toUpperC (st.data (src + stopIdxF toUpperC st.data dest src dmax)) : Int)), st) := by
  induction dmax generalizing dest src with
  | zero =>
    unfold strcasecmpLoop
    simp only [exec_bind, exec_load_all h, stopIdxF, Nat.add_zero]
    by_cases h0 : st.data dest = 0
    · simp [h0, strcasecmpTail, exec_bind, exec_load_all h]
    · simp only [h0, if_false, exec_bind, exec_load_all h]
      by_cases h1 : st.data src = 0 <;> simp [h1, strcasecmpTail, exec_bind, exec_load_all h]
  | succ n ih =>
    unfold strcasecmpLoop
    simp only [exec_bind, exec_load_all h, stopIdxF]
    by_cases h0 : st.data dest = 0
    · simp [h0, strcasecmpTail, exec_bind, exec_load_all h]
    · simp only [h0, if_false, exec_bind, exec_load_all h, false_or]
      by_cases h1 : st.data src = 0
      · simp [h1, strcasecmpTail, exec_bind, exec_load_all h]
      · simp only [h1, if_false, exec_bind, exec_load_all h, false_or]
        by_cases h2 : toUpperC (st.data dest) = toUpperC (st.data src)
        · simp only [h2, Int.sub_self, ne_eq, not_true_eq_false, if_false]
          rw [ih]
          simp [Nat.add_assoc, Nat.add_comm 1]
        · have : ((toUpperC (st.data dest) : Int) - (toUpperC (st.data src) : Int)) ≠ 0 := by omega
          simp [h2, this]

/-- the number of positions the loop may advance over: `min dmax smax`, also `count` for `wcsncmp_s` -/
def wcsBound (useCount : Bool) (dmax smax count : Nat) : Nat :=
  if useCount then min dmax (min smax count) else min dmax smax

theorem wcsBound_succ (useCount : Bool) (n smax count : Nat) (hs : smax ≠ 0)
    (hcnt : ¬ (useCount && count == 0) = true) :
    wcsBound useCount (n+1) smax count = wcsBound useCount n (smax-1) (count-1) + 1 := by
  cases smax with
  | zero => exact absurd rfl hs
  | succ s =>
    cases useCount
    · exact Nat.add_min_add_right n s 1
    · cases count with
      | zero => exact absurd rfl hcnt
      | succ c =>
        show min (n+1) (min (s+1) (c+1)) = min n (min s c) + 1
        rw [Nat.add_min_add_right, Nat.add_min_add_right]

theorem wcscmpLoop_eq {st : St} (h : AllRd st) (useCount : Bool) (dmax smax count dest src : Nat) :
    exec (wcscmpLoop useCount dmax smax count dest src) st =
      .ok ((dest + stopIdx st.data dest src (wcsBound useCount dmax smax count),
            src + stopIdx st.data dest src (wcsBound useCount dmax smax count)), st) := by
  induction dmax generalizing smax count dest src with
  | zero =>
    have : wcsBound useCount 0 smax count = 0 := by unfold wcsBound; split <;> omega
    simp only [wcscmpLoop, exec_bind, exec_load_all h, this, stopIdx]
    split <;> simp [exec_bind, exec_load_all h]
  | succ n ih =>
    simp only [wcscmpLoop, exec_bind, exec_load_all h]
    by_cases h0 : st.data dest = 0
    · cases hb : wcsBound useCount (n+1) smax count <;> simp [h0, stopIdx]
    · simp only [h0, if_false, exec_bind, exec_load_all h]
      by_cases h1 : st.data src = 0
      · cases hb : wcsBound useCount (n+1) smax count <;> simp [h1, stopIdx]
      · simp only [h1, if_false]
        by_cases hs : smax = 0
        · have : wcsBound useCount (n+1) smax count = 0 := by unfold wcsBound; split <;> omega
          subst hs
          simp [this, stopIdx]
        · simp only [hs, if_false]
          by_cases hcnt : (useCount && count == 0) = true
          · have : wcsBound useCount (n+1) smax count = 0 := by
              simp only [Bool.and_eq_true, beq_iff_eq] at hcnt
              unfold wcsBound; simp [hcnt.1, hcnt.2]
            simp [hcnt, this, stopIdx]
          · simp only [hcnt, Bool.false_eq_true, if_false]
            have hb := wcsBound_succ useCount n smax count hs hcnt
            by_cases he : st.data dest = st.data src
            · simp only [he, ne_eq, not_true_eq_false, if_false]
              rw [ih, hb]
              simp [stopIdx, h1, he, Nat.add_assoc, Nat.add_comm 1]
            · simp [he, hb, stopIdx, h0, h1]

/-- `wcscmp_s` / `wcsncmp_s` on valid operands of unknown object size: the `int` difference, with
wrap-around, of the two elements at which the loop stopped -/
theorem wcscmpG_eq {st : St} (hall : AllRd st) (useCount : Bool) (dest dmax src smax count : Nat)
    (hd : dest ≠ 0) (hs : src ≠ 0) (hpos : 0 < dmax) (hle : dmax ≤ RSIZE_MAX_STR)
    (hspos : 0 < smax) (hsle : smax ≤ RSIZE_MAX_WSTR) :
    exec (wcscmpG useCount dest dmax src smax count none none) st =
      .ok ((EOK, subS32 (st.data (dest + stopIdx st.data dest src (wcsBound useCount dmax smax count)))
                        (st.data (src + stopIdx st.data dest src (wcsBound useCount dmax smax count)))), st) := by
  unfold wcscmpG
  have h1 : ¬ (dmax = 0 ∨ smax = 0) := by omega
  have h2 : ¬ dmax > RSIZE_MAX_STR := by omega
  have h3 : ¬ smax > RSIZE_MAX_WSTR := by omega
  simp only [hd, hs, h1, h2, h3, if_false, exec_bind, exec_pure, wcscmpLoop_eq hall, exec_load_all hall]

theorem subS32_exact (a b : Nat) (h1 : -(2^31 : Int) ≤ toS32 a - toS32 b) (h2 : toS32 a - toS32 b < 2^31) :
    subS32 a b = toS32 a - toS32 b := by
  unfold subS32
  simp only [Int.reducePow] at h1 h2 ⊢
  generalize toS32 a - toS32 b = x at h1 h2
  by_cases hx : 0 ≤ x
  · have : x % 4294967296 = x := Int.emod_eq_of_lt hx (by omega)
    simp only [this]; split <;> omega
  · have : x % 4294967296 = x + 4294967296 := by omega
    simp only [this]; split <;> omega

theorem toInt32_diff (a b : Nat)
    (h1 : -(2^31 : Int) ≤ (a : Int) - (b : Int)) (h2 : (a : Int) - (b : Int) < 2^31) :
    toInt32 (a + 2^32 - b) = (a : Int) - (b : Int) := by
  unfold toInt32
  by_cases hab : b ≤ a
  · have e : (a + 4294967296 - b) % 4294967296 = a - b := by omega
    simp only [e, Int.ofNat_eq_natCast]
    split <;> omega
  · have e : (a + 4294967296 - b) % 4294967296 = a + 4294967296 - b := by omega
    simp only [e, Int.ofNat_eq_natCast]
    split <;> omega

end SafeC
