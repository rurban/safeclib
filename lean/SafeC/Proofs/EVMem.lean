import SafeC.Proofs.EVInplace
import SafeC.Models.Mem
/-!
# Event walks of the memory family: every primitive is `Quiet`, the `handle_mem_error` exit and the `dmax` block, then
ONE `EV` fact per entry point (`Props/C05Mem.lean` reads them as the C05 statement, `Props/C05Docs.lean` as the codes returned)
-/
namespace SafeC.Props.C05Mem
open SafeC Gen Mem SafeC.Props.C05Ev SafeC.Props.C05Docs

theorem q_storeByte (w v a r : Nat) : Quiet (storeByte w v a r) := by unfold storeByte; quiet
theorem q_memsetBytes (w v d n : Nat) : Quiet (memsetBytes w v d n) := by unfold memsetBytes; quiet
theorem q_setPrologue (w v n d : Nat) : Quiet (setPrologue w v n d) := by
  induction n generalizing d with
  | zero => unfold setPrologue; quiet
  | succ n ih => unfold setPrologue; quiet using ih, q_storeByte
theorem q_setWords (w v k lp : Nat) : Quiet (setWords w v k lp) := by
  induction k generalizing lp with
  | zero => unfold setWords; quiet
  | succ k ih => unfold setWords; quiet using ih
theorem q_setBlocks (w v q lp : Nat) : Quiet (setBlocks w v q lp) := by
  induction q generalizing lp with
  | zero => unfold setBlocks; quiet
  | succ q ih => unfold setBlocks; quiet using ih, q_setWords
theorem q_setTail (w v n d : Nat) : Quiet (setTail w v n d) := by
  induction n generalizing d with
  | zero => unfold setTail; quiet
  | succ n ih => unfold setTail; quiet using ih, q_storeByte
theorem q_mem_prim_set (w d len v : Nat) : Quiet (mem_prim_set w d len v) := by
  unfold mem_prim_set; quiet using q_setPrologue, q_setBlocks, q_setWords, q_setTail
theorem q_setElems (v k d : Nat) : Quiet (setElems v k d) := by
  induction k generalizing d with
  | zero => unfold setElems; quiet
  | succ k ih => unfold setElems; quiet using ih
theorem q_setElemBlocks (v q d : Nat) : Quiet (setElemBlocks v q d) := by
  induction q generalizing d with
  | zero => unfold setElemBlocks; quiet
  | succ q ih => unfold setElemBlocks; quiet using ih, q_setElems
theorem q_primSetElems (d len v : Nat) : Quiet (primSetElems d len v) := by
  unfold primSetElems; quiet using q_setElemBlocks, q_setElems
theorem q_mem_prim_set16 (d len v : Nat) : Quiet (mem_prim_set16 d len v) := q_primSetElems _ _ _
theorem q_mem_prim_set32 (d len v : Nat) : Quiet (mem_prim_set32 d len v) := q_primSetElems _ _ _
theorem q_copyFwd (n d s : Nat) : Quiet (copyFwd n d s) := by
  induction n generalizing d s with
  | zero => unfold copyFwd; quiet
  | succ n ih => unfold copyFwd; quiet using ih
theorem q_copyBwd (n d s : Nat) : Quiet (copyBwd n d s) := by
  induction n generalizing d s with
  | zero => unfold copyBwd; quiet
  | succ n ih => unfold copyBwd; quiet using ih
theorem q_loadCells (n a : Nat) : Quiet (loadCells n a) := by
  induction n generalizing a with
  | zero => unfold loadCells; quiet
  | succ n ih => unfold loadCells; quiet using ih
theorem q_storeCells (cs : List Nat) (a : Nat) : Quiet (storeCells cs a) := by
  induction cs generalizing a with
  | nil => unfold storeCells; quiet
  | cons c cs ih => unfold storeCells; quiet using ih
theorem q_copyWord (d s : Nat) : Quiet (copyWord d s) := by
  unfold copyWord; quiet using q_loadCells, q_storeCells
theorem q_wordsFwd (n d s : Nat) : Quiet (wordsFwd n d s) := by
  induction n generalizing d s with
  | zero => unfold wordsFwd; quiet
  | succ n ih => unfold wordsFwd; quiet using q_copyWord, ih
theorem q_wordsBwd (n d s : Nat) : Quiet (wordsBwd n d s) := by
  induction n generalizing d s with
  | zero => unfold wordsBwd; quiet
  | succ n ih => unfold wordsBwd; quiet using q_copyWord, ih
theorem q_moveFwdAlign (d s len : Nat) : Quiet (moveFwdAlign d s len) := by
  unfold moveFwdAlign; quiet using q_copyFwd
theorem q_moveBwdAlign (d s len : Nat) : Quiet (moveBwdAlign d s len) := by
  unfold moveBwdAlign; quiet using q_copyBwd
theorem q_mem_prim_move (d s len : Nat) : Quiet (mem_prim_move d s len) := by
  unfold mem_prim_move
  quiet using q_moveFwdAlign, q_moveBwdAlign, q_wordsFwd, q_wordsBwd, q_copyFwd, q_copyBwd
theorem q_moveBlocksFwd (q d s : Nat) : Quiet (moveBlocksFwd q d s) := by
  induction q generalizing d s with
  | zero => unfold moveBlocksFwd; quiet
  | succ q ih => unfold moveBlocksFwd; quiet using ih, q_copyFwd
theorem q_moveBlocksBwd (q d s : Nat) : Quiet (moveBlocksBwd q d s) := by
  induction q generalizing d s with
  | zero => unfold moveBlocksBwd; quiet
  | succ q ih => unfold moveBlocksBwd; quiet using ih, q_copyBwd
theorem q_primMoveElems (d s len : Nat) : Quiet (primMoveElems d s len) := by
  unfold primMoveElems
  quiet using q_moveBlocksFwd, q_moveBlocksBwd, q_copyFwd, q_copyBwd
theorem q_mem_prim_move16 (d s len : Nat) : Quiet (mem_prim_move16 d s len) := q_primMoveElems _ _ _
theorem q_mem_prim_move32 (d s len : Nat) : Quiet (mem_prim_move32 d s len) := q_primMoveElems _ _ _

theorem handleMemErrorB_ret_in {S : List Nat} (w d len code : Nat) (hS : code ∈ S := by decide) (hc : code ≠ EOK := by decide) :
    EV (do handleMemErrorB w d len code; pure code : Prog Nat) (OnceIn S .mem) :=
  EV.bind (Q := fun _ es => es = [.handler .mem code]) (Quiet.then_ (q_memsetBytes ..) fun _ => EV.handlerM code)
    fun _ _ he => he ▸ .pure _ (.inr ⟨hS, hc, rfl⟩)

theorem chkDmaxMemB_ev {R : Nat → List Event → Prop} (dmax : Nat) (destbos : Bos) (max : Nat) {k : Option Nat → Prog Nat}
    (hl : EV (failM ESLEMAX) R) (ho : EV (failM EOVERFLOW) R) (hk : ∀ b, EV (k b) R) :
    EV (chkDmaxMemB dmax destbos max k) R :=
  EV.optMatch destbos (.ite hl (hk _)) fun _ => .ite (.ite hl ho) (hk _)

theorem chkDmaxMemB_in {S : List Nat} (dmax : Nat) (destbos : Bos) (max : Nat) {k : Option Nat → Prog Nat}
    (hk : ∀ b, EV (k b) (OnceIn S .mem)) (h1 : ESLEMAX ∈ S := by decide) (h2 : EOVERFLOW ∈ S := by decide) :
    EV (chkDmaxMemB dmax destbos max k) (OnceIn S .mem) :=
  chkDmaxMemB_ev _ _ _ (failM_in _ h1) (failM_in _ h2) hk

theorem memcpy_s_ev (dest dmax src slen : Nat) (db sb : Bos) : EV (memcpy_s dest dmax src slen db sb) (OnceIn SM .mem) :=
  .ite eok_in <| .ite (failM_in _) <| .ite (failM_in _) <| chkDmaxMemB_in _ _ _ fun _ =>
    .ite (handleMemErrorB_ret_in ..) <| .ite (handleMemErrorB_ret_in _ _ _ _ (by split <;> decide) (by split <;> decide)) <|
      .ite (failM_in _) <| .ite (Quiet.then_ (q_mem_prim_set ..) fun _ => failM_in _) <|
        Quiet.then_ (q_mem_prim_move ..) fun _ => eok_in
theorem memmove_s_ev (dest dmax src slen : Nat) (db sb : Bos) : EV (memmove_s dest dmax src slen db sb) (OnceIn SChkNospc .mem) :=
  .ite eok_in <| .ite (failM_in _) <| .ite (failM_in _) <| chkDmaxMemB_in _ _ _ fun _ =>
    .ite (handleMemErrorB_ret_in ..) <| .ite (handleMemErrorB_ret_in _ _ _ _ (by split <;> decide) (by split <;> decide)) <|
      .ite (failM_in _) <| Quiet.then_ (q_mem_prim_move ..) fun _ => eok_in
/-- the `n > dmax` exit reports first, then fills what fits, then returns the reported code -/
theorem memset_s_ev (dest dmax value n : Nat) (db : Bos) : EV (memset_s dest dmax value n db) (OnceIn SSet .mem) :=
  .ite (failM_in _) <| .ite eok_in <| chkDmaxMemB_in _ _ _ fun _ => .ite (failM_in _) <|
    .ite ((EV.handlerM _).bind fun _ _ he => he ▸ Quiet.then_ (q_mem_prim_set ..) fun _ =>
        .pure _ (.inr ⟨by split <;> decide, by split <;> decide, rfl⟩))
      (Quiet.then_ (q_mem_prim_set ..) fun _ => eok_in)
theorem memzero_s_ev (dest len : Nat) (db : Bos) : EV (memzero_s dest len db) (OnceIn SChk .mem) :=
  .ite (failM_in _) <| .ite (failM_in _) <| chkDmaxMemB_in _ _ _ fun _ => Quiet.then_ (q_memsetBytes ..) fun _ => eok_in
theorem memzero16_s_ev (dest len : Nat) (db : Bos) : EV (memzero16_s dest len db) (OnceIn SChk .mem) :=
  .ite (failM_in _) <| .ite (failM_in _) <| chkDmaxMemB_in _ _ _ fun _ => Quiet.then_ (q_mem_prim_set16 ..) fun _ => eok_in
theorem memzero32_s_ev (dest len : Nat) (db : Bos) : EV (memzero32_s dest len db) (OnceIn SChk .mem) :=
  .ite (failM_in _) <| .ite (failM_in _) <| chkDmaxMemB_in _ _ _ fun _ => Quiet.then_ (q_mem_prim_set32 ..) fun _ => eok_in
theorem memset16_s_ev (dest dmax value n : Nat) (db : Bos) : EV (memset16_s dest dmax value n db) (OnceIn SSet .mem) :=
  .ite (failM_in _) <| .ite eok_in <| chkDmaxMemB_in _ _ _ fun _ =>
    .ite ((EV.handlerM _).bind fun _ _ he => he ▸ Quiet.then_ (q_mem_prim_set16 ..) fun _ =>
        .pure _ (.inr ⟨by split <;> decide, by split <;> decide, rfl⟩))
      (Quiet.then_ (q_mem_prim_set16 ..) fun _ => eok_in)
theorem memset32_s_ev (dest dmax value n : Nat) (db : Bos) : EV (memset32_s dest dmax value n db) (OnceIn SSet .mem) :=
  .ite (failM_in _) <| .ite eok_in <| chkDmaxMemB_in _ _ _ fun _ =>
    .ite ((EV.handlerM _).bind fun _ _ he => he ▸ Quiet.then_ (q_mem_prim_set32 ..) fun _ =>
        .pure _ (.inr ⟨by split <;> decide, by split <;> decide, rfl⟩))
      (Quiet.then_ (q_mem_prim_set32 ..) fun _ => eok_in)
theorem memcpy16_s_ev (dest dmax src slen : Nat) (db sb : Bos) : EV (memcpy16_s dest dmax src slen db sb) (OnceIn SM .mem) :=
  .ite eok_in <| .ite (failM_in _) <| .ite (failM_in _) <| chkDmaxMemB_in _ _ _ fun _ =>
    .ite (handleMemErrorB_ret_in ..) <| .ite (handleMemErrorB_ret_in _ _ _ _ (by split <;> decide) (by split <;> decide)) <|
      .ite (failM_in _) <| .ite (Quiet.then_ (q_mem_prim_set ..) fun _ => failM_in _) <|
        Quiet.then_ (q_mem_prim_move16 ..) fun _ => eok_in
theorem memcpy32_s_ev (dest dmax src slen : Nat) (db sb : Bos) : EV (memcpy32_s dest dmax src slen db sb) (OnceIn SM .mem) :=
  .ite eok_in <| .ite (failM_in _) <| .ite (failM_in _) <| chkDmaxMemB_in _ _ _ fun _ =>
    .ite (handleMemErrorB_ret_in ..) <| .ite (handleMemErrorB_ret_in _ _ _ _ (by split <;> decide) (by split <;> decide)) <|
      .ite (failM_in _) <| .ite (Quiet.then_ (q_mem_prim_set ..) fun _ => failM_in _) <|
        Quiet.then_ (q_mem_prim_move32 ..) fun _ => eok_in
theorem memmove16_s_ev (dest dmax src slen : Nat) (db sb : Bos) : EV (memmove16_s dest dmax src slen db sb) (OnceIn SChkNospc .mem) :=
  .ite eok_in <| .ite (failM_in _) <| .ite (failM_in _) <| chkDmaxMemB_in _ _ _ fun _ =>
    .ite (handleMemErrorB_ret_in ..) <| .ite (handleMemErrorB_ret_in _ _ _ _ (by split <;> decide) (by split <;> decide)) <|
      .ite (failM_in _) <| Quiet.then_ (q_mem_prim_move16 ..) fun _ => eok_in
theorem memmove32_s_ev (dest dmax src slen : Nat) (db sb : Bos) : EV (memmove32_s dest dmax src slen db sb) (OnceIn SChkNospc .mem) :=
  .ite eok_in <| .ite (failM_in _) <| .ite (failM_in _) <| chkDmaxMemB_in _ _ _ fun _ =>
    .ite (handleMemErrorB_ret_in ..) <| .ite (handleMemErrorB_ret_in _ _ _ _ (by split <;> decide) (by split <;> decide)) <|
      .ite (failM_in _) <| Quiet.then_ (q_mem_prim_move32 ..) fun _ => eok_in
theorem wmemcpy_s_ev (dest dlen src count : Nat) (db sb : Bos) : EV (wmemcpy_s dest dlen src count db sb) (OnceIn SM .mem) :=
  .ite eok_in <| .ite (failM_in _) <| .ite (failM_in _) <| chkDmaxMemB_in _ _ _ fun _ =>
    .ite (handleMemErrorB_ret_in ..) <| .ite (handleMemErrorB_ret_in _ _ _ _ (by split <;> decide) (by split <;> decide)) <|
      .ite (Quiet.then_ (q_mem_prim_set32 ..) fun _ => failM_in _) <|
        .ite (Quiet.then_ (q_mem_prim_set32 ..) fun _ => failM_in _) <| Quiet.then_ (q_mem_prim_move32 ..) fun _ => eok_in
theorem wmemmove_s_ev (dest dlen src count : Nat) (db sb : Bos) : EV (wmemmove_s dest dlen src count db sb) (OnceIn SChkNospc .mem) :=
  .ite eok_in <| .ite (failM_in _) <| .ite (failM_in _) <| chkDmaxMemB_in _ _ _ fun _ =>
    .ite (handleMemErrorB_ret_in ..) <| .ite (handleMemErrorB_ret_in _ _ _ _ (by split <;> decide) (by split <;> decide)) <|
      .ite (Quiet.then_ (q_mem_prim_set32 ..) fun _ => failM_in _) <| Quiet.then_ (q_mem_prim_move32 ..) fun _ => eok_in

/-! ## memccpy_s: one report with the returned code, but the handler KIND is not always `mem` -/

def OnceAny (r : Nat) (es : List Event) : Prop :=
  (r = EOK ∧ es = []) ∨ (r ≠ EOK ∧ ∃ k, es = [.handler k r])

theorem OnceIn.any {S : List Nat} {k : Kind} {r : Nat} {es : List Event} (h : OnceIn S k r es) : OnceAny r es :=
  h.imp id fun h => ⟨h.2.1, k, h.2.2⟩

theorem _root_.SafeC.EV.any {S : List Nat} {k : Kind} {p : Prog Nat} (h : EV p (OnceIn S k)) : EV p OnceAny := h.conseq fun _ _ => OnceIn.any

theorem memccpyLoop_ev (cfg : Cfg) (c : Int) (od om n dp sp k : Nat) :
    EV (memccpyLoop cfg c od om n dp sp k) OnceAny := by
  have ok : EV (pure EOK : Prog Nat) OnceAny := .pure _ (.inl ⟨rfl, rfl⟩)
  induction n generalizing dp sp k with
  | zero => exact (handleError_ret_in (S := [ESNOSPC]) cfg od om ESNOSPC).any
  | succ n ih =>
    exact .ite (Quiet.then_ (.storeP ..) fun _ => ok) <|
      Quiet.then_ (.loadP _) fun _ => Quiet.then_ (.storeP ..) fun _ => Quiet.then_ (.loadP _) fun _ =>
        .ite (.ite (Quiet.then_ (q_mem_prim_set ..) fun _ => ok) ok) (ih ..)

theorem memccpy_s_ev (cfg : Cfg) (dest dmax src c n : Nat) (db sb : Bos) :
    EV (memccpy_s cfg dest dmax src c n db sb) OnceAny :=
  have fail (c : Nat) (hc : c ≠ EOK := by decide) : EV (failM c) OnceAny := (failM_in (S := [c]) c (.head _) hc).any
  have clear (c : Nat) (hc : c ≠ EOK := by decide) : EV (do handleMemErrorB 1 dest dmax c; pure c : Prog Nat) OnceAny :=
    (handleMemErrorB_ret_in (S := [c]) _ _ _ c (.head _) hc).any
  .ite (fail _) <| .ite (fail _) <| chkDmaxMemB_ev _ _ _ (fail _) (fail _) fun _ =>
    .ite (Quiet.then_ (.storeP ..) fun _ => .pure _ (.inl ⟨rfl, rfl⟩)) <| .ite (clear _) <|
      .ite (clear _ (ite_ne_EOK ne_ESLEMAX ne_ESNOSPC)) <|
      .ite (Quiet.then_ (q_mem_prim_set ..) fun _ => fail _) (memccpyLoop_ev ..)

end SafeC.Props.C05Mem
