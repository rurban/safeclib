import SafeC.Models.Norm
/-!
# C17 — `reorderLoop` computes the Unicode Canonical Ordering (UAX #15, Unicode Standard D108 / D109)

The specification function `reorderPure k` is `foldr` of one bubble pass (`bubble`), each exchange being the exchange of a
Reorderable pair (D108).  For ALL lists (any length) it is THE canonical ordering of its input (reachable by exchanges of
reorderable pairs, no reorderable pair left; any other such list is equal to it: `reorderPure_isCanonicalOrdering`,
`canonicalOrdering_unique`), and the model of the C loop returns it (`reorderLoop_eq_pure`, by `reorderLoop_gen` with a pending run).

Core Lean only (no Mathlib): `CanonOrdered` is stated as "no decomposition `l1 ++ a :: b :: l2` has `Reorderable a b`" (the `Chain'`
formulation is not in core); `canonOrdered_cons_cons` gives the chain-style unfolding.
-/
namespace SafeC.Norm

/-- D108 Reorderable pair: adjacent A, B with ccc(A) > ccc(B) > 0 -/
def Reorderable (k : Nat → Nat) (a b : Nat) : Prop := k a > k b ∧ k b > 0

instance (k : Nat → Nat) (a b : Nat) : Decidable (Reorderable k a b) := by
  unfold Reorderable; infer_instance

/-- one exchange of a reorderable pair (D109) -/
inductive SwapStep (k : Nat → Nat) : List Nat → List Nat → Prop
  | swap (l : List Nat) (a b : Nat) (r : List Nat) :
      Reorderable k a b → SwapStep k (l ++ a :: b :: r) (l ++ b :: a :: r)

/-- reflexive-transitive closure (the constructors of Mathlib's `Relation.ReflTransGen`) -/
inductive ReflTransGen {α : Type} (r : α → α → Prop) (a : α) : α → Prop
  | refl : ReflTransGen r a a
  | tail {b c : α} : ReflTransGen r a b → r b c → ReflTransGen r a c

def CanonOrdered (k : Nat → Nat) (l : List Nat) : Prop :=
  ∀ l1 a b l2, l = l1 ++ a :: b :: l2 → ¬ Reorderable k a b

def IsCanonicalOrdering (k : Nat → Nat) (xs ys : List Nat) : Prop :=
  ReflTransGen (SwapStep k) xs ys ∧ CanonOrdered k ys

def bubble (k : Nat → Nat) (c : Nat) : List Nat → List Nat
  | [] => [c]
  | y :: ys => if Reorderable k c y then y :: bubble k c ys else c :: y :: ys

/-- the specification: every maximal run of non-starters stably sorted by class, starters in place -/
def reorderPure (k : Nat → Nat) : List Nat → List Nat
  | [] => []
  | c :: rest => bubble k c (reorderPure k rest)

theorem ReflTransGen.single {α : Type} {r : α → α → Prop} {a b : α} (h : r a b) : ReflTransGen r a b :=
  .tail .refl h

theorem ReflTransGen.trans {α : Type} {r : α → α → Prop} {a b c : α}
    (h1 : ReflTransGen r a b) (h2 : ReflTransGen r b c) : ReflTransGen r a c := by
  induction h2 with
  | refl => exact h1
  | tail _ s ih => exact .tail ih s

theorem SwapStep.cons {k : Nat → Nat} (x : Nat) {l l' : List Nat} (h : SwapStep k l l') :
    SwapStep k (x :: l) (x :: l') := by
  cases h with
  | swap l a b r hr => exact SwapStep.swap (x :: l) a b r hr

theorem swaps_cons {k : Nat → Nat} (x : Nat) {l l' : List Nat} (h : ReflTransGen (SwapStep k) l l') :
    ReflTransGen (SwapStep k) (x :: l) (x :: l') := by
  induction h with
  | refl => exact .refl
  | tail _ s ih => exact .tail ih (s.cons x)

/-- a quantity that no exchange of a Reorderable pair changes is the same at both ends of a sequence of exchanges; hence canonical
ordering does not change it (`reorderPure_inv`): this is how permutation, fixed starters and stability are obtained -/
theorem swaps_inv {β : Type} {k : Nat → Nat} (f : List Nat → β)
    (hf : ∀ l a b r, Reorderable k a b → f (l ++ a :: b :: r) = f (l ++ b :: a :: r)) {xs ys : List Nat}
    (h : ReflTransGen (SwapStep k) xs ys) : f xs = f ys := by
  induction h with
  | refl => rfl
  | tail _ s ih => cases s with | swap l a b r hr => exact ih.trans (hf l a b r hr)

theorem swaps_perm {k : Nat → Nat} {xs ys : List Nat} (h : ReflTransGen (SwapStep k) xs ys) : ys.Perm xs := by
  induction h with
  | refl => exact .refl _
  | tail _ s ih =>
    cases s with
    | swap l a b r hr => exact ((List.Perm.swap a b r).append_left l).trans ih

theorem canonOrdered_nil (k : Nat → Nat) : CanonOrdered k [] := by
  intro l1 a b l2 h; cases l1 <;> simp at h

theorem canonOrdered_single (k : Nat → Nat) (a : Nat) : CanonOrdered k [a] := by
  intro l1 a b l2 h
  cases l1 with
  | nil => simp at h
  | cons x l1 => cases l1 <;> simp at h

theorem CanonOrdered.tail {k : Nat → Nat} {a : Nat} {l : List Nat} (h : CanonOrdered k (a :: l)) :
    CanonOrdered k l := by
  intro l1 x y l2 e
  exact h (a :: l1) x y l2 (by rw [e]; rfl)

theorem canonOrdered_cons_cons (k : Nat → Nat) (a b : Nat) (l : List Nat) :
    CanonOrdered k (a :: b :: l) ↔ ¬ Reorderable k a b ∧ CanonOrdered k (b :: l) := by
  constructor
  · intro h
    exact ⟨h [] a b l rfl, h.tail⟩
  · rintro ⟨h1, h2⟩ l1 x y l2 e
    cases l1 with
    | nil =>
      obtain ⟨rfl, rfl, _⟩ := e
      exact h1
    | cons z l1 =>
      simp at e
      exact h2 l1 x y l2 e.2

theorem bubble_not_reorderable {k : Nat → Nat} {c y : Nat} {ys : List Nat} (h : ¬ Reorderable k c y) :
    bubble k c (y :: ys) = c :: y :: ys := by
  simp [bubble, h]

theorem bubble_starter {k : Nat → Nat} {c : Nat} (h : k c = 0) (l : List Nat) : bubble k c l = c :: l := by
  cases l with
  | nil => rfl
  | cons y ys => apply bubble_not_reorderable; unfold Reorderable; omega

theorem bubble_swaps (k : Nat → Nat) (c : Nat) (l : List Nat) :
    ReflTransGen (SwapStep k) (c :: l) (bubble k c l) := by
  induction l with
  | nil => exact .refl
  | cons y ys ih =>
    unfold bubble
    split
    · next h =>
      exact (ReflTransGen.single (SwapStep.swap [] c y ys h)).trans (swaps_cons y ih)
    · exact .refl

theorem bubble_length (k : Nat → Nat) (c : Nat) (l : List Nat) : (bubble k c l).length = l.length + 1 := by
  simpa using (swaps_perm (bubble_swaps k c l)).length_eq

/-- a bubble pass keeps a list free of reorderable pairs; second part (needed for the induction): the new head is `c` or
the old head of `l`, so whatever `z` is not reorderable before both of them is not reorderable before the new head -/
theorem bubble_canon {k : Nat → Nat} (c : Nat) {l : List Nat} (h : CanonOrdered k l) :
    CanonOrdered k (bubble k c l) ∧
      ∀ z, ¬ Reorderable k z c → (∀ y ys, l = y :: ys → ¬ Reorderable k z y) →
        ∀ w ws, bubble k c l = w :: ws → ¬ Reorderable k z w := by
  induction l with
  | nil =>
    refine ⟨canonOrdered_single k c, ?_⟩
    intro z hz _ w ws e
    simp [bubble] at e
    rw [← e.1]; exact hz
  | cons y ys ih =>
    have ih := ih h.tail
    unfold bubble
    split
    · next hr =>
      constructor
      · -- y :: bubble c ys
        cases hb : bubble k c ys with
        | nil => exact canonOrdered_single k y
        | cons w ws =>
          rw [canonOrdered_cons_cons]
          refine ⟨?_, hb ▸ ih.1⟩
          apply ih.2 y _ _ w ws hb
          · unfold Reorderable at *; omega
          · intro y' ys' e
            subst e
            exact ((canonOrdered_cons_cons k y y' ys').1 h).1
      · intro z _ hz w ws e
        simp at e
        rw [← e.1]
        exact hz y ys rfl
    · next hr =>
      constructor
      · rw [canonOrdered_cons_cons]; exact ⟨hr, h⟩
      · intro z hz _ w ws e
        simp at e
        rw [← e.1]; exact hz

theorem bubble_append_starter {k : Nat → Nat} {s : Nat} (hs : k s = 0) (c : Nat) (l1 l2 : List Nat) :
    bubble k c (l1 ++ s :: l2) = bubble k c l1 ++ s :: l2 := by
  induction l1 with
  | nil =>
    have : ¬ Reorderable k c s := by unfold Reorderable; omega
    simp [bubble, this]
  | cons y ys ih =>
    simp only [List.cons_append, bubble]
    split
    · simp [ih]
    · rfl

theorem bubble_comm {k : Nat → Nat} {a b : Nat} (h : Reorderable k a b) (l : List Nat) :
    bubble k a (bubble k b l) = bubble k b (bubble k a l) := by
  have hba : ¬ Reorderable k b a := by unfold Reorderable at *; omega
  induction l with
  | nil => simp [bubble, h, hba]
  | cons y ys ih =>
    by_cases hby : Reorderable k b y
    · have hay : Reorderable k a y := by unfold Reorderable at *; omega
      simp [bubble, hby, hay, ih]
    · by_cases hay : Reorderable k a y
      · simp [bubble, hby, hay, h]
      · simp [bubble, hby, hay, h, hba]

theorem bubble_congr {k k' : Nat → Nat} {c : Nat} {l : List Nat} (hc : k c = k' c) (hl : ∀ x ∈ l, k x = k' x) :
    bubble k c l = bubble k' c l := by
  induction l with
  | nil => rfl
  | cons y ys ih =>
    have hy : k y = k' y := hl y (by simp)
    have : Reorderable k c y ↔ Reorderable k' c y := by unfold Reorderable; rw [hc, hy]
    simp only [bubble, this, ih (fun x hx => hl x (by simp [hx]))]

theorem reorderPure_swaps (k : Nat → Nat) (xs : List Nat) : ReflTransGen (SwapStep k) xs (reorderPure k xs) := by
  induction xs with
  | nil => exact .refl
  | cons c rest ih => exact (swaps_cons c ih).trans (bubble_swaps k c _)

theorem reorderPure_canonOrdered (k : Nat → Nat) (xs : List Nat) : CanonOrdered k (reorderPure k xs) := by
  induction xs with
  | nil => exact canonOrdered_nil k
  | cons c rest ih => exact (bubble_canon c ih).1

theorem reorderPure_isCanonicalOrdering (k : Nat → Nat) (xs : List Nat) :
    IsCanonicalOrdering k xs (reorderPure k xs) :=
  ⟨reorderPure_swaps k xs, reorderPure_canonOrdered k xs⟩

theorem reorderPure_inv {β : Type} {k : Nat → Nat} (f : List Nat → β)
    (hf : ∀ l a b r, Reorderable k a b → f (l ++ a :: b :: r) = f (l ++ b :: a :: r)) (xs : List Nat) :
    f (reorderPure k xs) = f xs :=
  (swaps_inv f hf (reorderPure_swaps k xs)).symm

theorem reorderPure_perm (k : Nat → Nat) (xs : List Nat) : (reorderPure k xs).Perm xs := swaps_perm (reorderPure_swaps k xs)

theorem reorderPure_length (k : Nat → Nat) (xs : List Nat) : (reorderPure k xs).length = xs.length :=
  (reorderPure_perm k xs).length_eq

theorem reorderPure_mem {k : Nat → Nat} {xs : List Nat} {x : Nat} : x ∈ reorderPure k xs ↔ x ∈ xs :=
  (reorderPure_perm k xs).mem_iff

/-- starters (class 0) keep their positions, and every position of a non-starter holds a non-starter -/
theorem reorderPure_starters_fixed (k : Nat → Nat) (xs : List Nat) :
    (reorderPure k xs).map (fun c => if k c = 0 then some c else none)
      = xs.map (fun c => if k c = 0 then some c else none) := by
  refine reorderPure_inv (List.map _) (fun l a b r hr => ?_) xs
  have : k a ≠ 0 ∧ k b ≠ 0 := by unfold Reorderable at hr; omega
  simp only [List.map_append, List.map_cons, this.1, this.2, if_false]

/-- stability: the characters of one class keep their relative order -/
theorem reorderPure_filter_class (k : Nat → Nat) (n : Nat) (xs : List Nat) :
    (reorderPure k xs).filter (fun c => k c = n) = xs.filter (fun c => k c = n) := by
  refine reorderPure_inv (List.filter _) (fun l a b r hr => ?_) xs
  have : k a ≠ n ∨ k b ≠ n := by unfold Reorderable at hr; omega
  rcases this with h | h <;> simp [List.filter_cons, h]

theorem reorderPure_append_starter {k : Nat → Nat} {s : Nat} (hs : k s = 0) (xs ys : List Nat) :
    reorderPure k (xs ++ s :: ys) = reorderPure k xs ++ s :: reorderPure k ys := by
  induction xs with
  | nil => simp [reorderPure, bubble_starter hs]
  | cons c rest ih => simp only [List.cons_append, reorderPure, ih, bubble_append_starter hs]

theorem reorderPure_congr {k k' : Nat → Nat} {xs : List Nat} (h : ∀ x ∈ xs, k x = k' x) :
    reorderPure k xs = reorderPure k' xs := by
  induction xs with
  | nil => rfl
  | cons c rest ih =>
    have ih := ih (fun x hx => h x (by simp [hx]))
    simp only [reorderPure, ih]
    apply bubble_congr (h c (by simp))
    intro x hx
    exact h x (by simp [reorderPure_mem.1 hx])

theorem reorderPure_of_canonOrdered {k : Nat → Nat} {l : List Nat} (h : CanonOrdered k l) : reorderPure k l = l := by
  induction l with
  | nil => rfl
  | cons a l ih =>
    rw [reorderPure, ih h.tail]
    cases l with
    | nil => rfl
    | cons b l => exact bubble_not_reorderable ((canonOrdered_cons_cons k a b l).1 h).1

theorem reorderPure_idem (k : Nat → Nat) (xs : List Nat) : reorderPure k (reorderPure k xs) = reorderPure k xs :=
  reorderPure_of_canonOrdered (reorderPure_canonOrdered k xs)

theorem reorderPure_swaps_eq {k : Nat → Nat} {l l' : List Nat} (h : ReflTransGen (SwapStep k) l l') :
    reorderPure k l = reorderPure k l' := by
  refine swaps_inv (reorderPure k) (fun l a b r hr => ?_) h
  induction l with
  | nil => simp only [List.nil_append, reorderPure]; exact bubble_comm hr _
  | cons x l ih => simp only [List.cons_append, reorderPure, ih]

theorem isCanonicalOrdering_eq_pure {k : Nat → Nat} {xs ys : List Nat} (h : IsCanonicalOrdering k xs ys) :
    ys = reorderPure k xs := by
  rw [reorderPure_swaps_eq h.1, reorderPure_of_canonOrdered h.2]

theorem canonicalOrdering_unique {k : Nat → Nat} {xs ys zs : List Nat}
    (hy : IsCanonicalOrdering k xs ys) (hz : IsCanonicalOrdering k xs zs) : ys = zs := by
  rw [isCanonicalOrdering_eq_pure hy, isCanonicalOrdering_eq_pure hz]

/-- the records of a pending run, in arrival order, `pos` = arrival index (from `i`) -/
def mkSeq (k : Nat → Nat) (i : Nat) : List Nat → List CC
  | [] => []
  | c :: r => ⟨k c, c, i⟩ :: mkSeq k (i + 1) r

theorem mkSeq_length (k : Nat → Nat) (i : Nat) (r : List Nat) : (mkSeq k i r).length = r.length := by
  induction r generalizing i with
  | nil => rfl
  | cons c r ih => simp [mkSeq, ih]

theorem mkSeq_append_single (k : Nat → Nat) (i : Nat) (r : List Nat) (c : Nat) :
    mkSeq k i (r ++ [c]) = mkSeq k i r ++ [⟨k c, c, i + r.length⟩] := by
  induction r generalizing i with
  | nil => simp [mkSeq]
  | cons x r ih => simp [mkSeq, ih]; omega

theorem mem_mkSeq {k : Nat → Nat} {i : Nat} {r : List Nat} {y : CC} (h : y ∈ mkSeq k i r) :
    y.cc = k y.cp ∧ i ≤ y.pos ∧ y.cp ∈ r := by
  induction r generalizing i with
  | nil => simp [mkSeq] at h
  | cons c r ih =>
    simp only [mkSeq, List.mem_cons] at h
    rcases h with rfl | h
    · simp
    · have := ih h
      refine ⟨this.1, by omega, by simp [this.2.2]⟩

theorem mem_insertCC {x y : CC} {s : List CC} : y ∈ insertCC x s ↔ y = x ∨ y ∈ s := by
  induction s with
  | nil => simp [insertCC]
  | cons z s ih =>
    unfold insertCC
    split
    · simp
    · simp [ih]; grind

theorem mem_sortCC {y : CC} {s : List CC} : y ∈ sortCC s ↔ y ∈ s := by
  induction s with
  | nil => simp [sortCC]
  | cons z s ih => simp [sortCC, mem_insertCC, ih]

/-- inserting a record that arrived before all of `s` is one bubble pass on the code points -/
theorem insertCC_map_cp {k : Nat → Nat} {x : CC} {s : List CC} (hx : x.cc = k x.cp)
    (hs : ∀ y ∈ s, y.cc = k y.cp ∧ y.cc ≠ 0 ∧ x.pos ≤ y.pos) :
    (insertCC x s).map (·.cp) = bubble k x.cp (s.map (·.cp)) := by
  induction s with
  | nil => rfl
  | cons y s ih =>
    have hy := hs y (by simp)
    have ih := ih (fun z hz => hs z (by simp [hz]))
    have : leCC x y = true ↔ ¬ Reorderable k x.cp y.cp := by
      unfold leCC Reorderable
      simp only [Bool.or_eq_true, Bool.and_eq_true, decide_eq_true_eq, beq_iff_eq]
      omega
    unfold insertCC
    by_cases hle : leCC x y = true
    · simp [hle, bubble, this.1 hle]
    · have hr : Reorderable k x.cp y.cp := Classical.not_not.1 (fun h => hle (this.2 h))
      simp [hle, bubble, hr, ih]

theorem sortCC_mkSeq {k : Nat → Nat} (i : Nat) {r : List Nat} (hr : ∀ c ∈ r, k c ≠ 0) :
    (sortCC (mkSeq k i r)).map (·.cp) = reorderPure k r := by
  induction r generalizing i with
  | nil => rfl
  | cons c r ih =>
    have ih := ih (i + 1) (fun x hx => hr x (by simp [hx]))
    simp only [mkSeq, sortCC, reorderPure]
    rw [insertCC_map_cp (k := k) rfl, ih]
    intro y hy
    have := mem_mkSeq (mem_sortCC.1 hy)
    refine ⟨this.1, ?_, by simp; omega⟩
    rw [this.1]; exact hr _ (by simp [this.2.2])

theorem rangeChk_false {fx : Fixes} {c : Nat} (hr : fx.rangeChk = true → c ≤ SafeC.Gen.UniCompos.unicodeMax) :
    (fx.rangeChk && decide (SafeC.Gen.UniCompos.unicodeMax < c)) = false := by
  cases h : fx.rangeChk with
  | false => rfl
  | true => have := hr h; simp; omega

/-- the loop with a pending run `run` (all non-starters; never pending at the end of input: the loop looks ahead) -/
theorem reorderLoop_gen (fx : Fixes) (k : Nat → Nat) (xs : List Nat) :
    ∀ (run : List Nat) (dmax : Nat),
      (∀ c ∈ xs, combinClass c = some (k c)) →
      (fx.rangeChk = true → ∀ c ∈ xs, c ≤ SafeC.Gen.UniCompos.unicodeMax) →
      (∀ c ∈ run, k c ≠ 0) → (xs = [] → run = []) → run.length + xs.length < dmax →
      reorderLoop fx xs (mkSeq k 0 run) dmax
        = .ok (reorderPure k (run ++ xs)) (dmax - (run.length + xs.length)) := by
  induction xs with
  | nil =>
    intro run dmax _ _ _ he _
    simp [he rfl, reorderLoop, reorderPure]
  | cons c rest ih =>
    intro run dmax hk hr hrun _ hd
    have hc := hk c (by simp)
    have hk' : ∀ c ∈ rest, combinClass c = some (k c) := fun x hx => hk x (by simp [hx])
    have hr' : fx.rangeChk = true → ∀ c ∈ rest, c ≤ SafeC.Gen.UniCompos.unicodeMax :=
      fun h x hx => hr h x (by simp [hx])
    have hrng := rangeChk_false fun h => hr h c List.mem_cons_self
    simp only [List.length_cons] at hd
    unfold reorderLoop
    simp only [hrng, hc]
    by_cases hz : k c = 0
    · -- a starter: the pending run is flushed
      have h2 : ¬ (dmax < run.length + 1) := by omega
      have h3 : ¬ (dmax = run.length + 1) := by omega
      have := ih [] (dmax - (run.length + 1)) hk' hr' (by simp) (by simp) (by simp; omega)
      simp only [mkSeq, List.nil_append, List.length_nil, Nat.zero_add] at this
      simp [hz, mkSeq_length, sortCC_mkSeq 0 hrun, reorderPure_length, h2, h3, this,
        reorderPure_append_starter hz]
      rw [if_neg (by omega)]
      congr 1; omega
    · -- a non-starter joins the pending run
      have hseq : mkSeq k 0 run ++ [⟨k c, c, (mkSeq k 0 run).length⟩] = mkSeq k 0 (run ++ [c]) := by
        rw [mkSeq_append_single, mkSeq_length]; simp
      have hrun' : ∀ x ∈ run ++ [c], k x ≠ 0 := by
        intro x hx
        rcases List.mem_append.1 hx with h | h
        · exact hrun x h
        · simp at h; rw [h]; exact hz
      simp only [ne_eq, hz, not_false_eq_true, if_true, if_false, true_and, hseq]
      cases rest with
      | cons d rest' =>
        have := ih (run ++ [c]) dmax hk' hr' hrun' (by simp) (by simp at hd ⊢; omega)
        simp [this]
        congr 1; simp at hd ⊢; omega
      | nil =>
        have h1 : ¬ (dmax = run.length + 1) := by simp at hd; omega
        have h2 : ¬ (dmax < run.length + 1) := by simp at hd; omega
        simp [mkSeq_length, sortCC_mkSeq 0 hrun', reorderPure_length, h1, h2, reorderLoop]

theorem reorderLoop_eq_pure (fx : Fixes) (k : Nat → Nat) (xs : List Nat) (dmax : Nat)
    (hk : ∀ c ∈ xs, combinClass c = some (k c))
    (hr : fx.rangeChk = true → ∀ c ∈ xs, c ≤ SafeC.Gen.UniCompos.unicodeMax)
    (hd : xs.length < dmax) :
    reorderLoop fx xs [] dmax = .ok (reorderPure k xs) (dmax - xs.length) := by
  have := reorderLoop_gen fx k xs [] dmax hk hr (by simp) (by simp) (by simpa using hd)
  simpa [mkSeq] using this

/-- the loop computes the Unicode Canonical Ordering (D109) of its input -/
theorem reorderLoop_canonical (fx : Fixes) (k : Nat → Nat) (xs : List Nat) (dmax : Nat)
    (hk : ∀ c ∈ xs, combinClass c = some (k c))
    (hr : fx.rangeChk = true → ∀ c ∈ xs, c ≤ SafeC.Gen.UniCompos.unicodeMax)
    (hd : xs.length < dmax) :
    ∃ ys, reorderLoop fx xs [] dmax = .ok ys (dmax - xs.length) ∧ IsCanonicalOrdering k xs ys ∧
      ys.Perm xs ∧ ys.length = xs.length :=
  ⟨reorderPure k xs, reorderLoop_eq_pure fx k xs dmax hk hr hd, reorderPure_isCanonicalOrdering k xs,
    reorderPure_perm k xs, reorderPure_length k xs⟩

theorem reorderLoop_canonical_unique (fx : Fixes) (k : Nat → Nat) (xs zs : List Nat) (dmax : Nat)
    (hk : ∀ c ∈ xs, combinClass c = some (k c))
    (hr : fx.rangeChk = true → ∀ c ∈ xs, c ≤ SafeC.Gen.UniCompos.unicodeMax)
    (hd : xs.length < dmax) (hz : IsCanonicalOrdering k xs zs) :
    reorderLoop fx xs [] dmax = .ok zs (dmax - xs.length) := by
  rw [isCanonicalOrdering_eq_pure hz]; exact reorderLoop_eq_pure fx k xs dmax hk hr hd

/-! ## Sanity checks of the specification (a toy class function: class = tens digit) -/

example : reorderPure (· / 10) [31, 12, 5, 25, 21, 11, 22, 7, 7, 30, 10] = [12, 31, 5, 11, 25, 21, 22, 7, 7, 10, 30] := by
  decide
example : IsCanonicalOrdering (· / 10) [31, 12, 5, 25, 21] [12, 31, 5, 25, 21] :=
  reorderPure_isCanonicalOrdering (· / 10) [31, 12, 5, 25, 21]
example : ¬ CanonOrdered (· / 10) [31, 12] := fun h => h [] 31 12 [] rfl (by decide)

#print axioms reorderLoop_eq_pure
#print axioms reorderLoop_canonical
#print axioms reorderLoop_canonical_unique
#print axioms reorderPure_append_starter
#print axioms reorderPure_congr
#print axioms reorderPure_isCanonicalOrdering
#print axioms canonicalOrdering_unique
#print axioms reorderPure_idem
#print axioms reorderPure_starters_fixed
#print axioms reorderPure_filter_class

end SafeC.Norm
