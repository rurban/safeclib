import SafeC.Proofs.SortSafe
/-!
# qsort_s model: the Leonardo table `lp[]`

Arithmetic of the Leonardo numbers, the table loop `mkLp` (no fault, holds `leo 0 .. leo K`, `leo K` the first
entry from index 2 on that reaches the element count), and `qsortMusl` unfolded when `nel * width` does not wrap.
-/
namespace SafeC.Sort

theorem leo_succ_succ (k : Nat) : leo (k + 2) = leo k + leo (k + 1) + 1 := by simp [leo]

theorem leo_le_succ (k : Nat) : leo k ≤ leo (k + 1) := by
  match k with
  | 0 => simp [leo]
  | k + 1 => rw [leo_succ_succ]; omega

theorem leo_mono {i j : Nat} (h : i ≤ j) : leo i ≤ leo j := by
  induction j with
  | zero => have : i = 0 := by omega
            subst this; exact Nat.le_refl _
  | succ j ih =>
    by_cases hij : i = j + 1
    · subst hij; exact Nat.le_refl _
    · exact Nat.le_trans (ih (by omega)) (leo_le_succ j)

theorem leo_lt_succ {k : Nat} (hk : 1 ≤ k) : leo k < leo (k + 1) := by
  obtain ⟨m, rfl⟩ : ∃ m, k = m + 1 := ⟨k - 1, by omega⟩
  rw [leo_succ_succ]
  omega

theorem leo_strict {i j : Nat} (hi : 1 ≤ i) (h : i < j) : leo i < leo j :=
  Nat.lt_of_lt_of_le (leo_lt_succ hi) (leo_mono h)

theorem leo_le_imp_le {n K o : Nat} (hK : 2 ≤ K) (hn : n ≤ leo K) (ho : leo o ≤ n) : o ≤ K := by
  apply Nat.le_of_not_lt
  intro hlt
  have := leo_strict (i := K) (j := o) (by omega) hlt
  omega

/-- `(leo k, leo (k + 1))`, computed linearly -/
def leoPair : Nat → Nat × Nat
  | 0 => (1, 1)
  | k + 1 => ((leoPair k).2, (leoPair k).1 + (leoPair k).2 + 1)

theorem leoPair_eq (k : Nat) : leoPair k = (leo k, leo (k + 1)) := by
  induction k with
  | zero => simp [leoPair, leo]
  | succ k ih => simp [leoPair, ih, leo_succ_succ]

theorem leo_34 : leo 34 = 18454929 := by
  have h : (leoPair 34).1 = 18454929 := by decide +kernel
  rw [leoPair_eq] at h; exact h

theorem leo_90_gt : 2 ^ 63 < leo 90 := by
  have h : 2 ^ 63 < (leoPair 90).1 := by decide +kernel
  rw [leoPair_eq] at h; exact h

theorem genLp_spec (width n : Nat) (hw : 0 < width) (h63 : n * width ≤ 2 ^ 63) (h3 : 3 * width < 2 ^ 64) :
    ∀ (room k : Nat) (acc : Array Nat), room + (k + 2) = 96 → acc.size = k + 2 →
      (∀ j, j < k + 2 → acc[j]? = some (leo j)) →
      (∀ j, 2 ≤ j → j < k + 2 → leo j < n) →
      ∃ lp K, genLp width (n * width) room (leo k) (leo (k + 1)) acc = .ok lp ∧ lp.size = K + 1 ∧ LpOk lp K ∧ k + 2 ≤ K ∧ K ≤ 95 ∧
        n ≤ leo K ∧ (∀ j, 2 ≤ j → j < K → leo j < n) := by
  have hn63 : n ≤ 2 ^ 63 := Nat.le_trans (Nat.le_mul_of_pos_right n hw) h63
  intro room
  induction room with
  | zero =>
    intro k acc hr hsz hacc hlt
    exfalso
    have h1 := hlt 95 (by omega) (by omega)
    have h2 := leo_mono (i := 90) (j := 95) (by omega)
    have h3 := leo_90_gt
    omega
  | succ room ih =>
    intro k acc hr hsz hacc hlt
    unfold genLp
    have hc : leo k + leo (k + 1) + 1 = leo (k + 2) := (leo_succ_succ k).symm
    simp only [hc]
    have hnw : ¬ (leo (k + 2) * width ≥ 2 ^ 64) := by
      by_cases hk : k = 0
      · subst hk
        have : leo 2 = 3 := by simp [leo]
        rw [this]; omega
      · have h1 : leo (k + 1) < n := hlt (k + 1) (by omega) (by omega)
        have h2 : leo k < leo (k + 1) := leo_lt_succ (by omega)
        have h4 : leo (k + 2) + 2 ≤ 2 * n := by omega
        have h5 : (leo (k + 2) + 2) * width ≤ 2 * n * width := Nat.mul_le_mul_right _ h4
        rw [Nat.add_mul, Nat.mul_assoc] at h5
        omega
    simp only [hnw, if_false]
    have hpush : ∀ j, j < k + 3 → (acc.push (leo (k + 2)))[j]? = some (leo j) := by
      intro j hj
      rw [Array.getElem?_push]
      by_cases hjk : j = k + 2
      · subst hjk; simp [hsz]
      · have : ¬ j = acc.size := by omega
        simp only [this, if_false]
        exact hacc j (by omega)
    by_cases hlt2 : leo (k + 2) * width < n * width
    · simp only [hlt2, if_true]
      have hcn : leo (k + 2) < n := Nat.lt_of_mul_lt_mul_right hlt2
      obtain ⟨lp, K, e1, e2, e3, e4, e5, e6, e7⟩ := ih (k + 1) (acc.push (leo (k + 2)))
        (by omega) (by simp [hsz]) hpush
        (by intro j hj2 hj
            by_cases hjk : j = k + 2
            · subst hjk; exact hcn
            · exact hlt j hj2 (by omega))
      exact ⟨lp, K, e1, e2, e3, by omega, e5, e6, e7⟩
    · simp only [hlt2, if_false]
      refine ⟨_, k + 2, rfl, by simp [hsz], ?_, Nat.le_refl _, by omega, ?_, hlt⟩
      · intro j hj; exact hpush j (by omega)
      · exact Nat.le_of_mul_le_mul_right (Nat.le_of_not_lt hlt2) hw

theorem mkLp_spec (width n : Nat) (hw : 0 < width) (h63 : n * width ≤ 2 ^ 63) (h3 : 3 * width < 2 ^ 64) :
    ∃ lp K, mkLp width (n * width) = .ok lp ∧ lp.size = K + 1 ∧ LpOk lp K ∧ 2 ≤ K ∧ K ≤ 95 ∧ n ≤ leo K ∧
      (∀ j, 2 ≤ j → j < K → leo j < n) := by
  unfold mkLp
  obtain ⟨lp, K, e1, e2, e3, e4, e5, e6, e7⟩ := genLp_spec width n hw h63 h3 94 0 #[1, 1] (by omega) (by simp)
    (by intro j hj
        have : j = 0 ∨ j = 1 := by omega
        rcases this with rfl | rfl <;> simp [leo])
    (by intro j h1 h2; omega)
  exact ⟨lp, K, e1, e2, e3, by omega, e5, e6, e7⟩

theorem qsortMusl_eq (fx : Fixes) (c : Cmp α) (s : St α) (nel width : Nat) (hw : 0 < width) (hn : 0 < nel)
    (h : nel * width < 2 ^ 64) :
    qsortMusl fx c s nel width = (mkLp width (nel * width) >>= fun lp => smooth ⟨c.cmp, c.ctx, lp, fx, c.trace⟩ s nel) := by
  unfold qsortMusl
  have h1 : (width * nel) % 2 ^ 64 = nel * width := by
    rw [Nat.mul_comm width nel]; exact Nat.mod_eq_of_lt h
  have h2 : ¬ nel * width = 0 := Nat.ne_of_gt (Nat.mul_pos hn hw)
  have h3 : (nel * width + width - 1) / width = nel := by
    have : nel * width + width - 1 = (width - 1) + width * nel := by
      rw [Nat.mul_comm]; omega
    rw [this, Nat.add_mul_div_left _ _ hw, Nat.div_eq_of_lt (by omega)]; omega
  simp only [h1, h2, if_false, h3]

end SafeC.Sort
