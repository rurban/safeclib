import SafeC.Proofs.EVRQuery
import SafeC.Proofs.EVRQuery2
/-! C10, the `*_readonly` part: every query model is a `NoStore` program (`wcsnlen_s_readonly` is about `wcsnlen_s_chk`, the
`_chk` entry the `wcsnlen_s` macro expands to); with `exec_noStore` (`Proofs/Query.lean`) this gives "they never modify
their operands" for every input, valid or not.  Each model is walked once, in the store-free event judgement `EVR`
(`Proofs/EVRQuery.lean`, `Proofs/EVRQuery2.lean`); `EVR.noStore` reads that derivation as `NoStore`.
`strpbrk_s` is the exception in the C: its `slen > srcbos` exit clears `dest` through `handle_str_bos_overflow` (known
finding `strpbrk-clears-dest`); it is `NoStore` only with `srcbos` unknown or not exceeded. -/
namespace SafeC
open Gen SafeC.Props.C05Query

theorem NoStore.failS (c : Nat) : NoStore (SafeC.failS c) := .emit _ _ (.ret _)
theorem NoStore.failM (c : Nat) : NoStore (SafeC.failM c) := .emit _ _ (.ret _)

theorem strnlen_s_readonly (str smax : Nat) (b : Bos) : NoStore (strnlen_s str smax b) := (strnlen_s_ro ..).noStore
theorem wcsnlen_s_readonly (str smax : Nat) (b : Bos) : NoStore (wcsnlen_s_chk str smax b) :=
  (wcsnlen_s_chk_ro ..).noStore
theorem strcmp_s_readonly (dest dmax src : Nat) (db sb : Bos) : NoStore (strcmp_s dest dmax src db sb) :=
  (strcmp_s_ev ..).noStore
theorem strcasecmp_s_readonly (dest dmax src : Nat) (db : Bos) : NoStore (strcasecmp_s dest dmax src db) :=
  (strcasecmp_s_ev ..).noStore
theorem strcmpfld_s_readonly (dest dmax src : Nat) (db : Bos) : NoStore (strcmpfld_s dest dmax src db) :=
  (strcmpfld_s_ev ..).noStore
theorem memcmp_s_readonly (dest dmax src slen : Nat) (db sb : Bos) : NoStore (memcmp_s dest dmax src slen db sb) :=
  (memcmp_s_ev ..).noStore
theorem memcmp16_s_readonly (dest dmax src slen : Nat) (db sb : Bos) : NoStore (memcmp16_s dest dmax src slen db sb) :=
  (memcmp16_s_ev ..).noStore
theorem memcmp32_s_readonly (dest dmax src slen : Nat) (db sb : Bos) : NoStore (memcmp32_s dest dmax src slen db sb) :=
  (memcmp32_s_ev ..).noStore
theorem wmemcmp_s_readonly (dest dlen src slen : Nat) (db sb : Bos) : NoStore (wmemcmp_s dest dlen src slen db sb) :=
  (wmemcmp_s_ev ..).noStore
theorem memchr_s_readonly (dest dmax : Nat) (ch : Int) (db : Bos) : NoStore (memchr_s dest dmax ch db) :=
  (memchr_s_ev ..).noStore
theorem memrchr_s_readonly (dest dmax : Nat) (ch : Int) (db : Bos) : NoStore (memrchr_s dest dmax ch db) :=
  (memrchr_s_ev ..).noStore
theorem strchr_s_readonly (dest dmax : Nat) (ch : Int) (db : Bos) : NoStore (strchr_s dest dmax ch db) :=
  (strchr_s_ev ..).noStore
theorem strrchr_s_readonly (dest dmax : Nat) (ch : Int) (db : Bos) : NoStore (strrchr_s dest dmax ch db) :=
  (strrchr_s_ev ..).noStore
theorem strstr_s_readonly (dest dmax src slen : Nat) (db sb : Bos) : NoStore (strstr_s dest dmax src slen db sb) :=
  (strstr_s_ev ..).noStore
theorem strcasestr_s_readonly (dest dmax src slen : Nat) (db sb : Bos) : NoStore (strcasestr_s dest dmax src slen db sb) :=
  (strcasestr_s_ev ..).noStore
theorem strspn_s_readonly (dest dmax src slen : Nat) (db sb : Bos) : NoStore (strspn_s dest dmax src slen db sb) :=
  (strspn_s_ev ..).noStore
theorem strcspn_s_readonly (dest dmax src slen : Nat) (db sb : Bos) : NoStore (strcspn_s dest dmax src slen db sb) :=
  (strcspn_s_ev ..).noStore
theorem strprefix_s_readonly (dest dmax src : Nat) (db : Bos) : NoStore (strprefix_s dest dmax src db) :=
  (strprefix_s_ev ..).noStore
/-- `strpbrk_s` with the source's object size unknown (the known-size overflow exit clears dest) -/
theorem strpbrk_s_readonly_partial (cfg : Cfg) (dest dmax src slen : Nat) (db : Bos) :
    NoStore (strpbrk_s cfg dest dmax src slen db none) :=
  (strpbrk_s_in cfg dest dmax src slen db none (fun _ h => nomatch h)).noStore
theorem strfirstchar_s_readonly (dest dmax c : Nat) (db : Bos) : NoStore (strfirstchar_s dest dmax c db) :=
  (strfirstchar_s_ev ..).noStore
theorem strlastchar_s_readonly (dest dmax c : Nat) (db : Bos) : NoStore (strlastchar_s dest dmax c db) :=
  (strlastchar_s_ev ..).noStore
theorem pairFn_readonly (same first : Bool) (nohit dest dmax src : Nat) (db : Bos) :
    NoStore (pairFn same first nohit dest dmax src db) := (pairFn_ev ..).noStore
theorem predFn_readonly (ok : Nat → Bool) (bounded : Bool) (dest dmax : Nat) (db : Bos) :
    NoStore (predFn ok bounded dest dmax db) := (predFn_ro ..).noStore
theorem strisascii_s_readonly (dest dmax : Nat) (db : Bos) : NoStore (strisascii_s dest dmax db) :=
  (strisascii_s_ro ..).noStore

end SafeC
