import SafeC.Proofs.NormTables
/-! C17 — table closure: what the decomposition tables store is fully decomposed (kernel-checked; a file of its own so that lake
builds it beside NormTables' users) -/
namespace SafeC.Norm
open SafeC.Gen

/-- a code point the decomposition pass leaves alone -/
def stable (d : Nat) : Bool := !isS d && decompCanon d == some [] && decide (d ≤ UniCompos.unicodeMax) && d != 0

def tblStable (l : Nat) : Bool := allBelow (fun j => stable (cell 32 (canonTbl l).2 j)) ((canonTbl l).1 * l)

theorem tbl1_stable : tblStable 1 = true := by decide +kernel
theorem tbl2_stable : tblStable 2 = true := by decide +kernel
theorem tbl3_stable : tblStable 3 = true := by decide +kernel
theorem tbl4_stable : tblStable 4 = true := by decide +kernel

/-- Hangul jamo L, V, T are stable (the cells `_decomp_hangul_s` writes) -/
theorem jamoL_stable : allBelow (fun i => stable (UniCompos.HLBase + i)) UniCompos.HLCount = true := by decide +kernel
theorem jamoV_stable : allBelow (fun i => stable (UniCompos.HVBase + i)) UniCompos.HVCount = true := by decide +kernel
theorem jamoT_stable : allBelow (fun i => stable (UniCompos.HTBase + i)) UniCompos.HTCount = true := by decide +kernel

end SafeC.Norm
