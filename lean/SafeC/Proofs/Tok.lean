import SafeC.Proofs.Query
import SafeC.Models.Tok
/-!
# The tokenizers (C14)

Pure description of one `strtok_s` / `wcstok_s` call on the memory contents:

* `isDelim m dl c`  — `c` occurs in the delimiter string at `dl`;
* `skipD m dl n p`  — first position at or after `p` (looking at no more than `n` cells) holding a
  NUL or a non-delimiter: where the token starts;
* `findE m dl n p`  — first position at or after `p` holding a NUL or a delimiter: where it ends;

and the pass over the delimiter string that both C loops make for every character (`delimScan1`, `delimScan2` in
`Models/Tok.lean`), on a memory where the delimiter string has between 1 and `STRTOK_DELIM_MAX_LEN` characters.
The two loops themselves are in `Proofs/TokAll.lean`.
-/
namespace SafeC
open Gen

def isDelim (m : Nat → Nat) (dl c : Nat) : Bool := inSet m c dl STRTOK_DELIM_MAX_LEN

def DelimOK (m : Nat → Nat) (dl : Nat) : Prop :=
  0 < scanLen m dl (STRTOK_DELIM_MAX_LEN + 1) ∧ scanLen m dl (STRTOK_DELIM_MAX_LEN + 1) ≤ STRTOK_DELIM_MAX_LEN

def skipD (m : Nat → Nat) (dl : Nat) : Nat → Nat → Nat
  | 0, p => p
  | n+1, p => if m p = 0 then p else if isDelim m dl (m p) then skipD m dl n (p+1) else p

def findE (m : Nat → Nat) (dl : Nat) : Nat → Nat → Nat
  | 0, p => p
  | n+1, p => if m p = 0 then p else if isDelim m dl (m p) then p else findE m dl n (p+1)

/-- the two scans of a tokenizer call are `strspn` and `strcspn` over the delimiter string: everything about where they
stop comes from `spanLen_facts` -/
theorem skipD_eq_span (m : Nat → Nat) (dl n p : Nat) :
    skipD m dl n p = p + spanLen m true dl STRTOK_DELIM_MAX_LEN p n := by
  induction n generalizing p with
  | zero => rfl
  | succ n ih =>
    simp only [skipD, spanLen, isDelim, ih (p+1)]
    split
    · rfl
    · split <;> omega

theorem findE_eq_span (m : Nat → Nat) (dl n p : Nat) :
    findE m dl n p = p + spanLen m false dl STRTOK_DELIM_MAX_LEN p n := by
  induction n generalizing p with
  | zero => rfl
  | succ n ih =>
    simp only [findE, spanLen, isDelim, ih (p+1)]
    split
    · rfl
    · cases inSet m (m p) dl STRTOK_DELIM_MAX_LEN <;> simp <;> omega

theorem skipD_bounds (m : Nat → Nat) (dl n p : Nat) : p ≤ skipD m dl n p ∧ skipD m dl n p ≤ p + n := by
  have := (spanLen_facts m true dl STRTOK_DELIM_MAX_LEN p n).1
  rw [skipD_eq_span]; omega

theorem findE_bounds (m : Nat → Nat) (dl n p : Nat) : p ≤ findE m dl n p ∧ findE m dl n p ≤ p + n := by
  have := (spanLen_facts m false dl STRTOK_DELIM_MAX_LEN p n).1
  rw [findE_eq_span]; omega

theorem scanLen_from (m : Nat → Nat) (p n q : Nat) (hq : p ≤ q) (hle : q ≤ p + scanLen m p n) :
    q + scanLen m q (n - (q - p)) = p + scanLen m p n := by
  have hl := scanLen_le m p n
  have : scanLen m q (n - (q - p)) = p + scanLen m p n - q := by
    rw [scanLen_eq_least]
    refine least_unique (by omega) (fun j hj => ?_) fun hlt => ?_
    · have := scanLen_nonzero m p n (q - p + j) (by omega)
      simpa [show p + (q - p + j) = q + j by omega] using this
    · have := scanLen_zero m p n (by omega)
      simpa [show q + (p + scanLen m p n - q) = p + scanLen m p n by omega] using this
  omega

theorem le_nul_of_nonzero (m : Nat → Nat) (p n q : Nat) (hz : scanLen m p n < n)
    (hnz : ∀ j, p ≤ j → j < q → m j ≠ 0) : q ≤ p + scanLen m p n :=
  Nat.le_of_not_lt fun h => hnz _ (Nat.le_add_right _ _) h (scanLen_zero m p n hz)

theorem skipD_end (m : Nat → Nat) (dl n p : Nat) :
    skipD m dl n p = p + n ∨ m (skipD m dl n p) = 0 ∨ isDelim m dl (m (skipD m dl n p)) = false := by
  obtain ⟨h1, _, h3⟩ := spanLen_facts m true dl STRTOK_DELIM_MAX_LEN p n
  rw [skipD_eq_span]
  by_cases h : spanLen m true dl STRTOK_DELIM_MAX_LEN p n < n
  · exact .inr ((h3 h).imp_right fun h => by simpa [isDelim] using h)
  · exact .inl (by omega)

theorem findE_end (m : Nat → Nat) (dl n p : Nat) :
    findE m dl n p = p + n ∨ m (findE m dl n p) = 0 ∨ isDelim m dl (m (findE m dl n p)) = true := by
  obtain ⟨h1, _, h3⟩ := spanLen_facts m false dl STRTOK_DELIM_MAX_LEN p n
  rw [findE_eq_span]
  by_cases h : spanLen m false dl STRTOK_DELIM_MAX_LEN p n < n
  · exact .inr ((h3 h).imp_right fun h => by simpa [isDelim] using h)
  · exact .inl (by omega)

theorem span_inside (m : Nat → Nat) (want : Bool) (dl p n q k : Nat) (hz : scanLen m p n < n)
    (hnz : ∀ j, p ≤ j → j < q → m j ≠ 0) :
    q + spanLen m want dl STRTOK_DELIM_MAX_LEN q k < p + n ∧
    (∀ j, q ≤ j → j < q + spanLen m want dl STRTOK_DELIM_MAX_LEN q k → m j ≠ 0 ∧ isDelim m dl (m j) = want) ∧
    (spanLen m want dl STRTOK_DELIM_MAX_LEN q k < k →
      m (q + spanLen m want dl STRTOK_DELIM_MAX_LEN q k) = 0 ∨
      isDelim m dl (m (q + spanLen m want dl STRTOK_DELIM_MAX_LEN q k)) ≠ want) := by
  obtain ⟨_, s2, s3⟩ := spanLen_facts m want dl STRTOK_DELIM_MAX_LEN q k
  have hin : ∀ j, q ≤ j → j < q + spanLen m want dl STRTOK_DELIM_MAX_LEN q k →
      m j ≠ 0 ∧ isDelim m dl (m j) = want := fun j h1 h2 => by
    have := s2 (j - q) (by omega); rwa [show q + (j - q) = j by omega] at this
  have hle := le_nul_of_nonzero m p n (q + spanLen m want dl STRTOK_DELIM_MAX_LEN q k) hz fun j h1 h2 =>
    if hj : j < q then hnz j h1 hj else (hin j (by omega) h2).1
  exact ⟨by omega, hin, s3⟩

theorem rem_nul {p n a : Nat} (h1 : p ≤ a) : n - (a - p) = p + n - a := by omega

/-- the remaining length as the C code counts it down (`dlen--` per cell) against the end of the extent: behind a token
`[a, b)` of the extent `[p, p+n)` that the terminator ends … -/
theorem rem_last {p n a b : Nat} (h1 : p ≤ a) (h2 : a < b) (h3 : b < p + n) :
    n - (a - p) - 1 - (b - (a + 1)) = p + n - b := by omega

/-- … and behind one cut at the delimiter `b` -/
theorem rem_cut {p n a b : Nat} (h1 : p ≤ a) (h2 : a < b) (h3 : b < p + n) :
    n - (a - p) - 1 - (b - (a + 1)) - 1 = p + n - (b + 1) := by rw [rem_last h1 h2 h3]; omega

/-- generalisation for the induction: `tok` is already true, or will be after the first miss -/
theorem delimScan1_gen {st : St} (h : AllRd st) (dest : Nat) (slen pt : Nat) (tok : Bool)
    (hlen : scanLen st.data pt (slen+1) ≤ slen) :
    exec (delimScan1 dest slen pt tok) st =
      .ok (.done (if inSet st.data (st.data dest) pt slen then false
                  else (tok || decide (0 < scanLen st.data pt (slen+1)))), st) := by
  induction slen generalizing pt tok with
  | zero =>
    have hz : st.data pt = 0 := Classical.byContradiction fun h0 => by
      rw [scanLen_succ_of_ne _ _ _ h0] at hlen; omega
    simp [delimScan1, exec_bind, exec_load_all h, hz, inSet, scanLen]
  | succ n ih =>
    simp only [delimScan1, exec_bind, exec_load_all h]
    by_cases h0 : st.data pt = 0
    · simp [h0, inSet, scanLen]
    · simp only [h0, if_false, exec_bind, exec_load_all h]
      by_cases hc : st.data dest = st.data pt
      · simp [hc, inSet, h0]
      · simp only [hc, if_false]
        have hs := scanLen_succ_of_ne st.data pt (n+1) h0
        rw [ih (pt+1) true (by omega), inSet_succ_of_ne _ _ _ _ h0 hc]
        simp [show 0 < scanLen st.data pt (n+1+1) by omega]

theorem delimScan1_eq {st : St} (h : AllRd st) (dest dl : Nat) (hd : DelimOK st.data dl) :
    exec (delimScan1 dest STRTOK_DELIM_MAX_LEN dl false) st =
      .ok (.done (!isDelim st.data dl (st.data dest)), st) := by
  rw [delimScan1_gen h dest _ _ _ hd.2]
  have : decide (0 < scanLen st.data dl (STRTOK_DELIM_MAX_LEN+1)) = true := by simpa using hd.1
  unfold isDelim
  cases inSet st.data (st.data dest) dl STRTOK_DELIM_MAX_LEN <;> simp [this]

theorem delimScan2_gen {st : St} (h : AllRd st) (dest : Nat) (slen pt : Nat)
    (hlen : scanLen st.data pt (slen+1) ≤ slen) :
    exec (delimScan2 dest slen pt) st =
      .ok ((if inSet st.data (st.data dest) pt slen then Delim2.hit else Delim2.miss), st) := by
  induction slen generalizing pt with
  | zero =>
    have hz : st.data pt = 0 := Classical.byContradiction fun h0 => by
      rw [scanLen_succ_of_ne _ _ _ h0] at hlen; omega
    simp [delimScan2, exec_bind, exec_load_all h, hz, inSet]
  | succ n ih =>
    simp only [delimScan2, exec_bind, exec_load_all h]
    by_cases h0 : st.data pt = 0
    · simp [h0, inSet]
    · simp only [h0, if_false, exec_bind, exec_load_all h]
      by_cases hc : st.data dest = st.data pt
      · simp [hc, inSet, h0]
      · simp only [hc, if_false]
        have hs := scanLen_succ_of_ne st.data pt (n+1) h0
        rw [ih (pt+1) (by omega), inSet_succ_of_ne _ _ _ _ h0 hc]

theorem delimScan2_eq {st : St} (h : AllRd st) (dest dl : Nat) (hd : DelimOK st.data dl) :
    exec (delimScan2 dest STRTOK_DELIM_MAX_LEN dl) st =
      .ok ((if isDelim st.data dl (st.data dest) then Delim2.hit else Delim2.miss), st) := by
  rw [delimScan2_gen h dest _ _ hd.2]; rfl

end SafeC
