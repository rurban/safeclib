import SafeC.Proofs.ExtOs
import SafeC.Models.Io
/-!
# `gets_s` (`Models/Io.lean`): what `fgetsLoop` / `strnlenP` do

Setting of `Proofs/ExtOs.lean`: dest is `dmax` writable cells with arbitrary content (`RW st dest dmax`), the stream
region `inp[0..len)` is readable and does not overlap dest; nothing else is assumed about the memory.  No bound on `len`,
`dmax` or the bytes of the stream.
-/
namespace SafeC

theorem fgetsLoop_runs (k inp len d acc : Nat) (st : St) (hrw : RW st d k)
    (hrd : ∀ j, j < len → st.mapped (inp+j) = true ∧ st.rd (inp+j) = true)
    (hdisj : d + k ≤ inp ∨ inp + len ≤ d) :
    ∃ m eof st', exec (fgetsLoop k inp len d acc) st = .ok ((acc + m, eof), st') ∧ CopiedN st st' d inp m ∧
      m ≤ k ∧ m ≤ len ∧
      (∀ j, j + 1 < m → st.data (inp+j) ≠ 10) ∧
      ((0 < m ∧ st.data (inp + (m-1)) = 10 ∧ eof = false) ∨
       ((∀ j, j < m → st.data (inp+j) ≠ 10) ∧ ((m = k ∧ eof = false) ∨ (m = len ∧ m < k ∧ eof = true)))) := by
  -- where it stops: at the first newline among the first `K = min k len` bytes, or behind them
  obtain ⟨K, hKk, hKl, hKe⟩ : ∃ K, K ≤ k ∧ K ≤ len ∧ (K = k ∨ K = len) := ⟨min k len, by omega, by omega, by omega⟩
  obtain ⟨q, hqK, hq, hlt⟩ := least_of (fun j => j = K ∨ st.data (inp + j) = 10) K (.inl rfl)
  have hcl : ∀ i j, i < j → j < K → inp + j ≠ d + i := fun i j _ _ => by omega
  -- a round that reads a byte, in a state where the bytes stored so far are the stream's
  have hround : ∀ j st1, j < K → CopiedN st st1 d inp j →
      exec (fgetsLoop (k - j) (inp + j) (len - j) (d + j) (acc + j)) st1 =
        exec (if st.data (inp + j) = 10 then pure (acc + j + 1, false)
          else fgetsLoop (k - (j+1)) (inp + (j+1)) (len - (j+1)) (d + (j+1)) (acc + (j+1)))
          (st1.upd (d + j) (st1.data (inp + j))) := by
    intro j st1 hj hcp
    have hr := hrd j (by omega)
    have hw := hrw j (by omega)
    rw [show k - j = k - (j+1) + 1 by omega, show len - j = len - (j+1) + 1 by omega, fgetsLoop]
    simp only [exec_bind, exec_load_ok _ st1 (by rw [hcp.1.mapped]; exact hr.1) (by rw [hcp.1.rd]; exact hr.2),
      exec_store_ok _ _ st1 (by rw [hcp.1.mapped]; exact hw.1) (by rw [hcp.1.wr]; exact hw.2.1),
      hcp.next (fun i hi => hcl i j hi hj)]
    rfl
  obtain ⟨st1, hcp, he⟩ := copied_steps (fun j => fgetsLoop (k - j) (inp + j) (len - j) (d + j) (acc + j)) d inp st q
    (fun i j hij hj => hcl i j hij (by omega)) fun j st1 hj hcp => by
      rw [hround j st1 (by omega) hcp, if_neg (fun h => hlt j hj (.inr h))]
  have he' : exec (fgetsLoop k inp len d acc) st = exec (fgetsLoop (k - q) (inp + q) (len - q) (d + q) (acc + q)) st1 := by
    simpa using he
  have hnl : ∀ j, j < q → st.data (inp+j) ≠ 10 := fun j hj h => hlt j hj (.inr h)
  by_cases hqe : q = K
  · -- no newline among the bytes read: the count is reached or the stream is exhausted
    by_cases hk : q = k
    · refine ⟨q, false, st1, ?_, hcp, by omega, by omega, fun j hj => hnl j (by omega), .inr ⟨hnl, .inl ⟨hk, rfl⟩⟩⟩
      rw [he', show k - q = 0 by omega]; rfl
    · refine ⟨q, true, st1, ?_, hcp, by omega, by omega, fun j hj => hnl j (by omega),
        .inr ⟨hnl, .inr ⟨by omega, by omega, rfl⟩⟩⟩
      rw [he', show k - q = k - q - 1 + 1 by omega, show len - q = 0 by omega]; rfl
  · -- the newline is stored and ends the read
    have h10 : st.data (inp + q) = 10 := hq.resolve_left hqe
    refine ⟨q + 1, false, _, ?_, hcp.snoc (fun i hi => hcl i q hi (by omega)), by omega, by omega,
      fun j hj => hnl j (by omega), .inl ⟨by omega, h10, rfl⟩⟩
    rw [he', hround q st1 (by omega) hcp, if_pos h10]; rfl

/-- `strnlenP` (`Models/Io.lean`, libc `strnlen` as gets_s calls it) and `strlenP` (`Models/Query.lean`, libc `strlen` with
fuel) are ONE program under two names -/
theorem strnlenP_eq (k s acc : Nat) : strnlenP k s acc = strlenP k s acc := by
  induction k generalizing s acc with
  | zero => rfl
  | succ k ih => simp only [strnlenP, strlenP, ih]

theorem strnlenP_ok (k s acc n : Nat) (st : St) (hn : n ≤ k) (hnz : ∀ j, j < n → st.data (s+j) ≠ 0)
    (hrd : ∀ j, j < k → st.mapped (s+j) = true ∧ st.rd (s+j) = true) (hz : n < k → st.data (s+n) = 0) :
    exec (strnlenP k s acc) st = .ok (acc + n, st) :=
  strnlenP_eq k s acc ▸ strlenP_first k s acc n st hn hnz (fun j _ hj => hrd j hj) hz

end SafeC
