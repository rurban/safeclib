import SafeC.Proofs.MemSet
/-!
# The move primitives: `mem_prim_move` (bytes, 64-bit word variant) and `mem_prim_move8/16/32`

`Moved st st' d s n`: `st'` is `st` with cell `d+i` holding what cell `s+i` held in `st`, for every `i < n`
(all `n` source cells are taken from the ORIGINAL memory: the result of copying through a temporary,
i.e. C `memmove`); every other cell, the mapping, permissions, events and strays are those of `st`.

Proved for all lengths, both directions, any overlap and every alignment.  A word copy is 8 loads then 8 stores;
every block loop, the 16-way unrolled element loops of `mem_prim_move8/16/32` included, goes by one induction per
direction (`blocksFwd_ok`, `blocksBwd_ok`).
-/
namespace SafeC
open Mem

structure Moved (st st' : St) (d s n : Nat) : Prop where
  same : SameMeta st' st
  data : ∀ a, st'.data a = if d ≤ a ∧ a < d + n then st.data (s + (a - d)) else st.data a

theorem Moved.nil (st : St) (d s : Nat) : Moved st st d s 0 :=
  ⟨SameMeta.refl _, fun a => by rw [if_neg]; omega⟩

theorem Moved.inside {st st' : St} {d s n : Nat} (h : Moved st st' d s n) (i : Nat) (hi : i < n) :
    st'.data (d + i) = st.data (s + i) := by
  rw [h.data, if_pos ⟨Nat.le_add_right d i, Nat.add_lt_add_left hi d⟩, Nat.add_sub_cancel_left]

theorem Moved.outside {st st' : St} {d s n : Nat} (h : Moved st st' d s n) (a : Nat)
    (ha : ¬ (d ≤ a ∧ a < d + n)) : st'.data a = st.data a := by
  rw [h.data, if_neg ha]

theorem Moved.upd (st : St) (d s : Nat) : Moved st (st.upd d (st.data s)) d s 1 :=
  ⟨SameMeta.upd _ _ _, fun a => by
    by_cases h : a = d
    · subst h; rw [St.upd_data_same, if_pos (by omega), Nat.sub_self, Nat.add_zero]
    · rw [St.upd_data_ne _ _ _ _ h, if_neg (by omega)]⟩

theorem shift_index {d n a : Nat} (s : Nat) (h : d + n ≤ a) : s + n + (a - (d + n)) = s + (a - d) := by omega

/-- a move that follows another step reads its source cells from the memory before that step, provided the
step did not change them -/
theorem Moved.data_from {st s1 s2 : St} {d s n : Nat} (h : Moved s1 s2 d s n)
    (hsrc : ∀ i, i < n → s1.data (s + i) = st.data (s + i)) (a : Nat) :
    s2.data a = if d ≤ a ∧ a < d + n then st.data (s + (a - d)) else s1.data a := by
  rw [h.data a]
  by_cases c : d ≤ a ∧ a < d + n
  · rw [if_pos c, if_pos c, hsrc _ (Nat.sub_lt_left_of_lt_add c.1 c.2)]
  · rw [if_neg c, if_neg c]

/-- ascending composition: first the low part, then the high part; sound when `d ≤ s` (the part
already written lies below every source cell still to be read) -/
theorem Moved.append_fwd {st s1 s2 : St} {d s n m : Nat} (hle : d ≤ s)
    (h1 : Moved st s1 d s n) (h2 : Moved s1 s2 (d+n) (s+n) m) : Moved st s2 d s (n+m) := by
  refine ⟨h2.same.trans h1.same, data_two (g := fun a => st.data (s + (a - d))) h1.data
    (h2.data_from fun i _ => ?_) (range_split d n m) (fun _ _ => rfl) (fun a c => by rw [shift_index s c.1])⟩
  rw [h1.data, if_neg]
  exact fun c => Nat.not_lt.2 (Nat.le_trans (Nat.add_le_add_right hle n) (Nat.le_add_right _ i)) c.2

/-- descending composition: first the high part, then the low part; sound when `s ≤ d` -/
theorem Moved.append_bwd {st s1 s2 : St} {d s n m : Nat} (hle : s ≤ d)
    (h1 : Moved st s1 (d+n) (s+n) m) (h2 : Moved s1 s2 d s n) : Moved st s2 d s (n+m) := by
  refine ⟨h2.same.trans h1.same, data_two (g := fun a => st.data (s + (a - d))) h1.data
    (h2.data_from fun i hi => ?_) (fun a => (range_split d n m a).trans Or.comm)
    (fun a c => by rw [shift_index s c.1]) (fun _ _ => rfl)⟩
  rw [h1.data, if_neg]
  exact fun c => Nat.not_le.2 (Nat.lt_of_lt_of_le (Nat.add_lt_add_left hi s) (Nat.add_le_add_right hle n)) c.1

theorem RD.take {st : St} {d n m : Nat} (h : RD st d (n + m)) : RD st d n :=
  fun i hi => h i (Nat.lt_add_right m hi)

theorem RD.drop {st : St} {d n m : Nat} (h : RD st d (n + m)) : RD st (d + n) m :=
  fun i hi => Nat.add_assoc d n i ▸ h (n + i) (Nat.add_lt_add_left hi n)

/-! The element loops (`b = 1`), the word loops of `mem_prim_move` (`b = 8`, one word copy per pass) and the
unrolled loops of `mem_prim_move8/16/32` (`b = 16`, sixteen element copies per pass) have the same shape: a pass
moves one block and the pointers, then the loop goes on.  `hstep` says that of one pass. -/

theorem blocksFwd_ok {loop : Nat → Nat → Nat → Prog (Nat × Nat)} {b : Nat}
    (h0 : ∀ dp sp, loop 0 dp sp = pure (dp, sp))
    (hstep : ∀ k dp sp st, dp ≤ sp → RW st dp b → RD st sp b →
      ∃ s1, Moved st s1 dp sp b ∧ exec (loop (k+1) dp sp) st = exec (loop k (dp+b) (sp+b)) s1)
    (k dp sp : Nat) (st : St) (hle : dp ≤ sp) (hw : RW st dp (b*k)) (hr : RD st sp (b*k)) :
    ∃ st', exec (loop k dp sp) st = .ok ((dp + b*k, sp + b*k), st') ∧ Moved st st' dp sp (b*k) := by
  induction k generalizing dp sp st with
  | zero => exact ⟨st, by rw [h0]; rfl, Moved.nil _ _ _⟩
  | succ k ih =>
    have e : b * (k+1) = b + b * k := by rw [Nat.mul_succ, Nat.add_comm]
    rw [e] at hw hr ⊢
    obtain ⟨s1, hm1, he1⟩ := hstep k dp sp st hle hw.take hr.take
    obtain ⟨s2, he2, hm2⟩ := ih (dp+b) (sp+b) s1 (Nat.add_le_add_right hle b)
      (RW.of_sameMeta hm1.same hw.drop) (RD.of_sameMeta hm1.same hr.drop)
    refine ⟨s2, ?_, Moved.append_fwd hle hm1 hm2⟩
    rw [he1, he2, Nat.add_assoc, Nat.add_assoc]

/-- descending: entered with both pointers at the END of the operands; a pass entered at `d+b`, `s+b` moves
the block below -/
theorem blocksBwd_ok {loop : Nat → Nat → Nat → Prog (Nat × Nat)} {b : Nat}
    (h0 : ∀ dp sp, loop 0 dp sp = pure (dp, sp))
    (hstep : ∀ k d s st, s ≤ d → RW st d b → RD st s b →
      ∃ s1, Moved st s1 d s b ∧ exec (loop (k+1) (d+b) (s+b)) st = exec (loop k d s) s1)
    (k d s : Nat) (st : St) (hle : s ≤ d) (hw : RW st d (b*k)) (hr : RD st s (b*k)) :
    ∃ st', exec (loop k (d + b*k) (s + b*k)) st = .ok ((d, s), st') ∧ Moved st st' d s (b*k) := by
  induction k generalizing st with
  | zero => exact ⟨st, by rw [h0]; rfl, Moved.nil _ _ _⟩
  | succ k ih =>
    rw [Nat.mul_succ] at hw hr ⊢
    obtain ⟨s1, hm1, he1⟩ := hstep k (d + b*k) (s + b*k) st (Nat.add_le_add_right hle _) hw.drop hr.drop
    obtain ⟨s2, he2, hm2⟩ := ih s1 (RW.of_sameMeta hm1.same hw.take) (RD.of_sameMeta hm1.same hr.take)
    refine ⟨s2, ?_, Moved.append_bwd hle hm1 hm2⟩
    rw [← Nat.add_assoc, ← Nat.add_assoc, he1, he2]

/-- `n` times `*dp++ = *sp++;` with the destination not above the source -/
theorem copyFwd_ok (n dp sp : Nat) (st : St) (hle : dp ≤ sp) (hw : RW st dp n) (hr : RD st sp n) :
    ∃ st', exec (copyFwd n dp sp) st = .ok ((dp + n, sp + n), st') ∧ Moved st st' dp sp n := by
  have h := blocksFwd_ok (loop := copyFwd) (b := 1) (fun _ _ => rfl) (fun k dp sp st _ hw hr => by
    have hd := hw 0 Nat.one_pos
    have hs := hr 0 Nat.one_pos
    exact ⟨_, Moved.upd st dp sp, by
      simp only [copyFwd, exec_bind, exec_load_ok sp st hs.1 hs.2, exec_store_ok dp _ st hd.1 hd.2.1]⟩)
    n dp sp st hle
  rw [Nat.one_mul] at h
  exact h hw hr

/-- `n` times `*--dp = *--sp;` entered at the END of both operands, the destination not below the source -/
theorem copyBwd_ok (n d s : Nat) (st : St) (hle : s ≤ d) (hw : RW st d n) (hr : RD st s n) :
    ∃ st', exec (copyBwd n (d + n) (s + n)) st = .ok ((d, s), st') ∧ Moved st st' d s n := by
  have h := blocksBwd_ok (loop := copyBwd) (b := 1) (fun _ _ => rfl) (fun k d s st _ hw hr => by
    have hd := hw 0 Nat.one_pos
    have hs := hr 0 Nat.one_pos
    exact ⟨_, Moved.upd st d s, by
      simp only [copyBwd, Nat.add_sub_cancel, exec_bind, exec_load_ok s st hs.1 hs.2,
        exec_store_ok d _ st hd.1 hd.2.1]⟩)
    n d s st hle
  rw [Nat.one_mul] at h
  exact h hw hr

-- what `loadCells` returns is C06's list of cells: so that definition stands here
namespace Props.C06
/-- the first `n` cells at `p` as a list -/
def cells (st : St) (p : Nat) : Nat → List Nat
  | 0 => []
  | n+1 => st.data p :: cells st (p+1) n
end Props.C06

theorem loadCells_ok (n a : Nat) (st : St) (hr : RD st a n) :
    exec (loadCells n a) st = .ok (Props.C06.cells st a n, st) := by
  induction n generalizing a with
  | zero => rfl
  | succ n ih =>
    have hr' : RD st a (1 + n) := Nat.add_comm n 1 ▸ hr
    have h0 : st.mapped a = true ∧ st.rd a = true := hr 0 (Nat.succ_pos n)
    simp only [loadCells, exec_bind, exec_load_ok _ _ h0.1 h0.2, ih (a+1) hr'.drop, Props.C06.cells]
    rfl

theorem storeCells_ok (n d s : Nat) (st0 st : St) (hw : RW st d n) :
    ∃ st', exec (storeCells (Props.C06.cells st0 s n) d) st = .ok ((), st') ∧ SameMeta st' st ∧
      ∀ a, st'.data a = if d ≤ a ∧ a < d + n then st0.data (s + (a - d)) else st.data a := by
  induction n generalizing d s st with
  | zero => exact ⟨st, rfl, SameMeta.refl _, fun a => by rw [if_neg]; omega⟩
  | succ n ih =>
    obtain ⟨hm, hwr, _⟩ := hw.head
    obtain ⟨st', he, hsm, hd⟩ := ih (d+1) (s+1) (st.upd d (st0.data s))
      (RW.of_sameMeta (SameMeta.upd _ _ _) hw.tail)
    refine ⟨st', ?_, hsm.trans (SameMeta.upd _ _ _), ?_⟩
    · simp only [Props.C06.cells, storeCells, exec_bind, exec_store_ok _ _ _ hm hwr]
      exact he
    · rw [Nat.add_comm n 1]
      refine data_two (g := fun a => st0.data (s + (a - d))) (Filled.upd st d (st0.data s)).data hd
        (range_split d 1 n) (fun a c => ?_) (fun a c => by rw [shift_index s c.1])
      -- the one cell of the first step is cell `d` itself
      rw [Nat.le_antisymm (Nat.le_of_lt_succ c.2) c.1, Nat.sub_self, Nat.add_zero]

/-- `*(uint64_t *)dp = *(uint64_t *)sp;` — any overlap of the two words -/
theorem copyWord_ok (dp sp : Nat) (st : St) (hw : RW st dp 8) (hr : RD st sp 8) :
    ∃ st', exec (copyWord dp sp) st = .ok ((), st') ∧ Moved st st' dp sp 8 := by
  obtain ⟨st', he, hsm, hd⟩ := storeCells_ok 8 dp sp st st hw
  refine ⟨st', ?_, hsm, hd⟩
  simp only [copyWord, exec_bind, loadCells_ok 8 sp st hr]
  exact he

/-- `k` times `*(uint64_t *)dp = *(uint64_t *)sp; dp += 8; sp += 8;`, the destination not above the source -/
theorem wordsFwd_ok (k dp sp : Nat) (st : St) (hle : dp ≤ sp) (hw : RW st dp (8*k)) (hr : RD st sp (8*k)) :
    ∃ st', exec (wordsFwd k dp sp) st = .ok ((dp + 8*k, sp + 8*k), st') ∧ Moved st st' dp sp (8*k) :=
  blocksFwd_ok (fun _ _ => rfl) (fun k dp sp st _ hw hr => by
    obtain ⟨s1, he, hm⟩ := copyWord_ok dp sp st hw hr
    exact ⟨s1, hm, by simp only [wordsFwd, exec_bind, he]⟩) k dp sp st hle hw hr

theorem wordsBwd_ok (k d s : Nat) (st : St) (hle : s ≤ d) (hw : RW st d (8*k)) (hr : RD st s (8*k)) :
    ∃ st', exec (wordsBwd k (d + 8*k) (s + 8*k)) st = .ok ((d, s), st') ∧ Moved st st' d s (8*k) :=
  blocksBwd_ok (fun _ _ => rfl) (fun k d s st _ hw hr => by
    obtain ⟨s1, he, hm⟩ := copyWord_ok d s st hw hr
    exact ⟨s1, hm, by simp only [wordsBwd, Nat.add_sub_cancel, exec_bind, he]⟩) k d s st hle hw hr

theorem fwdBody_ok {loop : Nat → Nat → Nat → Prog (Nat × Nat)} {b : Nat}
    (hloop : ∀ k dp sp st, dp ≤ sp → RW st dp (b*k) → RD st sp (b*k) →
      ∃ st', exec (loop k dp sp) st = .ok ((dp + b*k, sp + b*k), st') ∧ Moved st st' dp sp (b*k))
    (L dp sp : Nat) (st : St) (hle : dp ≤ sp) (hw : RW st dp L) (hr : RD st sp L) :
    ∃ st', exec (do
        let (dp, sp) ← loop (L / b) dp sp
        let _ ← copyFwd (L % b) dp sp
        pure ()) st = .ok ((), st') ∧ Moved st st' dp sp L := by
  have e : b * (L / b) + L % b = L := Nat.div_add_mod L b
  generalize L / b = q, L % b = r at e ⊢
  subst e
  obtain ⟨s1, he1, hm1⟩ := hloop q dp sp st hle hw.take hr.take
  obtain ⟨s2, he2, hm2⟩ := copyFwd_ok r _ _ s1 (Nat.add_le_add_right hle _)
    (RW.of_sameMeta hm1.same hw.drop) (RD.of_sameMeta hm1.same hr.drop)
  refine ⟨s2, ?_, Moved.append_fwd hle hm1 hm2⟩
  simp only [exec_bind, he1, he2]
  rfl

/-- descending, entered with both pointers at the end: the blocks cover the upper `b * (L / b)` cells, the
`L % b` lowest cells come last -/
theorem bwdBody_ok {loop : Nat → Nat → Nat → Prog (Nat × Nat)} {b : Nat}
    (hloop : ∀ k d s st, s ≤ d → RW st d (b*k) → RD st s (b*k) →
      ∃ st', exec (loop k (d + b*k) (s + b*k)) st = .ok ((d, s), st') ∧ Moved st st' d s (b*k))
    (L d s : Nat) (st : St) (hle : s ≤ d) (hw : RW st d L) (hr : RD st s L) :
    ∃ st', exec (do
        let (dp, sp) ← loop (L / b) (d + L) (s + L)
        let _ ← copyBwd (L % b) dp sp
        pure ()) st = .ok ((), st') ∧ Moved st st' d s L := by
  have e : L % b + b * (L / b) = L := Nat.mod_add_div L b
  generalize L / b = q, L % b = r at e ⊢
  subst e
  obtain ⟨s1, he1, hm1⟩ := hloop q (d+r) (s+r) st (Nat.add_le_add_right hle r) hw.drop hr.drop
  obtain ⟨s2, he2, hm2⟩ := copyBwd_ok r d s s1 hle (RW.of_sameMeta hm1.same hw.take) (RD.of_sameMeta hm1.same hr.take)
  refine ⟨s2, ?_, Moved.append_bwd hle hm1 hm2⟩
  rw [← Nat.add_assoc, ← Nat.add_assoc]
  simp only [exec_bind, he1, he2]
  rfl

/-- the two pointers agree mod 8 and are not both aligned: neither is aligned -/
theorem or_xor_mod8 (a b : Nat) (h1 : (a ||| b) % 8 ≠ 0) (h2 : ¬ (a ^^^ b) % 8 ≠ 0) : a % 8 ≠ 0 := by
  -- were `a` aligned, `b` would be too (their low bits agree), and then so would `a ||| b`
  intro ha
  have ha' : a % 2^3 = 0 := ha
  have hb : (a ^^^ b) % 2^3 = 0 := Decidable.not_not.1 h2
  rw [Nat.xor_mod_two_pow, ha', Nat.zero_xor] at hb
  apply h1
  show (a ||| b) % 2^3 = 0
  rw [Nat.or_mod_two_pow, ha', hb, Nat.or_self]

/-- `do … while (--tsp)` entered with `tsp > 0` makes `tsp` passes -/
theorem doWhileCount_pos {tsp : Nat} (h : 0 < tsp) : doWhileCount tsp = tsp :=
  if_neg (Nat.ne_of_gt h)

theorem moveFwdAlign_ok (dest src len : Nat) (st : St) (hlt : dest ≤ src) (hpos : 0 < len)
    (hw : RW st dest len) (hr : RD st src len) :
    ∃ t st', t ≤ len ∧ exec (moveFwdAlign dest src len) st = .ok ((dest + t, src + t, len - t), st') ∧
      Moved st st' dest src t := by
  unfold moveFwdAlign
  by_cases ha : (src ||| dest) % 8 ≠ 0
  · rw [if_pos ha]
    have htsp : ∀ tsp, 0 < tsp → tsp ≤ len →
        ∃ st', exec (do
          let (dp, sp) ← copyFwd (doWhileCount tsp) dest src
          pure (dp, sp, len - tsp)) st = .ok ((dest + tsp, src + tsp, len - tsp), st') ∧
          Moved st st' dest src tsp := by
      intro tsp h1 h2
      obtain ⟨L, rfl⟩ : ∃ L, len = tsp + L := ⟨len - tsp, (Nat.add_sub_of_le h2).symm⟩
      obtain ⟨st', he, hm⟩ := copyFwd_ok tsp dest src st hlt hw.take hr.take
      exact ⟨st', by rw [doWhileCount_pos h1, exec_bind, he]; rfl, hm⟩
    by_cases hc : (src ^^^ dest) % 8 ≠ 0 ∨ len < 8
    · simp only [if_pos hc]
      obtain ⟨st', he, hm⟩ := htsp len hpos (Nat.le_refl _)
      exact ⟨len, st', Nat.le_refl _, he, hm⟩
    · simp only [if_neg hc]
      have h8 : 8 - src % 8 ≤ len := Nat.le_trans (Nat.sub_le _ _) (Nat.le_of_not_lt (fun h => hc (Or.inr h)))
      obtain ⟨st', he, hm⟩ := htsp (8 - src % 8) (Nat.sub_pos_of_lt (Nat.mod_lt _ (by decide))) h8
      exact ⟨8 - src % 8, st', h8, he, hm⟩
  · rw [if_neg ha]
    exact ⟨0, st, Nat.zero_le _, rfl, Moved.nil _ _ _⟩

theorem moveBwdAlign_ok (dest src len : Nat) (st : St) (hge : src ≤ dest) (hpos : 0 < len)
    (hw : RW st dest len) (hr : RD st src len) :
    ∃ t st', t ≤ len ∧
      exec (moveBwdAlign (dest + len) (src + len) len) st =
        .ok ((dest + (len - t), src + (len - t), len - t), st') ∧
      Moved st st' (dest + (len - t)) (src + (len - t)) t := by
  unfold moveBwdAlign
  by_cases ha : ((src + len) ||| (dest + len)) % 8 ≠ 0
  · rw [if_pos ha]
    have htsp : ∀ tsp, 0 < tsp → tsp ≤ len →
        ∃ st', exec (do
          let (dp', sp') ← copyBwd (doWhileCount tsp) (dest + len) (src + len)
          pure (dp', sp', len - tsp)) st = .ok ((dest + (len - tsp), src + (len - tsp), len - tsp), st') ∧
          Moved st st' (dest + (len - tsp)) (src + (len - tsp)) tsp := by
      intro tsp h1 h2
      obtain ⟨L, rfl⟩ : ∃ L, len = L + tsp := ⟨len - tsp, (Nat.sub_add_cancel h2).symm⟩
      rw [Nat.add_sub_cancel, doWhileCount_pos h1, ← Nat.add_assoc, ← Nat.add_assoc]
      obtain ⟨st', he, hm⟩ := copyBwd_ok tsp (dest + L) (src + L) st (Nat.add_le_add_right hge L)
        hw.drop hr.drop
      exact ⟨st', by rw [exec_bind, he]; rfl, hm⟩
    by_cases hc : ((src + len) ^^^ (dest + len)) % 8 ≠ 0 ∨ len ≤ 8
    · simp only [if_pos hc]
      obtain ⟨st', he, hm⟩ := htsp len hpos (Nat.le_refl _)
      exact ⟨len, st', Nat.le_refl _, he, hm⟩
    · simp only [if_neg hc]
      -- `tsp = sp % 8` is not 0 here: the pointers agree mod 8 and are not both aligned
      have hnz : (src + len) % 8 ≠ 0 := or_xor_mod8 _ _ ha (fun h => hc (Or.inl h))
      have h8 : (src + len) % 8 ≤ len := Nat.le_trans (Nat.le_of_lt (Nat.mod_lt _ (by decide)))
        (Nat.le_of_not_le (fun h => hc (Or.inr h)))
      obtain ⟨st', he, hm⟩ := htsp _ (Nat.pos_of_ne_zero hnz) h8
      exact ⟨_, st', h8, he, hm⟩
  · rw [if_neg ha]
    exact ⟨0, st, Nat.zero_le _, rfl, Moved.nil _ _ _⟩

/-- **`mem_prim_move(dest, src, len)` = `memmove`, all lengths, placements, overlaps, alignments.**
`n = len mod 2^32` (the parameter is a `uint32_t`), `n ≠ 0` (with `n = 0` and unaligned pointers the
`do … while (--tsp)` prologue is entered with `tsp = 0` and runs 2^64 times: the callers never pass 0). -/
theorem mem_prim_move_ok (dest src len : Nat) (st : St) (hpos : 0 < len % U32)
    (hw : RW st dest (len % U32)) (hr : RD st src (len % U32)) :
    ∃ st', exec (mem_prim_move dest src len) st = .ok ((), st') ∧ Moved st st' dest src (len % U32) := by
  generalize hn : len % U32 = n at hpos hw hr
  unfold mem_prim_move
  simp only [hn]
  by_cases hlt : dest < src
  · simp only [if_pos hlt]
    have hle : dest ≤ src := Nat.le_of_lt hlt
    obtain ⟨t, s1, ht, he1, hm1⟩ := moveFwdAlign_ok dest src n st hle hpos hw hr
    obtain ⟨L, rfl⟩ : ∃ L, n = t + L := ⟨n - t, (Nat.add_sub_of_le ht).symm⟩
    rw [Nat.add_sub_cancel_left] at he1
    obtain ⟨s2, he2, hm2⟩ := fwdBody_ok wordsFwd_ok L _ _ s1 (Nat.add_le_add_right hle t)
      (RW.of_sameMeta hm1.same hw.drop) (RD.of_sameMeta hm1.same hr.drop)
    refine ⟨s2, ?_, Moved.append_fwd hle hm1 hm2⟩
    rw [exec_bind, he1]
    exact he2
  · simp only [if_neg hlt]
    have hle : src ≤ dest := Nat.le_of_not_lt hlt
    obtain ⟨t, s1, ht, he1, hm1⟩ := moveBwdAlign_ok dest src n st hle hpos hw hr
    -- the prologue has moved the `t` highest cells; `L` remain below
    obtain ⟨L, rfl⟩ : ∃ L, n = L + t := ⟨n - t, (Nat.sub_add_cancel ht).symm⟩
    rw [Nat.add_sub_cancel] at he1 hm1
    obtain ⟨s2, he2, hm2⟩ := bwdBody_ok wordsBwd_ok L dest src s1 hle
      (RW.of_sameMeta hm1.same hw.take) (RD.of_sameMeta hm1.same hr.take)
    refine ⟨s2, ?_, Moved.append_bwd hle hm1 hm2⟩
    rw [exec_bind, he1]
    exact he2

/-- **`mem_prim_move8/16/32(dest, src, len)` = `memmove` on elements**, all lengths (`len mod 2^32`
elements), placements and overlaps -/
theorem primMoveElems_ok (dest src len : Nat) (st : St)
    (hw : RW st dest (len % U32)) (hr : RD st src (len % U32)) :
    ∃ st', exec (primMoveElems dest src len) st = .ok ((), st') ∧ Moved st st' dest src (len % U32) := by
  generalize hn : len % U32 = n at hw hr
  unfold primMoveElems
  simp only [hn]
  by_cases hlt : dest < src
  · simp only [if_pos hlt]
    refine fwdBody_ok (blocksFwd_ok (fun _ _ => rfl) fun q dp sp st hle hw hr => ?_) n dest src st
      (Nat.le_of_lt hlt) hw hr
    obtain ⟨s1, he, hm⟩ := copyFwd_ok 16 dp sp st hle hw hr
    exact ⟨s1, hm, by simp only [moveBlocksFwd, exec_bind, he]⟩
  · simp only [if_neg hlt]
    refine bwdBody_ok (blocksBwd_ok (fun _ _ => rfl) fun q d s st hle hw hr => ?_) n dest src st
      (Nat.le_of_not_lt hlt) hw hr
    obtain ⟨s1, he, hm⟩ := copyBwd_ok 16 d s st hle hw hr
    exact ⟨s1, hm, by simp only [moveBlocksBwd, exec_bind, he]⟩

/-! ## what a returning run tells about the mapping (used where only a footprint is mapped, `Props/C02Mem.lean`) -/

theorem exec_bind_ok {α β} {p : Prog α} {f : α → Prog β} {s : St} {x : β × St} (h : exec (p >>= f) s = .ok x) :
    ∃ a s', exec p s = .ok (a, s') := by
  rw [exec_bind] at h
  cases hp : exec p s with
  | ok v => exact ⟨v.1, v.2, rfl⟩
  | error e => rw [hp] at h; cases h

theorem copyFwd_ok_mapped (n dp sp : Nat) (st : St) {r : Nat × Nat} {st' : St}
    (h : exec (copyFwd n dp sp) st = .ok (r, st')) : ∀ k, k < n → st.mapped (sp + k) = true := by
  induction n generalizing dp sp st with
  | zero => intro k hk; omega
  | succ n ih =>
    intro k hk
    simp only [copyFwd, exec_bind, exec_load, exec_store] at h
    by_cases hm : st.mapped sp = true
    · simp only [hm, if_true] at h
      by_cases hm2 : (st.noteRd sp).mapped dp = true
      · simp only [hm2, if_true] at h
        cases k with
        | zero => exact hm
        | succ k =>
          have := ih _ _ _ h k (by omega)
          rw [St.upd_mapped, St.noteWr_mapped, St.noteRd_mapped] at this
          rw [show sp + (k + 1) = sp + 1 + k by omega]; exact this
      · simp [hm2] at h
    · simp [hm] at h

end SafeC
