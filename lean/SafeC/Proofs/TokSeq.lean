import SafeC.Proofs.TokAll
/-!
# Call sequences of the tokenizers (helper lemmas for the C14 sequence theorems)

* congruence: `scanLen`, `inSet`, `isDelim`, `skipD`, `findE`, `callSpec` depend only on the cells they look at;
* `nul_after`: the pointer a call hands back is not behind the terminator, which therefore is where it was
  (`term_after`: the rest is terminated inside the remaining length handed back);
* `Inv`: what a caller's tokenizing loop maintains between calls; `Inv.step`: one call re-establishes it
  for the pointer / remaining length it hands back;
* `toks`: the maximal delimiter-free runs of the ORIGINAL string as (start, end) address pairs;
* `specSeq`: the returned pointers of a call sequence as a pure function of the memory.

`callSpec` and the one-call theorems are in `TokAll.lean`; the sequence theorems about `toks` and `specSeq`
are in `Props/C14Seq.lean`.
-/
namespace SafeC.Props.C14
open SafeC Gen

theorem scanLen_congr (m m' : Nat → Nat) (p n : Nat) (h : ∀ j, j < n → m (p+j) = m' (p+j)) :
    scanLen m p n = scanLen m' p n := by
  have hl := scanLen_le m p n
  rw [scanLen_eq_least m']
  exact (least_unique hl (fun j hj => by rw [← h j (by omega)]; simpa using scanLen_nonzero m p n j hj)
    fun hlt => by rw [← h _ hlt]; simpa using scanLen_zero m p n hlt).symm

theorem inSet_congr (m m' : Nat → Nat) (c p n : Nat) (h : ∀ j, j ≤ n → m (p+j) = m' (p+j)) :
    inSet m c p n = inSet m' c p n := by
  induction n generalizing p with
  | zero => rfl
  | succ n ih =>
    have h0 := h 0 (by omega)
    simp only [Nat.add_zero] at h0
    simp only [inSet, h0]
    split
    · rfl
    · split
      · rfl
      · exact ih (p+1) (fun j hj => by have := h (j+1) (by omega); simpa [Nat.add_assoc, Nat.add_comm 1 j] using this)

def DelimAgree (m m' : Nat → Nat) (dl : Nat) : Prop := ∀ j, j ≤ STRTOK_DELIM_MAX_LEN → m (dl+j) = m' (dl+j)

theorem DelimOK_congr (m m' : Nat → Nat) (dl : Nat) (h : DelimAgree m m' dl) (hd : DelimOK m dl) : DelimOK m' dl := by
  unfold DelimOK at *
  rw [← scanLen_congr m m' dl _ (fun j hj => h j (by omega))]
  exact hd

theorem skipD_congr (m m' : Nat → Nat) (dl n p : Nat) (hd : DelimAgree m m' dl) (h : ∀ x, p ≤ x → m x = m' x) :
    skipD m dl n p = skipD m' dl n p := by
  rw [skipD_eq_span, skipD_eq_span,
    spanLen_congr m m' _ _ _ _ _ (fun c => inSet_congr m m' c dl _ hd) (fun j _ => h _ (by omega))]

theorem findE_congr (m m' : Nat → Nat) (dl n p : Nat) (hd : DelimAgree m m' dl) (h : ∀ x, p ≤ x → m x = m' x) :
    findE m dl n p = findE m' dl n p := by
  rw [findE_eq_span, findE_eq_span,
    spanLen_congr m m' _ _ _ _ _ (fun c => inSet_congr m m' c dl _ hd) (fun j _ => h _ (by omega))]

theorem callSpec_congr (m m' : Nat → Nat) (dl p n : Nat) (hd : DelimAgree m m' dl) (h : ∀ x, p ≤ x → m x = m' x) :
    callSpec m dl p n = callSpec m' dl p n := by
  unfold callSpec
  have e1 := skipD_congr m m' dl n p hd h
  have hb := skipD_bounds m' dl n p
  simp only [e1, h (skipD m' dl n p) hb.1]
  split
  · rfl
  · have e2 := findE_congr m m' dl (n - (skipD m' dl n p - p) - 1) (skipD m' dl n p + 1) hd (fun x hx => h x (by omega))
    have hfb := findE_bounds m' dl (n - (skipD m' dl n p - p) - 1) (skipD m' dl n p + 1)
    simp only [e2, h _ (show p ≤ findE m' dl (n - (skipD m' dl n p - p) - 1) (skipD m' dl n p + 1) by omega)]

def afterCall (m : Nat → Nat) (c : CallSpec) : Nat → Nat :=
  match c.cut with
  | none => m
  | some b => fun x => if x = b then 0 else m x

/-- the returned pointers of successive calls (one delimiter string per call), as a pure function -/
def specSeq : List Nat → (Nat → Nat) → Nat → Nat → List Nat
  | [], _, _, _ => []
  | dl :: rest, m, p, n =>
    let c := callSpec m dl p n
    c.ret :: specSeq rest (afterCall m c) c.ptr c.rem

/-- the maximal delimiter-free runs of the string at `p` (`n` cells looked at) as (start, end)
address pairs, computed on ONE memory; `fuel` bounds the number of tokens -/
def toks (m : Nat → Nat) (dl : Nat) : Nat → Nat → Nat → List (Nat × Nat)
  | 0, _, _ => []
  | fuel+1, p, n =>
    let a := skipD m dl n p
    if m a = 0 then []
    else
      let n' := n - (a - p) - 1
      let b := findE m dl n' (a+1)
      if m b = 0 then [(a, b)]
      else (a, b) :: toks m dl fuel (b+1) (n' - (b - (a+1)) - 1)

/-- what a caller's tokenizing loop has before a call: everything readable, the remaining extent `[p, p+n)` writable
and holding a NUL, each delimiter string still to be used valid and outside the extent -/
structure Inv (st : St) (dls : List Nat) (p n : Nat) : Prop where
  all : AllRd st
  delim : ∀ dl ∈ dls, DelimOK st.data dl
  pne : p ≠ 0
  term : scanLen st.data p n < n
  wr : ∀ a, p ≤ a → a < p + n → st.wr a = true
  apart : ∀ dl ∈ dls, ∀ j, j ≤ STRTOK_DELIM_MAX_LEN → ¬ (p ≤ dl + j ∧ dl + j < p + n)

theorem afterCall_agree_delim (m : Nat → Nat) (dl' dl p n : Nat) (hz : scanLen m p n < n)
    (hap : ∀ j, j ≤ STRTOK_DELIM_MAX_LEN → ¬ (p ≤ dl' + j ∧ dl' + j < p + n)) :
    DelimAgree m (afterCall m (callSpec m dl p n)) dl' := by
  intro j hj
  unfold afterCall
  cases hc : (callSpec m dl p n).cut with
  | none => rfl
  | some b =>
    obtain ⟨h1, h2, _, _⟩ := tok_only_delim_overwritten m dl p n b hz hc
    have : dl' + j ≠ b := by intro h; exact hap j hj ⟨by omega, by omega⟩
    simp [this]

theorem afterCall_agree_tail (m : Nat → Nat) (dl p n : Nat) (hz : scanLen m p n < n) :
    ∀ x, (callSpec m dl p n).ptr ≤ x → m x = afterCall m (callSpec m dl p n) x := by
  have h := callSpec_cases m dl p n hz
  generalize callSpec m dl p n = c at h ⊢
  intro x hx
  -- the cut is strictly below the continuation pointer
  cases h <;> simp only [afterCall]
  rw [if_neg]; simp only [] at hx; omega

theorem ptr_bounds (m : Nat → Nat) (dl p n : Nat) (hz : scanLen m p n < n) :
    p ≤ (callSpec m dl p n).ptr ∧ (callSpec m dl p n).ptr + (callSpec m dl p n).rem = p + n := by
  have h := callSpec_cases m dl p n hz
  generalize callSpec m dl p n = c at h ⊢
  cases h <;> simp only [] <;> omega

theorem nul_after (m : Nat → Nat) (dl p n : Nat) (hz : scanLen m p n < n) :
    (callSpec m dl p n).ptr + scanLen m (callSpec m dl p n).ptr (callSpec m dl p n).rem = p + scanLen m p n := by
  have h := callSpec_cases m dl p n hz
  generalize callSpec m dl p n = c at h ⊢
  -- no cell between `p` and the pointer handed back is NUL
  have key : ∀ q, p ≤ q → q ≤ p + n → (∀ j, p ≤ j → j < q → m j ≠ 0) →
      q + scanLen m q (p + n - q) = p + scanLen m p n := fun q h1 h2 hnz => by
    rw [show p + n - q = n - (q - p) by omega]
    exact scanLen_from m p n q h1 (le_nul_of_nonzero m p n q hz hnz)
  cases h with
  | nul a _ h1 h2 hlead h0 => exact key a h1 (by omega) fun j a b => (hlead j a b).1
  | last a b _ _ h1 h2 h3 hlead htok h0 =>
    exact key b (by omega) (by omega) fun j hj1 hj2 =>
      if hja : j < a then (hlead j hj1 hja).1 else (htok j (by omega) hj2).1
  | cut a b _ _ h1 h2 h3 hlead htok h0 hd =>
    exact key (b+1) (by omega) (by omega) fun j hj1 hj2 =>
      if hja : j < a then (hlead j hj1 hja).1 else if hjb : j = b then hjb ▸ h0 else (htok j (by omega) (by omega)).1

theorem term_after (m : Nat → Nat) (dl p n : Nat) (hz : scanLen m p n < n) :
    scanLen (afterCall m (callSpec m dl p n)) (callSpec m dl p n).ptr (callSpec m dl p n).rem
      < (callSpec m dl p n).rem := by
  -- `afterCall` agrees with `m` from `ptr` on
  rw [← scanLen_congr m _ _ _ (fun j _ => afterCall_agree_tail m dl p n hz _ (by omega))]
  have := nul_after m dl p n hz
  have := ptr_bounds m dl p n hz
  omega

theorem Inv.of_after {st st' : St} {dl : Nat} {dls : List Nat} {p n : Nat} (hI : Inv st (dl :: dls) p n)
    (hm : st'.mapped = st.mapped) (hr : st'.rd = st.rd) (hw : st'.wr = st.wr)
    (hdata : st'.data = afterCall st.data (callSpec st.data dl p n)) :
    Inv st' dls (callSpec st.data dl p n).ptr (callSpec st.data dl p n).rem := by
  have hpb := ptr_bounds st.data dl p n hI.term
  have hpne := hI.pne
  refine ⟨?_, ?_, by omega, ?_, ?_, ?_⟩
  · intro a; rw [hm, hr]; exact hI.all a
  · intro d hd
    rw [hdata]
    exact DelimOK_congr st.data _ d
      (afterCall_agree_delim st.data d dl p n hI.term (hI.apart d (by simp [hd]))) (hI.delim d (by simp [hd]))
  · rw [hdata]; exact term_after st.data dl p n hI.term
  · intro a h1 h2; rw [hw]; exact hI.wr a (by omega) (by omega)
  · intro d hd j hj h
    exact hI.apart d (by simp [hd]) j hj ⟨by omega, by omega⟩

theorem Inv.step {st : St} {dl : Nat} {dls : List Nat} {p n : Nat} (hI : Inv st (dl :: dls) p n) (wide : Bool) :
    ∃ st', exec (tokBody wide dl p n) st =
        .ok ({ ret := (callSpec st.data dl p n).ret, dmaxv := some (callSpec st.data dl p n).rem,
               ptrv := some (callSpec st.data dl p n).ptr }, st') ∧
      st'.data = afterCall st.data (callSpec st.data dl p n) ∧
      Inv st' dls (callSpec st.data dl p n).ptr (callSpec st.data dl p n).rem := by
  have hcall := tok_call wide dl p n st hI.all (hI.delim dl (by simp)) hI.pne hI.term hI.wr
  cases hc : (callSpec st.data dl p n).cut with
  | none =>
    simp only [hc] at hcall
    have hdata : st.data = afterCall st.data (callSpec st.data dl p n) := by simp [afterCall, hc]
    exact ⟨st, hcall, hdata, hI.of_after rfl rfl rfl hdata⟩
  | some b =>
    simp only [hc] at hcall
    have hdata : (st.upd b 0).data = afterCall st.data (callSpec st.data dl p n) := by
      funext x; simp [afterCall, hc, St.upd]
    exact ⟨st.upd b 0, hcall, hdata, hI.of_after rfl rfl rfl hdata⟩

end SafeC.Props.C14
