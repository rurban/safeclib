import SafeC.Models.Fmt
/-!
# The format grammar of the C standard as a specification (C09)

`PParse fmt b` — "`fmt` is a printf format of the grammar

    literal* ( %% | % flags* width? (.prec)? length? conv )*          (C11 7.21.6.1 §3–§8)

and `b` says whether one of its conversion specifications is an `n` conversion".  `SParse` is the same
for scanf formats (C11 7.21.6.2: `%`, `*`, width, length, conversion, scan sets).  The grammar is stated
on its own, as an inductive relation on the characters of the format; nothing here mentions the pre-scan,
the engine or the libc models.  Meaning lemmas:

* `PParse.append` — text before and after: formats concatenate, the `n` flags are or-ed;
* `PParse.unique` — the grammar is unambiguous: a format has at most one reading (`true` xor `false`);
* `pparse_n_anywhere` — every spelling `% flags width .prec length n`, anywhere between two formats of the
  grammar, is an `n` conversion;
* `decor_chars` — what can stand between a `%` and its conversion character;
* `pcheck`, `pcheck_sound` — a parser for the printf grammar: a concrete format is shown to be in it by evaluation.
-/
namespace SafeC.Fmt.Gram
open SafeC.Fmt

/-- flag characters (C11 7.21.6.1 §6) -/
def isFlag (c : Char) : Bool := c == '-' || c == '+' || c == ' ' || c == '#' || c == '0'

/-- a decimal integer that does not start with `0` (a leading `0` is a flag) -/
def isNum (w : Str) : Bool := w.all Char.isDigit && w.head?.any (· != '0')

/-- field width: nothing, `*`, or a decimal integer -/
def isWidth (w : Str) : Bool := w == [] || w == ['*'] || isNum w

/-- precision: nothing, or `.` followed by nothing, `*`, or digits -/
def isPrec (p : Str) : Bool := p == [] || (p.head? == some '.' && (p.tail == ['*'] || p.tail.all Char.isDigit))

/-- length modifiers (C11 7.21.6.1 §7) -/
def lengths : List Str := [[], ['h', 'h'], ['h'], ['l'], ['l', 'l'], ['j'], ['z'], ['t'], ['L']]

/-- conversion specifiers (C11 7.21.6.1 §8) other than `%` -/
def convs : Str := ['d', 'i', 'o', 'u', 'x', 'X', 'f', 'F', 'e', 'E', 'g', 'G', 'a', 'A', 'c', 's', 'p', 'n']

/-- what stands between the `%` and the conversion character -/
structure Decor where
  fl : Str
  w : Str
  p : Str
  l : Str
  deriving DecidableEq, Repr

def Decor.ok (d : Decor) : Bool := d.fl.all isFlag && isWidth d.w && isPrec d.p && lengths.contains d.l
def Decor.text (d : Decor) : Str := d.fl ++ (d.w ++ (d.p ++ d.l))
def Decor.none : Decor := ⟨[], [], [], []⟩

inductive PParse : Str → Bool → Prop
  | nil : PParse [] false
  | lit {c : Char} {r : Str} {b : Bool} : c ≠ '%' → PParse r b → PParse (c :: r) b
  | esc {r : Str} {b : Bool} : PParse r b → PParse ('%' :: '%' :: r) b
  | conv {d : Decor} {c : Char} {r : Str} {b : Bool} :
      d.ok = true → c ∈ convs → PParse r b → PParse ('%' :: (d.text ++ c :: r)) (c == 'n' || b)

def PWf (fmt : Str) : Prop := ∃ b, PParse fmt b
abbrev PHasN (fmt : Str) : Prop := PParse fmt true

def isDecorChar (c : Char) : Bool :=
  isFlag c || c.isDigit || c == '*' || c == '.' || c == 'h' || c == 'l' || c == 'j' || c == 'z' || c == 't' || c == 'L'

theorem isNum_chars {w : Str} (h : isNum w = true) : ∀ x ∈ w, x.isDigit = true := by
  simp only [isNum, Bool.and_eq_true] at h
  exact List.all_eq_true.mp h.1

theorem isWidth_chars {w : Str} (h : isWidth w = true) : ∀ x ∈ w, isDecorChar x = true := by
  simp only [isWidth, Bool.or_eq_true, beq_iff_eq] at h
  rcases h with (h | h) | h
  · subst h; simp
  · subst h; intro x hx; simp at hx; subst hx; decide
  · intro x hx; simp [isDecorChar, isNum_chars h x hx]

theorem isPrec_chars {p : Str} (h : isPrec p = true) : ∀ x ∈ p, isDecorChar x = true := by
  cases p with
  | nil => simp
  | cons a t =>
    simp only [isPrec, Bool.or_eq_true, Bool.and_eq_true, beq_iff_eq, List.head?_cons, List.tail_cons] at h
    rcases h with h | ⟨ha, h⟩
    · cases h
    · have ha : a = '.' := by simpa using ha
      subst ha
      intro x hx
      rcases List.mem_cons.mp hx with rfl | hx
      · decide
      · rcases h with h | h
        · subst h; simp at hx; subst hx; decide
        · simp [isDecorChar, List.all_eq_true.mp h x hx]

theorem length_chars : ∀ l ∈ lengths, ∀ x ∈ l, isDecorChar x = true := by decide

theorem flag_decor {c : Char} (h : isFlag c = true) : isDecorChar c = true := by simp [isDecorChar, h]

theorem decor_chars {d : Decor} (h : d.ok = true) : ∀ x ∈ d.text, isDecorChar x = true := by
  simp only [Decor.ok, Bool.and_eq_true, List.contains_iff_mem] at h
  obtain ⟨⟨⟨hf, hw⟩, hp⟩, hl⟩ := h
  intro x hx
  simp only [Decor.text, List.mem_append] at hx
  rcases hx with hx | hx | hx | hx
  · exact flag_decor (List.all_eq_true.mp hf x hx)
  · exact isWidth_chars hw x hx
  · exact isPrec_chars hp x hx
  · exact length_chars _ (by simpa using hl) x hx

theorem flag_cases {c : Char} (h : isFlag c = true) : c = '-' ∨ c = '+' ∨ c = ' ' ∨ c = '#' ∨ c = '0' := by
  simpa [isFlag, or_assoc] using h

theorem decorChar_ne_pct {c : Char} (h : isDecorChar c = true) : c ≠ '%' := by
  intro e; subst e; revert h; decide

theorem conv_not_decor {c : Char} : c ∈ convs → isDecorChar c = false := by
  revert c; decide

theorem decorChar_ne_n {c : Char} (h : isDecorChar c = true) : c ≠ 'n' := by
  intro e; subst e; revert h; decide

theorem conv_ne_pct {c : Char} (h : c ∈ convs) : c ≠ '%' := by
  intro e; subst e; revert h; decide

theorem PParse.append {f g : Str} {a b : Bool} (hf : PParse f a) (hg : PParse g b) : PParse (f ++ g) (a || b) := by
  induction hf with
  | nil => simpa using hg
  | lit hc _ ih => exact PParse.lit hc ih
  | esc _ ih => exact PParse.esc ih
  | @conv d c r b' hd hc _ ih =>
    have : ('%' :: (d.text ++ c :: r)) ++ g = '%' :: (d.text ++ c :: (r ++ g)) := by simp
    rw [this, Bool.or_assoc]
    exact PParse.conv hd hc ih

theorem pparse_n_anywhere {pre post : Str} {a b : Bool} (d : Decor) (hd : d.ok = true)
    (hpre : PParse pre a) (hpost : PParse post b) : PHasN (pre ++ '%' :: (d.text ++ 'n' :: post)) := by
  have h := PParse.append hpre (PParse.conv (c := 'n') hd (by decide) hpost)
  simpa using h

theorem split_unique {P : Char → Bool} : ∀ {l1 l2 : Str} {c1 c2 : Char} {r1 r2 : Str},
    (∀ x ∈ l1, P x = false) → (∀ x ∈ l2, P x = false) → P c1 = true → P c2 = true →
    l1 ++ c1 :: r1 = l2 ++ c2 :: r2 → c1 = c2 ∧ r1 = r2 := by
  intro l1
  induction l1 with
  | nil =>
    intro l2 c1 c2 r1 r2 _ h2 hc1 _ he
    cases l2 with
    | nil => simpa using he
    | cons a t =>
      simp at he
      have := h2 a (by simp)
      rw [← he.1, hc1] at this; cases this
  | cons a t ih =>
    intro l2 c1 c2 r1 r2 h1 h2 hc1 hc2 he
    cases l2 with
    | nil =>
      simp at he
      have := h1 a (by simp)
      rw [he.1, hc2] at this; cases this
    | cons a' t' =>
      simp at he
      exact ih (fun x hx => h1 x (by simp [hx])) (fun x hx => h2 x (by simp [hx])) hc1 hc2 he.2

def isConvChar (c : Char) : Bool := convs.contains c

theorem conv_isConvChar {c : Char} (h : c ∈ convs) : isConvChar c = true := by simpa [isConvChar] using h

theorem decor_not_convChar {d : Decor} (h : d.ok = true) : ∀ x ∈ d.text, isConvChar x = false := by
  intro x hx
  cases hc : isConvChar x with
  | false => rfl
  | true =>
    have := decor_chars h x hx
    rw [conv_not_decor (by simpa [isConvChar] using hc)] at this; cases this

theorem decor_conv_head_ne_pct {d : Decor} (hd : d.ok = true) {c : Char} (hc : c ∈ convs) (r : Str) :
    (d.text ++ c :: r).head? ≠ some '%' := by
  cases ht : d.text with
  | nil => simpa using conv_ne_pct hc
  | cons a t =>
    have := decorChar_ne_pct (decor_chars hd a (by rw [ht]; simp))
    simpa using this

theorem PParse.unique : ∀ {f : Str} {a b : Bool}, PParse f a → PParse f b → a = b := by
  intro f a b h1
  induction h1 generalizing b with
  | nil => intro h2; cases h2; rfl
  | lit hc _ ih =>
    intro h2
    cases h2 with
    | lit _ h => exact ih h
    | esc _ => exact absurd rfl hc
    | conv _ _ _ => exact absurd rfl hc
  | esc _ ih =>
    intro h2
    generalize hf : ('%' :: '%' :: _ : Str) = f at h2
    cases h2 with
    | nil => cases hf
    | lit hc _ => simp at hf; exact absurd hf.1.symm hc
    | esc h => simp at hf; subst hf; exact ih h
    | @conv d c r b' hd hc h =>
      exfalso
      simp at hf
      exact decor_conv_head_ne_pct hd hc r (by rw [← hf]; rfl)
  | @conv d c r b' hd hc _ ih =>
    intro h2
    generalize hf : ('%' :: (d.text ++ c :: r) : Str) = f at h2
    cases h2 with
    | nil => cases hf
    | lit hc' _ => simp at hf; exact absurd hf.1.symm hc'
    | esc h =>
      exfalso
      simp at hf
      exact decor_conv_head_ne_pct hd hc r (by rw [hf]; rfl)
    | @conv d2 c2 r2 b2 hd2 hc2 h =>
      simp at hf
      obtain ⟨e1, e2⟩ := split_unique (P := isConvChar) (decor_not_convChar hd) (decor_not_convChar hd2)
        (conv_isConvChar hc) (conv_isConvChar hc2) hf
      subst e1; subst e2
      rw [ih h]

theorem PParse.not_both {f : Str} (h1 : PParse f true) (h2 : PParse f false) : False := by
  cases PParse.unique h1 h2

/-! ## the scanf grammar (C11 7.21.6.2 §3, §12) -/

/-- scanf conversion specifiers other than `[` and `%` -/
def sconvs : Str := ['d', 'i', 'o', 'u', 'x', 'X', 'f', 'F', 'e', 'E', 'g', 'G', 'a', 'A', 'c', 's', 'p', 'n']

/-- the text of a scan set between `[` and the closing `]`: optional `^`, then a first member that may be `]`,
    then members other than `]` -/
structure SetBody where
  neg : Bool
  first : Char
  rest : Str
  deriving DecidableEq, Repr

def SetBody.ok (s : SetBody) : Bool := (s.neg || s.first != '^') && !s.rest.contains ']'
def SetBody.text (s : SetBody) : Str := (if s.neg then ['^'] else []) ++ s.first :: s.rest

/-- assignment suppression, maximum field width, length modifier -/
structure SDecor where
  sup : Bool
  w : Str
  l : Str
  deriving DecidableEq, Repr

def SDecor.ok (d : SDecor) : Bool := (d.w == [] || isNum d.w) && lengths.contains d.l
def SDecor.text (d : SDecor) : Str := (if d.sup then ['*'] else []) ++ (d.w ++ d.l)

/-- **the scanf grammar**; the Boolean: some `n` conversion stores (is not suppressed by `*`).
    `okSet` restricts the scan sets that may occur (`fun _ => True`: all of them). -/
inductive SParse (okSet : SetBody → Prop) : Str → Bool → Prop
  | nil : SParse okSet [] false
  | lit {c : Char} {r : Str} {b : Bool} : c ≠ '%' → SParse okSet r b → SParse okSet (c :: r) b
  | esc {r : Str} {b : Bool} : SParse okSet r b → SParse okSet ('%' :: '%' :: r) b
  | conv {d : SDecor} {c : Char} {r : Str} {b : Bool} :
      d.ok = true → c ∈ sconvs → SParse okSet r b →
      SParse okSet ('%' :: (d.text ++ c :: r)) ((c == 'n' && !d.sup) || b)
  | set {d : SDecor} {s : SetBody} {r : Str} {b : Bool} :
      d.ok = true → s.ok = true → okSet s → SParse okSet r b →
      SParse okSet ('%' :: (d.text ++ '[' :: (s.text ++ ']' :: r))) b

abbrev SParseAll := SParse (fun _ => True)
abbrev SParseNoPct := SParse (fun s => s.first ≠ '%' ∧ '%' ∉ s.rest)

theorem SParse.mono {P Q : SetBody → Prop} (hPQ : ∀ s, P s → Q s) {f : Str} {b : Bool} (h : SParse P f b) : SParse Q f b := by
  induction h with
  | nil => exact SParse.nil
  | lit hc _ ih => exact SParse.lit hc ih
  | esc _ ih => exact SParse.esc ih
  | conv hd hc _ ih => exact SParse.conv hd hc ih
  | set hd hs hP _ ih => exact SParse.set hd hs (hPQ _ hP) ih

theorem sdecor_chars {d : SDecor} (h : d.ok = true) : ∀ x ∈ d.text, isDecorChar x = true := by
  simp only [SDecor.ok, Bool.and_eq_true, Bool.or_eq_true, beq_iff_eq, List.contains_iff_mem] at h
  obtain ⟨hw, hl⟩ := h
  intro x hx
  simp only [SDecor.text, List.mem_append] at hx
  rcases hx with hx | hx | hx
  · split at hx
    · simp at hx; subst hx; decide
    · simp at hx
  · rcases hw with hw | hw
    · rw [hw] at hx; simp at hx
    · simp [isDecorChar, isNum_chars hw x hx]
  · exact length_chars _ (by simpa using hl) x hx

theorem SParse.append {P : SetBody → Prop} {f g : Str} {a b : Bool} (hf : SParse P f a) (hg : SParse P g b) :
    SParse P (f ++ g) (a || b) := by
  induction hf with
  | nil => simpa using hg
  | lit hc _ ih => exact SParse.lit hc ih
  | esc _ ih => exact SParse.esc ih
  | @conv d c r b' hd hc _ ih =>
    have : ('%' :: (d.text ++ c :: r)) ++ g = '%' :: (d.text ++ c :: (r ++ g)) := by simp
    rw [this, Bool.or_assoc]
    exact SParse.conv hd hc ih
  | @set d s r b' hd hs hP _ ih =>
    have : ('%' :: (d.text ++ '[' :: (s.text ++ ']' :: r))) ++ g = '%' :: (d.text ++ '[' :: (s.text ++ ']' :: (r ++ g))) := by simp
    rw [this]
    exact SParse.set hd hs hP ih

/-! ## a parser for the printf grammar

Membership of a concrete format is decided by running `pcheck`.  The decoration is recovered from the stretch of decoration
characters behind the `%`; soundness does not need the splitter to be right, since `pcheck` compares `d.text` with that stretch. -/

/-- the decoration a stretch of decoration characters must be, if it is one: flags, then `*` or digits, then `.` with `*` or
    digits, the rest as length modifier -/
def splitDecor (t : Str) : Decor :=
  let t1 := t.dropWhile isFlag
  let w := if t1.head? = some '*' then ['*'] else t1.takeWhile Char.isDigit
  let t2 := t1.drop w.length
  let p := if t2.head? = some '.' then (if t2.tail.head? = some '*' then ['.', '*'] else '.' :: t2.tail.takeWhile Char.isDigit) else []
  ⟨t.takeWhile isFlag, w, p, t2.drop p.length⟩

/-- fuel: one unit per character -/
def pcheck : Nat → Str → Option Bool
  | _, [] => some false
  | 0, _ :: _ => none
  | k + 1, c :: rest =>
    if c ≠ '%' then pcheck k rest
    else match rest with
      | '%' :: r => pcheck k r
      | _ =>
        match rest.dropWhile isDecorChar with
        | [] => none
        | x :: r =>
          let t := rest.takeWhile isDecorChar
          if (splitDecor t).ok && (splitDecor t).text == t && convs.contains x then (pcheck k r).map (x == 'n' || ·) else none

theorem pcheck_sound : ∀ (k : Nat) (f : Str) (b : Bool), pcheck k f = some b → PParse f b := by
  intro k
  induction k with
  | zero =>
    intro f b h
    cases f with
    | nil => cases h; exact PParse.nil
    | cons c r => cases h
  | succ k ih =>
    intro f b h
    cases f with
    | nil => cases h; exact PParse.nil
    | cons c rest =>
      unfold pcheck at h
      by_cases hc : c ≠ '%'
      · rw [if_pos hc] at h; exact PParse.lit hc (ih _ _ h)
      · rw [if_neg hc] at h
        have hc' : c = '%' := by simpa using hc
        subst hc'
        split at h
        · exact PParse.esc (ih _ _ h)
        · split at h
          · cases h
          · rename_i x r hdw
            simp only at h
            split at h
            · rename_i hok
              simp only [Bool.and_eq_true, beq_iff_eq, List.contains_iff_mem] at hok
              obtain ⟨b', hb', rfl⟩ := Option.map_eq_some_iff.mp h
              have hsplit : rest = (splitDecor (rest.takeWhile isDecorChar)).text ++ x :: r := by
                rw [hok.1.2, ← hdw, List.takeWhile_append_dropWhile]
              rw [hsplit]
              exact PParse.conv hok.1.1 (by simpa using hok.2) (ih _ _ hb')
            · cases h

theorem pparse_of_check {f : Str} {b : Bool} (h : pcheck f.length f = some b) : PParse f b := pcheck_sound _ _ _ h

/-! ## the grammars are inhabited by non-trivial formats -/

example : PHasN "ab%5.3lld%%%-08.*hhn x".toList := pparse_of_check (by decide +kernel)

example : PParse "100%% of %s".toList false := pparse_of_check (by decide +kernel)

example : SParseAll "%d %*5ln%[^]%n]%hhn".toList true :=
  SParse.conv (d := ⟨false, [], []⟩) (c := 'd') (by decide) (by decide) <|
  SParse.lit (by decide) <|
  SParse.conv (d := ⟨true, ['5'], ['l']⟩) (c := 'n') (by decide) (by decide) <|
  SParse.set (d := ⟨false, [], []⟩) (s := ⟨true, ']', ['%', 'n']⟩) (by decide) (by decide) trivial <|
  SParse.conv (d := ⟨false, [], ['h', 'h']⟩) (c := 'n') (by decide) (by decide) SParse.nil

end SafeC.Fmt.Gram
