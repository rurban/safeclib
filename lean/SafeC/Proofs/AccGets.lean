import SafeC.Proofs.AccOs
/-!
# The exact stream footprint of `gets_s` (value-aware)

`Line d p n a`: `a` is one of the first `n` cells at `p` with no newline strictly before it — the bytes of the first line,
its newline included, cut at `n`.  `fgets(dest, dmax, stdin)` consumes cells of `Line d inp (min (dmax-1) len)` only; the
`getc` that tells a line of exactly `dmax - 1` bytes from a longer one looks at `inp[dmax-1]`, and only when dest is full
and holds no newline: a cell of `Line d inp (min dmax len)` again.  So a stream whose first line is shorter than `dmax` is
never read behind that line.  The stream lies apart from dest (it is not memory in the C).
-/
namespace SafeC
open Gen

variable {R W : Nat → Prop} {d : Nat → Nat}

def Line (d : Nat → Nat) (p n a : Nat) : Prop := p ≤ a ∧ a < p + n ∧ ∀ j, p ≤ j → j < a → ¬ d j = 10

theorem Line.mono {p n m a : Nat} (h : n ≤ m) (hl : Line d p n a) : Line d p m a :=
  ⟨hl.1, by have := hl.2.1; omega, hl.2.2⟩

theorem AccS_fgetsLoop : ∀ (k inp len dst acc : Nat) (d : Nat → Nat),
    (dst + min k len ≤ inp ∨ inp + min k len ≤ dst) →
    (∀ a, Line d inp (min k len) a → R a) → (∀ a, Cells dst (min k len) a → W a) →
    AccS R W d (fgetsLoop k inp len dst acc) (fun r d' => ∃ c, r.1 = acc + c ∧ c ≤ min k len ∧
      (∀ j, j + 1 < c → ¬ d (inp + j) = 10) ∧ (∀ j, j < c → d' (dst + j) = d (inp + j)) ∧
      (∀ a, ¬ Cells dst c a → d' a = d a)) := by
  intro k
  induction k with
  | zero =>
    intro inp len dst acc d _ _ _
    exact AccS.pure _ ⟨0, rfl, by omega, fun j hj => by omega, fun j hj => by omega, fun _ _ => rfl⟩
  | succ k ih =>
    intro inp len dst acc d hdis hr hw
    cases len with
    | zero =>
      exact AccS.pure _ ⟨0, rfl, by omega, fun j hj => by omega, fun j hj => by omega, fun _ _ => rfl⟩
    | succ l =>
      have e : min (k+1) (l+1) = min k l + 1 := by omega
      rw [e] at hdis hr hw
      refine AccS.loadBind (hr _ ⟨Nat.le_refl _, by omega, fun j h1 h2 => by omega⟩) ?_
      refine AccS.storeBind (hw _ ⟨Nat.le_refl _, by omega⟩) ?_
      refine AccS.ite (fun _ => ?_) (fun hc => ?_)
      · refine AccS.pure _ ⟨1, rfl, by omega, fun j hj => by omega, fun j hj => ?_, fun a ha => ?_⟩
        · have : j = 0 := by omega
          subst this; exact updF_same
        · exact updF_ne fun e => ha ⟨by omega, by omega⟩
      · have hoff : ∀ j, j < min k l + 1 → inp + j ≠ dst := fun j hj => by omega
        refine (ih (inp+1) l (dst+1) (acc+1) _ (by omega) (fun a ha => hr a ?_)
          (fun a ha => hw a ha.within)).conseq (fun r d' ⟨c, g1, g2, g3, g4, g5⟩ => ?_)
        · obtain ⟨h1, h2, h3⟩ := ha
          refine ⟨by omega, by omega, fun j hj1 hj2 => ?_⟩
          by_cases ej : j = inp
          · subst ej; exact hc
          · have := h3 j (by omega) hj2
            have hne : j ≠ dst := by have := hoff (j - inp) (by omega); omega
            rwa [updF_ne hne] at this
        · refine ⟨c + 1, by omega, by omega, fun j hj => ?_, fun j hj => ?_, fun a ha => ?_⟩
          · cases j with
            | zero => simpa using hc
            | succ j =>
              have := g3 j (by omega)
              have hne : inp + 1 + j ≠ dst := by have := hoff (j+1) (by omega); omega
              rw [show inp + (j + 1) = inp + 1 + j by omega]
              rwa [updF_ne hne] at this
          · cases j with
            | zero =>
              rw [g5 (dst + 0) (fun ⟨h1, h2⟩ => by omega)]
              exact updF_same
            | succ j =>
              have := g4 j (by omega)
              have hne : inp + 1 + j ≠ dst := by have := hoff (j+1) (by omega); omega
              rw [show dst + (j + 1) = dst + 1 + j by omega, this, show inp + (j + 1) = inp + 1 + j by omega]
              exact updF_ne hne
          · rw [g5 a (fun ⟨h1, h2⟩ => ha ⟨by omega, by omega⟩)]
            exact updF_ne fun e => ha ⟨by omega, by omega⟩

theorem AccD_strnlenP_spec (n s acc : Nat) (hr : ∀ a, Cells s n a → R a) :
    AccD d R (strnlenP n s acc) (fun r => acc ≤ r ∧ r ≤ acc + n ∧ ∀ j, j < r - acc → ¬ d (s + j) = 0) := by
  induction n generalizing s acc with
  | zero => unfold strnlenP; exact AccD.pure _ ⟨Nat.le_refl _, by omega, fun j hj => by omega⟩
  | succ n ih =>
    refine AccD.loadBind (hr _ ⟨by omega, by omega⟩) ?_
    refine AccD.ite (fun _ => AccD.pure _ ⟨Nat.le_refl _, by omega, fun j hj => by omega⟩) fun hne => ?_
    refine (ih (s+1) (acc+1) (fun a ha => hr a ha.within)).conseq (fun r ⟨g1, g2, g3⟩ => ⟨by omega, by omega, ?_⟩)
    intro j hj
    cases j with
    | zero => simpa using hne
    | succ j =>
      have := g3 j (by omega)
      rwa [show s + 1 + j = s + (j + 1) by omega] at this

/-- dest full after `fgets` and the stream not exhausted: `fgets` stored `dmax - 1` bytes and the peeked cell is inside the
stream's `min dmax len` cells -/
theorem gets_full {dmax len m n : Nat} (hpos : dmax ≠ 0) (hm : m ≤ min (dmax - 1) len) (hnm : n ≤ m) (hfull : n = dmax - 1)
    (hrest : ¬ len - m = 0) : m = n ∧ m < min dmax len := by omega

theorem AccS_getsBody (cfg : Cfg) (dest dmax inp len : Nat) (hpos : dmax ≠ 0)
    (hdis : dest + dmax ≤ inp ∨ inp + min dmax len ≤ dest)
    (hri : ∀ a, Line d inp (min dmax len) a → R a)
    (hrd : ∀ a, Cells dest dmax a → R a) (hw : ∀ a, Cells dest dmax a → W a) :
    AccS R W d (getsBody cfg dest dmax inp len) (fun _ _ => True) := by
  have hw0 : W dest := hw _ ⟨Nat.le_refl _, by omega⟩
  refine AccS.ite (fun _ => AccS.storeBind hw0 (AccS.pure _ trivial)) (fun _ => ?_)
  refine AccS.bind (AccS_fgetsLoop (dmax-1) inp len dest 0 d (by omega) (fun a ha => hri a (ha.mono (by omega)))
    (fun a ha => hw a ha.within)) (fun r d1 hq => ?_)
  obtain ⟨m, eof⟩ := r
  obtain ⟨c, hc, hm, hnl, hcopy, hframe⟩ := hq
  simp only [Nat.zero_add] at hc
  subst hc
  refine AccS.ite (fun _ => AccS.storeBind hw0 (AccS.pure _ trivial)) (fun _ => ?_)
  refine AccS.storeBind (hw _ ⟨by omega, by omega⟩) ?_
  refine AccS.bind (AccS.of_AccD (AccD_strnlenP_spec dmax dest 0 hrd)) (fun n d2 ⟨e2, _, hn, hnz⟩ => ?_)
  subst e2
  simp only [Nat.zero_add, Nat.sub_zero] at hn hnz
  have hnm : n ≤ m := by
    apply Classical.byContradiction
    intro h
    exact hnz m (by omega) updF_same
  extract_lets done
  have hdone : ∀ (k : Nat) (d3 : Nat → Nat), k ≤ dmax → AccS R W d3 (done k) (fun _ _ => True) := fun k d3 hk =>
    AccS.bind (Q := fun _ _ => True)
      (AccS.ite (fun _ => AccS_memsetP 0 _ _ (fun a ha => hw a ha.within)) (fun _ => AccS.pure _ trivial))
      (fun _ _ _ => AccS.pure _ trivial)
  refine AccS.bind (Q := fun last d3 => d3 = updF d1 (dest + m) 0 ∧ (0 < n → last = updF d1 (dest + m) 0 (dest + n - 1)))
    (AccS.ite (fun _ => AccS.loadBind (hrd _ ⟨by omega, by omega⟩) (AccS.pure _ ⟨rfl, fun _ => rfl⟩))
      (fun h0 => AccS.pure _ ⟨rfl, fun h => absurd h h0⟩))
    (fun last d3 ⟨e3, hlast⟩ => ?_)
  refine AccS.ite (fun _ => AccS.storeBind (hw _ ⟨by omega, by omega⟩) (hdone _ _ (by omega))) (fun hnotnl => ?_)
  refine AccS.ite (fun hfull => AccS.ite (fun _ => AccS.ite (fun _ => AccS.pure _ trivial) (fun _ => hdone _ _ hn))
    (fun hrest => ?_)) (fun _ => hdone _ _ hn)
  obtain ⟨hmn, hlt⟩ := gets_full hpos hm hnm hfull.1 hrest
  -- the peeked cell is on the first line: dest is full (`n = m = dmax - 1`) and its last byte is not a newline
  have hpeek : R (inp + m) := by
    refine hri _ ⟨Nat.le_add_right _ _, Nat.add_lt_add_left hlt _, fun j hj1 hj2 => ?_⟩
    obtain ⟨i, rfl⟩ : ∃ i, j = inp + i := ⟨j - inp, by omega⟩
    by_cases hi : i + 1 < m
    · exact hnl i hi
    · have him : i = m - 1 := by omega
      have hpos' : 0 < n := by omega
      have hl := hlast hpos'
      have hne : last ≠ 10 := fun e => hnotnl ⟨hpos', e⟩
      have e1 : updF d1 (dest + m) 0 (dest + n - 1) = d1 (dest + (m - 1)) := by
        rw [updF_ne (by omega)]
        congr 1; omega
      rw [hl, e1, hcopy (m-1) (by omega)] at hne
      rw [him]; exact hne
  refine AccS.loadBind hpeek (AccS.ite (fun _ => hdone _ _ hn) (fun _ => ?_))
  refine AccS.bind (AccS_handleError cfg dest dmax _ hw hw0) (fun _ _ _ => ?_)
  exact AccS.bind (Q := fun _ _ => True)
    (AccS.ite (fun _ => AccS_memsetP 0 dmax dest hw) (fun _ => AccS.pure _ trivial)) (fun _ _ _ => AccS.pure _ trivial)

theorem gets_s_accs (cfg : Cfg) (dest dmax : Nat) (db : Bos) (inp len : Nat)
    (hdis : dest ≠ 0 → dest + dmax ≤ inp ∨ inp + min dmax len ≤ dest)
    (hri : ∀ a, Line d inp (min dmax len) a → R a)
    (hrd : dest ≠ 0 → ∀ a, Cells dest dmax a → R a) (hw : dest ≠ 0 → ∀ a, Cells dest dmax a → W a) :
    AccS R W d (gets_s cfg dest dmax db inp len) (fun _ _ => True) := by
  refine AccS_destChecks fun hd hm => ?_
  have body := AccS_getsBody (R := R) (W := W) (d := d) cfg dest dmax inp len hm (hdis hd) hri (hrd hd) (hw hd)
  exact AccS_chkDmax dmax db RSIZE_MAX_STR body

end SafeC
