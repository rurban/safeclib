import SafeC.Models.Handlers
/-!
# C13: the abstract registration machine `A` and the step-commuting abstraction `H → A`

`A` is the property text taken literally, for ONE kind of handler: a map thread → optional handler
(`own`) and one optional process-wide handler (`glob`); a violation on thread `t` runs `t`'s own
handler if it has one, else the process-wide one, else the default (0).  The concrete machine `H`
(`Models/Handlers.lean`, which mirrors `safe_{str,mem}_constraint.c`) is shown to be the PRODUCT of
two independent copies of `A`, one per kind: one concrete step is one abstract step (or none) of each copy, with the
same output, hence so is every run, of any length, from any state.
All statements are for EVERY state `s : H` (a fortiori every reachable one) and every operation.

On `H` itself: `view t` = the part of the state thread `t` can observe; steps and outputs of `t` depend on it only, and
erasing the thread-local operations of other threads from a run changes neither `t`'s view nor `t`'s outputs.
-/
namespace SafeC.Handlers
open SafeC

structure A where
  own : Tid → Option Hid
  glob : Option Hid

namespace A

def init : A := { own := fun _ => none, glob := none }

def invoked (a : A) (t : Tid) : Hid :=
  match a.own t with
  | some h => h
  | none => match a.glob with
    | some h => h
    | none => 0

inductive AOp where
  | set (h : Option Hid)                 -- process-wide registration (by whichever thread)
  | thrdSet (t : Tid) (h : Option Hid)   -- thread-local registration made by `t`
  | violate (t : Tid)
  | spawn (c : Tid)
  deriving Repr, DecidableEq

def step (a : A) : AOp → A × Out
  | .set h => ({ a with glob := some (h.getD 0) }, .prev a.glob)
  | .thrdSet t h => ({ a with own := fun t' => if t' = t then some (h.getD 0) else a.own t' }, .prev (a.own t))
  | .violate t => (a, .ran (a.invoked t))
  | .spawn c => ({ a with own := fun t' => if t' = c then none else a.own t' }, .none)

def run (a : A) : List AOp → A
  | [] => a
  | op :: rest => run (step a op).1 rest

def runOut (a : A) : List AOp → List Out
  | [] => []
  | op :: rest => (step a op).2 :: runOut (step a op).1 rest

theorem ext' {a b : A} (h1 : ∀ t, a.own t = b.own t) (h2 : a.glob = b.glob) : a = b := by
  cases a; cases b
  simp only [A.mk.injEq]
  exact ⟨funext h1, h2⟩

end A

open A (AOp)

def absK (k : Kind) (s : H) : A := { own := fun t => s.tl t k, glob := s.glob k }

/-- `none`: an operation of the other kind -/
def proj (k : Kind) : Op → Option AOp
  | .set _ k' h => if k' = k then some (.set h) else none
  | .thrdSet t k' h => if k' = k then some (.thrdSet t h) else none
  | .violate t k' => if k' = k then some (.violate t) else none
  | .spawn _ c => some (.spawn c)

/-- chronological run -/
def runC (s : H) : List Op → H
  | [] => s
  | op :: rest => runC (step s op).1 rest

theorem runC_append (s : H) (xs ys : List Op) : runC s (xs ++ ys) = runC (runC s xs) ys := by
  induction xs generalizing s with
  | nil => rfl
  | cons x xs ih => exact ih _

theorem absK_init (k : Kind) : absK k init = A.init := rfl

theorem abs_invoked (s : H) (t : Tid) (k : Kind) : invoked s t k = (absK k s).invoked t := rfl

theorem abs_step (k : Kind) (s : H) (op : Op) :
    absK k (step s op).1 = match proj k op with
      | some a => ((absK k s).step a).1
      | none => absK k s := by
  cases op with
  | set t k' h | thrdSet t k' h | violate t k' =>
    by_cases hk : k' = k
    · subst hk
      simp only [proj, if_true, step, A.step, absK, reg, and_true]
    · have hk' : ¬ k = k' := fun e => hk e.symm
      simp only [proj, hk, if_false, step, absK, hk', and_false]
  | spawn p c => simp only [proj, step, A.step, absK]

theorem abs_out (k : Kind) (s : H) (op : Op) (a : AOp) (h : proj k op = some a) :
    (step s op).2 = ((absK k s).step a).2 := by
  cases op with
  | set _ k' _ | thrdSet _ k' _ | violate _ k' =>
    -- an operation of kind `k'`: an event of this copy only when `k' = k`, and then the same operation
    by_cases hk : k' = k
    · subst hk
      simp only [proj, if_true, Option.some.injEq] at h
      subst h
      rfl
    · simp [proj, hk] at h
  | spawn p c =>
    simp only [proj, Option.some.injEq] at h
    subst h
    rfl

/-- **refinement, states**: after ANY run from ANY state the `k`-copy is the abstract run over the
`k`-operations of the history (operations of the other kind deleted) -/
theorem refines (k : Kind) (s : H) (ops : List Op) :
    absK k (runC s ops) = (absK k s).run (ops.filterMap (proj k)) := by
  induction ops generalizing s with
  | nil => rfl
  | cons op rest ih =>
    simp only [runC, List.filterMap_cons]
    rw [ih, abs_step]
    cases proj k op <;> rfl

def outsK (k : Kind) (s : H) : List Op → List Out
  | [] => []
  | op :: rest =>
    match proj k op with
    | some _ => (step s op).2 :: outsK k (step s op).1 rest
    | none => outsK k (step s op).1 rest

/-- **refinement, outputs**: the outputs of the `k`-operations of ANY run are the outputs of the
abstract run over them -/
theorem refines_out (k : Kind) (s : H) (ops : List Op) :
    outsK k s ops = (absK k s).runOut (ops.filterMap (proj k)) := by
  induction ops generalizing s with
  | nil => rfl
  | cons op rest ih =>
    simp only [outsK, List.filterMap_cons]
    cases hp : proj k op with
    | none =>
      rw [ih, abs_step, hp]
    | some a =>
      simp only [A.runOut]
      rw [ih, abs_step, hp, abs_out k s op a hp]

/-- the part of the state thread `t` can ever observe: both process-wide slots and its OWN two slots -/
def view (t : Tid) (s : H) : (Kind → Option Hid) × (Kind → Option Hid) := (s.glob, s.tl t)

/-- the thread an operation runs on (`spawn`: nobody's observation, its output is empty) -/
def actor : Op → Option Tid
  | .set t _ _ => some t
  | .thrdSet t _ _ => some t
  | .violate t _ => some t
  | .spawn _ _ => none

def foreignTl (t : Tid) : Op → Prop
  | .thrdSet t' _ _ => t' ≠ t
  | _ => False

theorem view_step_congr (t : Tid) (s1 s2 : H) (op : Op) (h : view t s1 = view t s2) :
    view t (step s1 op).1 = view t (step s2 op).1 := by
  simp only [view, Prod.mk.injEq] at h
  obtain ⟨hg, ht⟩ := h
  cases op with
  | set t' k h' => simp only [step, view, hg, ht]
  | thrdSet t' k h' =>
    simp only [step, view, hg, Prod.mk.injEq, true_and]
    funext k'
    by_cases c : t = t' ∧ k' = k
    · simp [c]
    · simp only [c, if_false]; exact congrFun ht k'
  | violate t' k => simp only [step, view, hg, ht]
  | spawn p c =>
    simp only [step, view, hg, Prod.mk.injEq, true_and]
    funext k'
    by_cases c' : t = c
    · simp [c']
    · simp only [c', if_false]; exact congrFun ht k'

theorem out_congr (t : Tid) (s1 s2 : H) (op : Op) (h : view t s1 = view t s2) (ha : actor op = some t) :
    (step s1 op).2 = (step s2 op).2 := by
  simp only [view, Prod.mk.injEq] at h
  obtain ⟨hg, ht⟩ := h
  cases op with
  | set t' k h' => simp only [step, hg]
  | thrdSet t' k h' =>
    simp only [actor, Option.some.injEq] at ha; subst ha
    simp only [step, ht]
  | violate t' k =>
    simp only [actor, Option.some.injEq] at ha; subst ha
    simp only [step, invoked, ht, hg]
  | spawn p c => simp [actor] at ha

theorem view_foreign (t : Tid) (s : H) (op : Op) (h : foreignTl t op) : view t (step s op).1 = view t s := by
  cases op with
  | thrdSet t' k h' =>
    simp only [step, view, Prod.mk.injEq, true_and]
    funext k'
    have : ¬ (t = t' ∧ k' = k) := fun e => h e.1.symm
    simp only [this, if_false]
  | set _ _ _ => exact h.elim
  | violate _ _ => exact h.elim
  | spawn _ _ => exact h.elim

theorem view_run_congr (t : Tid) (s1 s2 : H) (ops : List Op) (h : view t s1 = view t s2) :
    view t (runC s1 ops) = view t (runC s2 ops) := by
  induction ops generalizing s1 s2 with
  | nil => exact h
  | cons op rest ih => exact ih _ _ (view_step_congr t s1 s2 op h)

def isSet (k : Kind) : Op → Bool
  | .set _ k' _ => k' = k
  | _ => false

/-- an operation that can change thread `t`'s own slot of kind `k` -/
def touchesTl (t : Tid) (k : Kind) : Op → Bool
  | .thrdSet t' k' _ => t' = t ∧ k' = k
  | .spawn _ c => c = t
  | _ => false

def isForeignTl (t : Tid) : Op → Bool
  | .thrdSet t' _ _ => t' ≠ t
  | _ => false

theorem glob_step_noSet (k : Kind) (s : H) (op : Op) (h : isSet k op = false) : (step s op).1.glob k = s.glob k := by
  cases op with
  | set t k' h' =>
    have : ¬ k = k' := by intro e; subst e; simp [isSet] at h
    simp only [step, this, if_false]
  | thrdSet _ _ _ => rfl
  | violate _ _ => rfl
  | spawn _ _ => rfl

theorem glob_run_noSet (k : Kind) (s : H) (ops : List Op) (h : ∀ op ∈ ops, isSet k op = false) :
    (runC s ops).glob k = s.glob k := by
  induction ops generalizing s with
  | nil => rfl
  | cons op rest ih =>
    simp only [runC]
    rw [ih _ (fun o ho => h o (List.mem_cons_of_mem _ ho)), glob_step_noSet k s op (h op List.mem_cons_self)]

theorem tl_step_noTouch (t : Tid) (k : Kind) (s : H) (op : Op) (h : touchesTl t k op = false) :
    (step s op).1.tl t k = s.tl t k := by
  cases op with
  | set _ _ _ => rfl
  | thrdSet t' k' h' =>
    have : ¬ (t = t' ∧ k = k') := by
      intro e; obtain ⟨rfl, rfl⟩ := e; simp [touchesTl] at h
    simp only [step, this, if_false]
  | violate _ _ => rfl
  | spawn p c =>
    have : ¬ t = c := by intro e; subst e; simp [touchesTl] at h
    simp only [step, this, if_false]

theorem tl_run_noTouch (t : Tid) (k : Kind) (s : H) (ops : List Op) (h : ∀ op ∈ ops, touchesTl t k op = false) :
    (runC s ops).tl t k = s.tl t k := by
  induction ops generalizing s with
  | nil => rfl
  | cons op rest ih =>
    simp only [runC]
    rw [ih _ (fun o ho => h o (List.mem_cons_of_mem _ ho)), tl_step_noTouch t k s op (h op List.mem_cons_self)]

theorem foreignTl_of_isForeignTl (t : Tid) (op : Op) (h : isForeignTl t op = true) : foreignTl t op := by
  cases op with
  | thrdSet t' k h' => simpa [isForeignTl, foreignTl] using h
  | set _ _ _ => simp [isForeignTl] at h
  | violate _ _ => simp [isForeignTl] at h
  | spawn _ _ => simp [isForeignTl] at h

theorem view_erase_foreign (t : Tid) (s1 s2 : H) (ops : List Op) (h : view t s1 = view t s2) :
    view t (runC s1 ops) = view t (runC s2 (ops.filter fun op => !isForeignTl t op)) := by
  induction ops generalizing s1 s2 with
  | nil => exact h
  | cons op rest ih =>
    by_cases hf : isForeignTl t op = true
    · simp only [runC, List.filter_cons, hf, Bool.not_true, Bool.false_eq_true, if_false]
      exact ih _ _ ((view_foreign t s1 op (foreignTl_of_isForeignTl t op hf)).trans h)
    · have hf' : isForeignTl t op = false := by simpa using hf
      simp only [runC, List.filter_cons, hf', Bool.not_false, if_true]
      exact ih _ _ (view_step_congr t s1 s2 op h)

def outsT (t : Tid) (s : H) : List Op → List Out
  | [] => []
  | op :: rest =>
    if actor op = some t then (step s op).2 :: outsT t (step s op).1 rest
    else outsT t (step s op).1 rest

theorem actor_foreign (t : Tid) (op : Op) (h : isForeignTl t op = true) : actor op ≠ some t := by
  cases op with
  | thrdSet t' k h' =>
    simp only [isForeignTl, decide_eq_true_eq] at h
    simp only [actor, ne_eq, Option.some.injEq]; exact h
  | set _ _ _ => simp [isForeignTl] at h
  | violate _ _ => simp [isForeignTl] at h
  | spawn _ _ => simp [isForeignTl] at h

theorem outsT_erase_foreign (t : Tid) (s1 s2 : H) (ops : List Op) (h : view t s1 = view t s2) :
    outsT t s1 ops = outsT t s2 (ops.filter fun op => !isForeignTl t op) := by
  induction ops generalizing s1 s2 with
  | nil => rfl
  | cons op rest ih =>
    by_cases hf : isForeignTl t op = true
    · simp only [outsT, List.filter_cons, hf, Bool.not_true, Bool.false_eq_true, if_false,
        actor_foreign t op hf]
      exact ih _ _ ((view_foreign t s1 op (foreignTl_of_isForeignTl t op hf)).trans h)
    · have hf' : isForeignTl t op = false := by simpa using hf
      simp only [outsT, List.filter_cons, hf', Bool.not_false, if_true]
      by_cases ha : actor op = some t
      · simp only [ha, if_true]
        rw [out_congr t s1 s2 op h ha, ih _ _ (view_step_congr t s1 s2 op h)]
      · simp only [ha, if_false]
        exact ih _ _ (view_step_congr t s1 s2 op h)

end SafeC.Handlers
