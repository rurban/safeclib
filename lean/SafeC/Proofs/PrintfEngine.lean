import SafeC.Proofs.PrintfDirective
/-!
# C11: parser equivalence + composition — the engine's main loop = `Spec.go` (one `emitAll` of the whole text)
-/
namespace SafeC.Printf
open SafeC.Printf.Spec

/-- every conversion specification `Spec.go` meets in the format satisfies `DirOK` (same recursion as `Spec.go`) -/
def fmtOK : Nat → Str → List Arg → Bool
  | 0, _, _ => true
  | _ + 1, [], _ => true
  | k + 1, c :: r, args =>
    if c ≠ '%' then fmtOK k r args
    else match r with
      | '%' :: r' => fmtOK k r' args
      | _ =>
        match parseDir r args with
        | some (d, r', args') =>
          decide (DirOK d) && (match render d args' with | some (_, args'') => fmtOK k r' args'' | none => true)
        | none => true

theorem directive_pct (fx : Fixes) (sk : Sink) (m : Nat) (r : Str) (args : List Arg) (s : St) :
    directive fx sk m ('%' :: r) args s = (emitAll sk m ['%'] s).map (fun s' => (r, args, s')) := by
  unfold directive
  simp (config := {decide := true}) [parseFlags, parseWidth, parsePrec, parseLength, bind, Except.bind, out_eq_emitAll]
  cases emitAll sk m ['%'] s <;> rfl

theorem emitAll_buffer_idx_le (m : Nat) (cs : Str) (s s' : St) (hs : s.idx ≤ m) (h : emitAll .buffer m cs s = .ok s') : s'.idx ≤ m := by
  have hi := emitAll_idx .buffer m cs s s' h
  by_cases hfit : s.idx + cs.length ≤ m
  · omega
  · rw [emitAll_buffer_overflow m cs s hs (by omega)] at h; cases h

theorem map_bind {α β γ : Type} (x : M α) (f : α → β) (g : β → M γ) : (x.map f >>= g) = x >>= fun a => g (f a) := by
  cases x <;> rfl

theorem emitAll_then (sk : Sink) (m : Nat) (t rest : Str) (s : St) (k : St → M St)
    (hroom : (sk = .buffer ∧ s.idx ≤ m) ∨ s.idx + (t ++ rest).length ≤ m)
    (hk : ∀ s1, ((sk = .buffer ∧ s1.idx ≤ m) ∨ s1.idx + rest.length ≤ m) → k s1 = emitAll sk m rest s1) :
    (emitAll sk m t s >>= k) = emitAll sk m (t ++ rest) s := by
  rw [emitAll_append]
  cases ho : emitAll sk m t s with
  | error e => rfl
  | ok s1 =>
    have hi := emitAll_idx sk m t s s1 ho
    refine hk s1 ?_
    rcases hroom with ⟨rfl, hs⟩ | hr
    · left; exact ⟨rfl, emitAll_buffer_idx_le m t s s1 hs ho⟩
    · right; simp only [List.length_append] at hr; omega

/-- **parser equivalence + composition.**  For every format `Spec.go` defines (literal text, `%%`, and conversion
    specifications `d i u o x X c s` whose arguments match) and whose specifications satisfy `DirOK`, the repaired
    engine's main loop hands the sink exactly the characters of `Spec.printf`, in order — as one `emitAll`, so it stops with
    `-ESNOSPC` at the first character that does not fit.  Induction over the loop; the invariant is the statement itself
    for the remaining format from the current state; each of the three kinds of step is an `emitAll_then`. -/
theorem engLoop_eq (fx : Fixes) (hfx : Repaired fx) (sk : Sink) (m : Nat) :
    ∀ (k : Nat) (fmt : Str) (args : List Arg) (s : St) (T : Str), go k fmt args = some T → fmtOK k fmt args = true →
      ((sk = .buffer ∧ s.idx ≤ m) ∨ s.idx + T.length ≤ m) → engLoop fx sk m k fmt args s = emitAll sk m T s := by
  intro k
  induction k with
  | zero => intro fmt args s T hg _ _; simp only [go, Option.some.injEq] at hg; subst hg; rfl
  | succ k ih =>
    intro fmt args s T hg hok hroom
    cases fmt with
    | nil => simp only [go, Option.some.injEq] at hg; subst hg; rfl
    | cons c r =>
      by_cases hc : c ≠ '%'
      · simp only [go, hc, if_true, ne_eq, not_false_eq_true] at hg
        simp only [fmtOK, hc, if_true, ne_eq, not_false_eq_true] at hok
        obtain ⟨T', hgo, rfl⟩ := Option.map_eq_some_iff.mp hg
        simp only [engLoop, hc, if_true, ne_eq, not_false_eq_true]
        rw [out_eq_emitAll]
        exact emitAll_then sk m [c] T' s _ hroom (fun s1 h => ih r args s1 T' hgo hok h)
      · have hc' : c = '%' := by simpa using hc
        subst hc'
        simp only [go, ne_eq, not_true_eq_false, if_false] at hg
        simp only [fmtOK, ne_eq, not_true_eq_false, if_false] at hok
        simp only [engLoop, ne_eq, not_true_eq_false, if_false]
        split at hg
        · -- "%%"
          rename_i r'
          obtain ⟨T', hgo, rfl⟩ := Option.map_eq_some_iff.mp hg
          rw [directive_pct, map_bind]
          exact emitAll_then sk m ['%'] T' s _ hroom (fun s1 h => ih r' args s1 T' hgo hok h)
        · rename_i hnp
          obtain ⟨⟨d, r', a0⟩, hpd, hg⟩ := Option.bind_eq_some_iff.mp hg
          obtain ⟨⟨text, a''⟩, hrd, hg⟩ := Option.bind_eq_some_iff.mp hg
          obtain ⟨rest, hgo, hg⟩ := Option.bind_eq_some_iff.mp hg
          obtain rfl : text ++ rest = T := Option.some.inj hg
          have hok' : DirOK d ∧ fmtOK k r' a'' = true := by
            split at hok
            · rename_i r'' ; exact absurd rfl (hnp r'')
            · simp only [hpd, hrd, Bool.and_eq_true, decide_eq_true_eq] at hok; exact hok
          have hroom1 : (sk = .buffer ∧ s.idx ≤ m) ∨ s.idx + text.length ≤ m :=
            hroom.imp_right fun h => by rw [List.length_append] at h; omega
          rw [directive_eq fx hfx sk m r args s d r' a0 text a'' hpd hrd hok'.1 hroom1, map_bind]
          exact emitAll_then sk m text rest s _ hroom (fun s1 h => ih r' a'' s1 rest hgo hok'.2 h)

open SafeC.Gen in
theorem engine_buffer_fits (fx : Fixes) (hfx : Repaired fx) (dmax : Nat) (init : List Char) (fmt : Str) (args : List Arg) (T : Str)
    (hT : Spec.printf fmt args = some T) (hok : fmtOK fmt.length fmt args = true) (hinit : init.length = dmax) (hfit : T.length ≤ dmax) :
    ∃ s', engine fx .buffer dmax fmt args ⟨0, init, []⟩ = .ok s' ∧ s'.idx = T.length ∧ s'.cells.length = dmax ∧
      (T.length < dmax → s'.cells.take T.length = T ∧ s'.cells[T.length]? = some '\x00') ∧
      (T.length = dmax → s'.cells.take (dmax - 1) = T.take (dmax - 1) ∧ (0 < dmax → s'.cells[dmax - 1]? = some '\x00')) := by
  unfold engine
  rw [engLoop_eq fx hfx .buffer dmax fmt.length fmt args ⟨0, init, []⟩ T hT hok (Or.inl ⟨rfl, Nat.zero_le _⟩)]
  obtain ⟨s1, h1, h2, _, h4, h5, _⟩ := emitAll_buffer_fits dmax T ⟨0, init, []⟩ (by simpa using hfit) hinit
  simp only [Nat.zero_add, List.take_zero, List.nil_append] at h2 h5
  rw [h1]
  simp only [bind, Except.bind, pure, Except.pure]
  refine ⟨_, rfl, h2, by simp [h4], ?_, ?_⟩
  · intro hlt
    simp only [h2, hlt, if_true]
    rw [h2] at h5
    refine ⟨?_, ?_⟩
    · rw [List.take_set_of_le (Nat.le_refl _)]; exact h5
    · rw [List.getElem?_set_self (by omega)]
  · intro heq
    have hnlt : ¬ s1.idx < dmax := by omega
    simp only [hnlt, if_false]
    rw [h2] at h5
    refine ⟨?_, ?_⟩
    · rw [List.take_set_of_le (Nat.le_refl _)]
      have : s1.cells.take (dmax - 1) = (s1.cells.take T.length).take (dmax - 1) := by
        rw [List.take_take]; congr 1; omega
      rw [this, h5]
    · intro hpos; rw [List.getElem?_set_self (by omega)]

open SafeC.Gen in
theorem engine_buffer_overflow (fx : Fixes) (hfx : Repaired fx) (dmax : Nat) (init : List Char) (fmt : Str) (args : List Arg) (T : Str)
    (hT : Spec.printf fmt args = some T) (hok : fmtOK fmt.length fmt args = true) (hover : dmax < T.length) :
    engine fx .buffer dmax fmt args ⟨0, init, []⟩ = .error (.ret ESNOSPCi) := by
  unfold engine
  rw [engLoop_eq fx hfx .buffer dmax fmt.length fmt args ⟨0, init, []⟩ T hT hok (Or.inl ⟨rfl, Nat.zero_le _⟩)]
  rw [emitAll_buffer_overflow dmax T ⟨0, init, []⟩ (Nat.zero_le _) (by simpa using hover)]
  rfl

end SafeC.Printf
