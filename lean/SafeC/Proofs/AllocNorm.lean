import SafeC.Proofs.Alloc
/-!
# C20 — the normalization skeletons (`reorderLoop` / `composeLoop` / `normProg`): the loop invariant `Inv` ties
`seq_ext` to the live-block list

ONE triple per program, under EVERY failure oracle: a run may fault only in the unrepaired code and only when some
request can fail (`FaultOK`); a surviving run of the unrepaired code contains no failed request.
-/
namespace SafeC.Alloc
variable {α : Type} {fails : Nat → Bool} {F : Fault → Prop}

theorem wp_malloc (Q : Option Blk → St → Prop) (s : St)
    (h1 : fails s.next = true → Q none (s.allocFail (.malloc s.next false)))
    (h2 : fails s.next = false → Q (some s.next) (s.allocOk s.live (.malloc s.next true))) :
    wp fails malloc Q s F := by
  rw [wp_malloc_iff]
  split
  · exact h1 ‹_›
  · exact h2 (Bool.eq_false_iff.2 ‹_›)

theorem wp_realloc (o : Option Blk) (Q : Option Blk → St → Prop) (s : St)
    (ho : ∀ b, o = some b → b ∈ s.live)
    (h1 : fails s.next = true → Q none (s.allocFail (.realloc s.next o false)))
    (h2 : fails s.next = false →
      Q (some s.next) (s.allocOk (eraseOpt s.live o) (.realloc s.next o true))) :
    wp fails (realloc o) Q s F := by
  rw [wp_realloc_iff, if_pos ho]
  unfold request
  split
  · exact h1 ‹_›
  · exact h2 (Bool.eq_false_iff.2 ‹_›)

theorem wp_free (o : Option Blk) (Q : Unit → St → Prop) (s : St)
    (ho : ∀ b, o = some b → b ∈ s.live)
    (h : Q () { s with live := eraseOpt s.live o, events := .free o :: s.events }) :
    wp fails (free o) Q s F := by
  cases o with
  | none => simpa [eraseOpt] using h
  | some b => simpa [ho b rfl, eraseOpt] using h

theorem wp_deref (b : Blk) (Q : Unit → St → Prop) (s : St) (hb : b ∈ s.live) (h : Q () s) :
    wp fails (deref (some b)) Q s F := by
  simpa [hb] using h

def NoFail (fails : Nat → Bool) : Prop := ∀ i, fails i = false

/-- the faults the loops may end in: only the unrepaired code faults, and only when some request can be refused -/
abbrev FaultOK (fixed : Bool) (fails : Nat → Bool) : Fault → Prop := fun _ => fixed = false ∧ ¬ NoFail fails

theorem notNoFail {i : Nat} (hf : fails i = true) : ¬ NoFail fails := fun h => by rw [h i] at hf; cases hf

/-- the loop invariant: the live blocks are `seq_ext` (if allocated) on top of `L`, the blocks that were live when the
    function was entered (plus its scratch buffer); `seq_ptr` points to `seq_ext` only when that exists; the sequence
    fits its array, which has its initial size exactly as long as `seq_ext` has not been allocated -/
structure Inv (L : List Blk) (q : Seq) (s : St) : Prop where
  live : s.live = q.ext.toList ++ L
  use : q.useExt = true → q.ext.isSome = true
  pos : q.ccPos ≤ q.seqMax
  base : CC_SEQ_SIZE ≤ q.seqMax
  ext0 : q.seqMax = CC_SEQ_SIZE → q.ext = none

def Keep (s s' : St) : Prop := s'.nfail = s.nfail ∧ s'.hn = s.hn

/-- a buffer the function writes through exists: the caller's, or a block of `L` -/
def PtrOK (L : List Blk) : Ptr → Prop
  | .caller => True
  | .heap b => ∃ t, b = some t ∧ t ∈ L

theorem Inv.upd {L : List Blk} {q q' : Seq} {s : St} (h : Inv L q s) (he : q'.ext = q.ext) (hu : q'.useExt = q.useExt)
    (hm : q'.seqMax = q.seqMax) (hp : q'.ccPos ≤ q'.seqMax) : Inv L q' s :=
  ⟨by rw [he]; exact h.live, by rw [hu, he]; exact h.use, hp, by rw [hm]; exact h.base, by rw [hm, he]; exact h.ext0⟩

theorem touch_wp {L : List Blk} (dest : Ptr) (Q : Unit → St → Prop) (s : St) (hp : PtrOK L dest)
    (hl : ∃ E, s.live = E ++ L) (h : Q () s) : wp fails (touch dest) Q s F := by
  cases dest with
  | caller => exact wp_pure_iff.2 h
  | heap b =>
    obtain ⟨t, rfl, ht⟩ := hp
    obtain ⟨E, hE⟩ := hl
    exact wp_deref _ _ _ (by rw [hE]; exact List.mem_append_right _ ht) h

theorem useSeq_wp {L : List Blk} (q : Seq) (Q : Unit → St → Prop) (s : St) (hinv : Inv L q s) (h : Q () s) :
    wp fails (useSeq q) Q s F := by
  unfold useSeq
  by_cases hu : q.useExt = true
  · have := hinv.use hu
    cases he : q.ext with
    | none => simp [he] at this
    | some b =>
      simp only [hu, if_true]
      exact wp_deref _ _ _ (by rw [hinv.live, he]; simp) h
  · simp only [hu]
    exact wp_pure_iff.2 h

theorem freeIf_wp {L : List Blk} (e : Option Blk) (Q : Unit → St → Prop) (s : St) (hl : s.live = e.toList ++ L)
    (h : ∀ s', s'.live = L → Keep s s' → s'.cleared = s.cleared → Q () s') : wp fails (freeIf e) Q s F := by
  unfold freeIf
  cases e with
  | none => simp only [Option.isSome_none]; exact wp_pure_iff.2 (h s (by simpa using hl) ⟨rfl, rfl⟩ rfl)
  | some b =>
    simp only [Option.isSome_some, if_true]
    refine wp_free _ _ _ (by intro b' hb; cases hb; rw [hl]; simp) ?_
    exact h _ (by simp [hl, eraseOpt]) ⟨rfl, rfl⟩ rfl

/-- post-condition of a step that ends the call: always an error exit -/
def DoneOK (fixed : Bool) (L : List Blk) (s : St) (o : Out) (s' : St) : Prop :=
  o.failed = true ∧ s.hn < s'.hn ∧ s'.cleared = true ∧ s.nfail ≤ s'.nfail ∧ (fixed = true → s'.live = L) ∧
    (fixed = false → s'.nfail = s.nfail) ∧ ∃ E, s'.live = E ++ L

def StepOK (fixed : Bool) (L : List Blk) (s : St) : Step → St → Prop
  | .done o, s' => DoneOK fixed L s o s'
  | .next q' _, s' => Inv L q' s' ∧ Keep s s'

theorem bail_wp {L : List Blk} (fixed : Bool) (q : Seq) (s s0 : St) (hinv : Inv L q s) (hk : Keep s0 s) :
    wp fails (bail fixed q) (StepOK fixed L s0) s F := by
  unfold bail
  refine wp_bind_iff.2 (wp_clear_iff.2 ?_)
  refine wp_bind_iff.2 (wp_handler_iff.2 ?_)
  cases fixed with
  | false =>
    simp only [Bool.false_eq_true, if_false]
    refine wp_bind_iff.2 (wp_pure_iff.2 ?_)
    refine wp_pure_iff.2 ?_
    simp [StepOK, DoneOK, St.onEmit, hk.1, hk.2]
    exact ⟨_, hinv.live⟩
  | true =>
    simp only [if_true]
    refine wp_bind_iff.2 (freeIf_wp (L := L) _ _ _ (by simpa [St.onEmit] using hinv.live) ?_)
    intro s' h1 h2 h3
    refine wp_pure_iff.2 ?_
    obtain ⟨k1, k2⟩ := h2
    simp [St.onEmit] at k1 k2 h3
    exact ⟨rfl, by have := hk.2; omega, h3, by have := hk.1; omega, fun _ => h1, fun h => (by cases h), [], by simpa using h1⟩

theorem bailNoMem_wp {L : List Blk} (fixed : Bool) (q : Seq) (s0 s : St) (hfx : fixed = true) (hl : s.live = L)
    (hn : s0.nfail < s.nfail) (hh : s.hn = s0.hn) :
    wp fails (bailNoMem q) (StepOK fixed L s0) s F := by
  simp [bailNoMem, StepOK, DoneOK, St.onEmit, hfx]
  exact ⟨by omega, Nat.le_of_lt hn, hl, [], by simpa using hl⟩

theorem checkRoom_wp {L : List Blk} (fixed : Bool) (q : Seq) (v : Bool) (s s0 : St) (hinv : Inv L q s) (hk : Keep s0 s) :
    wp fails (checkRoom fixed q v) (StepOK fixed L s0) s F := by
  unfold checkRoom
  split
  · exact bail_wp fixed q s s0 hinv hk
  · exact wp_pure_iff.2 ⟨hinv, hk⟩

/-- the growth step: it hands back a bigger array (invariant kept), or -- repaired code only -- gives up with
everything released and the failure counted, or -- unrepaired code only, a request refused -- faults at once (malloc)
or hands back a NULL `seq_ptr` (realloc) -/
theorem grow_wp {L : List Blk} (fixed : Bool) (q : Seq) (s : St) (hinv : Inv L q s)
    (Q : Option Seq → St → Prop)
    (hsome : ∀ q' s', Inv L q' s' → Keep s s' → q'.ccPos = q.ccPos → q.ccPos + 1 ≤ q'.seqMax → Q (some q') s')
    (hnone : ∀ s', fixed = true → s'.live = L → s.nfail < s'.nfail → s'.hn = s.hn → Q none s')
    (hbad : ∀ q' s', fixed = false → ¬ NoFail fails → q'.ext = none → q'.useExt = true → Q (some q') s') :
    wp fails (grow fixed q) Q s (FaultOK fixed fails) := by
  unfold grow
  by_cases hg : q.seqMax < q.ccPos + 1
  · simp only [hg, if_true]
    have hbase := hinv.base
    have hsz : CC_SEQ_SIZE ≤ q.ccPos + CC_SEQ_STEP ∧ q.ccPos + CC_SEQ_STEP ≠ CC_SEQ_SIZE := by
      simp [CC_SEQ_STEP, CC_SEQ_SIZE] at hbase ⊢; omega
    by_cases h10 : (q.ccPos == CC_SEQ_SIZE) = true
    · simp only [h10, if_true]
      have hc : q.ccPos = CC_SEQ_SIZE := by simpa using h10
      have hext : q.ext = none := hinv.ext0 (by omega)
      have hlive : s.live = L := by simpa [hext] using hinv.live
      refine wp_bind_iff.2 (wp_malloc _ _ ?_ ?_)
      · intro hf
        cases fixed with
        | true =>
          simp only [Bool.true_and, Option.isNone_none, if_true]
          exact wp_pure_iff.2 (hnone _ rfl (by simpa [St.allocFail] using hlive) (by simp [St.allocFail]) (by simp [St.allocFail]))
        | false =>
          simp only [Bool.false_and, Bool.false_eq_true, if_false]
          exact wp_bind_iff.2 (wp_deref_none_iff.2 ⟨rfl, notNoFail hf⟩)
      · intro hf
        simp only [Option.isNone_some, Bool.and_false, Bool.false_eq_true, if_false]
        refine wp_bind_iff.2 (wp_deref _ _ _ (by simp [St.allocOk]) ?_)
        refine wp_pure_iff.2 (hsome _ _ ?_ ⟨by simp [St.allocOk], by simp [St.allocOk]⟩ rfl (by simp [CC_SEQ_STEP]))
        exact ⟨by simp [St.allocOk, hlive], by simp, Nat.le_add_right _ _, hsz.1, fun h => absurd h hsz.2⟩
    · simp only [h10, Bool.false_eq_true, if_false]
      have hmem : ∀ b, q.ext = some b → b ∈ s.live := by
        intro b hb; rw [hinv.live, hb]; simp
      refine wp_bind_iff.2 (wp_realloc _ _ _ hmem ?_ ?_)
      · intro hf
        cases fixed with
        | true =>
          simp only [Bool.true_and, Option.isNone_none, if_true]
          refine wp_bind_iff.2 (freeIf_wp (L := L) _ _ _ (by simpa [St.allocFail] using hinv.live) ?_)
          intro s' h1 h2 _
          refine wp_pure_iff.2 (hnone _ rfl h1 ?_ ?_)
          · have := h2.1; simp [St.allocFail] at this; omega
          · have := h2.2; simpa [St.allocFail] using this
        | false =>
          simp only [Bool.false_and, Bool.false_eq_true, if_false]
          exact wp_pure_iff.2 (hbad _ _ rfl (notNoFail hf) rfl rfl)
      · intro hf
        simp only [Option.isNone_some, Bool.and_false, Bool.false_eq_true, if_false]
        refine wp_pure_iff.2 (hsome _ _ ?_ ⟨by simp [St.allocOk], by simp [St.allocOk]⟩ rfl (by simp [CC_SEQ_STEP]))
        refine ⟨?_, by simp, Nat.le_add_right _ _, hsz.1, fun h => absurd h hsz.2⟩
        cases he : q.ext <;> simp [St.allocOk, hinv.live, he, eraseOpt]
  · simp only [hg, if_false]
    exact wp_pure_iff.2 (hsome q s hinv ⟨rfl, rfl⟩ rfl (by omega))

theorem collect_wp {L : List Blk} (fixed : Bool) (q : Seq) (s : St) (hinv : Inv L q s)
    (Q : Option Seq → St → Prop)
    (hsome : ∀ q' s', Inv L q' s' → Keep s s' → Q (some q') s')
    (hnone : ∀ s', fixed = true → s'.live = L → s.nfail < s'.nfail → s'.hn = s.hn → Q none s') :
    wp fails (collect fixed q) Q s (FaultOK fixed fails) := by
  unfold collect
  refine wp_bind_iff.2 (grow_wp fixed q s hinv _ ?_ ?_ ?_)
  · intro q' s' hi hk hc hm
    refine wp_bind_iff.2 (useSeq_wp q' _ _ hi ?_)
    exact wp_pure_iff.2 (hsome _ _ (hi.upd rfl rfl rfl (by simp; omega)) hk)
  · intro s' hf hl hn hh
    exact wp_pure_iff.2 (hnone s' hf hl hn hh)
  · intro q' s' hf hnf he hu
    simp only [useSeq, hu, he, if_true]
    exact wp_bind_iff.2 (wp_deref_none_iff.2 ⟨hf, hnf⟩)

theorem reorderFlush_wp {L : List Blk} (fixed : Bool) (dest : Ptr) (m : Bool) (q : Seq) (s s0 : St)
    (hp : PtrOK L dest) (hinv : Inv L q s) (hk : Keep s0 s) :
    wp fails (reorderFlush fixed dest m q) (StepOK fixed L s0) s F := by
  have starter : ∀ q1 : Seq, Inv L q1 s →
      wp fails (if (!m) = true then (do touch dest; checkRoom fixed (q1.wrote 1) true) else checkRoom fixed q1 true) (StepOK fixed L s0) s F := by
    intro q1 h1
    cases m with
    | true => simp only [Bool.not_true, Bool.false_eq_true, if_false]; exact checkRoom_wp fixed q1 true s s0 h1 hk
    | false =>
      simp only [Bool.not_false, if_true]
      refine wp_bind_iff.2 (touch_wp dest _ _ hp ⟨_, h1.live⟩ ?_)
      exact checkRoom_wp fixed _ true s s0 (h1.upd rfl rfl rfl h1.pos) hk
  unfold reorderFlush
  by_cases hc : (q.ccPos != 0) = true
  · simp only [hc, if_true]
    by_cases hd : (q.dmax == q.ccPos) = true
    · simp only [hd, if_true]; exact bail_wp fixed q s s0 hinv hk
    · simp only [hd, Bool.false_eq_true, if_false]
      refine wp_bind_iff.2 (useSeq_wp q _ _ hinv ?_)
      refine wp_bind_iff.2 (touch_wp dest _ _ hp ⟨_, hinv.live⟩ ?_)
      exact starter _ (hinv.upd rfl rfl rfl (by simp [Seq.wrote]))
  · simp only [hc, Bool.false_eq_true, if_false]
    exact starter q hinv

theorem reorderStep_wp {L : List Blk} (fixed : Bool) (dest : Ptr) (m last : Bool) (q : Seq) (s : St)
    (hp : PtrOK L dest) (hinv : Inv L q s) :
    wp fails (reorderStep fixed dest m last q) (StepOK fixed L s) s (FaultOK fixed fails) := by
  unfold reorderStep
  cases m with
  | false => simp only [Bool.false_eq_true, if_false]; exact reorderFlush_wp fixed dest false q s s hp hinv ⟨rfl, rfl⟩
  | true =>
    simp only [if_true]
    refine wp_bind_iff.2 (collect_wp fixed q s hinv _ ?_ (bailNoMem_wp fixed q s))
    intro q' s' hi hk
    cases last with
    | false => simp only [Bool.not_false, if_true]; exact wp_pure_iff.2 ⟨hi, hk⟩
    | true => simp only [Bool.not_true, Bool.false_eq_true, if_false]; exact reorderFlush_wp fixed dest true q' s' s hp hi hk

/-- what every surviving run of the loops and of an entry point satisfies (`L` = live blocks at entry) -/
def ProgOK (fixed : Bool) (L : List Blk) (s : St) (o : Out) (s' : St) : Prop :=
  (o.failed = false → s'.live = L) ∧ (fixed = true → s'.live = L) ∧
  (s.nfail < s'.nfail → o.failed = true ∧ s.hn < s'.hn ∧ s'.cleared = true) ∧
  s.nfail ≤ s'.nfail ∧ s.hn ≤ s'.hn ∧ (fixed = false → s'.nfail = s.nfail) ∧
  ∃ E, s'.live = E ++ L

theorem ProgOK.nfail_eq {L : List Blk} {s s' : St} {o : Out} (h : ProgOK false L s o s') : s'.nfail = s.nfail :=
  h.2.2.2.2.2.1 rfl

theorem ProgOK.of_step {fixed : Bool} {L : List Blk} {s s1 s' : St} {o : Out} (hk : Keep s s1) (h : ProgOK fixed L s1 o s') :
    ProgOK fixed L s o s' := by
  unfold ProgOK at h ⊢
  rw [← hk.1, ← hk.2]; exact h

theorem ProgOK.of_done {fixed : Bool} {L : List Blk} {s s' : St} {o : Out} (h : DoneOK fixed L s o s') : ProgOK fixed L s o s' := by
  obtain ⟨h1, h2, h3, h4, h5, h6, h7⟩ := h
  exact ⟨fun hf => (by rw [h1] at hf; cases hf), h5, fun _ => ⟨h1, h2, h3⟩, h4, by omega, h6, h7⟩

/-- the common end of the two loops: `seq_ext` released, the terminator written -/
theorem loopEnd_wp {L : List Blk} (fixed : Bool) (dest : Ptr) (q : Seq) (s : St) (hp : PtrOK L dest) (hinv : Inv L q s) :
    wp fails (do freeIf q.ext; touch dest; pure ⟨false, q.wrapped⟩) (ProgOK fixed L s) s F := by
  refine wp_bind_iff.2 (freeIf_wp (L := L) _ _ _ hinv.live ?_)
  intro s' h1 h2 h3
  refine wp_bind_iff.2 (touch_wp dest _ _ hp ⟨[], by simpa using h1⟩ ?_)
  refine wp_pure_iff.2 ?_
  exact ⟨fun _ => h1, fun _ => h1, fun hlt => (by have := h2.1; omega), (by have := h2.1; omega), (by have := h2.2; omega),
    fun _ => h2.1, [], by simpa using h1⟩

theorem loopCons_wp {L : List Blk} {fixed : Bool} {s : St} {step : Prog Step} {rest : Seq → Bool → Prog Out}
    (hstep : wp fails step (StepOK fixed L s) s F)
    (hrest : ∀ q' v s1, Inv L q' s1 → wp fails (rest q' v) (ProgOK fixed L s1) s1 F) :
    wp fails (do match ← step with
                 | .done o => pure o
                 | .next q' v => rest q' v) (ProgOK fixed L s) s F := by
  refine wp_bind_iff.2 (wp_weaken hstep ?_ fun _ => id)
  intro st s1 hst
  cases st with
  | done o => exact wp_pure_iff.2 (ProgOK.of_done hst)
  | next q' v => exact wp_weaken (hrest q' v s1 hst.1) (fun o s' h => ProgOK.of_step hst.2 h) fun _ => id

theorem reorderLoop_wp {L : List Blk} (fixed : Bool) (dest : Ptr) (cells : List Bool) (q : Seq) (s : St)
    (hp : PtrOK L dest) (hinv : Inv L q s) :
    wp fails (reorderLoop fixed dest cells q) (ProgOK fixed L s) s (FaultOK fixed fails) := by
  induction cells generalizing q s with
  | nil =>
    exact loopEnd_wp fixed dest q s hp hinv
  | cons m rest ih =>
    exact loopCons_wp (reorderStep_wp fixed dest m rest.isEmpty q s hp hinv) fun q' _ s1 h => ih q' s1 h

theorem composeOut_wp {L : List Blk} (fixed : Bool) (dest : Ptr) (q : Seq) (s s0 : St)
    (hp : PtrOK L dest) (hinv : Inv L q s) (hk : Keep s0 s) :
    wp fails (composeOut fixed dest q) (StepOK fixed L s0) s F := by
  unfold composeOut
  refine wp_bind_iff.2 (touch_wp dest _ _ hp ⟨_, hinv.live⟩ ?_)
  have h1 : Inv L (q.wrote 1) s := hinv.upd rfl rfl rfl hinv.pos
  by_cases hd : ((q.wrote 1).dmax == 0) = true
  · simp only [hd, if_true]; exact bail_wp fixed _ s s0 h1 hk
  · simp only [hd, Bool.false_eq_true, if_false]
    by_cases hc : ((q.wrote 1).ccPos != 0) = true
    · simp only [hc, if_true]
      refine wp_bind_iff.2 (useSeq_wp _ _ _ h1 ?_)
      refine wp_bind_iff.2 (touch_wp dest _ _ hp ⟨_, h1.live⟩ ?_)
      exact wp_pure_iff.2 ⟨h1.upd rfl rfl rfl (by simp [Seq.wrote]), hk⟩
    · simp only [hc, Bool.false_eq_true, if_false]
      exact wp_pure_iff.2 ⟨h1, hk⟩

theorem composeStep_wp {L : List Blk} (fixed : Bool) (dest src : Ptr) (c : CCell) (last valid : Bool) (q : Seq) (s : St)
    (hp : PtrOK L dest) (hs : PtrOK L src) (hinv : Inv L q s) :
    wp fails (composeStep fixed dest src c last valid q) (StepOK fixed L s) s (FaultOK fixed fails) := by
  unfold composeStep
  refine wp_bind_iff.2 (touch_wp src _ _ hs ⟨_, hinv.live⟩ ?_)
  have kk : Keep s s := ⟨rfl, rfl⟩
  have out := fun (q1 : Seq) (s1 : St) (h1 : Inv L q1 s1) (k1 : Keep s s1) =>
    composeOut_wp (fails := fails) (F := FaultOK fixed fails) fixed dest q1 s1 s hp h1 k1
  have col : ∀ (b : Bool), wp fails (do
        match ← collect fixed q with
        | none => bailNoMem q
        | some q' => if b = true then pure (.next q' true) else composeOut fixed dest q') (StepOK fixed L s) s (FaultOK fixed fails) := by
    intro b
    refine wp_bind_iff.2 (collect_wp fixed q s hinv _ ?_ (bailNoMem_wp fixed q s))
    intro q' s' hi hk
    cases b with
    | true => simp only [if_true]; exact wp_pure_iff.2 ⟨hi, hk⟩
    | false => simp only [Bool.false_eq_true, if_false]; exact out q' s' hi hk
  rcases c with ⟨mk, cp⟩
  cases valid
  · cases mk
    · cases last
      · exact wp_pure_iff.2 ⟨hinv, kk⟩
      · exact out q s hinv kk
    · exact wp_bind_iff.2 (touch_wp dest _ _ hp ⟨_, hinv.live⟩
        (checkRoom_wp fixed _ false s s (hinv.upd rfl rfl rfl hinv.pos) kk))
  · cases cp
    · cases mk <;> cases last
      · exact out q s hinv kk
      · exact col false
      · exact col true
      · exact col false
    · cases last
      · exact wp_pure_iff.2 ⟨hinv, kk⟩
      · exact out q s hinv kk

theorem composeLoop_wp {L : List Blk} (fixed : Bool) (dest src : Ptr) (cells : List CCell) (valid : Bool) (q : Seq) (s : St)
    (hp : PtrOK L dest) (hs : PtrOK L src) (hinv : Inv L q s) :
    wp fails (composeLoop fixed dest src cells valid q) (ProgOK fixed L s) s (FaultOK fixed fails) := by
  induction cells generalizing q s valid with
  | nil =>
    exact loopEnd_wp fixed dest q s hp hinv
  | cons c rest ih =>
    exact loopCons_wp (composeStep_wp fixed dest src c rest.isEmpty valid q s hp hs hinv) fun q' v s1 h => ih v q' s1 h

theorem inv_init (dmax : Nat) (s : St) : Inv s.live { dmax := dmax } s :=
  ⟨by simp, by simp, by simp [CC_SEQ_SIZE], by simp, by simp⟩

theorem reorderProg_wp {L : List Blk} (fx : Fixes) (dest : Ptr) (dmax : Nat) (cells : List Bool) (s : St)
    (hL : s.live = L) (hp : PtrOK L dest) :
    wp fails (reorderProg fx dest dmax cells) (ProgOK fx.reorder L s) s (FaultOK fx.reorder fails) := by
  subst hL
  unfold reorderProg
  split
  · simp [failH, ProgOK, St.onEmit]
  · exact reorderLoop_wp fx.reorder dest cells _ s hp (inv_init dmax s)

theorem composeProg_wp {L : List Blk} (fx : Fixes) (dest src : Ptr) (dmax : Nat) (cells : List CCell) (s : St)
    (hL : s.live = L) (hp : PtrOK L dest) (hs : PtrOK L src) :
    wp fails (composeProg fx dest src dmax cells) (ProgOK fx.compose L s) s (FaultOK fx.compose fails) := by
  subst hL
  unfold composeProg
  split
  · simp [failCH, ProgOK, St.onEmit]
  · exact composeLoop_wp fx.compose dest src cells false _ s hp hs (inv_init dmax s)

theorem wp_noFault {fixed : Bool} {p : Prog α} {Q : α → St → Prop} {s : St} (hA : fixed = true ∨ NoFail fails)
    (h : wp fails p Q s (FaultOK fixed fails)) : wp fails p Q s :=
  wp_weaken h (fun _ _ => id) fun _ ⟨h1, h2⟩ => hA.elim (fun h => by rw [h] at h1; cases h1) h2

/-- the scratch block of wcsnorm_s, when it came from malloc -/
def tmpList : Ptr → List Blk
  | .heap (some t) => [t]
  | _ => []

/-- release of the scratch buffer of wcsnorm_s when the blocks above it may or may not have been released -/
theorem tmpFree_wp {L0 : List Blk} (tmp : Ptr) (s : St) (Q : Unit → St → Prop) (hp : PtrOK (tmpList tmp ++ L0) tmp)
    (hsup : ∃ E, s.live = E ++ (tmpList tmp ++ L0))
    (h : ∀ s', (s.live = tmpList tmp ++ L0 → s'.live = L0) → Keep s s' → s'.cleared = s.cleared → Q () s') :
    wp fails (tmpFree tmp) Q s := by
  cases tmp with
  | caller => exact wp_pure_iff.2 (h s (fun hl => by simpa [tmpList] using hl) ⟨rfl, rfl⟩ rfl)
  | heap b =>
    obtain ⟨t, rfl, -⟩ := hp
    obtain ⟨E, hE⟩ := hsup
    unfold tmpFree freeIf
    simp only [Option.isSome_some, if_true]
    refine wp_free _ _ _ (by intro b hb; cases hb; rw [hE]; simp [tmpList]) ?_
    exact h _ (by intro hl; simp [hl, eraseOpt, tmpList]) ⟨rfl, rfl⟩ rfl

/-- wcsnorm_s behind the scratch decision, with the scratch block (if any) on top of the entry blocks -/
theorem normBody_wp {L0 : List Blk} (fx : Fixes) (x : NormFeat) (tmp : Ptr) (s : St)
    (hAr : fx.reorder = true ∨ NoFail fails) (hAc : fx.compose = true ∨ NoFail fails)
    (hl : s.live = tmpList tmp ++ L0) (hpt : PtrOK (tmpList tmp ++ L0) tmp) :
    wp fails (normBody fx x tmp) (fun o s' =>
      (o.failed = false → s'.live = L0) ∧ ((fx.reorder = true ∧ fx.compose = true) → s'.live = L0) ∧
      (s.nfail < s'.nfail → o.failed = true ∧ s.hn < s'.hn ∧ s'.cleared = true)) s := by
  unfold normBody
  refine wp_bind_iff.2 (wp_weaken (wp_noFault hAr (reorderProg_wp fx tmp (x.len + 2) x.rcells s hl hpt)) ?_ fun _ => id)
  rintro r s1 ⟨r1, r2, r3, r4, r5, -, r7⟩
  by_cases hrf : r.failed = true
  · simp only [hrf, if_true]
    refine wp_bind_iff.2 (tmpFree_wp tmp s1 _ hpt r7 ?_)
    intro s2 h1 h2 h3
    refine wp_bind_iff.2 (wp_clear_iff.2 ?_)
    refine wp_pure_iff.2 ?_
    simp [St.onEmit]
    refine ⟨fun h _ => h1 (r2 h), fun hlt => ?_⟩
    have := (r3 (by have := h2.1; omega)).2.1
    have := h2.2; omega
  · have hrf' : r.failed = false := by simpa using hrf
    have hl1 := r1 hrf'
    have hn1 : s1.nfail = s.nfail := by
      rcases Nat.lt_or_ge s.nfail s1.nfail with h | h
      · have := (r3 h).1; rw [hrf'] at this; cases this
      · omega
    simp only [hrf', Bool.false_eq_true, if_false]
    by_cases hm : (x.mode == NormMode.nfd) = true
    · simp only [hm, if_true]
      refine wp_bind_iff.2 (touch_wp tmp _ _ hpt ⟨[], by simpa using hl1⟩ ?_)
      refine wp_bind_iff.2 (tmpFree_wp tmp s1 _ hpt ⟨[], by simpa using hl1⟩ ?_)
      intro s2 h1 h2 h3
      refine wp_pure_iff.2 ?_
      exact ⟨fun _ => h1 hl1, fun _ => h1 hl1, fun hlt => by have := h2.1; omega⟩
    · simp only [hm, Bool.false_eq_true, if_false]
      refine wp_bind_iff.2 (wp_weaken (wp_noFault hAc (composeProg_wp fx .caller tmp x.dmax x.ccells s1 hl1 trivial hpt)) ?_ fun _ => id)
      rintro c s2 ⟨c1, c2, c3, -, -, -, c7⟩
      refine wp_bind_iff.2 (tmpFree_wp tmp s2 _ hpt c7 ?_)
      intro s3 h1 h2 h3
      refine wp_pure_iff.2 ?_
      refine ⟨fun hf => h1 (c1 hf), fun h => h1 (c2 h.2), fun hlt => ?_⟩
      have := c3 (by have := h2.1; omega)
      exact ⟨this.1, by have := h2.2; omega, by rw [h3]; exact this.2.2⟩

def NormOK (fixed : Bool) (s : St) (o : Out) (s' : St) : Prop :=
  (o.failed = false → s'.live = s.live) ∧ (fixed = true → s'.live = s.live) ∧
  (s.nfail < s'.nfail → o.failed = true ∧ s.hn < s'.hn ∧ s'.cleared = true)

theorem normProg_wp (fx : Fixes) (x : NormFeat) (s : St)
    (hA : (fx.normtmp = true ∧ fx.reorder = true ∧ fx.compose = true) ∨ NoFail fails) :
    wp fails (normProg fx x) (NormOK (fx.normtmp && fx.reorder && fx.compose) s) s := by
  have hAr : fx.reorder = true ∨ NoFail fails := hA.elim (fun h => Or.inl h.2.1) Or.inr
  have hAc : fx.compose = true ∨ NoFail fails := hA.elim (fun h => Or.inl h.2.2) Or.inr
  unfold normProg
  by_cases hd : x.decErr = true
  · simp only [hd, if_true]
    simp [failCH, NormOK, St.onEmit]
  · simp only [hd, Bool.false_eq_true, if_false]
    by_cases hm : (x.mode == NormMode.fcd) = true
    · simp only [hm, if_true]
      exact wp_pure_iff.2 ⟨fun _ => rfl, fun _ => rfl, fun h => by omega⟩
    · simp only [hm, Bool.false_eq_true, if_false]
      by_cases hs : x.len + 2 < 128
      · simp only [hs, if_true]
        refine wp_weaken (normBody_wp (L0 := s.live) fx x .caller s hAr hAc rfl trivial) ?_ fun _ => id
        rintro o s' ⟨h1, h2, h3⟩
        refine ⟨h1, fun hf => h2 ?_, h3⟩
        simp [Bool.and_eq_true] at hf; exact ⟨hf.1.2, hf.2⟩
      · simp only [hs, if_false]
        refine wp_bind_iff.2 (wp_malloc _ _ ?_ ?_)
        · intro hf
          rcases hA with ⟨h1, h2, h3⟩ | hnf
          · simp only [h1, Bool.true_and, Option.isNone_none, if_true]
            simp [failCH, NormOK, St.onEmit, St.allocFail]
          · rw [hnf] at hf; cases hf
        · intro hf
          simp only [Option.isNone_some, Bool.and_false, Bool.false_eq_true, if_false]
          refine wp_weaken (normBody_wp (L0 := s.live) fx x (.heap (some s.next)) _ hAr hAc
            rfl ⟨_, rfl, by simp [tmpList]⟩) ?_ fun _ => id
          rintro o s' ⟨h1, h2, h3⟩
          refine ⟨h1, fun hf => h2 ?_, h3⟩
          simp [Bool.and_eq_true] at hf; exact ⟨hf.1.2, hf.2⟩

end SafeC.Alloc
