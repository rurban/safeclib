import SafeC.Models.Alloc
/-! C20: laws of the allocation machine (`exec_*`, and `wp` with one equation per primitive, so that the loop-free skeletons
are run symbolically by `simp`), the property as predicates on the result of a run, and per skeleton one lemma describing
every run (result, live blocks, counters), from which the statements in `Props/C20.lean` follow. -/
namespace SafeC.Alloc
variable {α β : Type} {fails : Nat → Bool}

@[simp] theorem exec_ret (x : α) (s : St) : exec fails (.ret x) s = .ok (x, s) := by simp [exec]
@[simp] theorem exec_pure (x : α) (s : St) : exec fails (pure x : Prog α) s = .ok (x, s) := by
  show exec fails (.ret x) s = _; simp

theorem exec_bind (p : Prog α) (f : α → Prog β) (s : St) :
    exec fails (p >>= f) s =
      match exec fails p s with
      | .ok (a, s') => exec fails (f a) s'
      | .error e => .error e := by
  show exec fails (p.bind f) s = _
  induction p generalizing s with
  | ret x => simp [Prog.bind, exec]
  | alloc k ih => simp only [Prog.bind, exec]; split <;> exact ih _ _
  | realloc old k ih =>
    simp only [Prog.bind, exec]
    cases old with
    | none => simp only []; split <;> exact ih _ _
    | some b => simp only []; split
                · split <;> exact ih _ _
                · rfl
  | free b k ih =>
    simp only [Prog.bind, exec]
    cases b with
    | none => exact ih _
    | some b => simp only []; split
                · exact ih _
                · rfl
  | deref b k ih =>
    simp only [Prog.bind, exec]
    cases b with
    | none => rfl
    | some b => simp only []; split
                · exact ih _
                · rfl
  | emit e k ih => simp only [Prog.bind, exec]; exact ih _

@[simp] theorem exec_malloc (s : St) :
    exec fails malloc s =
      if fails s.next then .ok (none, s.allocFail (.malloc s.next false))
      else .ok (some s.next, s.allocOk s.live (.malloc s.next true)) := by
  simp [malloc, exec]

@[simp] theorem exec_free_none (s : St) :
    exec fails (free none) s = .ok ((), { s with events := .free none :: s.events }) := by
  simp [free, exec]

theorem exec_free_some (b : Blk) (s : St) :
    exec fails (free (some b)) s =
      if b ∈ s.live then .ok ((), { s with live := s.live.erase b, events := .free (some b) :: s.events })
      else .error (.badFree b) := by
  simp [free, exec]

@[simp] theorem exec_deref_none (s : St) : exec fails (deref none) s = .error .nullDeref := by
  simp [deref, exec]

theorem exec_deref_some (b : Blk) (s : St) :
    exec fails (deref (some b)) s = if b ∈ s.live then .ok ((), s) else .error (.useAfterFree b) := by
  simp [deref, exec]

@[simp] theorem exec_handler (s : St) : exec fails handler s = .ok ((), s.onEmit .handler) := by
  simp [handler, exec]
@[simp] theorem exec_clear (s : St) : exec fails clear s = .ok ((), s.onEmit .clear) := by
  simp [clear, exec]

/-- the live list after `free(o)` / a successful `realloc(o, ..)` took `o` away -/
def eraseOpt (l : List Blk) : Option Blk → List Blk
  | some b => l.erase b
  | none => l

/-- the answer to the allocation request made in `s` and the state behind it; `live` = the blocks a successful
request leaves allocated besides the new one -/
def request (fails : Nat → Bool) (s : St) (live : List Blk) (ev : Bool → Ev) : Option Blk × St :=
  if fails s.next then (none, s.allocFail (ev false)) else (some s.next, s.allocOk live (ev true))

theorem exec_alloc (k : Option Blk → Prog α) (s : St) :
    exec fails (.alloc k) s =
      exec fails (k (request fails s s.live (.malloc s.next)).1) (request fails s s.live (.malloc s.next)).2 := by
  simp only [exec, request]; split <;> rfl

theorem exec_realloc (old : Option Blk) (k : Option Blk → Prog α) (s : St) :
    exec fails (.realloc old k) s =
      if ∀ b, old = some b → b ∈ s.live then
        exec fails (k (request fails s (eraseOpt s.live old) (.realloc s.next old)).1)
          (request fails s (eraseOpt s.live old) (.realloc s.next old)).2
      else .error (.badRealloc (old.getD 0)) := by
  cases old with
  | none =>
    simp only [exec, request, eraseOpt]
    split <;> simp
  | some b =>
    simp only [exec, request, eraseOpt]
    by_cases hb : b ∈ s.live
    · simp only [hb, Option.some.injEq, forall_eq', if_true]
      split <;> rfl
    · simp [hb]

theorem request_spec (s : St) (live : List Blk) (ev : Bool → Ev) :
    (request fails s live ev).2.next = s.next + 1 ∧ (request fails s live ev).2.hn = s.hn ∧
    (request fails s live ev).2.cleared = s.cleared ∧
    (request fails s live ev).2.nfail = s.nfail + (if fails s.next then 1 else 0) := by
  unfold request; split <;> simp [St.allocFail, St.allocOk]

theorem request_congr {fails' : Nat → Bool} {s : St} (h : fails' s.next = fails s.next) (live : List Blk)
    (ev : Bool → Ev) : request fails' s live ev = request fails s live ev := by
  unfold request; rw [h]

/-- the `failed` clause of `Ran` across one request: `st` is the state behind the request made in `s`, `s'` the end of the run -/
theorem nfail_step {s st s' : St} (r1 : st.next = s.next + 1)
    (r4 : st.nfail = s.nfail + (if fails s.next then 1 else 0)) (m1 : st.next ≤ s'.next) (m2 : st.nfail ≤ s'.nfail)
    (ih : st.nfail < s'.nfail ↔ ∃ i, st.next ≤ i ∧ i < s'.next ∧ fails i = true) :
    s.nfail < s'.nfail ↔ ∃ i, s.next ≤ i ∧ i < s'.next ∧ fails i = true := by
  by_cases hf : fails s.next = true
  · rw [if_pos hf] at r4
    exact ⟨fun _ => ⟨s.next, Nat.le_refl _, by omega, hf⟩, fun _ => by omega⟩
  · rw [if_neg hf, Nat.add_zero] at r4
    rw [← r4, ih, r1]
    constructor
    · rintro ⟨i, h1, h2, h3⟩; exact ⟨i, by omega, h2, h3⟩
    · rintro ⟨i, h1, h2, h3⟩
      refine ⟨i, ?_, h2, h3⟩
      rcases Nat.lt_or_ge s.next i with h4 | h4
      · exact h4
      · have : i = s.next := by omega
        subst this; exact absurd h3 hf

/-- what a surviving run from `s` to `s'` is, as far as the counters and the oracle go; `exec_ran` proves it by the one induction
over programs, a step being a request (`Ran.request`) or anything else (`Ran.quiet`) -/
structure Ran (fails : Nat → Bool) (p : Prog α) (s : St) (a : α) (s' : St) : Prop where
  next : s.next ≤ s'.next
  nfail : s.nfail ≤ s'.nfail
  hn : s.hn ≤ s'.hn
  cleared : s.cleared = true → s'.cleared = true
  failed : s.nfail < s'.nfail ↔ ∃ i, s.next ≤ i ∧ i < s'.next ∧ fails i = true
  congr : ∀ fails' : Nat → Bool, (∀ i, s.next ≤ i → i < s'.next → fails' i = fails i) → exec fails' p s = .ok (a, s')

theorem Ran.quiet {p k : Prog α} {s t s' : St} {a : α} (h : Ran fails k t a s') (h1 : t.next = s.next) (h2 : t.nfail = s.nfail)
    (h3 : s.hn ≤ t.hn) (h4 : s.cleared = true → t.cleared = true) (he : ∀ f, exec f p s = exec f k t) : Ran fails p s a s' :=
  ⟨h1 ▸ h.next, h2 ▸ h.nfail, Nat.le_trans h3 h.hn, fun c => h.cleared (h4 c), by rw [← h1, ← h2]; exact h.failed,
    fun f' hf => by rw [he]; exact h.congr f' (by rwa [h1])⟩

theorem Ran.request {p : Prog α} {k : Option Blk → Prog α} {s s' : St} {a : α} (live : List Blk) (ev : Bool → Ev)
    (h : Ran fails (k (request fails s live ev).1) (request fails s live ev).2 a s')
    (he : ∀ f, exec f p s = exec f (k (request f s live ev).1) (request f s live ev).2) : Ran fails p s a s' := by
  obtain ⟨r1, r2, r3, r4⟩ := request_spec (fails := fails) s live ev
  refine ⟨by have := h.next; omega, by have := h.nfail; omega, r2 ▸ h.hn, fun c => h.cleared (r3 ▸ c),
    nfail_step r1 r4 h.next h.nfail h.failed, fun f' hf => ?_⟩
  have m := h.next
  rw [he, request_congr (hf s.next (Nat.le_refl _) (by omega))]
  exact h.congr f' fun i h1 h2 => hf i (by omega) h2

theorem exec_ran (p : Prog α) (s : St) {a : α} {s' : St} (h : exec fails p s = .ok (a, s')) : Ran fails p s a s' := by
  induction p generalizing s with
  | ret x =>
    obtain ⟨rfl, rfl⟩ := h
    exact ⟨Nat.le_refl _, Nat.le_refl _, Nat.le_refl _, id, ⟨fun h => absurd h (Nat.lt_irrefl _), fun ⟨i, h1, h2, _⟩ => by omega⟩,
      fun _ _ => rfl⟩
  | alloc k ih =>
    rw [exec_alloc] at h
    exact (ih _ _ h).request _ _ fun f => exec_alloc ..
  | realloc old k ih =>
    rw [exec_realloc] at h
    split at h
    · exact (ih _ _ h).request _ _ fun f => by rw [exec_realloc, if_pos ‹_›]
    · cases h
  | free b k ih =>
    cases b with
    | none => exact (ih _ h).quiet rfl rfl (Nat.le_refl _) id fun _ => rfl
    | some b =>
      simp only [exec] at h
      split at h
      · rename_i hb
        exact (ih _ h).quiet rfl rfl (Nat.le_refl _) id fun _ => by simp only [exec]; rw [if_pos hb]
      · cases h
  | deref b k ih =>
    cases b with
    | none => cases h
    | some b =>
      simp only [exec] at h
      split at h
      · rename_i hb
        exact (ih _ h).quiet rfl rfl (Nat.le_refl _) id fun _ => by simp only [exec]; rw [if_pos hb]
      · cases h
  | emit e k ih =>
    exact (ih _ h).quiet (by cases e <;> rfl) (by cases e <;> rfl) (by cases e <;> simp [St.onEmit])
      (by cases e <;> simp [St.onEmit]) fun _ => rfl

theorem exec_mono (p : Prog α) (s : St) {a : α} {s' : St} (h : exec fails p s = .ok (a, s')) :
    s.next ≤ s'.next ∧ s.nfail ≤ s'.nfail ∧ s.hn ≤ s'.hn ∧ (s.cleared = true → s'.cleared = true) :=
  have r := exec_ran p s h
  ⟨r.next, r.nfail, r.hn, r.cleared⟩

/-- the run does not fault: no use of a failed allocation, no free/realloc of a pointer that is not a live block -/
def Safe (r : Except Fault (α × St)) : Prop := ∃ a s', r = .ok (a, s')
/-- the blocks outstanding at return are the blocks outstanding at entry -/
def NoLeak (s : St) (r : Except Fault (α × St)) : Prop := ∀ a s', r = .ok (a, s') → s'.live = s.live
/-- if an allocation request of this run was failed, the caller gets a failure indication, the handler
was called, and (for functions with a destination) dest was cleared -/
def Reported (hasDest : Bool) (s : St) (r : Except Fault (Out × St)) : Prop :=
  ∀ o s', r = .ok (o, s') → s.nfail < s'.nfail →
    o.failed = true ∧ s.hn < s'.hn ∧ (hasDest = true → s'.cleared = true)
/-- all of C20 for one run -/
def Holds (hasDest : Bool) (s : St) (r : Except Fault (Out × St)) : Prop :=
  Safe r ∧ NoLeak s r ∧ Reported hasDest s r

def isNullDeref {α : Type} : Except Fault (α × St) → Bool
  | .error .nullDeref => true
  | _ => false
def liveAtReturn {α : Type} : Except Fault (α × St) → Option (List Blk)
  | .ok (_, s) => some s.live
  | _ => none
def verdict : Except Fault (Out × St) → Option (Bool × Nat × Bool × Nat)
  | .ok (o, s) => some (o.failed, s.hn, s.cleared, s.nfail)
  | _ => none

theorem not_safe_of_null {α : Type} {r : Except Fault (α × St)} (h : isNullDeref r = true) : ¬ Safe r := by
  rintro ⟨a, s', rfl⟩; simp [isNullDeref] at h
theorem not_noleak_of {α : Type} {r : Except Fault (α × St)} {s : St} {l : List Blk} (h : liveAtReturn r = some l)
    (hne : l ≠ s.live) : ¬ NoLeak s r := by
  intro hn
  cases r with
  | error e => simp [liveAtReturn] at h
  | ok v => rcases v with ⟨a, s'⟩; simp [liveAtReturn] at h; exact hne (h ▸ hn a s' rfl)

/-! `wp fails p Q s E`: `Q` holds of the result of a surviving run of `p` from `s`, `E` of the fault that ends any
other run (by default no run may fault).  The rules below are equations, one per primitive, so `simp` with them
runs a loop-free skeleton symbolically: what is left is one arithmetic fact per path. -/

def wp (fails : Nat → Bool) (p : Prog α) (Q : α → St → Prop) (s : St) (E : Fault → Prop := fun _ => False) : Prop :=
  match exec fails p s with
  | .ok (a, s') => Q a s'
  | .error e => E e

section
variable {Q : α → St → Prop} {U : Unit → St → Prop} {E : Fault → Prop} {s : St}

theorem wp_cases (h : wp fails p Q s E) :
    (∃ a s', exec fails p s = .ok (a, s') ∧ Q a s') ∨ ∃ e, exec fails p s = .error e ∧ E e := by
  unfold wp at h
  cases he : exec fails p s with
  | error e => rw [he] at h; exact .inr ⟨e, rfl, h⟩
  | ok v => rw [he] at h; exact .inl ⟨v.1, v.2, rfl, h⟩

theorem Safe.of_wp {p : Prog α} (h : wp fails p Q s) : Safe (exec fails p s) :=
  (wp_cases h).elim (fun ⟨a, s', he, _⟩ => ⟨a, s', he⟩) fun ⟨_, _, h⟩ => h.elim

theorem wp_ok {p : Prog α} {a : α} {s' : St} (h : wp fails p Q s E) (he : exec fails p s = .ok (a, s')) : Q a s' := by
  unfold wp at h; rwa [he] at h

theorem wp_error {p : Prog α} {e : Fault} (h : wp fails p Q s E) (he : exec fails p s = .error e) : E e := by
  unfold wp at h; rwa [he] at h

theorem wp_weaken {p : Prog α} {Q' : α → St → Prop} {E' : Fault → Prop} (h : wp fails p Q s E)
    (hQ : ∀ a s', Q a s' → Q' a s') (hE : ∀ e, E e → E' e) : wp fails p Q' s E' := by
  rcases wp_cases h with ⟨a, s', he, h⟩ | ⟨e, he, h⟩ <;> unfold wp <;> rw [he]
  · exact hQ _ _ h
  · exact hE _ h

@[simp] theorem wp_pure_iff {x : α} : wp fails (pure x) Q s E ↔ Q x s := by simp [wp]

@[simp] theorem wp_bind_iff {p : Prog α} {f : α → Prog β} {Q : β → St → Prop} :
    wp fails (p >>= f) Q s E ↔ wp fails p (fun a s' => wp fails (f a) Q s' E) s E := by
  unfold wp; rw [exec_bind]
  cases exec fails p s <;> rfl

@[simp] theorem wp_ite_iff (c : Prop) [Decidable c] (p q : Prog α) :
    wp fails (if c then p else q) Q s E ↔ if c then wp fails p Q s E else wp fails q Q s E := by
  split <;> rfl

@[simp] theorem wp_malloc_iff {Q : Option Blk → St → Prop} : wp fails malloc Q s E ↔
    if fails s.next then Q none (s.allocFail (.malloc s.next false))
    else Q (some s.next) (s.allocOk s.live (.malloc s.next true)) := by
  unfold wp; rw [exec_malloc]; by_cases h : fails s.next = true <;> simp [h]

@[simp] theorem wp_realloc_iff (o : Option Blk) {Q : Option Blk → St → Prop} : wp fails (realloc o) Q s E ↔
    if ∀ b, o = some b → b ∈ s.live then
      Q (request fails s (eraseOpt s.live o) (.realloc s.next o)).1 (request fails s (eraseOpt s.live o) (.realloc s.next o)).2
    else E (.badRealloc (o.getD 0)) := by
  unfold wp realloc
  rw [exec_realloc]
  by_cases h : ∀ b, o = some b → b ∈ s.live
  · rw [if_pos h, if_pos h]; rfl
  · rw [if_neg h, if_neg h]

@[simp] theorem wp_free_none_iff :
    wp fails (free none) U s E ↔ U () { s with events := .free none :: s.events } := by
  simp [wp]

@[simp] theorem wp_free_some_iff (b : Blk) : wp fails (free (some b)) U s E ↔
    if b ∈ s.live then U () { s with live := s.live.erase b, events := .free (some b) :: s.events }
    else E (.badFree b) := by
  unfold wp; rw [exec_free_some]; by_cases h : b ∈ s.live <;> simp [h]

@[simp] theorem wp_deref_none_iff : wp fails (deref none) U s E ↔ E .nullDeref := by simp [wp]

@[simp] theorem wp_deref_some_iff (b : Blk) :
    wp fails (deref (some b)) U s E ↔ if b ∈ s.live then U () s else E (.useAfterFree b) := by
  unfold wp; rw [exec_deref_some]; by_cases h : b ∈ s.live <;> simp [h]

@[simp] theorem wp_handler_iff : wp fails handler U s E ↔ U () (s.onEmit .handler) := by simp [wp]
@[simp] theorem wp_clear_iff : wp fails clear U s E ↔ U () (s.onEmit .clear) := by simp [wp]

end

theorem Holds.of_wp {d : Bool} {p : Prog Out} {s : St}
    (h : wp fails p (fun o s' => s'.live = s.live ∧
      (s.nfail < s'.nfail → o.failed = true ∧ s.hn < s'.hn ∧ (d = true → s'.cleared = true))) s) :
    Holds d s (exec fails p s) :=
  ⟨Safe.of_wp h, fun _ _ e => (wp_ok h e).1, fun _ _ e => (wp_ok h e).2⟩

/-- every run of one format piece: either it returns (live blocks unchanged unless it is the `%ls`
conversion-failure exit of the unrepaired code, which forgets its buffer and reports a positive
code; a failed allocation is always turned into a handled failure), or it is a `%L?`/`%a` directive
with text behind it whose unchecked format copy was refused: null dereference -/
theorem segProg_wp (fx : Fixes) (g : Seg) (s : St) :
    wp fails (segProg fx g) (fun r s' =>
        ((s'.live = s.live ∧ r ≠ some .posErr) ∨
          (g = .ls .conv ∧ fx.lsconv = false ∧ r = some .posErr ∧ s'.live = s.next :: s.live ∧ s'.nfail = s.nfail)) ∧
        (s.nfail < s'.nfail → r = some .fail ∧ s.hn < s'.hn)) s
      (fun e => e = .nullDeref ∧ fx.fmtcopy = false ∧ fails s.next = true ∧ ∃ err, g = .fl true err) := by
  cases g with
  | plain x =>
    cases x <;> simp [segProg, stop, stopH, St.onEmit]
  | fl fo er =>
    cases fo <;> simp [segProg, flTail, stopH, St.allocFail, St.allocOk, St.onEmit] <;> intros <;> simp [*]
  | ls x =>
    cases x <;> simp [segProg, lsBody, stop, stopH, St.allocFail, St.allocOk, St.onEmit] <;> intros <;> simp [*]

theorem wp_with_mono {p : Prog α} {Q : α → St → Prop} {E : Fault → Prop} {s : St} (h : wp fails p Q s E) :
    wp fails p (fun a s' => Q a s' ∧ s.next ≤ s'.next ∧ s.nfail ≤ s'.nfail ∧ s.hn ≤ s'.hn) s E := by
  rcases wp_cases h with ⟨a, s', he, h⟩ | ⟨e, he, h⟩ <;> unfold wp <;> rw [he]
  · have m := exec_mono _ _ he; exact ⟨h, m.1, m.2.1, m.2.2.1⟩
  · exact h

theorem engine_wp (fx : Fixes) (segs : List Seg) (s : St) :
    wp fails (engine fx segs) (fun r s' =>
        ((s'.live = s.live ∧ r ≠ .posErr) ∨
          (.ls .conv ∈ segs ∧ fx.lsconv = false ∧ r = .posErr ∧ s'.live ≠ s.live ∧ s'.nfail = s.nfail)) ∧
        (s.nfail < s'.nfail → r = .fail ∧ s.hn < s'.hn)) s
      (fun e => e = .nullDeref ∧ fx.fmtcopy = false ∧ (∃ i, s.next ≤ i ∧ fails i = true) ∧ ∃ err, .fl true err ∈ segs) := by
  induction segs generalizing s with
  | nil => exact wp_pure_iff.2 ⟨.inl ⟨rfl, nofun⟩, fun h => absurd h (Nat.lt_irrefl _)⟩
  | cons g rest ih =>
    refine wp_bind_iff.2 (wp_weaken (wp_with_mono (segProg_wp fx g s)) ?_ ?_)
    · rintro r s1 ⟨⟨h2, h3⟩, m1, m2, m3⟩
      cases r with
      | some r =>
        refine wp_pure_iff.2 ⟨?_, fun hlt => ⟨Option.some.inj (h3 hlt).1, (h3 hlt).2⟩⟩
        rcases h2 with ⟨h2, h2a⟩ | ⟨h2, h2a, h2b, h2c, h5⟩
        · exact .inl ⟨h2, fun h => h2a (h ▸ rfl)⟩
        · exact .inr ⟨h2 ▸ List.Mem.head _, h2a, Option.some.inj h2b, h2c ▸ List.cons_ne_self _ _, h5⟩
      | none =>
        have hl : s1.live = s.live := h2.elim (·.1) fun h => nomatch h.2.2.1
        have hn : s1.nfail = s.nfail := Nat.le_antisymm (Nat.le_of_not_lt fun h => nomatch (h3 h).1) m2
        refine wp_weaken (ih s1) ?_ ?_
        · rintro r s' ⟨e2, e3⟩
          refine ⟨?_, fun hlt => ⟨(e3 (hn ▸ hlt)).1, Nat.lt_of_le_of_lt m3 (e3 (hn ▸ hlt)).2⟩⟩
          rcases e2 with ⟨e2, e2a⟩ | ⟨e2, e2a, e2b, e2c, e5⟩
          · exact .inl ⟨e2.trans hl, e2a⟩
          · exact .inr ⟨List.mem_cons_of_mem _ e2, e2a, e2b, hl ▸ e2c, e5.trans hn⟩
        · rintro e ⟨rfl, e2, ⟨i, e3, e3a⟩, err, e4⟩
          exact ⟨rfl, e2, ⟨i, Nat.le_trans m1 e3, e3a⟩, err, List.mem_cons_of_mem _ e4⟩
    · rintro e ⟨rfl, h2, h3, err, h4⟩
      exact ⟨rfl, h2, ⟨s.next, Nat.le_refl _, h3⟩, err, h4 ▸ List.Mem.head _⟩

theorem wrapTail_wp (w : Wrap) (r : EngRes) (s : St) :
    wp fails (wrapTail w r) (fun o s' => s'.live = s.live ∧ s'.nfail = s.nfail ∧ s.hn ≤ s'.hn ∧
      (r = .fail → o.failed = true ∧ (w ≠ .stream → s'.cleared = true))) s := by
  cases w <;> cases r <;> simp [wrapTail, failCH, St.onEmit]

theorem printf_wp (fx : Fixes) (w : Wrap) (entry : Bool) (segs : List Seg) (s : St) :
    wp fails (printfProg fx w entry segs) (fun o s' =>
        (s'.live = s.live ∨ (.ls .conv ∈ segs ∧ fx.lsconv = false ∧ s'.live ≠ s.live)) ∧
        (s.nfail < s'.nfail → o.failed = true ∧ s.hn < s'.hn ∧ ((w != .stream) = true → s'.cleared = true))) s
      (fun e => e = .nullDeref ∧ fx.fmtcopy = false ∧ (∃ i, s.next ≤ i ∧ fails i = true) ∧ ∃ err, .fl true err ∈ segs) := by
  cases entry with
  | true => exact wp_bind_iff.2 (wp_handler_iff.2 (wp_pure_iff.2 ⟨.inl rfl, fun h => absurd h (Nat.lt_irrefl _)⟩))
  | false =>
    refine wp_bind_iff.2 (wp_weaken (engine_wp fx segs s) ?_ fun _ h => h)
    rintro r s1 ⟨e2, e3⟩
    refine wp_weaken (wrapTail_wp w r s1) ?_ fun _ h => h.elim
    rintro o s' ⟨t2, t3, t4, t6⟩
    refine ⟨?_, fun hlt => ?_⟩
    · rcases e2 with ⟨e2, _⟩ | ⟨e2, e2a, _, e2c, _⟩
      · exact .inl (t2.trans e2)
      · exact .inr ⟨e2, e2a, t2 ▸ e2c⟩
    · have := e3 (t3 ▸ hlt)
      exact ⟨(t6 this.1).1, Nat.lt_of_lt_of_le this.2 t4, fun hd => (t6 this.1).2 (bne_iff_ne.1 hd)⟩

theorem swTail_eq (p : PR) : swTail p = if p = .zero then pure ⟨false, false⟩ else failCH := by
  cases p <;> rfl
theorem snwTail_eq (p : PR) : snwTail p = if p = .neg then failCH else pure ⟨false, false⟩ := by
  cases p <;> rfl

theorem wprobe_wp (fx : Fixes) (f : WFn) (x : WFeat) (s : St) :
    wp fails (wprobeProg fx f x) (fun o s' => s'.live = s.live ∧
        (s.nfail < s'.nfail →
          (o.failed = true ∧ s.hn < s'.hn ∧ s'.cleared = true) ∨ (f = .vsw ∧ fx.vswrep = false ∧ o.failed = true))) s
      (fun e => e = .nullDeref ∧ fx.wprobe = false ∧ f ≠ .vsw ∧ x.big = true ∧ x.fits = false ∧ x.entryErr = false ∧
        fails s.next = true) := by
  cases f
  all_goals
    simp [wprobeProg, probeUnchecked, swTail_eq, snwTail_eq, failH, failCH, St.allocFail, St.allocOk, St.onEmit]
  -- left over: the conditions of the one faulting path (heap probe reached, malloc refused, no check) give its stated cause
  all_goals
    intros
    simp [*]

end SafeC.Alloc
