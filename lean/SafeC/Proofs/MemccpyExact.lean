import SafeC.Proofs.MemccpyOverlap
import SafeC.Proofs.CopySteps
/-!
# `memccpy_s`: the copy loop up to the stop character

`memccpyLoop_steps`: as long as the bytes read (not overwritten by the stores made before) differ from the stop
character the loop makes `j0` iterations and arrives, with `dest[0..j0) = src[0..j0)`, at the same loop started `j0`
cells further; each exit is one more unfolding (`memccpyLoop_succ`) from there.

`memccpyLoop_found`: the first `m` source bytes are not the stop character, byte `m < n` is: the loop returns EOK with
`dest[0..m) = src[0..m)`; WITHOUT null-slack `dest[m]` is the stop character and nothing else changed; WITH null-slack
the clear `mem_prim_set(dp, n, 0)` starts AT the copied stop character: `dest[m..n)` are zero (`memccpy-stop-char-zeroed`).
-/
namespace SafeC
open Gen Mem

theorem memccpyLoop_succ (cfg : Cfg) (c : Int) (oD oM k dp sp n : Nat) (st : St) (hn : n ≠ 0)
    (hs : st.mapped sp = true ∧ st.rd sp = true)
    (hd : st.mapped dp = true ∧ st.wr dp = true ∧ st.rd dp = true) :
    exec (memccpyLoop cfg c oD oM (k+1) dp sp n) st =
      if ((st.data sp : Nat) : Int) = c then
        exec (do
          if cfg.slack then mem_prim_set 1 dp n 0 else pure ()
          pure EOK : Prog Nat) (st.upd dp (st.data sp))
      else exec (memccpyLoop cfg c oD oM k (dp+1) (sp+1) (n-1)) (st.upd dp (st.data sp)) := by
  have hl : exec (load dp) (st.upd dp (st.data sp)) = .ok (st.data sp, st.upd dp (st.data sp)) := by
    rw [exec_load_ok dp (st.upd dp (st.data sp)) hd.1 hd.2.2, St.upd_data_same]
  rw [memccpyLoop]
  simp only [hn, if_false, exec_bind, exec_load_ok _ _ hs.1 hs.2, exec_store_ok _ _ _ hd.1 hd.2.1, hl]
  split <;> rfl

theorem memccpyLoop_steps (cfg : Cfg) (c : Int) (oD oM : Nat) (k dp sp n : Nat) (st : St) (j0 : Nat) :
    j0 ≤ k → j0 ≤ n → RW st dp j0 → RD st sp j0 →
    (∀ i j, i < j → j < j0 → sp + j ≠ dp + i) →
    (∀ j, j < j0 → ((st.data (sp+j) : Nat) : Int) ≠ c) →
    ∃ st1, CopiedN st st1 dp sp j0 ∧
      exec (memccpyLoop cfg c oD oM k dp sp n) st =
        exec (memccpyLoop cfg c oD oM (k - j0) (dp + j0) (sp + j0) (n - j0)) st1 := by
  intro hk hn hw hr hcl hns
  refine copied_steps (fun j => memccpyLoop cfg c oD oM (k - j) (dp + j) (sp + j) (n - j)) dp sp st j0 hcl
    fun j st1 hj hcp => ?_
  rw [show k - j = k - (j + 1) + 1 by omega, memccpyLoop_succ cfg c oD oM _ _ _ _ st1 (by omega)
    (by rw [hcp.1.mapped, hcp.1.rd]; exact hr j hj) (by rw [hcp.1.mapped, hcp.1.wr, hcp.1.rd]; exact hw j hj),
    if_neg (by rw [hcp.next (fun i hi => hcl i j hi hj)]; exact hns j hj)]
  rfl

theorem memccpyLoop_found (cfg : Cfg) (c : Int) (oD oM : Nat) (m : Nat) :
    ∀ (k dp sp n : Nat) (st : St), m < n → n ≤ k → n < U32 → RW st dp k → RD st sp n →
      (∀ i, i < n → ∀ j, j < k → sp + i ≠ dp + j) →
      (∀ i, i < m → ((st.data (sp+i) : Nat) : Int) ≠ c) → ((st.data (sp+m) : Nat) : Int) = c →
      ∃ st', exec (memccpyLoop cfg c oD oM k dp sp n) st = .ok (EOK, st') ∧ SameMeta st' st ∧
        (∀ i, i < m → st'.data (dp+i) = st.data (sp+i)) ∧
        (cfg.slack = false → st'.data (dp+m) = st.data (sp+m) ∧
          ∀ a, ¬ (dp ≤ a ∧ a ≤ dp + m) → st'.data a = st.data a) ∧
        (cfg.slack = true → (∀ i, m ≤ i → i < n → st'.data (dp+i) = 0) ∧
          ∀ a, ¬ (dp ≤ a ∧ a < dp + n) → st'.data a = st.data a) := by
  intro k dp sp n st hmn hnk hn32 hw hr hdj hns hstop
  have hmk : m < k := Nat.lt_of_lt_of_le hmn hnk
  obtain ⟨st1, hcp, hex⟩ := memccpyLoop_steps cfg c oD oM k dp sp n st m (Nat.le_of_lt hmk) (Nat.le_of_lt hmn)
    (fun i hi => hw i (Nat.lt_trans hi hmk)) (fun i hi => hr i (Nat.lt_trans hi hmn))
    (fun i j hij hj => hdj j (Nat.lt_trans hj hmn) i (Nat.lt_trans (Nat.lt_trans hij hj) hmk)) hns
  -- the state after the stop character is stored: `m + 1` cells copied
  have hcp' := hcp.snoc (fun i hi => hdj m hmn i (Nat.lt_trans hi hmk))
  have hsrc := hcp.next (fun i hi => hdj m hmn i (Nat.lt_trans hi hmk))
  have hexit : exec (memccpyLoop cfg c oD oM k dp sp n) st =
      exec (do
        if cfg.slack then mem_prim_set 1 (dp + m) (n - m) 0 else pure ()
        pure EOK : Prog Nat) (st1.upd (dp + m) (st1.data (sp + m))) := by
    have ek : k - m = k - (m + 1) + 1 := by omega
    rw [hex, ek, memccpyLoop_succ cfg c oD oM _ _ _ _ st1 (Nat.sub_ne_zero_of_lt hmn)
      (by rw [hcp.1.mapped, hcp.1.rd]; exact hr m hmn) (by rw [hcp.1.mapped, hcp.1.wr, hcp.1.rd]; exact hw m hmk),
      if_pos (by rw [hsrc]; exact hstop)]
  rw [hexit]
  cases hcs : cfg.slack with
  | false =>
    exact ⟨_, rfl, hcp'.1, fun i hi => hcp'.at i (Nat.lt_succ_of_lt hi),
      fun _ => ⟨hcp'.at m (Nat.lt_succ_self m), fun a ha => hcp'.out a (fun h => ha ⟨h.1, Nat.le_of_lt_succ h.2⟩)⟩,
      fun h => nomatch h⟩
  | true =>
    have hmod : (n - m) % U32 = n - m := Nat.mod_eq_of_lt (Nat.lt_of_le_of_lt (Nat.sub_le n m) hn32)
    obtain ⟨s3, he, hf⟩ := mem_prim_set_ok (dp + m) (n - m) 0 _
      (by rw [hmod]; exact RW.of_sameMeta hcp'.1 (hw.sub (Nat.le_add_right dp m) (by omega)))
    rw [hmod] at hf
    clear hmod
    refine ⟨s3, by simp [exec_bind, he], hf.same.trans hcp'.1, fun i hi => ?_,
      (fun h => nomatch h), fun _ => ⟨fun i h1 h2 => ?_, fun a ha => ?_⟩⟩
    · rw [hf.data, if_neg (fun h => Nat.not_le.2 (Nat.add_lt_add_left hi dp) h.1)]; exact hcp'.at i (Nat.lt_succ_of_lt hi)
    · rw [hf.data, if_pos (by omega)]
    · rw [hf.data, if_neg (by omega)]
      exact hcp'.out a (fun h => ha ⟨h.1, Nat.lt_of_lt_of_le h.2 (Nat.add_le_add_left hmn dp)⟩)

/-- `memccpy_s`, valid arguments, disjoint operands, the stop character first occurs at index `m < n` -/
theorem memccpy_s_found (cfg : Cfg) (dest dmax src c n m : Nat) (st : St)
    (hd : dest ≠ 0) (hs : src ≠ 0) (hmn : m < n) (hle : n ≤ dmax) (hmax : dmax ≤ RSIZE_MAX_MEM)
    (hw : RW st dest dmax) (hr : RD st src n) (ha1 : src + n < U64) (ha2 : dest + dmax < U64)
    (hno : ¬ ((src ≤ dest ∧ dest < src + n) ∨ (dest < src ∧ src < dest + dmax)))
    (hns : ∀ i, i < m → ((st.data (src+i) : Nat) : Int) ≠ asInt c) (hstop : ((st.data (src+m) : Nat) : Int) = asInt c) :
    ∃ st', exec (memccpy_s cfg dest dmax src c n none none) st = .ok (EOK, st') ∧ SameMeta st' st ∧
      (∀ i, i < m → st'.data (dest+i) = st.data (src+i)) ∧
      (cfg.slack = false → st'.data (dest+m) = st.data (src+m) ∧
        ∀ a, ¬ (dest ≤ a ∧ a ≤ dest + m) → st'.data a = st.data a) ∧
      (cfg.slack = true → (∀ i, m ≤ i → i < n → st'.data (dest+i) = 0) ∧
        ∀ a, ¬ (dest ≤ a ∧ a < dest + n) → st'.data a = st.data a) := by
  rw [memccpy_s_eq_loop cfg dest dmax src c n hd hs (Nat.zero_lt_of_lt hmn) hle hmax ha1 ha2 hno]
  exact memccpyLoop_found cfg (asInt c) dest dmax m dmax dest src n st hmn hle
    (Nat.lt_of_le_of_lt (Nat.le_trans hle hmax) RSIZE_MAX_MEM_lt_U32) hw hr (cells_ne_of_not_ovrlp hno) hns hstop

/-! ## `memccpy_s`: the stop character does not occur among the `n` source bytes

`memccpyLoop_absent`: `n` bytes are copied; then, with room left (`n < k`), the loop stores a NUL behind them and returns
EOK — `dest[0..n) = src[0..n)`, `dest[n] = 0`, nothing else changed (no null-slack clearing on this exit); with no room
left (`n = k`, i.e. `n = dmax`) it leaves through `handle_error(dest, dmax, ESNOSPC)` (`memccpy-n-eq-dmax`).
-/

theorem memccpyLoop_absent (cfg : Cfg) (c : Int) (oD oM : Nat) (hoM : 0 < oM) (n : Nat) :
    ∀ (k dp sp : Nat) (st : St), n ≤ k → RW st oD oM → (oD ≤ dp ∧ dp + k = oD + oM) → RD st sp n →
      (∀ i, i < n → ∀ j, j < k → sp + i ≠ dp + j) →
      (∀ i, i < n → ((st.data (sp+i) : Nat) : Int) ≠ c) →
      ∃ code st', exec (memccpyLoop cfg c oD oM k dp sp n) st = .ok (code, st') ∧
        (n < k → code = EOK ∧ SameMeta st' st ∧
          (∀ i, i < n → st'.data (dp+i) = st.data (sp+i)) ∧ st'.data (dp+n) = 0 ∧
          ∀ a, ¬ (dp ≤ a ∧ a ≤ dp + n) → st'.data a = st.data a) ∧
        (n = k → code = ESNOSPC ∧ ∃ s1, CopiedN st s1 dp sp n ∧ ClearedPost cfg oD oM ESNOSPC s1 st') := by
  intro k dp sp st hnk hw hinv hr hdj hns
  have hwd : RW st dp k := hw.sub hinv.1 (Nat.le_of_eq hinv.2)
  obtain ⟨st1, hcp, hex⟩ := memccpyLoop_steps cfg c oD oM k dp sp n st n hnk (Nat.le_refl n)
    (fun i hi => hwd i (Nat.lt_of_lt_of_le hi hnk)) hr
    (fun i j hij hj => hdj j hj i (Nat.lt_of_lt_of_le (Nat.lt_trans hij hj) hnk)) hns
  rw [hex, Nat.sub_self]
  by_cases hlt : n < k
  · -- room left: the terminator is stored behind the `n` bytes copied
    obtain ⟨k', ek⟩ : ∃ k', k - n = k' + 1 := ⟨k - n - 1, by omega⟩
    have hd := hwd n hlt
    rw [ek, memccpyLoop, if_pos rfl]
    refine ⟨EOK, st1.upd (dp + n) 0, ?_, fun _ => ?_, fun h => absurd h (Nat.ne_of_lt hlt)⟩
    · rw [← hcp.1.mapped, ← hcp.1.wr] at hd
      simp [exec_bind, exec_store_ok _ _ _ hd.1 hd.2.1]
    · refine ⟨rfl, (SameMeta.upd _ _ _).trans hcp.1, fun i hi => ?_, St.upd_data_same _ _ _, fun a ha => ?_⟩
      · rw [St.upd_data_ne _ _ _ _ (Nat.ne_of_lt (Nat.add_lt_add_left hi dp))]; exact hcp.at i hi
      · rw [St.upd_data_ne _ _ _ _ (fun e => by subst e; exact ha ⟨Nat.le_add_right _ _, Nat.le_refl _⟩)]
        exact hcp.out a (fun h => ha ⟨h.1, Nat.le_of_lt h.2⟩)
  · have ek : k - n = 0 := by omega
    rw [ek, memccpyLoop]
    obtain ⟨st', he, hp⟩ := handleError_cleared cfg oD oM ESNOSPC st1 (RW.of_sameMeta hcp.1 hw) hoM
    exact ⟨ESNOSPC, st', by simp [exec_bind, he], fun h => absurd h hlt, fun _ => ⟨rfl, st1, hcp, hp⟩⟩

/-- `memccpy_s`, valid arguments, disjoint operands, the stop character absent from the `n` source bytes -/
theorem memccpy_s_absent (cfg : Cfg) (dest dmax src c n : Nat) (st : St)
    (hd : dest ≠ 0) (hs : src ≠ 0) (hpos : 0 < n) (hle : n ≤ dmax) (hmax : dmax ≤ RSIZE_MAX_MEM)
    (hw : RW st dest dmax) (hr : RD st src n) (ha1 : src + n < U64) (ha2 : dest + dmax < U64)
    (hno : ¬ ((src ≤ dest ∧ dest < src + n) ∨ (dest < src ∧ src < dest + dmax)))
    (hns : ∀ i, i < n → ((st.data (src+i) : Nat) : Int) ≠ asInt c) :
    ∃ code st', exec (memccpy_s cfg dest dmax src c n none none) st = .ok (code, st') ∧
      (n < dmax → code = EOK ∧ SameMeta st' st ∧
        (∀ i, i < n → st'.data (dest+i) = st.data (src+i)) ∧ st'.data (dest+n) = 0 ∧
        ∀ a, ¬ (dest ≤ a ∧ a ≤ dest + n) → st'.data a = st.data a) ∧
      (n = dmax → code = ESNOSPC ∧ ClearedPost cfg dest dmax ESNOSPC st st') := by
  rw [memccpy_s_eq_loop cfg dest dmax src c n hd hs hpos hle hmax ha1 ha2 hno]
  obtain ⟨code, st', he, hok, hfull⟩ := memccpyLoop_absent cfg (asInt c) dest dmax (Nat.lt_of_lt_of_le hpos hle) n dmax
    dest src st hle hw ⟨Nat.le_refl _, rfl⟩ hr (cells_ne_of_not_ovrlp hno) hns
  refine ⟨code, st', he, hok, fun h => ?_⟩
  obtain ⟨c1, s1, c2, c3⟩ := hfull h
  exact ⟨c1, c3.of_copied c2 (by omega)⟩

end SafeC
