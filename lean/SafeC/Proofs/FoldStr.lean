import SafeC.Proofs.FoldCount
import SafeC.Proofs.NormNFD
/-! C17: `wcsfc_s` (C locale: neither tr/az nor lt) as a per-cell function with one cell of look-ahead.  `fcCell cp nx` is what the
loop of `_wcsfc_s_chk` emits for the cell `cp` followed by `nx` (0 behind the end), `fcPure` the concatenation over the string. -/
namespace SafeC.Fold
open SafeC.Gen SafeC.Norm

/-- the five code points `wcsfc_s` copies unchanged when `iswfc` announces 0 -/
def fcSpecial (cp : Nat) : Bool := cp == 0x1cbb || cp == 0x1cbc || cp == 0x1057B || cp == 0x1058B || cp == 0x10593

/-- what `wcsfc_s` emits for the cell `cp` followed by the cell `nx` (`nx = 0`: end of the string).
`(towfcCore cp).2` are the cells `towfc_s` writes; by `fold_cells` there are exactly `iswfc cp` of them when `iswfc cp > 1`. -/
def fcCell (cp nx : Nat) : List Nat :=
  if iswfc cp > 1 then
    if 0x1f80 ≤ cp ∧ cp ≤ 0x1ff4 then (towfcCore cp).2.flatMap decompose1 else (towfcCore cp).2
  else if fcSpecial cp then [cp]
  else if cp = 0x3a3 then [if iswspace nx then 0x3c2 else 0x3c3]
  else if (towfcSingle cp).2 ≥ 0xc0 then decompose1 (towfcSingle cp).2 else [(towfcSingle cp).2]

/-- `wcsfc_s` without sizes -/
def fcPure : List Nat → List Nat
  | [] => []
  | cp :: rest => fcCell cp (rest.headD 0) ++ fcPure rest

/-- the cells for which the loop insists on 5 free cells (`goto too_small` otherwise): the single-character branch, and — with the
room check of `fixes/wcsfc-multichar-room-check.diff` (`fx.foldRoom`) — the multi-character branch as well -/
def needs5 (fx : Fixes) (cp : Nat) : Bool :=
  (decide (iswfc cp > 1) && fx.foldRoom) || (!decide (iswfc cp > 1) && !fcSpecial cp && cp != 0x3a3)

theorem tbl_cells16 : ((tbl2L ++ tbl3L).all fun e => e.2.all fun x => decide (x < 65536)) = true := by decide +kernel

/-- every entry of `tbl2` / `tbl3`: at most 4 cells, and at most 4 after each cell has been canonically decomposed (the bound is
attained: U+1F82 ⇒ 3B1 313 300 3B9) -/
theorem tbl_room4 :
    ((tbl2L ++ tbl3L).all fun e => decide (e.2.length ≤ 4) && decide ((e.2.flatMap decompose1).length ≤ 4)) = true := by
  decide +kernel

theorem special_iswfc : ([0x1cbb, 0x1cbc, 0x1057B, 0x1058B, 0x10593].all fun c => iswfc c == 0) = true := by decide +kernel

theorem hot_below : (hot.all fun r => decide (r.2 ≤ 0x10FFFF)) = true := by decide +kernel

theorem addSigned_mono (w v : Nat) {x y : Nat} (h : x ≤ y) : addSigned w x v ≤ addSigned w y v := by
  unfold addSigned; split <;> omega

/-- a hit of the range scans lies below `B` when the image of every range's last member does -/
theorem scanCasemaps_le {B wc r : Nat} : ∀ (l : List (Nat × Nat × Nat)),
    (∀ e ∈ l, e.1 + e.2.2 ≤ B ∧ addSigned 8 (e.1 + e.2.2 - 1) e.2.1 ≤ B) → scanCasemaps wc l = some r → r ≤ B
  | [], _, h => nomatch h
  | (up, lo, len) :: rest, hl, h => by
    obtain ⟨h1, h2⟩ : up + len ≤ B ∧ addSigned 8 (up + len - 1) lo ≤ B := hl _ List.mem_cons_self
    rw [scanCasemaps] at h
    split at h
    · next hin =>
      have := addSigned_mono 8 lo (show wc ≤ up + len - 1 by omega)
      split at h <;> cases h <;> omega
    · split at h
      · cases h
      · exact scanCasemaps_le rest (fun e he => hl e (List.mem_cons_of_mem _ he)) h

theorem scanCasemapsl_le {B wc r : Nat} : ∀ (l : List (Nat × Nat × Nat × Nat)),
    (∀ e ∈ l, e.1 + e.2.2.1 ≤ B ∧ addSigned 32 (e.1 + e.2.2.1 - 1) e.2.1 ≤ B) → scanCasemapsl wc l = some r → r ≤ B
  | [], _, h => nomatch h
  | (up, lo, len, brk) :: rest, hl, h => by
    obtain ⟨h1, h2⟩ : up + len ≤ B ∧ addSigned 32 (up + len - 1) lo ≤ B := hl _ List.mem_cons_self
    rw [scanCasemapsl] at h
    split at h
    · next hin =>
      have := addSigned_mono 32 lo (show wc ≤ up + len - 1 by omega)
      split at h <;> cases h <;> omega
    · split at h
      · cases h
      · exact scanCasemapsl_le rest (fun e he => hl e (List.mem_cons_of_mem _ he)) h

theorem scanPairs_le {B wc r : Nat} : ∀ (l : List (Nat × Nat)), (∀ e ∈ l, e.2 ≤ B) → scanPairs wc l = some r → r ≤ B
  | [], _, h => nomatch h
  | (up, lo) :: rest, hl, h => by
    rw [scanPairs] at h
    split at h
    · cases h; exact hl _ List.mem_cons_self
    · split at h
      · cases h
      · exact scanPairs_le rest (fun e he => hl e (List.mem_cons_of_mem _ he)) h

theorem tables_le :
    (casemapsL.all fun e => e.1 + e.2.2 ≤ 0x10FFFF ∧ addSigned 8 (e.1 + e.2.2 - 1) e.2.1 ≤ 0x10FFFF) = true ∧
    (pairsL.all fun e => e.2 ≤ 0x10FFFF) = true ∧
    (casemapslL.all fun e => e.1 + e.2.2.1 ≤ 0x10FFFF ∧ addSigned 32 (e.1 + e.2.2.1 - 1) e.2.1 ≤ 0x10FFFF) = true := by
  decide +kernel

/-- `_towcase(wc, 1)` maps code points to code points -/
theorem towlowerC_le (c : Nat) (h : c ≤ 0x10FFFF) : towlowerC c ≤ 0x10FFFF := by
  unfold towlowerC
  split
  · exact h
  split
  · split <;> omega
  split
  · next hs => exact scanCasemaps_le _ (fun e he => by simpa using List.all_eq_true.mp tables_le.1 e he) hs
  split
  · next hs => exact scanPairs_le _ (fun e he => by simpa using List.all_eq_true.mp tables_le.2.1 e he) hs
  split
  · next hs => exact scanCasemapsl_le _ (fun e he => by simpa using List.all_eq_true.mp tables_le.2.2 e he) hs
  · exact h

theorem ite_snd_le {α : Type} {c : Prop} [Decidable c] {a b : α × Nat} {B : Nat} (ha : a.2 ≤ B) (hb : b.2 ≤ B) :
    (if c then a else b).2 ≤ B := by
  split <;> assumption

/-- `_towfc_single` maps code points to code points: its own constants are code points, the rest is `_towcase` -/
theorem towfcSingle_le (c : Nat) (h : c ≤ 0x10FFFF) : (towfcSingle c).2 ≤ 0x10FFFF := by
  unfold towfcSingle
  extract_lets d single
  have hs : single.2 ≤ 0x10FFFF := by
    dsimp only [single, d]
    split
    · have := cell_lt 8 UniFold.tolower128 c; omega
    · exact towlowerC_le c h
  -- every leaf of the decision tree is `single`, a pair of constants, or `(0, c - k)`
  repeat' with_reducible apply ite_snd_le
  all_goals first | (dsimp only; omega) | exact hs

attribute [local irreducible] cell UniFold.tbl2 UniFold.tbl3 UniFold.casemaps UniFold.casemapsl UniFold.pairs UniFold.upIdx
  UniFold.upPages UniFold.space UniFold.tolower128
  UniCanon.main UniCanon.planes UniCanon.rows UniCanon.tbl1 UniCanon.tbl2 UniCanon.tbl3 UniCanon.tbl4

/-- in particular on the ranges of `hot` (outside `hotT` `_towfc_single` is the identity, `cold`):
what `wcsfc_s` hands to `_decomp_s` is a valid table index -/
theorem hot_single_le {r : Nat × Nat} (hr : r ∈ hot) {c : Nat} (hc : c ≤ r.2) : (towfcSingle c).2 ≤ 0x10FFFF :=
  towfcSingle_le c (Nat.le_trans hc (of_decide_eq_true (List.all_eq_true.mp hot_below r hr)))

theorem fcSpecial_iswfc {cp : Nat} (h : fcSpecial cp = true) : iswfc cp = 0 := by
  have h5 := special_iswfc
  simp only [List.all_cons, List.all_nil, Bool.and_true, Bool.and_eq_true, beq_iff_eq] at h5
  simp only [fcSpecial, Bool.or_eq_true, beq_iff_eq] at h
  rcases h with (((h | h) | h) | h) | h <;> subst h
  · exact h5.1
  · exact h5.2.1
  · exact h5.2.2.1
  · exact h5.2.2.2.1
  · exact h5.2.2.2.2

theorem towfcCore_len {cp : Nat} (h : 1 < iswfc cp) : (towfcCore cp).2.length = iswfc cp := by rw [fold_cells]; omega

theorem towfcCore_multi_mem {cp : Nat} (h : 1 < iswfc cp) : ¬ (towfcCore cp).1 < 0 ∧ (cp, (towfcCore cp).2) ∈ tbl2L ++ tbl3L := by
  have hl := towfcCore_len h
  have h128 : ¬ cp < 128 := by
    intro h128
    simp only [towfcCore, h128, if_true, List.length_singleton] at hl
    omega
  cases h2 : scanTbl cp tbl2L with
  | some l =>
    have e : towfcCore cp = (2, l) := by simp only [towfcCore, h128, if_false, h2]
    rw [e]
    exact ⟨by simp, List.mem_append_left _ (scanTbl_mem _ _ _ h2)⟩
  | none =>
    cases h3 : scanTbl cp tbl3L with
    | some l =>
      have e : towfcCore cp = (3, l) := by simp only [towfcCore, h128, if_false, h2, h3]
      rw [e]
      exact ⟨by simp, List.mem_append_right _ (scanTbl_mem _ _ _ h3)⟩
    | none =>
      simp only [towfcCore, h128, if_false, h2, h3, List.length_singleton] at hl
      omega

theorem towfcCore_multi {cp : Nat} (h : 1 < iswfc cp) :
    ¬ (towfcCore cp).1 < 0 ∧ (towfcCore cp).2.take (iswfc cp) = (towfcCore cp).2 ∧ ∀ x ∈ (towfcCore cp).2, x < 65536 := by
  obtain ⟨m1, hmem⟩ := towfcCore_multi_mem h
  refine ⟨m1, ?_, fun x hx => ?_⟩
  · rw [← towfcCore_len h]; exact List.take_length
  · simpa using List.all_eq_true.mp (List.all_eq_true.mp tbl_cells16 _ hmem) x hx

theorem decompose1_ne_nil (cp : Nat) : decompose1 cp ≠ [] := by
  unfold decompose1
  split
  · exact decompHangul_ne_nil cp
  · split <;> simp

theorem map_some_no_none {α : Type} (f : Nat → α) (l : List Nat) : (l.map fun x => some (f x)).any Option.isNone = false := by
  induction l with
  | nil => rfl
  | cons a l ih => simp

theorem map_some_flatten (f : Nat → List Nat) (l : List Nat) : ((l.map fun x => some (f x)).filterMap id).flatten = l.flatMap f := by
  induction l with
  | nil => rfl
  | cons a l ih => simp [List.flatMap]

def contOk (w : List Nat) : Step → Step
  | .ok out d => .ok (w ++ out) d
  | r => r

theorem current_rangeChk : current.rangeChk = true := rfl

theorem fcCell_multi_len {cp : Nat} (h : 1 < iswfc cp) (nx : Nat) : 0 < (fcCell cp nx).length ∧ (fcCell cp nx).length ≤ 4 := by
  have hl := towfcCore_len h
  have hb : (towfcCore cp).2.length ≤ 4 ∧ ((towfcCore cp).2.flatMap decompose1).length ≤ 4 := by
    simpa using List.all_eq_true.mp tbl_room4 _ (towfcCore_multi_mem h).2
  have := length_le_flatMap decompose1_ne_nil (towfcCore cp).2
  simp only [fcCell, h, if_true]
  split <;> omega

/-- one iteration of the loop of `_wcsfc_s_chk`, in terms of `fcCell` — without (`fx.foldRoom = false`) and with the room check -/
theorem fcLoop_cons (fx : Fixes) (hfx : fx.rangeChk = true) (cp : Nat) (rest : List Nat) (dmax : Nat) (h0 : cp ≠ 0) (hd : dmax ≠ 0)
    (hm : cp ≤ 0x10FFFF) :
    fcLoop fx (cp :: rest) dmax =
      if needs5 fx cp = true ∧ dmax < 5 then .fail ESNOSPC 2
      else if dmax < (fcCell cp (rest.headD 0)).length then .overrun
      else contOk (fcCell cp (rest.headD 0)) (fcLoop fx rest (dmax - (fcCell cp (rest.headD 0)).length)) := by
  have hmax : ¬ UniCompos.unicodeMax < cp := by rw [unicodeMax_eq]; omega
  rw [fcLoop]
  simp only [h0, hd, if_false, hfx, hmax, decide_false, Bool.and_false, Bool.false_eq_true]
  by_cases hc : iswfc cp > 1
  · obtain ⟨m1, m2, m3⟩ := towfcCore_multi hc
    by_cases hroom : fx.foldRoom = true ∧ dmax < 5
    · have hn : needs5 fx cp = true := by simp [needs5, hc, hroom.1]
      simp only [hc, if_true, hroom.1, hroom.2, decide_true, Bool.and_self, hn, and_self]
    · have hg : (fx.foldRoom && decide (dmax < 5)) = false := by
        cases hf : fx.foldRoom
        · rfl
        · simp only [Bool.true_and, decide_eq_false_iff_not]; exact fun h5 => hroom ⟨hf, h5⟩
      have hn : ¬ (needs5 fx cp = true ∧ dmax < 5) := by
        intro hh
        apply hroom
        refine ⟨?_, hh.2⟩
        have := hh.1
        simpa [needs5, hc] using this
      simp only [hc, if_true, hg, Bool.false_eq_true, if_false, m1, m2, hn]
      by_cases hr : 0x1f80 ≤ cp ∧ cp ≤ 0x1ff4
      · simp only [hr, and_self, if_true, fcCell, hc]
        rw [List.map_congr_left (g := fun x => some (decompose1 x)), map_some_no_none, map_some_flatten]
        · rfl
        · intro x hx
          have hx16 := m3 x hx
          obtain ⟨l, hl, hw, _⟩ := decompS_eq (dmax := 8) (cp := x) (by rw [unicodeMax_eq]; omega) (decompS_ne_err (by omega))
          rw [hl]
          cases l with
          | nil => simpa using hw
          | cons a b => simpa using hw
      · simp only [hr, if_false, fcCell, hc, if_true]
        rfl
  · simp only [hc, if_false]
    by_cases hs : fcSpecial cp = true
    · have hz := fcSpecial_iswfc hs
      have hn : needs5 fx cp = false := by simp [needs5, hs, hc]
      have hdis : cp = 0x1cbb ∨ cp = 0x1cbc ∨ cp = 0x1057B ∨ cp = 0x1058B ∨ cp = 0x10593 := by
        simpa [fcSpecial, or_assoc] using hs
      simp only [hz, hdis, and_self, if_true, hn, Bool.false_eq_true, false_and, if_false, fcCell, hs]
      rfl
    · have hdis : ¬ (cp = 0x1cbb ∨ cp = 0x1cbc ∨ cp = 0x1057B ∨ cp = 0x1058B ∨ cp = 0x10593) := by
        simpa [fcSpecial, or_assoc] using hs
      simp only [hdis, and_false, if_false]
      by_cases h3 : cp = 0x3a3
      · subst h3
        have hn : needs5 fx 0x3a3 = false := by simp [needs5, hc]
        simp only [if_true, hn, Bool.false_eq_true, false_and, if_false, fcCell, hc, hs]
        rfl
      · have hn : needs5 fx cp = true := by simp [needs5, hc, hs, h3]
        simp only [h3, hn, true_and, if_false, fcCell, hc, hs, Bool.false_eq_true]
        have ht := towfcSingle_le cp hm
        have hmod : (towfcSingle cp).2 % 2 ^ 32 = (towfcSingle cp).2 := Nat.mod_eq_of_lt (by omega)
        rw [hmod]
        by_cases h5 : dmax < 5
        · simp only [h5, if_true]
        · simp only [h5, if_false]
          generalize (towfcSingle cp).2 = t at ht ⊢
          by_cases hge : t ≥ 192
          · have h31 : t < 2 ^ 31 := by omega
            simp only [hge, h31, and_self, if_true]
            obtain ⟨l, hl, hw, _⟩ := decompS_eq (dmax := dmax) (cp := t) (by rw [unicodeMax_eq]; exact ht)
              (decompS_ne_err (by omega))
            rw [hl, ← hw]
            cases l with
            | nil => simp only [List.isEmpty_nil, if_true]; rfl
            | cons a b => simp only [List.isEmpty_cons, Bool.false_eq_true, if_false]; rfl
          · simp only [hge, false_and, if_false]; rfl

theorem fcLoop_big (fx : Fixes) (hfx : fx.rangeChk = true) (cp : Nat) (rest : List Nat) (dmax : Nat) (h0 : cp ≠ 0) (hd : dmax ≠ 0)
    (hm : 0x10FFFF < cp) : fcLoop fx (cp :: rest) dmax = .fail ESLEMAX 0 := by
  have hmax : UniCompos.unicodeMax < cp := by rw [unicodeMax_eq]; omega
  rw [fcLoop]
  simp [h0, hd, hfx, hmax]

theorem fcLoop_zero (fx : Fixes) (cp : Nat) (rest : List Nat) (h0 : cp ≠ 0) : fcLoop fx (cp :: rest) 0 = .ok [] 0 := by
  rw [fcLoop]
  simp [h0]

theorem fcCell_len {cp : Nat} (nx : Nat) (hm : cp ≤ 0x10FFFF) : 0 < (fcCell cp nx).length ∧ (fcCell cp nx).length ≤ 4 := by
  by_cases hc : iswfc cp > 1
  · exact fcCell_multi_len hc nx
  · simp only [fcCell, hc, if_false]
    split
    · simp
    · split
      · simp
      · split
        · refine ⟨List.length_pos_iff.mpr (decompose1_ne_nil _), ?_⟩
          have ht := towfcSingle_le cp hm
          obtain ⟨l, _, _, hlt⟩ := decompS_eq (dmax := 5) (cp := (towfcSingle cp).2) (by rw [unicodeMax_eq]; exact ht)
            (decompS_ne_err (by omega))
          omega
        · simp

/-- a cell for which the loop does not ask for 5 free cells although the room check is in: one of the five, or the sigma — one cell -/
theorem fcCell_len_one {fx : Fixes} {cp : Nat} (nx : Nat) (hf : fx.foldRoom = true) (h : needs5 fx cp = false) :
    (fcCell cp nx).length = 1 := by
  simp only [needs5, hf, Bool.and_true, Bool.or_eq_false_iff, decide_eq_false_iff_not, Bool.and_eq_false_iff,
    Bool.not_eq_eq_eq_not, Bool.not_false, decide_eq_true_eq, bne_eq_false_iff_eq] at h
  obtain ⟨h1, h2⟩ := h
  simp only [fcCell, h1, if_false]
  rcases h2 with (h2 | h2) | h2
  · exact absurd h2 h1
  · simp [h2]
  · split
    · simp
    · simp

/-- what the loop of `_wcsfc_s_chk` can end in (range check in; without and with the room check; any string without embedded
terminator, any `dmax`), each outcome with the condition it needs (success and ESNOSPC overlap on a margin of four cells): success with room left means `fcPure`; the two ways it fails; no
table index out of bounds; a write behind `dest + dmax` only when the result does not fit and the room check is absent -/
def FcPost (fx : Fixes) (src : List Nat) (dmax : Nat) : Step → Prop
  | .ok out d => (d = 0 → dmax ≤ (fcPure src).length) ∧
      (0 < d → out = fcPure src ∧ d + out.length = dmax ∧ ∀ c ∈ src, c ≤ 0x10FFFF)
  | .fail r l => (r = ESLEMAX ∧ l = 0 ∧ ∃ c ∈ src, 0x10FFFF < c) ∨ (r = ESNOSPC ∧ l = 2 ∧ dmax < (fcPure src).length + 4)
  | .oob => False
  | .overrun => dmax < (fcPure src).length ∧ fx.foldRoom = false

theorem FcPost.cont {fx : Fixes} {cp : Nat} {rest : List Nat} {dmax : Nat} {s : Step} (hle : cp ≤ 0x10FFFF)
    (hlen : (fcCell cp (rest.headD 0)).length ≤ dmax)
    (h : FcPost fx rest (dmax - (fcCell cp (rest.headD 0)).length) s) :
    FcPost fx (cp :: rest) dmax (contOk (fcCell cp (rest.headD 0)) s) := by
  have hpure : fcPure (cp :: rest) = fcCell cp (rest.headD 0) ++ fcPure rest := rfl
  generalize fcCell cp (rest.headD 0) = w at *
  cases s with
  | ok out d =>
    refine ⟨fun hd => ?_, fun hd => ?_⟩
    · have := h.1 hd; rw [hpure, List.length_append]; omega
    · obtain ⟨e1, e2, e3⟩ := h.2 hd
      refine ⟨by rw [hpure, e1], by rw [List.length_append]; omega, ?_⟩
      intro c hc
      rcases List.mem_cons.1 hc with rfl | hc
      · exact hle
      · exact e3 c hc
  | fail r l =>
    rcases h with ⟨a, b, c, hc, hlt⟩ | ⟨a, b, hlt⟩
    · exact .inl ⟨a, b, c, List.mem_cons_of_mem _ hc, hlt⟩
    · exact .inr ⟨a, b, by rw [hpure, List.length_append]; omega⟩
  | oob => exact h
  | overrun => have := h.1; exact ⟨by rw [hpure, List.length_append]; omega, h.2⟩

theorem fcLoop_spec (fx : Fixes) (hfx : fx.rangeChk = true) : ∀ (src : List Nat) (dmax : Nat), (∀ c ∈ src, c ≠ 0) →
    FcPost fx src dmax (fcLoop fx src dmax)
  | [], dmax, _ => by
    rw [fcLoop]; exact ⟨fun h => by omega, fun _ => ⟨rfl, by simp, nofun⟩⟩
  | cp :: rest, dmax, h0 => by
    have hcp0 : cp ≠ 0 := h0 cp List.mem_cons_self
    by_cases hd : dmax = 0
    · subst hd; rw [fcLoop_zero fx cp rest hcp0]; exact ⟨fun _ => Nat.zero_le _, fun h => absurd h (by omega)⟩
    by_cases hm : 0x10FFFF < cp
    · rw [fcLoop_big fx hfx cp rest dmax hcp0 hd hm]; exact .inl ⟨rfl, rfl, cp, List.mem_cons_self, hm⟩
    have hle : cp ≤ 0x10FFFF := by omega
    have hlen := fcCell_len (cp := cp) (rest.headD 0) hle
    rw [fcLoop_cons fx hfx cp rest dmax hcp0 hd hle]
    split
    · next h5 => exact .inr ⟨rfl, rfl, by rw [fcPure, List.length_append]; omega⟩
    split
    · next h5 hov =>
      refine ⟨by rw [fcPure, List.length_append]; omega, ?_⟩
      -- with the room check this case does not exist: a cell not asked 5 cells for is one cell
      cases hf : fx.foldRoom with
      | false => rfl
      | true =>
        cases hn : needs5 fx cp with
        | false => have := fcCell_len_one (rest.headD 0) hf hn; omega
        | true => exact absurd ⟨hn, by omega⟩ h5
    · next hov => exact FcPost.cont hle (by omega) (fcLoop_spec fx hfx rest _ fun c hc => h0 c (List.mem_cons_of_mem _ hc))

/-- the match of `wcsfcS` behind the two entry tests, by outcome of the loop -/
theorem wcsfcS_of_loop (fx : Fixes) {dmax : Nat} (src : List Nat) (hd : dmax ≠ 0) (hmax : dmax ≤ RSIZE_MAX_WSTR) :
    wcsfcS fx dmax src = match fcLoop fx src dmax with
      | .ok out d => if d = 0 then ⟨ESNOSPC, dmax, [], false, false⟩ else ⟨0, dmax - d, out, false, false⟩
      | .fail r l => ⟨if l = 1 then -(r : Int) else r, 0, [], false, false⟩
      | .oob => ⟨0, 0, [], true, false⟩
      | .overrun => ⟨0, 0, [], false, true⟩ := by
  rw [wcsfcS, if_neg hd, if_neg (by omega)]
  split <;> simp_all

/-- what a call of `wcsfc_s` can do (any string without embedded terminator, any `dmax`): five outcomes, each with a condition
that is necessary for it (`nospc` and `ok` overlap on `len < dmax < len + 4`).  `wcsnorm_s` is described the same way (`NormCall`); the statements about either function are readings of its table. -/
inductive FcCall (fx : Fixes) (src : List Nat) (dmax : Nat) : Res → Prop
  | zero : dmax = 0 → FcCall fx src dmax ⟨ESZEROL, 0, [], false, false⟩
  | big : (RSIZE_MAX_WSTR < dmax ∨ ∃ c ∈ src, 0x10FFFF < c) → FcCall fx src dmax ⟨ESLEMAX, 0, [], false, false⟩
  | nospc (l : Nat) : dmax < (fcPure src).length + 4 → FcCall fx src dmax ⟨ESNOSPC, l, [], false, false⟩
  | ok : (fcPure src).length < dmax → dmax ≤ RSIZE_MAX_WSTR → (∀ c ∈ src, c ≤ 0x10FFFF) →
      FcCall fx src dmax ⟨0, (fcPure src).length, fcPure src, false, false⟩
  | overrun : dmax < (fcPure src).length → fx.foldRoom = false → FcCall fx src dmax ⟨0, 0, [], false, true⟩

theorem wcsfcS_call (fx : Fixes) (hfx : fx.rangeChk = true) (dmax : Nat) (src : List Nat) (h0 : ∀ c ∈ src, c ≠ 0) :
    FcCall fx src dmax (wcsfcS fx dmax src) := by
  by_cases hd : dmax = 0
  · rw [wcsfcS, if_pos hd]; exact .zero hd
  by_cases hmax : dmax > RSIZE_MAX_WSTR
  · rw [wcsfcS, if_neg hd, if_pos hmax]; exact .big (.inl hmax)
  have hp := fcLoop_spec fx hfx src dmax h0
  rw [wcsfcS_of_loop fx src hd (by omega)]
  cases hr : fcLoop fx src dmax with rw [hr] at hp
  | ok out d =>
    dsimp only
    split
    · next h => exact .nospc _ (by have := hp.1 h; omega)
    · next h =>
      obtain ⟨rfl, e2, e3⟩ := hp.2 (by omega)
      rw [show dmax - d = (fcPure src).length by omega]
      exact .ok (by omega) (by omega) e3
  | fail r l =>
    rcases hp with ⟨rfl, rfl, hc⟩ | ⟨rfl, rfl, hlt⟩
    · exact .big (.inr hc)
    · exact .nospc _ hlt
  | oob => exact hp.elim
  | overrun => exact .overrun hp.1 hp.2

end SafeC.Fold
