import SafeC.Proofs.SortBits
import SafeC.Proofs.SortSafe
/-!
# qsort_s model: what happens when two consecutive tree orders are exactly 64 apart

Code WITHOUT the `pntz` repair (`Fixes.pntzGap = false`): `pntz` answers 0 for `p = {1, odd}` (`pntz_at64`).  In `trinkle` the shift by 0 leaves `p = {1,1}`, `pshift = 1` unchanged, so
the loop keeps stepping to `head - lp[1] = head - 1` and never sees `p == {1,0}`; it stops only when the comparator lets it.
With a comparator that keeps answering "greater" (the new element is smaller than what it meets) `ar[]` is overrun after
its 113 entries: `Fault.arIdx`, a stack buffer overflow in the C.  The state `p = {1,1}`, `pshift = 1` is the forest of
orders 1 and 65 (Props/C16 `qsort_safe_witness`), i.e. an array of at least `leo 65 + 1` = 55 555 780 070 576 elements.
-/
namespace SafeC.Sort
variable {α : Type}

theorem trinkleIter_const (e : Env α) (hcmp : ∀ k i j x y, e.cmp k i j x y = 1) (hlp1 : e.lp[1]? = some 1) (s : St α)
    (ar0 head : Nat) (trusty : Bool) (h0 : ar0 < s.a.size) (hh : head < s.a.size) (h1 : 1 ≤ head) :
    ∃ s', trinkleIter e s ar0 head 1 trusty = .ok (s', some (head - 1)) ∧ s'.a = s.a := by
  have hs : head - 1 < s.a.size := by omega
  have e0 : lpAt e.lp 1 = .ok 1 := by unfold lpAt; simp only [hlp1]
  have e1 : sub head 1 = .ok (head - 1) := by unfold sub; simp only [h1, if_true]
  have e2 := cmpAt_eq e s hs h0
  rw [hcmp] at e2
  refine ⟨s.cmped e (head - 1) ar0, ?_, rfl⟩
  unfold trinkleIter
  simp only [e0, e1, e2, bind, Except.bind, pure, Except.pure]
  simp

theorem trinkleLoop_gap64 (e : Env α) (hfx : e.fx.ctz64 = true) (hgap : e.fx.pntzGap = false) (hcmp : ∀ k i j x y, e.cmp k i j x y = 1)
    (hlp1 : e.lp[1]? = some 1) (ar0 : Nat) : ∀ (room : Nat) (s : St α) (head : Nat) (trusty : Bool) (acc : List Nat),
    ar0 < s.a.size → head < s.a.size → room + 1 ≤ head →
    trinkleLoop e room s ar0 head ⟨1, 1⟩ 1 trusty acc = .error .arIdx := by
  have hne : (⟨1, 1⟩ : PV) ≠ PV.one := by decide
  have hp : pntz e.fx ⟨1, 1⟩ = 0 := pntz_at64 e.fx hfx hgap ⟨1, 1⟩ (by decide) (by decide) one_one_low
  have hshr : shr ⟨1, 1⟩ 0 = ⟨1, 1⟩ := by decide
  intro room
  induction room with
  | zero =>
    intro s head trusty acc h0 hh hr
    obtain ⟨s', hs', _⟩ := trinkleIter_const e hcmp hlp1 s ar0 head trusty h0 hh (by omega)
    unfold trinkleLoop
    simp only [hne, if_false, hs', bind, Except.bind]
  | succ room ih =>
    intro s head trusty acc h0 hh hr
    obtain ⟨s', hs', ha'⟩ := trinkleIter_const e hcmp hlp1 s ar0 head trusty h0 hh (by omega)
    unfold trinkleLoop
    simp only [hne, if_false, hs', bind, Except.bind, hp, hshr, Nat.add_zero]
    exact ih s' (head - 1) false ((head - 1) :: acc) (by rw [ha']; exact h0) (by rw [ha']; omega) (by omega)

end SafeC.Sort
