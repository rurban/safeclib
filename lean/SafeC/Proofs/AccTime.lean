import SafeC.Proofs.AccCopyEntry
import SafeC.Proofs.AccOs
import SafeC.Models.Time
/-!
# Footprint of `asctime_s` / `ctime_s`: the argument checks, and the tail for ANY text

The argument checks are value-independent (`*tm` / `*timer`, dest on the clearing exits); what follows them (`timeTail`) is a
parameter of `asctime_s_accs` / `ctime_s_accs`, asked for every contents that differ from those at the call inside `W` only.
`timeTail_any`: when every cell may be loaded the tail stores inside dest whatever libc's text is (unterminated, overlapping
dest) — what C01 needs.  The tail's exact footprint for a terminated text apart from dest is in `FootprintTime.lean`.
-/
namespace SafeC
open Gen

variable {R W : Nat → Prop} {d : Nat → Nat}

theorem Acc_anyField (tm : Nat) (l : List (Nat × (Int → Bool))) (hr : ∀ x ∈ l, R (tm + x.1)) :
    Acc R W (anyField tm l) (fun _ => True) := by
  induction l with
  | nil => exact Acc.pure _ trivial
  | cons x rest ih =>
    obtain ⟨i, p⟩ := x
    exact Acc.loadBind (hr (i, p) List.mem_cons_self) fun v => Acc.ite (fun _ => Acc.pure _ trivial) fun _ =>
      ih (fun y hy => hr y (List.mem_cons_of_mem _ hy))

theorem Acc_failClr (cfg : Cfg) (dest dmax code : Nat) (hw : ∀ a, Cells dest dmax a → W a) (h0 : W dest) :
    Acc R W (failClr cfg dest dmax code) (fun _ => True) := by
  unfold failClr
  exact Acc.thenPure (Acc_handleError cfg dest dmax code hw h0)

theorem AccS.of_Acc_frame {α} {p : Prog α} (h : Acc R W p (fun _ => True)) (d : Nat → Nat) :
    AccS R W d p (fun _ d' => ∀ a, ¬ W a → d' a = d a) :=
  (AccS.of_Acc h d).frame.conseq fun _ _ h => h.2

theorem AccS_timeEntry (dest dmax : Nat) (db : Bos) (k : Prog Nat)
    (hw0 : dest ≠ 0 → 0 < dmax → W dest) (hk : dest ≠ 0 → 26 ≤ dmax → AccS R W d k (fun _ _ => True)) :
    AccS R W d (timeEntry dest dmax db k) (fun _ _ => True) := by
  refine AccS.ite (fun _ => AccS_failS _ trivial) fun hd => AccS.ite (fun _ => ?_) fun h26 => ?_
  · exact AccS.of_Acc (Q := fun _ => True) (Acc.bind (Q := fun _ => True)
      (Acc.ite (fun hp => Acc.storeP _ _ (hw0 hd hp)) fun _ => Acc.pure _ trivial) (fun _ _ => Acc_failS _ trivial)) d
  exact AccS.bos (fun _ => AccS.ite (fun _ => AccS_failS _ trivial) fun _ => hk hd (by omega))
    (fun _ _ => AccS.ite (fun _ => AccS.ite (fun _ => AccS_failS _ trivial) fun _ => AccS_failS _ trivial) fun _ =>
      AccS.ite (fun _ => AccS_failS _ trivial) fun _ => hk hd (by omega))

/-- **asctime_s**: the checks read the twelve cells of `*tm`, the clearing exits store to dest -/
theorem asctime_s_accs (cfg : Cfg) (dest dmax tm : Nat) (db : Bos) (text : Nat)
    (hw : dest ≠ 0 → ∀ a, Cells dest dmax a → W a) (hr : tm ≠ 0 → ∀ a, Cells tm 12 a → R a)
    (htail : dest ≠ 0 → 26 ≤ dmax → tm ≠ 0 → ∀ d', (∀ a, ¬ W a → d' a = d a) →
      AccS R W d' (timeTail cfg dest dmax db text) (fun _ _ => True)) :
    AccS R W d (asctime_s cfg dest dmax tm db text) (fun _ _ => True) := by
  refine AccS_timeEntry dest dmax db _ (fun hd hp => hw hd dest ⟨Nat.le_refl _, by omega⟩) (fun hd h26 => ?_)
  have hw' := hw hd
  have h0 : W dest := hw' dest ⟨Nat.le_refl _, by omega⟩
  have clr : ∀ c d', AccS R W d' (failClr cfg dest dmax c) (fun _ _ => True) :=
    fun c d' => AccS.of_Acc (Acc_failClr cfg dest dmax c hw' h0) d'
  refine AccS.ite (fun _ => clr _ _) fun htm => ?_
  have hr' := hr htm
  have hfld : ∀ l : List (Nat × (Int → Bool)), (∀ x ∈ l, x.1 < 12) → Acc R W (anyField tm l) (fun _ => True) :=
    fun l hl => Acc_anyField tm l (fun x hx => hr' _ ⟨by omega, by have := hl x hx; omega⟩)
  have hoff : ∀ (c : Bool) (g : Nat → Nat → Bool),
      Acc R W (if c then pure true else do let lo ← load (tm + 10); let hi ← load (tm + 11); pure (g lo hi) : Prog Bool)
        (fun _ => True) := fun c g =>
    Acc.ite (fun _ => Acc.pure _ trivial) fun _ => Acc.loadBind (hr' _ ⟨by omega, by omega⟩)
      (fun _ => Acc.loadBind (hr' _ ⟨by omega, by omega⟩) (fun _ => Acc.pure _ trivial))
  refine AccS.bind (AccS.of_Acc_frame (hfld _ (by decide)) d) (fun small d1 h1 => ?_)
  refine AccS.bind (AccS.of_Acc_frame (hoff small _) d1) (fun small' d2 h2 => ?_)
  refine AccS.ite (fun _ => clr _ _) fun _ => ?_
  refine AccS.bind (AccS.of_Acc_frame (hfld _ (by decide)) d2) (fun big d3 h3 => ?_)
  refine AccS.bind (AccS.of_Acc_frame (hoff big _) d3) (fun big' d4 h4 => ?_)
  exact AccS.ite (fun _ => clr _ _) fun _ =>
    htail hd h26 htm d4 (fun a ha => by rw [h4 a ha, h3 a ha, h2 a ha, h1 a ha])

/-- **ctime_s**, any `libcFails`: the checks read `*timer` (twice), the clearing exits store to dest -/
theorem ctime_s_accs (cfg : Cfg) (dest dmax timer : Nat) (db : Bos) (text : Nat) (lf : Bool)
    (hw : dest ≠ 0 → ∀ a, Cells dest dmax a → W a) (hr : timer ≠ 0 → R timer)
    (htail : dest ≠ 0 → 26 ≤ dmax → timer ≠ 0 → ∀ d', (∀ a, ¬ W a → d' a = d a) →
      AccS R W d' (timeTail cfg dest dmax db text lf) (fun _ _ => True)) :
    AccS R W d (ctime_s cfg dest dmax timer db text lf) (fun _ _ => True) := by
  refine AccS_timeEntry dest dmax db _ (fun hd hp => hw hd dest ⟨Nat.le_refl _, by omega⟩) (fun hd h26 => ?_)
  have hw' := hw hd
  have h0 : W dest := hw' dest ⟨Nat.le_refl _, by omega⟩
  have clr : ∀ c d', AccS R W d' (failClr cfg dest dmax c) (fun _ _ => True) :=
    fun c d' => AccS.of_Acc (Acc_failClr cfg dest dmax c hw' h0) d'
  refine AccS.ite (fun _ => clr _ _) fun htm => ?_
  refine AccS.bind (AccS.of_Acc_frame (Acc.loadP timer (hr htm)) d) (fun t d1 h1 => ?_)
  refine AccS.ite (fun _ => clr _ _) fun _ => ?_
  refine AccS.bind (AccS.of_Acc_frame (Acc.loadP timer (hr htm)) d1) (fun t2 d2 h2 => ?_)
  exact AccS.ite (fun _ => clr _ _) fun _ => htail hd h26 htm d2 (fun a ha => by rw [h2 a ha, h1 a ha])

/-- libc's `asctime_r` / `ctime_r` writing at most `fuel` bytes at `dst`, whatever it reads -/
theorem Acc_copyText (fuel text dst : Nat) (hr : ∀ a, R a) (hw : ∀ a, Cells dst fuel a → W a) :
    Acc R W (copyText fuel text dst) (fun _ => True) := by
  induction fuel generalizing text dst with
  | zero => exact Acc.pure _ trivial
  | succ f ih =>
    exact Acc.loadBind (hr _) fun c => Acc.storeBind (hw _ ⟨Nat.le_refl _, by omega⟩) <|
      Acc.ite (fun _ => Acc.pure _ trivial) fun _ => ih (text+1) (dst+1) (fun a ha => hw a ha.within)

/-- **the tail, any text** (terminated or not, anywhere, libc succeeding or giving up): stores inside dest -/
theorem timeTail_any (cfg : Cfg) (dest dmax : Nat) (db : Bos) (text : Nat) (lf : Bool) (h26 : 26 ≤ dmax)
    (hr : ∀ a, R a) (hw : ∀ a, Cells dest dmax a → W a) :
    AccS R W d (timeTail cfg dest dmax db text lf) (fun _ _ => True) := by
  have h0 : W dest := hw dest ⟨Nat.le_refl _, by omega⟩
  have cp : 120 ≤ dmax → ∀ d', AccS R W d' (copyText 120 text dest) (fun _ _ => True) :=
    fun h d' => AccS.of_Acc (Acc_copyText 120 text dest hr (fun a ha => hw a ha.within)) d'
  have len : ∀ s d', AccS R W d' (strlenP scanFuel s 0) (fun _ _ => True) :=
    fun s d' => (AccS_strlenP scanFuel s 0 (fun a _ => hr a)).conseq fun _ _ _ => trivial
  have cpy : ∀ s b d', AccS R W d' (do let _ ← strcpy_s cfg dest dmax s b; pure EOK : Prog Nat) (fun _ _ => True) :=
    fun s b d' => AccS.thenPure (strcpyG_accs _ cfg dest dmax s b (fun _ a _ => hr a) (fun _ a _ => hr a) (fun _ => hw))
  unfold timeTail
  extract_lets nospc
  have hn : ∀ d', AccS R W d' nospc (fun _ _ => True) := fun d' => AccS.handlerSBind _ (AccS.pure _ trivial)
  refine AccS.ite (fun _ => ?_) fun _ => AccS.ite (fun h120 => ?_) fun _ => ?_
  · refine AccS.bind (Q := fun _ _ => True) (AccS.ite (fun h => cp h.2 _) fun _ => AccS.pure _ trivial) (fun _ d' _ => ?_)
    exact AccS.bind (Q := fun _ _ => True) (AccS.ite (fun _ => AccS_memsetP 0 dmax dest hw)
      fun _ => AccS.storeBind h0 (AccS.pure _ trivial)) (fun _ _ _ => AccS.pure _ trivial)
  · exact AccS.bind (cp h120 _) fun _ d' _ => AccS.bind (len dest d') fun l d'' _ =>
      AccS.ite (fun _ => cpy dest db d'') fun _ => hn d''
  · exact AccS.bind (len text _) fun l d' _ => AccS.ite (fun _ => cpy text none d') fun _ => hn d'

end SafeC
