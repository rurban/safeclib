import SafeC.Models.Norm
/-!
# Sweeping a packed table: `allBelow f n` is the Boolean `f 0 && … && f (n-1)` that `decide +kernel` evaluates, `allBelow_spec` lifts it to
`∀ i < n`; cells and 256-cell rows of a packed literal; range lists as a Boolean function and as one number

`maskOf rs` has bit `c` set iff a range of `rs` holds `c`.  The kernel evaluates the mask once and remembers it, so a membership
test inside a sweep is one `testBit` instead of a walk along the list, and a fact about a whole page of a bitmap (`page`) is one
comparison of 256-bit numbers.
-/
namespace SafeC.Norm

def allBelow (f : Nat → Bool) : Nat → Bool
  | 0 => true
  | n + 1 => f n && allBelow f n

theorem allBelow_spec {f : Nat → Bool} {n : Nat} (h : allBelow f n = true) : ∀ i, i < n → f i = true := by
  induction n with
  | zero => intro i hi; omega
  | succ n ih =>
    simp only [allBelow, Bool.and_eq_true] at h
    intro i hi
    by_cases hin : i = n
    · subst hin; exact h.1
    · exact ih h.2 i (by omega)

theorem allBelow_of {f : Nat → Bool} : ∀ {n : Nat}, (∀ i, i < n → f i = true) → allBelow f n = true
  | 0, _ => rfl
  | n + 1, h => by
    rw [allBelow, h n (Nat.lt_succ_self n), allBelow_of fun i hi => h i (Nat.lt_succ_of_lt hi)]
    rfl

theorem cell_eq_zero_of_ge {w data n i : Nat} (hd : data < 2 ^ (w * n)) (hi : n ≤ i) : cell w data i = 0 := by
  unfold cell
  have h1 : 2 ^ (w * n) ≤ 2 ^ (w * i) := Nat.pow_le_pow_right (by omega) (Nat.mul_le_mul_left w hi)
  rw [Nat.shiftRight_eq_div_pow, Nat.div_eq_of_lt (by omega)]
  simp

theorem cell_lt (w data i : Nat) : cell w data i < 2 ^ w := by
  unfold cell
  exact Nat.mod_lt _ (Nat.two_pow_pos w)

/-- `rs.any fun r => r.1 ≤ c && c ≤ r.2` on `Nat.ble`, which the kernel evaluates several times faster than the `Decidable`
instances behind `≤` -/
def inRangesF : List (Nat × Nat) → Nat → Bool
  | [], _ => false
  | r :: rest, c => (Nat.ble r.1 c && Nat.ble c r.2) || inRangesF rest c

theorem inRangesF_eq (rs : List (Nat × Nat)) (c : Nat) : inRangesF rs c = rs.any fun r => r.1 ≤ c && c ≤ r.2 := by
  have e : ∀ a b, Nat.ble a b = decide (a ≤ b) := fun a b => by rw [Bool.eq_iff_iff]; simp [Nat.ble_eq]
  induction rs with
  | nil => rfl
  | cons r rest ih => rw [inRangesF, ih, List.any_cons, e, e]

theorem isExcl_eq (c : Nat) : isExcl c = inRangesF exclRanges c := (inRangesF_eq exclRanges c).symm

def maskOf : List (Nat × Nat) → Nat
  | [] => 0
  | r :: rest => ((2 ^ (r.2 + 1 - r.1) - 1) <<< r.1) ||| maskOf rest

theorem testBit_maskOf (rs : List (Nat × Nat)) (c : Nat) : (maskOf rs).testBit c = inRangesF rs c := by
  induction rs with
  | nil => simp [maskOf, inRangesF]
  | cons r rest ih =>
    rw [maskOf, inRangesF, Nat.testBit_or, ih, Nat.testBit_shiftLeft, Nat.testBit_two_pow_sub_one]
    congr 1
    rw [Bool.eq_iff_iff]
    simp only [Bool.and_eq_true, decide_eq_true_eq, Nat.ble_eq]
    omega

theorem inRangesF_append (a b : List (Nat × Nat)) (c : Nat) : inRangesF (a ++ b) c = (inRangesF a c || inRangesF b c) := by
  rw [inRangesF_eq, inRangesF_eq, inRangesF_eq, List.any_append]

theorem cell1_eq (x i : Nat) : (cell 1 x i == 1) = x.testBit i := by
  rw [cell, Nat.one_mul, Nat.pow_one, Nat.testBit, Nat.shiftRight_eq_div_pow, Nat.and_comm, Nat.and_one_is_mod]
  rcases Nat.mod_two_eq_zero_or_one (x / 2 ^ i) with h | h <;> simp [h]

def page (m b : Nat) : Nat := (m >>> (b * 256)) % 2 ^ 256

theorem testBit_page (m c : Nat) : (page m (c / 256)).testBit (c % 256) = m.testBit c := by
  rw [page, Nat.testBit_mod_two_pow, Nat.testBit_shiftRight, show c / 256 * 256 + c % 256 = c by omega]
  simp [Nat.mod_lt c (show 0 < 256 by omega)]

/-- row `r` of a packed array of rows of 256 `w`-bit cells, as one number: two rows hold the same cells iff these are equal,
which the kernel decides in one comparison -/
def row (w data r : Nat) : Nat := (data >>> (w * 256 * r)) % 2 ^ (w * 256)

theorem cell_row (w data r : Nat) {i : Nat} (hi : i < 256) : cell w data (r * 256 + i) = cell w (row w data r) i := by
  unfold cell row
  apply Nat.eq_of_testBit_eq
  intro j
  simp only [Nat.testBit_mod_two_pow, Nat.testBit_shiftRight]
  by_cases hj : j < w
  · have h1 : w * i + j < w * 256 :=
      Nat.lt_of_lt_of_le (Nat.add_lt_add_left hj _) (Nat.mul_succ w i ▸ Nat.mul_le_mul_left w hi)
    have h2 : w * (r * 256 + i) + j = w * 256 * r + (w * i + j) := by
      rw [Nat.mul_add, Nat.add_assoc, Nat.mul_comm r 256, Nat.mul_assoc]
    simp only [hj, h1, h2, decide_true, Bool.true_and]
  · simp only [hj, decide_false, Bool.false_and]

end SafeC.Norm
