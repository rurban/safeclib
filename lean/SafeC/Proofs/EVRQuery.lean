import SafeC.Proofs.EVQuery
/-!
# C05 and C10 for the query functions of `Models/Query.lean`: one derivation per model, in the store-free judgement `EVR`

For ALL arguments and ALL memory contents, every returning call of a query function has appended
* no event, and returned one of the function's RESULT codes (`bn`: EOK, or the documented "no answer"
  code ESNOTFND / ESNODIFF …, which is not a constraint violation), or
* exactly one handler event, carrying precisely the (non-EOK) code the call returned, which is one of `S`.
Never two reports, never a report with a different code, never a report followed by EOK (post `QIn bn S k code`).
`EVR.ev` reads the derivation as the event discipline (C05; `QIn.qpost` forgets `S`), `EVR.noStore` as "the model
has no store" (the `*_readonly` theorems of `Proofs/QueryRO.lean`, C10), `Props/C05Docs.lean` compares `bn ++ S` with the
doc comment.  A loop that reports nothing itself has `S` free (`S := []` says it is silent).

Deviations of the code that the proofs expose (each already a known finding of C05 or C10):
`strcspn_s` reports a too-large `slen` for a known source size through the MEM handler (`QInAny`),
`strrchr_s` returns ESZEROL for an empty string without any report (ESZEROL is listed as a result
code of that function below — the theorem says exactly what the code does), `strpbrk_s` clears `dest` on one exit.
-/
namespace SafeC.Props.C05Query
open SafeC Gen SafeC.Props.C05Docs

theorem strnlenLoop_ro (n s c : Nat) (b : Bos) : EVR.Silent (strnlenLoop n s c b) := by
  induction n generalizing s c b with
  | zero => exact .ret _ rfl
  | succ n ih =>
    refine .load _ _ fun _ => .ite (.ret _ rfl) ?_
    cases b with
    | none => exact ih ..
    | some b => exact .ite (.ret _ rfl) (ih ..)

theorem strnlen_s_ro (str smax : Nat) (b : Bos) : EVR (strnlen_s str smax b) PN :=
  .ite (failF _) (.ite (failF _) (.ite (failF _) (silent_F (strnlenLoop_ro ..))))

theorem strnlen_s_ok_ro {dest dmax : Nat} {b : Bos} (hd : dest ≠ 0) (hz : dmax ≠ 0) (hm : dmax ≤ RSIZE_MAX_STR) :
    EVR.Silent (strnlen_s dest dmax b) :=
  .iteH (absurd · hd) fun _ => .iteH (absurd · hz) fun _ => .iteH (absurd · (Nat.not_lt.mpr hm)) fun _ =>
    strnlenLoop_ro ..

theorem strlenP_ro (f s n : Nat) : EVR.Silent (strlenP f s n) := by
  induction f generalizing s n with
  | zero => exact .ret _ rfl
  | succ f ih => exact .load _ _ fun _ => .ite (.ret _ rfl) (ih ..)

theorem q_strlenP (f s n : Nat) : Quiet (strlenP f s n) := (strlenP_ro ..).quiet

theorem strchrP_ro (c f s : Nat) : EVR.Silent (strchrP c f s) := by
  induction f generalizing s with
  | zero => exact .ret _ rfl
  | succ f ih => exact .load _ _ fun _ => .ite (.ret _ rfl) (.ite (.ret _ rfl) (ih _))

theorem memchrP_ro (c n s : Nat) : EVR.Silent (memchrP c n s) := by
  induction n generalizing s with
  | zero => exact .ret _ rfl
  | succ n ih => exact .load _ _ fun _ => .ite (.ret _ rfl) (ih _)

theorem memrchrP_ro (c s n : Nat) : EVR.Silent (memrchrP c s n) := by
  induction n with
  | zero => exact .ret _ rfl
  | succ n ih => exact .load _ _ fun _ => .ite (.ret _ rfl) ih

theorem strcmpTail_ev {S : List Nat} (d s : Nat) : EVR (strcmpTail d s) (QIn [EOK] S .str (·.1)) :=
  .load _ _ fun _ => .load _ _ fun _ => .ret _ (.inl ⟨rfl, .head _⟩)

theorem strcmpLoop_ev {S : List Nat} (sb : Bos) (n d s l : Nat) (h : ESUNTERM ∈ S := by decide) :
    EVR (strcmpLoop sb n d s l) (QIn [EOK] S .str (·.1)) := by
  have t := @strcmpTail_ev S
  induction n generalizing d s l with
    (refine .load _ _ fun _ => .ite (t ..) (.load _ _ fun _ => .ite (t ..) ?_))
  | zero => exact t ..
  | succ n ih =>
    exact .load _ _ fun _ => .load _ _ fun _ => .ite (t ..) (.ite (qExitS _ h) (ih ..))

theorem strcmp_s_ev (d m s : Nat) (db sb : Bos) : EVR (strcmp_s d m s db sb) (QIn [EOK] SChkUnterm .str (·.1)) :=
  optThenQ (qChkS_in ..) fun _ => strcmpLoop_ev ..

theorem strcasecmpTail_ev {S : List Nat} (d s : Nat) : EVR (strcasecmpTail d s) (QIn [EOK] S .str (·.1)) :=
  .load _ _ fun _ => .load _ _ fun _ => .ret _ (.inl ⟨rfl, .head _⟩)

theorem strcasecmpLoop_ev {S : List Nat} (n d s : Nat) : EVR (strcasecmpLoop n d s) (QIn [EOK] S .str (·.1)) := by
  have t := @strcasecmpTail_ev S
  induction n generalizing d s with
    (refine .load _ _ fun _ => .ite (t ..) (.load _ _ fun _ => .ite (t ..) ?_))
  | zero => exact t ..
  | succ n ih => exact .load _ _ fun _ => .load _ _ fun _ => .ite (.ret _ (.inl ⟨rfl, .head _⟩)) (ih ..)

theorem strcasecmp_s_ev (d m s : Nat) (db : Bos) : EVR (strcasecmp_s d m s db) (QIn [EOK] SChk .str (·.1)) :=
  optThenQ (qChkS_in ..) fun _ => strcasecmpLoop_ev ..

theorem strcmpfldLoop_ev {S : List Nat} (n d s : Nat) : EVR (strcmpfldLoop n d s) (QIn [EOK] S .str (·.1)) := by
  induction n generalizing d s with
  | zero => exact strcmpTail_ev ..
  | succ n ih => exact .load _ _ fun _ => .load _ _ fun _ => .ite (strcmpTail_ev ..) (ih ..)

theorem strcmpfld_s_ev (d m s : Nat) (db : Bos) : EVR (strcmpfld_s d m s db) (QIn [EOK] SChk .str (·.1)) :=
  optThenQ (qChkS_in ..) fun _ => strcmpfldLoop_ev ..

theorem strstrInner_ro (d s dl i l : Nat) : EVR.Silent (strstrInner d s dl i l) := by
  induction dl generalizing i l with (refine .load _ _ fun _ => .ite (.ret _ rfl) ?_)
  | zero => exact .ret _ rfl
  | succ n ih =>
    exact .load _ _ fun _ => .load _ _ fun _ => .ite (.ret _ rfl) (.load _ _ fun _ => .ite (.ret _ rfl) (ih ..))

theorem strstrOuter_ev {S : List Nat} (src slen n d : Nat) :
    EVR (strstrOuter src slen n d) (QIn [EOK, ESNOTFND] S .str (·.1)) := by
  induction n generalizing d with (refine .load _ _ fun _ => .ite (.ret _ (.inl ⟨rfl, by decide⟩)) ?_)
  | zero => exact .ret _ (.inl ⟨rfl, by decide⟩)
  | succ n ih => exact (strstrInner_ro ..).then_ fun _ => .ite (.ret _ (.inl ⟨rfl, .head _⟩)) (ih _)

theorem strstr_s_ev (d m s l : Nat) (db sb : Bos) :
    EVR (strstr_s d m s l db sb) (QIn [EOK, ESNOTFND] SChk .str (·.1)) :=
  optThenQ (qChkS_in ..) fun _ =>
    optThenQ (qChkSlenS_in ..) fun _ =>
      EVR.Silent.then_ (.ite ((strlenP_ro ..).then_ fun _ => (strlenP_ro ..).then_ fun _ => .ret _ rfl) (.ret _ rfl))
        fun _ => .ite (.ret _ (.inl ⟨rfl, by decide⟩)) <| .load _ _ fun _ =>
          .ite (.ret _ (.inl ⟨rfl, .head _⟩)) (.ite (qExitS _) (strstrOuter_ev ..))

theorem strcasestrInner_ro (d s dl i l : Nat) : EVR.Silent (strcasestrInner d s dl i l) := by
  induction dl generalizing i l with (refine .load _ _ fun _ => .ite (.ret _ rfl) ?_)
  | zero => exact .ret _ rfl
  | succ n ih =>
    exact .load _ _ fun _ => .load _ _ fun _ => .ite (.ret _ rfl) (.load _ _ fun _ => .ite (.ret _ rfl) (ih ..))

theorem strcasestrOuter_ev {S : List Nat} (src slen n d : Nat) :
    EVR (strcasestrOuter src slen n d) (QIn [EOK, ESNOTFND] S .str (·.1)) := by
  induction n generalizing d with (refine .load _ _ fun _ => .ite (.ret _ (.inl ⟨rfl, by decide⟩)) ?_)
  | zero => exact .ret _ (.inl ⟨rfl, by decide⟩)
  | succ n ih => exact (strcasestrInner_ro ..).then_ fun _ => .ite (.ret _ (.inl ⟨rfl, .head _⟩)) (ih _)

theorem strcasestr_s_ev (d m s l : Nat) (db sb : Bos) :
    EVR (strcasestr_s d m s l db sb) (QIn [EOK, ESNOTFND] SChkNotfnd .str (·.1)) :=
  optThenQ (qChkS_in ..) fun _ =>
    .ite (qExitS _ (by split <;> decide) (by split <;> decide)) <|
      .ite (qExitS _) <| .ite (qExitS _) <| .load _ _ fun _ =>
        .ite (.ret _ (.inl ⟨rfl, .head _⟩)) (strcasestrOuter_ev ..)

theorem strchr_s_ev (d m : Nat) (ch : Int) (db : Bos) :
    EVR (strchr_s d m ch db) (QIn [EOK, ESNOTFND] SChk .str (·.1)) :=
  optThenQ (qChkS_in ..) fun _ =>
    .ite (qExitS _) <| (strchrP_ro ..).then_ fun _ =>
      .ite notfnd_in (.ite notfnd_in (.ret _ (.inl ⟨rfl, .head _⟩)))

/-- what follows the `qChkM` block in `memchr_s` / `memrchr_s`: `ch > 255` goes through the STR handler -/
theorem memchrRest_ev {ch : Int} {p : Prog Nat} (hp : EVR.Silent p) :
    EVR (if ch > 255 then do handlerS ESLEMAX; pure (ESLEMAX, 0)
      else do let r ← p; if r = 0 then pure (ESNOTFND, 0) else pure (EOK, r) : Prog (Nat × Nat))
      (QInAny [EOK, ESNOTFND] SChk (·.1)) :=
  .ite ((qExitS _).conseq fun _ _ => QIn.any) <| hp.then_ fun _ =>
    .ite (.ret _ (.inl ⟨rfl, by decide⟩)) (.ret _ (.inl ⟨rfl, .head _⟩))

theorem memrchr_s_ev (d m : Nat) (ch : Int) (db : Bos) :
    EVR (memrchr_s d m ch db) (QInAny [EOK, ESNOTFND] SChk (·.1)) :=
  optThenQAny (qChkM_in ..) fun _ => memchrRest_ev (memrchrP_ro ..)

theorem memchr_s_ev (d m : Nat) (ch : Int) (db : Bos) :
    EVR (memchr_s d m ch db) (QInAny [EOK, ESNOTFND] SChk (·.1)) :=
  optThenQAny (qChkM_in ..) fun _ => memchrRest_ev (memchrP_ro ..)

/-- strrchr_s, all arguments, all memory.  A dmax above RSIZE_MAX_STR is rejected for a known object as well (fixed finding,
/repo fd35a3d: without that test the inner `strnlen_s(dest, dmax)` reported ESLEMAX and strrchr_s returned ESZEROL;
`strrchr_s_C05_fixed_point` in `Props/C05Query.lean` is that input).  ESZEROL is also this function's SILENT answer for an
empty string, hence a result code here; `ch > 255` is reported through the str handler, dest checks too (kind left open
for memrchr_s). -/
theorem strrchr_s_ev (d m : Nat) (ch : Int) (db : Bos) :
    EVR (strrchr_s d m ch db) (QInAny [EOK, ESNOTFND, ESZEROL] SChk (·.1)) :=
  have l : EVR (do handlerS ESLEMAX; pure (ESLEMAX, 0) : Prog (Nat × Nat)) (QInAny [EOK, ESNOTFND, ESZEROL] SChk (·.1)) :=
    (qExitS _).conseq fun _ _ => QIn.any
  optThenQAny (qChkS_in ..) fun ⟨hd, hz, _, _⟩ =>
    .iteH (fun _ => l) fun hm => .ite l <| (strnlen_s_ok_ro hd hz (Nat.not_lt.mp hm)).then_ fun _ =>
      .ite ((memrchr_s_ev ..).conseq fun _ _ h =>
          h.imp (.imp_right ((by decide : ∀ c ∈ [EOK, ESNOTFND], c ∈ [EOK, ESNOTFND, ESZEROL]) _)) id)
        (.ret _ (.inl ⟨rfl, by decide⟩))

theorem spanInner_ro (d n s : Nat) : EVR.Silent (spanInner d n s) := by
  induction n generalizing s with
  | zero => exact .load _ _ fun _ => .ite (.ret _ rfl) (.ret _ rfl)
  | succ n ih =>
    exact .load _ _ fun _ => .ite (.ret _ rfl) (.load _ _ fun _ => .load _ _ fun _ => .ite (.ret _ rfl) (ih _))

theorem spanOuter_ro (w : Bool) (src slen n d c : Nat) : EVR.Silent (spanOuter w src slen n d c) := by
  induction n generalizing d c with
  | zero => exact .load _ _ fun _ => .ite (.ret _ rfl) (.ret _ rfl)
  | succ n ih =>
    exact .load _ _ fun _ => .ite (.ret _ rfl) (EVR.Silent.then_ (spanInner_ro ..) fun _ => .ite (ih ..) (.ret _ rfl))

theorem strspn_s_ev (dest dmax src slen : Nat) (db sb : Bos) :
    EVR (strspn_s dest dmax src slen db sb) (QIn [EOK] SChk .str (·.1)) :=
  optThenQ (qChkS_in ..) fun _ =>
    optThenQ (qChkSlenS_in ..) fun _ =>
      .ite (qExitS _) (EVR.Silent.then_ (spanOuter_ro ..) fun _ => .ret _ (.inl ⟨rfl, .head _⟩))

/-- `strcspn_s` reports a too-large `slen` for a known source size through the MEM handler, everything else through the
STR handler: the kind is left open -/
theorem strcspn_s_ev (dest dmax src slen : Nat) (db sb : Bos) :
    EVR (strcspn_s dest dmax src slen db sb) (QInAny [EOK] SChk (·.1)) :=
  optThenQAny (qChkS_in ..) fun _ =>
    .ite (.emit _ _ (.ret _ (.inr ⟨by decide, by decide, _, rfl⟩)))
      (.ite (.emit _ _ (.ret _ (.inr ⟨by decide, by decide, _, rfl⟩)))
        (.ite (.emit _ _ (.ret _ (.inr ⟨by decide, by decide, _, rfl⟩)))
          (EVR.Silent.then_ (spanOuter_ro ..) fun _ => .ret _ (.inl ⟨rfl, .head _⟩))))

theorem strprefixLoop_ev {S : List Nat} (n d s : Nat) :
    EVR (strprefixLoop n d s) (QIn [EOK, ESNOTFND] S .str id) := by
  have ok : EVR (pure EOK : Prog Nat) (QIn [EOK, ESNOTFND] S .str id) := .ret _ (.inl ⟨rfl, by decide⟩)
  induction n generalizing d s with
  | zero => exact .load _ _ fun _ => .ite ok ok
  | succ n ih =>
    exact .load _ _ fun _ => .ite ok
      (.load _ _ fun _ => .load _ _ fun _ => .ite (.ret _ (.inl ⟨rfl, by decide⟩)) (ih ..))

theorem strprefix_s_ev (dest dmax src : Nat) (db : Bos) :
    EVR (strprefix_s dest dmax src db) (QIn [EOK, ESNOTFND] SChk .str id) :=
  optThenQ (qChkS_in ..) fun _ =>
    .load _ _ fun _ => .ite (.ret _ (.inl ⟨rfl, by decide⟩)) (strprefixLoop_ev ..)

theorem strpbrkInner_ro (d l ps : Nat) : EVR.Silent (strpbrkInner d l ps) := by
  induction l generalizing ps with
    (refine .load _ _ fun _ => .ite (.ret _ rfl) (.load _ _ fun _ => .load _ _ fun _ => .ite (.ret _ rfl) ?_))
  | zero => exact .ret _ rfl
  | succ l ih => exact ih _

theorem strpbrkOuter_ev {S : List Nat} (src slen n d : Nat) :
    EVR (strpbrkOuter src slen n d) (QIn [EOK, ESNOTFND] S .str (·.1)) := by
  induction n generalizing d with
  | zero => exact .load _ _ fun _ => .ite notfnd_in notfnd_in
  | succ n ih =>
    exact .load _ _ fun _ => .ite notfnd_in (EVR.Silent.then_ (strpbrkInner_ro ..) fun
      | some true => .ret _ (.inl ⟨rfl, .head _⟩)
      | some false => notfnd_in
      | none => ih _)

/-- `strpbrk_s` with the source size unknown or `slen` within it: the other exit goes through
`handle_str_bos_overflow(dest, destbos)`, which clears `dest` -/
theorem strpbrk_s_in (cfg : Cfg) (dest dmax src slen : Nat) (db sb : Bos) (h : ∀ b, sb = some b → slen ≤ b) :
    EVR (strpbrk_s cfg dest dmax src slen db sb) (QIn [EOK, ESNOTFND] SChk .str (·.1)) := by
  refine optThenQ (qChkS_in ..) fun _ => ?_
  have rest : EVR (if slen = 0 then do handlerS ESZEROL; pure (ESZEROL, 0) else strpbrkOuter src slen dmax dest)
      (QIn [EOK, ESNOTFND] SChk .str (·.1)) :=
    .ite (qExitS _) (strpbrkOuter_ev ..)
  cases sb with
  | none => exact .ite (qExitS _) rest
  | some b => exact .iteH (fun hb => (Nat.not_le_of_gt hb (h b rfl)).elim) fun _ => rest

theorem memcmpLoopQ_ro (f : Nat → Nat → Int) (n m d s : Nat) : EVR.Silent (memcmpLoopQ f n m d s) := by
  induction n generalizing m d s with
  | zero => exact .ret _ rfl
  | succ n ih =>
    cases m with
    | zero => exact .ret _ rfl
    | succ m => exact .load _ _ fun _ => .load _ _ fun _ => .ite (.ret _ rfl) (ih ..)

theorem memcmpChecks_in {S : List Nat} (max dlen slen dB sB dL dL' : Nat) (db sb : Bos)
    (hS : ∀ c ∈ SChkNospc, c ∈ S := by decide) : EVR (memcmpChecks max dlen slen dB sB dL dL' db sb) (OptIn S .mem) := by
  have f : ∀ c, c ∈ SChkNospc → (hc : c ≠ EOK := by decide) → EVR (qFailM c) (OptIn S .mem) :=
    fun c h hc => qFailM_in c (hS c h) hc
  have l := f ESLEMAX (by decide)
  have o := f EOVERFLOW (by decide)
  refine optThenOpt (F := True) ?_ (fun _ => rfl) fun _ => .ite (f _ (by decide))
    (optThenOpt (F := True) ?_ (fun _ => rfl) fun _ => .ite (f _ (by decide)) optNone_in)
  · cases db with
    | none => exact .ite l optNone_in
    | some b => exact .ite (.ite l o) optNone_in
  · cases sb with
    | none => exact .ite l optNone_in
    | some b => exact .ite (.ite l o) optNone_in

theorem memcmpG_ev (max : Nat) (f : Nat → Nat → Int) (dest dlen src slen dB sB dL dL' : Nat) (db sb : Bos) :
    EVR (memcmpG max f dest dlen src slen dB sB dL dL' db sb) (QIn [EOK] SChkNospc .mem (·.1)) := by
  exact .ite (qExitS _) (.ite (qExitS _) (.ite (qExitS _)
    (optThenQ (memcmpChecks_in ..) fun _ =>
      .ite (.ret _ (.inl ⟨rfl, .head _⟩))
        (EVR.Silent.then_ (memcmpLoopQ_ro ..) fun _ => .ret _ (.inl ⟨rfl, .head _⟩)))))

theorem memcmp_s_ev (dest dmax src slen : Nat) (db sb : Bos) :
    EVR (memcmp_s dest dmax src slen db sb) (QIn [EOK] SChkNospc .mem (·.1)) := memcmpG_ev ..
theorem memcmp16_s_ev (dest dlen src slen : Nat) (db sb : Bos) :
    EVR (memcmp16_s dest dlen src slen db sb) (QIn [EOK] SChkNospc .mem (·.1)) := memcmpG_ev ..
theorem memcmp32_s_ev (dest dlen src slen : Nat) (db sb : Bos) :
    EVR (memcmp32_s dest dlen src slen db sb) (QIn [EOK] SChkNospc .mem (·.1)) := memcmpG_ev ..

end SafeC.Props.C05Query
