import SafeC.Proofs.Acc
/-!
# `AccD d R p Q`: on the memory contents `d`, every load of the store-free program `p` is at an address in `R`

The value-AWARE companion of `Acc` (which quantifies over every loaded value): a `load a` continues with
the value `d a` only.  This is what the string scans need — which cells `while (*p && n)` reads depends
on where the terminator is — and it lets the footprint `R` itself depend on the contents
(`Str d p n`: the cells of the string at `p`, up to and including its terminator, cut at `n` cells).

`AccD.sound` (in `Footprint.lean`): on a state whose data is `d` and in which ONLY `R` is mapped and readable the program
returns and records no stray access.

Second half of the file: the footprints themselves — `Cells p n` (a window of `n` cells), `Str d p n` (the string at `p`
cut at `n` cells) with its lemmas, `StrRd` (that footprint mapped and readable in a state).
-/
namespace SafeC

inductive AccD (d : Nat → Nat) (R : Nat → Prop) : {α : Type} → Prog α → (α → Prop) → Prop where
  | ret {α} {Q : α → Prop} (x : α) : Q x → AccD d R (.ret x) Q
  | load {α} {Q : α → Prop} (a : Nat) (k : Nat → Prog α) : R a → AccD d R (k (d a)) Q → AccD d R (.load a k) Q
  | emit {α} {Q : α → Prop} (e : Event) (k : Prog α) : AccD d R k Q → AccD d R (.emit e k) Q

namespace AccD

variable {d : Nat → Nat} {R : Nat → Prop}

theorem pure {α} {Q : α → Prop} (x : α) (h : Q x) : AccD d R (Pure.pure x : Prog α) Q := .ret x h

theorem bind {α β} {p : Prog α} {f : α → Prog β} {Q : α → Prop} {S : β → Prop}
    (hp : AccD d R p Q) (hf : ∀ x, Q x → AccD d R (f x) S) : AccD d R (p >>= f) S := by
  induction hp with
  | ret x hx => exact hf x hx
  | load a k ha _ ih => exact .load a _ ha (ih hf)
  | emit e k _ ih => exact .emit e _ (ih hf)

theorem conseq {α} {p : Prog α} {Q Q' : α → Prop} (hp : AccD d R p Q) (h : ∀ x, Q x → Q' x) :
    AccD d R p Q' := by
  induction hp with
  | ret x hx => exact .ret x (h x hx)
  | load a k ha _ ih => exact .load a _ ha (ih h)
  | emit e k _ ih => exact .emit e _ (ih h)

theorem mono {R' : Nat → Prop} {α} {p : Prog α} {Q : α → Prop} (hp : AccD d R p Q)
    (hr : ∀ a, R a → R' a) : AccD d R' p Q := by
  induction hp with
  | ret x hx => exact .ret x hx
  | load a k ha _ ih => exact .load a _ (hr a ha) ih
  | emit e k _ ih => exact .emit e _ ih

theorem loadBind {α} {f : Nat → Prog α} {Q : α → Prop} {a : Nat} (ha : R a) (h : AccD d R (f (d a)) Q) :
    AccD d R (SafeC.load a >>= f) Q := .load a _ ha h

theorem emitBind {α} {f : Unit → Prog α} {Q : α → Prop} (e : Event) (h : AccD d R (f ()) Q) :
    AccD d R (SafeC.emit e >>= f) Q := .emit e _ h
theorem handlerSBind {α} {f : Unit → Prog α} {Q : α → Prop} (c : Nat) (h : AccD d R (f ()) Q) :
    AccD d R (SafeC.handlerS c >>= f) Q := .emit _ _ h
theorem handlerMBind {α} {f : Unit → Prog α} {Q : α → Prop} (c : Nat) (h : AccD d R (f ()) Q) :
    AccD d R (SafeC.handlerM c >>= f) Q := .emit _ _ h

theorem loadP (a : Nat) (h : R a) : AccD d R (SafeC.load a) (fun v => v = d a) :=
  .load a _ h (.ret _ rfl)
theorem handlerS (c : Nat) : AccD d R (SafeC.handlerS c) (fun _ => True) := .emit _ _ (.ret () trivial)
theorem handlerM (c : Nat) : AccD d R (SafeC.handlerM c) (fun _ => True) := .emit _ _ (.ret () trivial)

theorem ite {α} {Q : α → Prop} {c : Prop} [Decidable c] {p q : Prog α}
    (hp : c → AccD d R p Q) (hq : ¬ c → AccD d R q Q) : AccD d R (if c then p else q) Q := by
  split
  · exact hp ‹_›
  · exact hq ‹_›

theorem bos {α} {Q : α → Prop} {b : Bos} {p : Prog α} {q : Nat → Prog α}
    (hp : b = none → AccD d R p Q) (hq : ∀ x, b = some x → AccD d R (q x) Q) :
    AccD d R (match b with | none => p | some x => q x) Q := by
  cases b
  · exact hp rfl
  · exact hq _ rfl

theorem of_Acc {α} {p : Prog α} {Q : α → Prop} (h : Acc R (fun _ => False) p Q) : AccD d R p Q := by
  induction h with
  | ret x hx => exact .ret x hx
  | load a k ha _ ih => exact .load a _ ha (ih _)
  | store a v k ha _ _ => exact ha.elim
  | emit e k _ ih => exact .emit e _ ih

end AccD

/-- `a` is one of the first `n` cells at `p` (the same predicate as `Props.C02.In` of `Props/C02Query.lean`) -/
def Cells (p n a : Nat) : Prop := p ≤ a ∧ a < p + n

theorem Cells.within {p n q m a : Nat} (h : Cells q m a) (hlo : p ≤ q := by omega) (hhi : q + m ≤ p + n := by omega) :
    Cells p n a := ⟨Nat.le_trans hlo h.1, Nat.lt_of_lt_of_le h.2 hhi⟩

theorem Cells.idx {p n a : Nat} (ha : Cells p n a) : ∃ i, i < n ∧ a = p + i :=
  let ⟨i, e⟩ := Nat.exists_eq_add_of_le ha.1
  ⟨i, Nat.lt_of_add_lt_add_left (e ▸ ha.2), e⟩

/-- `a` is a cell of the string at `p` cut at `n` cells: one of the first `n` cells, with no terminator
strictly before it — i.e. the characters up to AND INCLUDING the terminator, or the first `n` cells,
whichever is less -/
def Str (d : Nat → Nat) (p n a : Nat) : Prop := p ≤ a ∧ a < p + n ∧ ∀ j, p ≤ j → j < a → ¬ d j = 0

namespace Str
variable {d : Nat → Nat} {p n m a : Nat}

theorem head (h : 0 < n) : Str d p n p := ⟨Nat.le_refl _, by omega, fun j h1 h2 => by omega⟩

theorem first {R : Nat → Prop} (h : ∀ a, Str d p (n+1) a → R a) : R p := h _ (head (Nat.succ_pos n))

theorem succ (h0 : ¬ d p = 0) (h : Str d (p+1) n a) : Str d p (n+1) a := by
  obtain ⟨h1, h2, h3⟩ := h
  refine ⟨by omega, by omega, fun j hj1 hj2 => ?_⟩
  by_cases e : j = p
  · subst e; exact h0
  · exact h3 j (by omega) hj2

theorem rest {R : Nat → Prop} (h0 : ¬ d p = 0) (h : ∀ a, Str d p (n+1) a → R a) : ∀ a, Str d (p+1) n a → R a :=
  fun a h' => h a (succ h0 h')

theorem succ_le (h0 : ¬ d p = 0) (hn : n + 1 ≤ m) (h : Str d (p+1) n a) : Str d p m a := by
  obtain ⟨h1, h2, h3⟩ := succ h0 h
  exact ⟨h1, by omega, h3⟩

theorem mono (h : n ≤ m) (hs : Str d p n a) : Str d p m a := ⟨hs.1, by have := hs.2.1; omega, hs.2.2⟩

theorem cells (hs : Str d p n a) : Cells p n a := ⟨hs.1, hs.2.1⟩

theorem at_ (i : Nat) (hi : i < n) (hpre : ∀ j, j < i → ¬ d (p+j) = 0) : Str d p n (p+i) := by
  refine ⟨by omega, by omega, fun j h1 h2 => ?_⟩
  have := hpre (j - p) (by omega)
  rwa [show p + (j - p) = j by omega] at this

theorem at_eq (i : Nat) (ha : a = p + i) (hi : i < n) (hpre : ∀ j, j < i → ¬ d (p+j) = 0) : Str d p n a :=
  ha ▸ at_ i hi hpre

theorem of_term {i : Nat} (h0 : d (p+i) = 0) (hs : Str d p m a) : Cells p (i+1) a := by
  obtain ⟨h1, _, h3⟩ := hs
  refine ⟨h1, Nat.lt_of_not_le fun hn => ?_⟩
  exact h3 (p+i) (by omega) (by omega) h0

end Str

theorem AccD.loadStr {d : Nat → Nat} {R : Nat → Prop} {α} {f : Nat → Prog α} {Q : α → Prop} {p n : Nat}
    (h : ∀ a, Str d p (n+1) a → R a) (k : AccD d R (f (d p)) Q) : AccD d R (SafeC.load p >>= f) Q :=
  AccD.loadBind (Str.first h) k

theorem Str.pre_succ {d : Nat → Nat} {p i : Nat} (h : ∀ j, j < i → ¬ d (p+j) = 0) (hi : ¬ d (p+i) = 0) :
    ∀ j, j < i+1 → ¬ d (p+j) = 0 := by
  intro j hj
  by_cases e : j = i
  · subst e; exact hi
  · exact h j (by omega)

/-- the cells of the string at `p` (cut at `n`) are mapped and declared readable: the DECLARED extent
of a string source with bound `n` -/
def StrRd (st : St) (p n : Nat) : Prop := ∀ a, Str st.data p n a → st.mapped a = true ∧ st.rd a = true

theorem StrRd.of_RD {st : St} {p n m : Nat} (h : RD st p n) (hm : m ≤ n) : StrRd st p m :=
  fun _ ha => let ⟨i, hi, e⟩ := (ha.cells.within (n := n)).idx; e ▸ h i hi

/-- a declared string (cut at `n`) that has its terminator inside the cut is readable at every cut -/
theorem _root_.SafeC.Props.C02.StrRd.of_term {st : St} {p n : Nat} (h : StrRd st p n) (ht : ∃ i, i < n ∧ st.data (p+i) = 0) (m : Nat) :
    StrRd st p m := by
  intro a hs
  obtain ⟨i, hi, h0⟩ := ht
  obtain ⟨h1, h2⟩ := hs.of_term h0
  exact h a ⟨hs.1, by omega, hs.2.2⟩

theorem StrRd.of_RD_term {st : St} {p n : Nat} (h : RD st p n) (ht : ∃ i, i < n ∧ st.data (p+i) = 0) (m : Nat) :
    StrRd st p m :=
  Props.C02.StrRd.of_term (StrRd.of_RD h (Nat.le_refl n)) ht m

theorem StrRd.of_RD_term.guard {st : St} {p n m : Nat} (h : p ≠ 0 → RD st p n) (ht : p ≠ 0 → ∃ i, i < n ∧ st.data (p+i) = 0)
    (hp : p ≠ 0) : StrRd st p m :=
  StrRd.of_RD_term (h hp) (ht hp) m

theorem StrRd.mono {st : St} {p n m : Nat} (h : StrRd st p n) (hm : m ≤ n) : StrRd st p m :=
  fun a hs => h a (hs.mono hm)

end SafeC
