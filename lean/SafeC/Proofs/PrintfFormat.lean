import SafeC.Proofs.PrintfEmit
import SafeC.Proofs.PrintfDigits
/-!
# C11: `safec_ntoa_format` + `safec_out_rev` against the standard's layout, for the conversions without `#`
-/
namespace SafeC.Printf
open SafeC.Printf.Spec

/-- the sign character(s) `safec_ntoa_format` appends last -/
def signChars (negative : Bool) (fl : Flags) : Str :=
  if negative then ['-'] else if fl.plus then ['+'] else if fl.space then [' '] else []

/-- the sign is at most one character -/
theorem signChars_rev (neg : Bool) (fl : Flags) : (signChars neg fl).reverse = signChars neg fl := by
  unfold signChars; cases neg <;> cases fl.plus <;> cases fl.space <;> rfl

/-- zeros written for the precision -/
def zPrec (fx : Fixes) (E : Str) (prec : Nat) (fl : Flags) : Nat := if !fl.left || fx.minusPrec then prec - E.length else 0
/-- the width after `if (width && ZEROPAD && (negative || PLUS || SPACE)) width--` -/
def width1Of (negative : Bool) (width : Nat) (fl : Flags) : Nat :=
  if !fl.left && width != 0 && fl.zeropad && (negative || fl.plus || fl.space) then width - 1 else width
/-- zeros written for the `0` flag -/
def zWidth (fx : Fixes) (E : Str) (negative : Bool) (prec width : Nat) (fl : Flags) : Nat :=
  if !fl.left && fl.zeropad then width1Of negative width fl - (E.length + zPrec fx E prec fl) else 0

theorem padZeros_small (n : Nat) (buf : Str) (h : n ≤ NTOA) : padZeros n buf = buf ++ List.replicate (n - buf.length) '0' := by
  unfold padZeros; rw [Nat.min_eq_left h]

theorem sign_step (buf : Str) (neg plus space : Bool) (h : buf.length < NTOA ∨ (neg = false ∧ plus = false ∧ space = false)) :
    (if buf.length < NTOA then (if neg = true then buf ++ ['-'] else if plus = true then buf ++ ['+'] else if space = true then buf ++ [' '] else buf) else buf)
      = buf ++ (if neg = true then ['-'] else if plus = true then ['+'] else if space = true then [' '] else []) := by
  rcases h with h | ⟨h1, h2, h3⟩
  · simp only [h, if_true]
    cases neg <;> cases plus <;> cases space <;> simp
  · subst h1 h2 h3; simp

/-- without `#`, and as long as number + sign stay within the 32-byte buffer, `safec_ntoa_format` builds
    digits ++ precision zeros ++ width zeros ++ sign (in buffer order, i.e. reversed) -/
theorem ntoaPrep_nohash (fx : Fixes) (E : Str) (negative : Bool) (base prec width : Nat) (fl : Flags)
    (hh : fl.hash = false) (hE : E.length ≤ 31) (hp : prec ≤ 31) (hw : fl.left = false → fl.zeropad = true → width ≤ 31) :
    ntoaPrep fx E negative base prec width fl =
      (E ++ List.replicate (zPrec fx E prec fl + zWidth fx E negative prec width fl) '0' ++ signChars negative fl,
       width1Of negative width fl, fl) := by
  obtain ⟨zp, left, plus, space, hash, upper, ch, sh, lg, ll, precision, ae, ld⟩ := fl
  simp only at hh hw; subst hh
  have hN : NTOA = 32 := rfl
  unfold ntoaPrep signChars zWidth zPrec width1Of
  simp only [ite_self, Bool.false_eq_true, if_false]
  cases left <;> cases zp
  all_goals simp only [Bool.not_false, Bool.not_true, Bool.true_or, Bool.false_or, Bool.true_and, Bool.false_and, Bool.and_false, Bool.and_true,
    if_true, if_false, Bool.false_eq_true, Nat.add_zero]
  · -- right-justified, no zero padding
    rw [padZeros_small _ _ (by omega)]
    rw [sign_step _ _ _ _ (Or.inl (by simp only [List.length_append, List.length_replicate]; omega))]
  · -- right-justified, zero padding
    have hwd := hw rfl rfl
    have hw1 : (if (width != 0 && (negative || plus || space)) = true then width - 1 else width) ≤ 31 := by split <;> omega
    have hw2 : (negative || plus || space) = true →
        (if (width != 0 && (negative || plus || space)) = true then width - 1 else width) ≤ 30 ∨ width = 0 := by
      intro hs; by_cases hw0 : width = 0
      · exact Or.inr hw0
      · left; simp [hw0, hs]; omega
    generalize (if (width != 0 && (negative || plus || space)) = true then width - 1 else width) = w1 at hw1 hw2 ⊢
    rw [padZeros_small prec _ (by omega), padZeros_small w1 _ (by omega)]
    rw [List.append_assoc, List.replicate_append_replicate]
    by_cases hs : (negative || plus || space) = true
    · rw [sign_step _ _ _ _ (Or.inl (by
        simp only [List.length_append, List.length_replicate]
        rcases hw2 hs with h | h
        · omega
        · omega))]
      simp only [List.length_append, List.length_replicate]
    · have h3 : negative = false ∧ plus = false ∧ space = false := by
        cases negative <;> cases plus <;> cases space <;> simp_all
      rw [sign_step _ _ _ _ (Or.inr h3)]
      simp only [List.length_append, List.length_replicate]
  all_goals
    -- left-justified: the 0 flag is ignored
    cases hm : fx.minusPrec
    · simp only [Bool.false_eq_true, if_false, List.replicate_zero, List.append_nil]
      rw [sign_step _ _ _ _ (Or.inl (by omega))]
    · simp only [if_true]
      rw [padZeros_small _ _ (by omega)]
      rw [sign_step _ _ _ _ (Or.inl (by simp only [List.length_append, List.length_replicate]; omega))]

end SafeC.Printf
