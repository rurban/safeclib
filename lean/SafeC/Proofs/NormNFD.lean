import SafeC.Proofs.NormTablesClosed
import SafeC.Proofs.NormReorder
import SafeC.Proofs.ListFacts
/-! C17 — the decomposition of one cell (`decompose1`: what it yields is left alone by a second pass, stays a code point) and
the decomposition pass `decLoop`, for all strings -/
namespace SafeC.Norm
open SafeC.Gen

attribute [local irreducible] cell UniCanon.main UniCanon.planes UniCanon.rows UniCombin.main UniCombin.planes UniCombin.rows
  UniCanon.tbl1 UniCanon.tbl2 UniCanon.tbl3 UniCanon.tbl4

theorem flatMap_fixed {f : Nat → List Nat} : ∀ {l : List Nat}, (∀ x ∈ l, f x = [x]) → l.flatMap f = l := by
  intro l
  induction l with
  | nil => intro _; rfl
  | cons a l ih =>
    intro h
    rw [List.flatMap_cons, h a (by simp), ih (fun x hx => h x (by simp [hx]))]
    rfl

theorem length_le_flatMap {f : Nat → List Nat} (hne : ∀ x, f x ≠ []) (l : List Nat) : l.length ≤ (l.flatMap f).length := by
  induction l with
  | nil => simp
  | cons a l ih =>
    have := List.length_pos_iff.mpr (hne a)
    simp only [List.flatMap_cons, List.length_append, List.length_cons]
    omega

theorem takeWhile_ne_zero (src : List Nat) : ∀ c ∈ src.takeWhile (· ≠ 0), c ≠ 0 :=
  fun c hc => of_decide_eq_true (takeWhile_all _ src c hc)

theorem stable_spec {d : Nat} (h : stable d = true) :
    isS d = false ∧ decompCanon d = some [] ∧ d ≤ UniCompos.unicodeMax ∧ d ≠ 0 := by
  unfold stable at h
  simp only [Bool.and_eq_true, Bool.not_eq_eq_eq_not, Bool.not_true, beq_iff_eq, decide_eq_true_eq, bne_iff_ne, ne_eq] at h
  exact ⟨h.1.1.1, h.1.1.2, h.1.2, h.2⟩

theorem decompose1_stable {d : Nat} (h : stable d = true) : decompose1 d = [d] := by
  obtain ⟨h1, h2, _, _⟩ := stable_spec h
  unfold decompose1
  simp [h1, h2]

theorem tblStable_all : ∀ l, 1 ≤ l → l ≤ 4 → tblStable l = true := by
  intro l h1 h4
  have : l = 1 ∨ l = 2 ∨ l = 3 ∨ l = 4 := by omega
  rcases this with rfl | rfl | rfl | rfl
  · exact tbl1_stable
  · exact tbl2_stable
  · exact tbl3_stable
  · exact tbl4_stable

theorem decompCanon_stable {cp : Nat} {l : List Nat} (h : decompCanon cp = some l) : ∀ d ∈ l, stable d = true := by
  unfold decompCanon at h
  split at h
  · cases h
  · cases h; intro d hd; cases hd
  · rename_i vi hv0 hv
    dsimp only at h
    split at h
    · rename_i hl
      cases h
      intro d hd
      simp only [List.mem_map, List.mem_range] at hd
      obtain ⟨k, hk, rfl⟩ := hd
      have hst := tblStable_all (vi / 4096 + 1) (by omega) hl.1
      unfold tblStable at hst
      apply allBelow_spec hst
      have := hl.2
      generalize (canonTbl (vi / 4096 + 1)).1 = N at this ⊢
      generalize vi / 4096 + 1 = L at hk ⊢
      generalize vi % 4096 = I at this ⊢
      calc I * L + k < I * L + L := by omega
        _ = (I + 1) * L := by rw [Nat.add_mul]; simp
        _ ≤ N * L := Nat.mul_le_mul_right L (by omega)
    · cases h

theorem decompHangul_stable {cp : Nat} (h : isS cp = true) : ∀ d ∈ decompHangul cp, stable d = true := by
  have hL := jamoL_stable
  have hV := jamoV_stable
  have hT := jamoT_stable
  unfold isS at h
  simp only [Bool.and_eq_true, decide_eq_true_eq] at h
  rw [HSBase_eq, HSFinal_eq] at h
  intro d hd
  unfold decompHangul at hd
  dsimp only at hd
  have hl : (cp - 0xAC00) / 588 < UniCompos.HLCount := by rw [HLCount_eq]; omega
  have hv : (cp - 0xAC00) % 588 / 28 < UniCompos.HVCount := by rw [HVCount_eq]; omega
  have ht : (cp - 0xAC00) % 28 < UniCompos.HTCount := by rw [HTCount_eq]; omega
  have sL := allBelow_spec hL _ hl
  have sV := allBelow_spec hV _ hv
  have sT := allBelow_spec hT _ ht
  split at hd
  · simp only [List.mem_cons, List.mem_nil_iff, or_false] at hd
    rcases hd with h | h | h
    · rw [h]; exact sL
    · rw [h]; exact sV
    · rw [h]; exact sT
  · simp only [List.mem_cons, List.mem_nil_iff, or_false] at hd
    rcases hd with h | h
    · rw [h]; exact sL
    · rw [h]; exact sV

theorem decompHangul_ne_nil (cp : Nat) : decompHangul cp ≠ [] := by
  unfold decompHangul
  dsimp only
  split <;> simp

theorem decompose1_cases (c : Nat) : decompose1 c = [c] ∨ ∀ d ∈ decompose1 c, stable d = true := by
  unfold decompose1
  by_cases hs : isS c = true
  · rw [if_pos hs]
    exact .inr (decompHangul_stable hs)
  · rw [if_neg hs]
    cases hc : decompCanon c with
    | none => exact .inl rfl
    | some l =>
      cases l with
      | nil => exact .inl rfl
      | cons x l => exact .inr (decompCanon_stable hc)

theorem decompose1_fixed {c d : Nat} (hd : d ∈ decompose1 c) : decompose1 d = [d] := by
  rcases decompose1_cases c with h | h
  · rw [h, List.mem_singleton] at hd
    rw [hd, h]
  · exact decompose1_stable (h d hd)

theorem decompose1_le {c d : Nat} (hc : c ≤ UniCompos.unicodeMax) (hd : d ∈ decompose1 c) :
    d ≤ UniCompos.unicodeMax ∧ (c ≠ 0 → d ≠ 0) := by
  rcases decompose1_cases c with h | h
  · rw [h, List.mem_singleton] at hd
    rw [hd]
    exact ⟨hc, id⟩
  · have := stable_spec (h d hd)
    exact ⟨this.2.2.1, fun _ => this.2.2.2⟩

theorem decompCanon_length {cp : Nat} {l : List Nat} (hc : decompCanon cp = some l) : l.length ≤ 4 := by
  unfold decompCanon at hc
  split at hc
  · cases hc
  · cases hc; simp
  · dsimp only at hc
    split at hc
    · rename_i hl4
      have hlen := congrArg (fun o => (o.map List.length).getD 0) hc
      simp only [Option.map_some, Option.getD_some, List.length_map, List.length_range] at hlen
      omega
    · cases hc

theorem decompHangul_length (cp : Nat) : (decompHangul cp).length ≤ 3 := by
  unfold decompHangul; dsimp only; split <;> simp

/-- `_decomp_s` with enough room is `decompose1`, and what it writes fits -/
theorem decompS_eq {dmax cp : Nat} (hcp : cp ≤ UniCompos.unicodeMax) (hd : decompS dmax cp ≠ .err ESNOSPC) :
    ∃ l, decompS dmax cp = .seq l ∧ (if l.isEmpty then [cp] else l) = decompose1 cp ∧ (decompose1 cp).length < dmax := by
  unfold decompS at hd ⊢
  unfold decompose1
  by_cases hs : isS cp = true
  · simp only [hs, ↓reduceIte] at hd ⊢
    split at hd
    · exact absurd rfl hd
    · rename_i h4
      simp only [h4, ↓reduceIte]
      have hlen := decompHangul_length cp
      refine ⟨_, rfl, ?_, by omega⟩
      cases hh : decompHangul cp with
      | nil => exact absurd hh (decompHangul_ne_nil cp)
      | cons a b => simp
  · simp only [hs, Bool.false_eq_true, ↓reduceIte] at hd ⊢
    split at hd
    · exact absurd rfl hd
    · rename_i h5
      simp only [h5, ↓reduceIte]
      have hn := decompCanon_ne_none hcp
      cases hc : decompCanon cp with
      | none => exact absurd hc hn
      | some l =>
        have hlen := decompCanon_length hc
        refine ⟨l, rfl, ?_, ?_⟩
        · cases l <;> simp
        · cases l with
          | nil => simp; omega
          | cons a b => simp at hlen ⊢; omega

theorem decompS_ne_err {dmax cp e : Nat} (h : 5 ≤ dmax) : decompS dmax cp ≠ .err e := by
  unfold decompS
  split
  · rw [if_neg (by omega)]; simp
  · rw [if_neg (by omega)]; split <;> simp

/-! How each pass chains onto the rest of the input: a success is extended, any other outcome is passed on. -/

theorem bind_ne_oob {s : Step} (f : List Nat → List Nat) (h : s ≠ .oob) :
    (match s with | .ok out d => Step.ok (f out) d | r => r) ≠ .oob := by
  cases s with
  | oob => exact h
  | _ => nofun

theorem bind_ne_overrun {s : Step} (f : List Nat → List Nat) (h : s ≠ .overrun) :
    (match s with | .ok out d => Step.ok (f out) d | r => r) ≠ .overrun := by
  cases s with
  | overrun => exact h
  | _ => nofun

/-- what the decomposition pass can end in, each outcome with its exact condition (any size, any input without embedded terminator):
success yields the concatenated `decompose1` and means every cell was a code point; no table index out of bounds -/
def DecPost (src : List Nat) (dmax : Nat) : Step → Prop
  | .ok out d => out = src.flatMap decompose1 ∧ d + out.length = dmax ∧ 0 < d ∧ ∀ c ∈ src, c ≤ UniCompos.unicodeMax
  | .fail r _ => (r = ESLEMAX ∧ ∃ c ∈ src, UniCompos.unicodeMax < c) ∨
      (r = ESNOSPC ∧ dmax < (src.flatMap decompose1).length + 5)
  | .oob => False
  | .overrun => False

theorem decLoop_spec (orig : Nat) : ∀ (src : List Nat) (dmax : Nat), (∀ c ∈ src, c ≠ 0) →
    DecPost src dmax (decLoop orig src dmax)
  | [], dmax, _ => by
    rw [decLoop]
    split
    · exact .inr ⟨rfl, by omega⟩
    · exact ⟨rfl, rfl, by omega, nofun⟩
  | cp :: rest, dmax, h0 => by
    have hcp0 : cp ≠ 0 := h0 cp List.mem_cons_self
    rw [decLoop]
    by_cases hd0 : dmax = 0
    · rw [if_pos hd0]; exact .inr ⟨rfl, by omega⟩
    by_cases hmax : UniCompos.unicodeMax < cp
    · rw [if_neg hd0, if_pos hmax]; exact .inl ⟨rfl, cp, List.mem_cons_self, hmax⟩
    rw [if_neg hd0, if_neg hmax, if_neg hcp0]
    by_cases herr : decompS dmax cp = .err ESNOSPC
    · rw [herr]
      have : ¬ 5 ≤ dmax := fun h => decompS_ne_err h herr
      exact .inr ⟨rfl, by omega⟩
    have hle : cp ≤ UniCompos.unicodeMax := Nat.le_of_not_lt hmax
    obtain ⟨l, hl, hw, hroom⟩ := decompS_eq hle herr
    have ih := decLoop_spec orig rest (dmax - (decompose1 cp).length) fun c hc => h0 c (List.mem_cons_of_mem _ hc)
    simp only [hl, hw]
    cases hr : decLoop orig rest (dmax - (decompose1 cp).length) with rw [hr] at ih
    | ok out d =>
      obtain ⟨e1, e2, e3, e4⟩ := ih
      refine ⟨by rw [e1, List.flatMap_cons], by rw [List.length_append]; omega, e3, ?_⟩
      intro c hc
      rcases List.mem_cons.1 hc with rfl | hc
      · exact hle
      · exact e4 c hc
    | fail r n =>
      rcases ih with ⟨a, c, hc, hlt⟩ | ⟨a, hlt⟩
      · exact .inl ⟨a, c, List.mem_cons_of_mem _ hc, hlt⟩
      · exact .inr ⟨a, by rw [List.flatMap_cons, List.length_append]; omega⟩
    | oob => exact ih
    | overrun => exact ih

end SafeC.Norm
