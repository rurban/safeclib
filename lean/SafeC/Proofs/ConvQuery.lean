import SafeC.Proofs.ConvWcs
import SafeC.Proofs.ConvMbsLoop
/-! C15: the NULL-destination (query) forms of the libc models on ARBITRARY terminated sources, entered with any genuine
conversion state: a query that does not report an illegal sequence proves the source valid (it is the run with room for
everything); corollaries of the valid-string theorems for limits ≥ the count. -/
namespace SafeC.Conv.Libc

theorem mbMain_sound (loc : Locale) (fuel : Nat) (inp : List Nat) (space : Nat) (hf : inp.length < fuel) :
    ((mbMain loc fuel inp space).status = .empty → encodeAll loc (mbMain loc fuel inp space).out = some inp) ∧
    ((mbMain loc fuel inp space).status = .full → (mbMain loc fuel inp space).out.length = space) ∧
    (mbMain loc fuel inp space).out.length ≤ inp.length ∧
    ((mbMain loc fuel inp space).status = .incomplete → ∃ pre suf, suf ≠ [] ∧ inp = pre ++ suf ∧ body loc suf = .incomplete) := by
  have hrun := mbMain_run loc fuel inp space hf
  generalize mbMain loc fuel inp space = r at hrun
  have hle : ∀ {out p z : List Nat}, encodeAll loc out = some p → [] ++ inp = p ++ z → out.length ≤ inp.length := fun h1 h2 => by
    have := encodeAll_length_ge loc _ _ h1
    have := congrArg List.length h2
    simp only [List.nil_append, List.length_append] at this; omega
  cases hrun with
  | empty h1 _ => exact ⟨fun _ => by simpa using h1, nofun, hle (z := []) h1 (by simp), nofun⟩
  | incomplete h1 h2 h3 h4 _ => exact ⟨nofun, nofun, hle h1 h2, fun _ => ⟨_, _, h3, by simpa using h2, h4⟩⟩
  | full h1 h2 _ _ h5 => exact ⟨nofun, fun _ => h5, hle h1 h2, nofun⟩
  | illegal h1 h2 => exact ⟨nofun, nofun, hle h1 h2, nofun⟩

theorem encodeAll_term_inv (loc : Locale) (out s : List Nat) (h : encodeAll loc out = some (s ++ [0]))
    (hz : ∀ b ∈ s, b ≠ 0) : ∃ ws, out = ws ++ [0] ∧ encodeAll loc ws = some s ∧ ∀ c ∈ ws, c ≠ 0 := by
  induction out generalizing s with
  | nil => simp [encodeAll] at h
  | cons c cs ih =>
    obtain ⟨a, b, ha, hb, hab⟩ := encodeAll_cons_inv loc c cs _ h
    by_cases hc : c = 0
    · subst hc
      rw [enc_zero] at ha; cases ha
      cases s with
      | nil =>
        have : b = [] := by simpa using hab.symm
        subst this
        have := encodeAll_eq_nil loc cs hb
        subst this
        exact ⟨[], rfl, rfl, by simp⟩
      | cons x xs =>
        have : x = 0 := by simp at hab; exact hab.1
        exact absurd this (hz x (by simp))
    · have hanz := enc_no_zero loc c a ha hc
      have hfin : ∀ c', (∀ x ∈ c', x ≠ 0) → s = a ++ c' → b = c' ++ [0] →
          ∃ ws, c :: cs = ws ++ [0] ∧ encodeAll loc ws = some s ∧ ∀ c ∈ ws, c ≠ 0 := by
        intro c' hc' hs hb'
        rw [hb'] at hb
        obtain ⟨ws', h1, h2, h3⟩ := ih c' hb hc'
        exact ⟨c :: ws', by rw [h1]; rfl, by rw [hs]; exact encodeAll_cons loc c ws' a c' ha h2, List.forall_mem_cons.2 ⟨hc, h3⟩⟩
      rcases List.append_eq_append_iff.mp hab with ⟨a', ha', h0⟩ | ⟨c', hs, hb'⟩
      · cases a' with
        | nil =>
          simp only [List.nil_append] at h0
          exact hfin [] (by simp) (by simp [ha']) (by simp [← h0])
        | cons x xs =>
          have hx : x = 0 := by simp at h0; exact h0.1.symm
          exact absurd hx (hanz x (by rw [ha']; simp))
      · exact hfin c' (fun x hx => hz x (by rw [hs]; simp [hx])) hs hb'

theorem mem_split_zero (mem : List Nat) (h : 0 ∈ mem) : ∃ s tail, mem = s ++ 0 :: tail ∧ ∀ b ∈ s, b ≠ 0 := by
  induction mem with
  | nil => simp at h
  | cons x xs ih =>
    by_cases hx : x = 0
    · subst hx; exact ⟨[], xs, rfl, by simp⟩
    · have : 0 ∈ xs := by
        rcases List.mem_cons.mp h with h | h
        · exact absurd h.symm hx
        · exact h
      obtain ⟨s, tail, rfl, hs⟩ := ih this
      exact ⟨x :: s, tail, rfl, List.forall_mem_cons.2 ⟨hx, hs⟩⟩

/-- **query ⇒ valid, any genuine entry state** (`ps` initial or an incomplete sequence): if `mbsrtowcs(NULL, &src, _, ps)`
does not report an illegal sequence then `ps ++ source` is the encoding of some `ws` followed by the NUL, `ps` is a proper
prefix of the first character's encoding, and the value returned is `|ws|`; `*src` and `*ps` are not changed -/
theorem mbs_query_valid_st (loc : Locale) (mem : List Nat) (len : Nat) (ps : List Nat) (h0 : 0 ∈ mem)
    (hgen : ps = [] ∨ body loc ps = .incomplete)
    (hq : (mbsrtowcs loc true mem len ps).eilseq = false) :
    ∃ ws bs tail, ps ++ mem = bs ++ 0 :: tail ∧ encodeAll loc ws = some bs ∧ (∀ c ∈ ws, c ≠ 0) ∧ PendOK loc ps ws ∧
      mbsrtowcs loc true mem len ps = ⟨[], ws.length, some 0, ps, false⟩ := by
  obtain ⟨s, tail, rfl, hs⟩ := mem_split_zero mem h0
  have hpsnz : ∀ b ∈ ps, b ≠ 0 := by
    by_cases hp : ps = []
    · subst hp; simp
    · exact body_incomplete_nz loc ps (hgen.resolve_left hp) hp
  simp only [mbsrtowcs, ↓reduceIte, take_strlen_term s tail hs] at hq ⊢
  have hrun := gconvMb_run loc ps (s ++ [0]) ((s ++ [0]).length + 1) hgen
  generalize gconvMb loc ps (s ++ [0]) ((s ++ [0]).length + 1) = r at hrun hq ⊢
  cases hrun with
  | @empty out h1 h2 =>
    rw [← List.append_assoc] at h1
    obtain ⟨ws, rfl, hws, hnz⟩ := encodeAll_term_inv loc out (ps ++ s) h1
      (fun b hb => (List.mem_append.mp hb).elim (hpsnz b) (hs b))
    refine ⟨ws, ps ++ s, tail, by simp, hws, hnz, ?_, by simp⟩
    rcases PendOK.of_genuine (inp := s) (rem := []) hgen hws (by simp) with rfl | h
    · have : ps ++ s = [] := by simpa [encodeAll] using hws.symm
      exact .inl (List.append_eq_nil_iff.mp this).1
    · exact h.1
  | @full out p used h1 h2 h3 h4 h5 =>
    exfalso
    have hl := congrArg List.length h2
    simp only [List.length_append, List.length_cons, List.length_nil] at hl h5
    rcases PendOK.of_genuine hgen h1 h2 with rfl | ⟨_, h⟩
    · simp at h5
    · omega
  | @incomplete out p st h1 h2 h3 h4 h5 =>
    have hl : (p ++ st).getLast? = some 0 := by rw [← h2, ← List.append_assoc]; simp
    rw [List.getLast?_append, List.getLast?_eq_some_getLast h3, Option.some_or] at hl
    exact absurd (Option.some.inj hl) (body_incomplete_nz loc st h4 h3 _ (List.getLast_mem h3))
  | illegal => simp at hq

/-- **query ⇒ valid (multibyte source):** `mbsrtowcs(NULL, &src, …)` from the initial state on any terminated source: if it
does not report an illegal sequence, the source is the encoding of some `ws` followed by the NUL, and the value returned
is `|ws|` -/
theorem mbs_query_valid (loc : Locale) (mem : List Nat) (len : Nat) (h0 : 0 ∈ mem)
    (hq : (mbsrtowcs loc true mem len []).eilseq = false) :
    ∃ ws bs tail, mem = bs ++ 0 :: tail ∧ encodeAll loc ws = some bs ∧ (∀ c ∈ ws, c ≠ 0) ∧
      mbsrtowcs loc true mem len [] = ⟨[], ws.length, some 0, [], false⟩ := by
  obtain ⟨ws, bs, tail, h1, h2, h3, _, h4⟩ := mbs_query_valid_st loc mem len [] h0 (.inl rfl) hq
  exact ⟨ws, bs, tail, by simpa using h1, h2, h3, h4⟩

/-- the wide → multibyte step with room for 6 bytes per character never stops for lack of room -/
theorem gconvWc_total (loc : Locale) (cs : List Nat) (space : Nat) (hsp : 6 * cs.length < space)
    (h : (gconvWc loc cs space).status ≠ .illegal) :
    ∃ E, encodeAll loc cs = some E ∧ gconvWc loc cs space = ⟨E, cs.length, [], .empty⟩ := by
  induction cs generalizing space with
  | nil => exact ⟨[], rfl, by simp [gconvWc]⟩
  | cons c cs ih =>
    simp only [List.length_cons] at hsp
    have hs0 : ¬ space = 0 := by omega
    cases he : enc loc c with
    | none => simp [gconvWc, hs0, he] at h
    | some bs =>
      have h6 := enc_length_le loc c bs he
      have hfit : ¬ bs.length > space := by omega
      simp only [gconvWc, hs0, ↓reduceIte, he, hfit] at h ⊢
      obtain ⟨E, hE, hg⟩ := ih (space - bs.length) (by omega) h
      exact ⟨bs ++ E, encodeAll_cons loc c cs bs E he hE, by rw [hg]; simp; omega⟩

theorem wcs_query_valid (loc : Locale) (mem : List Nat) (len : Nat) (h0 : 0 ∈ mem)
    (hq : (wcsrtombs loc true mem len).eilseq = false) :
    ∃ ws bs tail, mem = ws ++ 0 :: tail ∧ encodeAll loc ws = some bs ∧ (∀ c ∈ ws, c ≠ 0) ∧
      wcsrtombs loc true mem len = ⟨[], bs.length, some 0, [], false⟩ := by
  obtain ⟨s, tail, rfl, hs⟩ := mem_split_zero mem h0
  simp only [wcsrtombs, ↓reduceIte, take_strlen_term s tail hs] at hq ⊢
  have hsp : 6 * (s ++ [0]).length < 6 * (s ++ [0]).length + 1 := by omega
  generalize 6 * (s ++ [0]).length + 1 = sp at hq hsp ⊢
  have hni : (gconvWc loc (s ++ [0]) sp).status ≠ .illegal := by
    intro h; rw [h] at hq; simp at hq
  obtain ⟨E, hE, hg⟩ := gconvWc_total loc (s ++ [0]) sp hsp hni
  obtain ⟨ea, eb, h1, h2, rfl⟩ := encodeAll_append_inv loc s [0] E hE
  have : eb = [0] := by
    have := encodeAll_cons loc 0 [] [0] [] (enc_zero loc) rfl
    rw [this] at h2; exact (Option.some.inj h2).symm
  subst this
  refine ⟨s, ea, tail, rfl, h1, hs, ?_⟩
  rw [hg]; simp

theorem mbsrtowcs_valid_ge_st (loc : Locale) (ws E tail ps mem : List Nat) (hE : encodeAll loc ws = some E)
    (hz : ∀ c ∈ ws, c ≠ 0) (hmem : ps ++ mem = E ++ 0 :: tail) (hps : PendOK loc ps ws) (len : Nat) (hlen : ws.length ≤ len) :
    (mbsrtowcs loc false mem len ps).ret = ws.length ∧ (mbsrtowcs loc false mem len ps).out.take ws.length = ws ∧
    (mbsrtowcs loc false mem len ps).st = [] ∧ (ws.length < len → (mbsrtowcs loc false mem len ps).src = none) := by
  by_cases h0 : 0 < len
  · obtain ⟨b1, b2⟩ := mbsrtowcs_valid_st loc ws E tail ps mem hE hz hmem hps len h0
    by_cases h : ws.length < len
    · rw [b1 h]; simp
    · obtain ⟨p, _, hr⟩ := b2 (by omega)
      rw [hr, show len = ws.length by omega]; simp
  · -- `len = 0`: no character to come, so the state is initial, and nothing is done
    have : ws = [] := List.eq_nil_of_length_eq_zero (by omega)
    subst this
    have hp : ps = [] := by
      rcases hps with h | ⟨_, _, _, h, _⟩
      · exact h
      · cases h
    subst hp
    have : len = 0 := by omega
    subst this
    simp [mbsrtowcs, mbsLoop_len0]

theorem mbsrtowcs_valid_ge (loc : Locale) (ws E tail : List Nat) (hE : encodeAll loc ws = some E) (hz : ∀ c ∈ ws, c ≠ 0)
    (len : Nat) (hlen : ws.length ≤ len) :
    (mbsrtowcs loc false (E ++ 0 :: tail) len []).ret = ws.length ∧
    (mbsrtowcs loc false (E ++ 0 :: tail) len []).out.take ws.length = ws ∧
    (mbsrtowcs loc false (E ++ 0 :: tail) len []).st = [] ∧
    (ws.length < len → (mbsrtowcs loc false (E ++ 0 :: tail) len []).src = none) :=
  mbsrtowcs_valid_ge_st loc ws E tail [] _ hE hz rfl (.inl rfl) len hlen

theorem wcsrtombs_valid_ge (loc : Locale) (ws E tail : List Nat) (hE : encodeAll loc ws = some E) (hz : ∀ c ∈ ws, c ≠ 0)
    (len : Nat) (hlen : E.length ≤ len) :
    (wcsrtombs loc false (ws ++ 0 :: tail) len).ret = E.length ∧
    (wcsrtombs loc false (ws ++ 0 :: tail) len).out.take E.length = E ∧
    (E.length < len → (wcsrtombs loc false (ws ++ 0 :: tail) len).src = none) := by
  obtain ⟨b1, b2⟩ := wcsrtombs_valid loc ws E tail hE hz len
  by_cases h : E.length < len
  · rw [b1 h]; simp
  · obtain ⟨m, p, hm, hp, hpl, hnext, hr⟩ := b2 (by omega)
    have hmeq : m = ws.length := by
      apply Classical.byContradiction; intro hne
      obtain ⟨p', q', hp', _, hsplit⟩ := encodeAll_take loc ws E hE (m + 1)
      have := hnext (by omega) p' hp'
      have hl := congrArg List.length hsplit
      simp only [List.length_append] at hl; omega
    subst hmeq
    rw [List.take_of_length_le (Nat.le_refl _), hE] at hp
    cases hp
    rw [hr]; simp; omega

end SafeC.Conv.Libc
