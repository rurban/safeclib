import SafeC.Proofs.CopyOverlap
/-!
# The concatenations: the overlap is detected wherever it is met

Three ways the operands of a concatenation can meet (dest holds a string of length `dl < dmax`):
* `dest < src ≤ dest + dl` — src lies inside the dest string (its terminator included): the bumper is met while
  `findEnd` scans dest (`findEnd_hits`), or at the first test of the copy loop when `src` IS the terminator;
* `dest + dl < src < dest + dmax` — src lies in the room behind the string: the copy loop runs into it after
  `src - (dest + dl)` characters (`copyLoop_noterm`);
* `src ≤ dest` — the source runs into dest after `dest - src` characters (identical pointers: at once).
-/
namespace SafeC
open Gen

theorem findEnd_hits (cfg : Cfg) (B oD oM : Nat) (hoM : 0 < oM) (g : Nat) :
    ∀ (k d : Nat) (st : St), RW st oD oM → (oD ≤ d ∧ d + k = oD + oM) → g < k →
    (∀ j, j ≤ g → st.data (d + j) ≠ 0) → (∀ j, j < g → d + j ≠ B) → d + g = B →
    ∃ st', exec (findEnd cfg true B oD oM k d) st = .ok (.inl ESOVRLP, st') ∧ OvrlpPost cfg oD oM st st' := by
  intro k d st hrw hinv hgk hnz hnb hb
  obtain ⟨k', hk'⟩ : ∃ k', k - g = k' + 1 := ⟨k - g - 1, by omega⟩
  have hsub : RW st d k := hrw.sub (by omega) (by omega)
  obtain ⟨hm, _, hr⟩ := hsub g hgk
  rw [findEnd_steps cfg true B oD oM k d st g (fun j hj => ⟨(hsub j (by omega)).1, (hsub j (by omega)).2.2⟩) hgk
    (fun j hj => hnz j (by omega)) (fun _ => hnb), hk', findEnd_succ]
  simp only [exec_bind, exec_load_ok _ _ hm hr]
  rw [if_neg (hnz g (Nat.le_refl _)), if_pos ⟨trivial, hb⟩]
  exact handleError_pure cfg oD oM ESOVRLP _ st hrw hoM

/-- the three placements of the header; the bounded concatenations as long as `slen` reaches the meeting point -/
theorem catBody_overlap (cfg : Cfg) (bounded : Bool) (dest dmax src slen dl : Nat) (st : St)
    (hall : ∀ a, st.mapped a = true ∧ st.rd a = true) (hpos : 0 < dmax) (hrw : RW st dest dmax)
    (hdl : dl < dmax) (hdnz : ∀ j, j < dl → st.data (dest+j) ≠ 0) (hdnul : st.data (dest+dl) = 0)
    (hov : (dest < src ∧ src ≤ dest + dl) ∨
      (dest + dl < src ∧ src < dest + dmax ∧ (bounded = true → src - (dest + dl) ≤ slen) ∧
        ∀ j, j < src - (dest + dl) → st.data (src + j) ≠ 0) ∨
      (src ≤ dest ∧ dest - src < dmax - dl ∧ (bounded = true → dest - src ≤ slen) ∧
        ∀ j, j < dest - src → st.data (src + j) ≠ 0)) :
    ∃ st', exec (catBody cfg bounded dest dmax src slen) st = .ok (ESOVRLP, st') ∧
      OvrlpPost cfg dest dmax st st' := by
  -- the copy body started at the terminator of dest meets the bumper after `g` characters
  have loop : ∀ g, ((dest < src ∧ src = dest + dl + g) ∨ (src ≤ dest ∧ dest = src + g)) →
      g < dmax - dl → (bounded = true → g ≤ slen) → (∀ j, j < g → st.data (src + j) ≠ 0) →
      ∃ st', exec (catBody cfg bounded dest dmax src slen) st = .ok (ESOVRLP, st') ∧ OvrlpPost cfg dest dmax st st' := by
    intro g hgeo hg hsl hnz
    rw [catBody_at_end cfg bounded dest dmax src slen dl st hrw hdl hdnz hdnul (by omega)]
    obtain ⟨code, st', he, hc, hp⟩ := cpyBody_noterm cfg bounded dest dmax hpos (dmax - dl) (dest + dl) src g slen
      st hall hrw ⟨by omega, by omega⟩ hgeo (fun j hj _ => hnz j hj)
      (fun h => ⟨fun _ => hsl h, fun h' => absurd hg (Nat.not_lt.2 h')⟩)
    rw [if_pos hg] at hc; subst hc
    exact ⟨st', he, hp⟩
  rcases hov with ⟨h1, h2⟩ | ⟨h1, h2, h3, h4⟩ | ⟨h1, h2, h3, h4⟩
  · by_cases hin : src < dest + dl
    · -- met while scanning dest
      unfold catBody
      rw [if_pos h1]
      obtain ⟨st', he, hp⟩ := findEnd_hits cfg src dest dmax hpos (src - dest) dmax dest st hrw ⟨Nat.le_refl _, rfl⟩
        (by omega) (fun j hj => hdnz j (by omega)) (by intro j hj; omega) (by omega)
      exact ⟨st', by simp only [exec_bind, he]; rfl, hp⟩
    · -- src is the terminator of dest
      exact loop 0 (.inl ⟨h1, by omega⟩) (by omega) (fun _ => Nat.zero_le _) (by intro j hj; omega)
  · exact loop (src - (dest + dl)) (.inl ⟨by omega, by omega⟩) (by omega) h3 h4
  · exact loop (dest - src) (.inr ⟨h1, by omega⟩) h2 h3 h4

/-- **strncat_s / (via `max`) wcsncat_s detect every overlap**: dest holds a string of length `dl < dmax` -/
theorem strncatG_overlap (max : Nat) (cfg : Cfg) (dest dmax src slen dl : Nat) (st : St)
    (hall : ∀ a, st.mapped a = true ∧ st.rd a = true)
    (hd : dest ≠ 0) (hs : src ≠ 0) (hpos : 0 < dmax) (hle : dmax ≤ max) (hslen : 0 < slen) (hslenle : slen ≤ max)
    (hrw : RW st dest dmax)
    (hdl : dl < dmax) (hdnz : ∀ j, j < dl → st.data (dest+j) ≠ 0) (hdnul : st.data (dest+dl) = 0)
    (hov : (dest < src ∧ src ≤ dest + dl) ∨
      (dest + dl < src ∧ src < dest + dmax ∧ src - (dest + dl) ≤ slen ∧
        ∀ j, j < src - (dest + dl) → st.data (src + j) ≠ 0) ∨
      (src ≤ dest ∧ dest - src < dmax - dl ∧ dest - src ≤ slen ∧ ∀ j, j < dest - src → st.data (src + j) ≠ 0)) :
    ∃ st', exec (strncatG max cfg dest dmax src slen none none) st = .ok (ESOVRLP, st') ∧
      OvrlpPost cfg dest dmax st st' := by
  rw [strncatG_eq_body max cfg dest dmax src slen none none hd hs hpos hle hslen hslenle (fun _ h => nomatch h)
    (fun _ h => nomatch h)]
  exact catBody_overlap cfg true dest dmax src slen dl st hall hpos hrw hdl hdnz hdnul
    (hov.imp id (Or.imp (fun h => ⟨h.1, h.2.1, fun _ => h.2.2.1, h.2.2.2⟩)
      (fun h => ⟨h.1, h.2.1, fun _ => h.2.2.1, h.2.2.2⟩)))

/-- **strcat_s / (via `max`) wcscat_s detect every overlap**: the unbounded twin of `strncatG_overlap` -/
theorem strcatG_overlap (max : Nat) (cfg : Cfg) (dest dmax src dl : Nat) (st : St)
    (hall : ∀ a, st.mapped a = true ∧ st.rd a = true)
    (hd : dest ≠ 0) (hs : src ≠ 0) (hpos : 0 < dmax) (hle : dmax ≤ max)
    (hrw : RW st dest dmax)
    (hdl : dl < dmax) (hdnz : ∀ j, j < dl → st.data (dest+j) ≠ 0) (hdnul : st.data (dest+dl) = 0)
    (hov : (dest < src ∧ src ≤ dest + dl) ∨
      (dest + dl < src ∧ src < dest + dmax ∧ ∀ j, j < src - (dest + dl) → st.data (src + j) ≠ 0) ∨
      (src ≤ dest ∧ dest - src < dmax - dl ∧ ∀ j, j < dest - src → st.data (src + j) ≠ 0)) :
    ∃ st', exec (strcatG max cfg dest dmax src none) st = .ok (ESOVRLP, st') ∧
      OvrlpPost cfg dest dmax st st' := by
  rw [strcatG_eq_body max cfg dest dmax src none hd hs hpos hle (fun _ h => nomatch h)]
  exact catBody_overlap cfg false dest dmax src 0 dl st hall hpos hrw hdl hdnz hdnul
    (hov.imp id (Or.imp (fun h => ⟨h.1, h.2.1, fun hb => (nomatch hb), h.2.2⟩)
      (fun h => ⟨h.1, h.2.1, fun hb => (nomatch hb), h.2.2⟩)))

end SafeC
