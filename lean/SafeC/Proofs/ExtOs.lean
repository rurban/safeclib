import SafeC.Proofs.CopyDisjoint
import SafeC.Proofs.ExtCopy
import SafeC.Proofs.Runs
import SafeC.Models.Os
/-!
# `getenv_s` and `strerror_s` on valid operands: exact results, exit by exit

Both functions call the `strcpy_s` / `strncpy_s` / `strcat_s` MODELS; the closing `strcpy_s` is told `innerBos cfg destbos`
about dest's size, which on a usable dest is as good as nothing (`strcpy_s_innerBos`), the other calls nothing.
Setting as in `Proofs/CopyDisjoint.lean`: only the declared extents are
mapped / readable / writable (`RW st dest dmax`, `SrcStr` for the strings the C reads), so
`exec … = .ok …` says nothing faulted and `st'.strays = st.strays` that nothing outside the declared
extents was touched.

`strlenP scanFuel` (libc `strlen`) is handled by `strlenP_ok`: on a `SrcStr st s n` it returns
`min n fuel` and leaves the state alone, so no theorem below needs a bound on the length of `name`, and the
"does not fit" exits need no `n < scanFuel` either (`dmax ≤ RSIZE_MAX_STR < scanFuel`).
-/
namespace SafeC
open Gen

theorem FramePost.of_sameMeta {dest ext : Nat} {st s : St} (hm : SameMeta s st)
    (hf : ∀ a, ¬ (dest ≤ a ∧ a < dest + ext) → s.data a = st.data a) : FramePost dest ext st s :=
  ⟨hm.mapped, hm.rd, hm.wr, hm.strays, hf⟩

theorem SrcStr.tail {st : St} {s n : Nat} (h : SrcStr st s (n+1)) : SrcStr st (s+1) n :=
  ⟨fun j hj => by rw [add_one_add]; exact h.nz (j+1) (Nat.succ_lt_succ hj),
   by rw [add_one_add]; exact h.nul,
   fun j hj => by rw [add_one_add]; exact h.rd (j+1) (Nat.succ_le_succ hj)⟩

theorem SrcStr.of_frame {st st' : St} {s n dest dmax : Nat} (h : SrcStr st s n) (hf : FramePost dest dmax st st')
    (hdisj : Disjoint dest dmax s n) : SrcStr st' s n := by
  unfold Disjoint at hdisj
  refine ⟨?_, ?_, ?_⟩
  · intro j hj
    rw [hf.frame (s+j) (by omega)]; exact h.nz j hj
  · rw [hf.frame (s+n) (by omega)]; exact h.nul
  · intro j hj
    rw [hf.mapped, hf.rd]; exact h.rd j hj

/-- only the cells the scan gets to need be readable (`hrd`) -/
theorem strlenP_first (k s acc n : Nat) (st : St) (hn : n ≤ k) (hnz : ∀ j, j < n → st.data (s+j) ≠ 0)
    (hrd : ∀ j, j ≤ n → j < k → st.mapped (s+j) = true ∧ st.rd (s+j) = true) (hz : n < k → st.data (s+n) = 0) :
    exec (strlenP k s acc) st = .ok (acc + n, st) := by
  induction k generalizing s acc n with
  | zero =>
    have : n = 0 := by omega
    subst this; simp [strlenP]
  | succ k ih =>
    have h0 := hrd 0 (Nat.zero_le _) (Nat.succ_pos k)
    simp only [Nat.add_zero] at h0
    unfold strlenP
    simp only [exec_bind, exec_load_ok _ _ h0.1 h0.2]
    cases n with
    | zero =>
      have := hz (by omega)
      simp only [Nat.add_zero] at this
      simp [this]
    | succ n =>
      have h1 := hnz 0 (by omega)
      simp only [Nat.add_zero] at h1
      rw [if_neg h1]
      rw [ih (s+1) (acc+1) n (Nat.le_of_succ_le_succ hn)
        (fun j hj => by rw [add_one_add]; exact hnz (j+1) (Nat.succ_lt_succ hj))
        (fun j hj hk => by rw [add_one_add]; exact hrd (j+1) (Nat.succ_le_succ hj) (Nat.succ_lt_succ hk))
        (fun h => by rw [add_one_add]; exact hz (Nat.succ_lt_succ h))]
      congr 2; omega

theorem strlenP_ok (fuel s n a : Nat) (st : St) (h : SrcStr st s n) :
    exec (strlenP fuel s a) st = .ok (if n < fuel then a + n else a + fuel, st) := by
  by_cases hn : n < fuel
  · rw [if_pos hn]
    exact strlenP_first fuel s a n st (Nat.le_of_lt hn) h.nz (fun j hj _ => h.rd j hj) (fun _ => h.nul)
  · rw [if_neg hn]
    exact strlenP_first fuel s a fuel st (Nat.le_refl _) (fun j hj => h.nz j (by omega)) (fun j _ hj => h.rd j (by omega))
      (fun h => absurd h (Nat.lt_irrefl _))

theorem strlen_ok (s n : Nat) (st : St) (h : SrcStr st s n) (hn : n < scanFuel) :
    exec (strlenP scanFuel s 0) st = .ok (n, st) := by
  rw [strlenP_ok scanFuel s n 0 st h, if_pos hn, Nat.zero_add]

theorem strlen_runs (s n : Nat) (st : St) (h : SrcStr st s n) :
    Runs (strlenP scanFuel s 0) st (fun r s' => s' = st ∧ (r = n ∨ (scanFuel ≤ r ∧ scanFuel ≤ n))) := by
  refine .of_exec (strlenP_ok scanFuel s n 0 st h) ⟨rfl, ?_⟩
  by_cases hn : n < scanFuel
  · rw [if_pos hn, Nat.zero_add]; exact Or.inl rfl
  · rw [if_neg hn, Nat.zero_add]; exact Or.inr ⟨Nat.le_refl _, by omega⟩

/-- libc `strlen` is modelled with more fuel than any accepted `dmax` -/
theorem RSIZE_lt_scanFuel : RSIZE_MAX_STR < scanFuel := by decide

/-- dest after an exit that leaves no result -/
def DestCleared (cfg : Cfg) (dest dmax : Nat) (s : St) : Prop :=
  s.data dest = 0 ∧ (cfg.slack = true → ∀ i, i < dmax → s.data (dest+i) = 0)

theorem herr_runs (cfg : Cfg) (dest dmax code : Nat) (st : St) (hrw : RW st dest dmax) (hpos : 0 < dmax) :
    Runs (handleError cfg dest dmax code) st (fun _ s => FramePost dest dmax st s ∧
      s.events = st.events ++ [.handler .str code] ∧ DestCleared cfg dest dmax s) := by
  obtain ⟨st', he, hm, hr, hw, hs, hev, h0, hf, hc⟩ :=
    handleError_within cfg dest dmax dmax code st hrw hpos (Nat.le_refl _)
  exact ⟨_, st', he, ⟨hm, hr, hw, hs, hf⟩, hev, h0 (.inl hpos), hc⟩

/-- the `#ifdef SAFECLIB_STR_NULL_SLACK memset(dest, 0, dmax) #else *dest = 0` block of `getenv_s` -/
theorem clear_runs (cfg : Cfg) (dest dmax : Nat) (st : St) (hrw : RW st dest dmax) (hpos : 0 < dmax) :
    Runs (if cfg.slack then memsetP 0 dmax dest else store dest 0) st (fun _ s => FramePost dest dmax st s ∧
      s.events = st.events ∧ DestCleared cfg dest dmax s) := by
  cases hcs : cfg.slack with
  | true =>
    obtain ⟨s1, he, hm, hd⟩ := memsetP_ok 0 dmax dest st hrw
    refine ⟨(), s1, by simpa using he, .of_sameMeta hm fun a ha => by rw [hd a, if_neg ha], hm.events, ?_, fun _ i hi => ?_⟩
    · rw [hd dest, if_pos (by omega)]
    · rw [hd (dest+i), if_pos (by omega)]
  | false =>
    have h0 := hrw 0 hpos
    simp only [Nat.add_zero] at h0
    refine ⟨(), st.upd dest 0, by simp [exec_store_ok _ _ _ h0.1 h0.2.1], ⟨rfl, rfl, rfl, rfl, fun a ha => ?_⟩, rfl,
      by simp, fun h => by rw [hcs] at h; cases h⟩
    exact St.upd_data_ne _ _ _ _ (by intro h; subst h; exact ha ⟨Nat.le_refl _, by omega⟩)

/-- what the closing `strcpy_s` of getenv_s / strerror_s is told about dest's size (switch `fixInnerBos`) -/
def innerBos (cfg : Cfg) (destbos : Bos) : Bos := if cfg.fixInnerBos then destbos else none

theorem strcpy_s_innerBos (cfg : Cfg) (dest dmax src : Nat) (destbos : Bos) (hle : dmax ≤ RSIZE_MAX_STR)
    (hbos : ∀ b, destbos = some b → dmax ≤ b) :
    strcpy_s cfg dest dmax src (innerBos cfg destbos) = strcpy_s cfg dest dmax src none := by
  unfold innerBos
  split
  · unfold strcpy_s strcpyG chkDmaxClear
    rw [chkDmaxClearG_pass _ cfg dest dmax destbos _ _ hle hbos, chkDmaxClearG_pass _ cfg dest dmax none _ _ hle (fun _ h => by cases h)]
  · rfl

/-- what `getenv_s` runs once the entry checks on a usable dest have passed, the closing copy told `ib` about dest's size -/
def getenvBodyB (cfg : Cfg) (hasLen : Bool) (dest dmax name value : Nat) (ib : Bos) : Prog (Nat × Option Nat) :=
  if name = 0 then do
    handleError cfg dest dmax ESNULLP
    pure (ESNULLP, if hasLen then some 0 else none)
  else do
    let _ ← strlenP scanFuel name 0
    if value = 0 then do
      (if cfg.slack then memsetP 0 dmax dest else store dest 0)
      pure (NEG1, if hasLen then some 0 else none)
    else do
      let len1 ← strlenP scanFuel value 0
      if len1 ≥ dmax then do
        handleError cfg dest dmax ESNOSPC
        pure (ESNOSPC, if hasLen then some 0 else none)
      else do
        let _ ← strcpy_s cfg dest dmax value ib
        pure (EOK, if hasLen then some len1 else none)

def getenvBody (cfg : Cfg) (hasLen : Bool) (dest dmax name value : Nat) : Prog (Nat × Option Nat) :=
  getenvBodyB cfg hasLen dest dmax name value none

/-- entry checks of `getenv_s` with `dest ≠ NULL`, `0 < dmax`: passed when `dmax ≤ destbos` (object size known;
NOTE: `dmax` is then not compared with `RSIZE_MAX_STR` at all) resp. `dmax ≤ RSIZE_MAX_STR` (unknown) -/
theorem getenv_s_entry (cfg : Cfg) (hasLen : Bool) (dest dmax name : Nat) (destbos : Bos) (value : Nat)
    (hd : dest ≠ 0) (hpos : 0 < dmax) (hnone : destbos = none → dmax ≤ RSIZE_MAX_STR)
    (hbos : ∀ b, destbos = some b → dmax ≤ b) :
    getenv_s cfg hasLen dest dmax name destbos value = getenvBodyB cfg hasLen dest dmax name value (innerBos cfg destbos) := by
  have hz : dmax ≠ 0 := by omega
  unfold getenv_s getenvBodyB innerBos
  cases destbos with
  | none =>
    have h1 : ¬ dmax > RSIZE_MAX_STR := by have := hnone rfl; omega
    simp only [h1, hd, hz, ne_eq, not_false_eq_true, if_true, true_and, and_self, decide_false,
      Bool.false_eq_true, if_false]
  | some b =>
    have h1 : ¬ dmax > b := by have := hbos b rfl; omega
    simp only [h1, hd, hz, ne_eq, not_false_eq_true, if_true, true_and, and_self, decide_false,
      Bool.false_eq_true, if_false]

theorem getenv_s_enter (cfg : Cfg) (hasLen : Bool) (dest dmax name : Nat) (destbos : Bos) (value : Nat)
    (hd : dest ≠ 0) (hpos : 0 < dmax) (hle : dmax ≤ RSIZE_MAX_STR) (hbos : ∀ b, destbos = some b → dmax ≤ b) :
    getenv_s cfg hasLen dest dmax name destbos value = getenvBody cfg hasLen dest dmax name value := by
  rw [getenv_s_entry cfg hasLen dest dmax name destbos value hd hpos (fun _ => hle) hbos]
  unfold getenvBody getenvBodyB
  rw [strcpy_s_innerBos cfg dest dmax value destbos hle hbos]

/-- every exit of `getenv_s` on a usable dest: which one is taken, what is returned and reported, what dest holds; `n` is
the length of the value -/
def GetenvPost (cfg : Cfg) (hasLen : Bool) (dest dmax name value n : Nat) (st : St) (r : Nat × Option Nat) (s : St) : Prop :=
  FramePost dest dmax st s ∧
  ((name = 0 ∧ r = (ESNULLP, if hasLen then some 0 else none) ∧ s.events = st.events ++ [.handler .str ESNULLP] ∧
      DestCleared cfg dest dmax s) ∨
   -- variable not set (`getenv` returned NULL): -1 and NO handler event
   (name ≠ 0 ∧ value = 0 ∧ r = (NEG1, if hasLen then some 0 else none) ∧ s.events = st.events ∧ DestCleared cfg dest dmax s) ∨
   (name ≠ 0 ∧ value ≠ 0 ∧ dmax ≤ n ∧ r = (ESNOSPC, if hasLen then some 0 else none) ∧
      s.events = st.events ++ [.handler .str ESNOSPC] ∧ DestCleared cfg dest dmax s) ∨
   (name ≠ 0 ∧ value ≠ 0 ∧ n < dmax ∧ r = (EOK, if hasLen then some n else none) ∧ s.events = st.events ∧
      (∀ i, i < n → s.data (dest+i) = st.data (value+i)) ∧ s.data (dest+n) = 0 ∧
      (cfg.slack = true → ∀ i, n ≤ i → i < dmax → s.data (dest+i) = 0)))

/-- **getenv_s, every exit on a usable dest.**  The value is looked at only behind a name, and has to be away from dest only when it fits; no bound on `n` is
needed: libc `strlen` stops at `scanFuel > RSIZE_MAX_STR ≥ dmax` at the latest. -/
theorem getenv_s_runs (cfg : Cfg) (hasLen : Bool) (dest dmax name : Nat) (destbos : Bos) (value k n : Nat) (st : St)
    (hd : dest ≠ 0) (hpos : 0 < dmax) (hle : dmax ≤ RSIZE_MAX_STR) (hbos : ∀ b, destbos = some b → dmax ≤ b)
    (hrw : RW st dest dmax) (hname : name ≠ 0 → SrcStr st name k)
    (hval : name ≠ 0 → value ≠ 0 → SrcStr st value n ∧ (n < dmax → Disjoint dest dmax value n)) :
    Runs (getenv_s cfg hasLen dest dmax name destbos value) st (GetenvPost cfg hasLen dest dmax name value n st) := by
  rw [getenv_s_enter cfg hasLen dest dmax name destbos value hd hpos hle hbos]
  unfold getenvBody getenvBodyB
  by_cases h0 : name = 0
  · rw [if_pos h0]
    exact .bind ((herr_runs cfg dest dmax ESNULLP st hrw hpos).conseq fun _ s ⟨hf, he, hc⟩ =>
      .pure _ ⟨hf, .inl ⟨h0, rfl, he, hc⟩⟩)
  rw [if_neg h0]
  refine .bind_pure (strlen_runs name k st (hname h0)) fun _ _ => ?_
  by_cases hv : value = 0
  · rw [if_pos hv]
    exact .bind ((clear_runs cfg dest dmax st hrw hpos).conseq fun _ s ⟨hf, he, hc⟩ =>
      .pure _ ⟨hf, .inr (.inl ⟨h0, hv, rfl, he, hc⟩)⟩)
  rw [if_neg hv]
  obtain ⟨hsrc, hdisj⟩ := hval h0 hv
  refine .bind_pure (strlen_runs value n st hsrc) fun l hl => ?_
  have hfuel := RSIZE_lt_scanFuel
  by_cases hn : n < dmax
  · have hl' : l = n := by rcases hl with h | h <;> omega
    subst hl'
    rw [if_neg (Nat.not_le.mpr hn)]
    obtain ⟨code, st', he, pm, pr, pw, ps, pf, pok, _⟩ :=
      strcpyG_disjoint RSIZE_MAX_STR cfg dest dmax value l st hd hv hpos hle hrw hsrc (hdisj hn)
    obtain ⟨_, c2, c3, c4, c5⟩ := pok hn
    exact .bind (.of_exec he (.pure _ ⟨⟨pm, pr, pw, ps, pf⟩, .inr (.inr (.inr ⟨h0, hv, hn, rfl, c2, c3, c4, c5⟩))⟩))
  · rw [if_pos (show l ≥ dmax by rcases hl with h | h <;> omega)]
    exact .bind ((herr_runs cfg dest dmax ESNOSPC st hrw hpos).conseq fun _ s ⟨hf, he, hc⟩ =>
      .pure _ ⟨hf, .inr (.inr (.inl ⟨h0, hv, by omega, rfl, he, hc⟩))⟩)

theorem getenv_s_valid_events (cfg : Cfg) (hasLen : Bool) (dest dmax name : Nat) (destbos : Bos) (value k n : Nat) (st : St)
    (hd : dest ≠ 0) (hpos : 0 < dmax) (hle : dmax ≤ RSIZE_MAX_STR) (hbos : ∀ b, destbos = some b → dmax ≤ b)
    (hrw : RW st dest dmax) (hname : name ≠ 0 → SrcStr st name k)
    (hval : value ≠ 0 → SrcStr st value n ∧ Disjoint dest dmax value n) :
    ∃ r st', exec (getenv_s cfg hasLen dest dmax name destbos value) st = .ok (r, st') ∧
      ((st'.events = st.events ∧ (r.1 = EOK ∨ r.1 = NEG1)) ∨
       (r.1 ≠ EOK ∧ r.1 ∈ [ESNULLP, ESLEMAX, ESNOSPC] ∧ st'.events = st.events ++ [.handler .str r.1])) := by
  refine (getenv_s_runs cfg hasLen dest dmax name destbos value k n st hd hpos hle hbos hrw hname
    (fun _ h => ⟨(hval h).1, fun _ => (hval h).2⟩)).conseq fun r s ⟨_, h⟩ => ?_
  rcases h with ⟨_, rfl, he, _⟩ | ⟨_, _, rfl, he, _⟩ | ⟨_, _, _, rfl, he, _⟩ | ⟨_, _, _, rfl, he, _⟩
  · exact .inr ⟨show ESNULLP ≠ EOK by decide, show ESNULLP ∈ [ESNULLP, ESLEMAX, ESNOSPC] by decide, he⟩
  · exact .inl ⟨he, .inr rfl⟩
  · exact .inr ⟨show ESNOSPC ≠ EOK by decide, show ESNOSPC ∈ [ESNULLP, ESLEMAX, ESNOSPC] by decide, he⟩
  · exact .inl ⟨he, .inl rfl⟩

/-- **getenv_s with a known object size does not check `dmax ≤ RSIZE_MAX_STR`** (recorded finding; the statement is
about the model with the switch `fixInnerBos` off, i.e. the closing copy told nothing about dest's size): with
`destbos = some b` and `RSIZE_MAX_STR < dmax ≤ b`, a set variable whose value is shorter than `dmax`: `getenv_s`
returns `EOK` and `*len = n`, but the inner `strcpy_s(dest, dmax, buf)` (object size unknown there) rejects `dmax`:
the constraint handler IS invoked with `ESLEMAX` and dest is left exactly as it was (not terminated, not cleared). -/
theorem getenv_s_bos_lemax (cfg : Cfg) (hfx : cfg.fixInnerBos = false) (hasLen : Bool) (dest dmax name b value k n : Nat) (st : St)
    (hd : dest ≠ 0) (hgt : RSIZE_MAX_STR < dmax) (hb : dmax ≤ b)
    (hname : name ≠ 0) (hnm : SrcStr st name k)
    (hv : value ≠ 0) (hval : SrcStr st value n) (hn : n < dmax) (hfuel : n < scanFuel) :
    exec (getenv_s cfg hasLen dest dmax name (some b) value) st
      = .ok ((EOK, if hasLen then some n else none),
             { st with events := st.events ++ [.handler .str ESLEMAX] }) := by
  have hpos : 0 < dmax := by omega
  rw [getenv_s_entry cfg hasLen dest dmax name (some b) value hd hpos (fun h => by cases h)
    (fun b' h => by cases h; exact hb)]
  have hib : innerBos cfg (some b) = none := by simp [innerBos, hfx]
  rw [hib]
  unfold getenvBodyB
  have hr := strlenP_ok scanFuel name k 0 st hnm
  have hl := strlen_ok value n st hval hfuel
  have hnge : ¬ n ≥ dmax := by omega
  have hz : dmax ≠ 0 := by omega
  rw [if_neg hname]
  simp only [exec_bind, hr]
  rw [if_neg hv]
  simp only [exec_bind, hl]
  rw [if_neg hnge]
  simp only [strcpy_s, strcpyG, chkDmaxClear, chkDmaxClearG]
  rw [if_neg hd, if_neg hz, if_pos hgt]
  simp [exec_bind, handlerS]

theorem strerrorlen_s_libc (errnum msg n : Nat) (st : St) (h : isSafeclibErr errnum = false)
    (hsrc : SrcStr st msg n) :
    ∃ r, exec (strerrorlen_s errnum msg) st = .ok (r, st) ∧ (r = n ∨ (scanFuel ≤ r ∧ scanFuel ≤ n)) := by
  unfold strerrorlen_s
  simp only [h, Bool.false_eq_true, if_false]
  obtain ⟨r, _, he, rfl, hr⟩ := strlen_runs msg n st hsrc
  exact ⟨r, he, hr⟩

theorem strerrorlen_s_libc_eq (errnum msg n : Nat) (st : St) (h : isSafeclibErr errnum = false)
    (hsrc : SrcStr st msg n) (hn : n < scanFuel) :
    exec (strerrorlen_s errnum msg) st = .ok (n, st) := by
  unfold strerrorlen_s
  simp only [h, Bool.false_eq_true, if_false]
  exact strlen_ok msg n st hsrc hn

/-- what `strerror_s` runs once the entry checks have passed -/
def strerrorBody (cfg : Cfg) (dest dmax errnum msg dots : Nat) : Prog Nat := do
  let len ← strerrorlen_s errnum msg
  if len < dmax then do
    let _ ← strcpy_s cfg dest dmax msg none
    pure EOK
  else if dmax > 3 then do
    let _ ← strncpy_s cfg dest dmax msg (dmax - 4) none none
    let _ ← strcat_s cfg dest dmax dots none
    pure EOK
  else do
    handleError cfg dest dmax ESLEMIN
    pure ESLEMIN

theorem strerror_s_enter (cfg : Cfg) (dest dmax errnum : Nat) (destbos : Bos) (msg dots : Nat)
    (hd : dest ≠ 0) (hpos : 0 < dmax) (hle : dmax ≤ RSIZE_MAX_STR) (hbos : ∀ b, destbos = some b → dmax ≤ b) :
    strerror_s cfg dest dmax errnum destbos msg dots = strerrorBody cfg dest dmax errnum msg dots := by
  have hi := strcpy_s_innerBos cfg dest dmax msg destbos hle hbos
  unfold innerBos at hi
  unfold strerror_s strerrorBody
  rw [if_neg hd, if_neg (Nat.pos_iff_ne_zero.mp hpos), chkDmax_pass dmax destbos _ _ hle hbos, hi]

/-- `strncpy_s(dest, dmax, msg, dmax-4)` as `strerror_s` calls it (`3 < dmax`): the first `dmax-4` characters (all
non-NUL) are copied and terminated.  `dmax = 4` is the `slen == 0` shortcut (`*dest = 0`, slack NOT nulled: recorded
finding `strncpy-slen0-shortcut`), so nothing is claimed behind the terminator here. -/
theorem strncpy_prefix (cfg : Cfg) (dest dmax msg : Nat) (st : St)
    (hd : dest ≠ 0) (h3 : 3 < dmax) (hle : dmax ≤ RSIZE_MAX_STR) (hrw : RW st dest dmax) (hm : msg ≠ 0)
    (hnz : ∀ j, j < dmax - 4 → st.data (msg+j) ≠ 0)
    (hrd : ∀ j, j < dmax - 4 → st.mapped (msg+j) = true ∧ st.rd (msg+j) = true)
    (hdisj : dest + dmax ≤ msg ∨ msg + (dmax - 4) < dest) :
    Runs (strncpy_s cfg dest dmax msg (dmax - 4) none none) st (fun _ s1 => FramePost dest dmax st s1 ∧
      s1.events = st.events ∧
      (∀ i, i < dmax - 4 → s1.data (dest+i) = st.data (msg+i)) ∧ s1.data (dest+(dmax-4)) = 0) := by
  by_cases h4 : dmax = 4
  · subst h4
    have h0 := hrw 0 (by omega)
    simp only [Nat.add_zero] at h0
    refine ⟨EOK, st.upd dest 0, ?_, ⟨rfl, rfl, rfl, rfl, fun a ha => ?_⟩, rfl, fun i hi => by omega, by simp⟩
    · unfold strncpy_s strncpyG
      have : (4 - 4 = 0 ∧ dest ≠ 0 ∧ 4 ≠ 0) := ⟨rfl, hd, by omega⟩
      rw [if_pos this]
      simp [exec_bind, exec_store_ok _ _ _ h0.1 h0.2.1]
    · exact St.upd_data_ne _ _ _ _ (by intro h; subst h; exact ha ⟨Nat.le_refl _, by omega⟩)
  · obtain ⟨code, s1, he, pm, pr, pw, ps, pf, pok, _⟩ :=
      strncpyG_disjoint RSIZE_MAX_STR cfg dest dmax msg (dmax - 4) (dmax - 4) st hd hm (by omega) hle
        (by omega) (by omega) hrw hnz hrd (Or.inr rfl) hdisj
    obtain ⟨_, c2, c3, c4, _⟩ := pok (by omega)
    exact ⟨code, s1, he, ⟨pm, pr, pw, ps, pf⟩, c2, c3, c4⟩

/-- what the truncating exit of `strerror_s` reads: the first `dmax-4` characters of the message and the literal `"..."`, both
away from dest.  `msg + (dmax-4) < dest` is strict (the `bounded-copy-src-ends-at-dest` class). -/
structure TruncOk (st : St) (dest dmax msg dots : Nat) : Prop where
  nz : ∀ j, j < dmax - 4 → st.data (msg+j) ≠ 0
  rd : ∀ j, j < dmax - 4 → st.mapped (msg+j) = true ∧ st.rd (msg+j) = true
  disj : dest + dmax ≤ msg ∨ msg + (dmax - 4) < dest
  dnz : dots ≠ 0
  str : SrcStr st dots 3
  ddisj : Disjoint dest dmax dots 3
  h46 : st.data dots = 46 ∧ st.data (dots+1) = 46 ∧ st.data (dots+2) = 46

/-- every exit of `strerror_s` on a usable dest; `len` is what `strerrorlen_s` answered -/
def StrerrPost (cfg : Cfg) (dest dmax msg len : Nat) (st : St) (r : Nat) (s : St) : Prop :=
  FramePost dest dmax st s ∧
  ((len < dmax ∧ r = EOK ∧ s.events = st.events ∧
      (∀ i, i < len → s.data (dest+i) = st.data (msg+i)) ∧ s.data (dest+len) = 0 ∧
      (cfg.slack = true → ∀ i, len ≤ i → i < dmax → s.data (dest+i) = 0)) ∨
   -- truncation to the first `dmax-4` characters and `"..."`; `dmax = 4` included (dest = `"..."`)
   (dmax ≤ len ∧ 3 < dmax ∧ r = EOK ∧ s.events = st.events ∧
      (∀ i, i < dmax - 4 → s.data (dest+i) = st.data (msg+i)) ∧
      s.data (dest + (dmax-4)) = 46 ∧ s.data (dest + (dmax-3)) = 46 ∧ s.data (dest + (dmax-2)) = 46 ∧
      s.data (dest + (dmax-1)) = 0) ∨
   (dmax ≤ len ∧ dmax ≤ 3 ∧ r = ESLEMIN ∧ s.events = st.events ++ [.handler .str ESLEMIN] ∧ DestCleared cfg dest dmax s))

/-- **strerror_s, every exit on a usable dest.**  `hlen`: what `strerrorlen_s` answers (for the library's own codes the table
value, see `strerrorlen_s_own` in `Props/C06Os.lean`; otherwise `strlen msg`, see `strerrorlen_s_libc_eq`).  When it is below
`dmax` it has to be the length of the message text at `msg`. -/
theorem strerror_s_runs (cfg : Cfg) (dest dmax errnum : Nat) (destbos : Bos) (msg dots len : Nat) (st : St)
    (hd : dest ≠ 0) (hpos : 0 < dmax) (hle : dmax ≤ RSIZE_MAX_STR) (hbos : ∀ b, destbos = some b → dmax ≤ b)
    (hrw : RW st dest dmax) (hlen : exec (strerrorlen_s errnum msg) st = .ok (len, st)) (hm : len < dmax ∨ 3 < dmax → msg ≠ 0)
    (hfit : len < dmax → SrcStr st msg len ∧ Disjoint dest dmax msg len)
    (htr : dmax ≤ len → 3 < dmax → TruncOk st dest dmax msg dots) :
    Runs (strerror_s cfg dest dmax errnum destbos msg dots) st (StrerrPost cfg dest dmax msg len st) := by
  rw [strerror_s_enter cfg dest dmax errnum destbos msg dots hd hpos hle hbos]
  unfold strerrorBody
  refine .bind (.of_exec hlen ?_)
  by_cases hn : len < dmax
  · rw [if_pos hn]
    obtain ⟨code, st', he, pm, pr, pw, ps, pf, pok, _⟩ :=
      strcpyG_disjoint RSIZE_MAX_STR cfg dest dmax msg len st hd (hm (.inl hn)) hpos hle hrw (hfit hn).1 (hfit hn).2
    obtain ⟨_, c2, c3, c4, c5⟩ := pok hn
    exact .bind (.of_exec he (.pure _ ⟨⟨pm, pr, pw, ps, pf⟩, .inl ⟨hn, rfl, c2, c3, c4, c5⟩⟩))
  rw [if_neg hn]
  by_cases h3 : 3 < dmax
  · rw [if_pos h3]
    have t := htr (by omega) h3
    refine .bind ((strncpy_prefix cfg dest dmax msg st hd h3 hle hrw (hm (.inr h3)) t.nz t.rd t.disj).conseq
      fun _ s1 ⟨f1, e1, p1, z1⟩ => ?_)
    have hdd := t.ddisj
    obtain ⟨c2, s2, he2, m2, r2, w2, t2, f2, pok, _⟩ :=
      strcatG_disjoint RSIZE_MAX_STR cfg dest dmax dots (dmax - 4) 3 s1 hd t.dnz hpos hle
        (fun i hi => by rw [f1.mapped, f1.wr, f1.rd]; exact hrw i hi) (t.str.of_frame f1 hdd) hdd
        (by omega) (by intro j hj; rw [p1 j hj]; exact t.nz j hj) z1
    obtain ⟨_, e2, q1, q2, q3, _⟩ := pok (by omega)
    -- the three cells of the literal as the concatenation read them: `f1` left them alone
    have hdots : ∀ j, j < 3 → s2.data (dest + (dmax - 4) + j) = st.data (dots + j) := fun j hj => by
      unfold Disjoint at hdd
      rw [q2 j hj, f1.frame _ (by omega)]
    refine .bind (.of_exec he2 (.pure _ ⟨f1.trans ⟨m2, r2, w2, t2, f2⟩, .inr (.inl ⟨by omega, h3, rfl, e2.trans e1,
      fun i hi => by rw [q1 i hi, p1 i hi], ?_, ?_, ?_, ?_⟩)⟩))
    · have := hdots 0 (by omega)
      rwa [Nat.add_zero, Nat.add_zero, t.h46.1] at this
    · have := hdots 1 (by omega)
      rwa [show dest + (dmax - 4) + 1 = dest + (dmax - 3) by omega, t.h46.2.1] at this
    · have := hdots 2 (by omega)
      rwa [show dest + (dmax - 4) + 2 = dest + (dmax - 2) by omega, t.h46.2.2] at this
    · rwa [show dest + (dmax - 4) + 3 = dest + (dmax - 1) by omega] at q3
  · rw [if_neg h3]
    exact .bind ((herr_runs cfg dest dmax ESLEMIN st hrw hpos).conseq fun _ s ⟨hf, he, hc⟩ =>
      .pure _ ⟨hf, .inr (.inr ⟨by omega, by omega, rfl, he, hc⟩)⟩)

/-- the same in terms of the message string: `msg` holds a string of `n` characters and `strerrorlen_s` answers `n`, or both
are at least `dmax` (libc `strlen` running out of fuel on a message longer than `scanFuel`; then the message does not fit
either way) -/
theorem strerror_s_runs_src (cfg : Cfg) (dest dmax errnum : Nat) (destbos : Bos) (msg dots n len : Nat) (st : St)
    (hd : dest ≠ 0) (hpos : 0 < dmax) (hle : dmax ≤ RSIZE_MAX_STR) (hbos : ∀ b, destbos = some b → dmax ≤ b)
    (hrw : RW st dest dmax) (hlen : exec (strerrorlen_s errnum msg) st = .ok (len, st))
    (hagree : len = n ∨ (dmax ≤ len ∧ dmax ≤ n))
    (hm : msg ≠ 0) (hsrc : SrcStr st msg n) (hdisj : Disjoint dest dmax msg n)
    (hdots : dots ≠ 0) (hds : SrcStr st dots 3) (hdd : Disjoint dest dmax dots 3)
    (h46 : st.data dots = 46 ∧ st.data (dots+1) = 46 ∧ st.data (dots+2) = 46) :
    Runs (strerror_s cfg dest dmax errnum destbos msg dots) st (StrerrPost cfg dest dmax msg len st) := by
  refine strerror_s_runs cfg dest dmax errnum destbos msg dots len st hd hpos hle hbos hrw hlen (fun _ => hm) (fun h => ?_) fun h _ => ?_
  · have : len = n := by omega
    subst this; exact ⟨hsrc, hdisj⟩
  · have hn : dmax ≤ n := by omega
    exact ⟨fun j hj => hsrc.nz j (by omega), fun j hj => hsrc.rd j (by omega),
      by unfold Disjoint at hdisj; omega, hdots, hds, hdd, h46⟩

theorem strerror_s_nul (cfg : Cfg) (dest dmax errnum : Nat) (destbos : Bos) (msg dots n len : Nat) (st : St)
    (hd : dest ≠ 0) (hpos : 0 < dmax) (hle : dmax ≤ RSIZE_MAX_STR) (hbos : ∀ b, destbos = some b → dmax ≤ b)
    (hrw : RW st dest dmax) (hlen : exec (strerrorlen_s errnum msg) st = .ok (len, st))
    (hagree : len = n ∨ (dmax ≤ len ∧ dmax ≤ n))
    (hm : msg ≠ 0) (hsrc : SrcStr st msg n) (hdisj : Disjoint dest dmax msg n)
    (hdots : dots ≠ 0) (hds : SrcStr st dots 3) (hdd : Disjoint dest dmax dots 3)
    (h46 : st.data dots = 46 ∧ st.data (dots+1) = 46 ∧ st.data (dots+2) = 46) :
    ∃ code st', exec (strerror_s cfg dest dmax errnum destbos msg dots) st = .ok (code, st') ∧
      ∃ i, i < dmax ∧ st'.data (dest + i) = 0 := by
  refine (strerror_s_runs_src cfg dest dmax errnum destbos msg dots n len st hd hpos hle hbos hrw hlen hagree hm hsrc hdisj
    hdots hds hdd h46).conseq fun r s ⟨_, h⟩ => ?_
  rcases h with ⟨hn, _, _, _, hz, _⟩ | ⟨_, _, _, _, _, _, _, _, hz⟩ | ⟨_, _, _, _, hc⟩
  · exact ⟨len, hn, hz⟩
  · exact ⟨dmax - 1, Nat.sub_lt hpos Nat.one_pos, hz⟩
  · exact ⟨0, hpos, hc.1⟩

theorem strerror_s_valid_events (cfg : Cfg) (dest dmax errnum : Nat) (destbos : Bos) (msg dots n len : Nat) (st : St)
    (hd : dest ≠ 0) (hpos : 0 < dmax) (hle : dmax ≤ RSIZE_MAX_STR) (hbos : ∀ b, destbos = some b → dmax ≤ b)
    (hrw : RW st dest dmax) (hlen : exec (strerrorlen_s errnum msg) st = .ok (len, st))
    (hagree : len = n ∨ (dmax ≤ len ∧ dmax ≤ n))
    (hm : msg ≠ 0) (hsrc : SrcStr st msg n) (hdisj : Disjoint dest dmax msg n)
    (hdots : dots ≠ 0) (hds : SrcStr st dots 3) (hdd : Disjoint dest dmax dots 3)
    (h46 : st.data dots = 46 ∧ st.data (dots+1) = 46 ∧ st.data (dots+2) = 46) :
    ∃ r st', exec (strerror_s cfg dest dmax errnum destbos msg dots) st = .ok (r, st') ∧
      ((st'.events = st.events ∧ r = EOK) ∨ (r = ESLEMIN ∧ st'.events = st.events ++ [.handler .str ESLEMIN])) := by
  refine (strerror_s_runs_src cfg dest dmax errnum destbos msg dots n len st hd hpos hle hbos hrw hlen hagree hm hsrc hdisj
    hdots hds hdd h46).conseq fun r s ⟨_, h⟩ => ?_
  rcases h with ⟨_, hr, he, _⟩ | ⟨_, _, hr, he, _⟩ | ⟨_, _, hr, he, _⟩
  · exact .inl ⟨he, hr⟩
  · exact .inl ⟨he, hr⟩
  · exact .inr ⟨hr, he⟩

/-! A concrete state for the non-vacuity `example`s of `Props/C0{3,4,8}Ext.lean` and `Props/C05Os.lean`:
dest = 100 (8 cells, filled with 7), value = 200 `"aa"`, name = 300 `"A"`, msg = 400 (eleven `d`), dots = 500 `"..."`;
only these extents are mapped and readable, only dest is writable. -/
def osExSt : St :=
  { data := fun a =>
      if 100 ≤ a ∧ a < 108 then 7 else if 200 ≤ a ∧ a < 202 then 97 else if a = 300 then 65
      else if 400 ≤ a ∧ a < 411 then 100 else if 500 ≤ a ∧ a < 503 then 46 else 0
    mapped := fun a => decide (100 ≤ a ∧ a < 108 ∨ 200 ≤ a ∧ a < 203 ∨ 300 ≤ a ∧ a < 302 ∨ 400 ≤ a ∧ a < 412 ∨ 500 ≤ a ∧ a < 504)
    rd := fun a => decide (100 ≤ a ∧ a < 108 ∨ 200 ≤ a ∧ a < 203 ∨ 300 ≤ a ∧ a < 302 ∨ 400 ≤ a ∧ a < 412 ∨ 500 ≤ a ∧ a < 504)
    wr := fun a => decide (100 ≤ a ∧ a < 108) }

theorem osExSt_rw : RW osExSt 100 8 := by
  intro i hi
  simp only [osExSt, decide_eq_true_eq]
  omega

theorem osExSt_str (s n : Nat) (h : (s = 200 ∧ n = 2) ∨ (s = 300 ∧ n = 1) ∨ (s = 400 ∧ n = 11) ∨ (s = 500 ∧ n = 3)) :
    SrcStr osExSt s n := by
  refine ⟨fun j hj => ?_, ?_, fun j hj => ?_⟩
  · -- `osExSt.data` is a table of ranges; the row of `s + j` is found by rewriting
    simp only [osExSt]
    rcases h with ⟨rfl, rfl⟩ | ⟨rfl, rfl⟩ | ⟨rfl, rfl⟩ | ⟨rfl, rfl⟩
    · rw [if_neg (by omega), if_pos (by omega)]
      decide
    · rw [if_neg (by omega), if_neg (by omega), if_pos (by omega)]
      decide
    · rw [if_neg (by omega), if_neg (by omega), if_neg (by omega), if_pos (by omega)]
      decide
    · rw [if_neg (by omega), if_neg (by omega), if_neg (by omega), if_neg (by omega), if_pos (by omega)]
      decide
  · rcases h with ⟨rfl, rfl⟩ | ⟨rfl, rfl⟩ | ⟨rfl, rfl⟩ | ⟨rfl, rfl⟩
    all_goals decide
  · simp only [osExSt, decide_eq_true_eq]
    rcases h with ⟨rfl, rfl⟩ | ⟨rfl, rfl⟩ | ⟨rfl, rfl⟩ | ⟨rfl, rfl⟩
    all_goals omega

theorem osExSt_dots : osExSt.data 500 = 46 ∧ osExSt.data (500+1) = 46 ∧ osExSt.data (500+2) = 46 := by
  simp [osExSt]

end SafeC
