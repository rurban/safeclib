import SafeC.Proofs.SW
import SafeC.Proofs.AccMem
/-!
# `SW` for the memory family (`Models/Mem.lean`): instances of the `Acc` footprints of `AccMem.lean`; and `bosSmall`, a hypothesis of the
C01 statements of `Props/C01ExtMem.lean`
-/
namespace SafeC
open Mem

theorem SW_primSetElems {lo hi : Nat} (dest len value : Nat) (h : len % 4294967296 = 0 ∨ (lo ≤ dest ∧ dest + len % 4294967296 ≤ hi)) :
    SW lo hi (primSetElems dest len value) (fun _ => True) :=
  SW.of_Acc (Acc_primSetElems dest len value fun a ha => by
    have h1 := ha.1; have h2 : a < dest + len % 4294967296 := ha.2
    exact ⟨by omega, by omega⟩)

theorem SW_mem_prim_set16 {lo hi : Nat} (dest len value : Nat) (h : len % U32 = 0 ∨ (lo ≤ dest ∧ dest + len % U32 ≤ hi)) :
    SW lo hi (mem_prim_set16 dest len value) (fun _ => True) := SW_primSetElems _ _ _ h

/-! ## `bosSmall`: what the C01 statements of `memcpy_s` / `memmove_s` ask of a known dest object size -/

/-- `dmax < 2^32` when the dest object size is known.  (Unknown: the library's own check gives `dmax ≤ RSIZE_MAX_MEM < 2^32`.
Known: that check is skipped, and a length that is a multiple of 2^32 reaches `mem_prim_move` as 0.) -/
def bosSmall (dmax : Nat) : Bos → Prop
  | none => True
  | some _ => dmax < 4294967296

/-- what `Acc_memcpy_s` / `Acc_memmove_s` ask about `slen mod 2^32` -/
theorem bosSmall.hU {dmax slen : Nat} {db : Bos} (hb : bosSmall dmax db) :
    db = none ∨ (slen ≠ 0 → slen ≤ dmax → slen % U32 ≠ 0) := by
  cases db with
  | none => exact Or.inl rfl
  | some b => exact Or.inr fun h0 hle => by have : dmax < 4294967296 := hb; rw [U32_eq]; omega

end SafeC
