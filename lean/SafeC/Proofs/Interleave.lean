import SafeC.Models.Timing
/-!
# Threads on one memory: steps, schedules, footprints of a run (C12)

Two `Prog`s are run as two threads whose atomic steps (`step`: one `load`, `store` or `emit`) are
interleaved by an arbitrary schedule on ONE shared memory (`runSched`).  `runT` is the total run of `Models/Timing.lean`
(mapping and permissions ignored).  `Within2 R W p s`: the total run of `p`
from `s` loads from `R` and stores to `W`; `Within F` does not tell loads from stores (`Within F` = `Within2 F F`,
and its congruence and frame lemmas are read off the two-footprint ones).  The interleaving theorems
are in `InterleaveN.lean`.

The bridge to the guarded semantics (`exec`, with faults and stray recording): a run that neither faults nor
records a new stray touches declared cells only (`within2_of_clean`, in `Footprint.lean`; the converse is
`within2_sound`); `exec_eq_runT` identifies the guarded run with the total one.  The footprint hypotheses of the
interleaving theorems are discharged by the footprint theorems of `Proofs/Acc*.lean` (`AccS.within2`).

Values, `Within` and `runT` depend on a state through `St.data` only: the congruence lemmas relate
states by `AgreeOn` (agreement of `data` on a set of cells) and say nothing about
`mapped/rd/wr/events/strays`.
-/
namespace SafeC

/-- one atomic step of a thread (total semantics: mapping ignored, as in `runT`) -/
def step : Prog α → St → Prog α × St
  | .ret x, s => (.ret x, s)
  | .load a k, s => (k (s.data a), s)
  | .store a v k, s => (k, s.upd a v)
  | .emit e k, s => (k, { s with events := s.events ++ [e] })

def done : Prog α → Bool
  | .ret _ => true
  | _ => false

def Within (F : Nat → Prop) : Prog α → St → Prop
  | .ret _, _ => True
  | .load a k, s => F a ∧ Within F (k (s.data a)) s
  | .store a v k, s => F a ∧ Within F k (s.upd a v)
  | .emit e k, s => Within F k { s with events := s.events ++ [e] }

/-- schedule: `true` = thread A takes a step, `false` = thread B -/
def runSched : List Bool → Prog α → Prog β → St → Prog α × Prog β × St
  | [], pa, pb, s => (pa, pb, s)
  | true :: sch, pa, pb, s => let (pa', s') := step pa s; runSched sch pa' pb s'
  | false :: sch, pa, pb, s => let (pb', s') := step pb s; runSched sch pa pb' s'

def AgreeOn (F : Nat → Prop) (s s' : St) : Prop := ∀ a, F a → s.data a = s'.data a

theorem AgreeOn.refl (F : Nat → Prop) (s : St) : AgreeOn F s s := fun _ _ => rfl

theorem AgreeOn.of_data_eq {F : Nat → Prop} {s s' : St} (h : s.data = s'.data) : AgreeOn F s s' :=
  fun a _ => by rw [h]

theorem AgreeOn.upd {F : Nat → Prop} {s s' : St} (h : AgreeOn F s s') (a v : Nat) :
    AgreeOn F (s.upd a v) (s'.upd a v) := by
  intro x hx
  simp only [St.upd_data]
  split
  · rfl
  · exact h x hx

theorem AgreeOn.upd_left {F : Nat → Prop} (s : St) (a v : Nat) (ha : ¬ F a) :
    AgreeOn F (s.upd a v) s := by
  intro x hx
  simp only [St.upd_data]
  split
  · next h => subst h; exact absurd hx ha
  · rfl

def Within2 (R W : Nat → Prop) : Prog α → St → Prop
  | .ret _, _ => True
  | .load a k, s => R a ∧ Within2 R W (k (s.data a)) s
  | .store a v k, s => W a ∧ Within2 R W k (s.upd a v)
  | .emit e k, s => Within2 R W k { s with events := s.events ++ [e] }

theorem Within2.toWithin {R W F : Nat → Prop} (hr : ∀ a, R a → F a) (hw : ∀ a, W a → F a) (p : Prog α) (s : St) :
    Within2 R W p s → Within F p s := by
  induction p generalizing s with
  | ret x => intro _; trivial
  | load a k ih => intro ⟨hf, h⟩; exact ⟨hr a hf, ih _ s h⟩
  | store a v k ih => intro ⟨hf, h⟩; exact ⟨hw a hf, ih _ h⟩
  | emit e k ih => intro h; exact ih _ h

theorem Within2.within {R W : Nat → Prop} (p : Prog α) (s : St) :
    Within2 R W p s → Within (fun a => R a ∨ W a) p s :=
  Within2.toWithin (fun _ => Or.inl) (fun _ => Or.inr) p s

theorem within2_of_within {F : Nat → Prop} (p : Prog α) (s : St) : Within F p s → Within2 F F p s := by
  induction p generalizing s with
  | ret x => intro _; trivial
  | load a k ih => intro ⟨hf, hw⟩; exact ⟨hf, ih _ s hw⟩
  | store a v k ih => intro ⟨hf, hw⟩; exact ⟨hf, ih _ hw⟩
  | emit e k ih => intro hw; exact ih _ hw

/-- the footprint of a run depends only on the cells it LOADS -/
theorem within2_congr {R W : Nat → Prop} (p : Prog α) (s s' : St) (h : AgreeOn R s s') :
    Within2 R W p s → Within2 R W p s' := by
  induction p generalizing s s' with
  | ret x => intro _; trivial
  | load a k ih =>
    intro ⟨hf, hw⟩
    refine ⟨hf, ?_⟩
    rw [← h a hf]
    exact ih (s.data a) s s' h hw
  | store a v k ih =>
    intro ⟨hf, hw⟩
    exact ⟨hf, ih _ _ (h.upd a v) hw⟩
  | emit e k ih =>
    intro hw
    exact ih { s with events := s.events ++ [e] } { s' with events := s'.events ++ [e] }
      (fun a ha => h a ha) hw

/-- a run leaves every cell it is not entitled to STORE to alone (cells it only reads included) -/
theorem runT_frame2 {R W : Nat → Prop} (p : Prog α) (s : St) (hw : Within2 R W p s) :
    ∀ a, ¬ W a → (runT p s).2.data a = s.data a := by
  induction p generalizing s with
  | ret x => intro a _; rfl
  | load a k ih => intro x hx; exact ih (s.data a) s hw.2 x hx
  | store a v k ih =>
    intro x hx
    have := ih (s.upd a v) hw.2 x hx
    simp only [runT]
    rw [this]
    exact AgreeOn.upd_left (F := fun y => ¬ W y) s a v (fun h => h hw.1) x hx
  | emit e k ih => intro x hx; exact ih _ hw x hx

theorem within_congr {F : Nat → Prop} (p : Prog α) (s s' : St) (h : AgreeOn F s s') :
    Within F p s → Within F p s' :=
  fun hw => Within2.toWithin (fun _ => id) (fun _ => id) p s' (within2_congr p s s' h (within2_of_within p s hw))

theorem runT_frame {F : Nat → Prop} (p : Prog α) (s : St) (hw : Within F p s) :
    ∀ a, ¬ F a → (runT p s).2.data a = s.data a :=
  runT_frame2 p s (within2_of_within p s hw)

theorem runT_congr {F : Nat → Prop} (p : Prog α) (s s' : St) (h : AgreeOn F s s')
    (hw : Within F p s) :
    (runT p s).1 = (runT p s').1 ∧ AgreeOn F (runT p s).2 (runT p s').2 := by
  induction p generalizing s s' with
  | ret x => exact ⟨rfl, h⟩
  | load a k ih =>
    simp only [runT]
    rw [← h a hw.1]
    exact ih (s.data a) s s' h hw.2
  | store a v k ih =>
    exact ih (s.upd a v) (s'.upd a v) (h.upd a v) hw.2
  | emit e k ih =>
    exact ih _ _ (fun a ha => h a ha) hw

/-- the value returned, the final memory and the trace depend on the memory contents only
(not on the recorded events / strays) -/
theorem _root_.SafeC.Props.C19.data_congr (p : Prog α) (s s' : St) (h : s.data = s'.data) :
    (runT p s).1 = (runT p s').1 ∧ (runT p s).2.data = (runT p s').2.data ∧
      trace p s = trace p s' := by
  induction p generalizing s s' with
  | ret x => exact ⟨rfl, h, rfl⟩
  | load a k ih =>
    simp only [runT, trace, h]
    obtain ⟨h1, h2, h3⟩ := ih (s'.data a) s s' h
    exact ⟨h1, h2, by rw [h3]⟩
  | store a v k ih =>
    have hu : (s.upd a v).data = (s'.upd a v).data := by simp only [St.upd, h]
    simp only [runT, trace]
    obtain ⟨h1, h2, h3⟩ := ih (s.upd a v) (s'.upd a v) hu
    exact ⟨h1, h2, by rw [h3]⟩
  | emit e k ih =>
    cases e with
    | branch b =>
      simp only [runT, trace]
      obtain ⟨h1, h2, h3⟩ := ih { s with events := s.events ++ [.branch b] }
        { s' with events := s'.events ++ [.branch b] } h
      exact ⟨h1, h2, by rw [ih s s' h |>.2.2]⟩
    | handler kd c =>
      simp only [runT, trace]
      obtain ⟨h1, h2, h3⟩ := ih { s with events := s.events ++ [.handler kd c] }
        { s' with events := s'.events ++ [.handler kd c] } h
      exact ⟨h1, h2, by rw [ih s s' h |>.2.2]⟩

theorem within_data_congr {F : Nat → Prop} (p : Prog α) (s s' : St) (h : s.data = s'.data) :
    Within F p s → Within F p s' :=
  within_congr p s s' (AgreeOn.of_data_eq h)

theorem strays_grow_absurd {l : List Access} {x : Access} {e : List Access}
    (h : (l ++ [x]) ++ e = l) : False := by
  have := congrArg List.length h
  simp at this

theorem exec_eq_runT_aux (p : Prog α) (s t : St) {r : α} {s' : St} (hd : s.data = t.data)
    (h : exec p s = .ok (r, s')) :
    (runT p t).1 = r ∧ (runT p t).2.data = s'.data := by
  induction p generalizing s t with
  | ret x =>
    obtain ⟨rfl, rfl⟩ := h
    exact ⟨rfl, hd.symm⟩
  | load a k ih =>
    simp only [exec] at h
    split at h
    · simp only [runT]
      rw [← hd]
      exact ih _ (s.noteRd a) t (by rw [St.noteRd_data]; exact hd) h
    · cases h
  | store a v k ih =>
    simp only [exec] at h
    split at h
    · simp only [runT]
      refine ih ((s.noteWr a).upd a v) (t.upd a v) ?_ h
      funext x
      simp only [St.upd_data, St.noteWr_data, hd]
    · cases h
  | emit e k ih =>
    exact ih { s with events := s.events ++ [e] } { t with events := t.events ++ [e] } hd h

/-- the guarded run and the total run agree on result and memory (a stray access is performed, it is only recorded) -/
theorem exec_eq_runT (p : Prog α) (s : St) {r : α} {s' : St} (h : exec p s = .ok (r, s')) :
    (runT p s).1 = r ∧ (runT p s).2.data = s'.data :=
  exec_eq_runT_aux p s s rfl h

end SafeC
