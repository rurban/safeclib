import SafeC.Proofs.AccCopyEntry
import SafeC.Proofs.AccQuery
import SafeC.Models.Io
/-!
# Footprint of the os family: `getenv_s strerror_s strerrorlen_s gmtime_s localtime_s gets_s`

Process state is an argument of these models (the environment value, libc's message text, the literal `"..."`, libc's
broken-down time, the bytes the stream still holds): regions of memory the library only reads.  Footprints:

* `getenv_s`: the name to its terminator (`getenv`), the value to its terminator (`strlen`, then `strcpy_s`), dest's `dmax` cells;
* `strerror_s`: the message to its terminator, the dots, dest; the truncating path is `strncpy_s` followed by `strcat_s` on
  the contents the first call left — `AccS.frame` (nothing outside the write footprint changes) carries the dots across;
* `gmtime_s` / `localtime_s`: `*timer` (twice), the 14 cells of libc's result, 13 stores into dest (cell 9 is padding);
* `gets_s`: stream cells `inp[0 .. min dmax len)` — at most `dmax - 1` consumed by `fgets` plus one peeked by `getc`, never
  behind the end of the stream —, dest read back by `strnlen` inside `dmax`.
-/
namespace SafeC
open Gen

variable {R W : Nat → Prop} {d : Nat → Nat}

theorem Str.of_agree {d d' : Nat → Nat} {p n a : Nat} (hag : ∀ b, Str d p n b → d' b = d b) (h : Str d' p n a) :
    Str d p n a := by
  obtain ⟨h1, h2, h3⟩ := h
  refine ⟨h1, h2, ?_⟩
  intro j
  induction j using Nat.strongRecOn with
  | _ j ih =>
    intro hj1 hj2
    have hs : Str d p n j := ⟨hj1, by omega, fun i hi1 hi2 => ih i hi2 hi1 (by omega)⟩
    rw [← hag j hs]
    exact h3 j hj1 hj2

theorem AccS_strlenP (fuel s n : Nat) (h : ∀ a, Str d s fuel a → R a) :
    AccS R W d (strlenP fuel s n) (fun _ d' => d' = d) :=
  (AccS.of_AccD (AccD_strlenP fuel s n h)).conseq (fun _ _ hq => hq.1)

theorem getenv_s_accs (cfg : Cfg) (hasLen : Bool) (dest dmax name : Nat) (db : Bos) (value : Nat)
    (hname : name ≠ 0 → ∀ a, Str d name scanFuel a → R a)
    (hval : value ≠ 0 → ∀ n a, Str d value n a → R a)
    (hrd : dest ≠ 0 → ∀ a, Cells dest dmax a → R a) (hw : dest ≠ 0 → ∀ a, Cells dest dmax a → W a) :
    AccS R W d (getenv_s cfg hasLen dest dmax name db value) (fun _ _ => True) := by
  unfold getenv_s
  extract_lets L retNull retNeg rest over
  have hw0 : dest ≠ 0 → dmax ≠ 0 → W dest := fun h1 h2 => hw h1 _ ⟨Nat.le_refl _, by omega⟩
  have fail : ∀ c r, AccS R W d (do handlerS c; pure r : Prog (Nat × Option Nat)) (fun _ _ => True) :=
    fun _ _ => AccS.handlerSBind _ (AccS.pure _ trivial)
  -- what follows the `dest` / `dmax` entry checks runs with `dest` null only if `dmax = 0`
  have hrest : (dest = 0 → dmax = 0) → AccS R W d rest (fun _ _ => True) := by
    intro hdz
    refine AccS.ite (fun _ => AccS.ite (fun h => ?_) (fun _ => fail _ _)) (fun hn => ?_)
    · exact AccS_errRet cfg dest dmax _ _ (hw h.1) (hw0 h.1 h.2)
    refine AccS.bind (AccS_strlenP scanFuel name 0 (hname hn)) (fun _ d' e => ?_)
    subst e
    refine AccS.ite (fun _ => AccS.ite (fun h => ?_) (fun _ => AccS.pure _ trivial)) (fun hv => ?_)
    · exact AccS.thenPure (AccS.ite (fun _ => AccS_memsetP 0 dmax dest (hw h.1))
        (fun _ => AccS.storeBind (hw0 h.1 h.2) (AccS.pure _ trivial)))
    refine AccS.bind (AccS_strlenP scanFuel value 0 (hval hv scanFuel)) (fun len1 d' e => ?_)
    subst e
    refine AccS.ite (fun h => ?_) (fun _ => ?_)
    · have hd : dest ≠ 0 := fun e => h.1 (hdz e)
      exact AccS_errRet cfg dest dmax _ _ (hw hd) (hw0 hd h.1)
    extract_lets ret
    refine AccS.ite (fun h => ?_) (fun _ => AccS.pure _ trivial)
    refine AccS.bind (Q := fun _ _ => True) ?_ (fun _ _ _ => AccS.pure _ trivial)
    exact strcpyG_accs _ cfg dest dmax value _ (fun _ => hval hv dmax) hrd hw
  exact AccS.ite (fun hd => AccS.ite (fun _ => fail _ _) fun _ => hrest (fun e => absurd e hd))
    (fun _ => AccS.ite (fun _ => fail _ _) fun _ => hrest (fun _ => by omega))

/-- **strerrorlen_s**: the table for the library's own codes (no access at all), `strlen` of libc's message otherwise -/
theorem strerrorlen_s_accs (errnum msg : Nat) (hmsg : isSafeclibErr errnum = false → ∀ a, Str d msg scanFuel a → R a) :
    AccS R W d (strerrorlen_s errnum msg) (fun _ d' => d' = d) := by
  refine AccS.ite (fun _ => AccS.pure _ rfl) fun h => ?_
  exact AccS_strlenP scanFuel msg 0 (hmsg (by simpa using h))

/-- **strerror_s**: the dots are read after the message has been copied into dest, so their string is asked to lie in `R` for every
contents that differ from those at the call inside dest only (`hdots`; for dots apart from dest use `Str.of_agree`) -/
theorem strerror_s_accs (cfg : Cfg) (dest dmax errnum : Nat) (db : Bos) (msg dots : Nat)
    (hmsg : dest ≠ 0 → ∀ n a, Str d msg n a → R a)
    (hdots : dest ≠ 0 → 3 < dmax → dots ≠ 0 → ∀ d', (∀ a, ¬ Cells dest dmax a → d' a = d a) → ∀ a, Str d' dots dmax a → R a)
    (hrd : dest ≠ 0 → ∀ a, Cells dest dmax a → R a) (hw : dest ≠ 0 → ∀ a, Cells dest dmax a → W a) :
    AccS R W d (strerror_s cfg dest dmax errnum db msg dots) (fun _ _ => True) := by
  refine AccS_destChecks fun hd hm => AccS_chkDmax _ _ _ ?_
  refine AccS.bind (strerrorlen_s_accs errnum msg (fun _ => hmsg hd scanFuel)) (fun len d' e => ?_)
  subst e
  refine AccS.ite (fun _ => ?_) (fun _ => ?_)
  · refine AccS.bind (Q := fun _ _ => True) ?_ (fun _ _ _ => AccS.pure _ trivial)
    exact strcpyG_accs _ cfg dest dmax msg _ (fun _ => hmsg hd dmax) hrd hw
  refine AccS.ite (fun h3 => ?_) (fun _ => ?_)
  · have hcp : AccS R (Cells dest dmax) d' (strncpy_s cfg dest dmax msg (dmax - 4) none none) (fun _ _ => True) := by
      exact strncpyG_accs _ cfg dest dmax msg (dmax-4) none none (fun _ _ _ h => by cases h) (fun _ => hmsg hd _) hrd
        (fun _ a h => h)
    refine AccS.bind (hcp.frame.mono (fun _ h => h) (hw hd)) (fun _ d'' ⟨_, hfr⟩ => ?_)
    refine AccS.bind (Q := fun _ _ => True) ?_ (fun _ _ _ => AccS.pure _ trivial)
    exact strcatG_accs _ cfg dest dmax dots none (fun hdz => hdots hd (by omega) hdz d'' hfr) hrd hw
  · exact AccS_errRet cfg dest dmax _ _ (hw hd) (hw hd _ ⟨Nat.le_refl _, by omega⟩)

theorem Acc_copyTm (k i res dest : Nat) (hk : i + k ≤ 14) (hr : ∀ a, Cells res 14 a → R a) (hw : ∀ a, Cells dest 14 a → W a) :
    Acc R W (copyTm k i res dest) (fun _ => True) := by
  induction k generalizing i with
  | zero => exact Acc.pure _ trivial
  | succ k ih =>
    refine Acc.loadBind (hr _ ⟨by omega, by omega⟩) (fun v => ?_)
    refine Acc.bind (Q := fun _ => True) ?_ (fun _ _ => ih (i+1) (by omega))
    exact Acc.ite (fun _ => Acc.pure _ trivial) fun _ => Acc.storeP _ _ (hw _ ⟨by omega, by omega⟩)

/-- **gmtime_s / localtime_s**: `*timer` (read twice), libc's 14 result cells, stores inside dest's 14 cells -/
theorem Acc_tmConv (timer dest res : Nat) (ht : timer ≠ 0 → R timer) (hr : res ≠ 0 → ∀ a, Cells res 14 a → R a)
    (hw : dest ≠ 0 → ∀ a, Cells dest 14 a → W a) : Acc R W (tmConv timer dest res) (fun _ => True) := by
  refine Acc.ite (fun _ => Acc_failS _ trivial) fun hd => Acc.ite (fun _ => Acc_failS _ trivial) fun htm => ?_
  refine Acc.loadBind (ht htm) fun t => Acc.ite (fun _ => Acc.handlerSBind _ (Acc.pure _ trivial)) fun _ => ?_
  refine Acc.loadBind (ht htm) fun t2 => Acc.ite (fun _ => Acc.handlerSBind _ (Acc.pure _ trivial)) fun _ => ?_
  exact Acc.ite (fun _ => Acc.pure _ trivial) fun hres =>
    Acc.thenPure (Acc_copyTm 14 0 res dest (by omega) (hr hres) (hw hd))

theorem Acc_fgetsLoop (k inp len dst acc : Nat) (hr : ∀ a, Cells inp (min k len) a → R a)
    (hw : ∀ a, Cells dst (min k len) a → W a) :
    Acc R W (fgetsLoop k inp len dst acc) (fun r => acc ≤ r.1 ∧ r.1 ≤ acc + min k len) := by
  induction k generalizing inp len dst acc with
  | zero => unfold fgetsLoop; exact Acc.pure _ ⟨Nat.le_refl _, by omega⟩
  | succ k ih =>
    cases len with
    | zero => unfold fgetsLoop; exact Acc.pure _ ⟨Nat.le_refl _, by omega⟩
    | succ l =>
      have e : min (k+1) (l+1) = min k l + 1 := by omega
      rw [e] at hr hw
      refine Acc.loadBind (hr _ ⟨by omega, by omega⟩) (fun c => ?_)
      refine Acc.storeBind (hw _ ⟨by omega, by omega⟩) ?_
      refine Acc.ite (fun _ => Acc.pure _ ⟨by dsimp only; omega, by dsimp only; omega⟩) fun _ => ?_
      exact (ih (inp+1) l (dst+1) (acc+1) (fun a ha => hr a ha.within)
        (fun a ha => hw a ha.within)).conseq (fun r ⟨h1, h2⟩ => ⟨by omega, by omega⟩)

theorem Acc_strnlenP (n s acc : Nat) (hr : ∀ a, Cells s n a → R a) :
    Acc R W (strnlenP n s acc) (fun r => acc ≤ r ∧ r ≤ acc + n) := by
  induction n generalizing s acc with
  | zero => unfold strnlenP; exact Acc.pure _ ⟨Nat.le_refl _, by omega⟩
  | succ n ih =>
    refine Acc.loadBind (hr _ ⟨by omega, by omega⟩) (fun c => ?_)
    exact Acc.ite (fun _ => Acc.pure _ ⟨Nat.le_refl _, by omega⟩) fun _ =>
      (ih (s+1) (acc+1) (fun a ha => hr a ha.within)).conseq (fun r ⟨h1, h2⟩ => ⟨by omega, by omega⟩)

theorem Acc_getsBody (cfg : Cfg) (dest dmax inp len : Nat) (hpos : dmax ≠ 0)
    (hri : ∀ a, Cells inp (min dmax len) a → R a)
    (hrd : ∀ a, Cells dest dmax a → R a) (hw : ∀ a, Cells dest dmax a → W a) :
    Acc R W (getsBody cfg dest dmax inp len) (fun _ => True) := by
  have hw0 : W dest := hw _ ⟨Nat.le_refl _, by omega⟩
  refine Acc.ite (fun _ => Acc.storeBind hw0 (Acc.pure _ trivial)) (fun _ => ?_)
  have hri' : ∀ a, Cells inp (min (dmax - 1) len) a → R a := fun a ha => hri a ha.within
  refine Acc.bind (Acc_fgetsLoop (dmax-1) inp len dest 0 hri' (fun a ha => hw a ha.within)) (fun r hq => ?_)
  refine Acc.ite (fun _ => Acc.storeBind hw0 (Acc.pure _ trivial)) (fun _ => ?_)
  refine Acc.storeBind (hw _ ⟨by omega, by omega⟩) ?_
  refine Acc.bind (Acc_strnlenP dmax dest 0 hrd) (fun n ⟨_, hn⟩ => ?_)
  simp only [Nat.zero_add] at hn
  extract_lets done
  have hdone : ∀ k, k ≤ dmax → Acc R W (done k) (fun _ => True) := fun k hk =>
    Acc.bind (Q := fun _ => True)
      (Acc.ite (fun _ => Acc_memsetP 0 _ _ (fun a ha => hw a ha.within)) (fun _ => Acc.pure _ trivial))
      (fun _ _ => Acc.pure _ trivial)
  refine Acc.bind (Q := fun _ => True)
    (Acc.ite (fun _ => Acc.loadP _ (hrd _ ⟨by omega, by omega⟩)) (fun _ => Acc.pure _ trivial)) (fun last _ => ?_)
  refine Acc.ite (fun _ => Acc.storeBind (hw _ ⟨by omega, by omega⟩) (hdone _ (by omega))) (fun _ => ?_)
  refine Acc.ite (fun hfull => Acc.ite (fun _ => Acc.ite (fun _ => Acc.pure _ trivial) (fun _ => hdone _ hn)) (fun hrest => ?_))
    (fun _ => hdone _ hn)
  refine Acc.loadBind (hri _ ⟨by omega, by omega⟩) (fun c => Acc.ite (fun _ => hdone _ hn) (fun _ => ?_))
  refine Acc.bind (Acc_handleError cfg dest dmax _ hw hw0) (fun _ _ => ?_)
  exact Acc.thenPure (Acc.ite (fun _ => Acc_memsetP 0 dmax dest hw) (fun _ => Acc.pure _ trivial))

theorem Acc_gets_s (cfg : Cfg) (dest dmax : Nat) (db : Bos) (inp len : Nat)
    (hri : ∀ a, Cells inp (min dmax len) a → R a)
    (hrd : dest ≠ 0 → ∀ a, Cells dest dmax a → R a) (hw : dest ≠ 0 → ∀ a, Cells dest dmax a → W a) :
    Acc R W (gets_s cfg dest dmax db inp len) (fun _ => True) := by
  refine Acc.ite (fun _ => Acc_failS _ trivial) fun hd => Acc.ite (fun _ => Acc_failS _ trivial) fun hm => ?_
  have body := Acc_getsBody (R := R) (W := W) cfg dest dmax inp len hm hri (hrd hd) (hw hd)
  exact Acc.bos (fun _ => Acc.ite (fun _ => Acc_failS _ trivial) fun _ => body)
    (fun _ _ => Acc.ite (fun _ => Acc.ite (fun _ => Acc_failS _ trivial) fun _ => Acc_failS _ trivial) fun _ => body)

end SafeC
