import SafeC.Lemmas
/-! The example state of the non-vacuity `example`s of the string families, and the fact they ask of it: its five cells at 100
are writable. -/
namespace SafeC.Props.C01
open SafeC

/-- non-vacuity: a concrete state meets the hypotheses (dest = 100, dmax = 5, src = 200) -/
def exSt : St :=
  { data := fun a => if a = 200 then 97 else if a = 201 then 98 else 0
    mapped := fun _ => true, rd := fun _ => true
    wr := fun a => decide (100 ≤ a ∧ a < 105) }

end SafeC.Props.C01

namespace SafeC
open SafeC.Props.C01

theorem exSt_rw : RW exSt 100 5 := by
  intro i hi
  refine ⟨rfl, ?_, rfl⟩
  simp [exSt]; omega

end SafeC
