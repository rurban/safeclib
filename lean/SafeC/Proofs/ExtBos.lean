import SafeC.Proofs.ExtFld
/-!
# `dmax` beyond a KNOWN object size: what the entry checks do

`CHK_DEST_OVR_CLEAR` (`chkDmaxClearG`: the copies, the stp pair, strcpyfld_s) reports ESLEMAX (`dmax` also above
RSIZE_MAX_STR) after `handle_error(dest, destbos, …)`, else EOVERFLOW through `handle_str_bos_overflow`, which clears
`strnlen_s(dest, destbos)` cells — the old STRING in dest, not the object.  `CHK_DEST_OVR` (`chkDmax`: strcpyfldin_s,
strcpyfldout_s, the in-place producers) only reports.  Needed: the `destbos` cells of the object writable; nothing
outside them is touched.
-/
namespace SafeC
open Gen

/-- the code of the `dmax > destbos` exit -/
def bosCode (dmax : Nat) : Nat := if dmax > RSIZE_MAX_STR then ESLEMAX else EOVERFLOW

/-- what `CHK_DEST_OVR_CLEAR` leaves when `dmax` exceeds the known object size `b`: the code, ONE handler event with
it, `dest[0] = 0`; null-slack: exactly `dest[0..b)` (ESLEMAX) resp. exactly `dest[0..len)` with `len` = the first NUL
of the old dest within `b` cells, `b` if none (EOVERFLOW) are zeroed; no slack: exactly `dest[0]` -/
def BosOver (cfg : Cfg) (dest dmax b : Nat) (st st' : St) (code : Nat) : Prop :=
  code = bosCode dmax ∧
  (dmax > RSIZE_MAX_STR → FldFail cfg dest b st st' ESLEMAX) ∧
  (dmax ≤ RSIZE_MAX_STR → ∃ len, StrLenIn st dest b len ∧ FldFail cfg dest len st st' EOVERFLOW)

theorem chkDmaxClearG_over {α : Type} (mk : Nat → α) (cfg : Cfg) (dest dmax b : Nat) (k : Prog α) (st : St)
    (hall : ∀ a, st.mapped a = true ∧ st.rd a = true) (hd : dest ≠ 0) (hb0 : 0 < b) (hbd : b < dmax)
    (hrw : RW st dest b) :
    ∃ code st', exec (chkDmaxClearG mk cfg dest dmax (some b) RSIZE_MAX_STR k) st = .ok (mk code, st') ∧
      BosOver cfg dest dmax b st st' code := by
  unfold chkDmaxClearG
  simp only
  rw [if_pos hbd]
  by_cases hx : dmax > RSIZE_MAX_STR
  · rw [if_pos hx]
    obtain ⟨st', he, hf⟩ := handleError_exact cfg dest b b ESLEMAX st hrw hb0 (Nat.le_refl _) (by omega)
    refine ⟨ESLEMAX, st', by simp [exec_bind, he], by simp [bosCode, hx], fun _ => hf, fun h => by omega⟩
  · rw [if_neg hx]
    obtain ⟨len, he1, hlen⟩ := strnlen_s_first dest b st hall hd hb0 (by omega)
    obtain ⟨st', he2, hf⟩ := handleError_exact cfg dest len b EOVERFLOW st hrw hb0 hlen.1
      (fun h0 => by have := hlen.2.1 (by omega); rw [h0] at this; simpa using this)
    have hn : ¬ len > RSIZE_MAX_STR := by have := hlen.1; omega
    refine ⟨EOVERFLOW, st', ?_, by simp [bosCode, hx], fun h => absurd h hx, fun _ => ⟨len, hlen, hf⟩⟩
    simp [exec_bind, handleStrBosOverflow, he1, hn, he2]

theorem chkDmax_over (dmax b : Nat) (k : Prog Nat) (st : St) (hbd : b < dmax) :
    exec (chkDmax dmax (some b) RSIZE_MAX_STR k) st =
      .ok (bosCode dmax, { st with events := st.events ++ [.handler .str (bosCode dmax)] }) := by
  unfold chkDmax bosCode
  simp only
  rw [if_pos hbd]
  by_cases hx : dmax > RSIZE_MAX_STR <;> simp [hx, failS, handlerS, exec_bind]

/-- what C03 / C04 take from `BosOver`, in either case; the frame is the OBJECT `dest[0..b)` (C01), not the cells cleared -/
theorem BosOver.facts {cfg : Cfg} {dest dmax b code : Nat} {st st' : St} (h : BosOver cfg dest dmax b st st' code)
    (hb0 : 0 < b) :
    st'.data dest = 0 ∧ (∀ a, ¬ (dest ≤ a ∧ a < dest + b) → st'.data a = st.data a) ∧
      st'.strays = st.strays ∧ st'.wr = st.wr ∧ st'.events = st.events ++ [.handler .str code] := by
  obtain ⟨hc, h1, h2⟩ := h
  by_cases hx : dmax > RSIZE_MAX_STR
  · have hf := h1 hx
    have e : code = ESLEMAX := by rw [hc]; simp [bosCode, hx]
    exact ⟨hf.first, hf.frame_in (Nat.le_refl _) hb0, hf.strays, hf.wr, by rw [e]; exact hf.events⟩
  · obtain ⟨len, hl, hf⟩ := h2 (by omega)
    have e : code = EOVERFLOW := by rw [hc]; simp [bosCode, hx]
    exact ⟨hf.first, hf.frame_in hl.1 hb0, hf.strays, hf.wr, by rw [e]; exact hf.events⟩

end SafeC
