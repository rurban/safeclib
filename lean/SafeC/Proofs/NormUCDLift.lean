import SafeC.Proofs.NormUCD
/-! C17 — the kernel-checked table facts as universally quantified statements -/
namespace SafeC.Norm
open SafeC.Gen

attribute [local irreducible] cell UniCanon.main UniCanon.planes UniCanon.rows UniCombin.main UniCombin.planes UniCombin.rows

theorem assigned_lt {c : Nat} (h : UCD.assigned c = true) : c < 0x110000 := by
  unfold UCD.assigned at h
  split at h
  · assumption
  · cases h

/-- **combining classes: the tree's table = UCD 14.0 on every assigned code point** -/
theorem ccc_matches_ucd {c : Nat} (h : UCD.assigned c = true) : combinClass c = some (UCD.ccc c) := by
  have hc := assigned_lt h
  by_cases hb : cccBlock (c / 256) = true
  · by_cases hr : cccRowEq (c / 256) = true
    · exact cccRowEq_spec hc hr
    · have := allBelow_spec ccc_check (c / 256) (cccBlock_lt (by omega) hb)
      simp only [hb, hr, Bool.not_true, Bool.false_or] at this
      have := allBelow_spec this (c % 256) (Nat.mod_lt _ (by omega))
      rw [show c / 256 * 256 + c % 256 = c by omega] at this
      simpa [cccOk, h] using this
  · -- no page on either side
    unfold cccBlock at hb
    simp only [Bool.or_eq_true, bne_iff_ne, ne_eq, not_or, Decidable.not_not] at hb
    obtain ⟨h1, h2⟩ := hb
    unfold combinClass
    rw [rowId_block, h1]
    unfold UCD.ccc
    simp [hc, h2]

theorem dmOk_of_block {c : Nat} (hc : c < 0x110000) (hb : dmBlock (c / 256) = true) : dmOk c = true := by
  have h := allBelow_spec dm_check (c / 256) (dmBlock_lt (by omega) hb)
  rw [hb, Bool.not_true, Bool.false_or, dmBlockOk] at h
  have hi : c % 256 < 256 := Nat.mod_lt _ (by omega)
  have e : c / 256 * 256 + c % 256 = c := by omega
  split at h
  · next r p hr hp =>
    have := allBelow_spec h _ hi
    rw [e, Bool.or_eq_true, Bool.and_eq_true, beq_iff_eq, beq_iff_eq] at this
    refine this.elim (fun h0 => dmOk_of_dmNone ?_) id
    rw [dmNone, canonVi, rowId_block, hr, UCD.dm, if_pos hc]
    simp only [hp, h0.1, h0.2, Nat.add_one_ne_zero, ↓reduceIte, Nat.succ_sub_one, beq_self_eq_true, Option.isNone_none, Bool.and_self]
  · have := allBelow_spec h _ hi
    rw [e] at this
    exact (Bool.or_eq_true_iff.1 this).elim dmOk_of_dmNone id

theorem decompHangul_eq (c : Nat) : decompHangul c = UCD.hangulDecomp c := by
  unfold decompHangul UCD.hangulDecomp UCD.SBase UCD.LBase UCD.VBase UCD.TBase UCD.NCount UCD.TCount
  rw [HSBase_eq, HNCount_eq, HTCount_eq, HLBase_eq, HVBase_eq, HTBase_eq]
  by_cases ht : (c - 0xAC00) % 28 = 0
  · simp [ht]
  · simp [ht]

theorem decompose1_of_S {c : Nat} (h : isS c = true) : decompose1 c = UCD.fullDecomp 4 c := by
  unfold decompose1 UCD.fullDecomp
  rw [← isS_iff]
  simp [h, decompHangul_eq]

theorem dmOk_of_boring {c : Nat} (hc : c < 0x110000) (hb : ¬ dmBlock (c / 256) = true) (hs : isS c = false) :
    decompose1 c = [c] ∧ UCD.fullDecomp 4 c = [c] := by
  unfold dmBlock at hb
  simp only [Bool.or_eq_true, bne_iff_ne, ne_eq, not_or, Decidable.not_not] at hb
  obtain ⟨h1, h2⟩ := hb
  constructor
  · unfold decompose1 decompCanon canonVi
    rw [rowId_block, h1]
    simp [hs]
  · unfold UCD.fullDecomp
    rw [← isS_iff, hs]
    unfold UCD.dm
    simp [hc, h2]

/-- **canonical decompositions: the tree's stored full decomposition = the recursive expansion of UCD 14.0's single-step
mappings (D68), on every assigned code point except U+037E** -/
theorem decomp_matches_ucd_partial {c : Nat} (h : UCD.assigned c = true) (h37e : c ≠ 0x37E) :
    decompose1 c = UCD.fullDecomp 4 c := by
  have hc := assigned_lt h
  by_cases hs : isS c = true
  · exact decompose1_of_S hs
  · simp only [Bool.not_eq_true] at hs
    by_cases hb : dmBlock (c / 256) = true
    · have := dmOk_of_block hc hb
      simp only [dmOk, h, hs, Bool.not_true, Bool.false_or, Bool.and_eq_true, Bool.or_eq_true, beq_iff_eq] at this
      rcases this.1 with h' | h'
      · exact absurd h' h37e
      · exact h'
    · have := dmOk_of_boring hc hb hs
      rw [this.1, this.2]

theorem fullDecomp_fixed {c d : Nat} (hc : c < 0x110000) (hd : d ∈ UCD.fullDecomp 4 c) (hs : isS c = false) :
    UCD.dm d = none ∧ UCD.isHangulS d = false ∧ (UCD.assigned c = true → UCD.assigned d = true) := by
  by_cases hb : dmBlock (c / 256) = true
  · have := dmOk_of_block hc hb
    simp only [dmOk, hs, Bool.false_or, Bool.and_eq_true, List.all_eq_true, Bool.or_eq_true, Bool.not_eq_eq_eq_not,
      Bool.not_true, Option.isNone_iff_eq_none] at this
    have h2 := this.2 d hd
    refine ⟨h2.1.1, h2.1.2, ?_⟩
    intro ha
    rcases h2.2 with h' | h'
    · rw [ha] at h'; cases h'
    · exact h'
  · have h0 := (dmOk_of_boring hc hb hs).2
    rw [h0] at hd
    simp only [List.mem_singleton] at hd
    subst hd
    refine ⟨?_, ?_, fun h => h⟩
    · unfold dmBlock at hb
      simp only [Bool.or_eq_true, bne_iff_ne, ne_eq, not_or, Decidable.not_not] at hb
      unfold UCD.dm
      simp [hc, hb.2]
    · rw [← isS_iff]; exact hs

end SafeC.Norm
