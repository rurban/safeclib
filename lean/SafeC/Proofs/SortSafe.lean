import SafeC.Models.Sort
/-!
# qsort_s model: the tools of the proofs about runs that return

Leonardo numbers `leo`, `LpOk` (the table holds them), the total-correctness triple `Tot` of the `Except Fault` monad with its
rules, what `sub`, `lpAt`, `cmpAt` return on arguments in range, and the entry checks of `_qsort_s_chk` (`qsortChk_cases`).
That `sift` never leaves the Leonardo tree it is called on, for every comparator, is `sift_run` (Proofs/SortSift.lean);
`trinkle` and the main loops need the forest-shape invariant tying `(p, pshift)` to `head` (Proofs/SortShape.lean,
`trinkle_run`, `smooth_run`).
-/
namespace SafeC.Sort

def leo : Nat → Nat
  | 0 => 1
  | 1 => 1
  | n + 2 => leo n + leo (n + 1) + 1

theorem leo_pos (k : Nat) : 1 ≤ leo k := by
  match k with
  | 0 => simp [leo]
  | 1 => simp [leo]
  | n + 2 => simp [leo]

theorem leo_le_one {k : Nat} (hk : k ≤ 1) : leo k = 1 := by
  match k, hk with
  | 0, _ => simp [leo]
  | 1, _ => simp [leo]

def Tot (x : M β) (Q : β → Prop) : Prop := ∃ r, x = .ok r ∧ Q r

theorem Tot.bind {x : M β} {f : β → M γ} {Q : γ → Prop} (P : β → Prop)
    (hx : Tot x P) (hf : ∀ y, P y → Tot (f y) Q) : Tot (x >>= f) Q := by
  obtain ⟨y, hy, py⟩ := hx
  obtain ⟨r, hr, qr⟩ := hf y py
  exact ⟨r, by rw [hy]; exact hr, qr⟩

theorem Tot.ok {y : β} {Q : β → Prop} (h : Q y) : Tot (.ok y : M β) Q := ⟨y, rfl, h⟩

theorem Tot.mono {x : M β} {P Q : β → Prop} (h : Tot x P) (hpq : ∀ y, P y → Q y) : Tot x Q :=
  h.imp fun y hy => ⟨hy.1, hpq y hy.2⟩

theorem Tot.ite {c : Prop} [Decidable c] {a b : M β} {Q : β → Prop}
    (ha : c → Tot a Q) (hb : ¬c → Tot b Q) : Tot (if c then a else b) Q := by
  split
  · exact ha ‹_›
  · exact hb ‹_›

theorem Tot.ite_bind {c : Prop} [Decidable c] {a b : M β} {f : β → M γ} {P : β → Prop} {Q : γ → Prop}
    (h : Tot (if c then a else b) P) (hf : ∀ y, P y → Tot (f y) Q) : Tot (if c then a >>= f else b >>= f) Q := by
  split at h
  · rw [if_pos ‹c›]; exact Tot.bind P h hf
  · rw [if_neg ‹¬c›]; exact Tot.bind P h hf

def LpOk (lp : Array Nat) (k : Nat) : Prop := ∀ i, i ≤ k → lp[i]? = some (leo i)

theorem LpOk.mono {lp : Array Nat} {k j : Nat} (h : LpOk lp k) (hj : j ≤ k) : LpOk lp j :=
  fun i hi => h i (Nat.le_trans hi hj)

theorem eq_wrap_of_match {β : Type} (x : M β) (h : (match x with | .error .wrap => true | _ => false) = true) :
    x = .error .wrap := by
  cases x with
  | error e => cases e <;> simp at h ⊢
  | ok _ => simp at h

theorem sub_tot {x y : Nat} (h : y ≤ x) : Tot (sub x y) (fun r => r = x - y) := by
  unfold sub; simp only [h, if_true]; exact Tot.ok rfl

theorem sub_mapError_tot {x y : Nat} (h : y ≤ x) (f : Fault → Fault) :
    Tot ((sub x y).mapError f) (fun r => r = x - y) := by
  unfold sub; simp only [h, if_true]; exact ⟨_, rfl, rfl⟩

theorem lpAt_tot {lp : Array Nat} {k i : Nat} (h : LpOk lp k) (hi : i ≤ k) : Tot (lpAt lp i) (fun r => r = leo i) := by
  unfold lpAt; rw [h i hi]; exact Tot.ok rfl

def St.cmped (e : Env α) (s : St α) (i j : Nat) : St α :=
  { s with log := if e.trace then ⟨i, j, e.ctx⟩ :: s.log else s.log, ncmp := s.ncmp + 1 }

theorem cmpAt_eq (e : Env α) (s : St α) {i j : Nat} (hi : i < s.a.size) (hj : j < s.a.size) :
    cmpAt e s i j = .ok (e.cmp s.ncmp i j s.a[i] s.a[j], s.cmped e i j) := by
  simp [cmpAt, hi, hj, St.cmped]

theorem trinkleLoop_one (e : Env α) (room : Nat) (s : St α) (ar0 head pshift : Nat) (trusty : Bool) (acc : List Nat) :
    trinkleLoop e room s ar0 head PV.one pshift trusty acc = .ok (s, head, pshift, trusty, acc) := by
  cases room <;> simp [trinkleLoop]

open SafeC.Gen in
theorem qsortChk_cases (fx : Fixes) (c : Cmp α) (g : Args) (s : St α) :
    (∃ code, code ≠ EOK ∧ qsortChk fx c g s = .ok ⟨code, none, [(.str, code)], s⟩) ∨
    qsortChk fx c g s = (do let s' ← qsortMusl fx c s g.nmemb g.size; pure (⟨EOK, none, [], s'⟩ : Out α Nat)) := by
  unfold qsortChk
  split
  · exact Or.inl ⟨_, by decide, rfl⟩
  · split
    · split
      · exact Or.inl ⟨_, by decide, rfl⟩
      · exact Or.inr rfl
    · split
      · split
        · exact Or.inl ⟨_, by decide, rfl⟩
        · exact Or.inr rfl
      · split
        · exact Or.inl ⟨_, by decide, rfl⟩
        · exact Or.inr rfl

section
open SafeC.Gen

theorem no_null {g : Args} (hp : g.nmemb = 0 ∨ (g.baseNull = false ∧ g.cmpNull = false)) :
    ¬(g.nmemb ≠ 0 ∧ (g.baseNull = true ∨ g.cmpNull = true)) := by
  rcases hp with h | ⟨h, h'⟩
  · simp [h]
  · simp [h, h']

theorem qsortChk_null (fx : Fixes) (c : Cmp α) (g : Args) (s : St α)
    (hn : g.nmemb ≠ 0) (hp : g.baseNull = true ∨ g.cmpNull = true) :
    qsortChk fx c g s = .ok ⟨ESNULLP, none, [(.str, ESNULLP)], s⟩ := by
  unfold qsortChk
  simp [hn, hp]

/-- repaired code: a product that does not fit the known object size is always rejected -/
theorem qsortChk_nospc (c : Cmp α) (g : Args) (s : St α) (fx : Fixes) (hfx : fx.ovf = true)
    (hp : ¬(g.nmemb ≠ 0 ∧ (g.baseNull = true ∨ g.cmpNull = true))) (b : Nat) (hb : g.bos = some b)
    (hl : g.nmemb * g.size > b) : qsortChk fx c g s = .ok ⟨ESNOSPC, none, [(.str, ESNOSPC)], s⟩ := by
  unfold qsortChk
  have hs : g.size ≠ 0 := by intro h0; simp [h0] at hl
  have hd : g.nmemb > b / g.size := (Nat.div_lt_iff_lt_mul (Nat.pos_of_ne_zero hs)).mpr hl
  simp only [hp, if_false, hb, hfx, if_true]
  simp [hs, hd]

/-- a call of `_bsearch_s_chk` that passes the entry checks is the loop, with `errno = 0` -/
theorem bsearchChk_passes (fx : Fixes) (c : BCmp α) (g : Args) (s : St α)
    (h1 : ¬(g.nmemb ≠ 0 ∧ (g.keyNull = true ∨ g.baseNull = true ∨ g.cmpNull = true)))
    (h2 : match g.bos with
      | none => ¬(g.nmemb > RSIZE_MAX_MEM ∨ g.size > RSIZE_MAX_MEM)
      | some b => if fx.ovf then ¬(g.size ≠ 0 ∧ g.nmemb > b / g.size) else ¬((g.nmemb * g.size) % 2 ^ 64 > b)) :
    bsearchChk fx c g s = (do
      let (r, s) ← bsearchLoop c g.nmemb s 0 g.nmemb
      pure ⟨r, some 0, [], s⟩) := by
  unfold bsearchChk
  simp only [h1, if_false]
  cases hb : g.bos with
  | none => simp only [hb] at h2; simp [h2]
  | some b =>
    simp only [hb] at h2
    by_cases hf : fx.ovf
    · simp only [hf, if_true] at h2 ⊢; simp [h2]
    · have h3 : ¬ ((g.nmemb * g.size) % 2 ^ 64 > b) := by simpa [hf] using h2
      simp only [hf]
      simp [h3]

end

end SafeC.Sort
