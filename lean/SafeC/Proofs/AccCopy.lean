import SafeC.Proofs.AccS
import SafeC.Models.Copy
/-!
# Footprint of the bumper-loop copy family (`AccS`: value-aware, stores tracked)

`copyLoop` / `stpLoop` test `dmax`, the overlap bumper and (bounded variants) `slen` BEFORE they dereference `src`:
the source is read inside `Str d src (copyCut bounded dmax slen)` — its string up to and including the terminator, cut at
`min dmax slen` (bounded) / `dmax` cells.  `findEnd` (`while (*dest != '\0')` of the concatenations) decrements and tests
`dmax` before it advances: dest is read inside its `dmax` cells.  Every store lies in dest's `dmax` cells.

NOTHING is assumed about the placement of the two operands: the bumper keeps the loaded cells apart from the stored ones
(`dest < src`: stores stay below `src`; otherwise loads stay below `dest`), so the string at `src` the loop sees is the
one of the contents at the call (`Str.upd_off`).
-/
namespace SafeC
open Gen

variable {R W : Nat → Prop} {d : Nat → Nat}

theorem AccS_nullSlack (p n : Nat) (hw : ∀ a, Cells p n a → W a) : AccS R W d (nullSlack p n) (fun _ _ => True) :=
  AccS.of_Acc (Acc_nullSlack p n hw) d

def copyCut (bounded : Bool) (dmax slen : Nat) : Nat := if bounded then min dmax slen else dmax

theorem copyCut_mono {b : Bool} {m n slen : Nat} (h : m ≤ n) : copyCut b m slen ≤ copyCut b n slen := by
  unfold copyCut; split <;> omega

def Sep (onDest : Bool) (bumper dest src : Nat) : Prop :=
  (onDest = true ∧ dest ≤ bumper ∧ bumper ≤ src) ∨ (onDest = false ∧ src ≤ bumper ∧ bumper ≤ dest)

theorem copyCut_pos {b : Bool} {n slen : Nat} (hs : ¬ (b = true ∧ slen = 0)) : 0 < copyCut b (n+1) slen := by
  unfold copyCut; split
  · rename_i hbd; have : slen ≠ 0 := fun e => hs ⟨hbd, e⟩; omega
  · omega

theorem copyCut_step {b : Bool} {n slen slen' : Nat} (hs : ¬ (b = true ∧ slen = 0)) (h' : b = true → slen' = slen - 1) :
    copyCut b n slen' + 1 ≤ copyCut b (n+1) slen := by
  unfold copyCut; split
  · rename_i hbd; have : slen ≠ 0 := fun e => hs ⟨hbd, e⟩; have := h' hbd; omega
  · omega

namespace Sep
variable {onDest : Bool} {bumper dest src : Nat}

/-- the pointer the loop compares with the bumper has not reached it -/
theorem src_lt (hsep : Sep onDest bumper dest src) (hb : ¬ (if onDest = true then dest else src) = bumper) :
    onDest = false → src < bumper := by
  intro ho
  rcases hsep with ⟨h1, _⟩ | ⟨_, h2, _⟩
  · rw [ho] at h1; cases h1
  · rw [ho] at hb; simp only [Bool.false_eq_true, if_false] at hb; omega

theorem next (hsep : Sep onDest bumper dest src) (hb : ¬ (if onDest = true then dest else src) = bumper) :
    Sep onDest bumper (dest+1) (src+1) := by
  rcases hsep with ⟨h1, h2, h3⟩ | ⟨h1, h2, h3⟩
  · refine Or.inl ⟨h1, ?_, by omega⟩
    rw [h1] at hb; simp only [if_true] at hb; omega
  · refine Or.inr ⟨h1, ?_, by omega⟩
    have := src_lt (Or.inr ⟨h1, h2, h3⟩) hb h1; omega

/-- the store of this round is off the part of the source string the rest of the loop may read: that part is what it
was at the call -/
theorem str_rest {R : Nat → Prop} {d : Nat → Nat} {v m m' : Nat} (hsep : Sep onDest bumper dest src)
    (hc : ¬ d src = 0) (hm : m' + 1 ≤ m)
    (hr : ∀ a, (onDest = false → a < bumper) → Str d src m a → R a) :
    ∀ a, (onDest = false → a < bumper) → Str (updF d dest v) (src+1) m' a → R a := by
  intro a ha hstr
  refine hr a ha (Str.succ_le hc hm (Str.upd_off ?_ hstr))
  rcases hsep with ⟨h1, h2, h3⟩ | ⟨h1, h2, h3⟩
  · left; omega
  · right
    have := ha h1; omega

end Sep

/-- **the copy loop**: loads inside the string at `src` cut at `copyCut` cells (in the `src < dest` orientation: below
the bumper), stores inside the original dest -/
theorem AccS_copyLoop (cfg : Cfg) (onDest bounded : Bool) (bumper oD oM : Nat) :
    ∀ (dmax dest src slen : Nat) (d : Nat → Nat), Sep onDest bumper dest src →
    (∀ a, (onDest = false → a < bumper) → Str d src (copyCut bounded dmax slen) a → R a) →
    oD ≤ dest → dest + dmax ≤ oD + oM → (∀ a, Cells oD oM a → W a) → W oD →
    AccS R W d (copyLoop cfg onDest bounded bumper oD oM dmax dest src slen) (fun _ _ => True) := by
  intro dmax
  induction dmax with
  | zero =>
    intro dest src slen d _ _ _ _ hwo hw0
    exact AccS_errRet cfg oD oM _ _ hwo hw0
  | succ n ih =>
    intro dest src slen d hsep hr hlo hhi hwo hw0
    have hwd : ∀ a, Cells dest (n+1) a → W a := fun a ha => hwo a ha.within
    refine AccS.ite (fun _ => AccS_errRet cfg oD oM _ _ hwo hw0) fun hb => AccS.ite (fun _ => ?_) fun hs => ?_
    · exact AccS.ite (fun _ => AccS.thenPure (AccS_nullSlack dest (n+1) hwd)) fun _ =>
        AccS.storeBind (hwd _ ⟨by omega, by omega⟩) (AccS.pure _ trivial)
    refine AccS.loadBind (hr src (hsep.src_lt hb) (Str.head (copyCut_pos hs))) ?_
    refine AccS.storeBind (hwd _ ⟨by omega, by omega⟩) (AccS.ite (fun _ => ?_) fun hc => ?_)
    · exact AccS.ite (fun _ => AccS.thenPure (AccS_nullSlack dest (n+1) hwd)) fun _ => AccS.pure _ trivial
    · exact ih (dest+1) (src+1) (slen-1) _ (hsep.next hb)
        (hsep.str_rest hc (copyCut_step hs fun _ => rfl) hr) (by omega) (by omega) hwo hw0

/-- **`while (*dest != '\0')` of the concatenations**: reads inside dest's `dmax` cells; at the terminator the contents
are those at the call and the remaining room lies inside dest -/
theorem AccS_findEnd (cfg : Cfg) (chk : Bool) (bumper oD oM : Nat) :
    ∀ (dmax dest : Nat) (d : Nat → Nat), 0 < dmax → (chk = true → dest ≤ bumper) →
    (∀ a, Cells dest dmax a → R a) → (∀ a, Cells oD oM a → W a) → W oD →
    AccS R W d (findEnd cfg chk bumper oD oM dmax dest)
      (fun r d' => match r with
        | .inl _ => True
        | .inr (p, m) => d' = d ∧ dest ≤ p ∧ p + m = dest + dmax ∧ (chk = true → p ≤ bumper)) := by
  intro dmax
  induction dmax with
  | zero => intro _ _ h; omega
  | succ n ih =>
    intro dest d _ hb hr hwo hw0
    refine AccS.loadBind (hr _ ⟨by omega, by omega⟩) ?_
    refine AccS.ite (fun _ => AccS.pure _ ⟨rfl, Nat.le_refl _, rfl, hb⟩) fun _ => ?_
    refine AccS.ite (fun _ => AccS.bind (AccS_handleError cfg oD oM _ hwo hw0) (fun _ _ _ => AccS.pure _ trivial)) fun hnb => ?_
    refine AccS.ite (fun _ => AccS.bind (AccS_handleError cfg oD oM _ hwo hw0) (fun _ _ _ => AccS.pure _ trivial)) fun hn => ?_
    refine (ih (dest+1) d (by omega) (fun hc => ?_) (fun a ha => hr a ha.within) hwo hw0).conseq
      (fun r d' hq => ?_)
    · have := hb hc
      have : dest ≠ bumper := fun e => hnb ⟨hc, e⟩
      omega
    · cases r with
      | inl c => trivial
      | inr pm =>
        obtain ⟨g1, g2, g3, g4⟩ := hq
        exact ⟨g1, by omega, by omega, g4⟩

/-- `findEnd` then `copyLoop`: the body of `strcat_s strncat_s wcscat_s wcsncat_s` in one orientation -/
theorem AccS_catBody (cfg : Cfg) (onDest bounded : Bool) (bumper dest dmax src slen : Nat) (hpos : 0 < dmax)
    (hsep : Sep onDest bumper dest src)
    (hrs : ∀ a, Str d src (copyCut bounded dmax slen) a → R a)
    (hrd : ∀ a, Cells dest dmax a → R a) (hw : ∀ a, Cells dest dmax a → W a) :
    AccS R W d (do
      match ← findEnd cfg onDest bumper dest dmax dmax dest with
      | .inl code => pure code
      | .inr (p, m) => copyLoop cfg onDest bounded bumper dest dmax m p src slen : Prog Nat) (fun _ _ => True) := by
  have hw0 : W dest := hw _ ⟨Nat.le_refl _, by omega⟩
  have hb : onDest = true → dest ≤ bumper := by
    intro ho
    rcases hsep with ⟨_, h, _⟩ | ⟨h, _⟩
    · exact h
    · rw [ho] at h; cases h
  refine AccS.bind (AccS_findEnd cfg onDest bumper dest dmax dmax dest d hpos hb hrd hw hw0) (fun r d' hq => ?_)
  cases r with
  | inl c => exact AccS.pure _ trivial
  | inr pm =>
    obtain ⟨p, m⟩ := pm
    obtain ⟨g1, g2, g3, g4⟩ := hq
    subst g1
    refine AccS_copyLoop cfg onDest bounded bumper dest dmax m p src slen _ ?_ ?_ g2 (by omega) hw hw0
    · rcases hsep with ⟨h1, h2, h3⟩ | ⟨h1, h2, h3⟩
      · exact Or.inl ⟨h1, g4 h1, h3⟩
      · exact Or.inr ⟨h1, h2, by omega⟩
    · intro a _ hs
      exact hrs a (hs.mono (copyCut_mono (by omega)))

theorem AccS_strnlen_s_le (str smax : Nat) (b : Bos) (hr : str ≠ 0 → ∀ a, Cells str smax a → R a) :
    AccS R W d (strnlen_s str smax b) (fun r _ => r ≤ smax) :=
  AccS.of_Acc (Acc_strnlen_s_le str smax b hr) d

theorem AccS_wcsnlen_s_le (str smax : Nat) (hr : str ≠ 0 → ∀ a, Cells str smax a → R a) :
    AccS R W d (wcsnlen_s str smax) (fun r _ => r ≤ smax) := by
  have h : Acc R W (wcsnlen_s str smax) (fun r => r ≤ smax) := by
    refine Acc.ite (fun _ => Acc.pure _ (by omega)) fun _ => ?_
    refine Acc.ite (fun _ => Acc.handlerSBind _ (Acc.pure _ (by omega))) fun _ => ?_
    exact Acc.ite (fun _ => Acc.handlerSBind _ (Acc.pure _ (by omega))) fun _ =>
      (Acc_wcsnlenLoop_le smax str 0 (hr ‹_›)).conseq (fun r h => by omega)
  exact AccS.of_Acc h d

theorem AccS_lenClear {α} (cfg : Cfg) (dest dmax code : Nat) (x : α) (hpos : dmax ≠ 0)
    (hr : ∀ a, Cells dest dmax a → R a) (hw : ∀ a, Cells dest dmax a → W a) :
    AccS R W d (do
      let l ← strnlen_s dest dmax none
      handleError cfg dest l code
      pure x : Prog α) (fun _ _ => True) := by
  refine AccS.bind (AccS_strnlen_s_le dest dmax none (fun _ => hr)) (fun l d' hl => ?_)
  exact AccS_errRet cfg dest l code x (fun a ha => hw a ha.within) (hw _ ⟨Nat.le_refl _, by omega⟩)

theorem AccS_wlenClear {α} (cfg : Cfg) (dest dmax code : Nat) (x : α) (hpos : dmax ≠ 0)
    (hr : ∀ a, Cells dest dmax a → R a) (hw : ∀ a, Cells dest dmax a → W a) :
    AccS R W d (do
      let l ← wcsnlen_s dest dmax
      handleError cfg dest l code
      pure x : Prog α) (fun _ _ => True) := by
  refine AccS.bind (AccS_wcsnlen_s_le dest dmax (fun _ => hr)) (fun l d' hl => ?_)
  exact AccS_errRet cfg dest l code x (fun a ha => hw a ha.within) (hw _ ⟨Nat.le_refl _, by omega⟩)

theorem AccS_chkDmaxW (dmax : Nat) (b : Bos) {k : Prog Nat} (hk : AccS R W d k (fun _ _ => True)) :
    AccS R W d (chkDmaxW dmax b k) (fun _ _ => True) := by
  exact AccS.bos (fun _ => AccS.ite (fun _ => AccS_failS _ trivial) fun _ => hk)
    (fun _ _ => AccS.ite (fun _ => AccS.ite (fun _ => AccS_failS _ trivial) fun _ => AccS_failS _ trivial) fun _ => hk)

theorem AccS_chkSlenMaxClear (cfg : Cfg) (dest dmax slen max : Nat) {k : Prog Nat} (hpos : dmax ≠ 0)
    (hr : ∀ a, Cells dest dmax a → R a) (hw : ∀ a, Cells dest dmax a → W a)
    (hk : AccS R W d k (fun _ _ => True)) :
    AccS R W d (chkSlenMaxClear cfg dest dmax slen max k) (fun _ _ => True) := by
  exact AccS.ite (fun _ => AccS_lenClear cfg dest dmax _ _ hpos hr hw) fun _ => hk

theorem AccS_copyBody (cfg : Cfg) (bounded : Bool) (dest dmax src slen : Nat)
    (hrs : ∀ a, Str d src (copyCut bounded dmax slen) a → R a) (hw : ∀ a, Cells dest dmax a → W a) (hw0 : W dest) :
    AccS R W d (if dest < src then copyLoop cfg true bounded src dest dmax dmax dest src slen
      else copyLoop cfg false bounded dest dest dmax dmax dest src slen) (fun _ _ => True) := by
  refine AccS.ite (fun _ => ?_) (fun _ => ?_)
  · exact AccS_copyLoop cfg true bounded src dest dmax dmax dest src slen d (Or.inl ⟨rfl, by omega, Nat.le_refl _⟩)
      (fun a _ h => hrs a h) (Nat.le_refl _) (Nat.le_refl _) hw hw0
  · exact AccS_copyLoop cfg false bounded dest dest dmax dmax dest src slen d (Or.inr ⟨rfl, by omega, Nat.le_refl _⟩)
      (fun a _ h => hrs a h) (Nat.le_refl _) (Nat.le_refl _) hw hw0

theorem AccS_catBody2 (cfg : Cfg) (bounded : Bool) (dest dmax src slen : Nat) (hpos : 0 < dmax)
    (hrs : ∀ a, Str d src (copyCut bounded dmax slen) a → R a)
    (hrd : ∀ a, Cells dest dmax a → R a) (hw : ∀ a, Cells dest dmax a → W a) :
    AccS R W d (if dest < src then do
        match ← findEnd cfg true src dest dmax dmax dest with
        | .inl code => pure code
        | .inr (p, m) => copyLoop cfg true bounded src dest dmax m p src slen
      else do
        match ← findEnd cfg false dest dest dmax dmax dest with
        | .inl code => pure code
        | .inr (p, m) => copyLoop cfg false bounded dest dest dmax m p src slen : Prog Nat) (fun _ _ => True) := by
  exact AccS.ite (fun _ => AccS_catBody cfg true bounded src dest dmax src slen hpos (Or.inl ⟨rfl, by omega, Nat.le_refl _⟩) hrs hrd hw) fun _ =>
    AccS_catBody cfg false bounded dest dest dmax src slen hpos (Or.inr ⟨rfl, by omega, Nat.le_refl _⟩) hrs hrd hw

end SafeC
