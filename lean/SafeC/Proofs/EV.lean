import SafeC.Lemmas
/-!
# `EV p Q`: the events `p` emits and the value it returns satisfy `Q`, whatever the loads return

A Hoare-style judgement on `Prog` for C05 ("every violation is reported exactly once, with the code
returned").  Like `WW` it IGNORES the values read — the continuation of a `load` must satisfy the
judgement for every value — so a function proved `EV` keeps its handler discipline for every memory
content, every placement, mapped or not.  `EV.sound` has no hypothesis on `st` at all (a faulting run returns
nothing, so there is nothing to report about).

The event walk of a model is a derivation written as a term in program order: `.ite` / `.iteH` at a test, `.bind` or
`Quiet.then_` at a sequence, `.optMatch` at the match on an object size, the lemma of an exit or of a shared block at a
leaf (the model unfolds by definitional equality; what is followed is the ELABORATED `do` block, so a statement behind
an `if` without `else` stands once in each branch).  The one tactic, `quiet`, is for the statements with nothing to say
beyond their name: `Quiet p`, "this sub-program emits nothing".
-/
namespace SafeC

inductive EV : {α : Type} → Prog α → (α → List Event → Prop) → Prop where
  | ret {α} {Q : α → List Event → Prop} (x : α) : Q x [] → EV (.ret x) Q
  | load {α} {Q : α → List Event → Prop} (a : Nat) (k : Nat → Prog α) : (∀ v, EV (k v) Q) → EV (.load a k) Q
  | store {α} {Q : α → List Event → Prop} (a v : Nat) (k : Prog α) : EV k Q → EV (.store a v k) Q
  | emit {α} {Q : α → List Event → Prop} (e : Event) (k : Prog α) : EV k (fun x es => Q x (e :: es)) → EV (.emit e k) Q

namespace EV

theorem pure {α} {Q : α → List Event → Prop} (x : α) (h : Q x []) : EV (Pure.pure x : Prog α) Q := .ret x h

theorem conseq {α} {p : Prog α} {Q Q' : α → List Event → Prop} (hp : EV p Q) (h : ∀ x es, Q x es → Q' x es) :
    EV p Q' := by
  induction hp generalizing Q' with
  | ret x hx => exact .ret x (h x [] hx)
  | load a k _ ih => exact .load a _ (fun v => ih v h)
  | store a v k _ ih => exact .store a v _ (ih h)
  | emit e k _ ih => exact .emit e _ (ih (fun x es hq => h x (e :: es) hq))

theorem bind {α β} {p : Prog α} {f : α → Prog β} {Q : α → List Event → Prop} {R : β → List Event → Prop}
    (hp : EV p Q) (hf : ∀ x es, Q x es → EV (f x) (fun y es' => R y (es ++ es'))) : EV (p >>= f) R := by
  induction hp generalizing R with
  | ret x hx =>
    have := hf x [] hx
    exact this
  | load a k _ ih => exact .load a _ (fun v => ih v hf)
  | store a v k _ ih => exact .store a v _ (ih hf)
  | emit e k _ ih =>
    refine .emit e _ (ih (fun x es hq => ?_))
    have := hf x (e :: es) hq
    simpa using this

abbrev Silent {α} (p : Prog α) (Q : α → Prop) : Prop := EV p (fun x es => es = [] ∧ Q x)

theorem bindSilent {α β} {p : Prog α} {f : α → Prog β} {Q : α → Prop} {R : β → List Event → Prop}
    (hp : Silent p Q) (hf : ∀ x, Q x → EV (f x) R) : EV (p >>= f) R :=
  bind hp (fun x es ⟨he, hq⟩ => by subst he; simpa using hf x hq)

theorem ite {α} {Q : α → List Event → Prop} {c : Prop} [Decidable c] {p q : Prog α} (hp : EV p Q) (hq : EV q Q) :
    EV (if c then p else q) Q := by
  split <;> assumption

theorem iteH {α} {Q : α → List Event → Prop} {c : Prop} [Decidable c] {p q : Prog α} (hp : c → EV p Q)
    (hq : ¬ c → EV q Q) : EV (if c then p else q) Q := by
  split
  · exact hp ‹_›
  · exact hq ‹_›

/-- The match on an object size.  Each model compiles it to a matcher of its own, equal to this one up to unfolding
matchers.  Given as a term against the goal it unifies; a tactic that tries it among other rules (`quiet_step`) applies it
`with_reducible_and_instances`, which still unfolds matchers, so that it fires on such a match only. -/
theorem optMatch {α} {Q : α → List Event → Prop} (o : Option Nat) {p : Prog α} {q : Nat → Prog α} (hp : EV p Q)
    (hq : ∀ x, EV (q x) Q) : EV (match o with | none => p | some x => q x) Q := by
  cases o
  · exact hp
  · exact hq _

theorem loadP (a : Nat) : Silent (SafeC.load a) (fun _ => True) := .load a _ (fun v => .ret v ⟨rfl, trivial⟩)
theorem storeP (a v : Nat) : Silent (SafeC.store a v) (fun _ => True) := .store a v _ (.ret () ⟨rfl, trivial⟩)
theorem emitP (e : Event) : EV (SafeC.emit e) (fun _ es => es = [e]) := .emit e _ (.ret () rfl)
theorem handlerS (c : Nat) : EV (SafeC.handlerS c) (fun _ es => es = [.handler .str c]) := emitP _
theorem handlerM (c : Nat) : EV (SafeC.handlerM c) (fun _ es => es = [.handler .mem c]) := emitP _

theorem failS (c : Nat) : EV (SafeC.failS c) (fun r es => r = c ∧ es = [.handler .str c]) := by
  exact bind (handlerS c) (fun _ es he => by subst he; exact pure _ ⟨rfl, by simp⟩)

theorem failM (c : Nat) : EV (SafeC.failM c) (fun r es => r = c ∧ es = [.handler .mem c]) := by
  exact bind (handlerM c) (fun _ es he => by subst he; exact pure _ ⟨rfl, by simp⟩)

theorem memsetP (v n d : Nat) : Silent (SafeC.memsetP v n d) (fun _ => True) := by
  induction n generalizing d with
  | zero => exact pure _ ⟨rfl, trivial⟩
  | succ n ih =>
    exact bindSilent (storeP d v) (fun _ _ => ih (d+1))

theorem zeroLoop (n d : Nat) : Silent (SafeC.zeroLoop n d) (fun _ => True) := by
  rw [zeroLoop_eq_memsetP]; exact memsetP 0 n d

theorem nullSlack (d n : Nat) : Silent (SafeC.nullSlack d n) (fun _ => True) := by
  unfold SafeC.nullSlack
  split
  · exact memsetP 0 n d
  · exact zeroLoop n d

theorem handleError (cfg : Cfg) (d len code : Nat) :
    EV (SafeC.handleError cfg d len code) (fun _ es => es = [.handler .str code]) := by
  unfold SafeC.handleError
  split
  · exact bindSilent (memsetP 0 len d) (fun _ _ => handlerS code)
  · exact bindSilent (storeP d 0) (fun _ _ => handlerS code)

theorem handleMemError (d len code : Nat) :
    EV (SafeC.handleMemError d len code) (fun _ es => es = [.handler .mem code]) := by
  exact bindSilent (memsetP 0 len d) (fun _ _ => handlerM code)

theorem exists_leaf {α} {p : Prog α} {Q : α → List Event → Prop} (h : EV p Q) : ∃ x es, Q x es := by
  induction h with
  | ret x hx => exact ⟨x, [], hx⟩
  | load a k _ ih => exact ih 0
  | store a v k _ ih => exact ih
  | emit e k _ ih => obtain ⟨x, es, h⟩ := ih; exact ⟨x, e :: es, h⟩

theorem sound {α} {p : Prog α} {Q : α → List Event → Prop} (h : EV p Q) (st : St) {r : α} {st' : St}
    (he : exec p st = .ok (r, st')) : ∃ es, st'.events = st.events ++ es ∧ Q r es := by
  induction h generalizing st with
  | ret x hx =>
    obtain ⟨rfl, rfl⟩ := he
    exact ⟨[], by simp, hx⟩
  | load a k _ ih =>
    simp only [exec] at he
    split at he
    · obtain ⟨es, h1, h2⟩ := ih _ _ he
      refine ⟨es, ?_, h2⟩
      rw [h1, St.noteRd_events]
    · cases he
  | store a v k _ ih =>
    simp only [exec] at he
    split at he
    · obtain ⟨es, h1, h2⟩ := ih _ he
      refine ⟨es, ?_, h2⟩
      rw [h1, St.upd_events, St.noteWr_events]
    · cases he
  | emit e k _ ih =>
    obtain ⟨es, h1, h2⟩ := ih _ he
    exact ⟨e :: es, by rw [h1]; simp, h2⟩

end EV

def Quiet {α} (p : Prog α) : Prop := EV.Silent p (fun _ => True)

namespace Quiet
theorem pure {α} (x : α) : Quiet (Pure.pure x : Prog α) := EV.pure _ ⟨rfl, trivial⟩
theorem ret {α} (x : α) : Quiet (Prog.ret x : Prog α) := EV.ret _ ⟨rfl, trivial⟩
theorem bind {α β} {p : Prog α} {f : α → Prog β} (hp : Quiet p) (hf : ∀ x, Quiet (f x)) : Quiet (p >>= f) :=
  EV.bindSilent hp (fun x _ => hf x)
theorem ite {α} {c : Prop} [Decidable c] {p q : Prog α} (hp : Quiet p) (hq : Quiet q) : Quiet (if c then p else q) :=
  EV.ite hp hq
theorem optMatch {α} (o : Option Nat) {p : Prog α} {q : Nat → Prog α} (hp : Quiet p) (hq : ∀ x, Quiet (q x)) :
    Quiet (match o with | none => p | some x => q x) := EV.optMatch o hp hq
theorem loadP (a : Nat) : Quiet (SafeC.load a) := EV.loadP a
theorem storeP (a v : Nat) : Quiet (SafeC.store a v) := EV.storeP a v
theorem memsetP (v n d : Nat) : Quiet (SafeC.memsetP v n d) := EV.memsetP v n d
theorem zeroLoop (n d : Nat) : Quiet (SafeC.zeroLoop n d) := EV.zeroLoop n d
theorem nullSlack (d n : Nat) : Quiet (SafeC.nullSlack d n) := EV.nullSlack d n
theorem then_ {α β} {p : Prog α} {f : α → Prog β} {R : β → List Event → Prop}
    (hp : Quiet p) (hf : ∀ x, EV (f x) R) : EV (p >>= f) R :=
  EV.bindSilent hp (fun x _ => hf x)
end Quiet

/-- One step of the walk.  The structural lemmas come first and everything up to `assumption` runs under
`with_reducible`, so that a lemma whose head is not the goal's fails at once; `split` (which simplifies the whole
goal) is only reached for a `match` other than the one on an `Option`. -/
macro "quiet_step" : tactic => `(tactic| first
  | with_reducible first
    | apply Quiet.ite
    | apply Quiet.bind
    | intro _
    | (with_reducible_and_instances apply Quiet.optMatch)
    | exact Quiet.pure _
    | exact Quiet.ret _
    | exact Quiet.loadP _
    | exact Quiet.storeP _ _
    | exact Quiet.memsetP _ _ _
    | exact Quiet.zeroLoop _ _
    | exact Quiet.nullSlack _ _
    | assumption
    | extract_lets
  | split
  | dsimp only)

/-- `quiet` walks the whole program; `quiet using ih₁, ih₂` also tries the given lemmas / induction hypotheses at the leaves -/
syntax "quiet" (" using " term,+)? : tactic
macro_rules
  | `(tactic| quiet) => `(tactic| repeat quiet_step)
  | `(tactic| quiet using $[$hs],*) => `(tactic| repeat (first $[| with_reducible apply $hs]* | quiet_step))

section walk
open Gen

/-- the C05 discipline of an `errno_t` function reporting through handler kind `k`:
EOK and no event, or a code ≠ EOK and exactly one handler call carrying that code -/
def Once (k : Kind) (r : Nat) (es : List Event) : Prop :=
  (r = Gen.EOK ∧ es = []) ∨ (r ≠ Gen.EOK ∧ es = [.handler k r])

/-- `Once k` with the reported code among `S`: the post that names the codes.  `S` lists the codes the
function can report; `Props/C05Docs.lean` compares `EOK :: S` with the `@retval` lines of its doc comment. -/
def OnceIn (S : List Nat) (k : Kind) (r : Nat) (es : List Event) : Prop :=
  (r = Gen.EOK ∧ es = []) ∨ (r ∈ S ∧ r ≠ Gen.EOK ∧ es = [.handler k r])

theorem OnceIn.once {S : List Nat} {k : Kind} {r : Nat} {es : List Event} (h : OnceIn S k r es) : Once k r es :=
  h.imp id And.right

/-- what a proved `EV … (OnceIn S k)` says of one run, in the form of the C05 statements -/
theorem events_of_once {p : Prog Nat} {S : List Nat} {k : Kind} (h : EV p (OnceIn S k)) {st st' : St} {code : Nat}
    (he : exec p st = .ok (code, st')) :
    (code = Gen.EOK → st'.events = st.events) ∧ (code ≠ Gen.EOK → st'.events = st.events ++ [.handler k code]) := by
  obtain ⟨es, hes, hq⟩ := h.sound st he
  rcases hq with ⟨hc, rfl⟩ | ⟨_, hc, rfl⟩
  · exact ⟨fun _ => by simpa using hes, fun h => absurd hc h⟩
  · exact ⟨fun h => absurd h hc, fun _ => hes⟩

namespace Props.C05Docs
/-! the lists `S` of codes the functions can report: those of the entry checks on `dest` / `dmax`, plus what the
body of each family adds -/
abbrev SChk : List Nat := [ESNULLP, ESZEROL, ESLEMAX, EOVERFLOW]
abbrev SChkUnterm : List Nat := SChk ++ [ESUNTERM]
abbrev SChkNospc : List Nat := SChk ++ [ESNOSPC]
abbrev SChkNotfnd : List Nat := SChk ++ [ESNOTFND]
abbrev SM : List Nat := [ESNULLP, ESZEROL, ESLEMAX, EOVERFLOW, ESNOSPC, ESOVRLP]
abbrev SSet : List Nat := [ESNULLP, ESLEMAX, EOVERFLOW, ESNOSPC]
abbrev SCopy : List Nat := SChk ++ [ESOVRLP, ESNOSPC]
abbrev SCat : List Nat := SCopy ++ [ESUNTERM]
end Props.C05Docs

end walk

end SafeC
