import SafeC.Proofs.AccCopy
/-!
# Footprint of the entry points of the copy family: `strcpy_s strncpy_s strcat_s strncat_s wcscpy_s wcsncpy_s wcscat_s wcsncat_s`

Hypotheses (all parameters of the lemma): `hrs` the string at `src` cut at `dmax` / `min dmax slen` cells is readable,
`hrd`/`hw` dest's `dmax` cells are readable (the `strnlen_s(dest, …)` of the clearing exits, `findEnd`) and writable.
Every argument combination: NULL pointers, zero / oversized `dmax` and `slen`, object sizes known or unknown, any placement.

The bounded narrow functions have ONE exit that leaves dest's `dmax` cells: `slen > srcbos` with a known `destbos`
calls `handle_str_bos_overflow(dest, destbos)`, which measures (`strnlen_s(dest, destbos)`) and clears up to the OBJECT
size.  `hob` asks for the object's cells on that exit only; `hob_of_hov`: they lie inside dest's `dmax` cells when `destbos` is
not above `dmax` there.
-/
namespace SafeC
open Gen

variable {R W : Nat → Prop} {d : Nat → Nat}

/-- `handle_str_bos_overflow(dest, n)` with `n` above `RSIZE_MAX_STR`: `strnlen_s` refuses, nothing is read, `dest[0]`
at most is stored -/
theorem AccS_handleStrBosOverflow_big (cfg : Cfg) (p n : Nat) (hn : n > RSIZE_MAX_STR) (h0 : W p) :
    AccS R W d (handleStrBosOverflow cfg p n) (fun _ _ => True) := by
  have hlen : AccS R W d (strnlen_s p n none) (fun r _ => r = 0) := by
    refine AccS.ite (fun _ => AccS.handlerSBind _ (AccS.pure _ rfl)) fun _ => ?_
    refine AccS.ite (fun _ => AccS.handlerSBind _ (AccS.pure _ rfl)) fun _ => ?_
    first
      | exact AccS.handlerSBind _ (AccS.pure _ rfl)
      | (split
         · exact AccS.handlerSBind _ (AccS.pure _ rfl)
         · omega)
  refine AccS.bind hlen (fun r d' hr => ?_)
  subst hr
  have hz : ∀ a, Cells p 0 a → W a := fun a ⟨h1, h2⟩ => by omega
  exact AccS.ite (fun _ => AccS_errRet cfg p 1 _ _ (fun a ⟨h1, h2⟩ => (show a = p by omega) ▸ h0) h0) fun _ =>
    AccS_errRet cfg p 0 _ _ hz h0

/-- the `slen > srcbos` exit: `handle_str_bos_overflow(dest, destbos)` measures and clears up to the OBJECT size (`hob`: the
object's cells, when the size is known) -/
theorem AccS_bosOverflow (cfg : Cfg) (dest dmax : Nat) (destbos : Bos) (hpos : dmax ≠ 0)
    (hob : ∀ b, destbos = some b → (∀ a, Cells dest b a → R a) ∧ (∀ a, Cells dest b a → W a))
    (hle : ∀ b, destbos = some b → dmax ≤ b)
    (hw : ∀ a, Cells dest dmax a → W a) :
    AccS R W d (handleStrBosOverflow cfg dest (destbos.getD (2^64 - 1))) (fun _ _ => True) := by
  have h0 : W dest := hw _ ⟨Nat.le_refl _, by omega⟩
  cases destbos with
  | none => exact AccS_handleStrBosOverflow_big cfg dest _ (by simp [RSIZE_MAX_STR]) h0
  | some b =>
    have := hle b rfl
    have e : max b 1 = b := by omega
    exact AccS_handleStrBosOverflow cfg dest b (hob b rfl).1 (by rw [e]; exact (hob b rfl).2)

/-- a known dest object size and a known source object size together: the `slen > srcbos` exit clears
`strnlen_s(dest, destbos)` cells, so the store extent is `destbos`, not `dmax` (`slen-exceeds-srcbos-clears-destbos`) -/
def bosTight (dmax : Nat) : Bos → Bos → Prop
  | some db, some _ => db ≤ dmax
  | _, _ => True

theorem bosTight.hov {dmax slen : Nat} {db sb : Bos} (hb : bosTight dmax db sb) :
    ∀ b s, db = some b → sb = some s → s < slen → b ≤ dmax :=
  fun b s h1 h2 _ => by subst h1 h2; exact hb

theorem hob_of_hov {dest dmax slen : Nat} {db sb : Bos}
    (hov : ∀ b s, db = some b → sb = some s → s < slen → b ≤ dmax)
    (hr : ∀ a, Cells dest dmax a → R a) (hw : ∀ a, Cells dest dmax a → W a) :
    ∀ b s, db = some b → sb = some s → s < slen → (∀ a, Cells dest b a → R a) ∧ (∀ a, Cells dest b a → W a) :=
  fun b s h1 h2 h3 => ⟨fun a ⟨g1, g2⟩ => hr a ⟨g1, by have := hov b s h1 h2 h3; omega⟩,
    fun a ⟨g1, g2⟩ => hw a ⟨g1, by have := hov b s h1 h2 h3; omega⟩⟩

/-- `CHK_SRC_NULL_CLEAR` -/
theorem AccS_srcNull (cfg : Cfg) {dest dmax src : Nat} {k : Prog Nat} (hpos : dmax ≠ 0) (hw : ∀ a, Cells dest dmax a → W a)
    (hk : src ≠ 0 → AccS R W d k (fun _ _ => True)) :
    AccS R W d (if src = 0 then do handleError cfg dest dmax ESNULLP; pure ESNULLP else k) (fun _ _ => True) :=
  AccS.ite (fun _ => AccS_errRet cfg dest dmax _ _ hw (hw _ ⟨Nat.le_refl _, by omega⟩)) hk

theorem strcpyG_accs (max : Nat) (cfg : Cfg) (dest dmax src : Nat) (b : Bos)
    (hrs : src ≠ 0 → ∀ a, Str d src dmax a → R a)
    (hrd : dest ≠ 0 → ∀ a, Cells dest dmax a → R a) (hw : dest ≠ 0 → ∀ a, Cells dest dmax a → W a) :
    AccS R W d (strcpyG max cfg dest dmax src b) (fun _ _ => True) := by
  exact AccS_destChecks fun hd hm => AccS_chkDmaxClearG id cfg dest dmax b max hm (hrd hd) (hw hd) fun _ =>
    AccS_srcNull cfg hm (hw hd) fun hs => AccS.ite (fun _ => AccS.pure _ trivial) fun _ =>
      AccS_copyBody cfg false dest dmax src 0 (hrs hs) (hw hd) (hw hd _ ⟨Nat.le_refl _, by omega⟩)

theorem strncpyG_accs (max : Nat) (cfg : Cfg) (dest dmax src slen : Nat) (db sb : Bos)
    (hob : dest ≠ 0 → ∀ b s, db = some b → sb = some s → s < slen → (∀ a, Cells dest b a → R a) ∧ (∀ a, Cells dest b a → W a))
    (hrs : src ≠ 0 → ∀ a, Str d src (min dmax slen) a → R a)
    (hrd : dest ≠ 0 → ∀ a, Cells dest dmax a → R a) (hw : dest ≠ 0 → ∀ a, Cells dest dmax a → W a) :
    AccS R W d (strncpyG max cfg dest dmax src slen db sb) (fun _ _ => True) := by
  refine AccS.ite (fun h => AccS.storeBind (hw h.2.1 _ ⟨Nat.le_refl _, by omega⟩) (AccS.pure _ trivial)) fun _ =>
    AccS_destChecks fun hd hm => AccS_chkDmaxClearG id cfg dest dmax db max hm (hrd hd) (hw hd) fun hle =>
      AccS_srcNull cfg hm (hw hd) fun hs => AccS_chkSlenMaxClear cfg dest dmax slen max hm (hrd hd) (hw hd) ?_
  have body := AccS_copyBody (d := d) cfg true dest dmax src slen (hrs hs) (hw hd) (hw hd _ ⟨Nat.le_refl _, by omega⟩)
  cases sb with
  | none => exact body
  | some s =>
    exact AccS.ite (fun hgt => AccS_bosOverflow cfg dest dmax db hm (fun b hb => hob hd b s hb rfl hgt) hle (hw hd))
      fun _ => body

theorem strcatG_accs (max : Nat) (cfg : Cfg) (dest dmax src : Nat) (b : Bos)
    (hrs : src ≠ 0 → ∀ a, Str d src dmax a → R a)
    (hrd : dest ≠ 0 → ∀ a, Cells dest dmax a → R a) (hw : dest ≠ 0 → ∀ a, Cells dest dmax a → W a) :
    AccS R W d (strcatG max cfg dest dmax src b) (fun _ _ => True) := by
  exact AccS_destChecks fun hd hm => AccS_chkDmaxClearG id cfg dest dmax b max hm (hrd hd) (hw hd) fun _ =>
    AccS_srcNull cfg hm (hw hd) fun hs => AccS_catBody2 cfg false dest dmax src 0 (by omega) (hrs hs) (hrd hd) (hw hd)

theorem strncatG_accs (max : Nat) (cfg : Cfg) (dest dmax src slen : Nat) (db sb : Bos)
    (hob : dest ≠ 0 → ∀ b s, db = some b → sb = some s → s < slen → (∀ a, Cells dest b a → R a) ∧ (∀ a, Cells dest b a → W a))
    (hrs : src ≠ 0 → ∀ a, Str d src (min dmax slen) a → R a)
    (hrd : dest ≠ 0 → ∀ a, Cells dest dmax a → R a) (hw : dest ≠ 0 → ∀ a, Cells dest dmax a → W a) :
    AccS R W d (strncatG max cfg dest dmax src slen db sb) (fun _ _ => True) := by
  refine AccS.ite (fun _ => AccS.pure _ trivial) fun _ =>
    AccS_destChecks fun hd hm => AccS_chkDmaxClearG id cfg dest dmax db max hm (hrd hd) (hw hd) fun hle =>
      AccS_srcNull cfg hm (hw hd) fun hs => AccS_chkSlenMaxClear cfg dest dmax slen max hm (hrd hd) (hw hd) <|
        AccS.ite (fun _ => AccS.bind (AccS_strnlen_s_le dest dmax none fun _ => hrd hd) fun _ _ _ =>
          AccS_errRet cfg dest dmax _ _ (hw hd) (hw hd _ ⟨Nat.le_refl _, by omega⟩)) fun _ => ?_
  have body := AccS_catBody2 (d := d) cfg true dest dmax src slen (by omega) (hrs hs) (hrd hd) (hw hd)
  cases sb with
  | none => exact body
  | some s =>
    exact AccS.ite (fun hgt => AccS_bosOverflow cfg dest dmax db hm (fun b hb => hob hd b s hb rfl hgt) hle (hw hd))
      fun _ => body

theorem wcscpy_s_accs (cfg : Cfg) (dest dmax src : Nat) (b : Bos)
    (hrs : src ≠ 0 → ∀ a, Str d src dmax a → R a) (hw : dest ≠ 0 → ∀ a, Cells dest dmax a → W a) :
    AccS R W d (wcscpy_s cfg dest dmax src b) (fun _ _ => True) := by
  exact AccS_destChecks fun hd hm => AccS_chkDmaxClearW cfg dest dmax b hm (hw hd) <|
    AccS_srcNull cfg hm (hw hd) fun hs => AccS.ite (fun _ => AccS.pure _ trivial) fun _ =>
      AccS_copyBody cfg false dest dmax src 0 (hrs hs) (hw hd) (hw hd _ ⟨Nat.le_refl _, by omega⟩)

/-- **wcsncpy_s**: the `slen` exits measure dest with `wcsnlen_s(dest, dmax)` — inside `dmax` -/
theorem wcsncpy_s_accs (cfg : Cfg) (dest dmax src slen : Nat) (db sb : Bos)
    (hrs : src ≠ 0 → ∀ a, Str d src (min dmax slen) a → R a)
    (hrd : dest ≠ 0 → ∀ a, Cells dest dmax a → R a) (hw : dest ≠ 0 → ∀ a, Cells dest dmax a → W a) :
    AccS R W d (wcsncpy_s cfg dest dmax src slen db sb) (fun _ _ => True) := by
  refine AccS.ite (fun h => AccS.storeBind (hw h.2.1 _ ⟨Nat.le_refl _, by omega⟩) (AccS.pure _ trivial)) fun _ =>
    AccS_destChecks fun hd hm => AccS_chkDmaxClearW cfg dest dmax db hm (hw hd) <|
      AccS_srcNull cfg hm (hw hd) fun hs => AccS.ite (fun _ => AccS_wlenClear cfg dest dmax _ _ hm (hrd hd) (hw hd)) fun _ => ?_
  have body := AccS_copyBody (d := d) cfg true dest dmax src slen (hrs hs) (hw hd) (hw hd _ ⟨Nat.le_refl _, by omega⟩)
  cases sb with
  | none => exact body
  | some s => exact AccS.ite (fun _ => AccS_wlenClear cfg dest dmax _ _ hm (hrd hd) (hw hd)) fun _ => body

/-- **wcscat_s** (`CHK_DESTW_OVR`: the object-size exits do not clear) -/
theorem wcscat_s_accs (cfg : Cfg) (dest dmax src : Nat) (b : Bos)
    (hrs : src ≠ 0 → ∀ a, Str d src dmax a → R a)
    (hrd : dest ≠ 0 → ∀ a, Cells dest dmax a → R a) (hw : dest ≠ 0 → ∀ a, Cells dest dmax a → W a) :
    AccS R W d (wcscat_s cfg dest dmax src b) (fun _ _ => True) := by
  exact AccS_destChecks fun hd hm => AccS_chkDmaxW dmax b <|
    AccS_srcNull cfg hm (hw hd) fun hs => AccS_catBody2 cfg false dest dmax src 0 (by omega) (hrs hs) (hrd hd) (hw hd)

theorem wcsncat_s_accs (cfg : Cfg) (dest dmax src slen : Nat) (db sb : Bos)
    (hrs : src ≠ 0 → ∀ a, Str d src (min dmax slen) a → R a)
    (hrd : dest ≠ 0 → ∀ a, Cells dest dmax a → R a) (hw : dest ≠ 0 → ∀ a, Cells dest dmax a → W a) :
    AccS R W d (wcsncat_s cfg dest dmax src slen db sb) (fun _ _ => True) := by
  refine AccS.ite (fun _ => AccS.pure _ trivial) fun _ =>
    AccS_destChecks fun hd hm => AccS_chkDmaxW dmax db <|
      AccS_srcNull cfg hm (hw hd) fun hs => AccS.ite (fun _ => AccS_wlenClear cfg dest dmax _ _ hm (hrd hd) (hw hd)) fun _ => ?_
  extract_lets rest
  have hrest : AccS R W d rest (fun _ _ => True) :=
    AccS.ite (fun _ => AccS.bind (AccS_wcsnlen_s_le dest dmax fun _ => hrd hd) fun _ _ _ =>
        AccS_errRet cfg dest dmax _ _ (hw hd) (hw hd _ ⟨Nat.le_refl _, by omega⟩)) fun _ =>
      AccS_catBody2 cfg true dest dmax src slen (by omega) (hrs hs) (hrd hd) (hw hd)
  cases sb with
  | none => exact hrest
  | some s => exact AccS.ite (fun _ => AccS_wlenClear cfg dest dmax _ _ hm (hrd hd) (hw hd)) fun _ => hrest

end SafeC
