import SafeC.Models.PrintfSpec
/-!
# C11, the heart: the digit loop of `safec_ntoa_long[_long]` writes the positional representation of the value

`ntoaDigits base upper PRINTF_NTOA_BUFFER_SIZE value []` (the `do … while (value && len < 32)` loop) is, for every
`value < 2^64` and every base from 8 to 16, exactly the digit characters of `Spec.digits base value` in reverse order
(`"0"` for 0), and `Spec.digits` is the positional representation: its value is `n`, every digit is `< base`, and it has
no leading zero.
-/
namespace SafeC.Printf
open SafeC.Printf.Spec

/-- digits of `n`, least significant first; `[0]` for 0 -/
def revDigits (b n : Nat) : List Nat :=
  if _h : 2 ≤ b ∧ b ≤ n then (n % b) :: revDigits b (n / b) else [n]
termination_by n
decreasing_by exact Nat.div_lt_self (by omega) _h.1

theorem revDigits_lt {b n : Nat} (h : n < b) : revDigits b n = [n] := by
  rw [revDigits]; simp; omega

theorem revDigits_ge {b n : Nat} (hb : 2 ≤ b) (h : b ≤ n) : revDigits b n = (n % b) :: revDigits b (n / b) := by
  rw [revDigits]; simp [hb, h]

theorem revDigits_ne_nil (b n : Nat) : revDigits b n ≠ [] := by
  rw [revDigits]; split <;> simp

/-- the loop, from any fill state with enough room and fuel -/
theorem ntoaDigits_eq (b : Nat) (up : Bool) (hb : 2 ≤ b) :
    ∀ (fuel v : Nat) (buf : Str), (revDigits b v).length ≤ fuel → buf.length + (revDigits b v).length ≤ NTOA →
      ntoaDigits b up fuel v buf = buf ++ (revDigits b v).map (digitChar · up) := by
  intro fuel
  induction fuel with
  | zero =>
    intro v buf h; have := revDigits_ne_nil b v
    cases hr : revDigits b v with
    | nil => exact absurd hr this
    | cons a l => rw [hr] at h; simp at h
  | succ k ih =>
    intro v buf hf hl
    by_cases hv : v < b
    · have hd : v / b = 0 := Nat.div_eq_of_lt hv
      have hm : v % b = v := Nat.mod_eq_of_lt hv
      simp [ntoaDigits, hd, hm, revDigits_lt hv]
    · have hge : b ≤ v := Nat.le_of_not_lt hv
      have hd : v / b ≠ 0 := by
        intro h0; have := (Nat.div_eq_zero_iff).1 h0; omega
      rw [revDigits_ge hb hge] at hf hl ⊢
      simp only [List.length_cons] at hf hl
      have hne := revDigits_ne_nil b (v / b)
      have hpos : 0 < (revDigits b (v / b)).length := List.length_pos_iff.2 hne
      have hroom : (buf ++ [digitChar (v % b) up]).length < NTOA := by simp; omega
      have hc : ((v / b != 0) && decide ((buf ++ [digitChar (v % b) up]).length < NTOA)) = true := by
        simp only [Bool.and_eq_true, bne_iff_ne, ne_eq, decide_eq_true_eq]; exact ⟨hd, hroom⟩
      rw [ntoaDigits]
      simp only [hc, if_true]
      rw [ih (v / b) (buf ++ [digitChar (v % b) up]) (by omega) (by simp only [List.length_append, List.length_singleton]; omega)]
      simp only [List.append_assoc, List.map_cons, List.singleton_append]

theorem revDigits_length_le (b : Nat) (hb : 2 ≤ b) : ∀ (k n : Nat), 0 < k → n < b ^ k → (revDigits b n).length ≤ k := by
  intro k
  induction k with
  | zero => intro n h; omega
  | succ k ih =>
    intro n _ hn
    by_cases hv : n < b
    · rw [revDigits_lt hv]; simp
    · have hge : b ≤ n := Nat.le_of_not_lt hv
      rw [revDigits_ge hb hge]
      have hk : 0 < k := by
        rcases k with _ | k
        · simp at hn; omega
        · omega
      have : n / b < b ^ k := by
        rw [Nat.div_lt_iff_lt_mul (by omega)]; rw [Nat.pow_succ] at hn; exact hn
      have := ih (n / b) hk this
      simp; omega

/-- every 64-bit value has at most 22 digits in a base of 8 or more: the 32-byte buffer is never the limit for the digits -/
theorem revDigits_length_64 (b v : Nat) (hb : 8 ≤ b) (hv : v < 2 ^ 64) : (revDigits b v).length ≤ 22 := by
  apply revDigits_length_le b (by omega) 22 v (by omega)
  have h1 : (8 : Nat) ^ 22 ≤ b ^ 22 := Nat.pow_le_pow_left hb 22
  omega

theorem digitChar_eq_digitSym : ∀ d, d < 16 → (digitChar d true = digitSym true d ∧ digitChar d false = digitSym false d) := by
  decide

theorem revDigits_eq_reverse (b : Nat) (hb : 2 ≤ b) : ∀ n, 0 < n → revDigits b n = (digits b n).reverse := by
  intro n
  induction n using Nat.strongRecOn with
  | _ n ih =>
    intro hn
    rw [digits]
    simp only [hb, hn, and_self, dite_true, List.reverse_append, List.reverse_cons, List.reverse_nil, List.nil_append, List.singleton_append]
    by_cases hv : n < b
    · have hd : n / b = 0 := Nat.div_eq_of_lt hv
      rw [revDigits_lt hv, hd, digits]
      simp [Nat.mod_eq_of_lt hv]
    · have hge : b ≤ n := Nat.le_of_not_lt hv
      have hd : 0 < n / b := Nat.div_pos hge (by omega)
      rw [revDigits_ge hb hge, ih (n / b) (Nat.div_lt_self hn hb) hd]

theorem digits_zero (b : Nat) : digits b 0 = [] := by rw [digits]; simp

theorem digits_ne_nil (b v : Nat) (hb : 2 ≤ b) (hv : v ≠ 0) : digits b v ≠ [] := by
  rw [digits]; simp [hb, Nat.pos_of_ne_zero hv]

/-- value of a digit list, most significant first -/
def ofDigits (b : Nat) (l : List Nat) : Nat := l.foldl (fun a d => a * b + d) 0

theorem ofDigits_digits (b : Nat) (hb : 2 ≤ b) : ∀ n, ofDigits b (digits b n) = n := by
  intro n
  induction n using Nat.strongRecOn with
  | _ n ih =>
    by_cases hn : 0 < n
    · rw [digits]
      simp only [hb, hn, and_self, dite_true, ofDigits, List.foldl_append, List.foldl_cons, List.foldl_nil]
      have := ih (n / b) (Nat.div_lt_self hn hb)
      unfold ofDigits at this
      rw [this, Nat.mul_comm]; exact Nat.div_add_mod n b
    · have : n = 0 := by omega
      subst this; rw [digits_zero]; rfl

theorem digits_lt (b : Nat) (hb : 2 ≤ b) : ∀ n, ∀ d ∈ digits b n, d < b := by
  intro n
  induction n using Nat.strongRecOn with
  | _ n ih =>
    intro d hd
    by_cases hn : 0 < n
    · rw [digits] at hd
      simp only [hb, hn, and_self, dite_true, List.mem_append, List.mem_singleton] at hd
      rcases hd with hd | hd
      · exact ih (n / b) (Nat.div_lt_self hn hb) d hd
      · subst hd; exact Nat.mod_lt _ (by omega)
    · have : n = 0 := by omega
      subst this; rw [digits_zero] at hd; simp at hd

theorem digits_head_ne_zero (b : Nat) (hb : 2 ≤ b) : ∀ n, (digits b n).head? ≠ some 0 := by
  intro n
  induction n using Nat.strongRecOn with
  | _ n ih =>
    by_cases hn : 0 < n
    · rw [digits]
      simp only [hb, hn, and_self, dite_true]
      by_cases hv : n < b
      · have hd : n / b = 0 := Nat.div_eq_of_lt hv
        rw [hd, digits_zero]; simp [Nat.mod_eq_of_lt hv]; omega
      · have hge : b ≤ n := Nat.le_of_not_lt hv
        have hd : 0 < n / b := Nat.div_pos hge (by omega)
        have h1 := ih (n / b) (Nat.div_lt_self hn hb)
        have hne := digits_ne_nil b (n / b) hb (by omega)
        cases hl : digits b (n / b) with
        | nil => exact absurd hl hne
        | cons a l => rw [hl] at h1; simpa using h1
    · have : n = 0 := by omega
      subst this; rw [digits_zero]; simp

/-- **`ntoa` digit theorem.**  For every value below 2^64 and every base from 8 to 16 the digit loop of
    `safec_ntoa_long` / `safec_ntoa_long_long`, started on the empty buffer, leaves exactly the standard's digit
    characters of the value, least significant first (the single character `0` for the value 0). -/
theorem ntoaDigits_spec (b : Nat) (up : Bool) (v : Nat) (hb : 8 ≤ b) (hb16 : b ≤ 16) (hv : v < 2 ^ 64) :
    ntoaDigits b up NTOA v [] =
      if v = 0 then ['0'] else ((digits b v).map (digitSym up)).reverse := by
  have h22 := revDigits_length_64 b v hb hv
  have hN : NTOA = 32 := rfl
  rw [ntoaDigits_eq b up (by omega) NTOA v [] (by omega) (by simp; omega)]
  by_cases h0 : v = 0
  · subst h0; rw [revDigits_lt (by omega)]; simp [digitChar]
  · simp only [h0, if_false, List.nil_append]
    rw [revDigits_eq_reverse b (by omega) v (by omega), List.map_reverse]
    congr 1
    apply List.map_congr_left
    intro d hd
    have hlt := digits_lt b (by omega) v d hd
    have := digitChar_eq_digitSym d (by omega)
    cases up
    · exact this.2
    · exact this.1

end SafeC.Printf
