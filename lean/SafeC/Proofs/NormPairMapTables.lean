import SafeC.Proofs.NormUCD
/-! C17 — table facts behind "the tree's pair map (`_composite_cp` + `isExclusion`, repaired) = D114 primary composites of UCD 14.0"
(the equality itself: NormPairMap.lean; the two directions entry by entry: `compEntry_fwd`, `bwd2_check`, NormCompose.lean): the
list a code point reaches, Hangul syllables -/
namespace SafeC.Norm
open SafeC.Gen

/-- the number (from 1) of the composition list `cp` reaches through the three-level table, 0 if none -/
def cellOf (cp : Nat) : Nat :=
  match rowId UniCompos.mainN UniCompos.main UniCompos.planes cp with
  | some (r + 1) => cell 16 UniCompos.rows (r * 256 + cp % 256)
  | _ => 0

/-- the list each of the 256 code points of block `b` reaches is the list recorded for that code point; the row looked up once -/
def cellCpBlockOk (b : Nat) : Bool :=
  match rowId UniCompos.mainN UniCompos.main UniCompos.planes (b * 256) with
  | some (r + 1) =>
    allBelow (fun i => cell 16 UniCompos.rows (r * 256 + i) == 0 ||
      (decide (cell 16 UniCompos.rows (r * 256 + i) ≤ UniCompos.listsN) &&
        cell 32 UniCompos.listCp (cell 16 UniCompos.rows (r * 256 + i) - 1) == b * 256 + i)) 256
  | _ => true

theorem cellcp_check : allBelow cellCpBlockOk 0x300 = true := by decide +kernel

theorem cellOf_listCp {c : Nat} (hc : c < 0x110000) :
    cellOf c = 0 ∨ (cellOf c ≤ UniCompos.listsN ∧ cell 32 UniCompos.listCp (cellOf c - 1) = c) := by
  unfold cellOf
  by_cases hlo : c < 0x30000
  · have h := allBelow_spec cellcp_check (c / 256) (by omega)
    have e : c / 256 * 256 + c % 256 = c := by omega
    unfold cellCpBlockOk at h
    rw [rowId_block]
    split at h
    · have := allBelow_spec h _ (Nat.mod_lt c (by omega))
      simpa [e] using this
    · exact .inl rfl
  · rw [rowId_high high_planes_empty.2.2.1 (by omega) (by rw [compos_mainN]; omega)]
    exact .inl rfl

theorem hangul_not_excluded : exclRanges.all (fun r => decide (r.2 < 0xAC00) || decide (0xD7A3 < r.1)) = true := by decide +kernel

/-- Hangul syllables are assigned: blocks 0xAC..0xD6 throughout (a page of ones, one comparison per block), the last block up to
U+D7A3 -/
theorem hangul_assigned :
    (allBelow (fun i => cell 16 UCD14.asgIdx (0xAC + i) != 0 &&
        row 1 UCD14.asgPages (cell 16 UCD14.asgIdx (0xAC + i) - 1) == 2 ^ 256 - 1) 43 &&
     allBelow (fun i => UCD.assigned (0xD700 + i)) 0xA4) = true := by decide +kernel

theorem hangulS_assigned {c : Nat} (h : 0xAC00 ≤ c ∧ c ≤ 0xD7A3) : UCD.assigned c = true := by
  have hk := hangul_assigned
  simp only [Bool.and_eq_true] at hk
  by_cases hl : c < 0xD700
  · have := allBelow_spec hk.1 (c / 256 - 0xAC) (by omega)
    simp only [show 0xAC + (c / 256 - 0xAC) = c / 256 by omega, Bool.and_eq_true, bne_iff_ne, ne_eq, beq_iff_eq] at this
    have hi : c % 256 < 256 := Nat.mod_lt _ (by omega)
    rw [UCD.assigned, if_pos (by omega)]
    simp only [this.1, ↓reduceIte]
    -- bit `c % 256` of a page of ones
    rw [cell_row 1 _ _ hi, this.2, cell, Nat.one_mul, Nat.shiftRight_eq_div_pow]
    have := Nat.testBit_two_pow_sub_one 256 (c % 256)
    rw [Nat.testBit_eq_decide_div_mod_eq] at this
    simpa [hi] using this
  · have := allBelow_spec hk.2 (c - 0xD700) (by omega)
    rwa [show 0xD700 + (c - 0xD700) = c by omega] at this

end SafeC.Norm
