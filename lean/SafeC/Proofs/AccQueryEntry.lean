import SafeC.Proofs.AccQuery
/-!
# Read footprints of the query ENTRY POINTS (all arguments, object sizes known or not)

`R` is a parameter; each lemma asks for what the function can reach: `Str d dest (dmax+1)` (one cell more
than declared) where the C tests `*dest` before the counter, `Str d dest dmax` where it does not.
A null pointer is never dereferenced: the conditions on `R` are asked for non-null pointers only.
-/
namespace SafeC
open Gen

variable {d : Nat → Nat} {R : Nat → Prop}

theorem AccD_qChkS_then {β} {Q : β → Prop} {dest dmax : Nat} {b : Bos} {src : Option Nat} {f : Option Nat → Prog β}
    (hsome : ∀ e, AccD d R (f (some e)) Q)
    (hnone : dest ≠ 0 → src ≠ some 0 → dmax ≠ 0 → AccD d R (f none) Q) :
    AccD d R (qChkS dest dmax b src >>= f) Q := by
  refine AccD.bind (AccD.of_Acc (Acc_qChkS dest dmax b src)) (fun x hx => ?_)
  cases x with
  | some e => exact hsome e
  | none => obtain ⟨h1, h2, h3, _⟩ := hx rfl; exact hnone h1 h2 h3

theorem AccD_qChkSlenS_then {β} {Q : β → Prop} {slen : Nat} {b : Bos} {f : Option Nat → Prog β}
    (hsome : ∀ e, AccD d R (f (some e)) Q) (hnone : AccD d R (f none) Q) :
    AccD d R (qChkSlenS slen b >>= f) Q := by
  refine AccD.bind (AccD_qChkSlenS slen b) (fun x _ => ?_)
  cases x with
  | some e => exact hsome e
  | none => exact hnone

theorem AccD_failS2 {Q : Nat × Nat → Prop} (c o : Nat) (h : Q (c, o)) : AccD d R (failS2 c o) Q := by
  unfold failS2; exact AccD.handlerSBind _ (AccD.pure _ h)

theorem AccD_chkDmaxQ {α} {Q : α → Prop} (mk : Nat → α) (dmax : Nat) (b : Bos) (max : Nat) {k : Prog α}
    (hk : AccD d R k Q) (hfail : ∀ e, Q (mk e)) : AccD d R (chkDmaxQ mk dmax b max k) Q := by
  have fail : ∀ e, AccD d R (do handlerS e; pure (mk e) : Prog α) Q := fun e => AccD.handlerSBind _ (AccD.pure _ (hfail _))
  exact AccD.bos (fun _ => AccD.ite (fun _ => fail _) fun _ => hk)
    (fun _ _ => AccD.ite (fun _ => AccD.ite (fun _ => fail _) fun _ => fail _) fun _ => hk)

theorem AccD_chkDestDmaxBool (dest dmax : Nat) (b : Bos) (max : Nat) {k : Prog Bool}
    (hk : dest ≠ 0 → dmax ≠ 0 → AccD d R k (fun _ => True)) :
    AccD d R (chkDestDmaxBool dest dmax b max k) (fun _ => True) := by
  exact AccD.ite (fun _ => AccD.handlerSBind _ (AccD.pure _ trivial)) fun hd =>
    AccD.ite (fun _ => AccD.handlerSBind _ (AccD.pure _ trivial)) fun hm =>
      AccD_chkDmaxQ _ _ _ _ (hk hd hm) (fun _ => trivial)

theorem ne_of_some_ne {src : Nat} (h : some src ≠ some 0) : src ≠ 0 := fun e => h (by rw [e])

theorem strcmp_s_acc (dest dmax src : Nat) (db sb : Bos)
    (hd : dest ≠ 0 → ∀ a, Str d dest (dmax+1) a → R a) (hs : src ≠ 0 → ∀ a, Str d src (dmax+1) a → R a) :
    AccD d R (strcmp_s dest dmax src db sb) (fun _ => True) := by
  exact AccD_qChkS_then (fun e => AccD.pure _ trivial)
    (fun h1 h2 _ => AccD_strcmpLoop sb dmax dest src 0 (hd h1) (hs (ne_of_some_ne h2)))

theorem strcasecmp_s_acc (dest dmax src : Nat) (db : Bos)
    (hd : dest ≠ 0 → ∀ a, Str d dest (dmax+1) a → R a) (hs : src ≠ 0 → ∀ a, Str d src (dmax+1) a → R a) :
    AccD d R (strcasecmp_s dest dmax src db) (fun _ => True) := by
  exact AccD_qChkS_then (fun e => AccD.pure _ trivial)
    (fun h1 h2 _ => AccD_strcasecmpLoop dmax dest src (hd h1) (hs (ne_of_some_ne h2)))

theorem strcmpfld_s_acc (dest dmax src : Nat) (db : Bos)
    (h : dest ≠ 0 → src ≠ 0 → ∀ i, i ≤ dmax → (∀ j, j < i → d (dest+j) = d (src+j)) → R (dest+i) ∧ R (src+i)) :
    AccD d R (strcmpfld_s dest dmax src db) (fun _ => True) := by
  exact AccD_qChkS_then (fun e => AccD.pure _ trivial)
    (fun h1 h2 _ => AccD_strcmpfldLoop dmax dest src (h h1 (ne_of_some_ne h2)))

/-- `slen > dmax` sends `strstr_s` through two unbounded `strlen` calls: then both STRINGS are read to their
terminators, whatever `dmax` and `slen` say (`hlong`) -/
theorem strstr_s_acc (dest dmax src slen : Nat) (db sb : Bos)
    (hd : dest ≠ 0 → ∀ a, Str d dest (dmax+1) a → R a) (hs : src ≠ 0 → ∀ a, Str d src (slen+1) a → R a)
    (hlong : dest ≠ 0 → src ≠ 0 → slen > dmax →
      (∀ a, Str d dest scanFuel a → R a) ∧ (∀ a, Str d src scanFuel a → R a)) :
    AccD d R (strstr_s dest dmax src slen db sb) (fun _ => True) := by
  refine AccD_qChkS_then (fun e => AccD.pure _ trivial) (fun h1 h2 _ => ?_)
  have h2' := ne_of_some_ne h2
  refine AccD_qChkSlenS_then (fun e => AccD.pure _ trivial) ?_
  have hs0 : R src := Str.first (hs h2')
  refine AccD.bind (Q := fun _ => True) (AccD.ite (fun hl => ?_) fun _ => AccD.pure _ trivial) (fun early _ => ?_)
  · obtain ⟨g1, g2⟩ := hlong h1 h2' hl
    exact AccD.bind (AccD_strlenP _ _ _ g2) (fun _ _ => AccD.bind (AccD_strlenP _ _ _ g1) (fun _ _ => AccD.pure _ trivial))
  · exact AccD.ite (fun _ => AccD.pure _ trivial) fun _ => AccD.loadBind hs0 <|
      AccD.ite (fun _ => AccD.pure _ trivial) fun _ => AccD.ite (fun _ => AccD.handlerSBind _ (AccD.pure _ trivial)) fun _ =>
        AccD_strstrOuter src slen dmax dest (by omega) (hd h1) (hs h2')

theorem strcasestr_s_acc (dest dmax src slen : Nat) (db sb : Bos)
    (hd : dest ≠ 0 → ∀ a, Str d dest (dmax+1) a → R a) (hs : src ≠ 0 → ∀ a, Str d src (slen+1) a → R a) :
    AccD d R (strcasestr_s dest dmax src slen db sb) (fun _ => True) := by
  refine AccD_qChkS_then (fun e => AccD.pure _ trivial) (fun h1 h2 _ => ?_)
  have h2' := ne_of_some_ne h2
  have hs0 : R src := Str.first (hs h2')
  accd_walk using AccD_strcasestrOuter src slen dmax dest (by omega) (by omega) (hd h1) (hs h2')

/-- `strchr_s` calls `strchr`: the scan is bounded by the terminator (or the hit) alone -/
theorem strchr_s_acc (dest dmax : Nat) (ch : Int) (db : Bos)
    (hd : dest ≠ 0 → ∀ a, Str d dest scanFuel a → R a) :
    AccD d R (strchr_s dest dmax ch db) (fun _ => True) := by
  refine AccD_qChkS_then (fun e => AccD.pure _ trivial) (fun h1 _ _ => ?_)
  refine AccD.ite (fun _ => AccD.handlerSBind _ (AccD.pure _ trivial)) fun _ => ?_
  refine AccD.bind (AccD_strchrP _ _ _ (hd h1)) (fun r _ => ?_)
  accd_walk

/-- `strpbrk_s` with `srcbos` unknown or not exceeded (the `slen > srcbos` exit CLEARS dest: not a read-only path) -/
theorem strpbrk_s_acc (cfg : Cfg) (dest dmax src slen : Nat) (db sb : Bos)
    (hsb : ∀ b, sb = some b → slen ≤ b)
    (hd : dest ≠ 0 → ∀ a, Str d dest (dmax+1) a → R a) (hs : src ≠ 0 → ∀ a, Str d src (slen+1) a → R a) :
    AccD d R (strpbrk_s cfg dest dmax src slen db sb) (fun _ => True) := by
  refine AccD_qChkS_then (fun e => AccD.pure _ trivial) (fun h1 h2 _ => ?_)
  have rest : AccD d R (if slen = 0 then do handlerS ESZEROL; pure (ESZEROL, 0) else strpbrkOuter src slen dmax dest)
      (fun _ => True) :=
    AccD.ite (fun _ => AccD.handlerSBind _ (AccD.pure _ trivial)) fun _ =>
      AccD_strpbrkOuter src slen dmax dest (hd h1) (hs (ne_of_some_ne h2))
  exact AccD.bos (fun _ => AccD.ite (fun _ => AccD.handlerSBind _ (AccD.pure _ trivial)) fun _ => rest)
    (fun b hb => AccD.ite (fun hgt => absurd (hsb b hb) (by omega)) fun _ => rest)

theorem strspn_s_acc (dest dmax src slen : Nat) (db sb : Bos)
    (hd : dest ≠ 0 → ∀ a, Str d dest (dmax+1) a → R a) (hs : src ≠ 0 → ∀ a, Str d src (slen+1) a → R a) :
    AccD d R (strspn_s dest dmax src slen db sb) (fun _ => True) := by
  refine AccD_qChkS_then (fun e => AccD.pure _ trivial) (fun h1 h2 _ => ?_)
  refine AccD_qChkSlenS_then (fun e => AccD.pure _ trivial) ?_
  exact AccD.ite (fun _ => AccD.handlerSBind _ (AccD.pure _ trivial)) fun _ =>
    AccD.bind (AccD_spanOuter true src slen dmax dest 0 (hd h1) (hs (ne_of_some_ne h2))) (fun _ _ => AccD.pure _ trivial)

theorem strcspn_s_acc (dest dmax src slen : Nat) (db sb : Bos)
    (hd : dest ≠ 0 → ∀ a, Str d dest (dmax+1) a → R a) (hs : src ≠ 0 → ∀ a, Str d src (slen+1) a → R a) :
    AccD d R (strcspn_s dest dmax src slen db sb) (fun _ => True) := by
  refine AccD_qChkS_then (fun e => AccD.pure _ trivial) (fun h1 h2 _ => ?_)
  accd_walk using
    AccD.bind (AccD_spanOuter false src slen dmax dest 0 (hd h1) (hs (ne_of_some_ne h2))) (fun _ _ => AccD.pure _ trivial)

theorem strprefix_s_acc (dest dmax src : Nat) (db : Bos)
    (hd : dest ≠ 0 → ∀ a, Str d dest dmax a → R a) (hs : src ≠ 0 → ∀ a, Str d src (dmax+1) a → R a) :
    AccD d R (strprefix_s dest dmax src db) (fun _ => True) := by
  refine AccD_qChkS_then (fun e => AccD.pure _ trivial) (fun h1 h2 _ => ?_)
  have h2' := ne_of_some_ne h2
  exact AccD.loadBind (Str.first (hs h2')) <|
    AccD.ite (fun _ => AccD.pure _ trivial) fun _ => AccD_strprefixLoop dmax dest src (hd h1) (hs h2')

theorem strfirstchar_s_acc (dest dmax c : Nat) (db : Bos)
    (hd : dest ≠ 0 → ∀ a, Str d dest (dmax+1) a → R a) :
    AccD d R (strfirstchar_s dest dmax c db) (fun _ => True) := by
  exact AccD.ite (fun _ => AccD_failS2 _ _ trivial) fun h1 => AccD.ite (fun _ => AccD_failS2 _ _ trivial) fun _ =>
    AccD_chkDmaxQ _ _ _ _ (AccD_firstcharLoop _ dmax dest (hd h1)) (fun _ => trivial)

theorem strlastchar_s_acc (dest dmax c : Nat) (db : Bos)
    (hd : dest ≠ 0 → ∀ a, Str d dest (dmax+1) a → R a) :
    AccD d R (strlastchar_s dest dmax c db) (fun _ => True) := by
  exact AccD.ite (fun _ => AccD_failS2 _ _ trivial) fun h1 => AccD.ite (fun _ => AccD_failS2 _ _ trivial) fun _ =>
    AccD_chkDmaxQ _ _ _ _ (AccD.bind (AccD_lastcharLoop _ dmax dest 0 (hd h1))
      (fun r _ => by cases r <;> exact AccD.pure _ trivial)) (fun _ => trivial)

theorem pairFn_acc (same first : Bool) (nohit dest dmax src : Nat) (db : Bos)
    (hd : dest ≠ 0 → ∀ a, Str d dest (dmax+1) a → R a) (hs : src ≠ 0 → ∀ a, Str d src (dmax+1) a → R a) :
    AccD d R (pairFn same first nohit dest dmax src db) (fun _ => True) := by
  exact AccD.ite (fun _ => AccD_failS2 _ _ trivial) fun h1 => AccD.ite (fun _ => AccD_failS2 _ _ trivial) fun h2 =>
    AccD.ite (fun _ => AccD_failS2 _ _ trivial) fun _ =>
      AccD_chkDmaxQ _ _ _ _ (AccD.bind (AccD_pairLoop same first dest dmax dest src none (hd h1) (hs h2))
        (fun r _ => by cases r <;> exact AccD.pure _ trivial)) (fun _ => trivial)

/-- the predicates whose loop tests `*dest && dmax` -/
theorem predFn_bounded_acc (ok : Nat → Bool) (dest dmax : Nat) (db : Bos)
    (hd : dest ≠ 0 → ∀ a, Str d dest (dmax+1) a → R a) :
    AccD d R (predFn ok true dest dmax db) (fun _ => True) := by
  refine AccD_chkDestDmaxBool _ _ _ _ (fun h1 _ => ?_)
  have hd0 : R dest := Str.first (hd h1)
  refine AccD.loadBind hd0 ?_
  refine AccD.ite (fun _ => AccD.pure _ trivial) fun _ => ?_
  exact AccD_classLoop ok dmax dest (hd h1)

/-- the predicates whose loop never looks at `dmax` (`strisdigit_s strisuppercase_s strismixedcase_s`) -/
theorem predFn_unbounded_acc (ok : Nat → Bool) (dest dmax : Nat) (db : Bos)
    (hd : dest ≠ 0 → ∀ a, Str d dest scanFuel2 a → R a) :
    AccD d R (predFn ok false dest dmax db) (fun _ => True) := by
  refine AccD_chkDestDmaxBool _ _ _ _ (fun h1 _ => ?_)
  have hd0 : R dest := hd h1 _ (Str.head (by decide))
  refine AccD.loadBind hd0 ?_
  refine AccD.ite (fun _ => AccD.pure _ trivial) fun _ => ?_
  exact AccD_classLoopNoBound ok scanFuel2 dest (hd h1)

theorem strisascii_s_acc (dest dmax : Nat) (db : Bos)
    (hd : dest ≠ 0 → ∀ a, Str d dest (dmax+1) a → R a) :
    AccD d R (strisascii_s dest dmax db) (fun _ => True) := by
  exact AccD_chkDestDmaxBool _ _ _ _ (fun h1 _ => AccD_classLoop _ dmax dest (hd h1))

theorem strispassword_s_acc (dest dmax : Nat) (db : Bos)
    (hd : dest ≠ 0 → ∀ a, Str d dest (dmax+1) a → R a) :
    AccD d R (strispassword_s dest dmax db) (fun _ => True) := by
  refine AccD_chkDestDmaxBool _ _ _ _ (fun h1 _ => ?_)
  have hd0 : R dest := Str.first (hd h1)
  refine AccD.ite (fun _ => AccD.handlerSBind _ (AccD.pure _ trivial)) fun _ => ?_
  refine AccD.loadBind hd0 ?_
  exact AccD.ite (fun _ => AccD.pure _ trivial) fun _ => AccD_pwLoop dmax dest _ (hd h1)

theorem wcscmpG_acc (useCount : Bool) (dest dmax src smax count : Nat) (db sb : Bos)
    (hd : dest ≠ 0 → ∀ a, Str d dest (dmax+1) a → R a) (hs : src ≠ 0 → ∀ a, Str d src (smax+1) a → R a) :
    AccD d R (wcscmpG useCount dest dmax src smax count db sb) (fun _ => True) := by
  unfold wcscmpG
  extract_lets fail body rest
  have fail : ∀ e, AccD d R (fail e) (fun _ => True) := fun e => AccD.handlerSBind _ (AccD.pure _ trivial)
  refine AccD.ite (fun _ => fail _) fun h1 => AccD.ite (fun _ => fail _) fun h2 => AccD.ite (fun _ => fail _) fun _ => ?_
  have body : AccD d R body (fun _ => True) := by
    refine AccD.bind (AccD_wcscmpLoop useCount dmax smax count dest src (hd h1) (hs h2)) (fun r hr => ?_)
    obtain ⟨g1, g2⟩ := hr
    exact AccD.loadBind g1 (AccD.loadBind g2 (AccD.pure _ trivial))
  have rest : AccD d R rest (fun _ => True) :=
    AccD.ite (fun _ => fail _) fun _ => AccD.bos (fun _ => body) (fun _ _ => AccD.ite (fun _ => fail _) fun _ => body)
  exact AccD.bos (fun _ => AccD.ite (fun _ => fail _) fun _ => rest)
    (fun _ _ => AccD.ite (fun _ => AccD.ite (fun _ => fail _) fun _ => fail _) fun _ => rest)

theorem wcsstr_s_acc (dest dmax src slen : Nat) (db sb : Bos)
    (hd : dest ≠ 0 → ∀ a, Str d dest (dmax+1) a → R a) (hs : src ≠ 0 → ∀ a, Str d src (slen+1) a → R a) :
    AccD d R (wcsstr_s dest dmax src slen db sb) (fun _ => True) := by
  have fail : ∀ e, AccD d R (failS2 e 0) (fun _ => True) := fun e => AccD_failS2 _ _ trivial
  refine AccD.ite (fun _ => fail _) fun h1 => AccD.ite (fun _ => fail _) fun h2 => AccD.ite (fun _ => fail _) fun _ => ?_
  extract_lets body rest
  have rest : AccD d R rest (fun _ => True) :=
    AccD.loadBind (Str.first (hs h2)) <| AccD.ite (fun _ => AccD.pure _ trivial) fun _ =>
      AccD.ite (fun _ => fail _) fun _ => AccD.ite (fun _ => fail _) fun _ =>
        have body := AccD_wcsstrOuter (d := d) (R := R) src slen dmax dest (by omega) (hd h1) (hs h2)
        AccD.bos (fun _ => body) (fun _ _ => AccD.ite (fun _ => fail _) fun _ => body)
  exact AccD.bos (fun _ => AccD.ite (fun _ => fail _) fun _ => rest)
    (fun _ _ => AccD.ite (fun _ => AccD.ite (fun _ => fail _) fun _ => fail _) fun _ => rest)

end SafeC
