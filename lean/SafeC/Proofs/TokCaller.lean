import SafeC.Proofs.TokBridge
/-!
# A C caller's tokenizing loop through the entry points, and its reference

* `callerLoop` / `nextCalls` — what a C caller does: the first call with the string, every later call with NULL and
  the pointer / remaining length the previous call stored (left as they were when a call stored nothing);
* `outOf`, `cutsMem` — the outputs and the final memory predicted by the list-level reference `TokSpec.refSeq`.
-/
namespace SafeC.Props.C14
open SafeC Gen SafeC.TokSpec

/-- the continuation calls of a C caller: `dest == NULL`, `*ptr` and `*dmaxp` as the previous call left them -/
def nextCalls (wide : Bool) (db : Bos) : List Nat → Nat → Nat → Prog (List TokOut)
  | [], _, _ => pure []
  | dl :: rest, pv, rem => do
    let o ← tokFn wide 0 (some rem) dl (some pv) db
    let os ← nextCalls wide db rest (o.ptrv.getD pv) (o.dmaxv.getD rem)
    pure (o :: os)

/-- **a C caller's tokenizing loop**: one call per delimiter string of `dls`; the first with the string `dest`, its
length bound `dmax`, an uninitialised `*ptr` (`pv0`) and the object size `bos`; all later ones with NULL. Returns what
every call handed back. -/
def callerLoop (wide : Bool) (db : Bos) : List Nat → Nat → Nat → Nat → Bos → Prog (List TokOut)
  | [], _, _, _, _ => pure []
  | dl :: rest, dest, dmax, pv0, bos => do
    let o ← tokFn wide dest (some dmax) dl (some pv0) bos
    let os ← nextCalls wide db rest (o.ptrv.getD pv0) (o.dmaxv.getD dmax)
    pure (o :: os)

/-- what a call hands back according to the reference: `base` = address of the string, `lim = base + dmax` -/
def outOf (base lim : Nat) (r : RefCall) : TokOut :=
  { ret := (refCallSpec base lim r).ret, dmaxv := some (refCallSpec base lim r).rem,
    ptrv := some (refCallSpec base lim r).ptr }

def cutMem (base : Nat) (r : RefCall) (m : Nat → Nat) : Nat → Nat :=
  match r.cut with
  | none => m
  | some c => fun x => if x = base + c then 0 else m x

def cutsMem (base : Nat) : List RefCall → (Nat → Nat) → (Nat → Nat)
  | [], m => m
  | r :: rs, m => cutsMem base rs (cutMem base r m)

theorem afterCall_ref (m : Nat → Nat) (base lim : Nat) (r : RefCall) :
    afterCall m (refCallSpec base lim r) = cutMem base r m := by
  unfold afterCall cutMem refCallSpec
  cases r.cut <;> rfl

theorem cutsMem_apply (base : Nat) (rs : List RefCall) (m : Nat → Nat) (x : Nat) :
    cutsMem base rs m x = if ∃ r ∈ rs, ∃ c, r.cut = some c ∧ x = base + c then 0 else m x := by
  induction rs generalizing m with
  | nil => simp [cutsMem]
  | cons r rs ih =>
    simp only [cutsMem, ih]
    by_cases h : ∃ r' ∈ rs, ∃ c, r'.cut = some c ∧ x = base + c
    · have h' : ∃ r' ∈ r :: rs, ∃ c, r'.cut = some c ∧ x = base + c := by
        obtain ⟨r', hr', hc⟩ := h; exact ⟨r', List.mem_cons_of_mem _ hr', hc⟩
      rw [if_pos h, if_pos h']
    · rw [if_neg h]
      unfold cutMem
      cases hc : r.cut with
      | none =>
        have h' : ¬ ∃ r' ∈ r :: rs, ∃ c, r'.cut = some c ∧ x = base + c := by
          rintro ⟨r', hr', c, hc', hx⟩
          rcases List.mem_cons.mp hr' with rfl | hr'
          · rw [hc] at hc'; cases hc'
          · exact h ⟨r', hr', c, hc', hx⟩
        rw [if_neg h']
      | some c =>
        by_cases hx : x = base + c
        · have h' : ∃ r' ∈ r :: rs, ∃ c, r'.cut = some c ∧ x = base + c := ⟨r, List.mem_cons_self, c, hc, hx⟩
          rw [if_pos h']
          simp only [hx, if_true]
        · have h' : ¬ ∃ r' ∈ r :: rs, ∃ c, r'.cut = some c ∧ x = base + c := by
            rintro ⟨r', hr', c', hc', hx'⟩
            rcases List.mem_cons.mp hr' with rfl | hr'
            · rw [hc] at hc'; cases hc'; exact hx hx'
            · exact h ⟨r', hr', c', hc', hx'⟩
          rw [if_neg h']
          simp only [hx, if_false]

/-- the continuation calls, started at offset `off` of the string `[base, lim)`, hand back what `refSeq` computes on the rest of the string
as a list.  `base` and `lim` stay fixed and only `off` moves in the induction, because the reference counts its positions from the start of the
whole string (`outOf base lim`, `cutsMem base`); one call is `Inv.step` read through `callSpec_eq_ref`, and its cut leaves the later delimiter
strings as they are (`Inv.apart`), so the reference may take all delimiter sets from the memory at the start. -/
theorem nextCalls_eq_ref (wide : Bool) (db : Bos) (dls : List Nat) (base lim off : Nat) (st : St)
    (hI : Inv st dls (base + off) (lim - (base + off)))
    (hdl0 : ∀ dl ∈ dls, dl ≠ 0) (hlim : lim - base ≤ tokLimit wide) :
    ∃ st', exec (nextCalls wide db dls (base + off) (lim - (base + off))) st =
        .ok ((refSeq (dls.map (fun dl => isDelim st.data dl)) off
                (cstr st.data (base + off) (lim - (base + off)))).map (outOf base lim), st') ∧
      st'.data = cutsMem base (refSeq (dls.map (fun dl => isDelim st.data dl)) off
                (cstr st.data (base + off) (lim - (base + off)))) st.data ∧
      st'.mapped = st.mapped ∧ st'.rd = st.rd ∧ st'.wr = st.wr := by
  induction dls generalizing st off with
  | nil => exact ⟨st, rfl, rfl, rfl, rfl, rfl⟩
  | cons dl rest ih =>
    have hterm := hI.term
    have hpos : 0 < lim - (base + off) := by omega
    obtain ⟨st1, he, hdata, hI'⟩ := hI.step wide
    obtain ⟨hm1, hr1, hw1⟩ := exec_perm _ _ he
    obtain ⟨hc, hrest⟩ := callSpec_eq_ref st.data dl (base + off) (lim - (base + off)) base off hterm rfl
    have hlimeq : base + off + (lim - (base + off)) = lim := by omega
    rw [hlimeq] at hc
    generalize hr0 : refHead (isDelim st.data dl) off (cstr st.data (base + off) (lim - (base + off))) = r0 at hc
    rw [← hdata] at hrest
    rw [hc] at hI' he hrest
    simp only [refCallSpec] at hI' hrest
    have hdelims : rest.map (fun dl' => isDelim st1.data dl') = rest.map (fun dl' => isDelim st.data dl') := by
      apply List.map_congr_left
      intro d hd
      funext c
      rw [hdata]
      exact (inSet_congr st.data _ c d _
        (afterCall_agree_delim st.data d dl _ _ hterm (hI.apart d (by simp [hd])))).symm
    obtain ⟨st2, he2, hd2, hm2, hr2, hw2⟩ := ih r0.next st1 hI' (fun d hd => hdl0 d (by simp [hd]))
    rw [hdelims, hrest] at he2 hd2
    refine ⟨st2, ?_, ?_, by rw [hm2, hm1], by rw [hr2, hr1], by rw [hw2, hw1]⟩
    · have hentry := tokFn_next wide (lim - (base + off)) dl (base + off) db hI.pne (hdl0 dl (by simp)) hpos (by omega)
      simp only [nextCalls, exec_bind, hentry, he, Option.getD_some, refCallSpec, he2, List.map_cons, refSeq_cons, hr0]
      rfl
    · rw [hd2, hdata, hc, afterCall_ref]
      simp only [List.map_cons, refSeq_cons, hr0, cutsMem]

end SafeC.Props.C14
