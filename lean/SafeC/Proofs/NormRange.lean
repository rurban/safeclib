import SafeC.Proofs.NormMain
/-! C17 — no table index out of bounds in the reorder / compose passes, no unsigned wrap of `dmax` in the compose pass; the source is
read as a C string (`Props.C17.range_no_oob` puts them together for `wcsnorm_s` as a whole, every mode) -/
namespace SafeC.Norm
open SafeC.Gen

attribute [local irreducible] cell UniCanon.main UniCanon.planes UniCanon.rows UniCombin.main UniCombin.planes UniCombin.rows
  UniCanon.tbl1 UniCanon.tbl2 UniCanon.tbl3 UniCanon.tbl4

theorem ite_ne {α : Type} {c : Prop} [Decidable c] {a b x : α} (ha : c → a ≠ x) (hb : ¬ c → b ≠ x) :
    (if c then a else b) ≠ x := by
  split
  · exact ha ‹_›
  · exact hb ‹_›

theorem le_of_rangeChk {fx : Fixes} {cp : Nat} {rest : List Nat}
    (h : fx.rangeChk = true ∨ ∀ c ∈ cp :: rest, c ≤ UniCompos.unicodeMax)
    (hchk : ¬ (fx.rangeChk && decide (UniCompos.unicodeMax < cp)) = true) : cp ≤ UniCompos.unicodeMax := by
  rcases h with h | h
  · simp only [h, Bool.true_and, decide_eq_true_eq] at hchk; omega
  · exact h cp List.mem_cons_self

theorem ofStep_oob {n : Nat} {s : Step} (h : s ≠ .oob) : (Res.ofStep n s).oob = false := by
  cases s <;> first | rfl | exact absurd rfl h

theorem ofStep_overrun {n : Nat} {s : Step} (h : s ≠ .overrun) : (Res.ofStep n s).overrun = false := by
  cases s <;> first | rfl | exact absurd rfl h

theorem reorderLoop_no_oob (fx : Fixes) : ∀ (src : List Nat) (seq : List CC) (dmax : Nat),
    (fx.rangeChk = true ∨ ∀ c ∈ src, c ≤ UniCompos.unicodeMax) → reorderLoop fx src seq dmax ≠ .oob := by
  intro src
  induction src with
  | nil => intro _ _ _; rw [reorderLoop]; nofun
  | cons cp rest ih =>
    intro seq dmax h
    have hrec {a b} := ih a b (h.imp_right fun h c hc => h c (List.mem_cons_of_mem _ hc))
    rw [reorderLoop]
    refine ite_ne nofun fun hchk => ?_
    rw [kcc_spec (le_of_rangeChk h hchk)]
    exact ite_ne (fun _ => hrec) fun _ => ite_ne nofun fun _ => ite_ne nofun fun _ => ite_ne nofun fun _ =>
      bind_ne_oob _ hrec

theorem composeLoop_no_oob (fx : Fixes) (contig : Bool) : ∀ (src : List Nat) (cpS : Nat) (valid : Bool) (pre : Nat) (seq : List Nat) (dmax : Nat),
    (fx.rangeChk = true ∨ ∀ c ∈ src, c ≤ UniCompos.unicodeMax) → composeLoop fx contig src cpS valid pre seq dmax ≠ .oob := by
  intro src
  induction src with
  | nil => intro _ _ _ _ _ _; rw [composeLoop]; nofun
  | cons cp rest ih =>
    intro cpS valid pre seq dmax h
    have hrec {a b c d e} := ih a b c d e (h.imp_right fun h c hc => h c (List.mem_cons_of_mem _ hc))
    rw [composeLoop]
    refine ite_ne nofun fun hchk => ?_
    rw [kcc_spec (le_of_rangeChk h hchk)]
    dsimp -zeta only
    extract_lets more output
    have hout : ∀ a b c, output a b c ≠ .oob := fun a b c =>
      ite_ne nofun fun _ => ite_ne nofun fun _ => ite_ne nofun fun _ => bind_ne_oob _ hrec
    exact ite_ne
      (fun _ => ite_ne (fun _ => ite_ne (fun _ => hrec) fun _ => hout _ _ _)
        fun _ => ite_ne nofun fun _ => ite_ne nofun fun _ => bind_ne_oob _ hrec)
      (fun _ => ite_ne (fun _ => ite_ne (fun _ => hrec) fun _ => hout _ _ _)
        fun _ => ite_ne (fun _ => hrec) fun _ => hout _ _ _)

/-- with more room than cells still to be written the compose pass never wraps its unsigned `dmax` -/
theorem composeLoop_no_overrun (fx : Fixes) (contig : Bool) : ∀ (src : List Nat) (cpS : Nat) (valid : Bool) (pre : Nat) (seq : List Nat) (dmax : Nat),
    (src.length = 0 ∨ (if valid then 1 else 0) + seq.length + src.length < dmax) → composeLoop fx contig src cpS valid pre seq dmax ≠ .overrun := by
  intro src
  induction src with
  | nil => intro _ _ _ _ _ _; rw [composeLoop]; nofun
  | cons cp rest ih =>
    intro cpS valid pre seq dmax h
    replace h : (if valid then 1 else 0) + seq.length + rest.length + 1 < dmax := h.resolve_left nofun
    rw [composeLoop]
    refine ite_ne nofun fun _ => ?_
    cases combinClass cp with
    | none => nofun
    | some cur =>
    dsimp -zeta only
    extract_lets more output blocked comp seq'
    have hmore : ¬ more = true → rest.length = 0 := by cases rest <;> simp [more]
    have hseq' : seq'.length ≤ seq.length + 1 := by
      dsimp only [seq']; split <;> simp
    -- the common tail stores `1 + c.length` cells and goes on with an empty `seq`
    have hout : ∀ a b c, c.length + 1 < dmax → (rest.length = 0 ∨ c.length + rest.length + 2 < dmax) →
        output a b c ≠ .overrun := fun a b c h1 h2 =>
      ite_ne (by omega) fun _ => ite_ne nofun fun _ => ite_ne (by omega) fun _ =>
        bind_ne_overrun _ (ih _ _ _ _ _ (by simp only [List.length_nil, ↓reduceIte]; omega))
    cases valid
    · -- no starter yet: `h` is `seq.length + rest.length + 1 < dmax`
      simp only [Bool.false_eq_true, ↓reduceIte, Nat.zero_add] at h
      have starter : composeLoop fx contig rest cp true pre seq dmax ≠ .overrun :=
        ih _ _ _ _ _ (by right; simp only [↓reduceIte]; omega)
      have last : ¬ more = true → output cp pre seq ≠ .overrun := fun hm => hout _ _ _ (by omega) (.inl (hmore hm))
      have mark : composeLoop fx contig rest cpS false pre seq (dmax - 1) ≠ .overrun :=
        ih _ _ _ _ _ (by right; simp only [Bool.false_eq_true, ↓reduceIte]; omega)
      exact ite_ne
        (fun _ => ite_ne (fun _ => ite_ne (fun _ => starter) last)
          fun _ => ite_ne (by omega) fun _ => ite_ne nofun fun _ => bind_ne_overrun _ mark)
        (fun hv => absurd rfl hv)
    · -- a starter is held: `h` is `1 + seq.length + rest.length + 1 < dmax`
      simp only [↓reduceIte] at h
      have composed : composeLoop fx contig rest comp true pre seq dmax ≠ .overrun :=
        ih _ _ _ _ _ (by right; simp only [↓reduceIte]; omega)
      have composedLast : output comp pre seq ≠ .overrun := hout _ _ _ (by omega) (by right; omega)
      have pending : composeLoop fx contig rest cpS true cur seq' dmax ≠ .overrun :=
        ih _ _ _ _ _ (by right; simp only [↓reduceIte]; omega)
      -- a starter, or the last cell, ends the run: `seq'` has grown only when nothing follows
      have flush : ¬ (cur ≠ 0 ∧ more = true) → output cpS cur seq' ≠ .overrun := fun hm =>
        hout _ _ _ (by omega) (by
          by_cases hmo : more = true
          · have hs : seq' = seq := if_neg fun hc => hc.elim (fun hc => hm ⟨hc, hmo⟩) (by simp [hmo])
            right; rw [hs]; omega
          · exact .inl (hmore hmo))
      exact ite_ne nofun fun _ =>
        ite_ne (fun _ => ite_ne (fun _ => composed) fun _ => composedLast)
          fun _ => ite_ne (fun _ => pending) flush

/-- a 0 cell is the terminator: the passes never look behind it -/
theorem decLoop_takeWhile (orig : Nat) : ∀ (src : List Nat) (dmax : Nat),
    decLoop orig src dmax = decLoop orig (src.takeWhile (· ≠ 0)) dmax := by
  intro src
  induction src with
  | nil => intro dmax; rfl
  | cons cp rest ih =>
    intro dmax
    by_cases h0 : cp = 0
    · subst h0
      simp only [ne_eq, not_true_eq_false, decide_false, Bool.false_eq_true, not_false_eq_true, List.takeWhile_cons_of_neg]
      unfold decLoop
      by_cases hd : dmax = 0
      · simp [hd]
      · have : ¬ UniCompos.unicodeMax < 0 := by omega
        simp [hd, this]
    · rw [List.takeWhile_cons]
      simp only [ne_eq, h0, not_false_eq_true, decide_true, ↓reduceIte]
      unfold decLoop
      simp only [ih]

theorem wcsnormS_cstr (fx : Fixes) (mode dmax : Nat) (src : List Nat) :
    wcsnormS fx mode dmax src = wcsnormS fx mode dmax (src.takeWhile (· ≠ 0)) := by
  unfold wcsnormS decomposeS
  rw [decLoop_takeWhile]

/-- a compatibility mode is refused by the decomposition entry point (not configured), whatever the arguments -/
theorem decomposeS_compat (dmax : Nat) (s : List Nat) :
    (decomposeS dmax s true).ret ≠ 0 ∧ (decomposeS dmax s true).oob = false ∧ (decomposeS dmax s true).overrun = false := by
  unfold decomposeS
  split
  · exact ⟨err_ne_zero.1, rfl, rfl⟩
  · split
    · exact ⟨err_ne_zero.2.1, rfl, rfl⟩
    · split
      · exact ⟨err_ne_zero.2.2.1, rfl, rfl⟩
      · simp

end SafeC.Norm
