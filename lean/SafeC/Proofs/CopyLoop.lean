import SafeC.Lemmas
import SafeC.Models.Copy
/-!
# The bumper copy loop: its exits

`CopyPost` and `ClearedPost` are what an exit looks like from outside, `EokAt` the successful one from inside.  `copyLoop_exit`
analyses the four exits, on any state; how the loop gets there is `Proofs/CopySteps.lean`.
-/
namespace SafeC
open Gen

structure CopyPost (cfg : Cfg) (oD oM : Nat) (st st' : St) (code : Nat) : Prop where
  mapped : st'.mapped = st.mapped
  rd : st'.rd = st.rd
  wr : st'.wr = st.wr
  strays : st'.strays = st.strays
  frame : ∀ a, ¬ (oD ≤ a ∧ a < oD + oM) → st'.data a = st.data a
  code_cases : code = EOK ∨ code = ESOVRLP ∨ code = ESNOSPC
  ok_events : code = EOK → st'.events = st.events
  ok_term : code = EOK → ∃ i, i < oM ∧ st'.data (oD + i) = 0
  fail_events : code ≠ EOK → st'.events = st.events ++ [.handler .str code]
  fail_first : code ≠ EOK → st'.data oD = 0
  fail_clear : code ≠ EOK → cfg.slack = true → ∀ i, i < oM → st'.data (oD + i) = 0

theorem ESOVRLP_ne_ESNOSPC : ESOVRLP ≠ ESNOSPC := by decide

/-- a failing exit through `handle_error(dest, dmax, code)` seen from outside -/
def ClearedPost (cfg : Cfg) (dest dmax code : Nat) (st st' : St) : Prop :=
  st'.strays = st.strays ∧
  st'.events = st.events ++ [.handler .str code] ∧
  st'.data dest = 0 ∧
  (cfg.slack = true → ∀ i, i < dmax → st'.data (dest + i) = 0) ∧
  (∀ a, ¬ (dest ≤ a ∧ a < dest + dmax) → st'.data a = st.data a)

theorem ClearedPost.strays {cfg : Cfg} {dest dmax code : Nat} {st st' : St} (h : ClearedPost cfg dest dmax code st st') :
    st'.strays = st.strays := h.1

theorem ClearedPost.events {cfg : Cfg} {dest dmax code : Nat} {st st' : St} (h : ClearedPost cfg dest dmax code st st') :
    st'.events = st.events ++ [.handler .str code] := h.2.1

theorem ClearedPost.first {cfg : Cfg} {dest dmax code : Nat} {st st' : St} (h : ClearedPost cfg dest dmax code st st') :
    st'.data dest = 0 := h.2.2.1

theorem ClearedPost.slack {cfg : Cfg} {dest dmax code : Nat} {st st' : St} (h : ClearedPost cfg dest dmax code st st') :
    cfg.slack = true → ∀ i, i < dmax → st'.data (dest + i) = 0 := h.2.2.2.1

theorem ClearedPost.frame {cfg : Cfg} {dest dmax code : Nat} {st st' : St} (h : ClearedPost cfg dest dmax code st st') :
    ∀ a, ¬ (dest ≤ a ∧ a < dest + dmax) → st'.data a = st.data a := h.2.2.2.2

/-- `handle_error` on the whole extent of dest: without null-slack only `dest[0]` is written, which lies inside too -/
theorem handleError_cleared (cfg : Cfg) (oD oM code : Nat) (st : St) (hrw : RW st oD oM) (hoM : 0 < oM) :
    ∃ st', exec (handleError cfg oD oM code) st = .ok ((), st') ∧ ClearedPost cfg oD oM code st st' := by
  obtain ⟨st', he, _, _, _, hst, hev, h0, hfr, hcl⟩ := handleError_within cfg oD oM oM code st hrw hoM (Nat.le_refl _)
  exact ⟨st', he, hst, hev, h0 (Or.inl hoM), hcl, hfr⟩

theorem handleError_pure {α : Type} (cfg : Cfg) (oD oM code : Nat) (x : α) (st : St) (hrw : RW st oD oM) (hoM : 0 < oM) :
    ∃ st', exec (do handleError cfg oD oM code; pure x : Prog α) st = .ok (x, st') ∧
      ClearedPost cfg oD oM code st st' := by
  obtain ⟨st', he, hp⟩ := handleError_cleared cfg oD oM code st hrw hoM
  exact ⟨st', by simp [exec_bind, he], hp⟩

theorem CopyPost.cleared {cfg : Cfg} {oD oM code : Nat} {st st' : St} (hp : CopyPost cfg oD oM st st' code)
    (hne : code ≠ EOK) : ClearedPost cfg oD oM code st st' :=
  ⟨hp.strays, hp.fail_events hne, hp.fail_first hne, hp.fail_clear hne, hp.frame⟩

theorem copy_fail_post (cfg : Cfg) (oD oM code : Nat) (st : St) (hrw : RW st oD oM) (hoM : 0 < oM)
    (hc : code = ESOVRLP ∨ code = ESNOSPC) :
    ∃ st', exec (do handleError cfg oD oM code; pure code : Prog Nat) st = .ok (code, st') ∧
      CopyPost cfg oD oM st st' code := by
  have hne : code ≠ EOK := by
    rcases hc with h | h <;> subst h
    · exact ne_ESOVRLP
    · exact ne_ESNOSPC
  obtain ⟨st', he, hp⟩ := handleError_pure cfg oD oM code code st hrw hoM
  obtain ⟨hm, hr, hw⟩ := exec_perm _ _ he
  exact ⟨st', he, hm, hr, hw, hp.strays, hp.frame, Or.inr hc, fun h => absurd h hne, fun h => absurd h hne,
    fun _ => hp.events, fun _ => hp.first, fun _ => hp.slack⟩

/-- an EOK exit at the cell `d` with `k` cells left: a NUL at `d`, null-slack zeros behind it, nothing else touched -/
def EokAt (cfg : Cfg) (d k : Nat) (st st' : St) : Prop :=
  SameMeta st' st ∧ st'.data d = 0 ∧ (∀ a, ¬ (d ≤ a ∧ a < d + k) → st'.data a = st.data a) ∧
    (cfg.slack = true → ∀ a, d ≤ a → a < d + k → st'.data a = 0)

/-- the store of the terminator in front of the exit block belongs to the exit -/
theorem EokAt.upd {cfg : Cfg} {d k : Nat} {st st' : St} (hk : 0 < k) (h : EokAt cfg d k (st.upd d 0) st') :
    EokAt cfg d k st st' :=
  ⟨h.1.trans (SameMeta.upd _ _ _), h.2.1, fun a ha => (h.2.2.1 a ha).trans (St.upd_data_ne _ _ _ _ (by omega)), h.2.2.2⟩

/-- the block every EOK exit ends in, at `d` with `k` cells left: with null-slack they are nulled; otherwise `p` stores the
terminator, or it is in place already -/
theorem eokBlock_ok (cfg : Cfg) (d k : Nat) (st : St) (hw : RW st d k) (hk : 0 < k) (p : Prog Unit)
    (hp : cfg.slack = false → p = store d 0 ∨ (p = pure () ∧ st.data d = 0)) :
    ∃ st', exec (if cfg.slack then nullSlack d k else p) st = .ok ((), st') ∧ EokAt cfg d k st st' := by
  cases hcs : cfg.slack with
  | true =>
    obtain ⟨st', he, hm, hd⟩ := nullSlack_ok d k st hw
    refine ⟨st', by simpa using he, hm, ?_, fun a ha => ?_, fun _ a h1 h2 => ?_⟩
    · rw [hd d, if_pos (by omega)]
    · rw [hd a, if_neg ha]
    · rw [hd a, if_pos ⟨h1, h2⟩]
  | false =>
    have hd := hw 0 hk
    rw [Nat.add_zero] at hd
    rcases hp hcs with rfl | ⟨rfl, h0⟩
    · exact ⟨st.upd d 0, by simp [exec_store_ok _ _ _ hd.1 hd.2.1], SameMeta.upd _ _ _, by simp,
        fun a ha => St.upd_data_ne _ _ _ _ (by omega), fun h => nomatch hcs.symm.trans h⟩
    · exact ⟨st, by simp, SameMeta.refl _, h0, fun _ _ => rfl, fun h => nomatch hcs.symm.trans h⟩

theorem copyEok_ok (cfg : Cfg) (d k : Nat) (st : St) (hw : RW st d k) (hk : 0 < k) (p : Prog Unit)
    (hp : p = store d 0 ∨ (p = pure () ∧ st.data d = 0)) :
    ∃ st', exec (do
        if cfg.slack then nullSlack d k else p
        pure EOK : Prog Nat) st = .ok (EOK, st') ∧ EokAt cfg d k st st' := by
  obtain ⟨st', he, rest⟩ := eokBlock_ok cfg d k st hw hk p (fun _ => hp)
  refine ⟨st', ?_, rest⟩
  cases hcs : cfg.slack with
  | true =>
    rw [hcs, if_pos rfl] at he
    simp [exec_bind, he]
  | false =>
    rw [hcs, if_neg (by decide)] at he
    simp [exec_bind, he]

theorem copyLoop_succ (cfg : Cfg) (onDest bounded : Bool) (B oD oM : Nat) (k d s slen : Nat) :
    copyLoop cfg onDest bounded B oD oM (k+1) d s slen =
      (if (if onDest then d else s) = B then do
        handleError cfg oD oM ESOVRLP
        pure ESOVRLP
      else if bounded = true ∧ slen = 0 then do
        if cfg.slack then nullSlack d (k+1) else store d 0
        pure EOK
      else do
        let c ← load s
        store d c
        if c = 0 then do
          if cfg.slack then nullSlack d (k+1) else pure ()
          pure EOK
        else copyLoop cfg onDest bounded B oD oM k (d+1) (s+1) (slen - 1)) := by
  rfl

theorem CopyPost.of_eokAt {cfg : Cfg} {oD oM d k : Nat} {st st' : St} (hinv : oD ≤ d ∧ d + k = oD + oM) (hk : 0 < k)
    (h : EokAt cfg d k st st') : CopyPost cfg oD oM st st' EOK := by
  obtain ⟨hm, h0, hfr, _⟩ := h
  refine ⟨hm.mapped, hm.rd, hm.wr, hm.strays, fun a ha => hfr a (by omega), Or.inl rfl, fun _ => hm.events,
    fun _ => ⟨d - oD, by omega, ?_⟩, fun h => absurd rfl h, fun h => absurd rfl h, fun h => absurd rfl h⟩
  rw [show oD + (d - oD) = d from by omega, h0]

/-- **The exits of the copy loop**: one of the four exit tests fires at once.  No room or the bumper: `handle_error` on the
whole of dest; `slen` used up or a NUL read: the EOK block at `d`. -/
theorem copyLoop_exit (cfg : Cfg) (onDest bounded : Bool) (B oD oM : Nat) (k d s slen : Nat) (st : St)
    (hstop : k = 0 ∨ (if onDest then d else s) = B ∨ (bounded = true ∧ slen = 0) ∨
      (st.data s = 0 ∧ st.mapped s = true ∧ st.rd s = true)) :
    (k = 0 ∨ (if onDest then d else s) = B → 0 < oM → RW st oD oM →
      ∃ st', exec (copyLoop cfg onDest bounded B oD oM k d s slen) st = .ok (if k = 0 then ESNOSPC else ESOVRLP, st') ∧
        CopyPost cfg oD oM st st' (if k = 0 then ESNOSPC else ESOVRLP)) ∧
    (0 < k → (if onDest then d else s) ≠ B → RW st d k →
      ∃ st', exec (copyLoop cfg onDest bounded B oD oM k d s slen) st = .ok (EOK, st') ∧ EokAt cfg d k st st') := by
  cases k with
  | zero =>
    refine ⟨fun _ hoM hrw => ?_, fun h => absurd h (Nat.lt_irrefl 0)⟩
    exact copy_fail_post cfg oD oM ESNOSPC st hrw hoM (Or.inr rfl)
  | succ k =>
    rw [copyLoop_succ, if_neg (Nat.succ_ne_zero k)]
    refine ⟨fun hb hoM hrw => ?_, fun _ hb hsub => ?_⟩
    · rw [if_pos (hb.resolve_left (Nat.succ_ne_zero k))]
      exact copy_fail_post cfg oD oM ESOVRLP st hrw hoM (Or.inl rfl)
    rw [if_neg hb]
    obtain ⟨hdm, hdw, _⟩ := hsub.head
    by_cases hsl : bounded = true ∧ slen = 0
    · rw [if_pos hsl]
      exact copyEok_ok cfg d (k+1) st hsub (by omega) _ (Or.inl rfl)
    rw [if_neg hsl]
    obtain ⟨hc, hsm, hsr⟩ := ((hstop.resolve_left (Nat.succ_ne_zero k)).resolve_left hb).resolve_left hsl
    simp only [exec_bind, exec_load_ok _ _ hsm hsr, exec_store_ok _ _ _ hdm hdw]
    rw [if_pos hc, hc]
    obtain ⟨st', he, h⟩ := copyEok_ok cfg d (k+1) (st.upd d 0)
      (RW.of_sameMeta (SameMeta.upd _ _ _) hsub) (by omega) _ (Or.inr ⟨rfl, St.upd_data_same _ _ _⟩)
    exact ⟨st', he, h.upd (by omega)⟩

end SafeC
