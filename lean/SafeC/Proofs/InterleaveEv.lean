import SafeC.Proofs.InterleaveN
/-!
# Reentrancy: the handler events of an interleaving are a shuffle of the threads' own event lists (C12)

`emits p s`: the events the total run of `p` from `s` appends, in order.  `Sh f L g`: the list `L` is
obtained by repeatedly taking the head of one of the lists `f i`; what is left of the lists is `g`.
`pool_events`: after ANY schedule of a non-interfering pool the event log is the initial log followed by
such an `L`, where `f i` = the events thread `i` emits when run alone from the INITIAL memory and `g i` = the
events its remaining program emits when run alone from the CURRENT memory (`[]` once it has finished).
So every thread's events appear completely, in the thread's own order, with the values (handler kind and
code) of its run-alone execution; only the relative order of different threads' events depends on the schedule.
-/
namespace SafeC

def emits : Prog α → St → List Event
  | .ret _, _ => []
  | .load a k, s => emits (k (s.data a)) s
  | .store a v k, s => emits k (s.upd a v)
  | .emit e k, s => e :: emits k s

theorem emits_data_congr (p : Prog α) (s s' : St) (h : s.data = s'.data) : emits p s = emits p s' := by
  induction p generalizing s s' with
  | ret x => rfl
  | load a k ih => simp only [emits]; rw [h]; exact ih _ s s' h
  | store a v k ih =>
    exact ih (s.upd a v) (s'.upd a v) (by funext x; simp only [St.upd_data, h])
  | emit e k ih => simp only [emits]; rw [ih s s' h]

theorem emits_congr {F : Nat → Prop} (p : Prog α) (s s' : St) (h : AgreeOn F s s') (hw : Within F p s) :
    emits p s = emits p s' := by
  induction p generalizing s s' with
  | ret x => rfl
  | load a k ih =>
    simp only [emits]
    rw [← h a hw.1]
    exact ih _ s s' h hw.2
  | store a v k ih =>
    exact ih (s.upd a v) (s'.upd a v) (h.upd a v) hw.2
  | emit e k ih =>
    simp only [emits]
    have hw' : Within F k s := within_data_congr k { s with events := s.events ++ [e] } s rfl hw
    rw [ih s s' h hw']

theorem runT_events (p : Prog α) (s : St) : (runT p s).2.events = s.events ++ emits p s := by
  induction p generalizing s with
  | ret x => simp [runT, emits]
  | load a k ih => exact ih _ s
  | store a v k ih =>
    simp only [runT, emits]
    rw [ih]
    rfl
  | emit e k ih =>
    simp only [runT, emits]
    rw [ih]
    simp only [List.append_assoc, List.singleton_append]
    congr 2
    exact emits_data_congr k _ s rfl

variable {ι : Type} [DecidableEq ι]

inductive Sh : (ι → List Event) → List Event → (ι → List Event) → Prop where
  | done {f g : ι → List Event} : (∀ i, f i = g i) → Sh f [] g
  | step {f f' g : ι → List Event} {L : List Event} (i : ι) (e : Event) (rest : List Event) :
      f i = e :: rest → (∀ j, f' j = if j = i then rest else f j) → Sh f' L g → Sh f (e :: L) g

theorem Sh.congr_left {f f' g : ι → List Event} {L : List Event} (h : ∀ i, f i = f' i) (hs : Sh f L g) :
    Sh f' L g := by
  induction hs generalizing f' with
  | done hd => exact .done (fun i => (h i).symm.trans (hd i))
  | step i e rest hi hf' _ ih =>
    refine .step i e rest ((h i).symm.trans hi) (f' := _) (fun j => hf' j |>.trans ?_) (ih (fun _ => rfl))
    by_cases hj : j = i
    · simp [hj]
    · simp [hj, h j]

def Thread.evs (th : Thread) (s : St) : List Event := emits th.2 s

theorem Thread.step_events (th : Thread) (s : St) :
    (∃ e, (th.step s).2.events = s.events ++ [e] ∧ th.evs s = e :: (th.step s).1.evs (th.step s).2) ∨
    ((th.step s).2.events = s.events ∧ th.evs s = (th.step s).1.evs (th.step s).2) := by
  obtain ⟨α, p⟩ := th
  cases p with
  | ret x => exact Or.inr ⟨rfl, rfl⟩
  | load a k => exact Or.inr ⟨rfl, rfl⟩
  | store a v k => exact Or.inr ⟨rfl, rfl⟩
  | emit e k =>
    refine Or.inl ⟨e, rfl, ?_⟩
    simp only [Thread.evs, Thread.step, step, emits]
    congr 1
    exact emits_data_congr k _ _ rfl

/-- **events of an interleaving** (see the file header) -/
theorem pool_events {R W : ι → Nat → Prop} (hni : NonInterf R W) (sch : List ι) (ps : ι → Thread) (s : St)
    (hw : ∀ i, (ps i).Fp (R i) (W i) s) :
    ∃ L, (runPool sch ps s).2.events = s.events ++ L ∧
      Sh (fun i => (ps i).evs s) L (fun i => ((runPool sch ps s).1 i).evs (runPool sch ps s).2) := by
  induction sch generalizing ps s with
  | nil => exact ⟨[], by simp [runPool], .done (fun _ => rfl)⟩
  | cons i sch ih =>
    simp only [runPool]
    obtain ⟨hag, hw1⟩ := pool_step hni ps s hw i
    obtain ⟨L, hev, hsh⟩ := ih (fun j => if j = i then ((ps i).step s).1 else ps j) ((ps i).step s).2 hw1
    have hother : ∀ j, j ≠ i → (ps j).evs ((ps i).step s).2 = (ps j).evs s := by
      intro j hj
      have hw' := (Thread.other (ps j) s _ (hag j hj) (hw j)).1
      exact emits_congr (ps j).2 _ s (hag j hj) (Within2.within _ _ hw')
    have hstep := Thread.step_events (ps i) s
    rcases hstep with ⟨e, h1, h2⟩ | ⟨h1, h2⟩
    · refine ⟨e :: L, by rw [hev, h1]; simp, ?_⟩
      refine .step i e _ h2 (f' := fun j => (if j = i then ((ps i).step s).1 else ps j).evs ((ps i).step s).2)
        (fun j => ?_) hsh
      by_cases hj : j = i
      · subst hj; simp
      · simp only [hj, if_false]; exact hother j hj
    · refine ⟨L, by rw [hev, h1], ?_⟩
      refine Sh.congr_left (fun j => ?_) hsh
      by_cases hj : j = i
      · subst hj; simp only [if_true]; exact h2.symm
      · simp only [hj, if_false]; exact hother j hj

end SafeC
