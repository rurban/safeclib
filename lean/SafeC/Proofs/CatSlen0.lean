import SafeC.Proofs.Query
import SafeC.Proofs.ExtFld
/-!
# `strncat_s` / `wcsncat_s` with `slen == 0`: the documented special case

`errno_t error = (strnlen_s(dest, dmax) < dmax) ? EOK : ESZEROL; handle_error(dest, dmax, msg, error); return error`:
dest is CLEARED and the handler is called whatever the code — also EOK ("analog to msvcrt", man page; the handler
call with EOK is the listed finding `strncat-slen0-handler-eok`).  Nothing of `src` is read.
-/
namespace SafeC
open Gen

theorem wcsnlen_s_first (str smax : Nat) (st : St)
    (hall : ∀ a, st.mapped a = true ∧ st.rd a = true)
    (hs : str ≠ 0) (hpos : 0 < smax) (hle : smax ≤ RSIZE_MAX_WSTR) :
    ∃ len, exec (wcsnlen_s str smax) st = .ok (len, st) ∧ StrLenIn st str smax len := by
  unfold wcsnlen_s
  rw [if_neg hs, if_neg (Nat.ne_of_gt hpos), if_neg (Nat.not_lt.mpr hle), wcsnlenLoop_eq hall, Nat.zero_add]
  exact ⟨_, rfl, scanLen_le _ _ _, scanLen_zero _ _ _, scanLen_nonzero _ _ _⟩

/-- `dl` = the length of the string dest holds, or `dmax` if it holds no NUL: the only such number -/
theorem StrLenIn.unique {st : St} {dest dmax len dl : Nat} (h : StrLenIn st dest dmax len)
    (hdl : dl ≤ dmax) (hdnz : ∀ j, j < dl → st.data (dest + j) ≠ 0) (hdnul : dl < dmax → st.data (dest + dl) = 0) :
    len = dl := by
  obtain ⟨h1, h2, h3⟩ := h
  by_cases hlt : len < dl
  · exact absurd (h2 (by omega)) (hdnz len hlt)
  · by_cases hgt : dl < len
    · exact absurd (hdnul (by omega)) (h3 dl hgt)
    · omega

theorem strncatG_slen0_eq (max : Nat) (cfg : Cfg) (dest dmax src : Nat) (destbos srcbos : Bos)
    (hd : dest ≠ 0) (hs : src ≠ 0) (hpos : 0 < dmax) (hle : dmax ≤ max)
    (hb : ∀ b, destbos = some b → dmax ≤ b) :
    strncatG max cfg dest dmax src 0 destbos srcbos = (do
      let l ← strnlen_s dest dmax none
      let error := if l < dmax then EOK else ESZEROL
      handleError cfg dest dmax error
      pure error) := by
  unfold strncatG chkDmaxClear chkSlenMaxClear
  rw [if_neg (fun h => hd h.2.1), if_neg hd, if_neg (Nat.ne_of_gt hpos),
    chkDmaxClearG_pass _ cfg dest dmax destbos max _ hle hb, if_neg hs, if_neg (Nat.not_lt_zero max), if_pos rfl]

theorem wcsncat_s_slen0_eq (cfg : Cfg) (dest dmax src : Nat) (destbos srcbos : Bos)
    (hd : dest ≠ 0) (hs : src ≠ 0) (hpos : 0 < dmax) (hle : dmax ≤ RSIZE_MAX_WSTR)
    (hb : ∀ b, destbos = some b → dmax * SIZEOF_WCHAR_T ≤ b) :
    wcsncat_s cfg dest dmax src 0 destbos srcbos = (do
      let l ← wcsnlen_s dest dmax
      let error := if l < dmax then EOK else ESZEROL
      handleError cfg dest dmax error
      pure error) := by
  unfold wcsncat_s
  rw [if_neg (fun h => hd h.2.1), if_neg hd, if_neg (Nat.ne_of_gt hpos), chkDmaxW_pass dmax destbos _ hle hb,
    if_neg hs, if_neg (Nat.not_lt_zero _)]
  cases srcbos with
  | none => exact if_pos rfl
  | some sb => simp only; rw [if_neg (by omega), if_pos trivial]

end SafeC
