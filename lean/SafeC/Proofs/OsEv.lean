import SafeC.Proofs.EVCopy
import SafeC.Proofs.ExtOs
/-!
# helpers for C05 of `getenv_s` / `strerror_s`: the object size their inner `strcpy_s` is given; `getenvRest`, the part of
`getenv_s` behind the dest checks (the `let rest` of the model, which occurs twice)
-/
namespace SafeC
open Gen SafeC.Props.C05Query

/-- the object size the inner `strcpy_s` is given (`fixInnerBos`: the caller's, else none): `dmax` is inside it -/
theorem innerBos_ok {c : Bool} {db : Bos} {dmax : Nat} (h : ∀ b, db = some b → dmax ≤ b) :
    BosOk (if c then db else none) dmax := by
  cases c
  · show BosOk none dmax; exact nofun
  · exact .of_le h

theorem q_strerrorlen_s (errnum msg : Nat) : Quiet (strerrorlen_s errnum msg) := by
  unfold strerrorlen_s; quiet using q_strlenP

def getenvRest (cfg : Cfg) (hasLen : Bool) (dest dmax name : Nat) (destbos : Bos) (value : Nat) : Prog (Nat × Option Nat) :=
  let L (v : Nat) : Option Nat := if hasLen then some v else none
  if name = 0 then do
    if dest ≠ 0 ∧ dmax ≠ 0 then handleError cfg dest dmax ESNULLP else handlerS ESNULLP
    pure (ESNULLP, L 0)
  else do
    let _ ← strlenP scanFuel name 0
    if value = 0 then do
      if dest ≠ 0 ∧ dmax ≠ 0 then (if cfg.slack then memsetP 0 dmax dest else store dest 0) else pure ()
      pure (NEG1, L 0)
    else do
      let len1 ← strlenP scanFuel value 0
      if dmax ≠ 0 ∧ len1 ≥ dmax then do
        handleError cfg dest dmax ESNOSPC
        pure (ESNOSPC, L 0)
      else do
        if dest ≠ 0 ∧ dmax ≠ 0 then do let _ ← strcpy_s cfg dest dmax value (if cfg.fixInnerBos then destbos else none); pure () else pure ()
        pure (EOK, L len1)

theorem getenv_s_eq (cfg : Cfg) (hasLen : Bool) (dest dmax name : Nat) (destbos : Bos) (value : Nat) :
    getenv_s cfg hasLen dest dmax name destbos value =
      (if dest ≠ 0 then
        if (match destbos with
            | none => decide (dmax > RSIZE_MAX_STR)
            | some b => decide (dmax > b)) = true
        then do handlerS ESLEMAX; pure (ESLEMAX, if hasLen then some 0 else none)
        else getenvRest cfg hasLen dest dmax name destbos value
      else if dmax ≠ 0 then do handlerS ESNULLP; pure (ESNULLP, if hasLen then some 0 else none)
      else getenvRest cfg hasLen dest dmax name destbos value) := rfl

end SafeC
