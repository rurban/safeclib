import SafeC.Proofs.NormMain
import SafeC.Proofs.NormUCDLift
/-! C17 — NFD of the model = NFD of UAX #15 over UCD 14.0, for every string of assigned code points -/
namespace SafeC.Norm
open SafeC.Gen

theorem jamo_assigned : allBelow (fun i => UCD.assigned (0x1100 + i)) 19 = true ∧ allBelow (fun i => UCD.assigned (0x1161 + i)) 21 = true ∧
    allBelow (fun i => UCD.assigned (0x11A7 + i)) 28 = true := by
  refine ⟨?_, ?_, ?_⟩ <;> decide +kernel

theorem hangulDecomp_all {P : Nat → Prop} {c : Nat} (h : UCD.isHangulS c = true) (hL : ∀ l < 19, P (0x1100 + l))
    (hV : ∀ v < 21, P (0x1161 + v)) (hT : ∀ t < 28, P (0x11A7 + t)) : ∀ d ∈ UCD.hangulDecomp c, P d := by
  unfold UCD.isHangulS UCD.SBase UCD.SCount at h
  simp only [Bool.and_eq_true, decide_eq_true_eq] at h
  intro d hd
  unfold UCD.hangulDecomp UCD.SBase UCD.LBase UCD.VBase UCD.TBase UCD.NCount UCD.TCount at hd
  dsimp only at hd
  have sL := hL ((c - 0xAC00) / 588) (by omega)
  have sV := hV ((c - 0xAC00) % 588 / 28) (by omega)
  have sT := hT ((c - 0xAC00) % 28) (by omega)
  split at hd
  · simp only [List.mem_cons, List.mem_nil_iff, or_false] at hd
    rcases hd with h | h
    · rw [h]; exact sL
    · rw [h]; exact sV
  · simp only [List.mem_cons, List.mem_nil_iff, or_false] at hd
    rcases hd with h | h | h
    · rw [h]; exact sL
    · rw [h]; exact sV
    · rw [h]; exact sT

theorem hangulDecomp_assigned {c : Nat} (h : UCD.isHangulS c = true) : ∀ d ∈ UCD.hangulDecomp c, UCD.assigned d = true :=
  hangulDecomp_all h (allBelow_spec jamo_assigned.1) (allBelow_spec jamo_assigned.2.1) (allBelow_spec jamo_assigned.2.2)

theorem fullDecomp_assigned {c d : Nat} (hc : UCD.assigned c = true) (hd : d ∈ UCD.fullDecomp 4 c) : UCD.assigned d = true := by
  by_cases hs : isS c = true
  · have hh : UCD.isHangulS c = true := by rw [← isS_iff]; exact hs
    unfold UCD.fullDecomp at hd
    simp only [hh, ↓reduceIte] at hd
    exact hangulDecomp_assigned hh d hd
  · simp only [Bool.not_eq_true] at hs
    exact (fullDecomp_fixed (assigned_lt hc) hd hs).2.2 hc

/-- **NFD of the model = UAX #15 NFD over UCD 14.0** (D68 full canonical decomposition of every character, then the Canonical
Ordering Algorithm D109), for every string — any length — of code points assigned in Unicode 14.0 other than U+037E -/
theorem nfdPure_is_uax15 (xs : List Nat) (h : ∀ c ∈ xs, UCD.assigned c = true ∧ c ≠ 0x37E) :
    nfdPure xs = reorderPure UCD.ccc (UCD.decompose xs) ∧
    IsCanonicalOrdering UCD.ccc (UCD.decompose xs) (nfdPure xs) := by
  have h1 : xs.flatMap decompose1 = UCD.decompose xs := by
    unfold UCD.decompose
    induction xs with
    | nil => rfl
    | cons x xs ih =>
      simp only [List.flatMap_cons]
      rw [decomp_matches_ucd_partial (h x (by simp)).1 (h x (by simp)).2, ih (fun c hc => h c (by simp [hc]))]
  have h2 : ∀ d ∈ UCD.decompose xs, kcc d = UCD.ccc d := by
    intro d hd
    unfold UCD.decompose at hd
    simp only [List.mem_flatMap] at hd
    obtain ⟨c, hc, hdc⟩ := hd
    have := ccc_matches_ucd (fullDecomp_assigned (h c hc).1 hdc)
    unfold kcc
    rw [this]; rfl
  have h3 : nfdPure xs = reorderPure UCD.ccc (UCD.decompose xs) := by
    unfold nfdPure
    rw [h1]
    exact reorderPure_congr h2
  exact ⟨h3, h3 ▸ reorderPure_isCanonicalOrdering UCD.ccc (UCD.decompose xs)⟩

end SafeC.Norm
