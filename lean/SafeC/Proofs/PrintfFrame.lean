import SafeC.Models.Printf
/-!
# Where the printf engine stores, and what it returns when it fails (C09)

The state of the engine model is `St` = the cells of `dest`, the bytes handed to the stream, and `idx`; the arguments
are values (`Arg`) that are only ever taken from the front of the list.  `Frame m s s'` says what a run may have changed:
cells of `dest` below `m` (the `bufsize` the engine was given) and an extension of the stream — nothing else, whatever
the arguments are.  `Good m s x proj` packages, for one monadic piece `x` of the engine started in state `s`,
(1) every value it `return`s on an error exit is negative, (2) `Frame m s (proj a)` for every normal result `a`.
`Good` is closed under the engine's control structure (`good_bind`, `good_ite`, …), so the property is proved piece by
piece and, for the loop, by induction over the format.
-/
namespace SafeC.Printf
open SafeC.Gen

structure Frame (m : Nat) (s s' : St) : Prop where
  len : s'.cells.length = s.cells.length
  out : ∀ i, m ≤ i → s'.cells[i]? = s.cells[i]?
  str : s.stream <+: s'.stream

theorem Frame.refl (m : Nat) (s : St) : Frame m s s := ⟨rfl, fun _ _ => rfl, List.prefix_refl _⟩

theorem Frame.trans {m : Nat} {a b c : St} (h1 : Frame m a b) (h2 : Frame m b c) : Frame m a c :=
  ⟨h2.len.trans h1.len, fun i hi => (h2.out i hi).trans (h1.out i hi), h1.str.trans h2.str⟩

structure Good {α : Type} (m : Nat) (s : St) (x : M α) (proj : α → St) : Prop where
  neg : ∀ v, x = .error (.ret v) → v < 0
  frame : ∀ a, x = .ok a → Frame m s (proj a)

theorem good_bind {α β : Type} {m : Nat} {s : St} {x : M α} {f : α → M β} {p1 : α → St} {p2 : β → St}
    (hx : Good m s x p1) (hf : ∀ a, x = .ok a → Good m (p1 a) (f a) p2) : Good m s (x >>= f) p2 := by
  cases x with
  | error e =>
    refine ⟨fun v hv => hx.neg v ?_, fun a ha => ?_⟩
    · simpa [bind, Except.bind] using hv
    · cases ha
  | ok a =>
    have := hf a rfl
    exact ⟨fun v hv => this.neg v hv, fun b hb => (hx.frame a rfl).trans (this.frame b hb)⟩

theorem good_pure {α : Type} {m : Nat} {s : St} {a : α} {proj : α → St} (h : Frame m s (proj a)) :
    Good m s (pure a : M α) proj :=
  ⟨fun v hv => (by cases hv), fun b hb => (by cases hb; exact h)⟩

theorem good_ret {α : Type} {m : Nat} {s : St} {v : Int} {proj : α → St} (h : v < 0) :
    Good m s (.error (.ret v) : M α) proj :=
  ⟨fun w hw => (by cases hw; exact h), fun b hb => (by cases hb)⟩

/-- an exit that is not a `return`: nothing to show -/
theorem good_error {α : Type} {m : Nat} {s : St} {proj : α → St} {e : Stop} (he : ∀ v, e ≠ .ret v) :
    Good m s (.error e : M α) proj :=
  ⟨fun w hw => absurd (Except.error.inj hw) (he w), fun b hb => (by cases hb)⟩

theorem good_stuck {α : Type} {m : Nat} {s : St} {proj : α → St} : Good m s (.error .stuck : M α) proj :=
  good_error (fun _ h => by cases h)
theorem good_fault {α : Type} {m : Nat} {s : St} {proj : α → St} : Good m s (.error .fault : M α) proj :=
  good_error (fun _ h => by cases h)
theorem good_unmodelled {α : Type} {m : Nat} {s : St} {proj : α → St} : Good m s (.error .unmodelled : M α) proj :=
  good_error (fun _ h => by cases h)

theorem good_ite {α : Type} {m : Nat} {s : St} {c : Prop} [Decidable c] {x y : M α} {proj : α → St}
    (hx : Good m s x proj) (hy : Good m s y proj) : Good m s (if c then x else y) proj := by
  split <;> assumption

theorem codes_pos : (0 : Int) < ESNOSPC ∧ (0 : Int) < ESLEMAX ∧ (0 : Int) < ESNULLP ∧ (0 : Int) < EILSEQ := by decide

theorem ESNOSPCi_neg : ESNOSPCi < 0 := by decide

theorem out_good (sk : Sink) (m : Nat) (c : Char) (s : St) : Good m s (out sk m c s) id := by
  unfold out
  cases sk with
  | buffer =>
    simp only
    split
    · rename_i hlt
      refine good_pure ⟨by simp, fun i hi => ?_, List.prefix_refl _⟩
      simp only [id]
      rw [List.getElem?_set_ne (by omega)]
    · exact good_ret ESNOSPCi_neg
  | char =>
    refine good_pure ⟨rfl, fun _ _ => rfl, ?_⟩
    split
    · exact List.prefix_refl _
    · exact List.prefix_append _ _
  | fchar => exact good_pure ⟨rfl, fun _ _ => rfl, List.prefix_append _ _⟩

theorem emitAll_good (sk : Sink) (m : Nat) : ∀ (cs : List Char) (s : St), Good m s (emitAll sk m cs s) id := by
  intro cs
  induction cs with
  | nil => intro s; exact good_pure (Frame.refl m s)
  | cons c cs ih =>
    intro s
    unfold emitAll
    exact good_bind (out_good sk m c s) (fun s1 _ => ih s1)

theorem emitRep_good (sk : Sink) (m : Nat) (c : Char) : ∀ (n : Nat) (s : St), Good m s (emitRep sk m c n s) id := by
  intro n
  induction n with
  | zero => intro s; exact good_pure (Frame.refl m s)
  | succ n ih =>
    intro s
    unfold emitRep
    exact good_bind (out_good sk m c s) (fun s1 _ => ih s1)

/-! Sequencing after a piece that returns the state (`emitRep`, `emitAll`, `out`, `ntoaLong`), after an argument fetch
(which leaves the state alone), and the closing `pure (s, as)` of a conversion. -/

theorem Good.andThen {β : Type} {m : Nat} {s : St} {x : M St} {f : St → M β} {p2 : β → St}
    (hx : Good m s x id) (hf : ∀ s1, Good m s1 (f s1) p2) : Good m s (x >>= f) p2 :=
  good_bind hx fun s1 _ => hf s1

theorem Good.withArgs {m : Nat} {s : St} {x : M St} (hx : Good m s x id) (as : List Arg) :
    Good m s (x >>= fun s' => pure (s', as)) Prod.fst :=
  hx.andThen fun _ => good_pure (Frame.refl _ _)

theorem Good.fetch {α β : Type} {m : Nat} {s : St} {x : M (α × List Arg)} {f : α × List Arg → M β} {p2 : β → St}
    (hx : Good m s x (fun _ => s)) (hf : ∀ a as, Good m s (f (a, as)) p2) : Good m s (x >>= f) p2 :=
  good_bind hx fun x _ => hf x.1 x.2

theorem good_opt_rep (sk : Sink) (m : Nat) (c : Bool) (n : Nat) (s : St) :
    Good m s (if c = true then emitRep sk m ' ' n s else pure s) id :=
  good_ite (emitRep_good sk m ' ' n s) (good_pure (Frame.refl m s))

/-- the same in front of a continuation `k`: `let s ← if c then emitRep … else pure s; k s` is elaborated to an `if` over
the two sequences -/
theorem good_opt_rep_then {β : Type} {sk : Sink} {m : Nat} {c : Bool} {n : Nat} {s : St} {k : St → M β} {p2 : β → St}
    (hk : ∀ s1, Good m s1 (k s1) p2) :
    Good m s (if c = true then emitRep sk m ' ' n s >>= k else pure s >>= k) p2 :=
  good_ite ((emitRep_good ..).andThen hk) ((good_pure (Frame.refl _ _)).andThen hk)

theorem outRev_good (sk : Sink) (m : Nat) (buf : Str) (w : Nat) (fl : Flags) (s : St) :
    Good m s (outRev sk m buf w fl s) id := by
  unfold outRev
  exact good_opt_rep_then fun _ => (emitAll_good ..).andThen fun _ => good_opt_rep ..

theorem ntoaFormat_good (fx : Fixes) (sk : Sink) (m : Nat) (buf : Str) (neg : Bool) (base prec width : Nat) (fl : Flags) (s : St) :
    Good m s (ntoaFormat fx sk m buf neg base prec width fl s) id := by
  unfold ntoaFormat
  exact good_ite (good_ret (by decide)) (outRev_good ..)

theorem ntoaLong_good (fx : Fixes) (sk : Sink) (m : Nat) (value : Nat) (neg : Bool) (base prec width : Nat) (fl : Flags) (s : St) :
    Good m s (ntoaLong fx sk m value neg base prec width fl s) id :=
  ntoaFormat_good ..

theorem nextInt_good (m : Nat) (s : St) (args : List Arg) : Good m s (nextInt args) (fun _ => s) := by
  unfold nextInt
  split
  · exact good_pure (Frame.refl m s)
  · exact good_stuck

theorem nextLong_good (m : Nat) (s : St) (args : List Arg) : Good m s (nextLong args) (fun _ => s) := by
  unfold nextLong
  split
  · exact good_pure (Frame.refl m s)
  · exact good_stuck

theorem convInt_good (fx : Fixes) (sk : Sink) (m : Nat) (c : Char) (fl : Flags) (w p : Nat) (args : List Arg) (s : St) :
    Good m s (convInt fx sk m c fl w p args s) Prod.fst := by
  unfold convInt
  refine good_ite (good_ret (by decide)) ?_
  extract_lets base fl1 fl2 fl3 fl4
  -- signed/unsigned × long/int: fetch the argument, print the number, hand back the remaining arguments
  exact good_ite
    (good_ite ((nextLong_good m s args).fetch fun _ as => (ntoaLong_good ..).withArgs as)
      ((nextInt_good m s args).fetch fun _ as => (ntoaLong_good ..).withArgs as))
    (good_ite ((nextLong_good m s args).fetch fun _ as => (ntoaLong_good ..).withArgs as)
      ((nextInt_good m s args).fetch fun _ as => (ntoaLong_good ..).withArgs as))

/-- `%c` / `%lc` with the stray two-byte copy to `buffer[0]` removed (`fx.lcMemcpy`) -/
theorem convChar_good (fx : Fixes) (hfx : fx.lcMemcpy = true) (sk : Sink) (m : Nat) (fl : Flags) (w : Nat) (args : List Arg) (s : St) :
    Good m s (convChar fx sk m fl w args s) Prod.fst := by
  unfold convChar
  simp only [hfx, if_true]
  refine good_ite ?_ ?_
  · refine (nextInt_good m s args).fetch fun a as => good_ite (good_ret (by decide)) ?_
    exact (good_pure (Frame.refl _ _)).andThen fun _ => good_opt_rep_then fun _ => (emitAll_good ..).andThen fun _ =>
      good_opt_rep_then fun _ => good_pure (Frame.refl _ _)
  · refine good_opt_rep_then fun s1 => (nextInt_good m s1 args).fetch fun a as => ?_
    exact (out_good ..).andThen fun _ => good_opt_rep_then fun _ => good_pure (Frame.refl _ _)

theorem convStrTail_good (sk : Sink) (m bs : Nat) (fl : Flags) (w p : Nat) (t : Str) (l0 : Nat) (s : St) :
    Good m s (convStrTail sk m bs fl w p t l0 s) id := by
  unfold convStrTail
  exact good_ite (good_ret ESNOSPCi_neg) (good_opt_rep_then fun _ => (emitAll_good ..).andThen fun _ => good_opt_rep ..)

theorem convStr_good (fx : Fixes) (sk : Sink) (m bs : Nat) (fl : Flags) (w p : Nat) (args : List Arg) (s : St) :
    Good m s (convStr fx sk m bs fl w p args s) Prod.fst := by
  unfold convStr
  refine good_ite ?_ ?_
  · split
    · exact good_ret (by decide)
    · refine good_ite (good_ret (by decide)) (good_ite (good_ret (by decide)) ?_)
      exact (convStrTail_good ..).withArgs _
    · exact good_stuck
  · split
    · exact good_ret (by decide)
    · exact (convStrTail_good ..).withArgs _
    · exact good_stuck

theorem good_const {α : Type} {m : Nat} {s : St} (a : α) : Good m s (.ok a : M α) (fun _ => s) :=
  good_pure (proj := fun _ => s) (Frame.refl m s)

theorem parseWidth_good (m : Nat) (s : St) (f : Str) (fl : Flags) (args : List Arg) :
    Good m s (parseWidth f fl args) (fun _ => s) := by
  unfold parseWidth
  split
  · exact good_const _
  · refine good_ite (good_const _) (good_ite ?_ (good_const _))
    refine good_bind (nextInt_good m s args) (fun x _ => ?_)
    exact good_ite (good_const _) (good_const _)

theorem parsePrec_good (fx : Fixes) (m : Nat) (s : St) (f : Str) (fl : Flags) (args : List Arg) :
    Good m s (parsePrec fx f fl args) (fun _ => s) := by
  unfold parsePrec
  split
  · exact good_const _
  · refine good_ite ?_ (good_const _)
    split
    · exact good_const _
    · refine good_ite (good_const _) (good_ite ?_ (good_const _))
      refine good_bind (nextInt_good m s args) (fun x _ => ?_)
      exact good_ite (good_const _) (good_const _)

theorem directive_good (fx : Fixes) (hfx : fx.lcMemcpy = true) (sk : Sink) (m : Nat) (f : Str) (args : List Arg) (s : St) :
    Good m s (directive fx sk m f args s) (fun x => x.2.2) := by
  unfold directive
  simp only []
  refine good_bind (parseWidth_good m s _ _ _) (fun x1 _ => ?_)
  refine good_bind (parsePrec_good fx m s _ _ _) (fun x2 _ => ?_)
  split
  · exact good_ret (by decide)
  · refine good_ite ?_ (good_ite good_unmodelled (good_ite ?_ (good_ite ?_ (good_ite ?_ (good_ite ?_ (good_ret (by decide)))))))
    · exact good_bind (p1 := Prod.fst) (convInt_good ..) fun _ _ => good_pure (Frame.refl _ _)
    · exact good_bind (p1 := Prod.fst) (convChar_good fx hfx ..) fun _ _ => good_pure (Frame.refl _ _)
    · exact good_bind (p1 := Prod.fst) (convStr_good ..) fun _ _ => good_pure (Frame.refl _ _)
    · split
      · exact (ntoaLong_good ..).andThen fun _ => good_pure (Frame.refl _ _)
      · exact good_stuck
    · exact (out_good ..).andThen fun _ => good_pure (Frame.refl _ _)

theorem engLoop_good (fx : Fixes) (hfx : fx.lcMemcpy = true) (sk : Sink) (m : Nat) : ∀ (k : Nat) (fmt : Str) (args : List Arg) (s : St),
    Good m s (engLoop fx sk m k fmt args s) id := by
  intro k
  induction k with
  | zero => intro fmt args s; exact good_pure (Frame.refl m s)
  | succ k ih =>
    intro fmt args s
    cases fmt with
    | nil => exact good_pure (Frame.refl m s)
    | cons c r =>
      unfold engLoop
      refine good_ite ?_ ?_
      · exact good_bind (p1 := id) (out_good ..) (fun s1 _ => ih r args s1)
      · exact good_bind (p1 := fun x => x.2.2) (directive_good fx hfx ..) (fun x _ => ih x.1 x.2.1 x.2.2)

/-- **the engine, every format and argument list**: every error exit returns a negative value; a normal return
    has stored only into `dest[0..bufsize)` and appended to the stream -/
theorem engine_good (fx : Fixes) (hfx : fx.lcMemcpy = true) (sk : Sink) (m : Nat) (hm : 0 < m) (fmt : Str) (args : List Arg) (s : St) :
    Good m s (engine fx sk m fmt args s) id := by
  unfold engine
  refine good_bind (p1 := id) (engLoop_good fx hfx sk m _ fmt args s) (fun s1 _ => ?_)
  cases sk with
  | buffer =>
    refine good_pure ⟨by simp, fun i hi => ?_, List.prefix_refl _⟩
    simp only [id]
    rw [List.getElem?_set_ne (by split <;> omega)]
  | char => exact good_pure (Frame.refl _ _)
  | fchar => exact good_pure (Frame.refl _ _)

end SafeC.Printf
