import SafeC.Proofs.AccWalk
/-!
# Read footprints of the string queries (`Models/Query.lean`), through `AccD`

One lemma per loop, by induction on its counter.  The footprint `R` is a parameter: a lemma asks for
the cells its loop can reach (`Str d p n`: the string at `p` cut at `n` cells) to lie in `R`.
`Str d dest (dmax+1)` — ONE cell more than declared — is what a loop written `while (*dest && dmax)`
needs: it evaluates `*dest` before it looks at the counter.
-/
namespace SafeC
open Gen

/-- one step of `accd_walk` (defined below as its repetition).  `accd_walk using h₁, h₂` closes an `AccD` goal about a loop body: it opens conditionals, object-size cases and
loads (the address side condition of a `load` is among the hypotheses, or the address is the first cell of a string whose
footprint hypothesis is), passes handler calls, and closes the
leaves with `pure` or one of the `hᵢ` (the shared tail, the induction hypothesis) -/
macro "accd_struct" : tactic => `(tactic| first
  | with_reducible refine AccD.loadBind (by assumption) ?_
  | with_reducible refine AccD.loadStr ‹_› ?_
  | with_reducible exact AccD.pure _ trivial
  | with_reducible exact AccD.ret _ trivial
  | with_reducible refine AccD.ite (fun _ => ?_) (fun _ => ?_)
  | with_reducible refine AccD.handlerSBind _ ?_
  | with_reducible refine AccD.handlerMBind _ ?_
  | with_reducible refine AccD.bos (fun _ => ?_) (fun _ _ => ?_)
  | assumption
  | contradiction
  | split
  | dsimp only)

syntax "accd_walk" (" using " term,+)? : tactic
macro_rules
  | `(tactic| accd_walk) => `(tactic| repeat accd_struct)
  | `(tactic| accd_walk using $[$hs],*) => `(tactic| repeat (first $[| exact $hs]* | accd_struct))

variable {d : Nat → Nat} {R : Nat → Prop}

/-! ## entry checks: no memory access; they let the call proceed only with non-null pointers -/

theorem AccD_qFailS {P : Option Nat → Prop} (c : Nat) (h : ∀ e, P (some e)) : AccD d R (qFailS c) P := by
  unfold qFailS; exact AccD.handlerSBind _ (AccD.pure _ (h _))
theorem AccD_qFailM {P : Option Nat → Prop} (c : Nat) (h : ∀ e, P (some e)) : AccD d R (qFailM c) P := by
  unfold qFailM; exact AccD.handlerMBind _ (AccD.pure _ (h _))

theorem AccD_qChkSlenS (slen : Nat) (b : Bos) : AccD d R (qChkSlenS slen b) (fun _ => True) := by
  have fail : ∀ c, AccD d R (qFailS c) (fun _ => True) := fun c => AccD_qFailS c (fun _ => trivial)
  exact AccD.bos (fun _ => AccD.ite (fun _ => fail _) fun _ => AccD.pure _ trivial)
    (fun _ _ => AccD.ite (fun _ => AccD.ite (fun _ => fail _) fun _ => fail _) fun _ => AccD.pure _ trivial)

theorem AccD_strcmpTail {dest src : Nat} (hd : R dest) (hs : R src) :
    AccD d R (strcmpTail dest src) (fun _ => True) := by
  unfold strcmpTail; accd_walk

theorem AccD_strcasecmpTail {dest src : Nat} (hd : R dest) (hs : R src) :
    AccD d R (strcasecmpTail dest src) (fun _ => True) := by
  unfold strcasecmpTail; accd_walk

theorem AccD_strcmpLoop (sb : Bos) (dmax dest src slen : Nat)
    (hd : ∀ a, Str d dest (dmax+1) a → R a) (hs : ∀ a, Str d src (dmax+1) a → R a) :
    AccD d R (strcmpLoop sb dmax dest src slen) (fun _ => True) := by
  induction dmax generalizing dest src slen with
  | zero =>
    have hd0 : R dest := Str.first hd
    have hs0 : R src := Str.first hs
    have tail := AccD_strcmpTail (d := d) hd0 hs0
    unfold strcmpLoop
    accd_walk using tail
  | succ n ih =>
    have hd0 : R dest := Str.first hd
    have hs0 : R src := Str.first hs
    have tail := AccD_strcmpTail (d := d) hd0 hs0
    unfold strcmpLoop
    accd_walk using tail,
      ih _ _ _ (Str.rest (by assumption) hd) (Str.rest (by assumption) hs)

theorem AccD_strcasecmpLoop (dmax dest src : Nat)
    (hd : ∀ a, Str d dest (dmax+1) a → R a) (hs : ∀ a, Str d src (dmax+1) a → R a) :
    AccD d R (strcasecmpLoop dmax dest src) (fun _ => True) := by
  induction dmax generalizing dest src with
  | zero =>
    have hd0 : R dest := Str.first hd
    have hs0 : R src := Str.first hs
    have tail := AccD_strcasecmpTail (d := d) hd0 hs0
    unfold strcasecmpLoop
    accd_walk using tail
  | succ n ih =>
    have hd0 : R dest := Str.first hd
    have hs0 : R src := Str.first hs
    have tail := AccD_strcasecmpTail (d := d) hd0 hs0
    unfold strcasecmpLoop
    accd_walk using tail,
      ih _ _ (Str.rest (by omega) hd) (Str.rest (by omega) hs)

/-- `strcmpfld_s` compares FIELDS: NULs do not stop it, a difference does.  Cell `i` of either operand is read
only when the `i` cells before it are pairwise equal; `i = dmax` (one behind the field) included. -/
theorem AccD_strcmpfldLoop (dmax dest src : Nat)
    (h : ∀ i, i ≤ dmax → (∀ j, j < i → d (dest+j) = d (src+j)) → R (dest+i) ∧ R (src+i)) :
    AccD d R (strcmpfldLoop dmax dest src) (fun _ => True) := by
  induction dmax generalizing dest src with
  | zero =>
    obtain ⟨hd0, hs0⟩ : R dest ∧ R src := h 0 (by omega) (fun j hj => by omega)
    exact AccD_strcmpTail hd0 hs0
  | succ n ih =>
    obtain ⟨hd0, hs0⟩ : R dest ∧ R src := h 0 (by omega) (fun j hj => by omega)
    have tail := AccD_strcmpTail (d := d) hd0 hs0
    unfold strcmpfldLoop
    accd_walk using tail
    rename_i heq
    refine ih _ _ (fun i hi hpre => ?_)
    have := h (i+1) (by omega) (fun j hj => by
      by_cases e : j = 0
      · subst e; simpa using heq
      · have := hpre (j-1) (by omega)
        rwa [show dest + 1 + (j-1) = dest + j by omega, show src + 1 + (j-1) = src + j by omega] at this)
    rwa [show dest + (i+1) = dest + 1 + i by omega, show src + (i+1) = src + 1 + i by omega] at this

/-- `strlen`: the result locates the first terminator (or is the cut) -/
theorem AccD_strlenP (fuel s n : Nat) (h : ∀ a, Str d s fuel a → R a) :
    AccD d R (strlenP fuel s n) (fun r => n ≤ r ∧ r ≤ n + fuel ∧ (∀ j, j < r - n → ¬ d (s+j) = 0) ∧
      (r < n + fuel → d (s + (r - n)) = 0)) := by
  induction fuel generalizing s n with
  | zero => unfold strlenP; exact AccD.pure _ ⟨Nat.le_refl _, Nat.le_refl _, fun j hj => by omega, fun hj => by omega⟩
  | succ k ih =>
    have h0 : R s := Str.first h
    refine AccD.loadBind h0 ?_
    refine AccD.ite (fun hz => ?_) (fun hne => ?_)
    · exact AccD.pure _ ⟨Nat.le_refl _, by omega, fun j hj => by omega, fun _ => by simpa using hz⟩
    · refine (ih (s+1) (n+1) (Str.rest hne h)).conseq (fun r ⟨g1, g2, g3, g4⟩ => ⟨by omega, by omega, ?_, ?_⟩)
      · intro j hj
        cases j with
        | zero => simpa using hne
        | succ j =>
          have := g3 j (by omega)
          rwa [show s + 1 + j = s + (j + 1) by omega] at this
      · intro hr
        have := g4 (by omega)
        rwa [show s + 1 + (r - (n + 1)) = s + (r - n) by omega] at this

theorem AccD_strchrP (c fuel s : Nat) (h : ∀ a, Str d s fuel a → R a) :
    AccD d R (strchrP c fuel s) (fun _ => True) := by
  induction fuel generalizing s with
  | zero => unfold strchrP; accd_walk
  | succ k ih =>
    unfold strchrP
    accd_walk using ih _ (Str.rest (by omega) h)

theorem AccD_strstrInner (dest src dlen i len : Nat) (hlen : 0 < len)
    (hpd : ∀ j, j < i → ¬ d (dest+j) = 0) (hps : ∀ j, j < i → ¬ d (src+j) = 0)
    (hd : ∀ a, Str d dest (i + dlen) a → R a) (hs : ∀ a, Str d src (i + len + 1) a → R a) :
    AccD d R (strstrInner dest src dlen i len) (fun _ => True) := by
  induction dlen generalizing i len with
  | zero =>
    have hs0 : R (src+i) := hs _ (Str.at_ i (by omega) hps)
    unfold strstrInner
    accd_walk
  | succ n ih =>
    have hs0 : R (src+i) := hs _ (Str.at_ i (by omega) hps)
    have hd0 : R (dest+i) := hd _ (Str.at_ i (by omega) hpd)
    refine AccD.loadBind hs0 ?_
    refine AccD.ite (fun _ => AccD.pure _ trivial) fun hsi => ?_
    have hs1 : R (src+i+1) := hs _ (Str.at_eq (i+1) (by omega) (by omega) (Str.pre_succ hps hsi))
    accd_walk
    refine ih (i+1) (len-1) (by omega) (Str.pre_succ hpd (by omega)) (Str.pre_succ hps hsi)
      (fun a h => hd a (h.mono (by omega))) (fun a h => hs a (h.mono (by omega)))

theorem AccD_strstrOuter (src slen dmax dest : Nat) (hlen : 0 < slen)
    (hd : ∀ a, Str d dest (dmax+1) a → R a) (hs : ∀ a, Str d src (slen + 1) a → R a) :
    AccD d R (strstrOuter src slen dmax dest) (fun _ => True) := by
  induction dmax generalizing dest with
  | zero =>
    unfold strstrOuter
    accd_walk
  | succ n ih =>
    have hd0 : R dest := Str.first hd
    refine AccD.loadBind hd0 ?_
    refine AccD.ite (fun _ => AccD.pure _ trivial) fun hne => ?_
    refine AccD.bind (AccD_strstrInner dest src (n+1) 0 slen hlen (fun j hj => by omega) (fun j hj => by omega)
      (fun a h => hd a (h.mono (by omega))) (fun a h => hs a (h.mono (by omega)))) (fun b _ => ?_)
    exact AccD.ite (fun _ => AccD.pure _ trivial) fun _ => ih _ (Str.rest hne hd)

theorem AccD_strcasestrInner (dest src dlen i len : Nat) (hlen : 0 < len)
    (hpd : ∀ j, j < i → ¬ d (dest+j) = 0) (hps : ∀ j, j < i + 1 → ¬ d (src+j) = 0)
    (hd : ∀ a, Str d dest (i + dlen + 1) a → R a) (hs : ∀ a, Str d src (i + len + 1) a → R a) :
    AccD d R (strcasestrInner dest src dlen i len) (fun _ => True) := by
  induction dlen generalizing i len with
  | zero =>
    have hd0 : R (dest+i) := hd _ (Str.at_ i (by omega) hpd)
    unfold strcasestrInner
    accd_walk
  | succ n ih =>
    have hd0 : R (dest+i) := hd _ (Str.at_ i (by omega) hpd)
    have hs0 : R (src+i) := hs _ (Str.at_ i (by omega) (fun j hj => hps j (by omega)))
    have hs1 : R (src+i+1) := hs _ (Str.at_eq (i+1) (by omega) (by omega) hps)
    unfold strcasestrInner
    accd_walk
    rename_i hdi _ hor
    refine ih (i+1) (len-1) (by omega) (Str.pre_succ hpd hdi)
      (Str.pre_succ hps (by rw [show src + (i+1) = src + i + 1 by omega]; omega))
      (fun a h => hd a (h.mono (by omega))) (fun a h => hs a (h.mono (by omega)))

theorem AccD_strcasestrOuter (src slen dmax dest : Nat) (hlen : 0 < slen) (hs0 : ¬ d src = 0)
    (hd : ∀ a, Str d dest (dmax+1) a → R a) (hs : ∀ a, Str d src (slen + 1) a → R a) :
    AccD d R (strcasestrOuter src slen dmax dest) (fun _ => True) := by
  induction dmax generalizing dest with
  | zero =>
    unfold strcasestrOuter
    accd_walk
  | succ n ih =>
    have hd0 : R dest := Str.first hd
    refine AccD.loadBind hd0 ?_
    refine AccD.ite (fun _ => AccD.pure _ trivial) fun hne => ?_
    refine AccD.bind (AccD_strcasestrInner dest src (n+1) 0 slen hlen (fun j hj => by omega)
      (fun j hj => by have : j = 0 := by omega
                      subst this; simpa using hs0)
      (fun a h => hd a (h.mono (by omega))) (fun a h => hs a (h.mono (by omega)))) (fun b _ => ?_)
    exact AccD.ite (fun _ => AccD.pure _ trivial) fun _ => ih _ (Str.rest hne hd)

theorem AccD_strpbrkInner (dest len ps : Nat) (hd0 : R dest) (hs : ∀ a, Str d ps (len+1) a → R a) :
    AccD d R (strpbrkInner dest len ps) (fun _ => True) := by
  induction len generalizing ps with
  | zero =>
    unfold strpbrkInner
    accd_walk
  | succ n ih =>
    unfold strpbrkInner
    accd_walk using ih _ (Str.rest (by omega) hs)

theorem AccD_strpbrkOuter (src slen dmax dest : Nat)
    (hd : ∀ a, Str d dest (dmax+1) a → R a) (hs : ∀ a, Str d src (slen+1) a → R a) :
    AccD d R (strpbrkOuter src slen dmax dest) (fun _ => True) := by
  induction dmax generalizing dest with
  | zero =>
    unfold strpbrkOuter
    accd_walk
  | succ n ih =>
    have hd0 : R dest := Str.first hd
    refine AccD.loadBind hd0 ?_
    refine AccD.ite (fun _ => AccD.pure _ trivial) fun hne => ?_
    refine AccD.bind (AccD_strpbrkInner dest slen src hd0 hs) (fun b _ => ?_)
    accd_walk using ih _ (Str.rest hne hd)

theorem AccD_spanInner (dest smax scan2 : Nat) (hd0 : R dest) (hs : ∀ a, Str d scan2 (smax+1) a → R a) :
    AccD d R (spanInner dest smax scan2) (fun _ => True) := by
  induction smax generalizing scan2 with
  | zero =>
    unfold spanInner
    accd_walk
  | succ n ih =>
    unfold spanInner
    accd_walk using ih _ (Str.rest (by omega) hs)

theorem AccD_spanOuter (want : Bool) (src slen dmax dest count : Nat)
    (hd : ∀ a, Str d dest (dmax+1) a → R a) (hs : ∀ a, Str d src (slen+1) a → R a) :
    AccD d R (spanOuter want src slen dmax dest count) (fun _ => True) := by
  induction dmax generalizing dest count with
  | zero =>
    unfold spanOuter
    accd_walk
  | succ n ih =>
    have hd0 : R dest := Str.first hd
    refine AccD.loadBind hd0 ?_
    refine AccD.ite (fun _ => AccD.pure _ trivial) fun hne => ?_
    refine AccD.bind (AccD_spanInner dest slen src hd0 hs) (fun b _ => ?_)
    accd_walk using ih _ _ (Str.rest hne hd)

/-- `strprefix_s` tests `*src` (a string read to its terminator at most) BEFORE the counter, and `*dest` only
after it: dest is read inside its `dmax` cells, and inside its string -/
theorem AccD_strprefixLoop (dmax dest src : Nat)
    (hd : ∀ a, Str d dest dmax a → R a) (hs : ∀ a, Str d src (dmax+1) a → R a) :
    AccD d R (strprefixLoop dmax dest src) (fun _ => True) := by
  induction dmax generalizing dest src with
  | zero =>
    unfold strprefixLoop
    accd_walk
  | succ n ih =>
    unfold strprefixLoop
    accd_walk using
      ih _ _ (Str.rest (by omega) hd) (Str.rest (by omega) hs)

theorem AccD_firstcharLoop (c dmax dest : Nat) (hd : ∀ a, Str d dest (dmax+1) a → R a) :
    AccD d R (firstcharLoop c dmax dest) (fun _ => True) := by
  induction dmax generalizing dest with
  | zero =>
    unfold firstcharLoop
    accd_walk
  | succ n ih =>
    unfold firstcharLoop
    accd_walk using ih _ (Str.rest (by omega) hd)

theorem AccD_lastcharLoop (c dmax dest last : Nat) (hd : ∀ a, Str d dest (dmax+1) a → R a) :
    AccD d R (lastcharLoop c dmax dest last) (fun _ => True) := by
  induction dmax generalizing dest last with
  | zero =>
    unfold lastcharLoop
    accd_walk
  | succ n ih =>
    unfold lastcharLoop
    accd_walk using ih _ _ (Str.rest (by omega) hd)

theorem AccD_pairLoop (same first : Bool) (rp dmax dest src : Nat) (last : Option Nat)
    (hd : ∀ a, Str d dest (dmax+1) a → R a) (hs : ∀ a, Str d src (dmax+1) a → R a) :
    AccD d R (pairLoop same first rp dmax dest src last) (fun _ => True) := by
  induction dmax generalizing dest src last with
  | zero =>
    unfold pairLoop
    accd_walk
  | succ n ih =>
    unfold pairLoop
    accd_walk using
      ih _ _ _ (Str.rest (by omega) hd) (Str.rest (by omega) hs)

theorem AccD_classLoop (ok : Nat → Bool) (dmax dest : Nat) (hd : ∀ a, Str d dest (dmax+1) a → R a) :
    AccD d R (classLoop ok dmax dest) (fun _ => True) := by
  induction dmax generalizing dest with
  | zero =>
    unfold classLoop
    accd_walk
  | succ n ih =>
    unfold classLoop
    accd_walk using ih _ (Str.rest (by omega) hd)

/-- the loop that never looks at `dmax`: bounded by the terminator alone -/
theorem AccD_classLoopNoBound (ok : Nat → Bool) (fuel dest : Nat) (hd : ∀ a, Str d dest fuel a → R a) :
    AccD d R (classLoopNoBound ok fuel dest) (fun _ => True) := by
  induction fuel generalizing dest with
  | zero => unfold classLoopNoBound; accd_walk
  | succ n ih =>
    unfold classLoopNoBound
    accd_walk using ih _ (Str.rest (by omega) hd)

theorem AccD_pwLoop (dmax dest : Nat) (n : PwCnt) (hd : ∀ a, Str d dest (dmax+1) a → R a) :
    AccD d R (pwLoop dmax dest n) (fun _ => True) := by
  induction dmax generalizing dest n with
  | zero =>
    unfold pwLoop
    accd_walk
  | succ k ih =>
    unfold pwLoop
    accd_walk using ih _ _ (Str.rest (by omega) hd)

/-- the loop hands back the pointers `*resultp = *dest - *src` dereferences: they are in the footprint too -/
theorem AccD_wcscmpLoop (useCount : Bool) (dmax smax count dest src : Nat)
    (hd : ∀ a, Str d dest (dmax+1) a → R a) (hs : ∀ a, Str d src (smax+1) a → R a) :
    AccD d R (wcscmpLoop useCount dmax smax count dest src) (fun r => R r.1 ∧ R r.2) := by
  induction dmax generalizing smax count dest src with
  | zero =>
    have hd0 : R dest := Str.first hd
    have hs0 : R src := Str.first hs
    unfold wcscmpLoop
    accd_walk using AccD.pure _ ⟨hd0, hs0⟩
  | succ n ih =>
    have hd0 : R dest := Str.first hd
    have hs0 : R src := Str.first hs
    unfold wcscmpLoop
    accd_walk using AccD.pure _ ⟨hd0, hs0⟩,
      ih _ _ _ _ (Str.rest (by omega) hd) (fun a h => hs a (Str.succ_le (by omega) (by omega) h))

theorem AccD_wcsstrInner (dest src dlen i len : Nat) (hlen : 0 < len)
    (hpd : ∀ j, j < i → ¬ d (dest+j) = 0) (hps : ∀ j, j < i → ¬ d (src+j) = 0)
    (hd : ∀ a, Str d dest (i + dlen) a → R a) (hs : ∀ a, Str d src (i + len + 1) a → R a) :
    AccD d R (wcsstrInner dest src dlen i len) (fun _ => True) := by
  induction dlen generalizing i len with
  | zero =>
    have hs0 : R (src+i) := hs _ (Str.at_ i (by omega) hps)
    unfold wcsstrInner
    accd_walk
  | succ n ih =>
    have hs0 : R (src+i) := hs _ (Str.at_ i (by omega) hps)
    have hd0 : R (dest+i) := hd _ (Str.at_ i (by omega) hpd)
    refine AccD.loadBind hs0 ?_
    refine AccD.ite (fun _ => AccD.pure _ trivial) fun hsi => ?_
    have hs1 : R (src+(i+1)) := hs _ (Str.at_ (i+1) (by omega) (Str.pre_succ hps hsi))
    accd_walk
    refine ih (i+1) (len-1) (by omega) (Str.pre_succ hpd (by omega)) (Str.pre_succ hps hsi)
      (fun a h => hd a (h.mono (by omega))) (fun a h => hs a (h.mono (by omega)))

theorem AccD_wcsstrOuter (src slen dmax dest : Nat) (hlen : 0 < slen)
    (hd : ∀ a, Str d dest (dmax+1) a → R a) (hs : ∀ a, Str d src (slen + 1) a → R a) :
    AccD d R (wcsstrOuter src slen dmax dest) (fun _ => True) := by
  induction dmax generalizing dest with
  | zero =>
    unfold wcsstrOuter
    accd_walk
  | succ n ih =>
    have hd0 : R dest := Str.first hd
    refine AccD.loadBind hd0 ?_
    refine AccD.ite (fun _ => AccD.pure _ trivial) fun hne => ?_
    refine AccD.bind (AccD_wcsstrInner dest src (n+1) 0 slen hlen (fun j hj => by omega) (fun j hj => by omega)
      (fun a h => hd a (h.mono (by omega))) (fun a h => hs a (h.mono (by omega)))) (fun b _ => ?_)
    exact AccD.ite (fun _ => AccD.pure _ trivial) fun _ => ih _ (Str.rest hne hd)

end SafeC
