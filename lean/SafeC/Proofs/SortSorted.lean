import SafeC.Proofs.SortTrinkle
import SafeC.Proofs.SortWhole
/-!
# qsort_s model: the whole sort returns (every comparator) and its result is ordered (consistent comparator)

`mainStep_run` … `smooth_run`, `qsortMusl_run_gen`: for EVERY comparator the call returns, keeps the size and the forest shape;
behind `Consistent e.cmp le →` the invariants on the contents:
main loop: every tree but the smallest is heap-ordered, the smallest has heap-ordered subtrees (`MInv`), and a tree whose
stepson comparison was made final — the tree was decided by `trinkle` because `lp[pshift-1] >= high - head`, a static
condition on its order and root position — has a root at least its stepson's (`RootsFin`).  When `trinkle` is called on
a final tree, all trees to its left are final too (`fin_step`: orders at least 2 apart), so their roots ascend (`RootsFin.roots`).
Dismantling loop: all trees heap-ordered, all roots ascending, and everything right of `head` is in its final place (`Dom`).
-/
namespace SafeC.Sort
variable {α : Type}

/-- `Roots` restricted to the trees the code has declared final: the root of a tree of order `o` at `r` with
    `n - 1 - r ≤ leo (o - 1)` (the code's own test `lp[pshift-1] >= high - head`) is at least its stepson's -/
def RootsFin (le : α → α → Prop) (g : Nat → α) (n : Nat) : List Nat → Nat → Prop
  | o :: o' :: os, r => (n - 1 - r ≤ leo (o - 1) → le (g (r - leo o)) (g r)) ∧ RootsFin le g n (o' :: os) (r - leo o)
  | _, _ => True

theorem RootsFin.congr_le {le : α → α → Prop} {g g' : Nat → α} {n : Nat} : ∀ {os : List Nat} {r : Nat},
    (∀ j, j ≤ r → g' j = g j) → RootsFin le g n os r → RootsFin le g' n os r
  | [], _, _, _ => trivial
  | [_], _, _, _ => trivial
  | _ :: _ :: _, _, hg, h => by
    refine ⟨fun hf => ?_, RootsFin.congr_le (fun j hj => hg j (by omega)) h.2⟩
    rw [hg _ (by omega), hg _ (Nat.le_refl _)]; exact h.1 hf

theorem Roots.fin {le : α → α → Prop} {g : Nat → α} {n : Nat} : ∀ {os : List Nat} {r : Nat}, Roots le g os r → RootsFin le g n os r
  | [], _, _ => trivial
  | [_], _, _ => trivial
  | _ :: _ :: _, _, h => ⟨fun _ => h.1, Roots.fin h.2⟩

/-- a final tree of order `o ≥ 1` at `r`: the next tree to the left, at least 2 orders up, is final too -/
theorem fin_step {n o o' r : Nat} (ho : 1 ≤ o) (hoo : o + 2 ≤ o') (hr : leo o ≤ r) (hf : n - 1 - r ≤ leo (o - 1)) :
    n - 1 - (r - leo o) ≤ leo (o' - 1) := by
  obtain ⟨k, rfl⟩ : ∃ k, o = k + 1 := ⟨o - 1, by omega⟩
  have h1 := leo_succ_succ k
  have h2 : leo (k + 2) ≤ leo (o' - 1) := leo_mono (by omega)
  simp only [Nat.add_sub_cancel] at hf
  omega

theorem RootsFin.roots {le : α → α → Prop} {g : Nat → α} {n : Nat} : ∀ (o : Nat) (os : List Nat) (r : Nat),
    (o :: os).Pairwise (fun a b => a + 2 ≤ b) → 1 ≤ o → ((o :: os).map leo).sum = r + 1 →
    n - 1 - r ≤ leo (o - 1) → RootsFin le g n (o :: os) r → Roots le g (o :: os) r
  | _, [], _, _, _, _, _, _ => trivial
  | o, o' :: os, r, hp, ho, hs, hf, h => by
    rw [List.pairwise_cons] at hp
    simp only [List.map_cons, List.sum_cons] at hs
    have := leo_pos o'
    have hoo := hp.1 o' (by simp)
    exact ⟨h.1 hf, RootsFin.roots o' os (r - leo o) hp.2 (by omega) (by simp only [List.map_cons, List.sum_cons]; omega)
      (fin_step ho hoo (by omega) hf) h.2⟩

/-- invariant of the main loop on the contents (besides `Shape`) -/
structure MInv (le : α → α → Prop) (g : Nat → α) (n : Nat) (os : List Nat) (pshift head : Nat) : Prop where
  sub : SubHeaps le g pshift head
  heaps : Heaps le g os.tail (head - leo pshift)
  fin : RootsFin le g n os.tail (head - leo pshift)

def Frame (g g' : Nat → α) (b : Nat) : Prop :=
  (∀ j, b < j → g' j = g j) ∧ (∀ j, j ≤ b → ∃ j', j' ≤ b ∧ g' j = g j')

theorem Frame.weaken {g g' : Nat → α} {b b' : Nat} (h : Frame g g' b) (hb : b ≤ b') : Frame g g' b' := by
  refine ⟨fun j hj => h.1 j (by omega), fun j hj => ?_⟩
  by_cases hjb : j ≤ b
  · obtain ⟨j', h1, h2⟩ := h.2 j hjb
    exact ⟨j', by omega, h2⟩
  · exact ⟨j, hj, h.1 j (by omega)⟩

theorem Frame.trans {g g1 g2 : Nat → α} {b : Nat} (h1 : Frame g g1 b) (h2 : Frame g1 g2 b) : Frame g g2 b := by
  refine ⟨fun j hj => by rw [h2.1 j hj, h1.1 j hj], fun j hj => ?_⟩
  obtain ⟨j1, q1, q2⟩ := h2.2 j hj
  obtain ⟨j2, q3, q4⟩ := h1.2 j1 q1
  exact ⟨j2, q3, by rw [q2, q4]⟩

def Dom (le : α → α → Prop) (g : Nat → α) (n head : Nat) : Prop := ∀ i, head < i → i < n → ∀ j, j ≤ i → le (g j) (g i)

theorem Dom.step {le : α → α → Prop} {g g' : Nat → α} {n head : Nat}
    (hd : Dom le g n head) (hmax : ∀ j, j ≤ head → le (g j) (g head)) (h1 : 1 ≤ head) (hf : Frame g g' (head - 1)) :
    Dom le g' n (head - 1) := by
  intro i hi hin j hj
  have key : ∀ j, j ≤ i → le (g j) (g i) := by
    intro j hj
    by_cases hih : i = head
    · subst hih; exact hmax j hj
    · exact hd i (by omega) hin j hj
  rw [hf.1 i hi]
  by_cases hjb : j ≤ head - 1
  · obtain ⟨j', q1, q2⟩ := hf.2 j hjb
    rw [q2]; exact key j' (by omega)
  · rw [hf.1 j (by omega)]; exact key j hj

theorem mainStep_run [Inhabited α] (e : Env α) (le : α → α → Prop) {n K G : Nat} (C : Ctx e n K G)
    (k : Nat) (s : St α) (os : List Nat) (head : Nat) (p : PV) (pshift : Nat) (hs : s.a.size = n) (hk : head + k + 2 = n)
    (hS : Shape os p pshift head) :
    Tot (mainStep e k s head p pshift) (fun r => r.1.a.size = n ∧
      ∃ os', Shape os' r.2.1 r.2.2 (head + 1) ∧
        (Consistent e.cmp le → MInv le s.g n os pshift head → MInv le r.1.g n os' r.2.2 (head + 1))) := by
  have hK95 := C.K95
  have hh : head < n := by omega
  have hpK := hS.toForest.le_K C hh hS.toForest.mem_pshift
  have hfit := hS.toForest.fits
  have hsift := sift_run e le C.lp (by omega) s head pshift hs hh hfit hpK
  refine mainStep_inv e C k s os head p pshift (by omega) hS
    (fun s1 os' ps' => Consistent e.cmp le → MInv le s.g n os pshift head → MInv le s1.g n os' ps' (head + 1))
    (fun rest hos => ?_) (fun hp0 hnot => ?_)
  · -- merge: the sifted tree and the tree to its left become the subtrees of the new smallest tree
    subst hos
    refine hsift.mono fun s1 h1 => ⟨h1.1, fun hc hI => ?_⟩
    obtain ⟨hheap, hout, _, _⟩ := h1.2 hc hI.sub
    have hsum := hS.sum
    simp only [List.map_cons, List.sum_cons] at hsum
    have hleo := leo_succ_succ pshift
    have q1 := leo_pos (pshift + 1)
    have hcg : ∀ j, j ≤ head - leo pshift → s1.g j = s.g j := fun j hj => hout j (InTree.not_of_le (by omega) hj)
    have hheaps := hI.heaps
    have hfin := hI.fin
    have e1 : head + 1 - leo (pshift + 2) = head - leo pshift - leo (pshift + 1) := by omega
    refine ⟨?_, ?_, ?_⟩
    · show Heap le s1.g pshift (head + 1 - 1) ∧ Heap le s1.g (pshift + 1) (head + 1 - 1 - leo pshift)
      simp only [Nat.add_sub_cancel]
      exact ⟨hheap, Heap.congr_le hcg hheaps.1⟩
    · simp only [List.tail_cons]
      rw [e1]
      exact Heaps.congr_le (fun j hj => hcg j (by omega)) hheaps.2
    · simp only [List.tail_cons] at hfin ⊢
      rw [e1]
      cases rest with
      | nil => trivial
      | cons o2 rest2 => exact RootsFin.congr_le (fun j hj => hcg j (by omega)) hfin.2
  · -- new tree of one element: both branches leave all trees heap-ordered and `RootsFin` for the whole forest
    have hgap := hS.gap_all hnot
    obtain ⟨tl, rfl⟩ := hS.cons_of
    have hsum := hS.sum
    have fin : ∀ {s1 : St α}, (Consistent e.cmp le → MInv le s.g n (pshift :: tl) pshift head →
          Heaps le s1.g (pshift :: tl) head ∧ RootsFin le s1.g n (pshift :: tl) head) →
        ∀ q, q ≤ 1 → Consistent e.cmp le → MInv le s.g n (pshift :: tl) pshift head →
          MInv le s1.g n (q :: pshift :: tl) q (head + 1) := by
      intro s1 h q hq hc hI
      have hl := leo_le_one hq
      refine ⟨?_, by simpa [hl] using (h hc hI).1, by simpa [hl] using (h hc hI).2⟩
      match q, hq with
      | 0, _ => trivial
      | 1, _ => trivial
    refine Tot.ite (fun hfin => ?_) (fun hnf => ?_)
    · refine (trinkle_run e le C s (pshift :: tl) head p pshift false hs hh hS.toForest).mono fun r hr => ⟨hr.1, fin fun hc hI => ?_⟩
      have hroots : Roots le s.g tl (head - leo pshift) := by
        cases tl with
        | nil => trivial
        | cons o1 tl2 =>
          rw [List.pairwise_cons] at hgap
          simp only [List.map_cons, List.sum_cons] at hsum
          have := leo_pos o1
          have hasc := hS.asc
          rw [List.pairwise_cons] at hasc
          have h01 := hasc.1 o1 (by simp)
          exact RootsFin.roots o1 tl2 _ hgap.2 (by omega) (by simp only [List.map_cons, List.sum_cons]; omega)
            (fin_step (by omega) (hgap.1 o1 (by simp)) (by omega) (by omega)) hI.fin
      obtain ⟨r1, r2, _⟩ := hr.2 hc (by simpa using hI.sub) hI.heaps hroots
      exact ⟨r1, r2.fin⟩
    · refine hsift.mono fun r hr => ⟨hr.1, fin fun hc hI => ?_⟩
      obtain ⟨hheap, hout, _, _⟩ := hr.2 hc hI.sub
      cases tl with
      | nil => exact ⟨⟨hheap, trivial⟩, trivial⟩
      | cons o1 tl2 =>
        simp only [List.map_cons, List.sum_cons] at hsum
        have := leo_pos o1
        have hcg : ∀ j, j ≤ head - leo pshift → r.g j = s.g j := fun j hj => hout j (InTree.not_of_le (by omega) hj)
        exact ⟨⟨hheap, Heaps.congr_le hcg hI.heaps⟩,
          ⟨fun hf => absurd (show leo (pshift - 1) ≥ k + 1 by omega) hnf, RootsFin.congr_le hcg hI.fin⟩⟩

theorem mainLoop_run [Inhabited α] (e : Env α) (le : α → α → Prop) {n K G : Nat} (C : Ctx e n K G) :
    ∀ (k : Nat) (s : St α) (os : List Nat) (head : Nat) (p : PV) (pshift : Nat), s.a.size = n → head + k + 1 = n →
    Shape os p pshift head →
    Tot (mainLoop e k s head p pshift) (fun r => r.1.a.size = n ∧
      ∃ os', Shape os' r.2.1 r.2.2 (n - 1) ∧
        (Consistent e.cmp le → MInv le s.g n os pshift head → MInv le r.1.g n os' r.2.2 (n - 1))) := by
  intro k
  induction k with
  | zero =>
    intro s os head p pshift hs hk hS
    unfold mainLoop
    have : n - 1 = head := by omega
    rw [this]
    exact Tot.ok ⟨hs, os, hS, fun _ hI => hI⟩
  | succ k ih =>
    intro s os head p pshift hs hk hS
    unfold mainLoop
    refine Tot.bind _ (mainStep_run e le C k s os head p pshift hs (by omega) hS) (fun ⟨s1, p1, ps1⟩ h1 => ?_)
    obtain ⟨hs1, os1, hS1, hI1⟩ := h1
    exact (ih s1 os1 (head + 1) p1 ps1 hs1 (by omega) hS1).mono fun r hr =>
      ⟨hr.1, hr.2.imp fun os' h => ⟨h.1, fun hc hI => h.2 hc (hI1 hc hI)⟩⟩

/-- invariant of the dismantling loop on the contents (besides `Shape`) -/
structure DInv (le : α → α → Prop) (g : Nat → α) (n : Nat) (os : List Nat) (head : Nat) : Prop where
  heaps : Heaps le g os head
  roots : Roots le g os head
  dom : Dom le g n head

theorem dismantleStep_run [Inhabited α] (e : Env α) (le : α → α → Prop) {n K G : Nat}
    (C : Ctx e n K G) (s : St α) (os : List Nat) (head : Nat) (p : PV) (pshift : Nat) (hs : s.a.size = n) (hh : head < n)
    (hS : Shape os p pshift head) (hne : ¬(pshift = 1 ∧ p = PV.one)) :
    1 ≤ head ∧ Tot (dismantleStep e s head p pshift) (fun r => r.1.a.size = n ∧
      ∃ os', Shape os' r.2.1 r.2.2 (head - 1) ∧
        (Consistent e.cmp le → DInv le s.g n os head → DInv le r.1.g n os' (head - 1))) := by
  have hmax : ∀ hc : Consistent e.cmp le, DInv le s.g n os head → ∀ j, j ≤ head → le (s.g j) (s.g head) :=
    fun hc hD => forest_max hc.refl hc.trans os head hS.sum hD.heaps hD.roots
  refine dismantleStep_inv e C s os head p pshift hs hh hS hne
    (fun s1 os' => Consistent e.cmp le → DInv le s.g n os head → DInv le s1.g n os' (head - 1))
    (fun o1 rest hos hl1 h1 hc hD => ?_) (fun k rest p1 p2 hps hos hle hF1 hS2 => ?_)
  · -- a one-element tree is dropped: nothing moves
    subst hos
    rw [← hl1]
    exact ⟨hD.heaps.2, hD.roots.2, by rw [hl1]; exact hD.dom.step (hmax hc hD) (by omega) ⟨fun _ _ => rfl, fun j hj => ⟨j, hj, rfl⟩⟩⟩
  · -- the smallest tree is split: `trinkle` on its left subtree, then on its right one
    subst hps hos
    have hleo := leo_succ_succ k
    have e1 : head - leo k - 1 - leo (k + 1) = head - leo (k + 2) := by omega
    have e2 : head - 1 - leo k = head - leo k - 1 := by omega
    refine ⟨_, trinkle_run e le C s ((k + 1) :: rest) (head - leo k - 1) _ (k + 1) true hs (by omega) hF1, fun s1 hs1 => ?_⟩
    refine (trinkle_run e le C s1 (k :: (k + 1) :: rest) (head - 1) _ k true hs1.1 (by omega) hS2.toForest).mono
      fun s2 hs2 => ⟨hs2.1, fun hc hD => ?_⟩
    obtain ⟨⟨_, _, hHk, hHk1⟩, hHrest⟩ := hD.heaps
    have hRrest : Roots le s.g rest (head - leo (k + 2)) := by
      cases rest with
      | nil => trivial
      | cons o' rest' => exact hD.roots.2
    obtain ⟨hH1, hR1, hfr1a, hfr1b⟩ := hs1.2 hc (by simpa [e2] using hHk1) (by simpa [e1] using hHrest) (by simpa [e1] using hRrest)
    have hF1' : Frame s.g s1.g (head - leo k - 1) := ⟨hfr1a, hfr1b⟩
    have hHk' : Heap le s1.g k (head - 1) :=
      Heap.congr_tree (by omega) (fun j hj => hfr1a j (by have := hj.1; omega)) hHk
    obtain ⟨hH2, hR2, hfr2a, hfr2b⟩ := hs2.2 hc (by simpa using hHk') (by simpa [e2] using hH1) (by simpa [e2] using hR1)
    have hF2 : Frame s.g s2.g (head - 1) := (hF1'.weaken (by omega)).trans ⟨hfr2a, hfr2b⟩
    exact ⟨hH2, hR2, hD.dom.step (hmax hc hD) (by omega) hF2⟩

theorem dismantle_run [Inhabited α] (e : Env α) (le : α → α → Prop) {n K G : Nat} (C : Ctx e n K G) :
    ∀ (head : Nat) (s : St α) (os : List Nat) (p : PV) (pshift : Nat), s.a.size = n → head < n → Shape os p pshift head →
    Tot (dismantle e head s p pshift) (fun r => r.a.size = n ∧
      (Consistent e.cmp le → DInv le s.g n os head → ∀ i j, j ≤ i → i < n → le (r.g j) (r.g i))) := by
  intro head
  induction head with
  | zero =>
    intro s os p pshift hs _ hS
    unfold dismantle
    simp only [hS.done_of_zero, and_self, if_true]
    refine Tot.ok ⟨hs, fun hc hD i j hj hi => ?_⟩
    by_cases h0 : i = 0
    · have : j = 0 := by omega
      subst h0; subst this; exact hc.refl _
    · exact hD.dom i (by omega) hi j hj
  | succ hd ih =>
    intro s os p pshift hs hh hS
    unfold dismantle
    refine Tot.ite (fun hfin => ?_) (fun hne => ?_)
    · exfalso
      obtain ⟨hp1, hpone⟩ := hfin
      subst hp1
      obtain ⟨tl, rfl⟩ := hS.cons_of
      cases tl with
      | nil =>
        have := hS.sum
        simp [leo] at this
      | cons o1 rest => exact (hS.toForest.next C hh).2.1 hpone
    · refine Tot.bind _ (dismantleStep_run e le C s os (hd + 1) p pshift hs hh hS hne).2 (fun ⟨s1, p1, ps1⟩ h1 => ?_)
      obtain ⟨hs1, os1, hS1, hD1⟩ := h1
      exact (ih s1 os1 p1 ps1 hs1 (by omega) hS1).mono fun r hr => ⟨hr.1, fun hc hD => hr.2 hc (hD1 hc hD)⟩

theorem smooth_run [Inhabited α] (e : Env α) (le : α → α → Prop) {n K G : Nat} (C : Ctx e n K G)
    (s : St α) (hs : s.a.size = n) (hn : 0 < n) :
    Tot (smooth e s n) (fun r => r.a.size = n ∧ (Consistent e.cmp le → ∀ i j, j ≤ i → i < n → le (r.g j) (r.g i))) := by
  unfold smooth
  refine Tot.bind _ (mainLoop_run e le C (n - 1) s [1] 0 PV.one 1 hs (by omega) Shape.init) (fun ⟨s1, p1, ps1⟩ h1 => ?_)
  obtain ⟨hs1, os1, hS1, hI1⟩ := h1
  dsimp only at hs1 hS1 hI1
  refine Tot.bind _ (trinkle_run e le C s1 os1 (n - 1) p1 ps1 false hs1 (by omega) hS1.toForest) (fun s2 hs2 => ?_)
  refine (dismantle_run e le C (n - 1) s2 os1 p1 ps1 hs2.1 (by omega) hS1).mono fun r hr => ⟨hr.1, fun hc => ?_⟩
  have hI := hI1 hc ⟨trivial, trivial, trivial⟩
  have hroots : Roots le s1.g os1.tail (n - 1 - leo ps1) := by
    obtain ⟨tl, rfl⟩ := hS1.cons_of
    cases tl with
    | nil => trivial
    | cons o1 tl2 =>
      have hsum := hS1.sum
      simp only [List.map_cons, List.sum_cons] at hsum
      have := leo_pos o1
      have hasc := hS1.asc
      rw [List.pairwise_cons] at hasc
      have h01 := hasc.1 o1 (by simp)
      have hmono : leo ps1 ≤ leo (o1 - 1) := leo_mono (by omega)
      exact RootsFin.roots o1 tl2 _ (by simpa using hS1.gap) (by omega)
        (by simp only [List.map_cons, List.sum_cons]; omega) (by omega) hI.fin
  obtain ⟨hH2, hR2, _, _⟩ := hs2.2 hc (by simpa using hI.sub) hI.heaps hroots
  exact hr.2 hc ⟨hH2, hR2, fun i hi hin => by omega⟩

/-- `qsort_musl` on an array of exactly `nel` elements, given the standing facts for whatever table `mkLp` builds:
    EVERY comparator, returns and keeps the size; consistent comparator and `width > 0`: the result is ordered -/
theorem qsortMusl_run_gen (fx : Fixes) (c : Cmp α) (le : α → α → Prop) (s : St α)
    (nel width : Nat) (hn : nel = s.a.size) (h63 : nel * width ≤ 2 ^ 63) (h3 : 3 * width < 2 ^ 64)
    (hC : ∀ lp K, LpOk lp K → 2 ≤ K → K ≤ 95 → nel ≤ leo K → ∃ G, Ctx (⟨c.cmp, c.ctx, lp, fx, c.trace⟩ : Env α) nel K G) :
    Tot (qsortMusl fx c s nel width) (fun r => r.a.size = s.a.size ∧
      (Consistent c.cmp le → 0 < width → ∀ (i j : Nat) (hi : i < r.a.size) (hij : j ≤ i), le (r.a[j]'(by omega)) r.a[i])) := by
  by_cases h0 : width = 0 ∨ nel = 0
  · unfold qsortMusl
    have : (width * nel) % 2 ^ 64 = 0 := by rcases h0 with h | h <;> simp [h]
    simp only [this, if_true]
    exact Tot.ok ⟨rfl, fun _ hw i j hi _ => by omega⟩
  · have hw : 0 < width := by omega
    have hnel : 0 < nel := by omega
    haveI : Inhabited α := ⟨s.a[0]'(hn ▸ hnel)⟩
    rw [qsortMusl_eq fx c s nel width hw hnel (by omega)]
    obtain ⟨lp, K, hmk, _, hlp, hK2, hK95, hnK, _⟩ := mkLp_spec width nel hw h63 h3
    refine Tot.bind (fun r => r = lp) ⟨lp, hmk, rfl⟩ (fun lp' hlp' => ?_)
    subst hlp'
    obtain ⟨G, hCtx⟩ := hC lp' K hlp hK2 hK95 hnK
    refine (smooth_run (⟨c.cmp, c.ctx, lp', fx, c.trace⟩ : Env α) le hCtx s hn.symm hnel).mono fun r hr =>
      ⟨by rw [← hn]; exact hr.1, fun hc _ i j hi hij => ?_⟩
    have := hr.2 hc i j hij (by rw [← hr.1]; exact hi)
    simp only [St.g] at this
    rwa [getElem!_pos r.a j (by omega), getElem!_pos r.a i hi] at this

/-! ## from `qsort_musl` to `_qsort_s_chk` (used by Props/C16) -/

open SafeC.Gen in
theorem consistent_of (c : Cmp α) (f : α → α → Int) (hcmp : ∀ k i j x y, c.cmp k i j x y = f x y)
    (hanti : ∀ x y, 0 ≤ f x y ↔ f y x ≤ 0) (htrans : ∀ x y z, f x y ≤ 0 → f y z ≤ 0 → f x z ≤ 0) :
    Consistent c.cmp (fun x y => f x y ≤ 0) := by
  refine ⟨fun x y => ?_, fun {x y z} => htrans x y z, fun k i j x y => by rw [hcmp]; exact hanti x y,
    fun k i j x y => by rw [hcmp]⟩
  by_cases hxy : f x y ≤ 0
  · exact Or.inl hxy
  · exact Or.inr ((hanti x y).mp (by omega))

open SafeC.Gen in
/-- `_qsort_s_chk` on an array of exactly `nmemb` elements, with the whole-word `ntz` and the repaired `pntz` or up to `safeBound fx` elements: the call
returns and keeps the element count (a rejection leaves the state alone), and on EOK the array is ordered by `le` if the comparator is
`Consistent` with it -/
theorem qsortChk_run (fx : Fixes) (c : Cmp α) (le : α → α → Prop) (g : Args) (s : St α) (hn : g.nmemb = s.a.size)
    (h63 : g.nmemb * g.size ≤ 2 ^ 63) (h3 : 3 * g.size < 2 ^ 64)
    (hC : (fx.ctz64 = true ∧ fx.pntzGap = true) ∨ g.nmemb ≤ safeBound fx) :
    ∃ o, qsortChk fx c g s = .ok o ∧ o.st.a.size = s.a.size ∧ (o.ret = EOK → Consistent c.cmp le → 0 < g.size →
      ∀ (i j : Nat) (hi : i < o.st.a.size) (hij : j ≤ i), le (o.st.a[j]'(by omega)) o.st.a[i]) := by
  rcases qsortChk_cases fx c g s with ⟨code, hne, h⟩ | h
  · exact ⟨_, h, rfl, fun hok => absurd hok hne⟩
  · obtain ⟨r, hr, hq⟩ := qsortMusl_run_gen fx c le s g.nmemb g.size hn h63 h3
      fun lp K hlp hK2 hK95 hnK => hC.elim (fun hf => ⟨_, ctx_of_fixed fx hf.1 hf.2 c lp g.nmemb K hlp hK2 hK95 hnK⟩)
        fun hb => ⟨_, ctx_of fx c lp g.nmemb K hlp hK2 hK95 hnK hb⟩
    exact ⟨⟨EOK, none, [], r⟩, by rw [h, hr]; rfl, hq.1, fun _ => hq.2⟩

end SafeC.Sort
