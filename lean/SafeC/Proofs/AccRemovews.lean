import SafeC.Proofs.AccJustify
/-!
# `strremovews_s`: where it loads and stores, and what it leaves in dest — one walk (`removewsBody_accs`, post `JQ` as for `strljustify_s`)

After the terminator `e` has been found (`termScan`: reads at most `dest[dmax]`) the function skips leading whitespace to `p`,
shifts `[p, e)` down to `dest` (filling with blanks) and then strips trailing whitespace walking DOWN from `e - 1` with no
lower bound of its own: `while (*dest == ' ' || *dest == '\t') { *dest = '\0'; dest--; }`.  What stops it is the data: the
first non-blank character of the string — `skipWs` ends on it (`AccD_skipWs_stop`), `shiftLoop` moves exactly it to `dest[0]` and
never touches that cell again (`AccS_shiftLoop_first`; both in `AccJustify.lean`) — so the walk ends at `dest` at the latest (`AccS_stripTrailing`).
-/
namespace SafeC
open Gen

variable {R W : Nat → Prop} {d : Nat → Nat}

/-- the backwards strip stops at `lo` at the latest, and it stores zeros only: a NUL stays a NUL -/
theorem AccS_stripTrailing (lo : Nat) : ∀ (fuel p : Nat) (d : Nat → Nat), lo ≤ p → p < lo + fuel → ¬ IsWs (d lo) →
    (∀ a, lo ≤ a → a ≤ p → R a) → (∀ a, lo ≤ a → a ≤ p → W a) →
    AccS R W d (stripTrailing fuel p) (fun _ d' => ∀ z, d z = 0 → d' z = 0) := by
  intro fuel
  induction fuel with
  | zero => intro p d h1 h2; omega
  | succ n ih =>
    intro p d hlo hf hstop hr hw
    have h0 : R p := hr p hlo (Nat.le_refl _)
    have next : IsWs (d p) → AccS R W (updF d p 0) (stripTrailing n (p-1)) (fun _ d' => ∀ z, d z = 0 → d' z = 0) := fun hws => by
      have hne : p ≠ lo := fun e => hstop (e ▸ hws)
      refine (ih (p-1) _ (by omega) (by omega) ?_ (fun a g1 g2 => hr a g1 (by omega)) (fun a g1 g2 => hw a g1 (by omega))).conseq
        (fun _ d' hq z hz => hq z (updF_of_eq hz))
      rwa [updF_ne (by omega)]
    refine AccS.loadBind h0 ?_
    refine AccS.ite (fun hc => ?_) (fun _ => ?_)
    · exact AccS.storeBind (hw p hlo (Nat.le_refl _)) (next (Or.inl hc))
    · refine AccS.loadBind h0 ?_
      refine AccS.ite (fun hc => ?_) (fun _ => ?_)
      · exact AccS.storeBind (hw p hlo (Nat.le_refl _)) (next (Or.inr hc))
      · exact AccS.pure _ (fun _ h => h)

/-- the part of `strremovews_s` behind the entry checks -/
def removewsBody (dest dmax : Nat) : Prog Nat := do
    let c ← load dest
    if c = 0 ∨ dmax ≤ 1 then do store dest 0; pure EOK
    else do
      match ← termScan dest dmax dmax dest with
      | none => pure ESUNTERM
      | some e => do
        let origEnd := e - 1
        let d ← skipWs (e - dest + 1) dest
        let c0 ← load d
        if c0 = 0 then do store dest 0; pure EOK
        else do
          if dest ≠ d then do
            let c ← load d
            if c ≠ 0 then do
              let (_, d') ← shiftLoop (e - d + 1) dest d
              store d' 0
            else pure ()
          else pure ()
          stripTrailing (origEnd + 1) origEnd
          pure EOK

theorem removewsBody_accs (dest dmax : Nat) (hpos : 0 < dmax)
    (hr : ∀ a, Str d dest (dmax+1) a → R a) (hw : ∀ a, Cells dest dmax a → W a)
    (hwe : ∀ a, Str d dest (dmax+1) a → W a) :
    AccS R W d (removewsBody dest dmax) (JQ d dest dmax) := by
  have w0 : W dest := hw _ ⟨Nat.le_refl _, by omega⟩
  have h0 : R dest := Str.first hr
  have st0 : ∀ d0 : Nat → Nat, AccS R W d0 (do store dest 0; pure EOK : Prog Nat) (JQ d dest dmax) := fun d0 =>
    AccS.storeBind w0 (AccS.pure _ (JQ.nul0 hpos updF_same))
  refine AccS.loadBind h0 (AccS.ite (fun _ => st0 _) fun hc => ?_)
  refine AccS.bind (AccS_termScan dest dmax dmax dest hr hw) (fun r d' hq => ?_)
  cases r with
  | none =>
    have hz : ∀ i, i < dmax → d' (dest + i) = 0 := fun i hi => hq _ ⟨by omega, by omega⟩
    exact AccS.pure _ ⟨.inr rfl, fun _ => hz, fun _ => ⟨0, hpos, hz 0 hpos⟩⟩
  | some e =>
    obtain ⟨rfl, g2, g3, g4, g5⟩ := hq
    have hstr : ∀ a, dest ≤ a → a ≤ e → Str d' dest (dmax+1) a := fun a h1 h2 =>
      ⟨h1, by omega, fun j hj1 hj2 => g5 j hj1 (by omega)⟩
    have hre : ∀ a, dest ≤ a → a ≤ e → R a := fun a h1 h2 => hr a (hstr a h1 h2)
    have hwc : ∀ a, dest ≤ a → a < e → W a := fun a h1 h2 => hw a ⟨h1, by omega⟩
    refine AccS.bind (AccS.of_AccD (AccD_skipWs_stop e (e - dest + 1) dest g2 (by omega) g4 hre)) (fun p d'' hq => ?_)
    obtain ⟨rfl, q1, q2, q3⟩ := hq
    refine AccS.loadBind (hre p q1 q2) (AccS.ite (fun _ => st0 _) fun hc0 => ?_)
    have hpe : p ≠ e := fun h => hc0 (h ▸ g4)
    have tail : ∀ d2 : Nat → Nat, ¬ IsWs (d2 dest) → d2 e = 0 → AccS R W d2 (do
        stripTrailing (e - 1 + 1) (e - 1)
        pure EOK : Prog Nat) (JQ d'' dest dmax) := fun d2 hstop hz =>
      AccS.bind (AccS_stripTrailing dest (e - 1 + 1) (e - 1) d2 (by omega) (by omega) hstop
        (fun a h1 h2 => hre a h1 (by omega)) (fun a h1 h2 => hwc a h1 (by omega)))
        (fun _ d3 hq => AccS.pure _ (JQ.nulE g2 g3 g4 g5 (hq e hz)))
    refine AccS.ite (fun hdp => ?_) fun hdp => tail _ ((Classical.byContradiction (fun h => hdp h) : dest = p) ▸ q3) g4
    refine AccS.loadBind (hre p q1 q2) (AccS.ite (fun _ => ?_) fun hcz => absurd (by simpa using hcz) hc0)
    refine AccS.bind ((AccS_shiftLoop_first (W := fun a => dest ≤ a ∧ a < e) e (e - p + 1) dest p (by omega) q2 (by omega) g4
      (fun a h1 h2 => hre a (by omega) h2) (fun a h1 h2 => ⟨h1, h2⟩)).frame.mono (fun _ h => h)
        (fun a ⟨h1, h2⟩ => hwc a h1 h2)) (fun r d2 hq => ?_)
    obtain ⟨r1, r2⟩ := r
    obtain ⟨⟨s1, s2, s3, s4, s5, s6⟩, hfr⟩ := hq
    refine AccS.storeBind (hwe r2 (hstr r2 (by omega) s4)) (tail _ ?_ ?_)
    · rw [updF_ne (by omega), s6 hc0]
      exact q3
    · exact updF_of_eq ((hfr e (fun h => Nat.lt_irrefl _ h.2)).trans g4)

/-- **strremovews_s**: reads inside the string at dest cut at `dmax + 1` cells; stores inside the `dmax` cells and (the
terminator rewritten after the shift) at the terminator the scan found -/
theorem strremovews_s_accs (cfg : Cfg) (dest dmax : Nat) (b : Bos)
    (hr : dest ≠ 0 → ∀ a, Str d dest (dmax+1) a → R a) (hw : dest ≠ 0 → ∀ a, Cells dest dmax a → W a)
    (hwe : dest ≠ 0 → ∀ a, Str d dest (dmax+1) a → W a) :
    AccS R W d (strremovews_s cfg dest dmax b) (fun _ _ => True) := by
  exact AccS_destChecks fun hd hm => AccS_chkDmax _ _ _ ((removewsBody_accs dest dmax (by omega) (hr hd) (hw hd) (hwe hd)).conseq fun _ _ _ => trivial)

end SafeC
