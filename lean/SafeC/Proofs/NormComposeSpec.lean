import SafeC.Proofs.NormMain
/-!
# C17 — `composeLoop` (model of `wcsnorm_compose_s`, `iscontig = false`) computes the Canonical Composition Algorithm

For ALL lists (any length) and any class function `k` agreeing with the table lookups, the model of the C loop returns the
specification `composePure k (pcOf fx)` (`composeLoop_eq_pure`, `composeS_eq_pure`): streaming composition with the state (last
starter, class of the last uncomposed character since it, the uncomposed characters since it), the blocking rule literally the C's.
The standard's formulation `d117 k pc` (UAX #15 / Unicode Standard D117 with the blocking of D115) is a left fold whose step seeks
back for the last starter in the already processed sequence (`splitLastStarter`); on canonically ordered input, and for a pair map
whose composites of starters are starters, the two agree (`composePure_eq_d117`).  Core Lean only (no Mathlib).
-/
namespace SafeC.Norm
open SafeC.Gen

attribute [local irreducible] cell UniCanon.main UniCanon.planes UniCanon.rows UniCombin.main UniCombin.planes UniCombin.rows
  UniCompos.main UniCompos.planes UniCompos.rows UniCompos.pairs UniCompos.excl UniCompos.listOff UniCompos.listLen

/-- the abstract pair map of the tree: `some c` iff `_composite_cp(a, b)` is a non-zero value that is not a composition
exclusion -/
def pcOf (fx : Fixes) (a b : Nat) : Option Nat :=
  let c := compositeCp fx a b
  if c ≠ 0 ∧ !isExcl c then some c else none

/-- the streaming Canonical Composition Algorithm once a starter has been seen: `s` = the current (last) starter,
`pre` = the class of the last character since `s` that was not composed (0 if none), `pend` = those characters.
`c` is blocked from `s` iff `(k c ≠ 0 ∧ pre = k c) ∨ pre > k c` (the C's rule, literally). -/
def composeGo (k : Nat → Nat) (pc : Nat → Nat → Option Nat) : List Nat → Nat → Nat → List Nat → List Nat
  | [], s, _, pend => s :: pend
  | c :: rest, s, pre, pend =>
    match (if (k c ≠ 0 ∧ pre = k c) ∨ pre > k c then none else pc s c) with
    | some p => composeGo k pc rest p pre pend
    | none =>
      if k c = 0 then s :: pend ++ composeGo k pc rest c 0 []
      else composeGo k pc rest s (k c) (pend ++ [c])

def composePure (k : Nat → Nat) (pc : Nat → Nat → Option Nat) : List Nat → List Nat
  | [] => []
  | c :: rest => if k c = 0 then composeGo k pc rest c 0 [] else c :: composePure k pc rest

theorem composeGo_length_le (k : Nat → Nat) (pc : Nat → Nat → Option Nat) :
    ∀ (xs : List Nat) (s pre : Nat) (pend : List Nat),
      (composeGo k pc xs s pre pend).length ≤ 1 + pend.length + xs.length := by
  intro xs
  induction xs with
  | nil => intro s pre pend; simp [composeGo]; omega
  | cons c rest ih =>
    intro s pre pend
    unfold composeGo
    split
    · have := ih ‹_› pre pend
      simp only [List.length_cons]; omega
    · split
      · have := ih c 0 []
        simp only [List.length_cons, List.length_append, List.length_nil] at this ⊢; omega
      · have := ih s (k c) (pend ++ [c])
        simp only [List.length_cons, List.length_append, List.length_nil] at this ⊢; omega

theorem composePure_length_le (k : Nat → Nat) (pc : Nat → Nat → Option Nat) (xs : List Nat) :
    (composePure k pc xs).length ≤ xs.length := by
  induction xs with
  | nil => simp [composePure]
  | cons c rest ih =>
    unfold composePure
    split
    · have := composeGo_length_le k pc rest c 0 []
      simp only [List.length_cons, List.length_nil] at this ⊢; omega
    · simp only [List.length_cons]; omega

theorem composeGo_of_no_pair {k : Nat → Nat} {pc : Nat → Nat → Option Nat} (h : ∀ a b, pc a b = none) :
    ∀ (xs : List Nat) (s pre : Nat) (pend : List Nat), composeGo k pc xs s pre pend = s :: pend ++ xs := by
  intro xs
  induction xs with
  | nil => intro s pre pend; simp [composeGo]
  | cons c rest ih =>
    intro s pre pend
    unfold composeGo
    simp only [h, ite_self]
    split
    · simp [ih]
    · simp [ih]

theorem composePure_of_no_pair {k : Nat → Nat} {pc : Nat → Nat → Option Nat} (h : ∀ a b, pc a b = none) (xs : List Nat) :
    composePure k pc xs = xs := by
  induction xs with
  | nil => rfl
  | cons c rest ih =>
    unfold composePure
    split
    · simp [composeGo_of_no_pair h]
    · rw [ih]


theorem composeLoop_go (fx : Fixes) (k : Nat → Nat) :
    ∀ (src : List Nat) (cpS pre : Nat) (seq : List Nat) (dmax : Nat), src ≠ [] →
      (∀ c ∈ src, combinClass c = some (k c)) →
      (fx.rangeChk = true → ∀ c ∈ src, c ≤ UniCompos.unicodeMax) →
      1 + seq.length + src.length < dmax →
      composeLoop fx false src cpS true pre seq dmax
        = .ok (composeGo k (pcOf fx) src cpS pre seq) (dmax - (composeGo k (pcOf fx) src cpS pre seq).length) := by
  intro src
  induction src with
  | nil => intro _ _ _ _ h; exact absurd rfl h
  | cons c rest ih =>
    intro cpS pre seq dmax _ hk hr hd
    have hc := hk c (by simp)
    have hk' : ∀ c ∈ rest, combinClass c = some (k c) := fun x hx => hk x (by simp [hx])
    have hr' : fx.rangeChk = true → ∀ c ∈ rest, c ≤ UniCompos.unicodeMax :=
      fun h x hx => hr h x (by simp [hx])
    have hrng := rangeChk_false fun h => hr h c List.mem_cons_self
    simp only [List.length_cons] at hd
    unfold composeLoop composeGo
    simp only [hrng, hc]
    simp only [Bool.not_true, Bool.false_eq_true, if_false, Bool.false_and, Bool.false_or, Bool.not_not]
    have hcomp : (if k c ≠ 0 ∧ pre = k c ∨ pre > k c then none else pcOf fx cpS c)
        = (if (if (k c != 0 && pre == k c || decide (pre > k c)) = true then 0 else compositeCp fx cpS c) ≠ 0 ∧
          (!isExcl (if (k c != 0 && pre == k c || decide (pre > k c)) = true then 0 else compositeCp fx cpS c)) = true
          then some (if (k c != 0 && pre == k c || decide (pre > k c)) = true then 0 else compositeCp fx cpS c) else none) := by
      by_cases hb : k c ≠ 0 ∧ pre = k c ∨ pre > k c
      · have hb' : (k c != 0 && pre == k c || decide (pre > k c)) = true := by simpa using hb
        simp [hb, hb']
      · have hb' : ¬ (k c != 0 && pre == k c || decide (pre > k c)) = true := by simpa using hb
        simp only [hb, hb', if_false, pcOf, Bool.false_eq_true]
    rw [hcomp]
    generalize (if (k c != 0 && pre == k c || decide (pre > k c)) = true then 0 else compositeCp fx cpS c) = v
    cases rest with
    | nil =>
      simp only [List.isEmpty_nil, Bool.not_true, Bool.false_eq_true, and_false, or_true, if_true, if_false,
        composeLoop, composeGo]
      simp only [List.length_nil, List.length_append, List.length_cons] at hd ⊢
      by_cases hv : v ≠ 0 ∧ (!isExcl v) = true
      · simp only [if_pos hv]
        rw [if_neg (by omega), if_neg (by omega), if_neg (by omega)]
        simp only [List.append_nil, List.length_cons]
        congr 1; omega
      · simp only [if_neg hv]
        rw [if_neg (by omega), if_neg (by omega), if_neg (by omega)]
        simp only [List.append_nil, List.length_cons, List.cons_append, ite_self, List.length_append, List.length_nil]
        congr 1; omega
    | cons r rs =>
      have hne : r :: rs ≠ [] := by simp
      simp only [List.isEmpty_cons, Bool.not_false, and_true, or_false, Bool.false_eq_true, if_true]
      by_cases hv : v ≠ 0 ∧ (!isExcl v) = true
      · simp only [if_pos hv]
        exact ih v pre seq dmax hne hk' hr' (by omega)
      · simp only [if_neg hv]
        by_cases hz : k c = 0
        · simp only [hz, ne_eq, not_true_eq_false, if_false, if_true]
          rw [if_neg (by omega), if_neg (by omega), if_neg (by omega)]
          rw [ih c 0 [] (dmax - 1 - seq.length) hne hk' hr' (by simp only [List.length_nil] at hd ⊢; omega)]
          simp only [List.length_cons, List.length_append, List.cons_append]
          congr 1; omega
        · simp only [hz, ne_eq, not_false_eq_true, if_false, if_true]
          exact ih cpS (k c) (seq ++ [c]) dmax hne hk' hr'
            (by simp only [List.length_append, List.length_cons, List.length_nil] at hd ⊢; omega)

/-- before the first starter: non-starters are copied -/
theorem composeLoop_lead (fx : Fixes) (k : Nat → Nat) :
    ∀ (src : List Nat) (cpS : Nat) (dmax : Nat),
      (∀ c ∈ src, combinClass c = some (k c)) →
      (fx.rangeChk = true → ∀ c ∈ src, c ≤ UniCompos.unicodeMax) →
      src.length < dmax →
      composeLoop fx false src cpS false 0 [] dmax
        = .ok (composePure k (pcOf fx) src) (dmax - (composePure k (pcOf fx) src).length) := by
  intro src
  induction src with
  | nil => intro _ _ _ _ _; simp [composeLoop, composePure]
  | cons c rest ih =>
    intro cpS dmax hk hr hd
    have hc := hk c (by simp)
    have hk' : ∀ c ∈ rest, combinClass c = some (k c) := fun x hx => hk x (by simp [hx])
    have hr' : fx.rangeChk = true → ∀ c ∈ rest, c ≤ UniCompos.unicodeMax :=
      fun h x hx => hr h x (by simp [hx])
    have hrng := rangeChk_false fun h => hr h c List.mem_cons_self
    simp only [List.length_cons] at hd
    unfold composeLoop composePure
    simp only [hrng, hc]
    simp only [Bool.not_false, Bool.false_eq_true, if_false, if_true, List.length_nil]
    by_cases hz : k c = 0
    · simp only [hz, if_true]
      cases rest with
      | nil =>
        simp only [List.isEmpty_nil, Bool.not_true, Bool.false_eq_true, if_false, composeLoop, composeGo]
        rw [if_neg (by omega), if_neg (by omega), if_neg (by omega)]
        simp
      | cons r rs =>
        simp only [List.isEmpty_cons, Bool.not_false, if_true]
        exact composeLoop_go fx k (r :: rs) c 0 [] dmax (by simp) hk' hr'
          (by simp only [List.length_cons, List.length_nil] at hd ⊢; omega)
    · simp only [hz, if_false]
      rw [if_neg (by omega), if_neg (by omega)]
      rw [ih cpS (dmax - 1) hk' hr' (by omega)]
      simp only [List.length_cons]
      congr 1; omega

/-- **the compose pass of the C (non-contiguous mode) computes `composePure`**: with the class lookups in bounds and
room to spare, the loop returns the specification, which is never longer than the input -/
theorem composeLoop_eq_pure (fx : Fixes) (k : Nat → Nat) (src : List Nat) (dmax : Nat)
    (hk : ∀ c ∈ src, combinClass c = some (k c))
    (hr : fx.rangeChk = true → ∀ c ∈ src, c ≤ UniCompos.unicodeMax)
    (hd : src.length < dmax) :
    composeLoop fx false src 0 false 0 [] dmax
        = .ok (composePure k (pcOf fx) src) (dmax - (composePure k (pcOf fx) src).length) ∧
      (composePure k (pcOf fx) src).length ≤ src.length :=
  ⟨composeLoop_lead fx k src 0 dmax hk hr hd, composePure_length_le k (pcOf fx) src⟩

/-- `wcsnorm_compose_s` (iscontig = false) as a whole -/
theorem composeS_eq_pure (fx : Fixes) (k : Nat → Nat) (src : List Nat) (dmax : Nat)
    (hk : ∀ c ∈ src, combinClass c = some (k c))
    (hr : fx.rangeChk = true → ∀ c ∈ src, c ≤ UniCompos.unicodeMax)
    (hd : src.length < dmax) (hmax : dmax ≤ RSIZE_MAX_WSTR) :
    composeS fx dmax src false
      = ⟨0, (composePure k (pcOf fx) src).length, composePure k (pcOf fx) src, false, false⟩ := by
  have hlen := composePure_length_le k (pcOf fx) src
  unfold composeS
  rw [if_neg (by omega), composeLoop_lead fx k src 0 dmax hk hr hd]
  simp only [Res.ofStep, Res.mk.injEq, and_self, and_true, true_and]
  omega

/-- R1 "seek back from C to find the last Starter L preceding C": `done = before ++ L :: mid` with `ccc(L) = 0` and no
starter in `mid` (`splitLastStarter_some_iff`); `none` iff there is no starter (`splitLastStarter_none_iff`) -/
def splitLastStarter (k : Nat → Nat) : List Nat → Option (List Nat × Nat × List Nat)
  | [] => none
  | x :: xs =>
    match splitLastStarter k xs with
    | some (b, L, m) => some (x :: b, L, m)
    | none => if k x = 0 then some ([], x, xs) else none

/-- R2 for the character `c` that follows the already processed sequence `done`.  D115: `c` is blocked from `L` iff some
`B` between `L` and `c` has `ccc(B) = 0` or `ccc(B) ≥ ccc(c)`. -/
def d117Step (k : Nat → Nat) (pc : Nat → Nat → Option Nat) (done : List Nat) (c : Nat) : List Nat :=
  match splitLastStarter k done with
  | none => done ++ [c]
  | some (before, L, mid) =>
    if ∃ b ∈ mid, k b = 0 ∨ k c ≤ k b then done ++ [c]
    else match pc L c with
      | some P => before ++ P :: mid
      | none => done ++ [c]

/-- D117, the Canonical Composition Algorithm: the characters are processed from left to right -/
def d117 (k : Nat → Nat) (pc : Nat → Nat → Option Nat) (xs : List Nat) : List Nat :=
  xs.foldl (d117Step k pc) []

theorem splitLastStarter_none_iff {k : Nat → Nat} {l : List Nat} :
    splitLastStarter k l = none ↔ ∀ x ∈ l, k x ≠ 0 := by
  constructor
  · induction l with
    | nil => intro _ y hy; cases hy
    | cons z zs ihz =>
      intro hn y hy
      unfold splitLastStarter at hn
      cases hzs : splitLastStarter k zs with
      | some t => rw [hzs] at hn; cases hn
      | none =>
        rw [hzs] at hn
        by_cases hz : k z = 0
        · simp [hz] at hn
        · rcases List.mem_cons.1 hy with h | h
          · rw [h]; exact hz
          · exact ihz hzs y h
  · intro h
    induction l with
    | nil => rfl
    | cons x xs ih =>
      have := ih (fun y hy => h y (by simp [hy]))
      have hx := h x (by simp)
      simp [splitLastStarter, this, hx]

theorem splitLastStarter_append {k : Nat → Nat} (out : List Nat) {s : Nat} {pend : List Nat} (hs : k s = 0)
    (h : ∀ x ∈ pend, k x ≠ 0) : splitLastStarter k (out ++ s :: pend) = some (out, s, pend) := by
  induction out with
  | nil => simp [splitLastStarter, splitLastStarter_none_iff.2 h, hs]
  | cons x xs ih => simp [splitLastStarter, ih]

theorem splitLastStarter_sound {k : Nat → Nat} : ∀ {l b : List Nat} {L : Nat} {m : List Nat},
    splitLastStarter k l = some (b, L, m) → l = b ++ L :: m ∧ k L = 0 ∧ ∀ x ∈ m, k x ≠ 0 := by
  intro l
  induction l with
  | nil => intro b L m h; simp [splitLastStarter] at h
  | cons x xs ih =>
    intro b L m h
    unfold splitLastStarter at h
    cases hxs : splitLastStarter k xs with
    | some t =>
      rw [hxs] at h
      simp only [Option.some.injEq, Prod.mk.injEq] at h
      obtain ⟨h1, h2, h3⟩ := h
      have := ih hxs
      rw [← h1, ← h2, ← h3]
      refine ⟨by rw [this.1]; rfl, this.2.1, this.2.2⟩
    | none =>
      rw [hxs] at h
      by_cases hx : k x = 0
      · simp only [hx, if_true, Option.some.injEq, Prod.mk.injEq] at h
        obtain ⟨h1, h2, h3⟩ := h
        rw [← h1, ← h2, ← h3]
        exact ⟨rfl, hx, splitLastStarter_none_iff.1 hxs⟩
      · simp [hx] at h

theorem splitLastStarter_some_iff {k : Nat → Nat} {l b : List Nat} {L : Nat} {m : List Nat} :
    splitLastStarter k l = some (b, L, m) ↔ l = b ++ L :: m ∧ k L = 0 ∧ ∀ x ∈ m, k x ≠ 0 :=
  ⟨splitLastStarter_sound, fun ⟨h1, h2, h3⟩ => by rw [h1]; exact splitLastStarter_append b h2 h3⟩

/-- canonical order, chain style with the class of the left neighbour: every character is a starter or has a class not
below its left neighbour's -/
def OrdFrom (k : Nat → Nat) : Nat → List Nat → Prop
  | _, [] => True
  | lo, c :: r => (k c = 0 ∨ lo ≤ k c) ∧ OrdFrom k (k c) r

theorem ordFrom_of_canonOrdered_cons {k : Nat → Nat} : ∀ (l : List Nat) (a : Nat), CanonOrdered k (a :: l) → OrdFrom k (k a) l := by
  intro l
  induction l with
  | nil => intro _ _; trivial
  | cons b l ih =>
    intro a h
    obtain ⟨h1, h2⟩ := (canonOrdered_cons_cons k a b l).1 h
    refine ⟨?_, ih b h2⟩
    unfold Reorderable at h1; omega

theorem ordFrom_of_canonOrdered {k : Nat → Nat} {l : List Nat} (h : CanonOrdered k l) : OrdFrom k 0 l := by
  cases l with
  | nil => trivial
  | cons a l => exact ⟨Or.inr (Nat.zero_le _), ordFrom_of_canonOrdered_cons l a h⟩

/-- the invariant: after the processed sequence `out ++ s :: pend` (`s` the last starter, `pend` its uncomposed marks with
non-decreasing classes, `pre` the last = largest of them) D117 continues as `composeGo` -/
theorem d117_go {k : Nat → Nat} {pc : Nat → Nat → Option Nat} (hpc : ∀ a b c, pc a b = some c → k a = 0 → k c = 0) :
    ∀ (rest out : List Nat) (s pre : Nat) (pend : List Nat) (lo : Nat), k s = 0 →
      (∀ b ∈ pend, k b ≠ 0 ∧ k b ≤ pre) → (pend = [] → pre = 0) → (pend ≠ [] → ∃ b ∈ pend, k b = pre) →
      pre ≤ lo → OrdFrom k lo rest →
      rest.foldl (d117Step k pc) (out ++ s :: pend) = out ++ composeGo k pc rest s pre pend := by
  intro rest
  induction rest with
  | nil => intro out s pre pend lo _ _ _ _ _ _; simp [composeGo]
  | cons c rest ih =>
    intro out s pre pend lo hs hpend hnil hex hlo hord
    obtain ⟨hc, hord'⟩ := hord
    have hblk : (∃ b ∈ pend, k b = 0 ∨ k c ≤ k b) ↔ ((k c ≠ 0 ∧ pre = k c) ∨ pre > k c) := by
      constructor
      · rintro ⟨b, hb, h⟩
        have := hpend b hb
        omega
      · intro h
        have hne : pend ≠ [] := by
          intro he; have := hnil he; omega
        obtain ⟨b, hb, hkb⟩ := hex hne
        exact ⟨b, hb, by omega⟩
    have hstep : d117Step k pc (out ++ s :: pend) c
        = if (k c ≠ 0 ∧ pre = k c) ∨ pre > k c then out ++ s :: pend ++ [c]
          else match pc s c with
            | some P => out ++ P :: pend
            | none => out ++ s :: pend ++ [c] := by
      unfold d117Step
      rw [splitLastStarter_append out hs (fun x hx => (hpend x hx).1)]
      simp only [hblk]
    -- the two continuations when `c` is not composed
    have hkeep : rest.foldl (d117Step k pc) (out ++ s :: pend ++ [c])
        = out ++ (if k c = 0 then s :: pend ++ composeGo k pc rest c 0 [] else composeGo k pc rest s (k c) (pend ++ [c])) := by
      by_cases hz : k c = 0
      · have := ih (out ++ s :: pend) c 0 [] 0 hz (by simp) (by simp) (by simp) (Nat.le_refl _) (hz ▸ hord')
        simp only [hz, if_true]
        simpa using this
      · have := ih out s (k c) (pend ++ [c]) (k c) hs
          (by
            intro b hb
            rcases List.mem_append.1 hb with h | h
            · have := hpend b h; omega
            · simp only [List.mem_singleton] at h; rw [h]; omega)
          (by simp) (fun _ => ⟨c, by simp, rfl⟩) (Nat.le_refl _) hord'
        simp only [hz, if_false]
        simpa using this
    rw [List.foldl_cons, hstep]
    unfold composeGo
    by_cases hb : (k c ≠ 0 ∧ pre = k c) ∨ pre > k c
    · simp only [if_pos hb]
      exact hkeep
    · simp only [if_neg hb]
      cases hp : pc s c with
      | none => exact hkeep
      | some p =>
        exact ih out p pre pend (k c) (hpc s c p hp hs) hpend hnil hex (by omega) hord'

/-- before the first starter nothing can compose -/
theorem d117_lead {k : Nat → Nat} {pc : Nat → Nat → Option Nat} (hpc : ∀ a b c, pc a b = some c → k a = 0 → k c = 0) :
    ∀ (rest out : List Nat) (lo : Nat), (∀ b ∈ out, k b ≠ 0) → OrdFrom k lo rest →
      rest.foldl (d117Step k pc) out = out ++ composePure k pc rest := by
  intro rest
  induction rest with
  | nil => intro out lo _ _; simp [composePure]
  | cons c rest ih =>
    intro out lo hout hord
    obtain ⟨_, hord'⟩ := hord
    have hstep : d117Step k pc out c = out ++ [c] := by
      unfold d117Step
      rw [splitLastStarter_none_iff.2 hout]
    rw [List.foldl_cons, hstep]
    unfold composePure
    by_cases hz : k c = 0
    · have := d117_go hpc rest out c 0 [] 0 hz (by simp) (by simp) (by simp) (Nat.le_refl _) (hz ▸ hord')
      simp only [hz, if_true]
      simpa using this
    · have := ih (out ++ [c]) (k c) (by
        intro b hb
        rcases List.mem_append.1 hb with h | h
        · exact hout b h
        · simp only [List.mem_singleton] at h; rw [h]; exact hz) hord'
      simp only [hz, if_false]
      simpa using this

/-- **`composePure` is the Canonical Composition Algorithm (D117 with the blocking of D115)** on canonically ordered
input, for any class function and any pair map whose composites of starters are starters -/
theorem composePure_eq_d117 {k : Nat → Nat} {pc : Nat → Nat → Option Nat}
    (hpc : ∀ a b c, pc a b = some c → k a = 0 → k c = 0) {xs : List Nat} (hxs : CanonOrdered k xs) :
    composePure k pc xs = d117 k pc xs := by
  unfold d117
  rw [d117_lead hpc xs [] 0 (by simp) (ordFrom_of_canonOrdered hxs)]
  rfl

/-- the C loop against the standard's formulation directly (the pair-map hypothesis `hpc` — a composite of a starter is a
starter — is a fact about the tables, `compositeCp_class0` in NormCompositeStarter.lean; it is a hypothesis here) -/
theorem composeLoop_eq_d117 (fx : Fixes) (k : Nat → Nat) (src : List Nat) (dmax : Nat)
    (hk : ∀ c ∈ src, combinClass c = some (k c))
    (hr : fx.rangeChk = true → ∀ c ∈ src, c ≤ UniCompos.unicodeMax)
    (hd : src.length < dmax) (hord : CanonOrdered k src)
    (hpc : ∀ a b c, pcOf fx a b = some c → k a = 0 → k c = 0) :
    composeLoop fx false src 0 false 0 [] dmax
      = .ok (d117 k (pcOf fx) src) (dmax - (d117 k (pcOf fx) src).length) := by
  rw [← composePure_eq_d117 hpc hord]
  exact composeLoop_lead fx k src 0 dmax hk hr hd

theorem splitLastStarter_congr {k k' : Nat → Nat} {l : List Nat} (h : ∀ x ∈ l, k x = k' x) :
    splitLastStarter k l = splitLastStarter k' l := by
  induction l with
  | nil => rfl
  | cons x xs ih =>
    have ih := ih (fun y hy => h y (by simp [hy]))
    have hx := h x (by simp)
    simp only [splitLastStarter, ih, hx]

theorem d117Step_mem {k : Nat → Nat} {pc : Nat → Nat → Option Nat} {done : List Nat} {c y : Nat}
    (hy : y ∈ d117Step k pc done c) : y ∈ done ∨ y = c ∨ ∃ L ∈ done, pc L c = some y := by
  unfold d117Step at hy
  have happ : y ∈ done ++ [c] → y ∈ done ∨ y = c ∨ ∃ L ∈ done, pc L c = some y := by
    intro h
    rcases List.mem_append.1 h with h | h
    · exact Or.inl h
    · exact Or.inr (Or.inl (by simpa using h))
  cases hs : splitLastStarter k done with
  | none => rw [hs] at hy; exact happ hy
  | some t =>
    obtain ⟨before, L, mid⟩ := t
    rw [hs] at hy
    dsimp only at hy
    obtain ⟨e, _, _⟩ := splitLastStarter_sound hs
    split at hy
    · exact happ hy
    · cases hp : pc L c with
      | none => rw [hp] at hy; exact happ hy
      | some P =>
        rw [hp] at hy
        rcases List.mem_append.1 hy with h | h
        · exact Or.inl (by rw [e]; simp [h])
        · rcases List.mem_cons.1 h with h | h
          · exact Or.inr (Or.inr ⟨L, by rw [e]; simp, by rw [h]; exact hp⟩)
          · exact Or.inl (by rw [e]; simp [h])

theorem d117Step_closed {k : Nat → Nat} {pc : Nat → Nat → Option Nat} {S : Nat → Prop}
    (hS : ∀ a b c, S a → S b → pc a b = some c → S c) {done : List Nat} {c : Nat}
    (hdone : ∀ x ∈ done, S x) (hc : S c) : ∀ y ∈ d117Step k pc done c, S y := by
  intro y hy
  rcases d117Step_mem hy with h | h | ⟨L, hL, hp⟩
  · exact hdone y h
  · rw [h]; exact hc
  · exact hS L c y (hdone L hL) hc hp

theorem d117Step_length_le (k : Nat → Nat) (pc : Nat → Nat → Option Nat) (done : List Nat) (c : Nat) :
    (d117Step k pc done c).length ≤ done.length + 1 := by
  unfold d117Step
  cases hs : splitLastStarter k done with
  | none => simp
  | some t =>
    dsimp only
    obtain ⟨e, _, _⟩ := splitLastStarter_sound hs
    split
    · simp
    · split
      · rw [e]; simp
      · simp

theorem d117Step_congr {k k' : Nat → Nat} {pc pc' : Nat → Nat → Option Nat} {S : Nat → Prop}
    (hk : ∀ x, S x → k x = k' x) (hpc : ∀ a b, S a → S b → pc a b = pc' a b) {done : List Nat} {c : Nat}
    (hdone : ∀ x ∈ done, S x) (hc : S c) : d117Step k pc done c = d117Step k' pc' done c := by
  unfold d117Step
  rw [← splitLastStarter_congr fun x hx => hk x (hdone x hx)]
  cases hs : splitLastStarter k done with
  | none => rfl
  | some t =>
    obtain ⟨before, L, mid⟩ := t
    obtain ⟨e, _, _⟩ := splitLastStarter_sound hs
    have hmid : ∀ b ∈ mid, k b = k' b := fun b hb => hk b (hdone b (by rw [e]; simp [hb]))
    have hblk : (∃ b ∈ mid, k b = 0 ∨ k c ≤ k b) ↔ (∃ b ∈ mid, k' b = 0 ∨ k' c ≤ k' b) := by
      constructor
      · rintro ⟨b, hb, h⟩; exact ⟨b, hb, by rw [← hmid b hb, ← hk c hc]; exact h⟩
      · rintro ⟨b, hb, h⟩; exact ⟨b, hb, by rw [hmid b hb, hk c hc]; exact h⟩
    simp only [hblk, hpc L c (hdone L (by rw [e]; simp)) hc]

/-- the fold from any processed prefix: on a set `S` that contains the input and is closed under composition, only the classes
and the pair map on `S` matter, and the result stays in `S` -/
theorem d117_fold_congr {k k' : Nat → Nat} {pc pc' : Nat → Nat → Option Nat} {S : Nat → Prop}
    (hS : ∀ a b c, S a → S b → pc a b = some c → S c) (hk : ∀ x, S x → k x = k' x)
    (hpc : ∀ a b, S a → S b → pc a b = pc' a b) :
    ∀ (xs done : List Nat), (∀ x ∈ done, S x) → (∀ x ∈ xs, S x) →
      xs.foldl (d117Step k pc) done = xs.foldl (d117Step k' pc') done ∧ ∀ y ∈ xs.foldl (d117Step k pc) done, S y := by
  intro xs
  induction xs with
  | nil => intro done hdone _; exact ⟨rfl, hdone⟩
  | cons c rest ih =>
    intro done hdone hxs
    have hc := hxs c (by simp)
    rw [List.foldl_cons, List.foldl_cons, ← d117Step_congr hk hpc hdone hc]
    exact ih _ (d117Step_closed hS hdone hc) (fun x hx => hxs x (by simp [hx]))

theorem d117_fold_length_le (k : Nat → Nat) (pc : Nat → Nat → Option Nat) :
    ∀ (xs done : List Nat), (xs.foldl (d117Step k pc) done).length ≤ done.length + xs.length := by
  intro xs
  induction xs with
  | nil => intro done; simp
  | cons c rest ih =>
    intro done
    rw [List.foldl_cons]
    have h1 := ih (d117Step k pc done c)
    have h2 := d117Step_length_le k pc done c
    simp only [List.length_cons]; omega

theorem d117_congr_k {k k' : Nat → Nat} {pc : Nat → Nat → Option Nat} {xs : List Nat}
    (hxs : ∀ x ∈ xs, k x = k' x) (hpc : ∀ a b c, pc a b = some c → k c = k' c) :
    d117 k pc xs = d117 k' pc xs :=
  (d117_fold_congr (S := fun x => k x = k' x) (fun a b c _ _ h => hpc a b c h) (fun _ h => h) (fun _ _ _ _ => rfl) xs []
    (by simp) hxs).1

theorem d117_congr_pc {k : Nat → Nat} {pc pc' : Nat → Nat → Option Nat} {S : Nat → Prop} {xs : List Nat}
    (hxs : ∀ x ∈ xs, S x) (hS : ∀ a b c, S a → S b → pc a b = some c → S c)
    (hpc : ∀ a b, S a → S b → pc a b = pc' a b) :
    d117 k pc xs = d117 k pc' xs :=
  (d117_fold_congr hS (fun _ _ => rfl) hpc xs [] (by simp) hxs).1

theorem d117_mem_closed {k : Nat → Nat} {pc : Nat → Nat → Option Nat} {S : Nat → Prop} {xs : List Nat}
    (hxs : ∀ x ∈ xs, S x) (hS : ∀ a b c, S a → S b → pc a b = some c → S c) :
    ∀ y ∈ d117 k pc xs, S y :=
  (d117_fold_congr (k' := k) (pc' := pc) hS (fun _ _ => rfl) (fun _ _ _ _ => rfl) xs [] (by simp) hxs).2

theorem d117_length_le (k : Nat → Nat) (pc : Nat → Nat → Option Nat) (xs : List Nat) :
    (d117 k pc xs).length ≤ xs.length := by
  have := d117_fold_length_le k pc xs []
  simpa [d117] using this

/-! ## Sanity checks (toy class function: class = tens digit; toy pair map) -/

def toyPc (a b : Nat) : Option Nat :=
  if a = 1 ∧ b = 21 then some 2 else if a = 2 ∧ b = 31 then some 3 else if a = 1 ∧ b = 5 then some 6 else none

example : composePure (· / 10) toyPc [11, 1, 12, 21, 22, 31, 5, 1, 5, 1, 21, 5] = [11, 3, 12, 22, 5, 6, 2, 5] := by decide
example : d117 (· / 10) toyPc [11, 1, 12, 21, 22, 31, 5, 1, 5, 1, 21, 5] = [11, 3, 12, 22, 5, 6, 2, 5] := by decide
-- not blocked by a mark of lower class; blocked by a mark of equal class; a starter after an uncomposed mark is blocked
example : composePure (· / 10) toyPc [2, 22, 31] = [3, 22] ∧ composePure (· / 10) toyPc [1, 21, 31] = [3] ∧
    composePure (· / 10) toyPc [2, 32, 31] = [2, 32, 31] ∧ composePure (· / 10) toyPc [1, 12, 5] = [1, 12, 5] := by decide
example : d117 (· / 10) toyPc [2, 22, 31] = [3, 22] ∧ d117 (· / 10) toyPc [1, 21, 31] = [3] ∧
    d117 (· / 10) toyPc [2, 32, 31] = [2, 32, 31] ∧ d117 (· / 10) toyPc [1, 12, 5] = [1, 12, 5] := by decide
example : splitLastStarter (· / 10) [11, 1, 12, 2, 21, 22] = some ([11, 1, 12], 2, [21, 22]) := by decide

/-! ## `composeS` at the tree's class function `kcc` -/

theorem composeS_eq_pure_kcc (fx : Fixes) (src : List Nat) (dmax : Nat)
    (hle : ∀ c ∈ src, c ≤ UniCompos.unicodeMax) (hd : src.length < dmax) (hmax : dmax ≤ RSIZE_MAX_WSTR) :
    composeS fx dmax src false
      = ⟨0, (composePure kcc (pcOf fx) src).length, composePure kcc (pcOf fx) src, false, false⟩ :=
  composeS_eq_pure fx kcc src dmax (fun c hc => kcc_spec (hle c hc)) (fun _ => hle) hd hmax

#print axioms composeLoop_eq_pure
#print axioms composeS_eq_pure_kcc
#print axioms composeS_eq_pure
#print axioms composePure_length_le
#print axioms composePure_of_no_pair
#print axioms composePure_eq_d117
#print axioms composeLoop_eq_d117
#print axioms splitLastStarter_some_iff
#print axioms splitLastStarter_none_iff
#print axioms d117_congr_k
#print axioms d117_congr_pc
#print axioms d117_mem_closed
#print axioms d117_length_le

end SafeC.Norm
