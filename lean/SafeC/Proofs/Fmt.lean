import SafeC.Models.Fmt
import SafeC.Proofs.ListFacts
/-! C09: the format-string models.  A directive the printf engine accepts is read by libc's printf grammar as the same
stretch of the format and not as an `n` conversion (`engDirective_sync`), so a format in which libc finds an `n` conversion
stops the engine (`engLoop_rejects`); a bare `%n` found by either libc grammar is a literal occurrence of the two characters;
what a pre-scan that lets a format through establishes; the loops' fuel covers the whole format. -/
namespace SafeC.Fmt

theorem skipDigits_cons (c : Char) (r : Str) :
    skipDigits (c :: r) = if c.isDigit = true then skipDigits r else c :: r := by
  simp [skipDigits, List.dropWhile_cons]

theorem skipDigits_suffix (f : Str) : skipDigits f <:+ f := List.dropWhile_suffix _

theorem dropWhile_append_stop (p : Char → Bool) (a : Str) (x : Char) (t : Str) (ha : ∀ y ∈ a, p y = true) (hx : p x = false) :
    (a ++ x :: t).dropWhile p = x :: t := by
  rw [List.dropWhile_append_of_pos ha, List.dropWhile_cons_of_neg (by simp [hx])]

theorem skipDigits_run (ds : Str) (h : ∀ d ∈ ds, d.isDigit = true) (c : Char) (hc : c.isDigit = false) (r : Str) :
    skipDigits (ds ++ c :: r) = c :: r :=
  dropWhile_append_stop Char.isDigit ds c r h hc

theorem dollarArg_some {f f' : Str} (h : dollarArg f = some f') :
    ∃ d ds, d.isDigit = true ∧ (∀ x ∈ ds, x.isDigit = true) ∧ f = d :: (ds ++ '$' :: f') := by
  unfold dollarArg at h
  split at h
  · rename_i hc
    obtain ⟨hany, hhead⟩ := hc
    have hf : f.takeWhile Char.isDigit ++ skipDigits f = f := List.takeWhile_append_dropWhile
    obtain ⟨t, ht⟩ := List.head?_eq_some_iff.mp hhead
    have hf' : f' = t := by
      have := Option.some.inj h
      rw [ht] at this
      simpa using this.symm
    subst hf'
    have hall := takeWhile_all Char.isDigit f
    cases htw : f.takeWhile Char.isDigit with
    | nil => simp [htw] at hany
    | cons d ds =>
      rw [htw] at hall
      refine ⟨d, ds, hall d (by simp), fun x hx => hall x (by simp [hx]), ?_⟩
      rw [← hf, htw, ht]
      simp
  · cases h

theorem dollarArg_suffix {f f' : Str} (h : dollarArg f = some f') : f' <:+ f := by
  obtain ⟨d, ds, _, _, rfl⟩ := dollarArg_some h
  exact ⟨d :: (ds ++ ['$']), by simp⟩

theorem dollarArg_getD_suffix (f : Str) : (dollarArg f).getD f <:+ f := by
  cases h : dollarArg f with
  | none => exact List.suffix_refl f
  | some f' => exact dollarArg_suffix h

/-- the engine from the length switch on (`engT1`: from the precision, `engT0`: from the width); `libT0..3` are the
same cuts of libc's directive parser, `sync0..3` compare them stage by stage -/
def engT2 (g : Str) : EngStep := engSpec (engLength g).1 (engLength g).2
def engT1 (g : Str) : EngStep := engT2 (engPrec g)
def engT0 (g : Str) : EngStep := engT1 (engWidth g)

theorem engDirective_eq (f : Str) : engDirective f = engT0 (f.dropWhile engIsFlag) := rfl

def libT3 : Str → Bool × Str
  | [] => (false, [])
  | c :: r => (c == 'n', r)
def libT2 (g : Str) : Bool × Str := libT3 (libcPLength g)
def libT1 (g : Str) : Bool × Str := libT2 (libcPPrec g)
def libT0 (g : Str) : Bool × Str := libT1 (libcPWidth g)

theorem libcPDirective_eq (f : Str) :
    libcPDirective f = libT0 (((dollarArg f).getD f).dropWhile libcPIsFlag) := by
  unfold libcPDirective libT0 libT1 libT2
  cases libcPLength (libcPPrec (libcPWidth (((dollarArg f).getD f).dropWhile libcPIsFlag))) <;> rfl

theorem intConv_mem {c : Char} (h : engIsIntConv c = true) : c ∈ ['d', 'i', 'u', 'x', 'X', 'o', 'b'] := by
  simpa [engIsIntConv, or_assoc] using h

theorem otherConv_mem {c : Char} (h : engIsOtherConv c = true) :
    c ∈ ['f', 'F', 'e', 'E', 'g', 'G', 'a', 'A', 'c', 's', 'p', '%'] := by
  simpa [engIsOtherConv, or_assoc] using h

theorem sync3 (ld : Bool) (g r : Str) (h : engSpec ld g = .next r) : libT3 g = (false, r) := by
  cases g with
  | nil => simp [engSpec] at h
  | cons c t =>
    by_cases hi : engIsIntConv c = true
    · have hn : c ≠ 'n' := by
        intro e; subst e; revert hi; decide
      cases ld with
      | true => simp [engSpec, hi] at h
      | false =>
        simp [engSpec, hi] at h
        subst h; simp [libT3, hn]
    · by_cases ho : engIsOtherConv c = true
      · have hn : c ≠ 'n' := by
          intro e; subst e; revert ho; decide
        simp [engSpec, hi, ho] at h
        subst h; simp [libT3, hn]
      · have hi' : engIsIntConv c = false := by simpa using hi
        have ho' : engIsOtherConv c = false := by simpa using ho
        by_cases hn : c = 'n'
        · subst hn
          have h1 : engIsIntConv 'n' = false := by decide
          have h2 : engIsOtherConv 'n' = false := by decide
          simp [engSpec, h1, h2] at h
        · simp [engSpec, hi', ho', hn] at h

theorem engT2_stuck (c : Char) (t : Str)
    (hl : c ≠ 'l' ∧ c ≠ 'L' ∧ c ≠ 'h' ∧ c ≠ 't' ∧ c ≠ 'j' ∧ c ≠ 'z')
    (hi : engIsIntConv c = false) (ho : engIsOtherConv c = false) (r : Str) :
    engT2 (c :: t) ≠ .next r := by
  obtain ⟨h1, h2, h3, h4, h5, h6⟩ := hl
  simp [engT2, engLength, h1, h2, h3, h4, h5, h6, engSpec, hi, ho]
  split <;> simp

theorem sync2 (g r : Str) (h : engT2 g = .next r) : libT2 g = (false, r) := by
  cases g with
  | nil => simp [engT2, engLength, engSpec] at h
  | cons c t =>
    by_cases hl : c = 'l'
    · subst hl
      simp only [engT2, engLength, if_true] at h
      simp only [libT2, libcPLength, or_true, if_true]
      exact sync3 _ _ _ h
    by_cases hL : c = 'L'
    · subst hL
      have h' : engSpec true t = .next r := by simpa [engT2, engLength] using h
      have : libcPLength ('L' :: t) = t := by simp [libcPLength]
      rw [libT2, this]
      exact sync3 _ _ _ h'
    by_cases hh : c = 'h'
    · subst hh
      have h' : engSpec false (if t.head? = some 'h' then t.tail else t) = .next r := by
        simpa [engT2, engLength] using h
      have : libcPLength ('h' :: t) = (if t.head? = some 'h' then t.tail else t) := by simp [libcPLength]
      rw [libT2, this]
      exact sync3 _ _ _ h'
    by_cases htjz : c = 't' ∨ c = 'j' ∨ c = 'z'
    · have h' : engSpec false t = .next r := by
        rcases htjz with rfl | rfl | rfl <;> simpa [engT2, engLength] using h
      have : libcPLength (c :: t) = t := by
        rcases htjz with rfl | rfl | rfl <;> simp [libcPLength]
      rw [libT2, this]
      exact sync3 _ _ _ h'
    · have ht : c ≠ 't' := fun e => htjz (Or.inl e)
      have hj : c ≠ 'j' := fun e => htjz (Or.inr (Or.inl e))
      have hz : c ≠ 'z' := fun e => htjz (Or.inr (Or.inr e))
      by_cases hqZ : c = 'q' ∨ c = 'Z'
      · exfalso
        refine engT2_stuck c t ⟨hl, hL, hh, ht, hj, hz⟩ ?_ ?_ r h <;>
          rcases hqZ with rfl | rfl <;> decide
      · have hq : c ≠ 'q' := fun e => hqZ (Or.inl e)
        have hZ : c ≠ 'Z' := fun e => hqZ (Or.inr e)
        have h' : engSpec false (c :: t) = .next r := by
          simpa [engT2, engLength, hl, hL, hh, ht, hj, hz] using h
        have : libcPLength (c :: t) = c :: t := by
          simp [libcPLength, hl, hL, hh, ht, hj, hz, hq, hZ]
        rw [libT2, this]
        exact sync3 _ _ _ h'

theorem engT2_digit (d : Char) (t : Str) (hd : d.isDigit = true) (r : Str) : engT2 (d :: t) ≠ .next r := by
  refine engT2_stuck d t ?_ ?_ ?_ r
  · refine ⟨?_, ?_, ?_, ?_, ?_, ?_⟩ <;> (intro e; subst e; revert hd; decide)
  · cases h : engIsIntConv d with
    | false => rfl
    | true =>
      have hall : ∀ x ∈ ['d', 'i', 'u', 'x', 'X', 'o', 'b'], x.isDigit = false := by decide
      have := hall d (intConv_mem h)
      rw [hd] at this; cases this
  · cases h : engIsOtherConv d with
    | false => rfl
    | true =>
      have hall : ∀ x ∈ ['f', 'F', 'e', 'E', 'g', 'G', 'a', 'A', 'c', 's', 'p', '%'], x.isDigit = false := by decide
      have := hall d (otherConv_mem h)
      rw [hd] at this; cases this

theorem digit_ne {d : Char} (hd : d.isDigit = true) {c : Char} (hc : c.isDigit = false) : d ≠ c := by
  intro e; subst e; rw [hd] at hc; cases hc

/-- the width / precision field: the engine's reading agrees with libc's unless libc sees `*m$`, which
    leaves the engine in front of a digit -/
theorem widthSync (E : Str → EngStep) (L : Str → Bool × Str)
    (hEL : ∀ g r, E g = .next r → L g = (false, r))
    (hdig : ∀ d t, d.isDigit = true → ∀ r, E (d :: t) ≠ .next r) :
    ∀ g r, E (engWidth g) = .next r → L (libcPWidth g) = (false, r) := by
  intro g r h
  cases g with
  | nil => exact hEL _ _ (by simpa [engWidth, libcPWidth] using h)
  | cons c t =>
    by_cases hd : c.isDigit = true
    · have hs : c ≠ '*' := digit_ne hd (by decide)
      have : libcPWidth (c :: t) = skipDigits (c :: t) := by simp [libcPWidth, hs, hd]
      rw [this]
      exact hEL _ _ (by simpa [engWidth, hd] using h)
    · by_cases hs : c = '*'
      · subst hs
        have h' : E t = .next r := by simpa [engWidth] using h
        cases hda : dollarArg t with
        | none =>
          have : libcPWidth ('*' :: t) = t := by simp [libcPWidth, hda]
          rw [this]; exact hEL _ _ h'
        | some t' =>
          obtain ⟨d, ds, hdd, _, rfl⟩ := dollarArg_some hda
          exact absurd h' (hdig d _ hdd r)
      · have : libcPWidth (c :: t) = c :: t := by simp [libcPWidth, hs, hd]
        rw [this]
        exact hEL _ _ (by simpa [engWidth, hd, hs] using h)

theorem sync1 (g r : Str) (h : engT1 g = .next r) : libT1 g = (false, r) := by
  cases g with
  | nil => exact sync2 _ _ (by simpa [engT1, engPrec, libcPPrec] using h)
  | cons c t =>
    by_cases hc : c = '.'
    · subst hc
      have h' : engT2 (engWidth t) = .next r := by simpa [engT1, engPrec] using h
      have : libcPPrec ('.' :: t) = libcPWidth t := by simp [libcPPrec]
      rw [libT1, this]
      exact widthSync engT2 libT2 sync2 engT2_digit t r h'
    · have h' : engT2 (c :: t) = .next r := by simpa [engT1, engPrec, hc] using h
      have : libcPPrec (c :: t) = c :: t := by simp [libcPPrec, hc]
      rw [libT1, this]
      exact sync2 _ _ h'

theorem engT1_digit (d : Char) (t : Str) (hd : d.isDigit = true) (r : Str) : engT1 (d :: t) ≠ .next r := by
  have hdot : d ≠ '.' := digit_ne hd (by decide)
  have : engT1 (d :: t) = engT2 (d :: t) := by simp [engT1, engPrec, hdot]
  rw [this]; exact engT2_digit d t hd r

theorem sync0 (g r : Str) (h : engT0 g = .next r) : libT0 g = (false, r) :=
  widthSync engT1 libT1 sync1 engT1_digit g r h

theorem engT0_stuck (c : Char) (t : Str) (hd : c.isDigit = false) (hs : c ≠ '*') (hdot : c ≠ '.')
    (hl : c ≠ 'l' ∧ c ≠ 'L' ∧ c ≠ 'h' ∧ c ≠ 't' ∧ c ≠ 'j' ∧ c ≠ 'z')
    (hi : engIsIntConv c = false) (ho : engIsOtherConv c = false) (r : Str) :
    engT0 (c :: t) ≠ .next r := by
  have : engT0 (c :: t) = engT2 (c :: t) := by simp [engT0, engWidth, hd, hs, engT1, engPrec, hdot]
  rw [this]; exact engT2_stuck c t hl hi ho r

theorem engT0_nil (r : Str) : engT0 [] ≠ .next r := by
  simp [engT0, engWidth, engT1, engPrec, engT2, engLength, engSpec]

/-- `%m$…`: the engine reads the digits as flags / width and stops on the `$` -/
theorem engDirective_dollar (ds : Str) (hds : ∀ x ∈ ds, x.isDigit = true) (rest r : Str) :
    engT0 ((ds ++ '$' :: rest).dropWhile engIsFlag) ≠ .next r := by
  have hstop : engT0 ('$' :: rest) ≠ .next r :=
    engT0_stuck '$' rest (by decide) (by decide) (by decide) (by decide) (by decide) (by decide) r
  induction ds with
  | nil =>
    have : (([] : Str) ++ '$' :: rest).dropWhile engIsFlag = '$' :: rest := by
      have : engIsFlag '$' = false := by decide
      simp [this]
    rw [this]; exact hstop
  | cons d ds ih =>
    have hd : d.isDigit = true := hds d (by simp)
    have hds' : ∀ x ∈ ds, x.isDigit = true := fun x hx => hds x (by simp [hx])
    by_cases hf : engIsFlag d = true
    · have : ((d :: ds) ++ '$' :: rest).dropWhile engIsFlag = (ds ++ '$' :: rest).dropWhile engIsFlag := by
        simp [hf]
      rw [this]; exact ih hds'
    · have : ((d :: ds) ++ '$' :: rest).dropWhile engIsFlag = d :: (ds ++ '$' :: rest) := by
        simp [hf]
      rw [this]
      have hw : engWidth (d :: (ds ++ '$' :: rest)) = '$' :: rest := by
        have := skipDigits_run (d :: ds) (by simpa using And.intro hd hds') '$' (by decide) rest
        simpa [engWidth, hd] using this
      have h0 : engT0 (d :: (ds ++ '$' :: rest)) = engT1 ('$' :: rest) := by simp [engT0, hw]
      have h1 : engT0 ('$' :: rest) = engT1 ('$' :: rest) := by
        have : engWidth ('$' :: rest) = '$' :: rest := by
          have h1 : ('$' : Char).isDigit = false := by decide
          simp [engWidth, h1]
        simp [engT0, this]
      rw [h0, ← h1]; exact hstop

theorem dropWhile_of_imp (p q : Char → Bool) (hpq : ∀ c, p c = true → q c = true) (l : Str) :
    l.dropWhile q = (l.dropWhile p).dropWhile q := by
  induction l with
  | nil => simp
  | cons a l ih =>
    by_cases hp : p a = true
    · simp [hp, hpq a hp, ih]
    · simp [hp]

theorem engFlag_libcFlag (c : Char) (h : engIsFlag c = true) : libcPIsFlag c = true := by
  simp [engIsFlag] at h
  simp [libcPIsFlag]
  rcases h with (((h | h) | h) | h) | h <;> simp [h]

theorem libcFlag_cases (c : Char) (h : libcPIsFlag c = true) (h' : engIsFlag c = false) : c = '\'' ∨ c = 'I' := by
  simp [libcPIsFlag] at h
  simp [engIsFlag] at h'
  obtain ⟨⟨⟨⟨h0, h1⟩, h2⟩, h3⟩, h4⟩ := h'
  rcases h with (((((h | h) | h) | h) | h) | h) | h
  · exact absurd h h1
  · exact absurd h h2
  · exact absurd h h3
  · exact absurd h h4
  · exact absurd h h0
  · exact Or.inl h
  · exact Or.inr h

theorem engDirective_sync (f r : Str) (h : engDirective f = .next r) : libcPDirective f = (false, r) := by
  rw [engDirective_eq] at h
  rw [libcPDirective_eq]
  cases hda : dollarArg f with
  | some f' =>
    obtain ⟨d, ds, hd, hds, rfl⟩ := dollarArg_some hda
    exact absurd h (engDirective_dollar (d :: ds) (by simpa using And.intro hd hds) f' r)
  | none =>
    simp only [Option.getD_none]
    rw [dropWhile_of_imp engIsFlag libcPIsFlag engFlag_libcFlag f]
    cases hg : f.dropWhile engIsFlag with
    | nil =>
      rw [hg] at h
      exact absurd h (engT0_nil r)
    | cons c t =>
      rw [hg] at h
      have hne : engIsFlag c = false := dropWhile_head_false _ _ _ _ hg
      by_cases hlf : libcPIsFlag c = true
      · exfalso
        rcases libcFlag_cases c hlf hne with rfl | rfl
        · exact engT0_stuck '\'' t (by decide) (by decide) (by decide) (by decide) (by decide) (by decide) r h
        · exact engT0_stuck 'I' t (by decide) (by decide) (by decide) (by decide) (by decide) (by decide) r h
      · have : (c :: t).dropWhile libcPIsFlag = c :: t := by simp [hlf]
        rw [this]
        exact sync0 _ _ h

theorem engLoop_rejects (k : Nat) : ∀ fmt : Str, printfNs k fmt ≠ [] → (engLoop k fmt).isSome = true := by
  induction k with
  | zero => intro fmt h; simp [printfNs] at h
  | succ k ih =>
    intro fmt h
    cases fmt with
    | nil => simp [printfNs] at h
    | cons c r =>
      by_cases hc : c = '%'
      · subst hc
        cases hd : engDirective r with
        | stop w => simp [engLoop, hd]
        | next r' =>
          have hl := engDirective_sync r r' hd
          simp only [printfNs, ne_eq, not_true_eq_false, if_false, hl] at h
          simp only [engLoop, ne_eq, not_true_eq_false, if_false, hd]
          exact ih r' h
      · simp only [printfNs, ne_eq, hc, not_false_eq_true, if_true] at h
        simp only [engLoop, ne_eq, hc, not_false_eq_true, if_true]
        exact ih r h

theorem ite_tail_suffix (t : Str) (c : Char) : (if t.head? = some c then t.tail else t) <:+ t := by
  split
  · exact List.tail_suffix t
  · exact List.suffix_refl t

theorem suffix_cons_of_suffix {a b : Str} (c : Char) (h : a <:+ b) : a <:+ c :: b :=
  h.trans (List.suffix_cons c b)

theorem libcPWidth_suffix (g : Str) : libcPWidth g <:+ g := by
  cases g with
  | nil => exact List.suffix_refl _
  | cons c t =>
    simp only [libcPWidth]
    split
    · exact suffix_cons_of_suffix c (dollarArg_getD_suffix t)
    · split
      · exact skipDigits_suffix _
      · exact List.suffix_refl _

theorem libcPPrec_suffix (g : Str) : libcPPrec g <:+ g := by
  cases g with
  | nil => exact List.suffix_refl _
  | cons c t =>
    simp only [libcPPrec]
    split
    · exact suffix_cons_of_suffix c (libcPWidth_suffix t)
    · exact List.suffix_refl _

theorem libcPLength_suffix (g : Str) : libcPLength g <:+ g := by
  cases g with
  | nil => exact List.suffix_refl _
  | cons c t =>
    simp only [libcPLength]
    split
    · exact suffix_cons_of_suffix c (ite_tail_suffix t c)
    · split
      · exact List.suffix_cons c t
      · exact List.suffix_refl _

theorem libT3_suffix (g : Str) : (libT3 g).2 <:+ g := by
  cases g with
  | nil => exact List.suffix_refl _
  | cons c t => exact List.suffix_cons c t

theorem libcPDirective_suffix (f : Str) : (libcPDirective f).2 <:+ f := by
  rw [libcPDirective_eq]
  unfold libT0 libT1 libT2
  exact (libT3_suffix _).trans <| (libcPLength_suffix _).trans <| (libcPPrec_suffix _).trans <|
    (libcPWidth_suffix _).trans <| (List.dropWhile_suffix _).trans (dollarArg_getD_suffix f)

theorem scanfFlagsWidth_suffix (f : Str) : (scanfFlagsWidth f).2 <:+ f :=
  (skipDigits_suffix _).trans (List.dropWhile_suffix _)

theorem scanfHead_suffix (f : Str) : (scanfHead f).2 <:+ f := by
  unfold scanfHead
  split
  · split
    · exact (scanfFlagsWidth_suffix _).trans ((List.tail_suffix _).trans (skipDigits_suffix f))
    · exact skipDigits_suffix f
  · exact scanfFlagsWidth_suffix f

theorem libcSLength_suffix (g : Str) : libcSLength g <:+ g := by
  cases g with
  | nil => exact List.suffix_refl _
  | cons c t =>
    simp only [libcSLength]
    split
    · exact suffix_cons_of_suffix c (ite_tail_suffix t c)
    · split
      · exact suffix_cons_of_suffix c (ite_tail_suffix t 'l')
      · split
        · exact List.suffix_cons c t
        · exact List.suffix_refl _

theorem scanset_suffix (f : Str) : scanset f <:+ f := by
  unfold scanset
  exact (List.tail_suffix _).trans <| (List.dropWhile_suffix _).trans <|
    (ite_tail_suffix _ ']').trans (ite_tail_suffix f '^')

theorem libcSDirective_suffix (f : Str) : (libcSDirective f).2 <:+ f := by
  unfold libcSDirective
  have h1 := (libcSLength_suffix (scanfHead f).2).trans (scanfHead_suffix f)
  cases hg : libcSLength (scanfHead f).2 with
  | nil => simp
  | cons c r =>
    rw [hg] at h1
    have hr : r <:+ f := (List.suffix_cons c r).trans h1
    simp only
    split
    · exact (scanset_suffix r).trans hr
    · exact hr

/-- the list of `n` conversions a libc grammar finds, over its directive parser `D` (`printfNs`, `scanfNs` are the instances) -/
def nsOf (D : Str → Bool × Str) : Nat → Str → List NSpell
  | 0, _ => []
  | _ + 1, [] => []
  | k + 1, c :: r =>
    if c ≠ '%' then nsOf D k r
    else match D r with
      | (true, r') => (if r.head? = some 'n' then NSpell.bare else NSpell.decorated) :: nsOf D k r'
      | (false, r') => nsOf D k r'

theorem printfNs_eq : printfNs = nsOf libcPDirective := by
  funext k fmt
  induction k generalizing fmt with
  | zero => rfl
  | succ k ih => cases fmt with
    | nil => rfl
    | cons c r =>
      simp only [printfNs, nsOf, ih]
      cases libcPDirective r with
      | mk b r' => cases b <;> rfl

theorem scanfNs_eq : scanfNs = nsOf libcSDirective := by
  funext k fmt
  induction k generalizing fmt with
  | zero => rfl
  | succ k ih => cases fmt with
    | nil => rfl
    | cons c r =>
      simp only [scanfNs, nsOf, ih]
      cases libcSDirective r with
      | mk b r' => cases b <;> rfl

theorem nsOf_bare_infix (D : Str → Bool × Str) (hD : ∀ r, (D r).2 <:+ r) (k : Nat) :
    ∀ fmt : Str, NSpell.bare ∈ nsOf D k fmt → ['%', 'n'] <:+: fmt := by
  induction k with
  | zero => intro fmt h; simp [nsOf] at h
  | succ k ih =>
    intro fmt h
    cases fmt with
    | nil => simp [nsOf] at h
    | cons c r =>
      by_cases hc : c = '%'
      · subst hc
        have hsuf := hD r
        cases hd : D r with
        | mk b r' =>
          rw [hd] at hsuf
          cases b with
          | true =>
            simp only [nsOf, ne_eq, not_true_eq_false, if_false, hd, List.mem_cons] at h
            rcases h with h | h
            · by_cases hh : r.head? = some 'n'
              · obtain ⟨t, rfl⟩ := List.head?_eq_some_iff.mp hh
                exact ⟨[], t, by simp⟩
              · simp [hh] at h
            · exact List.infix_cons ((ih r' h).trans hsuf.isInfix)
          | false =>
            simp only [nsOf, ne_eq, not_true_eq_false, if_false, hd] at h
            exact List.infix_cons ((ih r' h).trans hsuf.isInfix)
      · simp only [nsOf, ne_eq, hc, not_false_eq_true, if_true] at h
        exact List.infix_cons (ih r h)

theorem printfNs_bare_infix (k : Nat) : ∀ fmt : Str, NSpell.bare ∈ printfNs k fmt → ['%', 'n'] <:+: fmt := by
  rw [printfNs_eq]; exact nsOf_bare_infix _ libcPDirective_suffix k

theorem scanfNs_bare_infix (k : Nat) : ∀ fmt : Str, NSpell.bare ∈ scanfNs k fmt → ['%', 'n'] <:+: fmt := by
  rw [scanfNs_eq]; exact nsOf_bare_infix _ libcSDirective_suffix k

namespace Gram

/-- the pre-scan of a format that stands behind the character `p` -/
def look (p : Char) (fmt : Str) : Bool :=
  match strstrPctN fmt with
  | none => false
  | some i => (p :: fmt).getD i '\x00' != '%'

theorem prescan_eq_look (fmt : Str) {p : Char} (hp : p ≠ '%') : prescan fmt = look p fmt := by
  unfold prescan look
  cases strstrPctN fmt with
  | none => rfl
  | some i =>
    cases i with
    | zero => simp [hp]
    | succ j => simp

theorem look_pct_n (p : Char) (r : Str) : look p ('%' :: 'n' :: r) = (p != '%') := by
  simp [look, strstrPctN]

theorem look_step (p c : Char) (r : Str) (h : ¬ (c = '%' ∧ r.head? = some 'n')) : look p (c :: r) = look c r := by
  unfold look
  rw [strstrPctN, if_neg h]
  cases strstrPctN r with
  | none => rfl
  | some i => simp

theorem look_of_infix : ∀ (fmt : Str) (p : Char), ['%', 'n'] <:+: fmt → ¬ ['%', '%', 'n'] <:+: p :: fmt → look p fmt = true := by
  intro fmt
  induction fmt with
  | nil => intro p h; have := h.length_le; simp at this
  | cons c r ih =>
    intro p h hesc
    by_cases hs : c = '%' ∧ r.head? = some 'n'
    · obtain ⟨rfl, hn⟩ := hs
      obtain ⟨t, rfl⟩ := List.head?_eq_some_iff.mp hn
      rw [look_pct_n]
      have : p ≠ '%' := fun e => hesc ⟨[], t, by simp [e]⟩
      simpa using this
    · rw [look_step p c r hs]
      refine ih c ?_ (fun h' => hesc (h'.trans (List.suffix_cons p _).isInfix))
      rcases List.infix_cons_iff.mp h with hp | hi
      · exfalso; apply hs
        obtain ⟨t, ht⟩ := hp
        simp only [List.cons_append, List.nil_append, List.cons.injEq] at ht
        exact ⟨ht.1.symm, by rw [← ht.2]; rfl⟩
      · exact hi

end Gram

theorem prescan_false_no_pctn {fmt : Str} (hps : prescan fmt = false) (hesc : ¬ ['%', '%', 'n'] <:+: fmt) :
    ¬ ['%', 'n'] <:+: fmt := by
  intro h
  rw [Gram.prescan_eq_look fmt (p := 'x') (by decide), Gram.look_of_infix fmt 'x' h] at hps
  · cases hps
  · intro h'
    rcases List.infix_cons_iff.mp h' with hp | hi
    · obtain ⟨t, ht⟩ := hp; simp at ht
    · exact hesc hi

/-- `ns` stands for the `n` conversions either libc grammar finds in `fmt`. -/
theorem no_n_of_prescan {fmt : Str} {ns : List NSpell} (hdec : NSpell.decorated ∉ ns)
    (hinf : NSpell.bare ∈ ns → ['%', 'n'] <:+: fmt) (hesc : ¬ ['%', '%', 'n'] <:+: fmt) (hps : prescan fmt = false) :
    (!ns.isEmpty) = false := by
  cases ns with
  | nil => rfl
  | cons x xs =>
    cases x with
    | bare => exact absurd (hinf List.mem_cons_self) (prescan_false_no_pctn hps hesc)
    | decorated => exact absurd List.mem_cons_self hdec

def noPctPctN : Str → Bool
  | [] => true
  | c :: r => !(c == '%' && r.head? == some '%' && r.tail.head? == some 'n') && noPctPctN r

theorem noPctPctN_sound {fmt : Str} (h : noPctPctN fmt = true) : ¬ ['%', '%', 'n'] <:+: fmt := by
  induction fmt with
  | nil => intro hi; have := hi.length_le; simp at this
  | cons c r ih =>
    simp only [noPctPctN, Bool.and_eq_true, Bool.not_eq_true'] at h
    obtain ⟨h1, h2⟩ := h
    intro hi
    rcases List.infix_cons_iff.mp hi with hp | hi'
    · obtain ⟨t, ht⟩ := hp
      have hc : c = '%' := by
        have := congrArg List.head? ht; simp at this; exact this.symm
      have hr : r = '%' :: 'n' :: t := by
        have := congrArg List.tail ht; simp at this; exact this.symm
      subst hc; subst hr
      simp at h1
    · exact ih h2 hi'

theorem fuel_surplus {α : Type} (f : Nat → Str → α) (h : ∀ k fmt, fmt.length ≤ k → f (k + 1) fmt = f k fmt) (fmt : Str)
    (d : Nat) : f (fmt.length + d) fmt = f fmt.length fmt := by
  induction d with
  | zero => rfl
  | succ d ih => rw [← Nat.add_assoc, h _ _ (Nat.le_add_right _ _), ih]

theorem nsOf_fuel (D : Str → Bool × Str) (hD : ∀ r, (D r).2 <:+ r) (k : Nat) :
    ∀ fmt : Str, fmt.length ≤ k → nsOf D (k + 1) fmt = nsOf D k fmt := by
  induction k with
  | zero =>
    intro fmt h
    have : fmt = [] := List.length_eq_zero_iff.mp (Nat.le_zero.mp h)
    subst this; rfl
  | succ k ih =>
    intro fmt h
    cases fmt with
    | nil => rfl
    | cons c r =>
      have hr : r.length ≤ k := by simpa using h
      have hsuf := (hD r).length_le
      by_cases hc : c = '%'
      · subst hc
        cases hd : D r with
        | mk b r' =>
          rw [hd] at hsuf
          have := ih r' (Nat.le_trans hsuf hr)
          cases b <;> simp only [nsOf, ne_eq, not_true_eq_false, if_false, hd, this]
      · simp only [nsOf, ne_eq, hc, not_false_eq_true, if_true, ih r hr]

theorem printfNs_fuel (k : Nat) : ∀ fmt : Str, fmt.length ≤ k → printfNs (k + 1) fmt = printfNs k fmt := by
  rw [printfNs_eq]; exact nsOf_fuel _ libcPDirective_suffix k

theorem scanfNs_fuel (k : Nat) : ∀ fmt : Str, fmt.length ≤ k → scanfNs (k + 1) fmt = scanfNs k fmt := by
  rw [scanfNs_eq]; exact nsOf_fuel _ libcSDirective_suffix k

theorem engDirective_suffix {f r : Str} (h : engDirective f = .next r) : r <:+ f := by
  have hs := libcPDirective_suffix f
  rw [engDirective_sync f r h] at hs
  exact hs

theorem engLoop_fuel (k : Nat) : ∀ fmt : Str, fmt.length ≤ k → engLoop (k + 1) fmt = engLoop k fmt := by
  induction k with
  | zero =>
    intro fmt h
    have : fmt = [] := List.length_eq_zero_iff.mp (Nat.le_zero.mp h)
    subst this; rfl
  | succ k ih =>
    intro fmt h
    cases fmt with
    | nil => rfl
    | cons c r =>
      have hr : r.length ≤ k := by simpa using h
      by_cases hc : c = '%'
      · subst hc
        cases hd : engDirective r with
        | stop w => simp only [engLoop, ne_eq, not_true_eq_false, if_false, hd]
        | next r' =>
          have := ih r' (Nat.le_trans (engDirective_suffix hd).length_le hr)
          simp only [engLoop, ne_eq, not_true_eq_false, if_false, hd, this]
      · simp only [engLoop, ne_eq, hc, not_false_eq_true, if_true, ih r hr]

end SafeC.Fmt
