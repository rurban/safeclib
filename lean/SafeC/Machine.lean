/-!
# The guarded-memory machine

Programs are data (`Prog`): a CPS free monad over `load`, `store` and `emit`.
Memory is cell-addressed (`Nat → Nat`); a cell is a `char`, a 16/32-bit element or a
`wchar_t` depending on the function that is modelled (the function model truncates what it
stores, the driver builds the memory with the element width of each region).

`exec` is the big-step interpreter used by the compiled driver and by the theorems:

* touching a cell that is not `mapped` is a `Fault` (the harness sees `SIGSEGV`);
* touching a mapped cell the caller did not declare (`rd` / `wr`) is performed and recorded in
  `strays` (on real hardware the access lands in slack and goes unnoticed);
* `emit` appends an event (constraint-handler invocations, `branch` decisions for C19).

Core Lean only: this file is linked into the `safec_model` executable.
-/
namespace SafeC

inductive Fault where
  | read (a : Nat)
  | write (a : Nat)
  deriving Repr, DecidableEq, Inhabited

inductive Kind where
  | str | mem
  deriving Repr, DecidableEq, Inhabited

inductive Event where
  | handler (kind : Kind) (code : Nat)
  | branch (b : Bool)
  deriving Repr, DecidableEq, Inhabited

inductive Access where
  | rd (a : Nat)
  | wr (a : Nat)
  deriving Repr, DecidableEq, Inhabited

def Access.isWrite : Access → Bool
  | .wr _ => true
  | .rd _ => false

def Access.isRead : Access → Bool
  | .rd _ => true
  | .wr _ => false

structure St where
  data : Nat → Nat
  mapped : Nat → Bool
  rd : Nat → Bool
  wr : Nat → Bool
  events : List Event := []
  strays : List Access := []

inductive Prog (α : Type) : Type where
  | ret : α → Prog α
  | load : Nat → (Nat → Prog α) → Prog α
  | store : Nat → Nat → Prog α → Prog α
  | emit : Event → Prog α → Prog α

namespace Prog

def bind : Prog α → (α → Prog β) → Prog β
  | .ret x, f => f x
  | .load a k, f => .load a (fun v => (k v).bind f)
  | .store a v k, f => .store a v (k.bind f)
  | .emit e k, f => .emit e (k.bind f)

instance : Monad Prog where
  pure := .ret
  bind := Prog.bind

end Prog

def load (a : Nat) : Prog Nat := .load a .ret
def store (a : Nat) (v : Nat) : Prog Unit := .store a v (.ret ())
def emit (e : Event) : Prog Unit := .emit e (.ret ())

def St.upd (s : St) (a : Nat) (v : Nat) : St :=
  { s with data := fun x => if x = a then v else s.data x }

def St.stray (s : St) (x : Access) : St :=
  { s with strays := s.strays ++ [x] }

def St.noteRd (s : St) (a : Nat) : St := if s.rd a then s else s.stray (.rd a)
def St.noteWr (s : St) (a : Nat) : St := if s.wr a then s else s.stray (.wr a)

def exec : Prog α → St → Except Fault (α × St)
  | .ret x, s => .ok (x, s)
  | .load a k, s =>
    if s.mapped a then exec (k (s.data a)) (s.noteRd a) else .error (.read a)
  | .store a v k, s =>
    if s.mapped a then exec k ((s.noteWr a).upd a v) else .error (.write a)
  | .emit e k, s => exec k { s with events := s.events ++ [e] }

/-! ## basic laws -/

theorem exec_bind (p : Prog α) (f : α → Prog β) (s : St) :
    exec (p >>= f) s = match exec p s with
      | .ok (a, s') => exec (f a) s'
      | .error e => .error e := by
  show exec (p.bind f) s = _
  induction p generalizing s with
  | ret x => simp [Prog.bind, exec]
  | load a k ih =>
    simp only [Prog.bind, exec]
    split
    · exact ih _ _
    · rfl
  | store a v k ih =>
    simp only [Prog.bind, exec]
    split
    · exact ih _
    · rfl
  | emit e k ih =>
    simp only [Prog.bind, exec]
    exact ih _

theorem Prog.bind_assoc {α β γ} (p : Prog α) (f : α → Prog β) (g : β → Prog γ) :
    (p >>= f) >>= g = p >>= fun x => f x >>= g := by
  show (p.bind f).bind g = p.bind (fun x => (f x).bind g)
  induction p with
  | ret x => rfl
  | load a k ih => simp only [Prog.bind]; congr 1; funext v; exact ih v
  | store a v k ih => simp only [Prog.bind]; congr 1
  | emit e k ih => simp only [Prog.bind]; congr 1

@[simp] theorem exec_pure (x : α) (s : St) : exec (pure x : Prog α) s = .ok (x, s) := rfl
@[simp] theorem exec_ret (x : α) (s : St) : exec (Prog.ret x) s = .ok (x, s) := rfl

theorem exec_load (a : Nat) (s : St) :
    exec (load a) s = if s.mapped a then .ok (s.data a, s.noteRd a) else .error (.read a) := by
  simp [load, exec]

theorem exec_store (a v : Nat) (s : St) :
    exec (store a v) s = if s.mapped a then .ok ((), (s.noteWr a).upd a v) else .error (.write a) := by
  simp [store, exec]

@[simp] theorem exec_emit (e : Event) (s : St) :
    exec (emit e) s = .ok ((), { s with events := s.events ++ [e] }) := by
  simp [emit, exec]

/-- a declared, mapped load leaves the state alone -/
@[simp] theorem exec_load_ok (a : Nat) (s : St) (hm : s.mapped a = true) (hr : s.rd a = true) :
    exec (load a) s = .ok (s.data a, s) := by
  simp [exec_load, hm, St.noteRd, hr]

/-- a declared, mapped store is a plain update -/
@[simp] theorem exec_store_ok (a v : Nat) (s : St) (hm : s.mapped a = true) (hw : s.wr a = true) :
    exec (store a v) s = .ok ((), s.upd a v) := by
  simp [exec_store, hm, St.noteWr, hw]

@[simp] theorem St.upd_mapped (s : St) (a v : Nat) : (s.upd a v).mapped = s.mapped := rfl
@[simp] theorem St.upd_rd (s : St) (a v : Nat) : (s.upd a v).rd = s.rd := rfl
@[simp] theorem St.upd_wr (s : St) (a v : Nat) : (s.upd a v).wr = s.wr := rfl
@[simp] theorem St.upd_events (s : St) (a v : Nat) : (s.upd a v).events = s.events := rfl
@[simp] theorem St.upd_strays (s : St) (a v : Nat) : (s.upd a v).strays = s.strays := rfl
theorem St.upd_data (s : St) (a v x : Nat) :
    (s.upd a v).data x = if x = a then v else s.data x := rfl
@[simp] theorem St.upd_data_same (s : St) (a v : Nat) : (s.upd a v).data a = v := by
  simp [St.upd]
theorem St.upd_data_ne (s : St) (a v x : Nat) (h : x ≠ a) : (s.upd a v).data x = s.data x := by
  simp [St.upd, h]

/-- recording an access changes only `strays` -/
@[simp] theorem St.noteRd_data (s : St) (a : Nat) : (s.noteRd a).data = s.data := by unfold St.noteRd; split <;> rfl
@[simp] theorem St.noteRd_mapped (s : St) (a : Nat) : (s.noteRd a).mapped = s.mapped := by unfold St.noteRd; split <;> rfl
@[simp] theorem St.noteRd_rd (s : St) (a : Nat) : (s.noteRd a).rd = s.rd := by unfold St.noteRd; split <;> rfl
@[simp] theorem St.noteRd_wr (s : St) (a : Nat) : (s.noteRd a).wr = s.wr := by unfold St.noteRd; split <;> rfl
@[simp] theorem St.noteRd_events (s : St) (a : Nat) : (s.noteRd a).events = s.events := by unfold St.noteRd; split <;> rfl
@[simp] theorem St.noteWr_data (s : St) (a : Nat) : (s.noteWr a).data = s.data := by unfold St.noteWr; split <;> rfl
@[simp] theorem St.noteWr_mapped (s : St) (a : Nat) : (s.noteWr a).mapped = s.mapped := by unfold St.noteWr; split <;> rfl
@[simp] theorem St.noteWr_rd (s : St) (a : Nat) : (s.noteWr a).rd = s.rd := by unfold St.noteWr; split <;> rfl
@[simp] theorem St.noteWr_wr (s : St) (a : Nat) : (s.noteWr a).wr = s.wr := by unfold St.noteWr; split <;> rfl
@[simp] theorem St.noteWr_events (s : St) (a : Nat) : (s.noteWr a).events = s.events := by unfold St.noteWr; split <;> rfl

theorem St.noteRd_of_rd {s : St} {a : Nat} (h : s.rd a = true) : s.noteRd a = s := by simp [St.noteRd, h]
theorem St.noteWr_of_wr {s : St} {a : Nat} (h : s.wr a = true) : s.noteWr a = s := by simp [St.noteWr, h]

theorem St.noteRd_strays (s : St) (a : Nat) :
    (s.noteRd a).strays = s.strays ++ if s.rd a then [] else [.rd a] := by
  unfold St.noteRd; split <;> simp [St.stray]
theorem St.noteWr_strays (s : St) (a : Nat) :
    (s.noteWr a).strays = s.strays ++ if s.wr a then [] else [.wr a] := by
  unfold St.noteWr; split <;> simp [St.stray]

/-! ## generic meta-theorems, by induction on `Prog` -/

/-- permissions and the mapping never change -/
theorem exec_perm (p : Prog α) (s : St) {r : α} {s' : St} (h : exec p s = .ok (r, s')) :
    s'.mapped = s.mapped ∧ s'.rd = s.rd ∧ s'.wr = s.wr := by
  induction p generalizing s with
  | ret x => cases h; exact ⟨rfl, rfl, rfl⟩
  | load a k ih =>
    simp only [exec] at h
    split at h
    · simpa using ih _ _ h
    · cases h
  | store a v k ih =>
    simp only [exec] at h
    split at h
    · simpa using ih _ h
    · cases h
  | emit e k ih => exact ih { s with events := s.events ++ [e] } h

/-- strays only grow -/
theorem exec_strays_mono (p : Prog α) (s : St) {r : α} {s' : St} (h : exec p s = .ok (r, s')) :
    ∃ extra, s'.strays = s.strays ++ extra := by
  induction p generalizing s with
  | ret x => cases h; exact ⟨[], by simp⟩
  | load a k ih =>
    simp only [exec] at h
    split at h
    · obtain ⟨e, he⟩ := ih _ _ h
      exact ⟨_, by rw [he, St.noteRd_strays, List.append_assoc]⟩
    · cases h
  | store a v k ih =>
    simp only [exec] at h
    split at h
    · obtain ⟨e, he⟩ := ih _ h
      exact ⟨_, by rw [he, St.upd_strays, St.noteWr_strays, List.append_assoc]⟩
    · cases h
  | emit e k ih => exact ih { s with events := s.events ++ [e] } h

/-- events only grow -/
theorem exec_events_mono (p : Prog α) (s : St) {r : α} {s' : St} (h : exec p s = .ok (r, s')) :
    ∃ extra, s'.events = s.events ++ extra := by
  induction p generalizing s with
  | ret x => cases h; exact ⟨[], by simp⟩
  | load a k ih =>
    simp only [exec] at h
    split at h
    · simpa using ih _ _ h
    · cases h
  | store a v k ih =>
    simp only [exec] at h
    split at h
    · simpa using ih _ h
    · cases h
  | emit e k ih =>
    obtain ⟨x, hx⟩ := ih { s with events := s.events ++ [e] } h
    exact ⟨e :: x, by simpa using hx⟩

/-- **Frame lemma.** A run whose newly recorded strays contain no *write* leaves every cell
the caller did not declare writable exactly as it was. -/
theorem exec_frame (p : Prog α) (s : St) {r : α} {s' : St} (h : exec p s = .ok (r, s'))
    (extra : List Access) (he : s'.strays = s.strays ++ extra)
    (hs : ∀ x ∈ extra, x.isWrite = false) :
    ∀ a, s.wr a = false → s'.data a = s.data a := by
  induction p generalizing s extra with
  | ret x => cases h; intro a _; rfl
  | load a k ih =>
    simp only [exec] at h
    split at h
    · intro x hx
      obtain ⟨ex, hex⟩ := exec_strays_mono _ _ h
      -- `extra` is the note of this load followed by what the continuation adds
      have hee : extra = (if s.rd a then [] else [.rd a]) ++ ex :=
        List.append_cancel_left (by rw [← he, hex, St.noteRd_strays, List.append_assoc])
      have := ih _ _ h ex hex (fun y hy => hs y (by rw [hee]; exact List.mem_append_right _ hy)) x (by simpa using hx)
      simpa using this
    · cases h
  | store a v k ih =>
    simp only [exec] at h
    split at h
    · intro x hx
      obtain ⟨ex, hex⟩ := exec_strays_mono _ _ h
      have hee : extra = (if s.wr a then [] else [.wr a]) ++ ex :=
        List.append_cancel_left (by rw [← he, hex, St.upd_strays, St.noteWr_strays, List.append_assoc])
      -- an undeclared store would be a stray write among `extra`
      have hw : s.wr a = true := by
        cases hw : s.wr a with
        | true => rfl
        | false => simpa [Access.isWrite] using hs (.wr a) (by rw [hee, hw]; simp)
      have := ih _ h ex hex (fun y hy => hs y (by rw [hee]; exact List.mem_append_right _ hy)) x (by simpa using hx)
      have hxa : x ≠ a := by rintro rfl; rw [hw] at hx; cases hx
      rw [this, St.upd_data_ne _ _ _ _ hxa, St.noteWr_data]
    · cases h
  | emit e k ih => exact ih { s with events := s.events ++ [e] } h extra he hs

theorem exec_frame_clean (p : Prog α) (s : St) {r : α} {s' : St} (h : exec p s = .ok (r, s'))
    (h0 : s.strays = []) (h1 : s'.strays = []) :
    ∀ a, s.wr a = false → s'.data a = s.data a :=
  exec_frame p s h [] (by simp [h0, h1]) (by simp)

end SafeC
