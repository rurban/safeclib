import SafeC.Proofs.Query
/-!
# Specs of the standard counterparts of the query functions (C10)

Plain structurally recursive functions over the memory contents `d : Nat → Nat` restricted to the
declared extents (`p` = first cell, `n` = number of cells), in the style of `scanLen`, `firstIdx`,
`lastIdx`, `firstDiff`, `inSet`, `spanLen`, `stopIdx` of `SafeC/Proofs/Query.lean` (imported for those):
`subAt`, `findSub`, `firstIn`, `stopIdxF`, `pairFirst` / `pairLast` / `pairLen`, `allCells`, `countCells`,
and the extent as a list (`cells`, `cstr`).  What a function means in first-order terms is said by its
`…_iff` / `…_spec` lemma or its `…_some` / `…_none` pair.  No model, no `Prog` here.
-/
namespace SafeC

/-! ## substring search (`strstr`, `strcasestr`, `wcsstr`, `strprefix`) -/

/-- the `m` cells at `p` equal the `m` cells at `q`, both folded with `f`
(`f = id`: exact; `f = toUpperC`: ignoring case in the C locale) -/
def subAt (f : Nat → Nat) (d : Nat → Nat) (p q : Nat) : Nat → Bool
  | 0 => true
  | m+1 => f (d p) == f (d q) && subAt f d (p+1) (q+1) m

theorem subAt_iff (f : Nat → Nat) (d : Nat → Nat) (p q m : Nat) :
    subAt f d p q m = true ↔ ∀ j, j < m → f (d (p+j)) = f (d (q+j)) := by
  induction m generalizing p q with
  | zero => simp [subAt]
  | succ m ih =>
    simp only [subAt, Bool.and_eq_true, beq_iff_eq, ih]
    constructor
    · rintro ⟨h0, h1⟩ j hj
      cases j with
      | zero => simpa using h0
      | succ j => have := h1 j (by omega); simpa [Nat.add_assoc, Nat.add_comm 1 j] using this
    · intro h
      refine ⟨by simpa using h 0 (by omega), fun j hj => ?_⟩
      have := h (j+1) (by omega); simpa [Nat.add_assoc, Nat.add_comm 1 j] using this

/-- `strstr` restricted to the first `n` cells of the string at `p`: offset of the first occurrence
of the needle (the `m` cells at `q`) that lies entirely inside the `n` cells; the search ends at the
haystack's terminator.  (A needle of `m ≥ 1` non-zero cells cannot match across the terminator.) -/
def findSub (f : Nat → Nat) (d : Nat → Nat) (q m : Nat) (p : Nat) : Nat → Option Nat
  | 0 => none
  | n+1 =>
    if m ≤ n+1 ∧ subAt f d p q m = true then some 0
    else if d p = 0 then none
    else (findSub f d q m (p+1) n).map (· + 1)

theorem findSub_some (f : Nat → Nat) (d : Nat → Nat) (q m p n i : Nat) (h : findSub f d q m p n = some i) :
    i + m ≤ n ∧ subAt f d (p+i) q m = true ∧
    ∀ k, k < i → d (p+k) ≠ 0 ∧ subAt f d (p+k) q m = false := by
  induction n generalizing p i with
  | zero => simp [findSub] at h
  | succ n ih =>
    simp only [findSub] at h
    split at h
    · rename_i hm
      cases h
      exact ⟨by omega, by simpa using hm.2, fun k hk => by omega⟩
    · rename_i hm
      split at h
      · cases h
      · rename_i h0
        obtain ⟨k, hf, rfl⟩ := Option.map_eq_some_iff.mp h
        obtain ⟨h1, h2, h3⟩ := ih (p+1) k hf
        refine ⟨by omega, by simpa [Nat.add_assoc, Nat.add_comm 1 k] using h2, ?_⟩
        intro j hj
        cases j with
        | zero =>
          refine ⟨by simpa using h0, ?_⟩
          have : ¬ subAt f d p q m = true := fun hs => hm ⟨by omega, hs⟩
          simpa using this
        | succ j => have := h3 j (by omega); simpa [Nat.add_assoc, Nat.add_comm 1 j] using this

theorem findSub_none (f : Nat → Nat) (d : Nat → Nat) (q m p n : Nat) (h : findSub f d q m p n = none) :
    ∀ i, i + m ≤ n → i < n → (∀ k, k < i → d (p+k) ≠ 0) → subAt f d (p+i) q m = false := by
  induction n generalizing p with
  | zero => intro i _ hi; omega
  | succ n ih =>
    simp only [findSub] at h
    split at h
    · cases h
    · rename_i hm
      intro i hi hin hnz
      cases i with
      | zero =>
        have : ¬ subAt f d p q m = true := fun hs => hm ⟨by omega, hs⟩
        simpa using this
      | succ i =>
        split at h
        · rename_i h0
          exact absurd (by simpa using h0) (hnz 0 (by omega))
        · have hf : findSub f d q m (p+1) n = none := by
            cases hf : findSub f d q m (p+1) n with
            | none => rfl
            | some k => simp [hf] at h
          have := ih (p+1) hf i (by omega) (by omega) (fun k hk => by
            have := hnz (k+1) (by omega); simpa [Nat.add_assoc, Nat.add_comm 1 k] using this)
          simpa [Nat.add_assoc, Nat.add_comm 1 i] using this

theorem findSub_short (f : Nat → Nat) (d : Nat → Nat) (q m p n : Nat) (h : n < m) :
    findSub f d q m p n = none := by
  induction n generalizing p with
  | zero => rfl
  | succ n ih =>
    simp only [findSub]
    have : ¬ (m ≤ n+1 ∧ subAt f d p q m = true) := fun hh => by omega
    simp only [this, if_false]
    split
    · rfl
    · rw [ih (p+1) (by omega)]; rfl

/-- `strpbrk` restricted to the first `n` cells of the string at `p`: offset of the first character
that is in the set (the string at `src`, at most `slen` characters) -/
def firstIn (d : Nat → Nat) (src slen : Nat) (p : Nat) : Nat → Option Nat
  | 0 => none
  | n+1 =>
    if d p = 0 then none
    else if inSet d (d p) src slen = true then some 0
    else (firstIn d src slen (p+1) n).map (· + 1)

theorem firstIn_eq_leastO (d : Nat → Nat) (src slen p n : Nat) :
    firstIn d src slen p n = leastO (fun i => inSet d (d (p+i)) src slen) (scanLen d p n) := by
  induction n generalizing p with
  | zero => rfl
  | succ n ih =>
    simp only [firstIn, scanLen]
    by_cases h0 : d p = 0
    · simp only [h0, if_true, leastO_zero]
    · simp only [h0, if_false, Nat.add_comm 1, leastO_succ, Nat.add_zero, ih (p+1), Nat.add_assoc]

/-! ## case-insensitive / folded comparison (`strcasecmp`) -/

/-- where a comparison folded with `f` stops among the first `n` positions: the first index at
which either string ends or the folded characters differ (`n` if there is none) -/
def stopIdxF (f : Nat → Nat) (d : Nat → Nat) (p q : Nat) : Nat → Nat
  | 0 => 0
  | n+1 => if d p = 0 ∨ d q = 0 ∨ f (d p) ≠ f (d q) then 0 else 1 + stopIdxF f d (p+1) (q+1) n

theorem stopIdxF_spec (f : Nat → Nat) (d : Nat → Nat) (p q n : Nat) :
    stopIdxF f d p q n ≤ n ∧
    (∀ j, j < stopIdxF f d p q n → d (p+j) ≠ 0 ∧ d (q+j) ≠ 0 ∧ f (d (p+j)) = f (d (q+j))) ∧
    (stopIdxF f d p q n < n →
      d (p + stopIdxF f d p q n) = 0 ∨ d (q + stopIdxF f d p q n) = 0 ∨
      f (d (p + stopIdxF f d p q n)) ≠ f (d (q + stopIdxF f d p q n))) := by
  induction n generalizing p q with
  | zero => simp [stopIdxF]
  | succ n ih =>
    obtain ⟨i1, i2, i3⟩ := ih (p+1) (q+1)
    simp only [stopIdxF]
    by_cases hc : d p = 0 ∨ d q = 0 ∨ f (d p) ≠ f (d q)
    · simp only [hc, if_true]
      exact ⟨by omega, fun j hj => by omega, fun _ => by simpa using hc⟩
    · simp only [hc, if_false]
      have hc' : d p ≠ 0 ∧ d q ≠ 0 ∧ f (d p) = f (d q) := by
        refine ⟨fun h => hc (Or.inl h), fun h => hc (Or.inr (Or.inl h)), ?_⟩
        apply Classical.byContradiction; intro h; exact hc (Or.inr (Or.inr h))
      refine ⟨by omega, ?_, ?_⟩
      · intro j hj
        cases j with
        | zero => exact ⟨by simpa using hc'.1, by simpa using hc'.2.1, by simpa using hc'.2.2⟩
        | succ j => have := i2 j (by omega); simpa [Nat.add_assoc, Nat.add_comm 1 j] using this
      · intro hlt
        have := i3 (by omega)
        simpa [Nat.add_assoc, Nat.add_comm 1] using this

theorem stopIdx_eq_F (d : Nat → Nat) (p q n : Nat) : stopIdx d p q n = stopIdxF id d p q n := by
  induction n generalizing p q with
  | zero => rfl
  | succ n ih => simp only [stopIdx, stopIdxF, id, ih]

theorem stopIdx_spec (d : Nat → Nat) (p q n : Nat) :
    stopIdx d p q n ≤ n ∧
    (∀ j, j < stopIdx d p q n → d (p+j) ≠ 0 ∧ d (p+j) = d (q+j)) ∧
    (stopIdx d p q n < n →
      d (p + stopIdx d p q n) = 0 ∨ d (q + stopIdx d p q n) = 0 ∨ d (p + stopIdx d p q n) ≠ d (q + stopIdx d p q n)) := by
  obtain ⟨h1, h2, h3⟩ := stopIdxF_spec id d p q n
  rw [← stopIdx_eq_F] at h1 h2 h3
  exact ⟨h1, fun j hj => ⟨(h2 j hj).1, (h2 j hj).2.2⟩, h3⟩

/-! ## first / last index where two strings agree or differ -/

/-- `strfirstsame` (`same = true`) / `strfirstdiff` (`same = false`) over the first `n` positions:
the first index, before either string ends, at which the two characters are equal / different -/
def pairFirst (same : Bool) (d : Nat → Nat) (p q : Nat) : Nat → Option Nat
  | 0 => none
  | n+1 =>
    if d p = 0 ∨ d q = 0 then none
    else if (d p == d q) = same then some 0
    else (pairFirst same d (p+1) (q+1) n).map (· + 1)

/-- `strlastsame` / `strlastdiff`: the last such index -/
def pairLast (same : Bool) (d : Nat → Nat) (p q : Nat) : Nat → Option Nat
  | 0 => none
  | n+1 =>
    if d p = 0 ∨ d q = 0 then none
    else match pairLast same d (p+1) (q+1) n with
      | some i => some (i+1)
      | none => if (d p == d q) = same then some 0 else none

/-- number of positions, among the first `n`, before either string ends -/
def pairLen (d : Nat → Nat) (p q : Nat) : Nat → Nat
  | 0 => 0
  | n+1 => if d p = 0 ∨ d q = 0 then 0 else 1 + pairLen d (p+1) (q+1) n

theorem pairLen_spec (d : Nat → Nat) (p q n : Nat) :
    pairLen d p q n ≤ n ∧ (∀ j, j < pairLen d p q n → d (p+j) ≠ 0 ∧ d (q+j) ≠ 0) ∧
    (pairLen d p q n < n → d (p + pairLen d p q n) = 0 ∨ d (q + pairLen d p q n) = 0) := by
  induction n generalizing p q with
  | zero => simp [pairLen]
  | succ n ih =>
    obtain ⟨i1, i2, i3⟩ := ih (p+1) (q+1)
    simp only [pairLen]
    by_cases hc : d p = 0 ∨ d q = 0
    · simp only [hc, if_true]
      exact ⟨by omega, fun j hj => by omega, fun _ => by simpa using hc⟩
    · simp only [hc, if_false]
      have hc' : d p ≠ 0 ∧ d q ≠ 0 := ⟨fun h => hc (Or.inl h), fun h => hc (Or.inr h)⟩
      refine ⟨by omega, ?_, ?_⟩
      · intro j hj
        cases j with
        | zero => simpa using hc'
        | succ j => have := i2 j (by omega); simpa [Nat.add_assoc, Nat.add_comm 1 j] using this
      · intro hlt
        have := i3 (by omega)
        simpa [Nat.add_assoc, Nat.add_comm 1] using this

theorem pairFirst_eq_leastO (same : Bool) (d : Nat → Nat) (p q n : Nat) :
    pairFirst same d p q n = leastO (fun i => (d (p+i) == d (q+i)) == same) (pairLen d p q n) := by
  induction n generalizing p q with
  | zero => rfl
  | succ n ih =>
    simp only [pairFirst, pairLen]
    by_cases h0 : d p = 0 ∨ d q = 0
    · simp only [h0, if_true, leastO_zero]
    · simp only [h0, if_false, Nat.add_comm 1, leastO_succ, Nat.add_zero, ih (p+1) (q+1), Nat.add_assoc, beq_iff_eq]

theorem pairLast_none (same : Bool) (d : Nat → Nat) (p q n : Nat) (h : pairLast same d p q n = none) :
    ∀ k, k < pairLen d p q n → (d (p+k) == d (q+k)) = !same := by
  induction n generalizing p q with
  | zero => intro k hk; simp [pairLen] at hk
  | succ n ih =>
    simp only [pairLast] at h
    simp only [pairLen]
    split at h
    · rename_i h0; simp [h0]
    · rename_i h0
      simp only [h0, if_false]
      split at h
      · cases h
      · rename_i hf
        split at h
        · cases h
        · rename_i hs
          intro k hk
          cases k with
          | zero => cases same <;> cases hb : (d p == d q) <;> simp_all
          | succ k => have := ih (p+1) (q+1) hf k (by omega); simpa [Nat.add_assoc, Nat.add_comm 1 k] using this

theorem pairLast_some (same : Bool) (d : Nat → Nat) (p q n i : Nat) (h : pairLast same d p q n = some i) :
    i < pairLen d p q n ∧ (d (p+i) == d (q+i)) = same ∧
    ∀ k, i < k → k < pairLen d p q n → (d (p+k) == d (q+k)) = !same := by
  induction n generalizing p q i with
  | zero => simp [pairLast] at h
  | succ n ih =>
    simp only [pairLast] at h
    simp only [pairLen]
    split at h
    · cases h
    · rename_i h0
      simp only [h0, if_false]
      split at h
      · rename_i k hf
        cases h
        obtain ⟨h1, h2, h3⟩ := ih (p+1) (q+1) k hf
        refine ⟨by omega, by simpa [Nat.add_assoc, Nat.add_comm 1 k] using h2, ?_⟩
        intro j hj1 hj2
        cases j with
        | zero => omega
        | succ j => have := h3 j (by omega) (by omega); simpa [Nat.add_assoc, Nat.add_comm 1 j] using this
      · rename_i hf
        split at h
        · rename_i hs
          cases h
          refine ⟨by omega, by simpa using hs, ?_⟩
          intro j hj1 hj2
          cases j with
          | zero => omega
          | succ j =>
            have := pairLast_none same d (p+1) (q+1) n hf j (by omega)
            simpa [Nat.add_assoc, Nat.add_comm 1 j] using this
        · cases h

/-- every one of the `n` cells at `p` satisfies `ok` -/
def allCells (ok : Nat → Bool) (d : Nat → Nat) (p : Nat) : Nat → Bool
  | 0 => true
  | n+1 => ok (d p) && allCells ok d (p+1) n

theorem allCells_iff (ok : Nat → Bool) (d : Nat → Nat) (p n : Nat) :
    allCells ok d p n = true ↔ ∀ j, j < n → ok (d (p+j)) = true := by
  induction n generalizing p with
  | zero => simp [allCells]
  | succ n ih =>
    simp only [allCells, Bool.and_eq_true, ih]
    constructor
    · rintro ⟨h0, h1⟩ j hj
      cases j with
      | zero => simpa using h0
      | succ j => have := h1 j (by omega); simpa [Nat.add_assoc, Nat.add_comm 1 j] using this
    · intro h
      refine ⟨by simpa using h 0 (by omega), fun j hj => ?_⟩
      have := h (j+1) (by omega); simpa [Nat.add_assoc, Nat.add_comm 1 j] using this

/-- how many of the `n` cells at `p` satisfy `ok` -/
def countCells (ok : Nat → Bool) (d : Nat → Nat) (p : Nat) : Nat → Nat
  | 0 => 0
  | n+1 => (if ok (d p) then 1 else 0) + countCells ok d (p+1) n

/-! ## the same specs as functions on the LIST of cells of the declared extent -/

/-- the `n` cells at `p`, as a list -/
def cells (d : Nat → Nat) (p : Nat) : Nat → List Nat
  | 0 => []
  | n+1 => d p :: cells d (p+1) n

theorem cells_length (d : Nat → Nat) (p n : Nat) : (cells d p n).length = n := by
  induction n generalizing p with
  | zero => rfl
  | succ n ih => simp [cells, ih]

theorem cells_getElem? (d : Nat → Nat) (p n i : Nat) (h : i < n) : (cells d p n)[i]? = some (d (p+i)) := by
  induction n generalizing p i with
  | zero => omega
  | succ n ih =>
    cases i with
    | zero => simp [cells]
    | succ i => simp only [cells, List.getElem?_cons_succ]; rw [ih (p+1) i (by omega)]; congr 2; omega

theorem cells_ext (m m' : Nat → Nat) (p q k : Nat) (h : ∀ j, j < k → m (p+j) = m' (q+j)) : cells m p k = cells m' q k := by
  induction k generalizing p q with
  | zero => rfl
  | succ k ih =>
    have h0 := h 0 (by omega)
    simp only [Nat.add_zero] at h0
    rw [cells, cells, h0, ih (p+1) (q+1) fun j hj => by
      have := h (j+1) (by omega); simpa [Nat.add_assoc, Nat.add_comm 1 j] using this]

theorem cells_drop (m : Nat → Nat) (p n j : Nat) : (cells m p n).drop j = cells m (p+j) (n-j) := by
  induction j generalizing p n with
  | zero => rfl
  | succ j ih =>
    cases n with
    | zero => simp [cells]
    | succ n => rw [cells, List.drop_succ_cons, ih]; congr 1 <;> omega
/-- the C string in the extent: the cells before the first NUL -/
def cstr (d : Nat → Nat) (p n : Nat) : List Nat := (cells d p n).takeWhile (· != 0)

end SafeC
