import SafeC.Common
/-!
# Lemmas about the shared combinators of `Common.lean` (no property statements here)

Extents (`RW`, `RD`, `SameMeta`, `RW.sub`), what `memsetP` / `nullSlack` / `handle_error` do on a writable extent (`exec_memsetP`,
`exec_handleError`: equations for `exec` over `St.fill`, `St.emit`), the `dmax` checks on usable arguments (`chk…_pass`), and the
result codes (`ne_E…`, `ite_…_EOK`).
-/
namespace SafeC
open Gen

def RW (st : St) (d k : Nat) : Prop :=
  ∀ i, i < k → st.mapped (d+i) = true ∧ st.wr (d+i) = true ∧ st.rd (d+i) = true

def RD (st : St) (d k : Nat) : Prop :=
  ∀ i, i < k → st.mapped (d+i) = true ∧ st.rd (d+i) = true

structure SameMeta (a b : St) : Prop where
  mapped : a.mapped = b.mapped
  rd : a.rd = b.rd
  wr : a.wr = b.wr
  events : a.events = b.events
  strays : a.strays = b.strays

theorem SameMeta.refl (a : St) : SameMeta a a := ⟨rfl, rfl, rfl, rfl, rfl⟩
theorem SameMeta.trans {a b c : St} (h1 : SameMeta a b) (h2 : SameMeta b c) : SameMeta a c :=
  ⟨h1.mapped.trans h2.mapped, h1.rd.trans h2.rd, h1.wr.trans h2.wr, h1.events.trans h2.events,
   h1.strays.trans h2.strays⟩
theorem SameMeta.upd (s : St) (a v : Nat) : SameMeta (s.upd a v) s := ⟨rfl, rfl, rfl, rfl, rfl⟩

theorem RW.of_sameMeta {a b : St} (h : SameMeta a b) {d k : Nat} (hr : RW b d k) : RW a d k := by
  intro i hi; rw [h.mapped, h.wr, h.rd]; exact hr i hi

theorem RD.of_sameMeta {a b : St} (h : SameMeta a b) {d k : Nat} (hr : RD b d k) : RD a d k := by
  intro i hi; rw [h.mapped, h.rd]; exact hr i hi

theorem SIZEOF_WCHAR_T_eq : SIZEOF_WCHAR_T = 4 := rfl

/-- the index shift of an induction that walks a pointer: `rw [add_one_add]` turns the `(p+1) + j` of the induction
hypothesis into the `p + (j+1)` of the statement -/
theorem add_one_add (a j : Nat) : a + 1 + j = a + (j + 1) := by omega

theorem RW.sub {st : St} {d n x m : Nat} (h : RW st d n) (h1 : d ≤ x) (h2 : x + m ≤ d + n) :
    RW st x m := by
  intro i hi
  have e : d + (x - d + i) = x + i := by omega
  exact e ▸ h (x - d + i) (by omega)

theorem RW.tail {st : St} {d k : Nat} (h : RW st d (k+1)) : RW st (d+1) k :=
  h.sub (Nat.le_succ d) (by omega)

theorem RW.head {st : St} {d k : Nat} (h : RW st d (k+1)) :
    st.mapped d = true ∧ st.wr d = true ∧ st.rd d = true := by
  simpa using h 0 (by omega)

/-! What a program does to the state, as a function: `St.emit` for an event, `St.fill` for a range of cells set to one value.
Every field of the result is the field of `s` or the new value by `rfl`, so what a combinator does can be stated as an equation
for `exec` and the facts about the final state are computed from it. -/

def St.emit (s : St) (e : Event) : St := { s with events := s.events ++ [e] }

def St.fill (s : St) (d n v : Nat) : St :=
  { s with data := fun a => if d ≤ a ∧ a < d + n then v else s.data a }

theorem St.fill_data (s : St) (d n v a : Nat) :
    (s.fill d n v).data a = if d ≤ a ∧ a < d + n then v else s.data a := rfl

theorem SameMeta.fill (s : St) (d n v : Nat) : SameMeta (s.fill d n v) s := ⟨rfl, rfl, rfl, rfl, rfl⟩

theorem St.fill_zero (s : St) (d v : Nat) : s.fill d 0 v = s := by
  cases s; simp only [St.fill, St.mk.injEq, and_true]
  funext a; rw [if_neg (by omega)]

theorem St.upd_fill (s : St) (d n v : Nat) : (s.upd d v).fill (d+1) n v = s.fill d (n+1) v := by
  cases s; simp only [St.fill, St.upd, St.mk.injEq, and_true]
  funext a
  by_cases h1 : d + 1 ≤ a ∧ a < d + 1 + n
  · rw [if_pos h1, if_pos (by omega)]
  · rw [if_neg h1]
    by_cases h2 : a = d
    · rw [if_pos h2, if_pos (by omega)]
    · rw [if_neg h2, if_neg (by omega)]

theorem St.fill_fill (s : St) (d n m v : Nat) : (s.fill d n v).fill (d+n) m v = s.fill d (n+m) v := by
  cases s; simp only [St.fill, St.mk.injEq, and_true]
  funext a
  by_cases h1 : d + n ≤ a ∧ a < d + n + m
  · rw [if_pos h1, if_pos (by omega)]
  · rw [if_neg h1]
    by_cases h2 : d ≤ a ∧ a < d + n
    · rw [if_pos h2, if_pos (by omega)]
    · rw [if_neg h2, if_neg (by omega)]

theorem exec_memsetP (v n d : Nat) (st : St) (hw : RW st d n) :
    exec (memsetP v n d) st = .ok ((), st.fill d n v) := by
  induction n generalizing d st with
  | zero => rw [St.fill_zero]; rfl
  | succ n ih =>
    obtain ⟨hm, hwr, _⟩ := hw.head
    simp only [memsetP, exec_bind, exec_store_ok _ _ _ hm hwr]
    rw [ih (d+1) (st.upd d v) hw.tail, St.upd_fill]

theorem memsetP_ok (v n d : Nat) (st : St) (hw : RW st d n) :
    ∃ st', exec (memsetP v n d) st = .ok ((), st') ∧ SameMeta st' st ∧
      (∀ a, st'.data a = if d ≤ a ∧ a < d + n then v else st.data a) :=
  ⟨_, exec_memsetP v n d st hw, .fill .., fun _ => rfl⟩

theorem zeroLoop_eq_memsetP (n d : Nat) : zeroLoop n d = memsetP 0 n d := by
  induction n generalizing d with
  | zero => rfl
  | succ n ih => simp [zeroLoop, memsetP, ih]

theorem nullSlack_ok (dest dmax : Nat) (st : St) (hw : RW st dest dmax) :
    ∃ st', exec (nullSlack dest dmax) st = .ok ((), st') ∧ SameMeta st' st ∧
      (∀ a, st'.data a = if dest ≤ a ∧ a < dest + dmax then 0 else st.data a) := by
  unfold nullSlack
  split
  · exact memsetP_ok 0 dmax dest st hw
  · rw [zeroLoop_eq_memsetP]; exact memsetP_ok 0 dmax dest st hw

/-- `handle_error(dest, len, code)` inside a writable extent `ext ≥ len` of dest, `len = 0` included: with null-slack the `len`
cells are cleared (none when `len = 0`), without it `dest[0] = 0` is stored whatever `len` is; then the handler event. -/
theorem exec_handleError (cfg : Cfg) (dest len ext code : Nat) (st : St) (hw : RW st dest ext) (hpos : 0 < ext)
    (hle : len ≤ ext) :
    exec (handleError cfg dest len code) st =
      .ok ((), (if cfg.slack then st.fill dest len 0 else st.upd dest 0).emit (.handler .str code)) := by
  unfold handleError handlerS
  cases cfg.slack with
  | true => simp only [exec_bind, if_true, exec_memsetP 0 len dest st (hw.sub (Nat.le_refl _) (by omega))]; rfl
  | false =>
    have h0 := (hw.sub (m := 1) (Nat.le_refl _) (by omega)).head
    simp only [Bool.false_eq_true, if_false, exec_bind, exec_store_ok _ _ _ h0.1 h0.2.1]; rfl

/-- `handle_error` seen from the extent: `dest[0]` ends up 0 (unless nothing at all is stored: null-slack
and `len = 0`), the `len` cells are cleared with null-slack, nothing outside the extent changes -/
theorem handleError_within (cfg : Cfg) (dest len ext code : Nat) (st : St) (hw : RW st dest ext) (hpos : 0 < ext)
    (hle : len ≤ ext) :
    ∃ st', exec (handleError cfg dest len code) st = .ok ((), st') ∧
      st'.mapped = st.mapped ∧ st'.rd = st.rd ∧ st'.wr = st.wr ∧ st'.strays = st.strays ∧
      st'.events = st.events ++ [.handler .str code] ∧
      (0 < len ∨ cfg.slack = false ∨ st.data dest = 0 → st'.data dest = 0) ∧
      (∀ a, ¬ (dest ≤ a ∧ a < dest + ext) → st'.data a = st.data a) ∧
      (cfg.slack = true → ∀ i, i < len → st'.data (dest + i) = 0) := by
  refine ⟨_, exec_handleError cfg dest len ext code st hw hpos hle, ?_⟩
  cases cfg.slack with
  | true =>
    refine ⟨rfl, rfl, rfl, rfl, rfl, fun h => ?_, fun a ha => if_neg (by omega), fun _ i hi => if_pos (by omega)⟩
    by_cases hl : 0 < len
    · exact if_pos (by omega)
    · exact (if_neg (by omega)).trans ((h.resolve_left hl).resolve_left ((nomatch ·)))
  | false =>
    exact ⟨rfl, rfl, rfl, rfl, rfl, fun _ => St.upd_data_same _ _ _,
      fun a ha => St.upd_data_ne _ _ _ _ (by omega), fun h => Bool.noConfusion h⟩

theorem chkDmaxClearG_pass {α : Type} (mk : Nat → α) (cfg : Cfg) (dest dmax : Nat) (destbos : Bos) (max : Nat)
    (k : Prog α) (hle : dmax ≤ max) (hb : ∀ b, destbos = some b → dmax ≤ b) :
    chkDmaxClearG mk cfg dest dmax destbos max k = k := by
  unfold chkDmaxClearG
  cases destbos with
  | none => exact if_neg (Nat.not_lt.2 hle)
  | some b => exact if_neg (Nat.not_lt.2 (hb b rfl))

theorem chkDmaxClearW_pass (cfg : Cfg) (dest dmax : Nat) (destbos : Bos) (k : Prog Nat) (hle : dmax ≤ RSIZE_MAX_WSTR)
    (hb : ∀ b, destbos = some b → dmax * SIZEOF_WCHAR_T ≤ b) : chkDmaxClearW cfg dest dmax destbos k = k := by
  unfold chkDmaxClearW
  cases destbos with
  | none => exact if_neg (Nat.not_lt.2 hle)
  | some b => exact if_neg (Nat.not_lt.2 (hb b rfl))

theorem chkDmaxW_pass (dmax : Nat) (destbos : Bos) (k : Prog Nat) (hle : dmax ≤ RSIZE_MAX_WSTR)
    (hb : ∀ b, destbos = some b → dmax * SIZEOF_WCHAR_T ≤ b) : chkDmaxW dmax destbos k = k := by
  unfold chkDmaxW
  cases destbos with
  | none => exact if_neg (Nat.not_lt.2 hle)
  | some b => exact if_neg (Nat.not_lt.2 (hb b rfl))

theorem chkDmax_pass (dmax : Nat) (destbos : Bos) (max : Nat) (k : Prog Nat) (hle : dmax ≤ max)
    (hb : ∀ b, destbos = some b → dmax ≤ b) : chkDmax dmax destbos max k = k := by
  unfold chkDmax
  cases destbos with
  | none => exact if_neg (Nat.not_lt.mpr hle)
  | some b => exact if_neg (Nat.not_lt.mpr (hb b rfl))

theorem ne_ESNULLP : ESNULLP ≠ EOK := by decide
theorem ne_ESZEROL : ESZEROL ≠ EOK := by decide
theorem ne_ESLEMIN : ESLEMIN ≠ EOK := by decide
theorem ne_ESLEMAX : ESLEMAX ≠ EOK := by decide
theorem ne_ESOVRLP : ESOVRLP ≠ EOK := by decide
theorem ne_ESNOSPC : ESNOSPC ≠ EOK := by decide
theorem ne_ESUNTERM : ESUNTERM ≠ EOK := by decide
theorem ne_EOVERFLOW : EOVERFLOW ≠ EOK := by decide

theorem ite_ne_EOK {c : Prop} [Decidable c] {a b : Nat} (ha : a ≠ EOK) (hb : b ≠ EOK) : (if c then a else b) ≠ EOK := by
  split <;> assumption

theorem ite_ne_eq_iff {α} {c : Prop} [Decidable c] {e r v : α} (he : e ≠ v) : (if c then e else r) = v ↔ ¬c ∧ r = v := by
  split <;> simp [*]

theorem ite_fail_eq_EOK {c : Prop} [Decidable c] {e r : Nat} (he : e ≠ EOK) :
    (if c then e else r) = EOK ↔ ¬c ∧ r = EOK := ite_ne_eq_iff he

theorem ite_EOK_eq_EOK {c : Prop} [Decidable c] {r : Nat} : (if c then EOK else r) = EOK ↔ c ∨ r = EOK := by
  split <;> simp [*]

end SafeC
